import Proofs.InterpAttr

/-!
  Concrete instances of the hypotheses of the refinement theorems (used by the non-vacuity examples of Props/C04.lean):
  a 1:M schema that is `SchemaOk`, injective class names, declarations that are `DeclOk`, histories in the domains.
-/
namespace Pyx.Interp

/-- store refinement, non-vacuity: a 1:M schema that is `SchemaOk`, class names that are injective, and a history in the
    domain with an accepted relate, a rejected relate, an unrelate and a delete -/
def schS : Pyx.Meta.Schema :=
  [{ rel := "R2", srcKind := 0, srcKeys := ["A_ID"], srcMany := true, srcCond := true, srcPhrase := "",
     tgtKind := 1, tgtKeys := ["ID"], tgtMany := false, tgtCond := true, tgtPhrase := "" }]
def histS : List Pyx.Meta.Op :=
  [.new 0 true, .new 1 true, .new 1 true, .relate 0 1 "R2" "", .relate 0 2 "R2" "", .unrelate 1 0 "R2" "", .delete 1]
def knameS (k : Nat) : String := String.ofList (List.replicate (k + 1) 'K')

theorem schS_ok : Pyx.Meta.SchemaOk schS ∧ Dom' [0, 1] schS Pyx.Meta.init histS := by
  refine ⟨?_, ?_⟩
  · intro i a h
    match i, h with
    | 0, h => simp [schS] at h; subst h; decide
    | i + 1, h => simp [schS] at h
  · simp only [histS, Dom', OpOk', and_true]
    decide

theorem knameS_inj : Function.Injective knameS := by
  intro a b h
  have h1 := congrArg String.toList h
  simp only [knameS, String.toList_ofList] at h1
  have := congrArg List.length h1
  simpa using this

/-- attribute refinement, non-vacuity: declarations consistent with the schema (`DeclOk`), and a history with attribute
    writes in the domain `DomA` -/
def declS (k : Nat) : List AttrDecl :=
  if k = 0 then [⟨"ID", .uniqueId, false⟩, ⟨"A_ID", .uniqueId, true⟩, ⟨"n", .integer, false⟩]
  else [⟨"ID", .uniqueId, false⟩, ⟨"n", .integer, false⟩]
def atS : Pyx.Meta.Attrs := { idName := fun _ => some "ID" }

theorem declS_ok : DeclOk declS atS schS 0 ∧ DeclOk declS atS schS 1 := by
  constructor
  · refine ⟨by decide, ?_, ?_, ?_, by decide⟩
    · intro a ha
      have ha' : a ∈ ([⟨"ID", .uniqueId, false⟩, ⟨"A_ID", .uniqueId, true⟩, ⟨"n", .integer, false⟩] : List AttrDecl) := ha
      simp only [List.mem_cons, List.not_mem_nil, or_false] at ha'
      rcases ha' with rfl | rfl | rfl <;> decide
    · intro n hn
      simp only [atS, Option.some.injEq] at hn
      subst hn
      exact ⟨⟨"ID", .uniqueId, false⟩, by simp [declS], rfl, rfl, rfl⟩
    · intro a ha hnr hu
      have ha' : a ∈ ([⟨"ID", .uniqueId, false⟩, ⟨"A_ID", .uniqueId, true⟩, ⟨"n", .integer, false⟩] : List AttrDecl) := ha
      simp only [List.mem_cons, List.not_mem_nil, or_false] at ha'
      rcases ha' with rfl | rfl | rfl
      · rfl
      · cases hnr
      · cases hu
  · refine ⟨by decide, ?_, ?_, ?_, by decide⟩
    · intro a ha
      have ha' : a ∈ ([⟨"ID", .uniqueId, false⟩, ⟨"n", .integer, false⟩] : List AttrDecl) := ha
      simp only [List.mem_cons, List.not_mem_nil, or_false] at ha'
      rcases ha' with rfl | rfl <;> decide
    · intro n hn
      simp only [atS, Option.some.injEq] at hn
      subst hn
      exact ⟨⟨"ID", .uniqueId, false⟩, by simp [declS], rfl, rfl, rfl⟩
    · intro a ha hnr hu
      have ha' : a ∈ ([⟨"ID", .uniqueId, false⟩, ⟨"n", .integer, false⟩] : List AttrDecl) := ha
      simp only [List.mem_cons, List.not_mem_nil, or_false] at ha'
      rcases ha' with rfl | rfl
      · rfl
      · cases hu

theorem declS_all : ∀ k ∈ [0, 1], DeclOk declS atS schS k := by
  intro k hk
  simp only [List.mem_cons, List.not_mem_nil, or_false] at hk
  rcases hk with rfl | rfl
  · exact declS_ok.1
  · exact declS_ok.2

end Pyx.Interp
