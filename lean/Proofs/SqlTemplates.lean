import PyxModel.Sql.Printer

/-!
  The statement printers of the model (`Item.print`, PyxModel/Sql/Printer.lean) are, for EVERY item, what Python's
  `%` / `str.join` / `str.replace` make of the string constants that Gen/Persist.lean (`templates`) reads off
  xtuml/persist.py.  `pyFmt` is a generic interpreter of `template % args` for templates whose conversions are `%s`.
-/
namespace Pyx.Sql

/-- the `i`-th string constant (source order) of function `fn` of xtuml/persist.py, from the generated table -/
def tpl (fn : String) (i : Nat) : Text :=
  match Gen.Persist.templates.lookup fn with
  | some l => (l[i]?.getD "<no such constant>").toList
  | none => "<no such function>".toList

/-- the literal pieces of a format string between its `%s` conversions; `none`: another conversion (not interpreted) -/
def splitFmt : Text → Option (List Text)
  | [] => some [[]]
  | '%' :: 's' :: r => (splitFmt r).map ([] :: ·)
  | '%' :: _ => none
  | c :: r => (splitFmt r).map (fun ps => match ps with
      | [] => [[c]]
      | p :: ps => (c :: p) :: ps)

/-- pieces and arguments interleaved; `none`: Python's TypeError (too few / too many arguments) -/
def fillFmt : List Text → List Text → Option Text
  | [p], [] => some p
  | p :: q :: ps, a :: as => (fillFmt (q :: ps) as).map (fun r => p ++ a ++ r)
  | _, _ => none

/-- `template % (args…)` for `str` arguments -/
def pyFmt (t : Text) (args : List Text) : Option Text := (splitFmt t).bind (fun ps => fillFmt ps args)

/-- a list comprehension of calls that may raise -/
def mapOpt {α β : Type} (f : α → Option β) : List α → Option (List β)
  | [] => some []
  | a :: l =>
    match f a, mapOpt f l with
    | some b, some bs => some (b :: bs)
    | _, _ => none

theorem mapOpt_some {α β : Type} (f : α → Option β) (g : α → β) (h : ∀ a, f a = some (g a)) (l : List α) :
    mapOpt f l = some (l.map g) := by
  induction l with
  | nil => rfl
  | cons a l ih => simp [mapOpt, h, ih]

/-- `v.replace("'", "''")` computed by the generic `str.replace` -/
theorem replaceAllF_quote (s : Text) : ∀ f, s.length ≤ f → replaceAllF ['\''] ['\'', '\''] f s = escapeQ s := by
  induction s with
  | nil => intro f _; cases f <;> rfl
  | cons c cs ih =>
    intro f hf
    cases f with
    | zero => simp at hf
    | succ f =>
      have hf' : cs.length ≤ f := by simpa using hf
      simp only [replaceAllF, stripPrefix?]
      by_cases hc : '\'' = c
      · subst hc; simp [escapeQ, ih f hf']
      · have hc' : ¬ c = '\'' := fun h => hc h.symm
        simp [hc, hc', escapeQ, ih f hf']

theorem replaceAll_quote (s : Text) : replaceAll ['\''] ['\'', '\''] s = escapeQ s := by
  unfold replaceAll
  simp only [List.isEmpty_cons, Bool.false_eq_true, if_false]
  exact replaceAllF_quote s _ (Nat.le_refl _)

/-- `serialize_class`: the comprehension `'%s %s' % (name, ty.upper())`, the head, the join and the tail -/
def srcSerializeClass (u : UC) (kind : Name) (attrs : List (Name × Name)) : Option Text :=
  (mapOpt (fun a : Name × Name => pyFmt (tpl "serialize_class" 0) [a.1, u.upper a.2]) attrs).bind fun as =>
  (pyFmt (tpl "serialize_class" 1) [kind]).map fun s =>
    s ++ joinWith (tpl "serialize_class" 2) as ++ tpl "serialize_class" 3

/-- `s1` / `s2` of `serialize_association`; `k` = index of the end's first constant (0 / 5);
    `if phrase:` is Python's truth of a string: not empty -/
def srcEnd (k : Nat) (e : EndM) : Option Text :=
  (pyFmt (tpl "serialize_association" k)
      [cardText e.many e.cond, e.kind, joinWith (tpl "serialize_association" (k + 1)) e.keys]).bind fun s =>
  if e.phrase.isEmpty then some s
  else (pyFmt (tpl "serialize_association" (k + 2))
      [replaceAll (tpl "serialize_association" (k + 3)) (tpl "serialize_association" (k + 4)) e.phrase]).map fun p => s ++ p

def srcSerializeAssociation (rel : Name) (s t : EndM) : Option Text :=
  (srcEnd 0 s).bind fun s1 => (srcEnd 5 t).bind fun s2 => pyFmt (tpl "serialize_association" 10) [rel, s1, s2]

/-- the `CREATE UNIQUE INDEX` line of function `fn` whose `', '` constant has index `k` -/
def srcIndexLine (fn : String) (k : Nat) (name kind : Name) (attrs : List Name) : Option Text :=
  pyFmt (tpl fn (k + 1)) [name, kind, joinWith (tpl fn k) attrs]

/-- the loop of `serialize_instance`: `count` = `attr_count` before the iteration, `total` = `len(metaclass.attributes)` -/
def srcInstLoop (u : UC) (total : Nat) : Nat → List (Name × Name) → List (Option Val) → Option Text
  | _, [], _ => some []
  | _, _ :: _, [] => none
  | count, (name, ty) :: attrs, v :: vs =>
    match cellText u ty v,
      pyFmt (if count + 1 < total then tpl "serialize_instance" 2 else tpl "serialize_instance" 3) [name, ty],
      srcInstLoop u total (count + 1) attrs vs with
    | some txt, some cm, some rest => some (tpl "serialize_instance" 1 ++ txt ++ cm ++ rest)
    | _, _, _ => none

def srcSerializeInstance (u : UC) (kind : Name) (attrs : List (Name × Name)) (vals : List (Option Val)) : Option Text :=
  (pyFmt (tpl "serialize_instance" 0) [kind]).bind fun h =>
  (srcInstLoop u attrs.length 0 attrs vals).map fun ls => h ++ ls ++ tpl "serialize_instance" 4

/-! The table is read once per function (`row_*`), each template is split once into its literal pieces, and `%` is
  characterised on variables (`pyFmt_tpl`, `fillFmt_*`); the lemmas about the statement functions only combine these. -/

theorem tpl_of_row {fn : String} {row : List String} (h : Gen.Persist.templates.lookup fn = some row) (i : Nat) :
    tpl fn i = (row[i]?.getD "<no such constant>").toList := by
  simp only [tpl, h]

theorem row_serialize_class : Gen.Persist.templates.lookup "serialize_class" =
    some ["%s %s", "CREATE TABLE %s (\n    ", ",\n    ", "\n);\n"] := by
  simp only [Gen.Persist.templates, List.lookup, String.reduceBEq]

theorem row_serialize_association : Gen.Persist.templates.lookup "serialize_association" =
    some ["%s %s (%s)", ", ", " PHRASE '%s'", "'", "''", "%s %s (%s)", ", ", " PHRASE '%s'", "'", "''",
      "CREATE ROP REF_ID %s FROM %s TO %s;\n"] := by
  simp only [Gen.Persist.templates, List.lookup, String.reduceBEq]

theorem row_serialize_instance : Gen.Persist.templates.lookup "serialize_instance" =
    some ["INSERT INTO %s VALUES (", "\n    ", ", -- %s : %s", " -- %s : %s", "\n);\n"] := by
  simp only [Gen.Persist.templates, List.lookup, String.reduceBEq]

theorem row_serialize_unique_identifiers : Gen.Persist.templates.lookup "serialize_unique_identifiers" =
    some ["", ", ", "CREATE UNIQUE INDEX %s ON %s (%s);\n"] := by
  simp only [Gen.Persist.templates, List.lookup, String.reduceBEq]

theorem row_persist_unique_identifiers : Gen.Persist.templates.lookup "persist_unique_identifiers" =
    some ["w", ", ", "CREATE UNIQUE INDEX %s ON %s (%s);\n"] := by
  simp only [Gen.Persist.templates, List.lookup, String.reduceBEq]

theorem row_persist_database : Gen.Persist.templates.lookup "persist_database" =
    some ["w", ", ", "CREATE UNIQUE INDEX %s ON %s (%s);\n"] := by
  simp only [Gen.Persist.templates, List.lookup, String.reduceBEq]

theorem pyFmt_tpl {fn : String} {row : List String} (hrow : Gen.Persist.templates.lookup fn = some row) (i : Nat)
    {ps : List Text} (hs : splitFmt (row[i]?.getD "<no such constant>").toList = some ps) (args : List Text) :
    pyFmt (tpl fn i) args = fillFmt ps args := by
  simp only [pyFmt, tpl_of_row hrow, hs, Option.bind_some]

theorem fillFmt_one (p q a : Text) : fillFmt [p, q] [a] = some (p ++ a ++ q) := rfl

theorem fillFmt_two (p q r a b : Text) : fillFmt [p, q, r] [a, b] = some (p ++ a ++ (q ++ b ++ r)) := rfl

theorem fillFmt_three (p q r s a b c : Text) :
    fillFmt [p, q, r, s] [a, b, c] = some (p ++ a ++ (q ++ b ++ (r ++ c ++ s))) := rfl

theorem eq_some_toList {o : Option Text} {s : String} (h : o.map String.ofList = some s) : o = some s.toList := by
  cases o with
  | none => cases h
  | some l => cases h; rw [String.toList_ofList]

theorem srcSerializeClass_eq (u : UC) (kind : Name) (attrs : List (Name × Name)) :
    srcSerializeClass u kind attrs = (Item.cls kind attrs).print u := by
  have h0 : splitFmt "%s %s".toList = some [[], [' '], []] := by decide +kernel
  have h1 : splitFmt "CREATE TABLE %s (\n    ".toList = some ["CREATE TABLE ".toList, " (\n    ".toList] := by decide +kernel
  unfold srcSerializeClass
  rw [mapOpt_some _ (fun a : Name × Name => a.1 ++ ' ' :: u.upper a.2) (fun a => by
    rw [pyFmt_tpl row_serialize_class 0 h0, fillFmt_two, List.append_nil]; rfl)]
  rw [pyFmt_tpl row_serialize_class 1 h1, fillFmt_one, tpl_of_row row_serialize_class, tpl_of_row row_serialize_class]
  rfl

theorem srcEnd_eq (k : Nat) (hk : k = 0 ∨ k = 5) (e : EndM) : srcEnd k e = some (endText e) := by
  have h0 : splitFmt "%s %s (%s)".toList = some [[], [' '], [' ', '('], [')']] := by decide +kernel
  have h2 : splitFmt " PHRASE '%s'".toList = some [" PHRASE '".toList, ['\'']] := by decide +kernel
  have h1 : ", ".toList = [',', ' '] := by decide +kernel
  have h3 : "'".toList = ['\''] := by decide +kernel
  have h4 : "''".toList = ['\'', '\''] := by decide +kernel
  unfold srcEnd endText
  -- the two ends use the constants k … k+4, with equal texts: one `simp` serves both k
  rcases hk with rfl | rfl <;>
    simp only [tpl_of_row row_serialize_association, Nat.reduceAdd, List.getElem?_cons_succ, List.getElem?_cons_zero,
      Option.getD_some, pyFmt, h0, h1, h2, h3, h4, fillFmt, Option.bind_some, Option.map_some, replaceAll_quote] <;>
    by_cases hp : e.phrase.isEmpty <;>
    simp only [hp, if_true, if_false, Bool.false_eq_true, List.nil_append, List.append_nil, List.append_assoc,
      List.cons_append]

theorem srcSerializeAssociation_eq (u : UC) (rel : Name) (s t : EndM) :
    srcSerializeAssociation rel s t = (Item.assoc rel s t).print u := by
  have h : splitFmt "CREATE ROP REF_ID %s FROM %s TO %s;\n".toList =
      some ["CREATE ROP REF_ID ".toList, " FROM ".toList, " TO ".toList, ";\n".toList] := by decide +kernel
  unfold srcSerializeAssociation
  rw [srcEnd_eq 0 (Or.inl rfl), srcEnd_eq 5 (Or.inr rfl)]
  simp only [Option.bind_some, pyFmt_tpl row_serialize_association 10 h, fillFmt_three, Item.print, List.append_assoc]

theorem srcIndexLine_of_row (u : UC) {fn w : String}
    (hrow : Gen.Persist.templates.lookup fn = some [w, ", ", "CREATE UNIQUE INDEX %s ON %s (%s);\n"])
    (name kind : Name) (attrs : List Name) : srcIndexLine fn 1 name kind attrs = (Item.index name kind attrs).print u := by
  have h : splitFmt "CREATE UNIQUE INDEX %s ON %s (%s);\n".toList =
      some ["CREATE UNIQUE INDEX ".toList, " ON ".toList, " (".toList, ");\n".toList] := by decide +kernel
  have h1 : ", ".toList = [',', ' '] := by decide +kernel
  unfold srcIndexLine
  rw [pyFmt_tpl hrow 2 h, fillFmt_three, tpl_of_row hrow 1]
  simp only [List.getElem?_cons_succ, List.getElem?_cons_zero, Option.getD_some, h1, Item.print, List.append_assoc]

theorem srcIndexLine_eq (u : UC) (fn : String) (k : Nat)
    (h : (fn = "serialize_unique_identifiers" ∨ fn = "persist_unique_identifiers" ∨ fn = "persist_database") ∧ k = 1)
    (name kind : Name) (attrs : List Name) :
    srcIndexLine fn k name kind attrs = (Item.index name kind attrs).print u := by
  obtain ⟨rfl | rfl | rfl, rfl⟩ := h
  · exact srcIndexLine_of_row u row_serialize_unique_identifiers name kind attrs
  · exact srcIndexLine_of_row u row_persist_unique_identifiers name kind attrs
  · exact srcIndexLine_of_row u row_persist_database name kind attrs

theorem srcInstLoop_eq (u : UC) (total : Nat) : ∀ (attrs : List (Name × Name)) (vals : List (Option Val)) (count : Nat),
    count + attrs.length = total → srcInstLoop u total count attrs vals = valueLines u attrs vals := by
  have h2 : splitFmt ", -- %s : %s".toList = some [", -- ".toList, " : ".toList, []] := by decide +kernel
  have h3 : splitFmt " -- %s : %s".toList = some [" -- ".toList, " : ".toList, []] := by decide +kernel
  intro attrs
  induction attrs with
  | nil => intro vals count _; rfl
  | cons a attrs ih =>
    intro vals count hc
    obtain ⟨name, ty⟩ := a
    cases vals with
    | nil => rfl
    | cons v vs =>
      rw [srcInstLoop, valueLines, ih vs (count + 1) (by simp at hc; omega), tpl_of_row row_serialize_instance 1]
      -- `attr_count < len(attributes)` after the increment says that this is not the last attribute
      cases attrs with
      | nil =>
        have hlast : ¬ count + 1 < total := by simp at hc; omega
        simp only [hlast, if_false, List.isEmpty_nil, if_true, pyFmt_tpl row_serialize_instance 3 h3, fillFmt_two, List.append_nil]
        cases cellText u ty v <;> cases valueLines u [] vs <;> simp only [List.append_assoc] <;> rfl
      | cons b bs =>
        have hlast : count + 1 < total := by simp at hc; omega
        simp only [hlast, if_true, List.isEmpty_cons, Bool.false_eq_true, if_false, pyFmt_tpl row_serialize_instance 2 h2,
          fillFmt_two, List.append_nil]
        cases cellText u ty v <;> cases valueLines u (b :: bs) vs <;> simp only [List.append_assoc] <;> rfl

theorem srcSerializeInstance_eq (u : UC) (kind : Name) (attrs : List (Name × Name)) (vals : List (Option Val)) :
    srcSerializeInstance u kind attrs vals = (Item.inst kind attrs vals).print u := by
  have h0 : splitFmt "INSERT INTO %s VALUES (".toList = some ["INSERT INTO ".toList, " VALUES (".toList] := by decide +kernel
  unfold srcSerializeInstance
  rw [pyFmt_tpl row_serialize_instance 0 h0, fillFmt_one, srcInstLoop_eq u attrs.length attrs vals 0 (Nat.zero_add _),
    tpl_of_row row_serialize_instance 4]
  simp only [Option.bind_some, Item.print]
  cases valueLines u attrs vals <;> rfl

/-- the `i`-th loop iterable / sort key (source order) of function `fn` -/
def ord (fn : String) (i : Nat) : String :=
  match Gen.Persist.orderings.lookup fn with
  | some l => l[i]?.getD "<no such iterable>"
  | none => "<no such function>"

/-- what an iterable expression over the metaclasses denotes; `none`: an expression this interpreter does not know -/
def srcClassIter (u : UC) (m : MM) (e : String) : Option (List ClassM) :=
  if e = "sorted(metamodel.metaclasses.keys())" then some (m.sortedClasses u)
  else if e = "metamodel.metaclasses.values()" then some m.classes
  else none

/-- what an iterable expression over the associations denotes, given the text of the key lambda it names -/
def srcAssocIter (m : MM) (e key : String) : Option (List AssocM) :=
  if e = "sorted(metamodel.associations, key=orderby)" ∧ key = "lambda x: (x.rel_id, x.target_link.from_metaclass.kind)"
    then some m.assocsByIdKind
  else if e = "sorted(metamodel.associations, key=lambda x: x.rel_id)" ∧ key = "lambda x: x.rel_id" then some m.assocsById
  else none

/-- `metamodel.instances`: class by class in dict order, each class's storage in order -/
def srcInstIter (m : MM) (e : String) : Option (List Item) :=
  if e = "metamodel.instances" then some (m.classes.flatMap ClassM.instItems) else none

def srcIndexIter (c : ClassM) (e : String) : Option (List Item) :=
  if e = "metaclass.indices.items()" then some c.indexItems else none

theorem ord_of_row {fn : String} {row : List String} (h : Gen.Persist.orderings.lookup fn = some row) (i : Nat) :
    ord fn i = row[i]?.getD "<no such iterable>" := by
  simp only [ord, h]

theorem routes_orderings (u : UC) (m : MM) :
    (srcClassIter u m (ord "serialize_classes" 0)).map (·.map ClassM.item) = some (m.serializeClasses u) ∧
    (srcAssocIter m (ord "serialize_associations" 1) (ord "serialize_associations" 0)).map (·.map AssocM.item) =
      some m.serializeAssociations ∧
    srcInstIter m (ord "serialize_instances" 0) = some m.serializeInstances ∧
    (srcClassIter u m (ord "serialize_unique_identifiers" 0)).bind
        (fun cs => (mapOpt (fun c => srcIndexIter c (ord "serialize_unique_identifiers" 1)) cs).map List.flatten) =
      some (m.serializeUniqueIdentifiers u) ∧
    srcInstIter m (ord "persist_instances" 0) = some m.persistInstances ∧
    ((srcClassIter u m (ord "persist_schema" 0)).bind fun cs =>
      (srcAssocIter m (ord "persist_schema" 1) (ord "persist_schema" 2)).map fun as =>
        cs.map ClassM.item ++ as.map AssocM.item) = some (m.persistSchema u) ∧
    (srcClassIter u m (ord "persist_unique_identifiers" 0)).bind
        (fun cs => (mapOpt (fun c => srcIndexIter c (ord "persist_unique_identifiers" 1)) cs).map List.flatten) =
      some m.persistUniqueIdentifiers ∧
    ((srcClassIter u m (ord "persist_database" 0)).bind fun cs =>
      (mapOpt (fun c => (srcIndexIter c (ord "persist_database" 1)).map (c.item :: ·)) cs).bind fun cis =>
      (srcAssocIter m (ord "persist_database" 2) (ord "persist_database" 3)).bind fun as =>
      (srcInstIter m (ord "persist_database" 4)).map fun is =>
        cis.flatten ++ as.map AssocM.item ++ is) = some (m.persistDatabase u) := by
  have r1 : Gen.Persist.orderings.lookup "serialize_classes" = some ["sorted(metamodel.metaclasses.keys())"] := by
    simp only [Gen.Persist.orderings, List.lookup, String.reduceBEq]
  have r2 : Gen.Persist.orderings.lookup "serialize_associations" =
      some ["lambda x: (x.rel_id, x.target_link.from_metaclass.kind)", "sorted(metamodel.associations, key=orderby)"] := by
    simp only [Gen.Persist.orderings, List.lookup, String.reduceBEq]
  have r3 : Gen.Persist.orderings.lookup "serialize_instances" = some ["metamodel.instances"] := by
    simp only [Gen.Persist.orderings, List.lookup, String.reduceBEq]
  have r4 : Gen.Persist.orderings.lookup "serialize_unique_identifiers" =
      some ["sorted(metamodel.metaclasses.keys())", "metaclass.indices.items()"] := by
    simp only [Gen.Persist.orderings, List.lookup, String.reduceBEq]
  have r5 : Gen.Persist.orderings.lookup "persist_instances" = some ["metamodel.instances"] := by
    simp only [Gen.Persist.orderings, List.lookup, String.reduceBEq]
  have r6 : Gen.Persist.orderings.lookup "persist_schema" = some ["sorted(metamodel.metaclasses.keys())",
      "sorted(metamodel.associations, key=lambda x: x.rel_id)", "lambda x: x.rel_id"] := by
    simp only [Gen.Persist.orderings, List.lookup, String.reduceBEq]
  have r7 : Gen.Persist.orderings.lookup "persist_unique_identifiers" =
      some ["metamodel.metaclasses.values()", "metaclass.indices.items()"] := by
    simp only [Gen.Persist.orderings, List.lookup, String.reduceBEq]
  have r8 : Gen.Persist.orderings.lookup "persist_database" = some ["sorted(metamodel.metaclasses.keys())",
      "metaclass.indices.items()", "sorted(metamodel.associations, key=lambda x: x.rel_id)", "lambda x: x.rel_id",
      "metamodel.instances"] := by
    simp only [Gen.Persist.orderings, List.lookup, String.reduceBEq]
  have hi : ∀ cs : List ClassM, mapOpt (fun c => srcIndexIter c "metaclass.indices.items()") cs = some (cs.map ClassM.indexItems) :=
    fun cs => mapOpt_some _ _ (fun c => if_pos rfl) cs
  have hj : ∀ cs : List ClassM, mapOpt (fun c => (srcIndexIter c "metaclass.indices.items()").map (c.item :: ·)) cs =
      some (cs.map (fun c => c.item :: c.indexItems)) :=
    fun cs => mapOpt_some _ _ (fun c => by rw [srcIndexIter, if_pos rfl]; rfl) cs
  simp only [ord_of_row r1, ord_of_row r2, ord_of_row r3, ord_of_row r4, ord_of_row r5, ord_of_row r6, ord_of_row r7,
    ord_of_row r8, List.getElem?_cons_succ, List.getElem?_cons_zero, Option.getD_some, srcClassIter, srcAssocIter, srcInstIter,
    String.reduceEq, and_self, if_true, if_false, hi, hj, Option.map_some, Option.bind_some, List.flatMap_def,
    MM.serializeClasses, MM.serializeAssociations, MM.serializeInstances,
    MM.serializeUniqueIdentifiers, MM.persistInstances, MM.persistSchema, MM.persistUniqueIdentifiers, MM.persistDatabase]

end Pyx.Sql
