import Proofs.LoadChain

/-! C03, lemmas for the two open findings that Props/C03.lean states about the model.  `api-dangling-chained-key`: what a
    referential attribute reads on a joined model, `None` when no association links the row (`unlinked_reads_none`), the value
    the row was created with when one does and the chain has depth one (`linked_reads_value`).  `api-cardinality-rejected`: when
    the checked `Link.connect` returns `False` (`connectChecked_eq_none`). -/

namespace Pyx.Load

/-- a referential attribute of a row that NO association using it links reads `None` — whatever value the row
    was created with (the code deletes the stored value and reads through the link) -/
theorem unlinked_reads_none (m : Model) (as : List AssocStmt) (hj : Joined m as) (K : String) (j : Nat) (x : String)
    (hx : x ∈ referential as K)
    (hun : ∀ b ∈ as, b.srcKind = K → x ∈ (keyPairs b).map (·.1) →
      (nestedJoin b (rowsOf m.classes b.srcKind) (rowsOf m.classes b.tgtKind)).tgt j = []) (n : Nat) :
    readAttr m (n + 1) K j x = some .none := by
  rcases readAttr_joined hj n K j x hx with ⟨h1, _⟩ | ⟨b, hb, hbk, tk, u, s, t, hmem, hs, ht, hm, _⟩
  · exact h1
  · have hu : u ∈ (nestedJoin b (rowsOf m.classes b.srcKind) (rowsOf m.classes b.tgtKind)).tgt j :=
      (mem_nestedJoin_tgt b _ _ j u).mpr ⟨s, t, hbk ▸ hs, ht, hm⟩
    rw [hun b hb hbk (List.mem_map.mpr ⟨(x, tk), hmem, rfl⟩)] at hu
    cases hu

/-- ... and, when the identifying attributes it is read through are stored ones (a chain of depth one), a row that
    SOME association using the attribute links reads the value it was created with -/
theorem linked_reads_value (m : Model) (as : List AssocStmt) (hj : Joined m as) (K : String) (j : Nat) (r : Row)
    (hr : (rowsOf m.classes K)[j]? = some r) (x : String) (hx : x ∈ referential as K)
    (hdepth : ∀ b ∈ as, b.srcKind = K → ∀ tk, (x, tk) ∈ keyPairs b → tk ∉ referential as b.tgtKind)
    (hlinked : ∃ b ∈ as, b.srcKind = K ∧ x ∈ (keyPairs b).map (·.1) ∧
      (nestedJoin b (rowsOf m.classes b.srcKind) (rowsOf m.classes b.tgtKind)).tgt j ≠ []) (n : Nat) :
    readAttr m (n + 2) K j x = some (r.get x) := by
  rcases readAttr_joined hj (n + 1) K j x hx with ⟨_, hall⟩ | ⟨b, hb, hbk, tk, u, s, t, hmem, hs, ht, hm, hval⟩
  · obtain ⟨b, hb, hbk, hbx, hne⟩ := hlinked
    exact absurd (hall b hb hbk hbx) hne
  · rw [hr] at hs
    cases hs
    rw [hval, readAttr_stored m n b.tgtKind u tk (by rw [joined_fst hj]; exact hdepth b hb hbk tk hmem), ht]
    exact congrArg some (((matchesB_iff b r t).mp hm (x, tk) hmem).2).symm

theorem connectChecked_eq_none (m : Nat → List Nat) (many : Bool) (x y : Nat) :
    connectChecked m many x y = none ↔ y ∉ m x ∧ m x ≠ [] ∧ many = false := by
  unfold connectChecked
  by_cases h1 : y ∈ m x <;> by_cases h2 : m x ≠ [] ∧ many = false <;> simp [h1, h2]

end Pyx.Load
