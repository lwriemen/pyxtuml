import PyxModel.Load
import Proofs.Lib.ListExtra

/-! C03: the class of kind `k` in the built metamodel is `clsSpec ss k`, a function of the per-kind views of the statement
    list, `insOf` and `uniqOf` (`findCls_buildCore`, `rowsOf_buildCore`). A permutation of the statements permutes the views
    and leaves `accepted` as it is (`accepted_perm`); `assoc_declared` is what `accepted` has checked of an association. -/

namespace Pyx.Load

/-- the INSERTs of one kind, in statement order -/
def insOf (ss : List Stmt) (k : String) : List (Option (List String) × List Val) :=
  ss.filterMap (fun s => match s with
    | .insert k' ns vs => if k' = k then some (ns, vs) else none
    | _ => none)

/-- the (effective) identifier definitions of one kind, in statement order -/
def uniqOf (ss : List Stmt) (k : String) : List (String × List String) :=
  ss.filterMap (fun s => match s with
    | .uniq k' n as => if k' = k ∧ as.isEmpty = false then some (n, as) else none
    | _ => none)

theorem findCls_map (cs : List Cls) (f : Cls → Cls) (hf : ∀ c, (f c).kind = c.kind) (k : String) :
    findCls (cs.map f) k = (findCls cs k).map f :=
  find?_key_map (key := Cls.kind) hf k cs

theorem findCls_append (cs ds : List Cls) (k : String) :
    findCls (cs ++ ds) k = (findCls cs k).or (findCls ds k) := by
  unfold findCls
  rw [List.find?_append]

theorem findCls_some_kind {cs : List Cls} {k : String} {c : Cls} (h : findCls cs k = some c) : c.kind = k := by
  unfold findCls at h
  have := List.find?_some h
  simpa using this

theorem hasKind_iff (cs : List Cls) (k : String) : hasKind cs k = true ↔ (findCls cs k).isSome = true := by
  unfold hasKind findCls
  rw [List.find?_isSome]
  simp only [List.any_eq_true]

theorem findCls_none_of_not_hasKind {cs : List Cls} {k : String} (h : hasKind cs k = false) : findCls cs k = none := by
  cases hf : findCls cs k with
  | none => rfl
  | some c =>
    have := (hasKind_iff cs k).mpr (by simp [hf])
    simp [h] at this

theorem findCls_perm {l1 l2 : List Cls} (hp : l1.Perm l2) (hn : (l1.map (·.kind)).Nodup) (k : String) :
    findCls l1 k = findCls l2 k :=
  find?_perm_key Cls.kind hp hn k

/-- the indices of a class after the identifier statements `us` (of its kind) -/
def applyUniqs (c : Cls) (us : List (String × List String)) : Cls :=
  { c with indices := us.foldl (fun d p => dictSet d p.1 p.2) c.indices }

theorem uniqOf_cons_uniq (k' n : String) (as : List String) (ss : List Stmt) (k : String) :
    uniqOf (.uniq k' n as :: ss) k =
      if k' = k ∧ as.isEmpty = false then (n, as) :: uniqOf ss k else uniqOf ss k := by
  unfold uniqOf
  simp only [List.filterMap_cons]
  by_cases h : k' = k ∧ as.isEmpty = false
  · simp only [h, and_self, if_true]
  · simp only [h, if_false]

theorem popUniques_eq_map (ss : List Stmt) (cs : List Cls) :
    popUniques ss cs = cs.map (fun c => applyUniqs c (uniqOf ss c.kind)) := by
  unfold popUniques
  induction ss generalizing cs with
  | nil => exact (List.map_id' cs).symm
  | cons s ss ih =>
    rw [List.foldl_cons, ih]
    cases s with
    | uniq k n as =>
      simp only [defineUnique, uniqOf_cons_uniq]
      by_cases he : as.isEmpty
      · simp [he]
      · rw [if_neg he, List.map_map]
        apply List.map_congr_left
        intro c _
        by_cases hk : c.kind = k
        · simp [hk, he, applyUniqs]
        · have hk' : ¬ k = c.kind := fun e => hk e.symm
          simp [hk, hk']
    | cls _ _ => rfl
    | assoc _ => rfl
    | insert _ _ _ => rfl

theorem findCls_popUniques (ss : List Stmt) (cs : List Cls) (k : String) :
    findCls (popUniques ss cs) k = (findCls cs k).map (fun c => applyUniqs c (uniqOf ss k)) := by
  rw [popUniques_eq_map, findCls_map cs (fun c => applyUniqs c (uniqOf ss c.kind)) (fun _ => rfl)]
  cases h : findCls cs k with
  | none => rfl
  | some c => rw [Option.map_some, Option.map_some, findCls_some_kind h]

/-- one INSERT of kind `k` seen from the class of kind `k` (absent = not defined yet) -/
def stepK (k : String) (oc : Option Cls) (x : Option (List String) × List Val) : Option Cls :=
  some (match oc with
    | some c => { c with rows := c.rows ++ [mkRow c.attrs x.1 x.2] }
    | none => ⟨k, inferAttrs x.1 x.2, [], [mkRow (inferAttrs x.1 x.2) x.1 x.2]⟩)

theorem findCls_addRow (cs : List Cls) (k : String) (r : Row) (k' : String) :
    findCls (addRow cs k r) k' =
      (findCls cs k').map (fun c => if k' = k then { c with rows := c.rows ++ [r] } else c) := by
  unfold addRow
  rw [findCls_map _ _ (by intro c; by_cases h : c.kind = k <;> simp [h])]
  cases hf : findCls cs k' with
  | none => rfl
  | some c =>
    have hk := findCls_some_kind hf
    simp only [Option.map_some, hk]

theorem findCls_insertStep (cs : List Cls) (k : String) (ns : Option (List String)) (vs : List Val) (k' : String) :
    findCls (insertStep cs k ns vs) k' = if k' = k then stepK k (findCls cs k) (ns, vs) else findCls cs k' := by
  unfold insertStep
  by_cases hh : hasKind cs k
  · simp only [hh, if_true]
    obtain ⟨c, hc⟩ := Option.isSome_iff_exists.mp ((hasKind_iff cs k).mp hh)
    simp only [hc, findCls_addRow]
    by_cases h : k' = k
    · subst h
      simp [hc, stepK]
    · simp only [h, if_false]
      cases findCls cs k' <;> simp
  · have hh' : hasKind cs k = false := by simpa using hh
    have hnone := findCls_none_of_not_hasKind hh'
    simp only [hh', Bool.false_eq_true, if_false]
    have hnew : findCls (cs ++ [⟨k, inferAttrs ns vs, [], []⟩]) k = some ⟨k, inferAttrs ns vs, [], []⟩ := by
      rw [findCls_append, hnone]
      simp [findCls]
    simp only [hnew, findCls_addRow]
    by_cases h : k' = k
    · subst h
      rw [hnew, hnone]
      simp [stepK]
    · have : findCls [(⟨k, inferAttrs ns vs, [], []⟩ : Cls)] k' = none := by
        simp only [findCls, List.find?_cons, List.find?_nil]
        have : ¬ k = k' := fun e => h e.symm
        simp [this]
      simp only [h, if_false]
      rw [findCls_append, this, Option.or_none]
      cases findCls cs k' <;> simp

theorem findCls_popInstances (ss : List Stmt) (cs : List Cls) (k : String) :
    findCls (popInstances ss cs) k = (insOf ss k).foldl (stepK k) (findCls cs k) := by
  unfold popInstances
  induction ss generalizing cs with
  | nil => rfl
  | cons s ss ih =>
    simp only [List.foldl_cons]
    rw [ih]
    cases s with
    | insert k' ns vs =>
      simp only [findCls_insertStep, insOf, List.filterMap_cons]
      by_cases h : k = k'
      · subst h
        simp
      · have h' : ¬ k' = k := fun e => h e.symm
        simp [h, h']
    | cls _ _ => rfl
    | assoc _ => rfl
    | uniq _ _ _ => rfl

theorem foldl_stepK_some (k : String) (c : Cls) (l : List (Option (List String) × List Val)) :
    l.foldl (stepK k) (some c) = some { c with rows := c.rows ++ l.map (fun x => mkRow c.attrs x.1 x.2) } := by
  induction l generalizing c with
  | nil => simp
  | cons x xs ih =>
    simp only [List.foldl_cons, stepK, ih, List.map_cons, List.append_assoc, List.singleton_append]

/-- the class of kind `k` in the built metamodel, from the per-kind views of the statements -/
def clsSpec (ss : List Stmt) (k : String) : Option Cls :=
  match findCls (popClasses ss) k with
  | some c => some { applyUniqs c (uniqOf ss k) with rows := (insOf ss k).map (fun x => mkRow c.attrs x.1 x.2) }
  | none =>
    match insOf ss k with
    | [] => none
    | x :: xs => some ⟨k, inferAttrs x.1 x.2, [], (x :: xs).map (fun y => mkRow (inferAttrs x.1 x.2) y.1 y.2)⟩

theorem popClasses_rows_nil (ss : List Stmt) : ∀ c ∈ popClasses ss, c.rows = [] ∧ c.indices = [] := by
  intro c hc
  unfold popClasses at hc
  simp only [List.mem_filterMap] at hc
  obtain ⟨s, _, hs⟩ := hc
  cases s with
  | cls k as => simp only [Option.some.injEq] at hs; subst hs; exact ⟨rfl, rfl⟩
  | assoc _ => simp at hs
  | uniq _ _ _ => simp at hs
  | insert _ _ _ => simp at hs

theorem findCls_buildCore (ss : List Stmt) (k : String) :
    findCls (buildCore ss).classes k = clsSpec ss k := by
  unfold buildCore clsSpec
  simp only [findCls_popInstances, findCls_popUniques]
  cases hf : findCls (popClasses ss) k with
  | none =>
    simp only [Option.map_none]
    cases hi : insOf ss k with
    | nil => rfl
    | cons x xs =>
      simp only [List.foldl_cons, stepK, foldl_stepK_some, List.map_cons, List.singleton_append]
  | some c =>
    have hr := popClasses_rows_nil ss c (List.mem_of_find?_eq_some hf)
    simp only [Option.map_some, foldl_stepK_some, applyUniqs, hr.1, List.nil_append]

theorem rowsOf_buildCore (ss : List Stmt) (k : String) :
    rowsOf (buildCore ss).classes k = match clsSpec ss k with | some c => c.rows | none => [] := by
  unfold rowsOf
  rw [findCls_buildCore]
  cases clsSpec ss k <;> rfl

theorem popClasses_perm {s1 s2 : List Stmt} (h : s1.Perm s2) : (popClasses s1).Perm (popClasses s2) :=
  h.filterMap _

theorem popAssocs_perm {s1 s2 : List Stmt} (h : s1.Perm s2) : (popAssocs s1).Perm (popAssocs s2) :=
  h.filterMap _

theorem insOf_perm {s1 s2 : List Stmt} (h : s1.Perm s2) (k : String) : (insOf s1 k).Perm (insOf s2 k) :=
  h.filterMap _

theorem uniqOf_perm {s1 s2 : List Stmt} (h : s1.Perm s2) (k : String) : (uniqOf s1 k).Perm (uniqOf s2 k) :=
  h.filterMap _

theorem all_perm {α : Type} {l1 l2 : List α} (h : l1.Perm l2) (p q : α → Bool) (hpq : ∀ x, p x = q x) :
    l1.all p = l2.all q :=
  funext hpq ▸ h.all_eq

theorem kinds_nodup_of_accepted {ss : List Stmt} (h : accepted ss = true) : ((popClasses ss).map (·.kind)).Nodup := by
  unfold accepted at h
  simp only [Bool.and_eq_true, decide_eq_true_eq] at h
  exact h.1

theorem accepted_perm {s1 s2 : List Stmt} (h : s1.Perm s2) : accepted s1 = accepted s2 := by
  unfold accepted
  have hc := popClasses_perm h
  have hk : ((popClasses s1).map (·.kind)).Perm ((popClasses s2).map (·.kind)) := hc.map _
  have hnd : decide ((popClasses s1).map (·.kind)).Nodup = decide ((popClasses s2).map (·.kind)).Nodup := by
    rw [decide_eq_decide]; exact hk.nodup_iff
  simp only []
  rw [hnd]
  -- with distinct kinds (else both sides are false) every per-statement test sees the classes through `findCls` and
  -- membership of the kinds only
  by_cases hn : ((popClasses s1).map (·.kind)).Nodup
  · congr 1
    apply all_perm h
    intro s
    have hmem : ∀ x, ((popClasses s1).map (·.kind)).contains x = ((popClasses s2).map (·.kind)).contains x :=
      fun _ => hk.contains_eq
    have hattr : ∀ x, attrNames (popClasses s1) x = attrNames (popClasses s2) x := by
      intro x
      unfold attrNames
      rw [findCls_perm hc hn x]
    cases s with
    | uniq k n as => simp only [hmem]
    | assoc a => simp only [hmem, hattr]
    | cls _ _ => rfl
    | insert _ ns _ => cases ns <;> rfl
  · have hn2 : ¬ ((popClasses s2).map (·.kind)).Nodup := fun x => hn (hk.nodup_iff.mpr x)
    simp [hn2]

theorem build_eq_some {ss : List Stmt} {m : Model} : build ss = some m ↔ accepted ss = true ∧ buildCore ss = m := by
  unfold build
  by_cases h : accepted ss <;> simp [h]

theorem build_isSome {ss : List Stmt} : (build ss).isSome = true ↔ accepted ss = true := by
  unfold build
  by_cases h : accepted ss <;> simp [h]

def attrsOf (ss : List Stmt) (k : String) : List (String × Ty) :=
  match findCls (popClasses ss) k with
  | some c => c.attrs
  | none => []

theorem attrNames_eq (ss : List Stmt) (k : String) : attrNames (popClasses ss) k = (attrsOf ss k).map (·.1) := by
  unfold attrNames attrsOf
  cases findCls (popClasses ss) k <;> rfl

theorem mem_popAssocs {ss : List Stmt} {a : AssocStmt} (ha : a ∈ popAssocs ss) : Stmt.assoc a ∈ ss := by
  obtain ⟨s, hs, hsa⟩ := List.mem_filterMap.mp ha
  cases s with
  | assoc b => simp only [Option.some.injEq] at hsa; subst hsa; exact hs
  | cls _ _ => simp at hsa
  | uniq _ _ _ => simp at hsa
  | insert _ _ _ => simp at hsa

/-- `define_association` has checked both classes and the identifying attributes -/
theorem assoc_declared (ss : List Stmt) (hacc : accepted ss = true) (a : AssocStmt) (ha : a ∈ popAssocs ss) :
    a.srcKind ∈ (popClasses ss).map (·.kind) ∧ a.tgtKind ∈ (popClasses ss).map (·.kind) ∧
    ∀ tk ∈ a.tgtKeys, tk ∈ (attrsOf ss a.tgtKind).map (·.1) := by
  unfold accepted at hacc
  simp only [Bool.and_eq_true, List.all_eq_true] at hacc
  have := hacc.2 _ (mem_popAssocs ha)
  simp only [Bool.and_eq_true, List.all_eq_true, List.contains_iff_mem] at this
  exact ⟨this.1.1.1, this.1.1.2, fun tk htk => by rw [← attrNames_eq]; exact this.1.2 tk htk⟩

end Pyx.Load
