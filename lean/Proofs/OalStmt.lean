import Proofs.OalExpr
import Proofs.OalFuel
import PyxModel.Oal.Stmt

/-!
  Helper lemmas for C07 (statement level): `parseStmts (printStmts s) = some s` by structural
  induction on the statement tree, one lemma per clause parser, explicit fuel bounds (`costS`); the fuel of
  `parseStmts` is covered by `parseStmts_of_fuel` (Proofs/OalFuel.lean).
-/

namespace Pyx.Oal

/-- the tokens that can follow an expression inside a statement: `;`, the optional words LOOP / THEN,
    the first token of the next statement (when the optional word is left out), and the block ends -/
def Kind.isAfterExpr : Kind → Bool
  | .SEMICOLON | .LOOP | .THEN | .END_WHILE | .END_IF | .END_FOR | .ELIF | .ELSE | .TO | .WHERE => true
  | k => k.isStmtStart

/-- what the statement round trip needs of the table in addition to `WF` -/
structure Tbl.StmtWF (t : Tbl) : Prop where
  /-- none of them is a binary operator -/
  afterExpr : ∀ k, k.isAfterExpr = true → t.bin k = none
  /-- `;` is not a unary operator (`return ;` is the bare return) -/
  unSemi : t.un .SEMICOLON = false

theorem noExt_afterExpr (tok : Tok) (ts : List Tok) (h : tok.kind.isAfterExpr = true) : NoExt (tok :: ts) := by
  refine ⟨?_, ?_, ?_⟩ <;>
  · intro h'
    simp only [hk_cons, Option.some.injEq] at h'
    rw [h'] at h
    cases h

theorem stops_afterExpr {t : Tbl} (swf : t.StmtWF) (m : Nat) (tok : Tok) (ts : List Tok)
    (h : tok.kind.isAfterExpr = true) : Stops t m (tok :: ts) := by
  exact ⟨noExt_afterExpr tok ts h, (opsBelow_cons (swf.afterExpr _ h)).2 nofun⟩

theorem stops_nil (t : Tbl) (m : Nat) : Stops t m [] := by
  refine ⟨⟨by simp, by simp, by simp⟩, ?_⟩
  intro k l a h
  simp at h

@[simp] theorem expectK_tk (k : Kind) (s : String) (ts : List Tok) : expectK k (tk k s :: ts) = some ts := by
  simp only [expectK, tk_kind, ↓reduceIte]

theorem expectK_of_kind {k : Kind} {tok : Tok} (h : tok.kind = k) (ts : List Tok) :
    expectK k (tok :: ts) = some ts := by
  simp only [expectK, h, ↓reduceIte]

theorem takeIdent_of {n : Tok} (h : n.kind.isIdent = true) (ts : List Tok) : takeIdent (n :: ts) = some (n, ts) := by
  simp only [takeIdent, h, ↓reduceIte]

theorem takeVarName_of {n : Tok} (h : n.kind.isVarName = true) (ts : List Tok) :
    takeVarName (n :: ts) = some (n, ts) := by
  simp only [takeVarName, h, ↓reduceIte]

theorem isIdent_of_isVarName {k : Kind} : k.isVarName = true → k.isIdent = true :=
  forall_kind (p := fun k => k.isVarName = true → k.isIdent = true) (by decide +kernel) k

theorem isVarName_ne {k k' : Kind} (h : k.isVarName = true) (h' : k'.isVarName = false) : k ≠ k' := by
  intro he; rw [he, h'] at h; cases h

/-- a name token is none of the punctuation the predictive decisions look for -/
theorem isIdent_not_punct {k : Kind} (h : k.isIdent = true) :
    k ≠ .EQUAL ∧ k ≠ .DOT ∧ k ≠ .LSQBR ∧ k ≠ .TICKED_PHRASE := by
  refine ⟨?_, ?_, ?_, ?_⟩ <;> (intro he; rw [he] at h; cases h)

@[simp] theorem optK_tk (k : Kind) (s : String) (ts : List Tok) : optK k (tk k s :: ts) = (true, ts) := by
  simp only [optK, hk_cons, tk_kind, ↓reduceIte, List.drop_succ_cons, List.drop_zero]

theorem optK_absent {k : Kind} {ts : List Tok} (h : hk ts ≠ some k) : optK k ts = (false, ts) := by
  simp only [optK, h, ↓reduceIte]

theorem optK_optWord (k : Kind) (s : String) (b : Bool) {ts : List Tok} (h : hk ts ≠ some k) :
    optK k (optWord b (tk k s) ++ ts) = (b, ts) := by
  cases b
  · simpa only [optWord, Bool.false_eq_true, ↓reduceIte, List.nil_append] using optK_absent h
  · simp only [optWord, ↓reduceIte, List.cons_append, List.nil_append, optK_tk]

theorem parseInstName_print (i : InstName) (hi : i.Ok) (ts : List Tok) :
    parseInstName (printInst i :: ts) = some (i, ts) := by
  cases i with
  | var n =>
    have hn : n.kind.isVarName = true := hi
    simp [parseInstName, printInst, hn, isVarName_ne hn (k' := .SELF) rfl]
  | self lex => simp [parseInstName, printInst]

theorem parsePhrase_print (p : Phrase) (hp : p.Ok) (ts : List Tok) :
    parsePhrase (printPhrase p :: ts) = some (p, ts) := by
  cases p with
  | ticked lex => simp [parsePhrase, printPhrase]
  | ident n =>
    have hn : n.kind.isIdent = true := hp
    simp [parsePhrase, printPhrase, hn, (isIdent_not_punct hn).2.2.2]

theorem parseOptPhrase_print (ph : Option Phrase) (hp : optPhraseOk ph) {ts : List Tok} (h : hk ts ≠ some .DOT) :
    parseOptPhrase (printOptPhrase ph ++ ts) = some (ph, ts) := by
  cases ph with
  | none => simp only [printOptPhrase, List.nil_append, parseOptPhrase, h, ↓reduceIte]
  | some p =>
    simp only [printOptPhrase, List.cons_append, List.nil_append, parseOptPhrase, hk_cons, tk_kind, ↓reduceIte,
      List.drop_succ_cons, List.drop_zero, parsePhrase_print p hp]

theorem parseNavStep_print (s : NavStep) (hs : s.Ok) (ts : List Tok) :
    parseNavStep (printNavStep s ++ ts) = some (s, ts) := by
  have h := parseOptPhrase_print s.phrase hs.2.2 (ts := tk .RSQBR "]" :: ts) (by simp)
  simp only [printNavStep, List.cons_append, List.append_assoc, List.nil_append, parseNavStep, expectK_tk,
    takeIdent_of hs.1, takeIdent_of hs.2.1, Option.bind_eq_bind, Option.bind_some, h, Option.pure_def]

theorem parseNavChain_print : ∀ (ch : List NavStep), ch ≠ [] → (∀ s ∈ ch, s.Ok) → ∀ {ts : List Tok},
    hk ts ≠ some .ARROW → ∀ f, ch.length ≤ f → parseNavChain f (printNavChain ch ++ ts) = some (ch, ts)
  | [], h, _, _, _, _, _ => by cases h rfl
  -- two patterns for a non-empty chain: a chain of one step must be FOLLOWED by a non-ARROW (`hts`), while inside a longer
  -- chain the next step's own first token is the ARROW the loop looks for (`hk'`)
  | [s], _, hok, ts, hts, f, hf => by
    obtain ⟨f', rfl⟩ := fuel_succ (f := f) (n := 0) (by simpa using hf)
    simp only [printNavChain, List.append_nil, parseNavChain, parseNavStep_print s (hok s (by simp)), hts, ↓reduceIte]
  | s :: s' :: more, _, hok, ts, hts, f, hf => by
    obtain ⟨f', rfl⟩ := fuel_succ (f := f) (n := 0) (by simp only [List.length_cons] at hf; omega)
    have ih := parseNavChain_print (s' :: more) (by simp) (fun x hx => hok x (List.mem_cons_of_mem _ hx)) hts f'
      (by simp only [List.length_cons] at hf ⊢; omega)
    have hstep := parseNavStep_print s (hok s (by simp)) (printNavChain (s' :: more) ++ ts)
    have hk' : hk (printNavChain (s' :: more) ++ ts) = some .ARROW := by
      simp only [printNavChain, printNavStep, List.cons_append, hk_cons, tk_kind]
    rw [show printNavChain (s :: s' :: more) = printNavStep s ++ printNavChain (s' :: more) from rfl,
      List.append_assoc]
    simp only [parseNavChain, hstep, hk', ↓reduceIte, ih]

theorem isChain_of_isVarAccess {e : Expr} (h : e.isVarAccess = true) : e.isChain = true := by
  cases e <;> simp_all [Expr.isVarAccess, Expr.isChain]

theorem isChain_of_isHook {e : Expr} (h : e.isHook = true) : e.isChain = true := by
  cases e <;> simp_all [Expr.isHook, Expr.isVarAccess, Expr.isSelf, Expr.isChain]

theorem isOp_of_isChain {e : Expr} (h : e.isChain = true) : e.isOp = false := by
  cases e <;> simp_all [Expr.isOp, Expr.isChain]

theorem isOp_of_isInvocation {e : Expr} (h : e.isInvocation = true) : e.isOp = false := by
  cases e <;> simp_all [Expr.isOp, Expr.isInvocation]

theorem isAccessStart_varName {k : Kind} : k.isVarName = true → isAccessStart (some k) = true :=
  forall_kind (p := fun k => k.isVarName = true → isAccessStart (some k) = true) (by decide +kernel) k

theorem chain_head (t : Tbl) : (e : Expr) → e.Ok t → e.isChain = true → ∀ X : List Tok,
    ∃ tok ts, renderRaw t e ++ X = tok :: ts ∧ isAccessStart (some tok.kind) = true ∧
      (ts = X ∨ hk ts = some .DOT ∨ hk ts = some .LSQBR)
  | .var n, hok, _, X => ⟨n, X, by simp [renderRaw], isAccessStart_varName hok, Or.inl rfl⟩
  | .self, _, _, X => ⟨tk .SELF "self", X, by simp [renderRaw], rfl, Or.inl rfl⟩
  | .selected, _, _, X => ⟨tk .SELECTED "selected", X, by simp [renderRaw], rfl, Or.inl rfl⟩
  | .param n, _, _, X => ⟨tk .PARAM "param", tk .DOT "." :: n :: X, by simp [renderRaw], rfl, Or.inr (Or.inl rfl)⟩
  | .field h n, hok, _, X => by
    rw [renderRaw_field, List.append_assoc]
    obtain ⟨tok, ts, h1, ha, h3⟩ := chain_head t h hok.2.1 hok.1 ([tk .DOT ".", n] ++ X)
    refine ⟨tok, ts, h1, ha, Or.inr ?_⟩
    rcases h3 with rfl | h3
    · exact Or.inl rfl
    · exact h3
  | .index h i, hok, _, X => by
    rw [renderRaw_index, List.append_assoc]
    obtain ⟨tok, ts, h1, ha, h3⟩ := chain_head t h hok.2.1 (isChain_of_isIndexable hok.1)
      (tk .LSQBR "[" :: (render t i 0 ++ [tk .RSQBR "]"]) ++ X)
    refine ⟨tok, ts, h1, ha, Or.inr ?_⟩
    rcases h3 with rfl | h3
    · exact Or.inr rfl
    · exact h3
  | .int _, _, h, _ => by cases h
  | .real _, _, h, _ => by cases h
  | .str _, _, h, _ => by cases h
  | .bool _ _, _, h, _ => by cases h
  | .enumc _ _, _, h, _ => by cases h
  | .fcall _ _, _, h, _ => by cases h
  | .icall _ _ _, _, h, _ => by cases h
  | .ocall _ _ _, _, h, _ => by cases h
  | .un _ _, _, h, _ => by cases h
  | .bin _ _ _, _, h, _ => by cases h

theorem accessStart_chain (t : Tbl) (e : Expr) (hok : e.Ok t) (hc : e.isChain = true) (rest : List Tok) :
    isAccessStart (hk (renderRaw t e ++ rest)) = true := by
  obtain ⟨tok, ts, h, ha, _⟩ := chain_head t e hok hc rest
  rw [h]
  exact ha

theorem accessStart_invocation (t : Tbl) {e : Expr} (hok : e.Ok t) (hi : e.isInvocation = true) (rest : List Tok) :
    isAccessStart (hk (renderRaw t e ++ rest)) = true := by
  cases e with
  | fcall n ps => simp [renderRaw_fcall, isAccessStart]
  | icall ns n ps => simp [renderRaw_icall, isAccessStart]
  | ocall h n ps =>
    rw [renderRaw_ocall, List.append_assoc]
    exact accessStart_chain t h hok.2.1 (isChain_of_isStruct hok.1) _
  | _ => simp [Expr.isInvocation] at hi

theorem parseAccess_chain {t : Tbl} (wf : t.WF) {e : Expr} (hok : e.Ok t) (hc : e.isChain = true)
    {rest : List Tok} (hne : NoExt rest) (f : Nat) (hf : cost e ≤ f + 1) :
    parseAccess t f (renderRaw t e ++ rest) = some (e, rest) := by
  simp only [parseAccess, accessStart_chain t e hok hc rest, ↓reduceIte]
  exact roundtrip_prefix wf hok (isOp_of_isChain hc) hne f hf

theorem parseAccess_invocation {t : Tbl} (wf : t.WF) {e : Expr} (hok : e.Ok t) (hi : e.isInvocation = true)
    {rest : List Tok} (hne : NoExt rest) (f : Nat) (hf : cost e ≤ f + 1) :
    parseAccess t f (renderRaw t e ++ rest) = some (e, rest) := by
  simp only [parseAccess, accessStart_invocation t hok hi rest, ↓reduceIte]
  exact roundtrip_prefix wf hok (isOp_of_isInvocation hi) hne f hf

def costOpt : Option Expr → Nat
  | some e => cost e + 3
  | none => 0

theorem parseOptWhere_print {t : Tbl} (wf : t.WF) (swf : t.StmtWF) (w : Option Expr) (hok : optExprOk t w)
    (sc : Tok) (hsc : sc.kind = .SEMICOLON) (rest : List Tok) (f : Nat) (hf : costOpt w ≤ f) :
    parseOptWhere t f (printOptWhere t w ++ sc :: rest) = some (w, sc :: rest) := by
  cases w with
  | none => simp only [printOptWhere, List.nil_append, parseOptWhere, hk_cons, hsc, Option.some.injEq, reduceCtorEq,
      ↓reduceIte]
  | some e =>
    have he := roundtrip_fuel wf (e := e) hok 0 (stops_afterExpr swf 0 sc rest (by rw [hsc]; rfl)) f hf
    simp only [printOptWhere, List.cons_append, parseOptWhere, hk_cons, tk_kind, ↓reduceIte, List.drop_succ_cons,
      List.drop_zero, he]

def costEv (es : EvSpec) : Nat := costP es.data + 1

theorem parseEvData_print {t : Tbl} (wf : t.WF) (es : EvSpec) (hok : es.Ok t) (to : Tok) (hto : to.kind = .TO)
    (rest : List Tok) (f : Nat) (hf : costEv es ≤ f) :
    parseEvData t f es.id es.star es.meaning (printEvData t es.parens es.data ++ to :: rest) =
      some (es, to :: rest) := by
  obtain ⟨id, star, meaning, parens, data⟩ := es
  obtain ⟨_, _, hd, hp⟩ := hok
  simp only [costEv] at hf
  simp only at hd hp
  cases parens with
  | false =>
    -- without parentheses `Ok` forces `data = .nil`: only then does the empty text determine the tree
    have := hp rfl
    subst this
    simp only [parseEvData, printEvData, Bool.false_eq_true, ↓reduceIte, List.nil_append, hk_cons, hto,
      Option.some.injEq, reduceCtorEq]
  | true =>
    have hps := roundtrip_params wf hd RP rfl (to :: rest) f (by omega)
    simp only [parseEvData, printEvData, ↓reduceIte, List.cons_append, List.append_assoc, List.nil_append, hk_cons,
      LP_kind, List.drop_succ_cons, List.drop_zero, hps, expectK_of_kind RP_kind]

theorem parseEvMeaning_print (m : Option Phrase) (hm : optPhraseOk m) {ts : List Tok} (h : hk ts ≠ some .COLON) :
    parseEvMeaning (printEvMeaning m ++ ts) = some (m, ts) := by
  cases m with
  | none => simp only [printEvMeaning, List.nil_append, parseEvMeaning, h, ↓reduceIte]
  | some p =>
    simp only [printEvMeaning, List.cons_append, List.nil_append, parseEvMeaning, hk_cons, tk_kind, ↓reduceIte,
      List.drop_succ_cons, List.drop_zero, parsePhrase_print p hm]

theorem hk_printPhrase_ne {p : Phrase} (hp : p.Ok) {k : Kind} (hk1 : k.isIdent = false) (hk2 : k ≠ .TICKED_PHRASE)
    (ts : List Tok) : hk (printPhrase p :: ts) ≠ some k := by
  cases p with
  | ticked lex => simpa [printPhrase] using hk2.symm
  | ident n =>
    have hn : n.kind.isIdent = true := hp
    intro he
    simp only [printPhrase, hk_cons, Option.some.injEq] at he
    rw [he, hk1] at hn
    cases hn

theorem parseEvSpec_print {t : Tbl} (wf : t.WF) (es : EvSpec) (hok : es.Ok t) (to : Tok) (hto : to.kind = .TO)
    (rest : List Tok) (f : Nat) (hf : costEv es ≤ f) :
    parseEvSpec t f (printEvSpec t es ++ to :: rest) = some (es, to :: rest) := by
  have hd := parseEvData_print wf es hok to hto rest f hf
  have hcolon : hk (printEvData t es.parens es.data ++ to :: rest) ≠ some .COLON := by
    cases es.parens <;> simp [printEvData, hto]
  have hm := parseEvMeaning_print es.meaning hok.2.1 hcolon
  have htimes : hk (printEvMeaning es.meaning ++ (printEvData t es.parens es.data ++ to :: rest)) ≠ some .TIMES := by
    cases es.meaning <;> cases es.parens <;> simp [printEvMeaning, printEvData, hto]
  have hs := optK_optWord .TIMES "*" es.star htimes
  simp only [printEvSpec, parseEvSpec, List.cons_append, List.append_assoc, takeIdent_of hok.1, hs, hm, hd]

theorem chain_second (t : Tbl) {e : Expr} (hok : e.Ok t) (hc : e.isChain = true) (sc : Tok) (rest : List Tok) :
    hk ((renderRaw t e ++ sc :: rest).drop 1) = some sc.kind ∨
    hk ((renderRaw t e ++ sc :: rest).drop 1) = some .DOT ∨ hk ((renderRaw t e ++ sc :: rest).drop 1) = some .LSQBR := by
  obtain ⟨tok, ts, h, _, h3⟩ := chain_head t e hok hc (sc :: rest)
  rw [h]
  rcases h3 with rfl | h3
  · exact Or.inl rfl
  · exact Or.inr h3

def costTg : EvTarget → Nat
  | .inst e => cost e
  | _ => 0

theorem parseEvTarget_print {t : Tbl} (wf : t.WF) (tg : EvTarget) (hok : tg.Ok t) (sc : Tok)
    (hsc : sc.kind = .SEMICOLON) (rest : List Tok) (f : Nat) (hf : costTg tg ≤ f + 1) :
    parseEvTarget t f (printEvTarget t tg ++ sc :: rest) = some (tg, sc :: rest) := by
  cases tg with
  | cls kl assigner =>
    have hkl : kl.kind.isIdent = true := hok
    cases assigner <;>
      simp [parseEvTarget, printEvTarget, isClassWord, hkIs, hkl]
  | creator kl =>
    have hkl : kl.kind.isIdent = true := hok
    simp [parseEvTarget, printEvTarget, isClassWord, hkIs, hkl]
  | inst e =>
    obtain ⟨hh, he⟩ := hok
    have hc := isChain_of_isHook hh
    have hne : NoExt (sc :: rest) := noExt_afterExpr sc rest (by rw [hsc]; rfl)
    have hacc := parseAccess_chain wf he hc hne f hf
    -- a chain before `;` is not taken for `KL class|assigner|creator`: its second token is `;`, `.` or `[` (`chain_second`)
    have hcond : ¬ (hkIs Kind.isIdent (renderRaw t e ++ sc :: rest) = true ∧
        isClassWord (hk ((renderRaw t e ++ sc :: rest).drop 1)) = true) := by
      rintro ⟨_, h2⟩
      rcases chain_second t he hc sc rest with h | h | h <;> rw [h] at h2 <;> simp [isClassWord, hsc] at h2
    simp only [printEvTarget, parseEvTarget, hcond, ↓reduceIte, hacc, hh]

theorem printImplicit_eq (t : Tbl) (ns : String) (n : Tok) (ps : Params) :
    printImplicit t ns n ps = renderRaw t (.icall ns n ps) := by
  rw [renderRaw_icall]; rfl

def costOptVa : Option Expr → Nat
  | some va => cost va
  | none => 0

theorem parseKw_print {t : Tbl} (wf : t.WF) (k : IKind) (va : Option Expr) (inv : Expr)
    (hva : optVarAccessOk t va) (hi : inv.isInvocation = true) (hiok : inv.Ok t) (sc : Tok)
    (hsc : sc.kind = .SEMICOLON) (rest : List Tok) (f : Nat) (hf : costOptVa va + cost inv ≤ f + 1) :
    parseKw t f k ((match va with
        | some v => renderRaw t v ++ tk .EQUAL "=" :: renderRaw t inv
        | none => renderRaw t inv) ++ sc :: rest) =
      match inv with
      | .icall ns n ps => some (.kwCall k va ns n ps, sc :: rest)
      | .ocall h n ps => if k = .cls then some (.trCall va h n ps, sc :: rest) else none
      | _ => none := by
  have hne : NoExt (sc :: rest) := noExt_afterExpr sc rest (by rw [hsc]; rfl)
  have hto : ¬ (k = IKind.port ∧ hk (sc :: rest) = some Kind.TO) := by simp [hsc]
  cases va with
  | none =>
    have h1 := parseAccess_invocation wf hiok hi hne f (by simp only [costOptVa] at hf; omega)
    simp only [parseKw, h1]
    cases inv <;> simp [Expr.isInvocation] at hi <;> simp [hsc, Expr.isVarAccess]
  | some v =>
    obtain ⟨hv, hvok⟩ := hva
    have hne2 : NoExt (tk .EQUAL "=" :: (renderRaw t inv ++ sc :: rest)) := by
      refine ⟨?_, ?_, ?_⟩ <;> simp
    have h1 := parseAccess_chain wf hvok (isChain_of_isVarAccess hv) hne2 f (by simp only [costOptVa] at hf; omega)
    have h2 := parseAccess_invocation wf hiok hi hne f (by simp only [costOptVa] at hf; omega)
    -- `hni`, `hno` are named nowhere below and must stay: simp's discharger reads them from the context.  The arms of
    -- `parseKw`'s `match` overlap, and the equation of the third arm has as hypotheses that `v` is neither `icall` nor `ocall`
    have hni : ∀ ns n ps, v = Expr.icall ns n ps → False := fun _ _ _ h => by rw [h] at hv; cases hv
    have hno : ∀ h n ps, v = Expr.ocall h n ps → False := fun _ _ _ h => by rw [h] at hv; cases hv
    simp only [List.append_assoc, List.cons_append, parseKw, h1, hv, hk_cons, tk_kind, and_self, ↓reduceIte,
      List.drop_succ_cons, List.drop_zero, h2]
    cases inv <;> simp [Expr.isInvocation] at hi <;> rfl

theorem parseKw_sendEvent {t : Tbl} (wf : t.WF) (swf : t.StmtWF) (port : String) (n : Tok) (ps : Params) (to : Expr)
    (hn : n.kind.isIdent = true) (hps : ps.Ok t) (hto : to.Ok t) (sc : Tok) (hsc : sc.kind = .SEMICOLON)
    (rest : List Tok) (f : Nat) (hf : costP ps + cost to + 5 ≤ f + 1) :
    parseKw t f .port (printImplicit t port n ps ++ tk .TO "to" :: (render t to 0 ++ sc :: rest)) =
      some (.sendEvent port n ps to, sc :: rest) := by
  have hiok : (Expr.icall port n ps).Ok t := by simp only [Expr.Ok]; exact ⟨hn, hps⟩
  have hne : NoExt (tk .TO "to" :: (render t to 0 ++ sc :: rest)) := by refine ⟨?_, ?_, ?_⟩ <;> simp
  have h1 := parseAccess_invocation wf hiok rfl hne f (by simp only [cost]; omega)
  have h2 := roundtrip_fuel wf hto 0 (stops_afterExpr swf 0 sc rest (by rw [hsc]; rfl)) f (by omega)
  simp only [printImplicit_eq, parseKw, h1, hk_cons, tk_kind, and_self, ↓reduceIte, List.drop_succ_cons,
    List.drop_zero, h2]

theorem parseRel_print (un : Bool) (a b : InstName) (r : Tok) (ph : Option Phrase) (u : Option InstName)
    (ha : a.Ok) (hb : b.Ok) (hr : r.kind.isVarName = true) (hph : optPhraseOk ph) (hu : optInstOk u)
    (sc : Tok) (hsc : sc.kind = .SEMICOLON) (rest : List Tok) :
    parseRel un (printInst a :: (if un then tk .FROM "from" else tk .TO "to") :: printInst b ::
        tk .ACROSS "across" :: r :: (printOptPhrase ph ++ (printUsing u ++ sc :: rest))) =
      some (.rel un a b r ph u, sc :: rest) := by
  -- after the optional phrase comes USING or `;`, never the `.` that would make `parseOptPhrase` read one
  have hdot : hk (printUsing u ++ sc :: rest) ≠ some .DOT := by cases u <;> simp [printUsing, hsc]
  have hph' := parseOptPhrase_print ph hph hdot
  have hex : expectK (if un then Kind.FROM else Kind.TO) ((if un then tk .FROM "from" else tk .TO "to") ::
      printInst b :: tk .ACROSS "across" :: r :: (printOptPhrase ph ++ (printUsing u ++ sc :: rest))) =
      some (printInst b :: tk .ACROSS "across" :: r :: (printOptPhrase ph ++ (printUsing u ++ sc :: rest))) := by
    cases un <;> simp
  simp only [parseRel, parseInstName_print a ha, parseInstName_print b hb, hex, expectK_tk, takeVarName_of hr, hph']
  cases u with
  | none => simp [printUsing, hsc]
  | some i =>
    have hi : i.Ok := hu
    simp [printUsing, parseInstName_print i hi]

theorem parseInstOf_print (io : Bool) {ts : List Tok}
    (h : ¬ (hk ts = some .INSTANCES ∧ hk (ts.drop 1) = some .OF)) :
    parseInstOf (printInstOf io ++ ts) = some (io, ts) := by
  cases io
  · simp only [printInstOf, Bool.false_eq_true, ↓reduceIte, List.nil_append, parseInstOf, h]
  · simp [printInstOf, parseInstOf]

theorem parseCard_print (card : CardTok) (ts : List Tok) :
    parseCard (tk card.c.kind card.lex :: ts) = some (card, ts) := by
  obtain ⟨c, lex⟩ := card
  cases c <;> simp [parseCard, Card.kind]

theorem parseSelect_selFrom {t : Tbl} (wf : t.WF) (swf : t.StmtWF) (card : CardTok) (v : Tok) (io : Bool)
    (kl : Tok) (w : Option Expr) (hc : card.c ≠ .one) (hv : v.kind.isVarName = true) (hkl : kl.kind.isIdent = true)
    (hw : optExprOk t w) (sc : Tok) (hsc : sc.kind = .SEMICOLON) (rest : List Tok) (f : Nat) (hf : costOpt w ≤ f) :
    parseSelect t f (tk card.c.kind card.lex :: v :: tk .FROM "from" ::
        (printInstOf io ++ kl :: (printOptWhere t w ++ sc :: rest))) =
      some (.selFrom card v io kl w, sc :: rest) := by
  have hof : hk (printOptWhere t w ++ sc :: rest) ≠ some .OF := by cases w <;> simp [printOptWhere, hsc]
  have hio := parseInstOf_print io (ts := kl :: (printOptWhere t w ++ sc :: rest))
    (by simp only [hk_cons, List.drop_succ_cons, List.drop_zero]; exact fun h => hof h.2)
  have hwh := parseOptWhere_print wf swf w hw sc hsc rest f hf
  simp only [parseSelect, parseCard_print, takeVarName_of hv, hk_cons, tk_kind, ↓reduceIte, hc, List.drop_succ_cons,
    List.drop_zero, parseSelFrom, hio, takeIdent_of hkl, hwh]

theorem parseSelect_selRel {t : Tbl} (wf : t.WF) (swf : t.StmtWF) (card : CardTok) (v : Tok) (hook : Expr)
    (chain : List NavStep) (w : Option Expr) (hv : v.kind.isVarName = true) (hh : hook.isHook = true)
    (hhok : hook.Ok t) (hch : chain ≠ []) (hchok : ∀ s ∈ chain, s.Ok)
    (hw : optExprOk t w) (sc : Tok) (hsc : sc.kind = .SEMICOLON) (rest : List Tok) (f : Nat)
    (hf : cost hook + chain.length + costOpt w ≤ f) :
    parseSelect t f (tk card.c.kind card.lex :: v :: tk .RELATED "related" :: tk .BY "by" ::
        (renderRaw t hook ++ (printNavChain chain ++ (printOptWhere t w ++ sc :: rest)))) =
      some (.selRel card v hook chain w, sc :: rest) := by
  have harrow : hk (printOptWhere t w ++ sc :: rest) ≠ some .ARROW := by cases w <;> simp [printOptWhere, hsc]
  have hchain := parseNavChain_print chain hch hchok harrow f (by omega)
  have hne : NoExt (printNavChain chain ++ (printOptWhere t w ++ sc :: rest)) := by
    cases chain with
    | nil => exact absurd rfl hch
    | cons s ss => refine ⟨?_, ?_, ?_⟩ <;> simp [printNavChain, printNavStep]
  have hacc := parseAccess_chain wf hhok (isChain_of_isHook hh) hne f (by omega)
  have hwh := parseOptWhere_print wf swf w hw sc hsc rest f (by omega)
  simp only [parseSelect, parseCard_print, takeVarName_of hv, hk_cons, tk_kind, Option.some.injEq, reduceCtorEq,
    ↓reduceIte, expectK_tk, parseSelRel, hacc, hh, hchain, hwh]

def StartsWith (p : Kind → Bool) (l : List Tok) : Prop := ∃ tok ts, l = tok :: ts ∧ p tok.kind = true

theorem StartsWith.append {p : Kind → Bool} {l : List Tok} (h : StartsWith p l) (X : List Tok) :
    StartsWith p (l ++ X) := by
  obtain ⟨tok, ts, rfl, hp⟩ := h
  exact ⟨tok, ts ++ X, rfl, hp⟩

theorem StartsWith.mono {p q : Kind → Bool} (hpq : ∀ k, p k = true → q k = true) {l : List Tok}
    (h : StartsWith p l) : StartsWith q l := by
  obtain ⟨tok, ts, rfl, hp⟩ := h
  exact ⟨tok, ts, rfl, hpq _ hp⟩

theorem StartsWith.hk_ne {p : Kind → Bool} {l : List Tok} (h : StartsWith p l) {k : Kind} (hk' : p k = false) :
    hk l ≠ some k := by
  obtain ⟨tok, ts, rfl, hp⟩ := h
  intro he
  simp only [hk_cons, Option.some.injEq] at he
  rw [he, hk'] at hp
  cases hp

theorem startsWith_of_accessStart {l : List Tok} (h : isAccessStart (hk l) = true) :
    StartsWith (fun k => isAccessStart (some k)) l := by
  cases l with
  | nil => simp [isAccessStart] at h
  | cons tok ts => exact ⟨tok, ts, rfl, h⟩

theorem stmtStart_of_accessStart : ∀ k : Kind, isAccessStart (some k) = true → k.isStmtStart = true :=
  forall_kind (by decide +kernel)

theorem afterExpr_of_stmtStart : ∀ k : Kind, k.isStmtStart = true → k.isAfterExpr = true :=
  forall_kind (by decide +kernel)

theorem stmt_first (t : Tbl) (s : Stmt) (hok : s.Ok t) : StartsWith Kind.isStmtStart (printStmt t s) := by
  cases s with
  | assign kw va e =>
    cases kw with
    | true => exact ⟨_, _, rfl, rfl⟩
    | false =>
      have h := startsWith_of_accessStart
        (accessStart_chain t va hok.2.1 (isChain_of_isVarAccess hok.1) (tk .EQUAL "=" :: render t e 0))
      rw [printStmt]
      simpa only [optWord, Bool.false_eq_true, ↓reduceIte, List.nil_append] using h.mono stmtStart_of_accessStart
  | invoke inv =>
    have h := startsWith_of_accessStart (accessStart_invocation t hok.2 hok.1 [])
    rw [printStmt]
    simpa only [List.append_nil] using h.mono stmtStart_of_accessStart
  | ret e => cases e <;> exact ⟨_, _, rfl, rfl⟩
  | kwCall k va ns n ps => cases va <;> cases k <;> exact ⟨_, _, rfl, rfl⟩
  | trCall va h n ps => cases va <;> exact ⟨_, _, rfl, rfl⟩
  | rel un a b r ph u => cases un <;> exact ⟨_, _, rfl, rfl⟩
  | _ => exact ⟨_, _, rfl, rfl⟩

theorem stops_startsWith {t : Tbl} (swf : t.StmtWF) (m : Nat) {X : List Tok} (h : StartsWith Kind.isAfterExpr X) :
    Stops t m X := by
  obtain ⟨tok, ts, rfl, hp⟩ := h
  exact stops_afterExpr swf m tok ts hp

theorem parseExpr_semicolon {t : Tbl} (swf : t.StmtWF) {ts : List Tok} (h : hk ts = some .SEMICOLON) (m : Nat) :
    ∀ f, parseExpr t f m ts = none
  | 0 => by rw [parseExpr]
  | 1 => by simp only [parseExpr, parsePrefix]
  | f + 2 => by
    cases ts with
    | nil => simp at h
    | cons tok ts =>
      have hk' : tok.kind = .SEMICOLON := by simpa using h
      simp [parseExpr, parsePrefix, hk', swf.unSemi, Kind.isVarName]

/-- after GENERATE, an event specification is recognised as one … -/
theorem startsEvSpec_print (t : Tbl) (es : EvSpec) (hid : es.id.kind.isIdent = true) (to : Tok) (hto : to.kind = .TO)
    (X : List Tok) : startsEvSpec (printEvSpec t es ++ to :: X) = true := by
  obtain ⟨id, star, meaning, parens, data⟩ := es
  simp only at hid
  cases star <;> cases meaning <;> cases parens <;>
    simp [startsEvSpec, printEvSpec, optWord, printEvMeaning, printEvData, hto, hkIs, hid]

/-- … and a variable access is not mistaken for one -/
theorem startsEvSpec_chain (t : Tbl) {e : Expr} (hok : e.Ok t) (hc : e.isChain = true) (sc : Tok)
    (hsc : sc.kind = .SEMICOLON) (X : List Tok) : startsEvSpec (renderRaw t e ++ sc :: X) = false := by
  rcases chain_second t hok hc sc X with h | h | h <;> simp only [startsEvSpec, h, hsc, Bool.and_false]

/-- a statement that begins with the first token of an access chain / invocation, followed by `=`, `.` or `[`, is
    read as such -/
theorem startsAccessStmt_of {tok : Tok} {ts : List Tok} (h1 : isAccessStart (some tok.kind) = true)
    (h2 : hk ts = some .EQUAL ∨ hk ts = some .DOT ∨ hk ts = some .LSQBR) : startsAccessStmt tok ts = true := by
  unfold startsAccessStmt
  split
  -- `self`, `selected`, `param`, `rcvd_evt`, a namespace, `::`
  iterate 6 rfl
  have hv : tok.kind.isVarName = true := by
    have := forall_kind (p := fun k => isAccessStart (some k) = true → k.isVarName = true ∨
      k ∈ [Kind.SELF, .SELECTED, .PARAM, .RCVD_EVT, .NAMESPACE, .DOUBLECOLON]) (by decide +kernel) _ h1
    simp only [List.mem_cons, List.not_mem_nil, or_false] at this
    rcases this with h | h | h | h | h | h | h
    · exact h
    all_goals exact absurd h ‹_›
  rcases h2 with h | h | h <;> simp only [hv, h, Bool.or_true, Bool.and_true]

/-- a statement keyword that is also a variable name is the keyword unless `=`, `.` or `[` follows -/
theorem startsAccessStmt_keyword {tok : Tok} {ts : List Tok} (h1 : tok.kind.isStmtKeyword = true)
    (h2 : hk ts ≠ some .EQUAL ∧ hk ts ≠ some .DOT ∧ hk ts ≠ some .LSQBR) : startsAccessStmt tok ts = false := by
  obtain ⟨ha, hb, hc⟩ := h2
  have hv : tok.kind.isVarName = true :=
    forall_kind (p := fun k => k.isStmtKeyword = true → k.isVarName = true) (by decide +kernel) _ h1
  unfold startsAccessStmt
  split
  -- `self`, `selected`, `param`, `rcvd_evt`, a namespace, `::` are no statement keywords
  iterate 6
    rename_i h
    rw [h] at h1
    cases h1
  -- the inner `match` on `hk ts` goes to its last arm by `ha`, `hb`, `hc`
  simp only [h1, hv, Bool.not_true, Bool.false_or, Bool.true_and]

theorem startsAccessStmt_select (card : CardTok) (ts : List Tok) :
    startsAccessStmt (tk .SELECT "select") (tk card.c.kind card.lex :: ts) = false :=
  startsAccessStmt_keyword rfl (by cases card.c <;> simp [Card.kind])

theorem chain_startsAccessStmt (t : Tbl) {e : Expr} (hok : e.Ok t) (hc : e.isChain = true) (X : List Tok)
    (hX : hk X = some .EQUAL ∨ hk X = some .DOT ∨ hk X = some .LSQBR) :
    ∃ tok ts, renderRaw t e ++ X = tok :: ts ∧ startsAccessStmt tok ts = true := by
  obtain ⟨tok, ts, h, ha, h3⟩ := chain_head t e hok hc X
  refine ⟨tok, ts, h, startsAccessStmt_of ha ?_⟩
  rcases h3 with rfl | h3
  · exact hX
  · exact Or.inr h3

theorem parseStmt_access (t : Tbl) (f : Nat) (tok : Tok) (ts : List Tok) (h : startsAccessStmt tok ts = true) :
    parseStmt t (f + 1) (tok :: ts) =
      match parsePrefix t f (tok :: ts) with
      | some (x, ts') =>
        if hk ts' = some .EQUAL then
          if x.isVarAccess then
            match parseExpr t f 0 (ts'.drop 1) with
            | some (e, ts'') => some (.assign false x e, ts'')
            | none => none
          else none
        else if x.isInvocation then some (.invoke x, ts')
        else none
      | none => none := by
  simp only [parseStmt, h, ↓reduceIte]
  rfl

def Kind.isBlockEnd : Kind → Bool
  | .END_IF | .END_FOR | .END_WHILE | .ELIF | .ELSE => true
  | _ => false

def BlockEnd (rest : List Tok) : Prop := rest = [] ∨ StartsWith Kind.isBlockEnd rest

theorem blockEnd_cons (tok : Tok) (ts : List Tok) (h : tok.kind.isBlockEnd = true) : BlockEnd (tok :: ts) :=
  Or.inr ⟨tok, ts, rfl, h⟩

theorem afterExpr_of_blockEnd : ∀ k : Kind, k.isBlockEnd = true → k.isAfterExpr = true :=
  forall_kind (by decide +kernel)

theorem BlockEnd.stops {t : Tbl} (swf : t.StmtWF) (m : Nat) {rest : List Tok} (h : BlockEnd rest) : Stops t m rest := by
  rcases h with rfl | h
  · exact stops_nil t m
  · exact stops_startsWith swf m (h.mono afterExpr_of_blockEnd)

theorem BlockEnd.hk_ne {rest : List Tok} (h : BlockEnd rest) {k : Kind} (hk' : k.isBlockEnd = false) :
    hk rest ≠ some k := by
  rcases h with rfl | h
  · simp
  · exact h.hk_ne hk'

theorem BlockEnd.elifs (t : Tbl) (el : Elifs) {Y : List Tok} (h : BlockEnd Y) : BlockEnd (printElifs t el ++ Y) := by
  cases el with
  | nil => simpa only [printElifs, List.nil_append] using h
  | cons c th b more => exact Or.inr ⟨_, _, by rw [printElifs]; rfl, rfl⟩

theorem BlockEnd.else_ (t : Tbl) (e : Else) {Y : List Tok} (h : BlockEnd Y) : BlockEnd (printElse t e ++ Y) := by
  cases e with
  | none => simpa only [printElse, List.nil_append] using h
  | some b => exact Or.inr ⟨_, _, by rw [printElse]; rfl, rfl⟩

/-- `[WORD] block` before a block end, for a word that neither starts a statement nor ends a block but may follow an
    expression (LOOP, THEN): whatever precedes was a complete expression, and the word is read iff it was written -/
theorem word_block {t : Tbl} (swf : t.StmtWF) {k : Kind} (w : String) (th : Bool) (h1 : k.isStmtStart = false)
    (h2 : k.isBlockEnd = false) (h3 : k.isAfterExpr = true) {b : Block} (hok : b.Ok t) {X : List Tok} (hX : BlockEnd X) :
    Stops t 0 (optWord th (tk k w) ++ (printBlock t b ++ X)) ∧
      optK k (optWord th (tk k w) ++ (printBlock t b ++ X)) = (th, printBlock t b ++ X) := by
  have hne : hk (printBlock t b ++ X) ≠ some k ∧ Stops t 0 (printBlock t b ++ X) := by
    cases b with
    | nil => exact ⟨hX.hk_ne h2, hX.stops swf 0⟩
    | cons s b' =>
      have h := (stmt_first t s hok.1).append (tk .SEMICOLON ";" :: printBlock t b' ++ X)
      rw [printBlock, List.append_assoc]
      exact ⟨h.hk_ne h1, stops_startsWith swf 0 (h.mono afterExpr_of_stmtStart)⟩
  refine ⟨?_, optK_optWord k w th hne.1⟩
  cases th
  · exact hne.2
  · exact stops_afterExpr swf 0 _ _ h3

mutual
def costS : Stmt → Nat
  | .ret e => costOpt e + 1
  | .assign _ va e => cost va + cost e + 5
  | .invoke inv => cost inv + 1
  | .kwCall _ va _ _ ps => costOptVa va + costP ps + 3
  | .trCall va h n ps => costOptVa va + cost (.ocall h n ps) + 1
  | .sendEvent _ _ ps to => costP ps + cost to + 6
  | .gen es tg => costEv es + costTg tg + 2
  | .genPre va => cost va + 1
  | .crtEv _ es tg => costEv es + costTg tg + 2
  | .forEach _ _ _ b => costB b + 1
  | .while_ c _ b => cost c + costB b + 4
  | .if_ c _ b el e => cost c + costB b + costEl el + costElse e + 4
  | .selFrom _ _ _ _ w => costOpt w + 1
  | .selRel _ _ hook chain w => cost hook + chain.length + costOpt w + 1
  | _ => 1
def costB : Block → Nat
  | .nil => 1
  | .cons s b => costS s + costB b + 1
def costEl : Elifs → Nat
  | .nil => 1
  | .cons c _ b more => cost c + costB b + costEl more + 4
def costElse : Else → Nat
  | .none => 1
  | .some b => costB b + 1
end

/-- the round trip of one statement, followed by its `;`; `RB`, `REl`, `REs` likewise for a block, an elif list and an
    else clause, each followed by what can end it -/
def RS (t : Tbl) (s : Stmt) : Prop :=
  ∀ sc rest, sc.kind = Kind.SEMICOLON → ∀ f, costS s ≤ f →
    parseStmt t f (printStmt t s ++ sc :: rest) = some (s, sc :: rest)

def RB (t : Tbl) (b : Block) : Prop :=
  ∀ rest, BlockEnd rest → ∀ f, costB b ≤ f → parseBlock t f (printBlock t b ++ rest) = some (b, rest)

def REl (t : Tbl) (el : Elifs) : Prop :=
  ∀ rest, BlockEnd rest → hk rest ≠ some .ELIF → ∀ f, costEl el ≤ f →
    parseElifs t f (printElifs t el ++ rest) = some (el, rest)

def REs (t : Tbl) (e : Else) : Prop :=
  ∀ rest, BlockEnd rest → hk rest ≠ some .ELSE → ∀ f, costElse e ≤ f →
    parseElse t f (printElse t e ++ rest) = some (e, rest)

section simple
variable {t : Tbl}

theorem accessStart_hk_not_punct {l : List Tok} (h : isAccessStart (hk l) = true) :
    hk l ≠ some .EQUAL ∧ hk l ≠ some .DOT ∧ hk l ≠ some .LSQBR := by
  refine ⟨?_, ?_, ?_⟩ <;> (intro he; rw [he] at h; cases h)

theorem hk_ident_not_punct {n : Tok} (hn : n.kind.isIdent = true) (ts : List Tok) :
    hk (n :: ts) ≠ some .EQUAL ∧ hk (n :: ts) ≠ some .DOT ∧ hk (n :: ts) ≠ some .LSQBR := by
  have h := isIdent_not_punct hn
  simp only [hk_cons, ne_eq, Option.some.injEq]
  exact ⟨h.1, h.2.1, h.2.2.1⟩

theorem hk_printInst_not_punct {i : InstName} (hi : i.Ok) (ts : List Tok) :
    hk (printInst i :: ts) ≠ some .EQUAL ∧ hk (printInst i :: ts) ≠ some .DOT ∧
      hk (printInst i :: ts) ≠ some .LSQBR := by
  cases i with
  | var n => exact hk_ident_not_punct (isIdent_of_isVarName hi) ts
  | self lex => simp [printInst]

theorem rs_of_succ {s : Stmt} {c : Nat} (hc : costS s = c + 1)
    (H : ∀ sc rest, sc.kind = Kind.SEMICOLON → ∀ f, c ≤ f →
      parseStmt t (f + 1) (printStmt t s ++ sc :: rest) = some (s, sc :: rest)) : RS t s := by
  intro sc rest hsc f hf
  obtain ⟨f', rfl⟩ := fuel_succ (f := f) (n := c) (by omega)
  exact H sc rest hsc f' (by omega)

end simple

mutual
theorem stmt_good {t : Tbl} (wf : t.WF) (swf : t.StmtWF) : (s : Stmt) → s.Ok t → RS t s
  | .brk, _ => by
    refine rs_of_succ rfl fun sc rest hsc f' hf => ?_
    have h0 : startsAccessStmt (tk .BREAK "break") (sc :: rest) = false :=
      startsAccessStmt_keyword rfl (by simp [hsc])
    simp only [printStmt, List.cons_append, List.nil_append, parseStmt, h0, Bool.false_eq_true, ↓reduceIte, tk_kind]
  | .cont, _ => by
    refine rs_of_succ rfl fun sc rest hsc f' hf => ?_
    have h0 : startsAccessStmt (tk .CONTINUE "continue") (sc :: rest) = false :=
      startsAccessStmt_keyword rfl (by simp [hsc])
    simp only [printStmt, List.cons_append, List.nil_append, parseStmt, h0, Bool.false_eq_true, ↓reduceIte, tk_kind]
  | .ctrl, _ => by
    refine rs_of_succ rfl fun sc rest _ f' hf => ?_
    have h0 : startsAccessStmt (tk .CONTROL "control") (tk .STOP "stop" :: sc :: rest) = false :=
      startsAccessStmt_keyword rfl (by simp)
    simp only [printStmt, List.cons_append, List.nil_append, parseStmt, h0, Bool.false_eq_true, ↓reduceIte, tk_kind,
      expectK_tk]
  | .ret e, hok => by
    refine rs_of_succ (c := costOpt e) rfl fun sc rest hsc f' hf => ?_
    have h0 : ∀ ts, startsAccessStmt (tk .RETURN "return") ts = false := fun _ => rfl
    cases e with
    | none =>
      simp only [printStmt, List.cons_append, List.nil_append, parseStmt, h0, Bool.false_eq_true, tk_kind, hk_cons, hsc,
        ↓reduceIte]
    | some e =>
      have he := roundtrip_fuel wf (e := e) hok 0 (stops_afterExpr swf 0 sc rest (by rw [hsc]; rfl)) f' hf
      -- read off the parse itself: no expression is read from `;` (`parseExpr_semicolon`), and `he` says one was
      have hns : hk (render t e 0 ++ sc :: rest) ≠ some .SEMICOLON := fun hs => by
        rw [parseExpr_semicolon swf hs] at he
        cases he
      simp only [printStmt, List.cons_append, parseStmt, h0, Bool.false_eq_true, tk_kind, hns, ↓reduceIte, he]
  | .assign kw va e, hok => by
    obtain ⟨hv, hvok, heok⟩ := hok
    refine rs_of_succ rfl fun sc rest hsc f' hf => ?_
    have hne : NoExt (tk .EQUAL "=" :: (render t e 0 ++ sc :: rest)) := by refine ⟨?_, ?_, ?_⟩ <;> simp
    have hc := isChain_of_isVarAccess hv
    have he := roundtrip_fuel wf heok 0 (stops_afterExpr swf 0 sc rest (by rw [hsc]; rfl)) f' (by omega)
    cases kw with
    | true =>
      have ha := parseAccess_chain wf hvok hc hne f' (by omega)
      have h0 := startsAccessStmt_keyword (tok := tk .ASSIGN "assign") rfl
        (accessStart_hk_not_punct (accessStart_chain t va hvok hc (tk .EQUAL "=" :: (render t e 0 ++ sc :: rest))))
      simp only [printStmt, optWord, ↓reduceIte, List.cons_append, List.nil_append, List.append_assoc, parseStmt, h0,
        Bool.false_eq_true, tk_kind, ha, hv, hk_cons, and_self, List.drop_succ_cons, List.drop_zero, he]
    | false =>
      have hp := roundtrip_prefix wf hvok (isOp_of_isChain hc) hne f' (by omega)
      obtain ⟨tok, ts, hts, hstart⟩ := chain_startsAccessStmt t hvok hc (tk .EQUAL "=" :: (render t e 0 ++ sc :: rest))
        (Or.inl rfl)
      simp only [printStmt, optWord, Bool.false_eq_true, ↓reduceIte, List.nil_append, List.append_assoc,
        List.cons_append]
      -- the text is opened as `tok :: ts` only to take the access branch of `parseStmt`, and closed again (`← hts`) so that
      -- the operand round trip `hp` applies to the text as printed
      rw [hts, parseStmt_access t f' tok ts hstart, ← hts, hp]
      simp only [hk_cons, tk_kind, ↓reduceIte, hv, List.drop_succ_cons, List.drop_zero, he]
  | .invoke inv, hok => by
    obtain ⟨hi, hok⟩ := hok
    refine rs_of_succ rfl fun sc rest hsc f' hf => ?_
    have hne : NoExt (sc :: rest) := noExt_afterExpr sc rest (by rw [hsc]; rfl)
    have hp := roundtrip_prefix wf hok (isOp_of_isInvocation hi) hne f' (by omega)
    have hstart : ∃ tok ts, renderRaw t inv ++ sc :: rest = tok :: ts ∧ startsAccessStmt tok ts = true := by
      cases inv with
      | fcall n ps => exact ⟨_, _, by rw [renderRaw_fcall]; rfl, rfl⟩
      | icall ns n ps => exact ⟨_, _, by rw [renderRaw_icall]; rfl, rfl⟩
      | ocall h n ps =>
        rw [renderRaw_ocall, List.append_assoc]
        exact chain_startsAccessStmt t hok.2.1 (isChain_of_isStruct hok.1) _ (Or.inr (Or.inl rfl))
      | _ => simp [Expr.isInvocation] at hi
    obtain ⟨tok, ts, hts, hst⟩ := hstart
    simp only [printStmt]
    -- opened and closed again as in the `assign` arm
    rw [hts, parseStmt_access t f' tok ts hst, ← hts, hp]
    simp only [hk_cons, hsc, Option.some.injEq, reduceCtorEq, ↓reduceIte, hi]
  | .kwCall k va ns n ps, hok => by
    obtain ⟨hva, hn, hps⟩ := hok
    refine rs_of_succ rfl fun sc rest hsc f' hf => ?_
    have h := parseKw_print wf k va (.icall ns n ps) hva rfl ⟨hn, hps⟩ sc hsc rest f' (by simp only [cost]; omega)
    have hb : ∀ ts, startsAccessStmt (tk .BRIDGE "bridge") ts = false := fun _ => rfl
    have ht : ∀ ts, startsAccessStmt (tk .TRANSFORM "transform") ts = false := fun _ => rfl
    have hs : ∀ ts, startsAccessStmt (tk .SEND "send") ts = false := fun _ => rfl
    cases va <;> cases k <;>
      simpa only [printStmt, printImplicit_eq, IKind.kw, List.cons_append, List.append_assoc, parseStmt, hb, ht, hs,
        Bool.false_eq_true, ↓reduceIte, tk_kind] using h
  | .trCall va h n ps, hok => by
    obtain ⟨hva, hh, hhok, hn, hps⟩ := hok
    refine rs_of_succ rfl fun sc rest hsc f' hf => ?_
    have h' := parseKw_print wf .cls va (.ocall h n ps) hva rfl ⟨hh, hhok, hn, hps⟩ sc hsc rest f' (by omega)
    have ht : ∀ ts, startsAccessStmt (tk .TRANSFORM "transform") ts = false := fun _ => rfl
    cases va <;>
      simpa only [printStmt, List.cons_append, List.append_assoc, parseStmt, ht, Bool.false_eq_true, ↓reduceIte,
        tk_kind] using h'
  | .sendEvent port n ps to, hok => by
    obtain ⟨hn, hps, hto⟩ := hok
    refine rs_of_succ rfl fun sc rest hsc f' hf => ?_
    have h := parseKw_sendEvent wf swf port n ps to hn hps hto sc hsc rest f' (by omega)
    have hs : ∀ ts, startsAccessStmt (tk .SEND "send") ts = false := fun _ => rfl
    simpa only [printStmt, List.cons_append, List.append_assoc, parseStmt, hs, Bool.false_eq_true, ↓reduceIte,
      tk_kind] using h
  | .gen es tg, hok => by
    obtain ⟨hes, htg⟩ := hok
    refine rs_of_succ rfl fun sc rest hsc f' hf => ?_
    have h1 := startsEvSpec_print t es hes.1 (tk .TO "to") rfl (printEvTarget t tg ++ sc :: rest)
    have h2 := parseEvSpec_print wf es hes (tk .TO "to") rfl (printEvTarget t tg ++ sc :: rest) f' (by omega)
    have h3 := parseEvTarget_print wf tg htg sc hsc rest f' (by omega)
    have h0 : startsAccessStmt (tk .GENERATE "generate")
        (printEvSpec t es ++ tk .TO "to" :: (printEvTarget t tg ++ sc :: rest)) = false := by
      refine startsAccessStmt_keyword rfl ?_
      have := hk_ident_not_punct hes.1
      simpa only [printEvSpec, List.cons_append] using this _
    simp only [printStmt, List.cons_append, List.append_assoc, parseStmt, h0, Bool.false_eq_true, ↓reduceIte, tk_kind, h1,
      h2, expectK_tk, h3]
  | .genPre va, hok => by
    obtain ⟨hv, hok⟩ := hok
    refine rs_of_succ rfl fun sc rest hsc f' hf => ?_
    have hc := isChain_of_isVarAccess hv
    have h1 := startsEvSpec_chain t hok hc sc hsc rest
    have hne : NoExt (sc :: rest) := noExt_afterExpr sc rest (by rw [hsc]; rfl)
    have h2 := parseAccess_chain wf hok hc hne f' (by omega)
    have h0 := startsAccessStmt_keyword (tok := tk .GENERATE "generate") rfl
      (accessStart_hk_not_punct (accessStart_chain t va hok hc (sc :: rest)))
    simp only [printStmt, List.cons_append, parseStmt, h0, tk_kind, h1, Bool.false_eq_true, ↓reduceIte, h2, hv]
  | .crtEv v es tg, hok => by
    obtain ⟨hv, hes, htg⟩ := hok
    refine rs_of_succ rfl fun sc rest hsc f' hf => ?_
    have h2 := parseEvSpec_print wf es hes (tk .TO "to") rfl (printEvTarget t tg ++ sc :: rest) f' (by omega)
    have h3 := parseEvTarget_print wf tg htg sc hsc rest f' (by omega)
    have h0 : ∀ ts, startsAccessStmt (tk .CREATE "create") (tk .EVENT "event" :: ts) = false :=
      fun _ => startsAccessStmt_keyword rfl (by simp)
    simp only [printStmt, List.cons_append, List.append_assoc, parseStmt, h0, Bool.false_eq_true, tk_kind, hk_cons,
      ↓reduceIte, List.drop_succ_cons, List.drop_zero, expectK_tk, takeVarName_of hv, h2, h3]
  | .createObj v kl, hok => by
    obtain ⟨hv, hkl⟩ := hok
    refine rs_of_succ rfl fun sc rest hsc f' hf => ?_
    have h0 : startsAccessStmt (tk .CREATE "create")
        (tk .OBJECT "object" :: tk .INSTANCE "instance" :: v :: tk .OF "of" :: kl :: sc :: rest) = false :=
      startsAccessStmt_keyword rfl (by simp)
    have hof := isVarName_ne hv (k' := .OF) rfl
    simp only [printStmt, List.cons_append, List.nil_append, parseStmt, h0, Bool.false_eq_true, ↓reduceIte, tk_kind,
      hk_cons, Option.some.injEq, reduceCtorEq, expectK_tk, hof, takeVarName_of hv, takeIdent_of hkl]
  | .createObjNoVar kl, hkl => by
    refine rs_of_succ rfl fun sc rest hsc f' hf => ?_
    have h0 : startsAccessStmt (tk .CREATE "create")
        (tk .OBJECT "object" :: tk .INSTANCE "instance" :: tk .OF "of" :: kl :: sc :: rest) = false :=
      startsAccessStmt_keyword rfl (by simp)
    simp only [printStmt, List.cons_append, List.nil_append, parseStmt, h0, Bool.false_eq_true, ↓reduceIte, tk_kind,
      hk_cons, Option.some.injEq, reduceCtorEq, expectK_tk, List.drop_succ_cons, List.drop_zero, takeIdent_of hkl]
  | .delete i, hi => by
    refine rs_of_succ rfl fun sc rest hsc f' hf => ?_
    have h0 : startsAccessStmt (tk .DELETE "delete")
        (tk .OBJECT "object" :: tk .INSTANCE "instance" :: printInst i :: sc :: rest) = false :=
      startsAccessStmt_keyword rfl (by simp)
    simp only [printStmt, List.cons_append, List.nil_append, parseStmt, h0, Bool.false_eq_true, ↓reduceIte, tk_kind,
      expectK_tk, parseInstName_print i hi]
  | .forEach v st lp b, hok => by
    obtain ⟨hv, hst, hbok⟩ := hok
    have hb := block_good wf swf b hbok
    refine rs_of_succ rfl fun sc rest hsc f' hf => ?_
    have hX := blockEnd_cons (tk .END_FOR "end for") (sc :: rest) rfl
    have hlp := (word_block swf "loop" lp (k := .LOOP) rfl rfl rfl hbok hX).2
    have hb' := hb _ hX f' (by omega)
    have h0 : ∀ ts, startsAccessStmt (tk .FOR "for") (tk .EACH "each" :: ts) = false :=
      fun _ => startsAccessStmt_keyword rfl (by simp)
    simp only [printStmt, List.cons_append, List.append_assoc, List.nil_append, parseStmt, h0, Bool.false_eq_true,
      ↓reduceIte, tk_kind, expectK_tk, takeVarName_of hv, takeVarName_of hst, hlp, hb']
  | .while_ c lp b, hok => by
    obtain ⟨hcok, hbok⟩ := hok
    have hb := block_good wf swf b hbok
    refine rs_of_succ rfl fun sc rest hsc f' hf => ?_
    have hX := blockEnd_cons (tk .END_WHILE "end while") (sc :: rest) rfl
    obtain ⟨hstop, hlp⟩ := word_block swf "loop" lp (k := .LOOP) rfl rfl rfl hbok hX
    have hb' := hb _ hX f' (by omega)
    have hc := roundtrip_fuel wf hcok 0 hstop f' (by omega)
    have h0 : ∀ ts, startsAccessStmt (tk .WHILE "while") ts = false := fun _ => rfl
    simp only [printStmt, List.cons_append, List.append_assoc, List.nil_append, parseStmt, h0, Bool.false_eq_true,
      ↓reduceIte, tk_kind, hc, hlp, hb', expectK_tk]
  | .if_ c th b el e, hok => by
    obtain ⟨hcok, hbok, helok, heok⟩ := hok
    have hb := block_good wf swf b hbok
    have hel := elifs_good wf swf el helok
    have he := else_good wf swf e heok
    refine rs_of_succ rfl fun sc rest hsc f' hf => ?_
    -- what may follow is built from the end backwards: END_IF, then the else clause (`hY`), then the elif list (`hX`)
    have hY := BlockEnd.else_ t e (blockEnd_cons (tk .END_IF "end if") (sc :: rest) rfl)
    have hX := BlockEnd.elifs t el hY
    obtain ⟨hstop, hth⟩ := word_block swf "then" th (k := .THEN) rfl rfl rfl hbok hX
    have hb' := hb _ hX f' (by omega)
    have hel' := hel (printElse t e ++ tk .END_IF "end if" :: sc :: rest) hY
      (by cases e <;> simp [printElse]) f' (by omega)
    have he' := he (tk .END_IF "end if" :: sc :: rest) (blockEnd_cons _ _ rfl) (by simp) f' (by omega)
    have hc := roundtrip_fuel wf hcok 0 hstop f' (by omega)
    have h0 : ∀ ts, startsAccessStmt (tk .IF "if") ts = false := fun _ => rfl
    simp only [printStmt, List.cons_append, List.append_assoc, List.nil_append, parseStmt, h0, Bool.false_eq_true,
      ↓reduceIte, tk_kind, hc, hth, hb', hel', he', expectK_tk]
  | .rel un a b r ph u, hok => by
    obtain ⟨ha, hb, hr, hph, hu⟩ := hok
    refine rs_of_succ rfl fun sc rest hsc f' hf => ?_
    have h := parseRel_print un a b r ph u ha hb hr hph hu sc hsc rest
    have h0 : ∀ kw : Tok, kw.kind.isStmtKeyword = true → ∀ ts, startsAccessStmt kw (printInst a :: ts) = false :=
      fun _ hkw ts => startsAccessStmt_keyword hkw (hk_printInst_not_punct ha ts)
    cases un <;>
      simpa only [printStmt, Bool.false_eq_true, ↓reduceIte, List.cons_append, List.append_assoc, parseStmt,
        h0 (tk .RELATE "relate") rfl, h0 (tk .UNRELATE "unrelate") rfl, tk_kind] using h
  | .selFrom card v io kl w, hok => by
    obtain ⟨hc, hv, hkl, hw⟩ := hok
    refine rs_of_succ rfl fun sc rest hsc f' hf => ?_
    have h := parseSelect_selFrom wf swf card v io kl w hc hv hkl hw sc hsc rest f' (by omega)
    simpa only [printStmt, List.cons_append, List.append_assoc, parseStmt, startsAccessStmt_select,
      Bool.false_eq_true, ↓reduceIte, tk_kind] using h
  | .selRel card v hook chain w, hok => by
    obtain ⟨hv, hh, hhok, hch, hchok, hw⟩ := hok
    refine rs_of_succ rfl fun sc rest hsc f' hf => ?_
    have h := parseSelect_selRel wf swf card v hook chain w hv hh hhok hch hchok hw sc hsc rest f' (by omega)
    simpa only [printStmt, List.cons_append, List.append_assoc, parseStmt, startsAccessStmt_select,
      Bool.false_eq_true, ↓reduceIte, tk_kind] using h
theorem block_good {t : Tbl} (wf : t.WF) (swf : t.StmtWF) : (b : Block) → b.Ok t → RB t b
  | .nil, _ => by
    intro rest hend f hf
    simp only [costB] at hf
    obtain ⟨f', rfl⟩ := fuel_succ (f := f) (n := 0) (by omega)
    rcases hend with rfl | ⟨tok, ts, rfl, hq⟩
    · simp only [printBlock, List.nil_append, parseBlock]
    · have h1 : tok.kind ≠ .SEMICOLON := by intro h; rw [h] at hq; cases hq
      have h2 : tok.kind.isStmtStart = false :=
        forall_kind (p := fun k => k.isBlockEnd = true → k.isStmtStart = false) (by decide +kernel) _ hq
      simp only [printBlock, List.nil_append, parseBlock, h1, ↓reduceIte, h2, Bool.false_eq_true]
  | .cons s b, hok => by
    obtain ⟨hsok, hbok⟩ := hok
    have hs := stmt_good wf swf s hsok
    have hb := block_good wf swf b hbok
    intro rest hend f hf
    simp only [costB] at hf
    obtain ⟨f', rfl⟩ := fuel_succ (f := f) (n := 0) (by omega)
    -- `parseBlock` tests the first token before it calls `parseStmt`
    obtain ⟨tok, ts, hts, hstart⟩ := stmt_first t s hsok
    have h1 : tok.kind ≠ .SEMICOLON := by intro h; rw [h] at hstart; cases hstart
    have hs' := hs (tk .SEMICOLON ";") (printBlock t b ++ rest) rfl f' (by omega)
    have hb' := hb rest hend f' (by omega)
    rw [hts] at hs'
    simp only [List.cons_append] at hs'
    rw [printBlock, hts]
    simp only [List.cons_append, List.append_assoc, parseBlock, h1, ↓reduceIte, hstart, hs', expectK_tk, hb']
theorem elifs_good {t : Tbl} (wf : t.WF) (swf : t.StmtWF) : (el : Elifs) → el.Ok t → REl t el
  | .nil, _ => by
    intro rest _ hne f hf
    simp only [costEl] at hf
    obtain ⟨f', rfl⟩ := fuel_succ (f := f) (n := 0) (by omega)
    simp only [printElifs, List.nil_append, parseElifs, hne, ↓reduceIte]
  | .cons c th b more, hok => by
    obtain ⟨hcok, hbok, hmok⟩ := hok
    have hb := block_good wf swf b hbok
    have hmore := elifs_good wf swf more hmok
    intro rest hend hne f hf
    simp only [costEl] at hf
    obtain ⟨f', rfl⟩ := fuel_succ (f := f) (n := 0) (by omega)
    have hmore' := hmore rest hend hne f' (by omega)
    have hZ := BlockEnd.elifs t more hend
    have hb' := hb _ hZ f' (by omega)
    obtain ⟨hstop, hth⟩ := word_block swf "then" th (k := .THEN) rfl rfl rfl hbok hZ
    have hc := roundtrip_fuel wf hcok 0 hstop f' (by omega)
    simp only [printElifs, List.cons_append, List.append_assoc, parseElifs, hk_cons, tk_kind, ↓reduceIte,
      List.drop_succ_cons, List.drop_zero, hc, hth, hb', hmore']
theorem else_good {t : Tbl} (wf : t.WF) (swf : t.StmtWF) : (e : Else) → e.Ok t → REs t e
  | .none, _ => by
    intro rest _ hne f hf
    simp only [costElse] at hf
    obtain ⟨f', rfl⟩ := fuel_succ (f := f) (n := 0) (by omega)
    simp only [printElse, List.nil_append, parseElse, hne, ↓reduceIte]
  | .some b, hok => by
    have hb := block_good wf swf b hok
    intro rest hend _ f hf
    simp only [costElse] at hf
    obtain ⟨f', rfl⟩ := fuel_succ (f := f) (n := 0) (by omega)
    have hb' := hb rest hend f' (by omega)
    simp only [printElse, List.cons_append, parseElse, hk_cons, tk_kind, ↓reduceIte, List.drop_succ_cons,
      List.drop_zero, hb']
end

/-! #### fuel: `costS` is at most eight times the length of the text -/

theorem costOpt_le (t : Tbl) (w : Option Expr) (hok : optExprOk t w) : costOpt w ≤ 8 * (printOptWhere t w).length := by
  cases w with
  | none => simp [costOpt]
  | some e =>
    have := render_len t (e := e) hok 0
    simp only [costOpt, printOptWhere, List.length_cons]
    omega

theorem costOptVa_le (t : Tbl) (va : Option Expr) (hok : optVarAccessOk t va) :
    costOptVa va ≤ 6 * (match va with | some v => (renderRaw t v).length | none => 0) := by
  cases va with
  | none => simp [costOptVa]
  | some v => exact cost_le_len t v hok.2

theorem costEv_le (t : Tbl) (es : EvSpec) (hok : es.Ok t) : costEv es ≤ 8 * (printEvSpec t es).length := by
  obtain ⟨id, star, meaning, parens, data⟩ := es
  obtain ⟨_, _, hd, hp⟩ := hok
  have h := costP_le_len t data hd
  cases parens with
  | false =>
    have := hp rfl
    subst this
    simp only [costEv, costP, printEvSpec, List.length_cons]
    omega
  | true =>
    simp only [costEv, printEvSpec, printEvData, ↓reduceIte, List.length_cons, List.length_append, List.length_nil]
    omega

theorem costTg_le (t : Tbl) (tg : EvTarget) (hok : tg.Ok t) : costTg tg ≤ 6 * (printEvTarget t tg).length := by
  cases tg with
  | inst e => exact cost_le_len t e hok.2
  | cls kl a => simp [costTg]
  | creator kl => simp [costTg]

theorem printImplicit_len (t : Tbl) (ns : String) (n : Tok) (ps : Params) :
    (printImplicit t ns n ps).length = (renderParams t ps).length + 5 := by
  simp [printImplicit, LP, RP]

mutual
theorem costS_le (t : Tbl) : (s : Stmt) → s.Ok t → costS s ≤ 8 * (printStmt t s).length
  | .brk, _ => by simp [costS, printStmt]
  | .cont, _ => by simp [costS, printStmt]
  | .ctrl, _ => by simp [costS, printStmt]
  | .ret none, _ => by simp [costS, costOpt, printStmt]
  | .ret (some e), hok => by
    have := render_len t hok 0
    simp only [costS, costOpt, printStmt, List.length_cons]
    omega
  | .assign kw va e, hok => by
    have := cost_le_len t va hok.2.1
    have := render_len t hok.2.2 0
    simp only [costS, printStmt, List.length_cons, List.length_append]
    omega
  | .invoke inv, hok => by
    have := cost_le_len t inv hok.2
    have := cost_ge inv
    simp only [costS, printStmt]
    omega
  | .kwCall k none ns n ps, hok => by
    have := costP_le_len t ps hok.2.2
    simp only [costS, costOptVa, printStmt, List.length_cons, printImplicit_len]
    omega
  | .kwCall k (some va) ns n ps, hok => by
    have := costP_le_len t ps hok.2.2
    have := cost_le_len t va hok.1.2
    simp only [costS, costOptVa, printStmt, List.length_cons, List.length_append, printImplicit_len]
    omega
  | .trCall none h n ps, hok => by
    have := cost_le_len t (.ocall h n ps) hok.2
    simp only [costS, costOptVa, printStmt, List.length_cons]
    omega
  | .trCall (some va) h n ps, hok => by
    have := cost_le_len t (.ocall h n ps) hok.2
    have := cost_le_len t va hok.1.2
    simp only [costS, costOptVa, printStmt, List.length_cons, List.length_append]
    omega
  | .sendEvent p n ps to, hok => by
    have := costP_le_len t ps hok.2.1
    have := render_len t hok.2.2 0
    simp only [costS, printStmt, List.length_cons, List.length_append, printImplicit_len]
    omega
  | .gen es tg, hok => by
    have := costEv_le t es hok.1
    have := costTg_le t tg hok.2
    simp only [costS, printStmt, List.length_cons, List.length_append]
    omega
  | .genPre va, hok => by
    have := cost_le_len t va hok.2
    simp only [costS, printStmt, List.length_cons]
    omega
  | .crtEv v es tg, hok => by
    have := costEv_le t es hok.2.1
    have := costTg_le t tg hok.2.2
    simp only [costS, printStmt, List.length_cons, List.length_append]
    omega
  | .createObj v kl, _ => by simp [costS, printStmt]
  | .createObjNoVar kl, _ => by simp [costS, printStmt]
  | .delete i, _ => by simp [costS, printStmt]
  | .forEach v st lp b, hok => by
    have := costB_le t b hok.2.2
    simp only [costS, printStmt, List.length_cons, List.length_append, List.length_nil]
    omega
  | .while_ c lp b, hok => by
    have := costB_le t b hok.2
    have := render_len t hok.1 0
    simp only [costS, printStmt, List.length_cons, List.length_append, List.length_nil]
    omega
  | .if_ c th b el e, hok => by
    have := costB_le t b hok.2.1
    have := render_len t hok.1 0
    have := costEl_le t el hok.2.2.1
    have := costElse_le t e hok.2.2.2
    simp only [costS, printStmt, List.length_cons, List.length_append, List.length_nil]
    omega
  | .rel un a b r ph u, _ => by simp [costS, printStmt]; omega
  | .selFrom card v io kl w, hok => by
    have := costOpt_le t w hok.2.2.2
    simp only [costS, printStmt, List.length_cons, List.length_append]
    omega
  | .selRel card v hook chain w, hok => by
    have := costOpt_le t w hok.2.2.2.2.2
    have := cost_le_len t hook hok.2.2.1
    have hch : chain.length ≤ (printNavChain chain).length := by
      clear hok
      induction chain with
      | nil => simp
      | cons s ss ih => simp only [printNavChain, printNavStep, List.length_cons, List.length_append]; omega
    simp only [costS, printStmt, List.length_cons, List.length_append]
    omega
theorem costB_le (t : Tbl) : (b : Block) → b.Ok t → costB b ≤ 8 * (printBlock t b).length + 1
  | .nil, _ => by simp [costB]
  | .cons s b, hok => by
    have := costS_le t s hok.1
    have := costB_le t b hok.2
    simp only [costB, printBlock, List.length_cons, List.length_append]
    omega
theorem costEl_le (t : Tbl) : (el : Elifs) → el.Ok t → costEl el ≤ 8 * (printElifs t el).length + 1
  | .nil, _ => by simp [costEl]
  | .cons c th b more, hok => by
    have := render_len t hok.1 0
    have := costB_le t b hok.2.1
    have := costEl_le t more hok.2.2
    simp only [costEl, printElifs, List.length_cons, List.length_append]
    omega
theorem costElse_le (t : Tbl) : (e : Else) → e.Ok t → costElse e ≤ 8 * (printElse t e).length + 1
  | .none, _ => by simp [costElse]
  | .some b, hok => by
    have := costB_le t b hok
    simp only [costElse, printElse, List.length_cons]
    omega
end

theorem stmts_roundtrip {t : Tbl} (wf : t.WF) (swf : t.StmtWF) (b : Block) (hok : b.Ok t) :
    parseStmts t (printStmts t b) = some b :=
  parseStmts_of_fuel t (f := costB b) (by simpa only [printStmts, List.append_nil] using block_good wf swf b hok [] (Or.inl rfl) _ (Nat.le_refl _))

end Pyx.Oal
