import PyxModel.Extract.Xsd

/-!
  C20 — reading the declarations back off the XML tree; the tree uses the fixed vocabulary.
-/

namespace Pyx.Extract

def XType.base : XType → String
  | .restriction _ b => b
  | .enumeration _ _ => "xs:string"

def XType.values : XType → List String
  | .restriction _ _ => []
  | .enumeration _ vs => vs

def restrictionBases (t : XmlTree) : List (Option String) :=
  (t.childrenTagged "xs:restriction").map (·.attr "base")

theorem filter_tag_all {α : Type} (f : α → XmlTree) (tg : String) (l : List α) (h : ∀ x, (f x).tag = tg) :
    (l.map f).filter (fun c => c.tag == tg) = l.map f := by
  apply List.filter_eq_self.mpr
  intro c hc
  obtain ⟨x, _, rfl⟩ := List.mem_map.mp hc
  simp [h x]

theorem filter_tag_none {α : Type} (f : α → XmlTree) (tg : String) (l : List α) (h : ∀ x, (f x).tag ≠ tg) :
    (l.map f).filter (fun c => c.tag == tg) = [] := by
  apply List.filter_eq_nil_iff.mpr
  intro c hc
  obtain ⟨x, _, rfl⟩ := List.mem_map.mp hc
  simp [h x]

theorem renderType_tag (x : XType) : (renderType x).tag = "xs:simpleType" := by cases x <;> rfl
theorem renderClass_tag (c : XClass) : (renderClass c).tag = "xs:element" := rfl
theorem renderAttr_tag (a : XAttr) : (renderAttr a).tag = "xs:attribute" := rfl

theorem simpleTypeNodes_render (s : XsdSpec) : simpleTypeNodes (render s) = s.types.map renderType := by
  unfold simpleTypeNodes XmlTree.childrenTagged render
  simp only [XmlTree.children, List.filter_append]
  rw [filter_tag_all renderType "xs:simpleType" s.types renderType_tag]
  have : ([renderComp s.comp s.classes].filter (fun c => c.tag == "xs:simpleType")) = [] := by
    simp only [List.filter_cons, List.filter_nil]
    have : ((renderComp s.comp s.classes).tag == "xs:simpleType") = false := by
      show ("xs:element" == "xs:simpleType") = false; decide
    rw [this]; rfl
  rw [this, List.append_nil]

theorem classNodes_render (s : XsdSpec) : classNodes (render s) = s.classes.map renderClass := by
  unfold classNodes XmlTree.childrenTagged render
  simp only [XmlTree.children, List.filter_append]
  -- the tag filter, level by level: the types drop out, the component stays, and below it every class
  rw [filter_tag_none renderType "xs:element" s.types (fun x => by rw [renderType_tag]; decide)]
  have h1 : ([renderComp s.comp s.classes].filter (fun c => c.tag == "xs:element")) = [renderComp s.comp s.classes] := by
    simp only [List.filter_cons, List.filter_nil]
    have : ((renderComp s.comp s.classes).tag == "xs:element") = true := by
      show ("xs:element" == "xs:element") = true; decide
    rw [this]; rfl
  rw [h1]
  simp only [List.nil_append, List.flatMap_cons, List.flatMap_nil, List.append_nil]
  unfold renderComp
  simp only [List.filter_cons, List.filter_nil, XmlTree.tag]
  have d1 : ("xs:complexType" == "xs:complexType") = true := by decide
  have d2 : ("xs:sequence" == "xs:sequence") = true := by decide
  simp only [d1, d2, if_true, List.flatMap_cons, List.flatMap_nil, List.append_nil, List.filter_cons, List.filter_nil]
  exact filter_tag_all renderClass "xs:element" s.classes renderClass_tag

theorem attributeNodes_renderClass (c : XClass) : attributeNodes (renderClass c) = c.attrs.map renderAttr := by
  unfold attributeNodes XmlTree.childrenTagged renderClass
  simp only [XmlTree.children, List.filter_cons, List.filter_nil, XmlTree.tag]
  have d1 : ("xs:complexType" == "xs:complexType") = true := by decide
  simp only [d1, if_true, List.flatMap_cons, List.flatMap_nil, List.append_nil]
  exact filter_tag_all renderAttr "xs:attribute" c.attrs renderAttr_tag

theorem renderClass_name (c : XClass) : (renderClass c).attr "name" = some c.kl := by
  unfold XmlTree.attr renderClass XmlTree.attrs
  simp

theorem renderAttr_name (a : XAttr) : (renderAttr a).attr "name" = some a.name := by
  unfold XmlTree.attr renderAttr leaf XmlTree.attrs
  simp

theorem renderAttr_type (a : XAttr) : (renderAttr a).attr "type" = some a.ty := by
  unfold XmlTree.attr renderAttr leaf XmlTree.attrs
  have h1 : ("name" == "type") = false := by decide
  simp [h1]

theorem renderType_name (x : XType) : (renderType x).attr "name" = some x.name := by
  cases x <;> simp [XmlTree.attr, renderType, XmlTree.attrs, XType.name]

theorem renderType_bases (x : XType) : restrictionBases (renderType x) = [some x.base] := by
  cases x <;>
    simp [restrictionBases, XmlTree.childrenTagged, renderType, leaf, XmlTree.children, XmlTree.tag, XmlTree.attr,
      XmlTree.attrs, XType.base]

theorem renderType_values (x : XType) : enumerationValues (renderType x) = x.values.map some := by
  cases x with
  | restriction n b =>
    simp [enumerationValues, XmlTree.childrenTagged, renderType, leaf, XmlTree.children, XmlTree.tag, XType.values]
  | enumeration n vs =>
    have e1 : (renderType (.enumeration n vs)).childrenTagged "xs:restriction" =
        [.node "xs:restriction" [("base", "xs:string")] (vs.map (fun v => leaf "xs:enumeration" [("value", v)]))] := by
      simp [XmlTree.childrenTagged, renderType, XmlTree.children, XmlTree.tag]
    unfold enumerationValues
    rw [e1]
    simp only [List.flatMap_cons, List.flatMap_nil, List.append_nil, XType.values]
    unfold XmlTree.childrenTagged
    simp only [XmlTree.children]
    rw [filter_tag_all (fun v => leaf "xs:enumeration" [("value", v)]) "xs:enumeration" vs (fun _ => rfl)]
    rw [List.map_map]
    apply List.map_congr_left
    intro v _
    simp [Function.comp, XmlTree.attr, leaf, XmlTree.attrs]

theorem xattr_eq_some {d : ClassDiagram} {a : Attr} {x : XAttr} :
    xattr d a = some x ↔
      a.isDerived = false ∧ x.name = a.name ∧ ∃ dt, attrDt d a = some dt ∧ baseTypeName d.dts dt = some x.ty := by
  unfold xattr
  cases x with
  | mk n t =>
    cases hd : a.isDerived
    · simp only [Bool.false_eq_true, if_false, true_and]
      cases hdt : attrDt d a with
      | none => simp
      | some dt =>
        simp only [Option.bind_some, Option.some.injEq, exists_eq_left']
        cases hb : baseTypeName d.dts dt with
        | none => simp
        | some nm => simp [eq_comm]
    · simp

def tagVocab : List String :=
  ["xs:schema", "xs:simpleType", "xs:restriction", "xs:enumeration", "xs:element", "xs:complexType", "xs:sequence",
   "xs:attribute"]

def keyVocab : List String := ["xmlns:xs", "name", "base", "value", "minOccurs", "maxOccurs", "type"]

/-- every tag and every attribute key of the tree is from the fixed vocabulary, every attribute VALUE
    satisfies `P` -/
inductive WellFormed (P : String → Prop) : XmlTree → Prop where
  | node (tag : String) (attrs : List (String × String)) (children : List XmlTree) :
      tag ∈ tagVocab → (∀ p ∈ attrs, p.1 ∈ keyVocab ∧ P p.2) → (∀ c ∈ children, WellFormed P c) →
      WellFormed P (.node tag attrs children)

/-- the strings of the declarations: constants of the generator and names of the model -/
def XsdSpec.strings (s : XsdSpec) : List String :=
  ["http://www.w3.org/2001/XMLSchema", "xs:string", "0", "unbounded", s.comp] ++
  s.types.flatMap (fun x => x.name :: x.base :: x.values) ++
  s.classes.flatMap (fun c => c.kl :: c.attrs.flatMap (fun a => [a.name, a.ty]))

theorem wellFormed_node {P : String → Prop} {tag : String} {attrs : List (String × String)} {children : List XmlTree} :
    WellFormed P (.node tag attrs children) ↔
      tag ∈ tagVocab ∧ (∀ p ∈ attrs, p.1 ∈ keyVocab ∧ P p.2) ∧ ∀ c ∈ children, WellFormed P c :=
  ⟨fun h => by cases h with | node _ _ _ h1 h2 h3 => exact ⟨h1, h2, h3⟩, fun ⟨h1, h2, h3⟩ => .node _ _ _ h1 h2 h3⟩

theorem vocab_mem :
    ("xs:schema" ∈ tagVocab ∧ "xs:simpleType" ∈ tagVocab ∧ "xs:restriction" ∈ tagVocab ∧ "xs:enumeration" ∈ tagVocab ∧
     "xs:element" ∈ tagVocab ∧ "xs:complexType" ∈ tagVocab ∧ "xs:sequence" ∈ tagVocab ∧ "xs:attribute" ∈ tagVocab) ∧
    ("xmlns:xs" ∈ keyVocab ∧ "name" ∈ keyVocab ∧ "base" ∈ keyVocab ∧ "value" ∈ keyVocab ∧ "minOccurs" ∈ keyVocab ∧
     "maxOccurs" ∈ keyVocab ∧ "type" ∈ keyVocab) := by decide +kernel

theorem render_wellFormed (s : XsdSpec) : WellFormed (fun v => v ∈ s.strings) (render s) := by
  have hconst : ∀ v ∈ ["http://www.w3.org/2001/XMLSchema", "xs:string", "0", "unbounded", s.comp], v ∈ s.strings := by
    intro v hv; unfold XsdSpec.strings; simp only [List.mem_append]; left; left; exact hv
  have htype : ∀ x ∈ s.types, ∀ v ∈ x.name :: x.base :: x.values, v ∈ s.strings := by
    intro x hx v hv
    unfold XsdSpec.strings
    simp only [List.mem_append]
    left; right
    exact List.mem_flatMap.mpr ⟨x, hx, hv⟩
  have hclass : ∀ c ∈ s.classes, ∀ v ∈ c.kl :: c.attrs.flatMap (fun a => [a.name, a.ty]), v ∈ s.strings := by
    intro c hc v hv
    unfold XsdSpec.strings
    simp only [List.mem_append]
    right
    exact List.mem_flatMap.mpr ⟨c, hc, hv⟩
  have hty : ∀ x ∈ s.types, WellFormed (fun v => v ∈ s.strings) (renderType x) := by
    intro x hx
    cases x with
    | restriction n b =>
      have hn := htype _ hx n (by simp [XType.name])
      have hb := htype _ hx b (by simp [XType.base])
      -- here and below: `wellFormed_node` and `vocab_mem` unfold the literal tree; what is left are memberships in `s.strings`
      simp only [vocab_mem, renderType, leaf, wellFormed_node, List.forall_mem_singleton, List.not_mem_nil, false_imp_iff,
        implies_true, and_true, hn, hb]
    | enumeration n vs =>
      have hn := htype _ hx n (by simp [XType.name])
      have hc := hconst "xs:string" (by simp)
      simp only [vocab_mem, renderType, leaf, wellFormed_node, List.forall_mem_singleton, List.not_mem_nil, false_imp_iff,
        implies_true, and_true, true_and, List.forall_mem_map, hn, hc]
      exact fun v hv => htype _ hx v (by simp [XType.values, hv])
  have hcl : ∀ c ∈ s.classes, WellFormed (fun v => v ∈ s.strings) (renderClass c) := by
    intro c hc
    have h0 := hconst "0" (by simp)
    have hu := hconst "unbounded" (by simp)
    have hk := hclass c hc c.kl (by simp)
    simp only [vocab_mem, renderClass, renderAttr, leaf, wellFormed_node, List.forall_mem_cons, List.not_mem_nil, false_imp_iff,
      implies_true, and_true, true_and, List.forall_mem_map, h0, hu, hk]
    exact fun a ha => ⟨hclass c hc _ (List.mem_cons_of_mem _ (List.mem_flatMap.mpr ⟨a, ha, by simp⟩)),
      hclass c hc _ (List.mem_cons_of_mem _ (List.mem_flatMap.mpr ⟨a, ha, by simp⟩))⟩
  have hx := hconst "http://www.w3.org/2001/XMLSchema" (by simp)
  have hcomp := hconst s.comp (by simp)
  simp only [vocab_mem, render, renderComp, wellFormed_node, List.forall_mem_singleton, List.forall_mem_append, List.forall_mem_map,
    List.not_mem_nil, false_imp_iff, implies_true, and_true, true_and, hx, hcomp]
  exact ⟨hty, hcl⟩
end Pyx.Extract
