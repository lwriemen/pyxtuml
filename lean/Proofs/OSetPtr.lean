import PyxModel.OSetPtr
import Proofs.OSet

/-! C17, pointer level: the ring of cells denotes a list (`ReprA`); `add`, `discard`, iteration that discards the visited
    element and the observers preserve / read that list.  Everything that walks backwards is the forward fact on `flip s`. -/
namespace Pyx.OSetPtr

/-- following `next` from address `a` visits exactly the addresses `as`, then the sentinel -/
def NextChain (s : Store) : Nat → List Nat → Prop
  | a, [] => a = 0
  | a, b :: bs => a = b ∧ NextChain s (s.next b) bs

def PrevChain (s : Store) : List Nat → Prop
  | b :: c :: cs => s.prev c = b ∧ PrevChain s (c :: cs)
  | _ => True

theorem nextChain_congr {s s' : Store} : ∀ (as : List Nat) (a : Nat),
    (∀ z ∈ as, s'.next z = s.next z) → NextChain s a as → NextChain s' a as
  | [], _, _, h => h
  | b :: bs, a, hz, h => by
    obtain ⟨h1, h2⟩ := h
    refine ⟨h1, ?_⟩
    rw [hz b (by simp)]
    exact nextChain_congr bs _ (fun z hz' => hz z (by simp [hz'])) h2

theorem prevChain_congr {s s' : Store} : ∀ (as : List Nat),
    (∀ z ∈ as.tail, s'.prev z = s.prev z) → PrevChain s as → PrevChain s' as
  | [], _, _ => trivial
  | [_], _, _ => trivial
  | b :: c :: cs, hz, h => by
    obtain ⟨h1, h2⟩ := h
    refine ⟨?_, ?_⟩
    · rw [hz c (by simp)]; exact h1
    · exact prevChain_congr (c :: cs) (fun z hz' => hz z (by simp at hz' ⊢; exact Or.inr hz')) h2

def MapOk (s : Store) (as : List Nat) : Prop := ∀ a ∈ as, s.map (s.key a) = some a

theorem prevChain_tail {s : Store} {b : Nat} : ∀ {bs : List Nat}, PrevChain s (b :: bs) → PrevChain s bs
  | [], _ => trivial
  | _ :: _, h => h.2

theorem discard_key (s : Store) (k : Nat) : (discard k s).key = s.key := by
  unfold discard; split <;> rfl

theorem discard_fresh (k : Nat) (s : Store) : (discard k s).fresh = s.fresh := by
  unfold discard; split <;> rfl

theorem discard_next {s : Store} {k a : Nat} (h : s.map k = some a) (z : Nat) :
    (discard k s).next z = if z = s.prev a then s.next a else s.next z := by
  unfold discard; rw [h]; rfl

theorem discard_prev {s : Store} {k a : Nat} (h : s.map k = some a) (z : Nat) :
    (discard k s).prev z = if z = s.next a then s.prev a else s.prev z := by
  unfold discard; rw [h]; rfl

theorem discard_map {s : Store} {k a : Nat} (h : s.map k = some a) : (discard k s).map = upd s.map k none := by
  unfold discard; rw [h]

/-- `add` of a key the map does not hold: a new cell at the allocator's address, linked between the last cell and the sentinel -/
theorem add_absent {s : Store} {k : Nat} (h : s.map k = none) :
    add k s = { key := upd s.key s.fresh k
                prev := upd (upd s.prev s.fresh (s.prev 0)) 0 s.fresh
                next := upd (upd s.next s.fresh 0) (s.prev 0) s.fresh
                map := upd s.map k (some s.fresh)
                fresh := s.fresh + 1 } := by
  unfold add; rw [h]

/-- the forward walk with removal, for ANY sufficient fuel: from the cell `a` along the chain `as` it visits the keys of `as` in
    order, and the final store is the start store with the visited keys that satisfy `p` discarded, in that order -/
theorem iterRem_both_fuel (p : Nat → Bool) : ∀ (as : List Nat) (s : Store) (a : Nat) (f : Nat),
    NextChain s a as → PrevChain s as → 0 ∉ as → (as.map s.key).Nodup → MapOk s as →
    -- the cell before the head lies behind the iterator: unlinking the head writes `next` only there, so the chain ahead stays
    (∀ b bs, as = b :: bs → s.prev b ∉ bs) → as.length < f →
    (iterRem p f s a).1 = as.map s.key ∧
    (iterRem p f s a).2 = ((as.map s.key).filter p).foldl (fun st k => discard k st) s
  | _, _, _, 0, _, _, _, _, _, _, hf => absurd hf (Nat.not_lt_zero _)
  | [], s, a, f + 1, hn, _, _, _, _, _, _ => by
    simp only [NextChain] at hn
    simp [iterRem, hn]
  | b :: bs, s, a, f + 1, hn, hp, h0, hkn, hmap, hpb, hf => by
    obtain ⟨rfl, hn'⟩ := hn
    have hf' : bs.length < f := Nat.lt_of_succ_lt_succ hf
    have hb0 : a ≠ 0 := fun h => h0 (h ▸ List.mem_cons_self)
    have h0' : 0 ∉ bs := fun h => h0 (List.mem_cons_of_mem _ h)
    have hpa : s.prev a ∉ bs := hpb a bs rfl
    obtain ⟨hka, hkn'⟩ := List.nodup_cons.mp hkn
    simp only [iterRem, hb0, ↓reduceIte, List.map_cons, List.cons.injEq, true_and]
    by_cases hk : p (s.key a) = true
    · -- the consumer discards the element being visited: only `next` of the cell before it and `prev` of the cell after it change
      have hma : s.map (s.key a) = some a := hmap a List.mem_cons_self
      have hkey : (discard (s.key a) s).key = s.key := discard_key s _
      -- the suspended generator resumes by reading `next a` after the discard: `discard` writes `next` only at the cell before
      -- `a`, and were that `a` itself it would write what `a` holds, so the stale pointer is still the old successor
      have hnx : (discard (s.key a) s).next a = s.next a := by rw [discard_next hma]; split <;> rfl
      have hn2 : NextChain (discard (s.key a) s) (s.next a) bs := by
        refine nextChain_congr bs _ (fun z hz => ?_) hn'
        rw [discard_next hma, if_neg]
        exact fun e => hpa (e ▸ hz)
      have hp2 : PrevChain (discard (s.key a) s) bs := by
        refine prevChain_congr bs (fun z hz => ?_) (prevChain_tail hp)
        cases bs with
        | nil => cases hz
        | cons c cs =>
          rw [discard_prev hma, if_neg]
          exact fun e => (List.nodup_cons.mp hkn').1 (List.mem_map_of_mem (hn'.1 ▸ e ▸ hz))
      have hm2 : MapOk (discard (s.key a) s) bs := by
        intro z hz
        rw [hkey, discard_map hma, upd, if_neg]
        · exact hmap z (List.mem_cons_of_mem _ hz)
        · exact fun e => hka (e ▸ List.mem_map_of_mem hz)
      -- unlinking moves "the cell before the head" further back: `prev` of the new head is `s.prev a`
      have hb2 : ∀ c cs, bs = c :: cs → (discard (s.key a) s).prev c ∉ cs := by
        rintro c cs rfl
        rw [discard_prev hma, if_pos hn'.1.symm]
        exact fun h => hpa (List.mem_cons_of_mem _ h)
      have ih := iterRem_both_fuel p bs (discard (s.key a) s) (s.next a) f hn2 hp2 h0' (hkey.symm ▸ hkn') hm2 hb2 hf'
      rw [hkey] at ih
      simpa only [hk, ↓reduceIte, hnx, List.filter_cons, List.foldl_cons] using ih
    · have ih := iterRem_both_fuel p bs s (s.next a) f hn' (prevChain_tail hp) h0' hkn'
        (fun z hz => hmap z (List.mem_cons_of_mem _ hz))
        (by
          rintro c cs rfl
          rw [hp.1]
          exact fun h => hka (List.mem_map_of_mem (List.mem_cons_of_mem _ h)))
        hf'
      simpa only [hk, Bool.false_eq_true, ↓reduceIte, List.filter_cons] using ih

/-! ### the representation invariant of `C17.ptr_refines` -/

def Linked (s : Store) : List Nat → Prop
  | x :: y :: r => s.next x = y ∧ s.prev y = x ∧ Linked s (y :: r)
  | _ => True

/-- `as` are the addresses of the cells in ring order; the ring is `0 (sentinel), as…, 0` -/
structure ReprA (s : Store) (as : List Nat) (L : List Nat) : Prop where
  linked : Linked s (0 :: as ++ [0])
  keys : as.map s.key = L
  nodup : as.Nodup
  nz : 0 ∉ as
  bound : ∀ a ∈ as, a < s.fresh
  len : as.length < s.fresh
  knodup : L.Nodup
  mapIn : ∀ a ∈ as, s.map (s.key a) = some a
  mapOut : ∀ k, k ∉ L → s.map k = none

/-- walking `next` from the sentinel yields cells whose keys are `L`, `prev` is the mirror, `map` maps exactly
    the keys of `L` to their cells, addresses are distinct, non-sentinel and below the allocator -/
def Repr (s : Store) (L : List Nat) : Prop := ∃ as, ReprA s as L

theorem linked_split (s : Store) : ∀ (P0 : List Nat) (p n : Nat) (N0 : List Nat),
    Linked s (P0 ++ p :: n :: N0) ↔ Linked s (P0 ++ [p]) ∧ s.next p = n ∧ s.prev n = p ∧ Linked s (n :: N0)
  | [], p, n, N0 => by simp [Linked]
  | [x], p, n, N0 => by
    simp only [List.cons_append, List.nil_append, Linked, and_true]
    constructor
    · rintro ⟨h1, h2, h3, h4, h5⟩; exact ⟨⟨h1, h2⟩, h3, h4, h5⟩
    · rintro ⟨⟨h1, h2⟩, h3, h4, h5⟩; exact ⟨h1, h2, h3, h4, h5⟩
  | x :: y :: r, p, n, N0 => by
    have ih := linked_split s (y :: r) p n N0
    simp only [List.cons_append, Linked] at ih ⊢
    rw [ih]
    constructor
    · rintro ⟨h1, h2, h3, h4, h5, h6⟩; exact ⟨⟨h1, h2, h3⟩, h4, h5, h6⟩
    · rintro ⟨⟨h1, h2, h3⟩, h4, h5, h6⟩; exact ⟨h1, h2, h3, h4, h5, h6⟩

theorem linked_congr {s s' : Store} : ∀ (l : List Nat),
    (∀ x ∈ l.dropLast, s'.next x = s.next x) → (∀ y ∈ l.tail, s'.prev y = s.prev y) → Linked s l → Linked s' l
  | [], _, _, _ => trivial
  | [_], _, _, _ => trivial
  | x :: y :: r, hn, hp, h => by
    obtain ⟨h1, h2, h3⟩ := h
    refine ⟨?_, ?_, ?_⟩
    · rw [hn x (by simp [List.dropLast])]; exact h1
    · rw [hp y (by simp)]; exact h2
    · apply linked_congr (y :: r) _ _ h3
      · intro z hz; apply hn
        simp only [List.dropLast_cons_cons, List.mem_cons] at hz ⊢
        exact Or.inr hz
      · intro z hz; apply hp
        simp only [List.tail_cons, List.mem_cons] at hz ⊢
        exact Or.inr hz

theorem nextChain_of_linked (s : Store) : ∀ (as : List Nat) (x : Nat),
    Linked s (x :: as ++ [0]) → NextChain s (s.next x) as
  | [], x, h => by simp only [List.cons_append, List.nil_append, Linked] at h; exact h.1
  | b :: bs, x, h => by
    simp only [List.cons_append, Linked] at h
    exact ⟨h.1, nextChain_of_linked s bs b (by simpa using h.2.2)⟩

theorem prevChain_of_linked (s : Store) : ∀ (as : List Nat) (x : Nat),
    Linked s (x :: as ++ [0]) → PrevChain s as
  | [], _, _ => trivial
  | [_], _, _ => trivial
  | b :: c :: cs, x, h => by
    simp only [List.cons_append, Linked] at h
    refine ⟨h.2.2.2.1, ?_⟩
    apply prevChain_of_linked s (c :: cs) b
    simp only [List.cons_append, Linked]
    exact h.2.2

theorem iter_of_chain (s : Store) : ∀ (as : List Nat) (a f : Nat),
    NextChain s a as → 0 ∉ as → as.length ≤ f → iter f s a = as.map s.key
  | [], a, f, h, _, _ => by
    simp only [NextChain] at h; subst h
    cases f <;> simp [iter]
  | b :: bs, a, f, h, h0, hf => by
    obtain ⟨rfl, h'⟩ := h
    obtain ⟨f', rfl⟩ := Nat.exists_eq_add_one_of_ne_zero (Nat.ne_zero_of_lt hf)
    have hb : a ≠ 0 := fun e => h0 (by simp [e])
    simp only [iter, hb, ↓reduceIte, List.map_cons, List.cons.injEq, true_and]
    exact iter_of_chain s bs _ f' h' (fun h => h0 (by simp [h])) (by simp only [List.length_cons] at hf; omega)

/-! ### the ring read backwards is a ring -/

def flip (s : Store) : Store := { s with prev := s.next, next := s.prev }

theorem flip_flip (s : Store) : flip (flip s) = s := rfl

theorem linked_snoc (t : Store) : ∀ (m : List Nat) (y x : Nat), Linked t (m ++ [y]) → t.next y = x → t.prev x = y →
    Linked t (m ++ [y] ++ [x])
  | [], _, _, _, h1, h2 => ⟨h1, h2, trivial⟩
  | [_], _, _, h, h1, h2 => by
    obtain ⟨ha, hb, _⟩ := h
    exact ⟨ha, hb, h1, h2, trivial⟩
  | a :: b :: m, y, x, h, h1, h2 => by
    obtain ⟨ha, hb, hr⟩ := h
    exact ⟨ha, hb, linked_snoc t (b :: m) y x hr h1 h2⟩

theorem linked_reverse (s : Store) : ∀ (l : List Nat), Linked s l → Linked (flip s) l.reverse
  | [], _ => trivial
  | [_], _ => trivial
  | x :: y :: r, h => by
    obtain ⟨h1, h2, hr⟩ := h
    have ih := linked_reverse s (y :: r) hr
    simp only [List.reverse_cons] at ih ⊢
    exact linked_snoc (flip s) r.reverse y x ih h2 h1

theorem reprA_flip {s : Store} {as L : List Nat} (h : ReprA s as L) : ReprA (flip s) as.reverse L.reverse where
  linked := by
    have := linked_reverse s (0 :: as ++ [0]) h.linked
    simpa using this
  keys := by rw [List.map_reverse]; exact congrArg List.reverse h.keys
  nodup := (List.reverse_perm as).nodup_iff.mpr h.nodup
  nz := fun hm => h.nz (List.mem_reverse.mp hm)
  bound := fun a ha => h.bound a (List.mem_reverse.mp ha)
  len := by rw [List.length_reverse]; exact h.len
  knodup := (List.reverse_perm L).nodup_iff.mpr h.knodup
  mapIn := fun a ha => h.mapIn a (List.mem_reverse.mp ha)
  mapOut := fun k hk => h.mapOut k (fun hm => hk (List.mem_reverse.mpr hm))

theorem repr_flip {s : Store} {L : List Nat} (h : Repr s L) : Repr (flip s) L.reverse :=
  let ⟨_, ha⟩ := h
  ⟨_, reprA_flip ha⟩

theorem reversed_flip : ∀ (f : Nat) (s : Store) (a : Nat), reversed f s a = iter f (flip s) a
  | 0, _, _ => rfl
  | f + 1, s, a => by
    unfold reversed iter
    rw [reversed_flip f]
    rfl

theorem reprA_toList {s : Store} {as L : List Nat} (h : ReprA s as L) :
    toList s = L ∧ toListRev s = L.reverse := by
  have fwd : ∀ {s as L}, ReprA s as L → toList s = L := fun h => by
    unfold toList
    rw [iter_of_chain _ _ _ _ (nextChain_of_linked _ _ 0 h.linked) h.nz (Nat.le_of_lt h.len), h.keys]
  -- the backward walk is the forward walk of the flipped store
  exact ⟨fwd h, (reversed_flip _ _ _).trans (fwd (reprA_flip h))⟩

theorem reprA_empty : ReprA empty [] [] where
  linked := by simp [Linked, empty]
  keys := rfl
  nodup := List.nodup_nil
  nz := by simp
  bound := by simp
  len := by simp [empty]
  knodup := List.nodup_nil
  mapIn := by simp
  mapOut := by simp [empty]

theorem reprA_map_some {s : Store} {as L : List Nat} (h : ReprA s as L) {k : Nat} (hk : k ∈ L) :
    ∃ a ∈ as, s.key a = k ∧ s.map k = some a := by
  rw [← h.keys] at hk
  obtain ⟨a, ha, rfl⟩ := List.mem_map.mp hk
  exact ⟨a, ha, rfl, h.mapIn a ha⟩

theorem add_of_mem {s : Store} {as L : List Nat} (h : ReprA s as L) {k : Nat} (hk : k ∈ L) : add k s = s := by
  obtain ⟨a, _, _, hm⟩ := reprA_map_some h hk
  unfold add; rw [hm]

/-- a non-empty list ends in some `p`, which — the members being distinct — occurs nowhere before: how the ring surgery gets hold of the
    cell before a given one (the sentinel itself when nothing precedes) -/
theorem exists_concat {α : Type} (x : α) (xs : List α) : ∃ P0 p, x :: xs = P0 ++ [p] ∧ ((x :: xs).Nodup → p ∉ P0) := by
  rcases List.eq_nil_or_concat (x :: xs) with h | ⟨P0, p, h⟩
  · cases h
  · rw [List.concat_eq_append] at h
    exact ⟨P0, p, h, fun nd hm => (List.nodup_append.mp (h ▸ nd)).2.2 p hm p List.mem_cons_self rfl⟩

theorem reprA_add {s : Store} {as L : List Nat} (h : ReprA s as L) {k : Nat} (hk : k ∉ L) :
    ReprA (add k s) (as ++ [s.fresh]) (L ++ [k]) := by
  have hm : s.map k = none := h.mapOut k hk
  have hfa : s.fresh ∉ as := fun hm' => Nat.lt_irrefl _ (h.bound _ hm')
  have hf0 : s.fresh ≠ 0 := Nat.ne_of_gt (Nat.lt_of_le_of_lt (Nat.zero_le _) h.len)
  have hfr : ∀ x ∈ 0 :: as, x ≠ s.fresh := by
    rintro x hx rfl
    exact (List.mem_cons.mp hx).elim hf0 hfa
  -- the ring before: P0 ++ [p] ++ [0] with p = the last cell (the sentinel itself when empty)
  obtain ⟨P0, p, hP, hpP0⟩ := exists_concat 0 as
  have hpP0 : p ∉ P0 := hpP0 (List.nodup_cons.mpr ⟨h.nz, h.nodup⟩)
  have hlinked := h.linked
  rw [hP, List.append_assoc, List.singleton_append, linked_split] at hlinked
  obtain ⟨hL1, hnp, hp0, _⟩ := hlinked
  have hpf : p ≠ s.fresh := hfr p (hP ▸ List.mem_append_right _ List.mem_cons_self)
  rw [add_absent hm, hp0]
  refine { linked := ?_, keys := ?_, nodup := ?_, nz := ?_, bound := ?_, len := ?_, knodup := ?_,
           mapIn := ?_, mapOut := ?_ }
  · -- the new ring: P0 ++ [p] ++ [fresh, 0]
    have hring' : 0 :: (as ++ [s.fresh]) ++ [0] = P0 ++ p :: s.fresh :: [0] := by
      rw [← List.cons_append, hP, List.append_assoc, List.append_assoc]; rfl
    rw [hring', linked_split]
    refine ⟨linked_congr _ (fun x hx => ?_) (fun y hy => ?_) hL1, ?_, ?_, ?_, ?_, trivial⟩
    · rw [List.dropLast_concat] at hx
      have hxp : x ≠ p := fun e => hpP0 (e ▸ hx)
      have hxf : x ≠ s.fresh := hfr x (hP ▸ List.mem_append_left _ hx)
      simp only [upd, hxp, hxf, ↓reduceIte]
    · have hyas : y ∈ as := by rw [← hP] at hy; exact hy
      have hy0 : y ≠ 0 := fun e => h.nz (e ▸ hyas)
      have hyf : y ≠ s.fresh := fun e => hfa (e ▸ hyas)
      simp only [upd, hy0, hyf, ↓reduceIte]
    · simp only [upd, ↓reduceIte]
    · simp only [upd, hf0, ↓reduceIte]
    · simp only [upd, hpf.symm, ↓reduceIte]
    · simp only [upd, ↓reduceIte]
  · rw [List.map_append, ← h.keys]
    congr 1
    · refine List.map_congr_left fun a ha => if_neg ?_
      exact fun e => hfa (e ▸ ha)
    · simp only [List.map_cons, List.map_nil, upd, ↓reduceIte]
  · exact nodup_snoc h.nodup hfa
  · exact fun hm' => (List.mem_append.mp hm').elim h.nz fun h' => hf0 (List.mem_singleton.mp h').symm
  · intro a ha
    rcases List.mem_append.mp ha with ha | ha
    · exact Nat.lt_succ_of_lt (h.bound a ha)
    · exact List.mem_singleton.mp ha ▸ Nat.lt_succ_self _
  · rw [List.length_append]
    exact Nat.succ_lt_succ h.len
  · exact nodup_snoc h.knodup hk
  · intro a ha
    rcases List.mem_append.mp ha with ha | ha
    · have haf : a ≠ s.fresh := fun e => hfa (e ▸ ha)
      have hka : s.key a ≠ k := fun e => hk (by rw [← h.keys, ← e]; exact List.mem_map_of_mem ha)
      simp only [upd, haf, ↓reduceIte, hka]
      exact h.mapIn a ha
    · rw [List.mem_singleton.mp ha]
      simp only [upd, ↓reduceIte]
  · intro k' hk'
    have hne : k' ≠ k := fun e => hk' (List.mem_append_right _ (List.mem_singleton.mpr e))
    simp only [upd, hne, ↓reduceIte]
    exact h.mapOut k' fun hm' => hk' (List.mem_append_left _ hm')

theorem reprA_discard_at {s : Store} {as1 as2 L : List Nat} {a : Nat} (h : ReprA s (as1 ++ a :: as2) L) :
    ReprA (discard (s.key a) s) (as1 ++ as2) (L.erase (s.key a)) := by
  have hm : s.map (s.key a) = some a := h.mapIn a (List.mem_append_right _ List.mem_cons_self)
  have hnd := h.nodup
  obtain ⟨hnd1, hnd2, h12'⟩ := List.nodup_append.mp hnd
  obtain ⟨ha2, hnd2'⟩ := List.nodup_cons.mp hnd2
  have ha1 : a ∉ as1 := fun hm' => h12' a hm' a List.mem_cons_self rfl
  have h12 : ∀ x ∈ as1, x ∉ as2 := fun x hx hx2 => h12' x hx x (List.mem_cons_of_mem _ hx2) rfl
  have hz1 : 0 ∉ as1 := fun hm' => h.nz (List.mem_append_left _ hm')
  have hz2 : 0 ∉ as2 := fun hm' => h.nz (List.mem_append_right _ (List.mem_cons_of_mem _ hm'))
  -- the ring is P0 ++ p :: a :: n :: N0 with 0 :: as1 = P0 ++ [p] and as2 ++ [0] = n :: N0
  obtain ⟨P0, p, hP, hpP0⟩ := exists_concat 0 as1
  have hpP0 : p ∉ P0 := hpP0 (List.nodup_cons.mpr ⟨hz1, hnd1⟩)
  obtain ⟨n, N0, hN⟩ : ∃ n N0, as2 ++ [0] = n :: N0 := by
    cases as2 with
    | nil => exact ⟨0, [], rfl⟩
    | cons b bs => exact ⟨b, bs ++ [0], rfl⟩
  have hring : 0 :: (as1 ++ a :: as2) ++ [0] = P0 ++ p :: a :: (n :: N0) := by
    have : 0 :: (as1 ++ a :: as2) ++ [0] = (0 :: as1) ++ a :: (as2 ++ [0]) := by
      simp only [List.cons_append, List.append_assoc]
    rw [this, hP, hN, List.append_assoc]; rfl
  have hlinked := h.linked
  rw [hring, linked_split] at hlinked
  obtain ⟨hL1, hnp, hpa, hna, hpn, hL3⟩ := hlinked
  have hnN0 : n ∉ N0 := by
    have : (n :: N0).Nodup := hN ▸ nodup_snoc hnd2' hz2
    exact (List.nodup_cons.mp this).1
  have hpmem : p ∈ 0 :: as1 := hP ▸ List.mem_append_right _ List.mem_cons_self
  have hnmem : n ∈ as2 ++ [0] := hN ▸ List.mem_cons_self
  have hln : ∀ y ∈ as1, y ≠ n := by
    rintro y hy rfl
    rcases List.mem_append.mp hnmem with h2 | h0
    · exact h12 _ hy h2
    · exact hz1 (List.mem_singleton.mp h0 ▸ hy)
  have hrp : ∀ x ∈ as2, x ≠ p := by
    rintro x hx rfl
    rcases List.mem_cons.mp hpmem with h0 | h1
    · exact hz2 (h0 ▸ hx)
    · exact h12 _ h1 hx
  refine { linked := ?_, keys := ?_, nodup := ?_, nz := ?_, bound := ?_, len := ?_, knodup := ?_,
           mapIn := ?_, mapOut := ?_ }
  · have hring' : 0 :: (as1 ++ as2) ++ [0] = P0 ++ p :: n :: N0 := by
      have : 0 :: (as1 ++ as2) ++ [0] = (0 :: as1) ++ (as2 ++ [0]) := by
        simp only [List.cons_append, List.append_assoc]
      rw [this, hP, hN, List.append_assoc]; rfl
    rw [hring', linked_split]
    refine ⟨linked_congr _ (fun x hx => ?_) (fun y hy => ?_) hL1, ?_, ?_, linked_congr _ (fun x hx => ?_) (fun y hy => ?_) hL3⟩
    · rw [List.dropLast_concat] at hx
      have : x ≠ p := fun e => hpP0 (e ▸ hx)
      rw [discard_next hm, hpa, if_neg this]
    · have hyas : y ∈ as1 := by rw [← hP] at hy; exact hy
      rw [discard_prev hm, hna, if_neg (hln y hyas)]
    · rw [discard_next hm, hpa, if_pos rfl, hna]
    · rw [discard_prev hm, hna, if_pos rfl, hpa]
    · have hx2 : x ∈ as2 := by rw [← hN, List.dropLast_concat] at hx; exact hx
      rw [discard_next hm, hpa, if_neg (hrp x hx2)]
    · have : y ≠ n := fun e => hnN0 (e ▸ hy)
      rw [discard_prev hm, hna, if_neg this]
  · rw [discard_key, ← h.keys, List.map_append, List.map_append, List.map_cons]
    have hk1 : s.key a ∉ as1.map s.key := by
      intro hm'
      have hkn := h.knodup
      rw [← h.keys, List.map_append, List.map_cons] at hkn
      exact (List.nodup_append.mp hkn).2.2 _ hm' _ List.mem_cons_self rfl
    rw [List.erase_append_right _ hk1, List.erase_cons_head]
  · exact List.nodup_append.mpr ⟨hnd1, hnd2', fun x hx y hy e => h12 x hx (e ▸ hy)⟩
  · exact fun hm' => (List.mem_append.mp hm').elim hz1 hz2
  · intro x hx
    rw [discard_fresh]
    exact h.bound x ((List.mem_append.mp hx).elim (List.mem_append_left _) fun h' => List.mem_append_right _ (List.mem_cons_of_mem _ h'))
  · rw [discard_fresh]
    have := h.len
    simp only [List.length_append, List.length_cons] at this ⊢
    omega
  · exact List.erase_sublist.nodup h.knodup
  · intro x hx
    have hxa : x ∈ as1 ++ a :: as2 :=
      (List.mem_append.mp hx).elim (List.mem_append_left _) fun h' => List.mem_append_right _ (List.mem_cons_of_mem _ h')
    have hxne : x ≠ a := by
      rintro rfl
      exact (List.mem_append.mp hx).elim ha1 ha2
    have hkx : s.key x ≠ s.key a := fun e => hxne (Option.some.inj ((h.mapIn x hxa).symm.trans (e ▸ hm)))
    rw [discard_key, discard_map hm, upd, if_neg hkx]
    exact h.mapIn x hxa
  · intro k' hk'
    rw [discard_map hm, upd]
    split
    · rfl
    · rename_i e
      exact h.mapOut k' fun hm' => hk' ((List.mem_erase_of_ne e).mpr hm')

theorem discard_of_not_mem {s : Store} {as L : List Nat} (h : ReprA s as L) {k : Nat} (hk : k ∉ L) : discard k s = s := by
  unfold discard; rw [h.mapOut k hk]

theorem repr_add {s : Store} {L : List Nat} (h : Repr s L) (k : Nat) : Repr (add k s) (if k ∈ L then L else L ++ [k]) := by
  obtain ⟨as, ha⟩ := h
  by_cases hk : k ∈ L
  · rw [add_of_mem ha hk, if_pos hk]; exact ⟨as, ha⟩
  · rw [if_neg hk]; exact ⟨_, reprA_add ha hk⟩

theorem repr_discard {s : Store} {L : List Nat} (h : Repr s L) (k : Nat) : Repr (discard k s) (L.erase k) := by
  obtain ⟨as, ha⟩ := h
  by_cases hk : k ∈ L
  · obtain ⟨a, hmem, rfl, _⟩ := reprA_map_some ha hk
    obtain ⟨as1, as2, rfl⟩ := List.append_of_mem hmem
    exact ⟨_, reprA_discard_at ha⟩
  · rw [discard_of_not_mem ha hk, List.erase_of_not_mem hk]; exact ⟨as, ha⟩

theorem repr_foldl_discard (ks : List Nat) (s : Store) (L : List Nat) (h : Repr s L) :
    Repr (ks.foldl (fun st k => discard k st) s) (ks.foldl (fun l k => l.erase k) L) :=
  List.foldl_rel h fun k _ _ _ h => repr_discard h k

theorem reprA_iter_hyps {s : Store} {as L : List Nat} (h : ReprA s as L) :
    NextChain s (s.next 0) as ∧ PrevChain s as ∧ as.Nodup ∧ 0 ∉ as ∧ (as.map s.key).Nodup ∧ MapOk s as ∧
      (∀ b bs, as = b :: bs → s.prev b ∉ bs) := by
  refine ⟨nextChain_of_linked s as 0 h.linked, prevChain_of_linked s as 0 h.linked, h.nodup, h.nz,
    by rw [h.keys]; exact h.knodup, h.mapIn, ?_⟩
  rintro b bs rfl
  have hl := h.linked
  simp only [List.cons_append, Linked] at hl
  rw [hl.2.1]
  exact fun hm => h.nz (List.mem_cons_of_mem _ hm)

theorem reprA_iterRem (p : Nat → Bool) {s : Store} {as L : List Nat} (h : ReprA s as L) :
    (iterRem p s.fresh s (s.next 0)).1 = L ∧
    Repr (iterRem p s.fresh s (s.next 0)).2 (L.filter (fun k => !p k)) := by
  obtain ⟨hn, hp, _, h0, hk, hm, hb⟩ := reprA_iter_hyps h
  have hboth := iterRem_both_fuel p as s (s.next 0) s.fresh hn hp h0 hk hm hb h.len
  rw [h.keys] at hboth
  refine ⟨hboth.1, ?_⟩
  rw [hboth.2]
  have hr := repr_foldl_discard (L.filter p) s L ⟨as, h⟩
  have hfe := OSet.foldl_discard_eq_filter (L.filter p) L h.knodup
  unfold OSet.discard at hfe
  rw [hfe] at hr
  have hf : L.filter (fun x => !(decide (x ∈ L.filter p))) = L.filter (fun k => !p k) := by
    apply List.filter_congr
    intro x hx
    simp [List.mem_filter, hx]
  rw [hf] at hr
  exact hr

theorem discard_flip (k : Nat) (s : Store) : discard k (flip s) = flip (discard k s) := by
  unfold discard
  show (match s.map k with | none => flip s | some a => _) = _
  cases s.map k <;> rfl

theorem reversedRem_flip (p : Nat → Bool) : ∀ (f : Nat) (s : Store) (a : Nat),
    reversedRem p f s a = ((iterRem p f (flip s) a).1, flip (iterRem p f (flip s) a).2)
  | 0, _, _ => rfl
  | f + 1, s, a => by
    unfold reversedRem iterRem
    by_cases h0 : a = 0
    · simp [h0]; rfl
    · simp only [h0, ↓reduceIte]
      have hkey : (flip s).key = s.key := rfl
      by_cases hp : p (s.key a) = true
      · simp only [hkey, hp, ↓reduceIte]
        rw [reversedRem_flip p f (discard (s.key a) s) ((discard (s.key a) s).prev a), discard_flip]
        rfl
      · simp only [hkey, hp, Bool.false_eq_true, ↓reduceIte]
        rw [reversedRem_flip p f s (s.prev a)]
        rfl

theorem reprA_reversedRem (p : Nat → Bool) {s : Store} {as L : List Nat} (h : ReprA s as L) :
    (reversedRem p s.fresh s (s.prev 0)).1 = L.reverse ∧
    Repr (reversedRem p s.fresh s (s.prev 0)).2 (L.filter (fun k => !p k)) := by
  rw [reversedRem_flip]
  have hf := reprA_iterRem p (reprA_flip h)
  refine ⟨hf.1, ?_⟩
  have := repr_flip hf.2
  rw [List.filter_reverse, List.reverse_reverse] at this
  exact this

theorem reprA_observers {s : Store} {as L : List Nat} (h : ReprA s as L) :
    ptrFirst s = L.head? ∧ ptrLast s = L.getLast? ∧ (∀ k, ptrMem k s = true ↔ k ∈ L) ∧ len s = L.length := by
  have first : ∀ {s as L}, ReprA s as L → ptrFirst s = L.head? := fun {s as L} h => by
    unfold ptrFirst
    cases has : as with
    | nil =>
      have hl := h.linked
      simp only [has, List.cons_append, List.nil_append, Linked] at hl
      rw [← h.keys, has]; simp [hl.1]
    | cons a r =>
      have hl := h.linked
      simp only [has, List.cons_append, Linked] at hl
      have ha0 : a ≠ 0 := fun e => h.nz (by rw [has]; simp [e])
      rw [← h.keys, has, hl.1]; simp [ha0]
  refine ⟨first h, ?_, ?_, ?_⟩
  · -- the last element is the first one of the flipped store
    exact (first (reprA_flip h)).trans List.head?_reverse
  · intro k
    unfold ptrMem
    constructor
    · intro hk
      apply Classical.byContradiction
      intro hn
      rw [h.mapOut k hn] at hk
      simp at hk
    · intro hk
      obtain ⟨a, _, _, hm⟩ := reprA_map_some h hk
      simp [hm]
  · unfold len; rw [(reprA_toList h).1]

theorem repr_runP_from (ops : List POp) (s : Store) (L : List Nat) (h : Repr s L) :
    Repr (ops.foldl (fun s op => applyP op s) s) (ops.foldl (fun l op => absP op l) L) :=
  List.foldl_rel h fun op _ _ _ h => by
    cases op with
    | add k => exact repr_add h k
    | discard k => exact repr_discard h k
    | iterRm ks => exact let ⟨_, ha⟩ := h; (reprA_iterRem (fun k => decide (k ∈ ks)) ha).2
    | riterRm ks => exact let ⟨_, ha⟩ := h; (reprA_reversedRem (fun k => decide (k ∈ ks)) ha).2

end Pyx.OSetPtr
