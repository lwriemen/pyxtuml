import PyxModel.Interp.Decode
import Gen.InterpShape
import Proofs.InterpScope
import Proofs.Lib.SimpSets
import Proofs.InterpNoMsg
import Proofs.InterpLaws


/-!
  C04 source tie, statement structure of the interpreter's handlers: a GENERIC interpreter of the first-order IR that
  translator/gen_interpshape.py extracts from bridgepoint/interpret.py (`ActionWalker.accept_*`, `SymbolTable`), over the
  configurations of the reference semantics (`Pyx.Interp.Cfg`, monad `M`), and the lemmas showing that the clauses of
  `Spec` (PyxModel/Interp/Spec.lean) equal that interpretation of the IR generated from the current source.

  The interpreter is defined once, for ANY IR value (`iCall`, `iStmt`, `iStmts`, `iHandlers`); the generated constants enter after
  it: in the `…_eq` lemmas (relate / unrelate: `…_form`, `…_agree`) and in the nodes and comparison terms that have a handler for
  a child (`iRunBody`, `elifListSem`, `elseClause`).  What it fixes, once, is the meaning of the ATOMS (the hand-modelled
  environment of the handlers):

    self.symtab.find_symbol / install_symbol / enter_block / leave_block   = Spec's lookupVar / install / pushBlock / popBlock
    self.symtab.enter_scope / leave_scope      = the scope head becomes one empty block / no block (a walker runs ONE body)
    self.domain.new / select_many / select_any = newInst / the instances of the class, filtered by the closure: all (QuerySet,
                                                 duplicate-free) / the first
    xtuml.relate / unrelate / delete           = State.relate / unrelate / deleteInst on instance handles
    xtuml.navigate_many / navigate_one, a step, calling the chain = startOf, navStepList, the chain's result (set / first)
    self.accept(node.<child>)                  = what the `Node` says the child does: an expression child delivers a value (a
                                                 property whose fget returns it), a statement child an outcome (a control
                                                 exception that propagates, or normal completion with a truth value returned)
    a control exception                        = an outcome `Out` other than normal; it skips the rest of every statement list
                                                 up to a `try` whose `except` names it
    Python truthiness of a condition           = Spec's asBool (the domain: conditions are booleans)

  Three further parts follow the handlers.  The wrapper `ActionWalker.accept` / `default_accept` has an interpreter of its own
  (`iW`, `iWs`), over computations in which a propagating `xtuml.MetaException` is a result and not a failure.  The generated
  `symtab` record is interpreted over the Python scope (`pyFind` … `pyLookupVar`).  The invariant `EnvUnique` (a name is held by
  at most one block of a scope), kept by every statement (`unique_run`), is what `lookupVar_eq` needs to identify `Spec`'s
  `lookupVar` with `pyLookupVar symtab`: the two search the blocks in opposite orders.
-/
namespace Pyx.IShape
open Pyx.Interp Pyx.Interp.M Pyx.Gen.InterpShape

/-- what an assignable access evaluates to (`accept_VariableAccessNode` / `accept_FieldAccessNode`: a property with a setter) -/
inductive LVal where
  | var (x : String)
  | field (i : Inst) (name : String)

/-- what a Python local of a handler holds -/
inductive PV where
  | val (v : Val)                        -- a value, or a property whose getter returns it
  | lval (l : LVal)                      -- a property with a setter
  | closure (f : Inst → M Val)           -- `def where(selected): …`
  | chain (many : Bool) (l : List Inst)  -- a NavChain (navigate_many) / NavOneChain (navigate_one) and the instances reached
  | child (m : M (Out × Bool))           -- an element of `node.children`
  | step (s : NavStep)                   -- an element of `self.accept(node.navigation_chain)`
  | table (which : String)               -- an operator dict
  | key                                  -- the normalised operator lexeme
  | unset
  | getter (m : M Val)                   -- `partial(find_symbol, name)`: evaluated when called
  | setter (f : Val → M Unit)            -- `partial(install_symbol, name)`
  | lazy (get : M Val) (set : Val → M Unit)   -- a property whose getter / setter run when `fget()` / `fset(v)` is called
  | list (l : List PV)                   -- what a generator has yielded so far
  | pchild (m : M NavStep)               -- an element of `node.children` whose handler RETURNS a navigation step closure

abbrev Locals := List (String × PV)

def Locals.get (L : Locals) (x : String) : PV := (L.lookup x).getD .unset
def Locals.set (L : Locals) (x : String) (v : PV) : Locals := (x, v) :: L

/-- the node a handler is applied to: its string fields, flags, optional fields, and what accepting a child does -/
structure Node where
  str : String → String := fun _ => ""
  flag : String → Bool := fun _ => false
  present : String → Bool := fun _ => false                 -- `node.<f> is not None`
  bop : BinOp := .add                                        -- the operator named by `node.operator.lower()`
  uop : UnOp := .neg
  acceptE : String → Option (M Val) := fun _ => none         -- expression children
  acceptL : String → Option (M LVal) := fun _ => none        -- assignable-access children
  acceptS : String → M (Out × Bool) := fun _ => pure (.normal, false)   -- statement children; `accept(None)` returns None
  children : List (M (Out × Bool)) := []
  pchildren : List (M NavStep) := []                         -- children whose handlers return a step closure (NavigationListNode)
  steps : String → List NavStep := fun _ => []
  again : M Out := pure .normal                              -- `while`: the loop once more (Spec: the oracle, one fuel less)
  getAttr : Inst → String → M Val := fun _ _ => fail "getattr"            -- `getattr(<instance>, name)`
  setAttr : Inst → String → Val → M Unit := fun _ _ _ => fail "setattr"   -- `setattr(<instance>, name, value)`

/-- how a statement list is left -/
inductive Sig where
  | next                    -- fell through
  | exc (o : Out)           -- a control exception propagates
  | ret (v : PV)            -- `return …`
  | cont | brk              -- Python `continue` / `break`

def nameOf (nd : Node) : Name → String
  | .field f => nd.str f
  | .fieldNoTicks f => stripTicks (nd.str f)
  | .lit s => s

def excOf : Out → Option Exc
  | .normal => none
  | .brk => some .breakExc
  | .cont => some .continueExc
  | .ret => some .returnExc
  | .retBare => some .returnExc
  | .stop => some .stopExc

/-- `raise <e>()`; Spec's two return outcomes record whether this handler stored a return value -/
def outOf (L : Locals) : Exc → Out
  | .breakExc => .brk
  | .continueExc => .cont
  | .stopExc => .stop
  | .returnExc => match L.get "return_value" with
    | .unset => .retBare
    | _ => .ret

def pvInst (what : String) : PV → M Inst
  | .val v => asInst v
  | _ => fail (what ++ ": not a value")

def filterAllM (p : Inst → M Bool) : List Inst → M (List Inst)
  | [] => pure []
  | c :: rest => do
    let t ← p c
    let r ← filterAllM p rest
    pure (if t then c :: r else r)

def filterFirstM (p : Inst → M Bool) : List Inst → M (Option Inst)
  | [] => pure none
  | c :: rest => do
    let t ← p c
    if t then pure (some c) else filterFirstM p rest

/-- `QuerySet(filter(where, cands))` / `next(iter(filter(where, cands)), None)`; the closure's result is used as a truth value -/
def selRes (many : Bool) (cands : List Inst) (wh : Option (Inst → M Val)) : M Val :=
  match many, wh with
  | true, none => pure (.set (dedup cands))
  | true, some w => do
    let l ← filterAllM (fun c => do let v ← w c; asBool v) cands
    pure (.set (dedup l))
  | false, none => pure (match cands with | [] => .none | c :: _ => .inst c)
  | false, some w => do
    let r ← filterFirstM (fun c => do let v ← w c; asBool v) cands
    pure (match r with | none => .none | some c => .inst c)

def closureOf (L : Locals) : Option String → M (Option (Inst → M Val))
  | none => pure none
  | some w => match L.get w with
    | .closure f => pure (some f)
    | _ => fail "not a closure"

def poolOf (C : Ctx) (cls : String) : M (List Inst) :=
  querySt (fun st => match findClass C cls with
    | none => .error ⟨"unknown class " ++ cls⟩
    | some _ => .ok (st.instances cls))

/-- calling a local: a navigation step applied to a chain, or a chain called with an optional closure -/
def callLocal (C : Ctx) (L : Locals) (fn : String) (args : List String) : M PV :=
  match L.get fn, args with
  | .step s, [c] => match L.get c with
    | .chain m l => do
      let l' ← querySt (fun st => navStepList C st l s)
      pure (.chain m l')
    | _ => fail "a navigation step is applied to a chain"
  | .chain m l, [] => do
    let r ← selRes m l none
    pure (.val r)
  | .chain m l, [w] => do
    let f ← closureOf L (some w)
    let r ← selRes m l f
    pure (.val r)
  | _, _ => fail "call of a local that is not callable"

def acceptRes (r : Out × Bool) : Except Out PV :=
  match r.1 with
  | .normal => .ok (.val (.bool r.2))
  | o => .error o

/-- one call: `.ok v` = its value, `.error o` = the control exception that left it -/
def iCall (C : Ctx) (nd : Node) (L : Locals) : PyCall → M (Except Out PV)
  | .findSymbol n => do
    let v ← lookupVar C (nameOf nd n)
    pure (.ok (.val v))
  | .installSymbol n v =>
    match L.get v with
    | .val x => do
      install (nameOf nd n) x
      pure (.ok (.val .none))
    | _ => fail "install_symbol: not a value"
  | .installSymbolCall n fn args => do
    let r ← callLocal C L fn args
    match r with
    | .val x => do
      install (nameOf nd n) x
      pure (.ok (.val .none))
    | _ => fail "install_symbol: not a value"
  | .enterScope => do
    setEnv [[]]
    pure (.ok (.val .none))
  | .leaveScope => do
    setEnv []
    pure (.ok (.val .none))
  | .enterBlock => do
    pushBlock
    pure (.ok (.val .none))
  | .leaveBlock => do
    popBlock
    pure (.ok (.val .none))
  | .accept child =>
    match nd.acceptE child with
    | some m => do
      let v ← m
      pure (.ok (.val v))
    | none =>
      match nd.acceptL child with
      | some m => do
        let l ← m
        pure (.ok (.lval l))
      | none => do
        let r ← nd.acceptS child
        pure (acceptRes r)
  | .acceptFget child =>
    match nd.acceptE child with
    | some m => do
      let v ← m
      pure (.ok (.val v))
    | none => fail "fget of something that is not an expression"
  | .acceptLocal v =>
    match L.get v with
    | .child m => do
      let r ← m
      pure (acceptRes r)
    | .pchild m => do
      let s ← m
      pure (.ok (.step s))
    | _ => fail "accept of a local that is not a node"
  | .fget v =>
    match L.get v with
    | .val x => pure (.ok (.val x))
    | .lazy g _ => do
      let x ← g
      pure (.ok (.val x))
    | _ => fail "fget of something that is not a property"
  | .fset v w =>
    match L.get v, L.get w with
    | .lval (.var x), .val y => do
      install x y
      pure (.ok (.val .none))
    | .lval (.field i name), .val y => do
      writeField C i name y
      pure (.ok (.val .none))
    | .lazy _ st, .val y => do
      st y
      pure (.ok (.val .none))
    | _, _ => fail "fset"
  | .domainNew cls => do
    let i ← modifyGet (newInst C (nameOf nd cls))
    pure (.ok (.val (.inst i)))
  | .selectMany cls wh => do
    let cands ← poolOf C (nameOf nd cls)
    let f ← closureOf L wh
    let r ← selRes true cands f
    pure (.ok (.val r))
  | .selectAny cls wh => do
    let cands ← poolOf C (nameOf nd cls)
    let f ← closureOf L wh
    let r ← selRes false cands f
    pure (.ok (.val r))
  | .relate a b rel phrase => do
    let x ← pvInst "relate" (L.get a)
    let y ← pvInst "relate" (L.get b)
    modifySt (relate C x y (nameOf nd rel) (nameOf nd phrase))
    pure (.ok (.val (.bool true)))
  | .unrelate a b rel phrase => do
    let x ← pvInst "unrelate" (L.get a)
    let y ← pvInst "unrelate" (L.get b)
    modifySt (unrelate C x y (nameOf nd rel) (nameOf nd phrase))
    pure (.ok (.val (.bool true)))
  | .delete a => do
    let x ← pvInst "delete" (L.get a)
    modifySt (deleteInst x)
    pure (.ok (.val .none))
  | .navigateMany h =>
    match L.get h with
    | .val v => do
      let l ← startOf v
      pure (.ok (.chain true l))
    | _ => fail "navigate: not a value"
  | .navigateOne h =>
    match L.get h with
    | .val v => do
      let l ← startOf v
      pure (.ok (.chain false l))
    | _ => fail "navigate: not a value"
  | .callLocal fn args => do
    let r ← callLocal C L fn args
    pure (.ok r)
  | .opsTable which => pure (.ok (.table which))
  | .lowerField _ => pure (.ok .key)
  | .applyOp table key args =>
    match L.get table, L.get key, args with
    | .table "binary", .key, [a, b] =>
      match L.get a, L.get b with
      | .val x, .val y => do
        let r ← liftE (binop nd.bop x y)
        pure (.ok (.val r))
      | _, _ => fail "operands"
    | .table "unary", .key, [a] =>
      match L.get a with
      | .val x => do
        let r ← liftE (unop nd.uop x)
        pure (.ok (.val r))
      | _ => fail "operand"
    | _, _, _ => fail "operator table"
  | .property v =>
    match L.get v with
    | .val x => pure (.ok (.val x))
    | _ => fail "property of something that is not a value"
  | .fieldVal f => pure (.ok (.val (.str (nd.str f))))
  | .stripFirstLast f => pure (.ok (.val (.str (String.ofList (((nd.str f).toList.drop 1).dropLast)))))
  | .upperEq f s => pure (.ok (.val (.bool (asciiUpper (nd.str f) == s))))
  | .lowerEq f s => pure (.ok (.val (.bool (asciiLower (nd.str f) == s))))
  | .intOf f =>
    match (nd.str f).toInt? with
    | some i => pure (.ok (.val (.int i)))
    | none => fail "int(): not a numeral"
  | .floatOf _ => fail "reals are not modelled"
  | .propertyAttr gh gn sh sn =>
    pure (.ok (.lazy (do let i ← pvInst "getattr" (L.get gh); nd.getAttr i (nameOf nd gn))
                     (fun v => do let i ← pvInst "setattr" (L.get sh); nd.setAttr i (nameOf nd sn) v)))
  | .partialFind n _ => pure (.ok (.getter (lookupVar C (nameOf nd n))))
  | .partialInstall n => pure (.ok (.setter (fun v => install (nameOf nd n) v)))
  | .property2 g st =>
    match L.get g, L.get st with
    | .getter m, .setter f => pure (.ok (.lazy m f))
    | _, _ => fail "property(fget, fset)"
  | .navClosure args =>
    match args with
    | [kl, rel, ph] => pure (.ok (.step ⟨nameOf nd kl, nameOf nd rel, nameOf nd ph⟩))
    | _ => fail "chain.nav takes a key letter, a rel id and a phrase"

/-- a Python `for` loop over `items`: `continue` and falling through go on, `break` ends the loop, anything else leaves it -/
def iLoop {α : Type} (body : α → Locals → M (Locals × Sig)) : List α → Locals → M (Locals × Sig)
  | [], L => pure (L, .next)
  | x :: rest, L => do
    let r ← body x L
    match r.2 with
    | .next => iLoop body rest r.1
    | .cont => iLoop body rest r.1
    | .brk => pure (r.1, .next)
    | s => pure (r.1, s)

/-- the value a closure call returns -/
def closureRun (m : M (Locals × Sig)) : M Val := do
  let r ← m
  match r.2 with
  | .ret (.val v) => pure v
  | _ => fail "the closure did not return a value"

def againSig (nd : Node) (L : Locals) : M (Locals × Sig) := do
  let o ← nd.again
  match o with
  | .normal => pure (L, .next)
  | o => pure (L, .exc o)

/-- sequencing: the rest of a statement list runs only if the statement fell through -/
def thenSig (r : Locals × Sig) (k : Locals → M (Locals × Sig)) : M (Locals × Sig) :=
  match r.2 with
  | .next => k r.1
  | s => pure (r.1, s)

mutual
  def iStmt (C : Ctx) (nd : Node) : PyStmt → Locals → M (Locals × Sig)
    | .assign dst c, L => do
      let r ← iCall C nd L c
      match r with
      | .ok v => pure (L.set dst v, .next)
      | .error o => pure (L, .exc o)
    | .expr c, L => do
      let r ← iCall C nd L c
      match r with
      | .ok _ => pure (L, .next)
      | .error o => pure (L, .exc o)
    | .setReturnValue c, L => do
      let r ← iCall C nd L c
      match r with
      | .ok (.val v) => do
        setRet v
        pure (L.set "return_value" (.val v), .next)
      | .ok _ => fail "return_value: not a value"
      | .error o => pure (L, .exc o)
    | .raise e, L => pure (L, .exc (outOf L e))
    | .ret c, L => do
      let r ← iCall C nd L c
      match r with
      | .ok v => pure (L, .ret v)
      | .error o => pure (L, .exc o)
    | .retTrue, L => pure (L, .ret (.val (.bool true)))
    | .pass, L => pure (L, .next)
    | .continue_, L => pure (L, .cont)
    | .break_, L => pure (L, .brk)
    | .ifNode flag thn els, L => if nd.flag flag then iStmts C nd thn L else iStmts C nd els L
    | .ifNodeNotNone fld thn els, L => if nd.present fld then iStmts C nd thn L else iStmts C nd els L
    | .ifCall negated c thn els, L => do
      let r ← iCall C nd L c
      match r with
      | .ok (.val v) => do
        let t ← asBool v
        if t != negated then iStmts C nd thn L else iStmts C nd els L
      | .ok _ => fail "condition: not a value"
      | .error o => pure (L, .exc o)
    | .tryExcept body hs, L => do
      let r ← iStmts C nd body L
      match r.2 with
      | .exc o => iHandlers C nd hs o r.1
      | s => pure (r.1, s)
    | .forIn var iter body, L =>
      match L.get iter with
      | .val (.set items) => iLoop (fun i L' => iStmts C nd body (L'.set var (.val (.inst i)))) items L
      | _ => fail "for each over a value that is not an instance set"
    | .forChildren var body, L =>
      match nd.pchildren with
      | [] => iLoop (fun m L' => iStmts C nd body (L'.set var (.child m))) nd.children L
      | ps => iLoop (fun m L' => iStmts C nd body (L'.set var (.pchild m))) ps L
    | .forAccept var child body, L =>
      iLoop (fun s L' => iStmts C nd body (L'.set var (.step s))) (nd.steps child) L
    | .whileCall c body, L => do
      let r ← iCall C nd L c
      match r with
      | .ok (.val v) => do
        let t ← asBool v
        if t then do
          let r ← iStmts C nd body L
          match r.2 with
          | .next => againSig nd r.1
          | .cont => againSig nd r.1
          | .brk => pure (r.1, .next)
          | s => pure (r.1, s)
        else pure (L, .next)
      | .ok _ => fail "condition: not a value"
      | .error o => pure (L, .exc o)
    | .defClosure name param body, L =>
      pure (L.set name (.closure (fun i => closureRun (iStmts C nd body (L.set param (.val (.inst i)))))), .next)
    | .yield_ c, L => do
      let r ← iCall C nd L c
      match r with
      | .ok v => pure (L.set "$yield" (.list ((match L.get "$yield" with | .list l => l | _ => []) ++ [v])), .next)
      | .error o => pure (L, .exc o)
  def iStmts (C : Ctx) (nd : Node) : List PyStmt → Locals → M (Locals × Sig)
    | [], L => pure (L, .next)
    | s :: rest, L => do
      let r ← iStmt C nd s L
      thenSig r (iStmts C nd rest)
  /-- the `except` clauses in order: the first that names the exception runs -/
  def iHandlers (C : Ctx) (nd : Node) : List (Exc × List PyStmt) → Out → Locals → M (Locals × Sig)
    | [], o, L => pure (L, .exc o)
    | (e, b) :: rest, o, L => if excOf o = some e then iStmts C nd b L else iHandlers C nd rest o L
end

theorem thenSig_next (L : Locals) (k : Locals → M (Locals × Sig)) : thenSig (L, .next) k = k L := rfl
theorem thenSig_exc (L : Locals) (o : Out) (k : Locals → M (Locals × Sig)) : thenSig (L, .exc o) k = pure (L, .exc o) := rfl
theorem thenSig_ret (L : Locals) (v : PV) (k : Locals → M (Locals × Sig)) : thenSig (L, .ret v) k = pure (L, .ret v) := rfl
theorem thenSig_cont (L : Locals) (k : Locals → M (Locals × Sig)) : thenSig (L, .cont) k = pure (L, .cont) := rfl
theorem thenSig_brk (L : Locals) (k : Locals → M (Locals × Sig)) : thenSig (L, .brk) k = pure (L, .brk) := rfl
theorem thenSig_pure (r : Locals × Sig) : thenSig r (fun L => pure (L, .next)) = pure r := by
  cases r with | mk a b => cases b <;> rfl

/-- a statement handler: the outcome (None is returned) -/
def sigOut : Sig → M Out
  | .exc o => pure o
  | .cont => fail "continue outside a Python loop"
  | .brk => fail "break outside a Python loop"
  | _ => pure .normal

def handlerS (C : Ctx) (nd : Node) (body : List PyStmt) : M Out := do
  let r ← iStmts C nd body []
  sigOut r.2

/-- a handler whose return value is used as a truth value (`accept_ElIfListNode`, `accept_ElIfNode`): True, or None -/
def sigT : Sig → M (Out × Bool)
  | .exc o => pure (o, false)
  | .ret (.val (.bool b)) => pure (.normal, b)
  | .ret _ => fail "the handler returned something else than True"
  | .next => pure (.normal, false)
  | .cont => fail "continue outside a Python loop"
  | .brk => fail "break outside a Python loop"

def handlerT (C : Ctx) (nd : Node) (body : List PyStmt) : M (Out × Bool) := do
  let r ← iStmts C nd body []
  sigT r.2

/-- an expression handler: the value of the property it returns -/
def sigE : Sig → M Val
  | .ret (.val v) => pure v
  | _ => fail "the handler did not return a property"

def handlerE (C : Ctx) (nd : Node) (body : List PyStmt) : M Val := do
  let r ← iStmts C nd body []
  sigE r.2

theorem asInst_inst (i : Inst) : asInst (.inst i) = pure i := rfl
theorem pure_run {α : Type} (a : α) (c : Cfg) : (pure a : M α) c = some (.ok (a, c)) := Pyx.Interp.pure_run a c
theorem modifySt_run (f : State → Except Err State) (c : Cfg) :
    modifySt f c = match f c.st with
      | .ok st' => some (.ok ((), { c with st := st' }))
      | .error e => some (.error e) := rfl

theorem asInst_run (v : Val) : (∃ i, v = .inst i) ∨ (∃ msg, asInst v = M.fail msg) := by
  cases v <;> first | exact .inl ⟨_, rfl⟩ | exact .inr ⟨_, rfl⟩


/-! ### the nodes the handlers are applied to, and what the interpretation is compared with -/

def strNode (fields : List (String × String)) : Node := { str := fun f => (fields.lookup f).getD "" }

def relNode (a b rel ph u : String) : Node :=
  strNode [("from_variable_name", a), ("to_variable_name", b), ("rel_id", rel), ("phrase", ph), ("using_variable_name", u)]

def selectFromNode (many : Bool) (v cls : String) (wh : Option (M Val)) : Node :=
  { str := fun f => ([("variable_name", v), ("key_letter", cls)].lookup f).getD ""
    flag := fun f => f == "many" && many
    acceptE := fun f => if f = "where_clause" then wh else none }

def returnNode (e : Option (M Val)) : Node :=
  { present := fun f => f == "expression" && e.isSome
    acceptE := fun f => if f = "expression" then e else none }

def stmtChild (rec : Oracle) (s : Interp.Stmt) : M (Out × Bool) := do
  let o ← rec.exec s
  pure (o, false)

def sigOfOut : Out → Sig
  | .normal => .next
  | o => .exc o

def listChild (rec : Oracle) (b : Block) : M (Out × Bool) := do
  let o ← execList rec b
  pure (o, false)

def blockNode (rec : Oracle) (b : Block) : Node :=
  { acceptS := fun f => if f = "statement_list" then listChild rec b else pure (.normal, false) }

/-- the block a control exception leaves is not left by the source (`leave_block` is skipped): `Spec` pops it -/
def unwindBlock (m : M Out) : M Out := do
  let o ← m
  match o with
  | .normal => pure .normal
  | o => do
    popBlock
    pure o

def blockChild (rec : Oracle) (b : Block) : M (Out × Bool) := do
  let o ← execBlock rec b
  pure (o, false)

def bodyNode (rec : Oracle) (body : Block) : Node :=
  { acceptS := fun f => if f = "block" then blockChild rec body else pure (.normal, false) }

/-- `accept_BodyNode`, and what becomes of a break / continue that no loop caught (the exception leaves the walker) -/
def iRunBody (C : Ctx) (rec : Oracle) (body : Block) : M Unit := do
  let o ← handlerS C (bodyNode rec body) accept_BodyNode
  match o with
  | .brk => fail "break outside a loop"
  | .cont => fail "continue outside a loop"
  | _ => pure ()

/-- a callable runs in a NEW walker: its symbol table has no scope yet (`self._scopes = list()`) -/
def iInvoke (C : Ctx) (rec : Oracle) (kind : WalkerKind) (body : Block) (kw : List (String × Val)) (self : Val) : M Val :=
  fun c =>
    match iRunBody C rec body { fr := { mkFrame kind kw self with env := [] }, st := c.st } with
    | none => none
    | some (.error e) => some (.error e)
    | some (.ok (_, c')) => some (.ok (c'.fr.ret, { fr := c.fr, st := c'.st }))

def exprChild (f : String) (m : M Val) : String → Option (M Val) := fun g => if g = f then some m else none

def stmtChildAt (f : String) (m : M (Out × Bool)) : String → M (Out × Bool) :=
  fun g => if g = f then m else pure (.normal, false)

def whileNode (rec : Oracle) (c : Expr) (body : Block) : Node :=
  { acceptE := exprChild "expression" (rec.eval c)
    acceptS := stmtChildAt "block" (blockChild rec body)
    again := rec.exec (.whileS c body) }

def forEachNode (rec : Oracle) (v setv : String) (body : Block) : Node :=
  { str := fun f => ([("instance_variable_name", v), ("set_variable_name", setv)].lookup f).getD ""
    acceptS := stmtChildAt "block" (blockChild rec body) }

def elifNode (rec : Oracle) (cb : Expr × Block) : Node :=
  { acceptE := exprChild "expression" (rec.eval cb.1)
    acceptS := stmtChildAt "block" (blockChild rec cb.2) }

/-- `accept_ElIfNode`: None when the condition is false; the block's exception; else True -/
def elifSem (rec : Oracle) (cb : Expr × Block) : M (Out × Bool) := do
  let v ← rec.eval cb.1
  let t ← asBool v
  if t then do
    let o ← execBlock rec cb.2
    pure (o, decide (o = .normal))
  else pure (.normal, false)

def elseSem (rec : Oracle) : Option Block → M Out
  | none => pure .normal
  | some b => execBlock rec b

/-- what `accept_IfNode` does with the result of `self.accept(node.elif_list)` -/
def afterElifs (rec : Oracle) (els : Option Block) (x : Out × Bool) : M Out :=
  match x.1 with
  | .normal => if x.2 then pure .normal else elseSem rec els
  | o => pure o

def elifListSem (C : Ctx) (rec : Oracle) (elifs : List (Expr × Block)) : M (Out × Bool) :=
  handlerT C { children := elifs.map (fun cb => handlerT C (elifNode rec cb) accept_ElIfNode) } accept_ElIfListNode

def elseClause (C : Ctx) (rec : Oracle) : Option Block → M (Out × Bool)
  | none => pure (.normal, false)          -- `self.accept(None)` returns None
  | some b => do
    let o ← handlerS C { acceptS := stmtChildAt "block" (blockChild rec b) } accept_ElseNode
    pure (o, false)

def ifNode (C : Ctx) (rec : Oracle) (c : Expr) (thn : Block) (elifs : List (Expr × Block)) (els : Option Block) : Node :=
  { acceptE := exprChild "expression" (rec.eval c)
    acceptS := fun f => if f = "block" then blockChild rec thn else if f = "elif_list" then elifListSem C rec elifs
      else if f = "else_clause" then elseClause C rec els else pure (.normal, false) }

def assignNode (e : M Val) (l : M LVal) : Node :=
  { acceptE := exprChild "expression" e
    acceptL := fun f => if f = "variable_access" then some l else none }

/-- `accept_FieldAccessNode` as an assignment target: the handle is evaluated, the attribute is written by `fset` -/
def fieldAccess (rec : Oracle) (h : Expr) (name : String) : M LVal := do
  let hv ← rec.eval h
  let i ← asInst hv
  pure (.field i name)

def binNode (op : BinOp) (l r : M Val) : Node :=
  { bop := op, acceptE := fun f => if f = "left" then some l else if f = "right" then some r else none }

def unNode (op : UnOp) (e : M Val) : Node := { uop := op, acceptE := exprChild "operand" e }

def selRelNode (many : Bool) (v : String) (h : M Val) (chain : List NavStep) (wh : Option (M Val)) : Node :=
  { str := fun f => ([("variable_name", v)].lookup f).getD ""
    flag := fun f => f == "many" && many
    acceptE := fun f => if f = "handle" then some h else if f = "where_clause" then wh else none
    steps := fun f => if f = "navigation_chain" then chain else [] }

/-- a handler that returns a property object: the object -/
def sigP : Sig → M PV
  | .ret v => pure v
  | _ => fail "the handler did not return"

def handlerP (C : Ctx) (nd : Node) (body : List PyStmt) : M PV := do
  let r ← iStmts C nd body []
  sigP r.2

/-- `<property>.fget()` / `<property>.fset(v)` -/
def propGet : PV → M Val
  | .val x => pure x
  | .lazy g _ => g
  | _ => fail "fget of something that is not a property"

def propSet (v : Val) : PV → M Unit
  | .lazy _ st => st v
  | _ => fail "fset of something that has no setter"

def fieldNode (C : Ctx) (rec : Oracle) (h : M Val) (name : String) : Node :=
  { str := fun f => ([("name", name)].lookup f).getD ""
    acceptE := exprChild "handle" h
    getAttr := readField C rec
    setAttr := writeField C }

/-- accept_ElIfListNode: the children in order; the first that returns True ends the search (True); a control exception
    leaves; no child true: None -/
def firstTaken (rec : Oracle) : List (Expr × Block) → M (Out × Bool)
  | [] => pure (.normal, false)
  | cb :: rest => do
    let x ← elifSem rec cb
    match x.1 with
    | .normal => if x.2 then pure (.normal, true) else firstTaken rec rest
    | o => pure (o, false)

/-- what a generator body has yielded so far -/
def yielded (L : Locals) : List PV :=
  match L.get "$yield" with
  | .list l => l
  | _ => []
/-! ### the equations of the IR interpreter

  A handler is run by unfolding `iStmt` / `iCall` (both are in the simp set `ishape`): node and locals of a handler lemma are
  concrete, so every `match` on a local or on an expression child reduces.  Stated as equations of their own are
  `assign_call / expr_call / ret_call` (with `assignK / exprK / retK`: the call fused into the statement, so that the `match` on
  the call's result is met once: without them the same proofs go through, at about a sixth more work for Lean) and `expr_accept /
  ifCall_accept / tryLoop_eq`: a STATEMENT child is accepted, whose outcome is not known, so the `match` on it stays
  (`afterChild`). -/

attribute [ishape] bnd_assoc pure_bnd bnd_pure fail_bnd nameOf excOf cond_true cond_false Option.elim_some Option.elim_none
  thenSig_next thenSig_exc thenSig_ret thenSig_cont thenSig_brk thenSig_pure Bool.true_and Bool.false_and Bool.and_true
  Bool.and_false Bool.false_eq_true Bool.not_true Bool.not_false bne_self_eq_false Bool.true_bne Bool.false_bne

@[ishape] theorem get_set (L : Locals) (x y : String) (v : PV) : (L.set y v).get x = bif x == y then v else L.get x := by
  simp only [Locals.get, Locals.set, List.lookup]
  cases x == y <;> rfl
@[ishape] theorem get_nil (x : String) : Locals.get [] x = .unset := rfl
theorem get_set_eq (L : Locals) (x : String) (v : PV) : (L.set x v).get x = v := by
  simp only [get_set, BEq.rfl, cond_true]

@[ishape] theorem pvInst_val (what : String) (v : Val) : pvInst what (.val v) = asInst v := rfl

def afterChild (r : Out × Bool) (L : Locals) (k : M (Locals × Sig)) : M (Locals × Sig) :=
  match r.1 with
  | .normal => k
  | o => pure (L, .exc o)


section
variable (C : Ctx) (nd : Node) (L : Locals) (rest : List PyStmt) (d : String)

def assignK (C : Ctx) (nd : Node) (rest : List PyStmt) (L : Locals) (d : String) : Except Out PV → M (Locals × Sig)
  | .ok v => iStmts C nd rest (L.set d v)
  | .error o => pure (L, .exc o)
def exprK (C : Ctx) (nd : Node) (rest : List PyStmt) (L : Locals) : Except Out PV → M (Locals × Sig)
  | .ok _ => iStmts C nd rest L
  | .error o => pure (L, .exc o)
def retK (L : Locals) : Except Out PV → M (Locals × Sig)
  | .ok v => pure (L, .ret v)
  | .error o => pure (L, .exc o)
attribute [ishape] iStmt iCall
@[ishape] theorem iStmts_nil : iStmts C nd [] L = pure (L, .next) := rfl
@[ishape 10] theorem iStmts_cons (s : PyStmt) :
    iStmts C nd (s :: rest) L = iStmt C nd s L >>= fun r => thenSig r (iStmts C nd rest) := rfl
@[ishape] theorem assignK_ok (v : PV) : assignK C nd rest L d (.ok v) = iStmts C nd rest (L.set d v) := rfl
@[ishape] theorem exprK_ok (v : PV) : exprK C nd rest L (.ok v) = iStmts C nd rest L := rfl
@[ishape] theorem retK_ok (v : PV) : retK L (.ok v) = pure (L, .ret v) := rfl
@[ishape low] theorem assign_call (c : PyCall) : iStmts C nd (.assign d c :: rest) L = iCall C nd L c >>= assignK C nd rest L d := by
  simp only [iStmts, iStmt, bnd_assoc]
  apply bind_congr; intro r
  cases r <;> rfl
@[ishape low] theorem expr_call (c : PyCall) : iStmts C nd (.expr c :: rest) L = iCall C nd L c >>= exprK C nd rest L := by
  simp only [iStmts, iStmt, bnd_assoc]
  apply bind_congr; intro r
  cases r <;> rfl
@[ishape low] theorem ret_call (c : PyCall) : iStmts C nd (.ret c :: rest) L = iCall C nd L c >>= retK L := by
  simp only [iStmts, iStmt, bnd_assoc]
  apply bind_congr; intro r
  cases r <;> rfl

@[ishape] theorem expr_accept (ch : String) :
    iStmts C nd (.expr (.accept ch) :: rest) L =
      (nd.acceptE ch).elim
        ((nd.acceptL ch).elim (nd.acceptS ch >>= fun r => afterChild r L (iStmts C nd rest L))
          (fun m => m >>= fun _ => iStmts C nd rest L))
        (fun m => m >>= fun _ => iStmts C nd rest L) := by
  simp only [iStmts, iStmt, iCall]
  cases nd.acceptE ch with
  | some m => simp only [Option.elim, bnd_assoc, pure_bnd, thenSig_next]
  | none =>
    cases nd.acceptL ch with
    | some m => simp only [Option.elim, bnd_assoc, pure_bnd, thenSig_next]
    | none =>
      simp only [Option.elim, bnd_assoc, pure_bnd]
      apply bind_congr; intro r
      obtain ⟨o, b⟩ := r
      cases o <;> rfl
@[ishape] theorem outOf_break : outOf L .breakExc = .brk := rfl
@[ishape] theorem outOf_continue : outOf L .continueExc = .cont := rfl
@[ishape] theorem outOf_stop : outOf L .stopExc = .stop := rfl
@[ishape] theorem closureOf_none : closureOf L none = pure none := rfl
attribute [ishape] outOf closureOf propGet propSet

@[ishape] theorem asBool_bool (b : Bool) : asBool (.bool b) = pure b := rfl
@[ishape] theorem ifCall_accept (neg : Bool) (ch : String) (thn els : List PyStmt) (he : nd.acceptE ch = none)
    (hl : nd.acceptL ch = none) :
    iStmts C nd (.ifCall neg (.accept ch) thn els :: rest) L =
      nd.acceptS ch >>= fun r => afterChild r L
        ((if r.2 != neg then iStmts C nd thn L else iStmts C nd els L) >>= fun r' => thenSig r' (iStmts C nd rest)) := by
  simp only [iStmts, iStmt, iCall, he, hl, bnd_assoc, pure_bnd]
  apply bind_congr; intro r
  obtain ⟨o, b⟩ := r
  cases o <;> rfl


end

@[ishape] theorem lookup_cons_cond {α β : Type} [BEq α] (x y : α) (v : β) (l : List (α × β)) :
    List.lookup x ((y, v) :: l) = bif x == y then some v else l.lookup x := by
  rw [List.lookup_cons]; cases x == y <;> rfl
attribute [ishape] List.lookup_nil Option.getD_some Option.getD_none strNode

@[ishape] theorem sigOut_next : sigOut .next = pure .normal := rfl
@[ishape] theorem sigOut_exc (o : Out) : sigOut (.exc o) = pure o := rfl
@[ishape] theorem sigOut_ret (v : PV) : sigOut (.ret v) = pure .normal := rfl
@[ishape] theorem sigT_next : sigT .next = pure (.normal, false) := rfl
@[ishape] theorem sigT_exc (o : Out) : sigT (.exc o) = pure (o, false) := rfl
@[ishape] theorem sigT_ret (b : Bool) : sigT (.ret (.val (.bool b))) = pure (.normal, b) := rfl
@[ishape] theorem sigE_ret (v : Val) : sigE (.ret (.val v)) = pure v := rfl
@[ishape] theorem sigP_ret (v : PV) : sigP (.ret v) = pure v := rfl
@[ishape] theorem iStmts_nil_fun (C : Ctx) (nd : Node) : iStmts C nd [] = fun L => pure (L, .next) := rfl

theorem create_eq (C : Ctx) (rec : Oracle) (x cls : String) :
    execStep C rec (.create (some x) cls) =
      handlerS C (strNode [("key_letter", cls), ("variable_name", x)]) accept_CreateObjectNode := by
  simp only [ishape, handlerS, String.reduceBEq, accept_CreateObjectNode, execStep]

theorem createNoVariable_eq (C : Ctx) (rec : Oracle) (cls : String) :
    execStep C rec (.create none cls) = handlerS C (strNode [("key_letter", cls)]) accept_CreateObjectNoVariableNode := by
  simp only [ishape, handlerS, String.reduceBEq, accept_CreateObjectNoVariableNode, execStep]

theorem delete_eq (C : Ctx) (rec : Oracle) (x : String) :
    execStep C rec (.delete x) = handlerS C (strNode [("variable_name", x)]) accept_DeleteNode := by
  simp only [ishape, handlerS, String.reduceBEq, accept_DeleteNode, execStep]

theorem break_eq (C : Ctx) (rec : Oracle) : execStep C rec .brk = handlerS C {} accept_BreakNode := rfl
theorem continue_eq (C : Ctx) (rec : Oracle) : execStep C rec .cont = handlerS C {} accept_ContinueNode := rfl
theorem stop_eq (C : Ctx) (rec : Oracle) : execStep C rec .stop = handlerS C {} accept_ControlNode := rfl

theorem returnBare_eq (C : Ctx) (rec : Oracle) : execStep C rec (.ret none) = handlerS C (returnNode none) accept_ReturnNode := rfl
theorem return_eq (C : Ctx) (rec : Oracle) (e : Expr) :
    execStep C rec (.ret (some e)) = handlerS C (returnNode (some (rec.eval e))) accept_ReturnNode := by
  simp only [ishape, handlerS, String.reduceBEq, ↓reduceIte, accept_ReturnNode, returnNode, Option.isSome, execStep]


/-! ### relate / unrelate (+ using)

  The source looks all variables up before it uses the first; `Spec` checks each handle as it is looked up.  So the two report
  a different one of two simultaneous errors, and are equal otherwise: `Agree D r r'`, where `D` says when they may differ.  Its
  two eliminations: the equation up to the text of the error (`Agree.noMsg`), and the exact equation where `D` is excluded
  (`Agree.eq`; the hypotheses of the `…_exact` theorems of Proofs/InterpShapeMore.lean). -/

theorem relate_form (C : Ctx) (a b rel ph : String) :
    handlerS C (relNode a b rel ph "") accept_RelateNode =
      lookupVar C a >>= fun va => lookupVar C b >>= fun vb => asInst va >>= fun x => asInst vb >>= fun y =>
        modifySt (relate C x y rel (stripTicks ph)) >>= fun _ => pure .normal := by
  simp only [ishape, handlerS, String.reduceBEq, accept_RelateNode, relNode]


def IsErr {α : Type} (r : Res α) : Prop := ∃ e, r = some (.error e)

/-- the two results are equal, or — only when `D` holds — both are domain errors (which may differ in their text) -/
def Agree {α : Type} (D : Prop) (r r' : Res α) : Prop := r = r' ∨ (D ∧ IsErr r ∧ IsErr r')

namespace Agree
variable {α β γ : Type} {D D' : Prop} {r r' r'' : Res α}

theorem mono (h : D → D') : Agree D r r' → Agree D' r r'
  | .inl e => .inl e
  | .inr ⟨d, e⟩ => .inr ⟨h d, e⟩

theorem trans : Agree D r r' → Agree D r' r'' → Agree D r r''
  | .inl e, h => e ▸ h
  | h, .inl e => e ▸ h
  | .inr ⟨d, e, _⟩, .inr ⟨_, _, e''⟩ => .inr ⟨d, e, e''⟩

theorem noMsg : Agree D r r' → IShape.noMsg r = IShape.noMsg r'
  | .inl e => e ▸ rfl
  | .inr ⟨_, ⟨_, e⟩, ⟨_, e'⟩⟩ => by rw [e, e']; rfl

theorem eq (h : Agree D r r') (hD : ¬ D) : r = r' := h.resolve_right fun h' => hD h'.1

theorem bind {m : M α} (hm : Check m) {f g : α → M β} (c : Cfg)
    (h : ∀ a, m c = some (.ok (a, c)) → Agree D (f a c) (g a c)) : Agree D ((m >>= f) c) ((m >>= g) c) := by
  rcases hm c with ⟨a, ha⟩ | ⟨e, ha⟩
  · simp only [bind_run, ha]; exact h a ha
  · simp only [bind_run, ha]; exact .inl rfl

/-- two inspections commute, unless both fail: then each order reports its first -/
theorem swap {p : M α} {q : M β} (hp : Check p) (hq : Check q) (K : α → β → M γ) (c : Cfg) :
    Agree (IsErr (p c) ∧ IsErr (q c)) ((p >>= fun a => q >>= fun b => K a b) c) ((q >>= fun b => p >>= fun a => K a b) c) := by
  rcases hp c with ⟨a, ha⟩ | ⟨e, ha⟩ <;> rcases hq c with ⟨b, hb⟩ | ⟨e', hb⟩
  · exact .inl (by simp only [bind_run, ha, hb])
  · exact .inl (by simp only [bind_run, ha, hb])
  · exact .inl (by simp only [bind_run, ha, hb])
  · exact .inr ⟨⟨⟨e, ha⟩, ⟨e', hb⟩⟩, ⟨e, by simp only [bind_run, ha]⟩, ⟨e', by simp only [bind_run, hb]⟩⟩

end Agree

/-- the variable, when it is found, holds an instance handle -/
def HoldsInst (C : Ctx) (c : Cfg) (x : String) : Prop := ∀ v, lookupVar C x c = some (.ok (v, c)) → ∃ i, v = .inst i

theorem not_holds {C : Ctx} {c : Cfg} {x : String} {v : Val} (hv : lookupVar C x c = some (.ok (v, c)))
    (he : IsErr (asInst v c)) : ¬ HoldsInst C c x := fun h => by
  obtain ⟨i, rfl⟩ := h v hv
  obtain ⟨e, he⟩ := he
  cases he

/-- the source looks the next variable `b` up BEFORE it checks the handle of the variable `a` it has found, `Spec` after: the two
    differ only when that handle is no instance and the look-up fails -/
theorem handle_after_lookup {α : Type} {C : Ctx} {c : Cfg} {a : String} {va : Val} (hva : lookupVar C a c = some (.ok (va, c)))
    (b : String) (K : Inst → Val → M α) :
    Agree (¬ HoldsInst C c a ∧ IsErr (lookupVar C b c))
      ((asInst va >>= fun x => lookupVar C b >>= fun vb => K x vb) c)
      ((lookupVar C b >>= fun vb => asInst va >>= fun x => K x vb) c) :=
  (Agree.swap (check_asInst va) (check_lookupVar C b) K c).mono fun h => ⟨not_holds hva h.1, h.2⟩

theorem relate_agree (C : Ctx) (rec : Oracle) (a b rel ph : String) (c : Cfg) :
    Agree (¬ HoldsInst C c a ∧ IsErr (lookupVar C b c))
      (execStep C rec (.relate a b rel (stripTicks ph)) c) (handlerS C (relNode a b rel ph "") accept_RelateNode c) := by
  rw [relate_form]
  exact Agree.bind (check_lookupVar C a) c fun _ hva => handle_after_lookup hva b _


theorem unrelate_form (C : Ctx) (a b rel ph : String) :
    handlerS C (relNode a b rel ph "") accept_UnrelateNode =
      lookupVar C a >>= fun va => lookupVar C b >>= fun vb => asInst va >>= fun x => asInst vb >>= fun y =>
        modifySt (unrelate C x y rel (stripTicks ph)) >>= fun _ => pure .normal := by
  simp only [ishape, handlerS, String.reduceBEq, accept_UnrelateNode, relNode]

theorem unrelate_agree (C : Ctx) (rec : Oracle) (a b rel ph : String) (c : Cfg) :
    Agree (¬ HoldsInst C c a ∧ IsErr (lookupVar C b c))
      (execStep C rec (.unrelate a b rel (stripTicks ph)) c) (handlerS C (relNode a b rel ph "") accept_UnrelateNode c) := by
  rw [unrelate_form]
  exact Agree.bind (check_lookupVar C a) c fun _ hva => handle_after_lookup hva b _


theorem relateUsing_form (C : Ctx) (a b rel ph u : String) :
    handlerS C (relNode a b rel ph u) accept_RelateUsingNode =
      lookupVar C a >>= fun va => lookupVar C b >>= fun vb => lookupVar C u >>= fun vu =>
        asInst va >>= fun x => asInst vu >>= fun w => modifySt (relate C x w rel (stripTicks ph)) >>= fun _ =>
        asInst vu >>= fun w' => asInst vb >>= fun y => modifySt (relate C w' y rel (stripTicks ph)) >>= fun _ =>
        pure .normal := by
  simp only [ishape, handlerS, String.reduceBEq, accept_RelateUsingNode, relNode]

/-- when the two orders of a `… using` statement may report different errors: the from variable holds no instance and a later
    variable is not set, or the to variable holds no instance (the source relates (from, using) BEFORE it checks the to handle) -/
def UsingDiff (C : Ctx) (c : Cfg) (a b u : String) : Prop :=
  (¬ HoldsInst C c a ∧ (IsErr (lookupVar C b c) ∨ IsErr (lookupVar C u c))) ∨ ¬ HoldsInst C c b

/-- the part of a `… using` statement after the lookups: the source checks the using handle twice and the to handle only after
    the first of the two operations `op` -/
theorem using_tail (op : Inst → Inst → State → Except Err State) (va vb vu : Val) (c : Cfg) :
    Agree (IsErr (asInst vb c)) ((asInst va >>= fun x => asInst vb >>= fun y => asInst vu >>= fun w =>
        modifySt (fun st => match op x w st with | .error e => .error e | .ok st1 => op w y st1) >>= fun _ =>
        pure Out.normal) c)
      ((asInst va >>= fun x => asInst vu >>= fun w => modifySt (op x w) >>= fun _ =>
        asInst vu >>= fun w' => asInst vb >>= fun y => modifySt (op w' y) >>= fun _ => pure Out.normal) c) := by
  rcases asInst_run va with ⟨i, rfl⟩ | ⟨_, hi⟩
  · rcases asInst_run vu with ⟨k, rfl⟩ | ⟨_, hk⟩
    · rcases asInst_run vb with ⟨j, rfl⟩ | ⟨_, hj⟩
      · refine .inl ?_
        simp only [asInst_inst, pure_bnd]
        simp only [bind_run, modifySt_run]
        cases op i k c.st with
        | error e => rfl
        | ok st1 => cases op k j st1 <;> rfl
      · refine .inr ⟨⟨_, by rw [hj]; rfl⟩, ⟨_, by simp only [asInst_inst, pure_bnd, hj, fail_bnd]; rfl⟩, ?_⟩
        simp only [asInst_inst, pure_bnd, hj, fail_bnd]
        simp only [bind_run, modifySt_run]
        cases op i k c.st <;> exact ⟨_, rfl⟩
    · simp only [asInst_inst, pure_bnd, hk, fail_bnd]
      rcases asInst_run vb with ⟨j, rfl⟩ | ⟨_, hj⟩
      · exact .inl rfl
      · -- the to handle is checked first by `Spec`, the using handle first by the source
        simp only [hj, fail_bnd]
        exact .inr ⟨⟨_, rfl⟩, ⟨_, rfl⟩, ⟨_, rfl⟩⟩
  · exact .inl (by simp only [hi, fail_bnd])

/-- a `… using` statement: the three lookups moved in front of the handle checks, then `using_tail` -/
theorem using_agree (C : Ctx) (a b u : String) (op : Inst → Inst → State → Except Err State) (c : Cfg) :
    Agree (UsingDiff C c a b u)
      ((lookupVar C a >>= fun va => asInst va >>= fun x => lookupVar C b >>= fun vb => asInst vb >>= fun y =>
        lookupVar C u >>= fun vu => asInst vu >>= fun w =>
        modifySt (fun st => match op x w st with | .error e => .error e | .ok st1 => op w y st1) >>= fun _ =>
        pure Out.normal) c)
      ((lookupVar C a >>= fun va => lookupVar C b >>= fun vb => lookupVar C u >>= fun vu =>
        asInst va >>= fun x => asInst vu >>= fun w => modifySt (op x w) >>= fun _ =>
        asInst vu >>= fun w' => asInst vb >>= fun y => modifySt (op w' y) >>= fun _ => pure Out.normal) c) := by
  -- the moves: the check of `va` past the look-up of `b`; under it that of `vb` past the look-up of `u`; then that of `va` past
  -- the look-up of `u`.  Each is `handle_after_lookup`; its `.mono` says where the pair's condition sits in `UsingDiff`
  refine Agree.bind (check_lookupVar C a) c fun va hva => ?_
  refine ((handle_after_lookup hva b _).mono fun h => .inl ⟨h.1, .inl h.2⟩).trans ?_
  refine Agree.bind (check_lookupVar C b) c fun vb hvb => ?_
  refine Agree.trans (Agree.bind (check_asInst va) c fun x _ => (handle_after_lookup hvb u _).mono fun h => .inr h.1) ?_
  refine ((handle_after_lookup hva u _).mono fun h => .inl ⟨h.1, .inr h.2⟩).trans ?_
  exact Agree.bind (check_lookupVar C u) c fun vu _ => (using_tail op va vb vu c).mono fun h => .inr (not_holds hvb h)

theorem relateUsing_agree (C : Ctx) (rec : Oracle) (a b rel ph u : String) (c : Cfg) :
    Agree (UsingDiff C c a b u) (execStep C rec (.relateUsing a b rel (stripTicks ph) u) c)
      (handlerS C (relNode a b rel ph u) accept_RelateUsingNode c) := by
  rw [relateUsing_form]
  exact using_agree C a b u (fun p q => relate C p q rel (stripTicks ph)) c


theorem unrelateUsing_form (C : Ctx) (a b rel ph u : String) :
    handlerS C (relNode a b rel ph u) accept_UnrelateUsingNode =
      lookupVar C a >>= fun va => lookupVar C b >>= fun vb => lookupVar C u >>= fun vu =>
        asInst va >>= fun x => asInst vu >>= fun w => modifySt (unrelate C x w rel (stripTicks ph)) >>= fun _ =>
        asInst vu >>= fun w' => asInst vb >>= fun y => modifySt (unrelate C w' y rel (stripTicks ph)) >>= fun _ =>
        pure .normal := by
  simp only [ishape, handlerS, String.reduceBEq, accept_UnrelateUsingNode, relNode]

theorem unrelateUsing_agree (C : Ctx) (rec : Oracle) (a b rel ph u : String) (c : Cfg) :
    Agree (UsingDiff C c a b u) (execStep C rec (.unrelateUsing a b rel (stripTicks ph) u) c)
      (handlerS C (relNode a b rel ph u) accept_UnrelateUsingNode c) := by
  rw [unrelateUsing_form]
  exact using_agree C a b u (fun p q => unrelate C p q rel (stripTicks ph)) c

theorem selRes_none (rec : Oracle) (many : Bool) (cands : List Inst) :
    selRes many cands none = selectResult rec many cands none := by
  cases many <;> rfl

theorem filterAll_eq (rec : Oracle) (wh : Expr) : ∀ l, filterAll rec wh l = filterAllM (evalWhere rec wh) l
  | [] => rfl
  | c :: rest => by simp only [filterAll, filterAllM, filterAll_eq rec wh rest]

theorem filterFirst_eq (rec : Oracle) (wh : Expr) : ∀ l, filterFirst rec wh l = filterFirstM (evalWhere rec wh) l
  | [] => rfl
  | c :: rest => by simp only [filterFirst, filterFirstM, filterFirst_eq rec wh rest]

/-- the where closure as the source writes it: a block, `selected`, the clause, leave the block, the clause's value -/
theorem selRes_some (rec : Oracle) (many : Bool) (cands : List Inst) (wh : Expr) :
    selRes many cands (some fun i => pushBlock >>= fun _ => install "selected" (.inst i) >>= fun _ =>
      rec.eval wh >>= fun x => popBlock >>= fun _ => pure x) = selectResult rec many cands (some wh) := by
  have h : (fun c => (pushBlock >>= fun _ => install "selected" (.inst c) >>= fun _ =>
      rec.eval wh >>= fun x => popBlock >>= fun _ => pure x) >>= fun v => asBool v) = evalWhere rec wh := by
    funext c
    simp only [evalWhere, bnd_assoc, pure_bnd]
  cases many
  · simp only [selRes, selectResult, h, filterFirst_eq]; rfl
  · simp only [selRes, selectResult, h, filterAll_eq]

attribute [ishape] closureRun poolOf

theorem selectFrom_eq (C : Ctx) (rec : Oracle) (many : Bool) (v cls : String) :
    execStep C rec (.selectFrom many v cls none) = handlerS C (selectFromNode many v cls none) accept_SelectFromNode := by
  cases many <;>
    simp only [ishape, handlerS, String.reduceBEq, ↓reduceIte, accept_SelectFromNode, selectFromNode, selRes_none rec, execStep] <;> rfl

theorem selectFromWhere_eq (C : Ctx) (rec : Oracle) (many : Bool) (v cls : String) (wh : Expr) :
    execStep C rec (.selectFrom many v cls (some wh)) =
      handlerS C (selectFromNode many v cls (some (rec.eval wh))) accept_SelectFromWhereNode := by
  cases many <;>
    simp only [ishape, handlerS, String.reduceBEq, ↓reduceIte, accept_SelectFromWhereNode, selectFromNode,
      selRes_some rec, execStep] <;> rfl


theorem execBlock_eq (C : Ctx) (rec : Oracle) (b : Block) :
    execBlock rec b = unwindBlock (handlerS C (blockNode rec b) accept_BlockNode) := by
  simp only [ishape, handlerS, ↓reduceIte, accept_BlockNode, blockNode, execBlock, unwindBlock, listChild]
  apply bind_congr; intro _
  apply bind_congr; intro o
  cases o <;> simp only [afterChild, ishape]


/-- accept_BodyNode: a new scope, the block; ReturnException / StopException end the body normally and the scope is left; a
    BreakException / ContinueException that no loop caught passes through — and `leave_scope` is then NOT reached -/
def bodySem (rec : Oracle) (body : Block) : M Out := do
  setEnv [[]]
  let o ← execBlock rec body
  match o with
  | .brk => pure .brk
  | .cont => pure .cont
  | _ => do
    setEnv []
    pure .normal

theorem bodyNode_eq (C : Ctx) (rec : Oracle) (body : Block) :
    handlerS C (bodyNode rec body) accept_BodyNode = bodySem rec body := by
  simp only [ishape, handlerS, ↓reduceIte, accept_BodyNode, bodyNode, bodySem, blockChild]
  apply bind_congr; intro _
  apply bind_congr; intro o
  cases o <;> rfl

theorem iRunBody_eq (C : Ctx) (rec : Oracle) (body : Block) :
    iRunBody C rec body = (do setEnv [[]]; runBody rec body; setEnv []) := by
  simp only [iRunBody, bodyNode_eq, bodySem, runBody, bnd_assoc]
  apply bind_congr; intro _
  apply bind_congr; intro o
  cases o <;> rfl

theorem invoke_eq (C : Ctx) (rec : Oracle) (kind : WalkerKind) (body : Block) (kw : List (String × Val)) (self : Val) :
    invoke rec kind body kw self = iInvoke C rec kind body kw self := by
  funext c
  simp only [invoke, iInvoke, iRunBody_eq, bind_run]
  -- a new walker has no scope: `enter_scope` on `env := []` gives the one empty block `mkFrame` starts with
  have h : setEnv [[]] { fr := { mkFrame kind kw self with env := [] }, st := c.st } =
      some (.ok ((), { fr := mkFrame kind kw self, st := c.st })) := rfl
  simp only [h]
  generalize runBody rec body { fr := mkFrame kind kw self, st := c.st } = r
  cases r with
  | none => rfl
  | some r => cases r with
    | error e => rfl
    | ok p => rfl

/-- what the `try` around a loop body makes of the block's outcome: ContinueException and BreakException become Python's
    `continue` / `break`, every other exception propagates -/
def loopSig : Out → Sig
  | .normal => .next
  | .cont => .cont
  | .brk => .brk
  | o => .exc o

theorem tryLoop_eq (C : Ctx) (nd : Node) (ch : String) (L : Locals) (he : nd.acceptE ch = none) (hl : nd.acceptL ch = none) :
    iStmts C nd [.tryExcept [.expr (.accept ch)] [(.continueExc, [.continue_]), (.breakExc, [.break_])]] L =
      nd.acceptS ch >>= fun r => pure (L, loopSig r.1) := by
  simp only [ishape, he, hl]
  apply bind_congr; intro r
  obtain ⟨o, b⟩ := r
  cases o <;> rfl


theorem againSig_out (nd : Node) (L : Locals) : (againSig nd L >>= fun r => sigOut r.2) = nd.again := by
  simp only [againSig, bnd_assoc]
  refine Eq.trans ?_ (bnd_pure _)
  apply bind_congr; intro o
  cases o <;> rfl

theorem while_eq (C : Ctx) (rec : Oracle) (c : Expr) (body : Block) :
    execStep C rec (.whileS c body) = handlerS C (whileNode rec c body) accept_WhileNode := by
  simp only [ishape, handlerS, String.reduceEq, ↓reduceIte, accept_WhileNode, ↓tryLoop_eq, whileNode, exprChild, stmtChildAt, blockChild,
    execStep]
  apply bind_congr; intro v
  apply bind_congr; intro t
  cases t
  · rfl
  · simp only [↓reduceIte, bnd_assoc]
    apply bind_congr; intro o
    cases o <;> first | rfl | exact (againSig_out (whileNode rec c body) []).symm


theorem forItems_loop (rec : Oracle) (v : String) (blk : Block) (body : Inst → Locals → M (Locals × Sig))
    (g : Inst → Locals → Locals)
    (hb : ∀ i L, body i L = do
      install v (.inst i)
      let o ← execBlock rec blk
      pure (g i L, loopSig o)) :
    ∀ (items : List Inst) (L : Locals),
      (do let r ← iLoop body items L
          sigOut r.2) = forItems rec v blk items
  | [], L => rfl
  | i :: rest, L => by
    have ih := forItems_loop rec v blk body g hb rest
    simp only [iLoop, forItems, bnd_assoc, hb, pure_bnd]
    apply bind_congr; intro _
    apply bind_congr; intro o
    cases o <;> first | exact ih _ | rfl


theorem afterChild_normal (b : Bool) (L : Locals) (k : M (Locals × Sig)) : afterChild (.normal, b) L k = k := rfl

theorem afterChild_out (r : Out × Bool) (L : Locals) :
    (afterChild r L (pure (L, .next)) >>= fun r' => sigOut r'.2) = pure r.1 := by
  obtain ⟨o, b⟩ := r
  cases o <;> rfl

theorem else_eq (C : Ctx) (rec : Oracle) (b : Block) :
    handlerS C { acceptS := stmtChildAt "block" (blockChild rec b) } accept_ElseNode = execBlock rec b := by
  simp only [ishape, handlerS, ↓reduceIte, accept_ElseNode, stmtChildAt, blockChild, afterChild_out]

theorem elif_eq (C : Ctx) (rec : Oracle) (cb : Expr × Block) :
    handlerT C (elifNode rec cb) accept_ElIfNode = elifSem rec cb := by
  simp only [ishape, handlerT, String.reduceEq, ↓reduceIte, accept_ElIfNode, elifNode, elifSem, exprChild, stmtChildAt, blockChild]
  apply bind_congr; intro v
  apply bind_congr; intro t
  cases t
  · rfl
  · simp only [ishape, ↓reduceIte]
    apply bind_congr; intro o
    cases o <;> rfl


theorem firstTaken_loop (rec : Oracle) (body : M (Out × Bool) → Locals → M (Locals × Sig))
    (g : M (Out × Bool) → Locals → Locals)
    (hb : ∀ m L, body m L = do
      let x ← m
      pure (g m L, match x.1 with
        | .normal => if x.2 then Sig.ret (.val (.bool true)) else .next
        | o => .exc o)) :
    ∀ (elifs : List (Expr × Block)) (L : Locals),
      (do let r ← iLoop body (elifs.map (elifSem rec)) L
          sigT r.2) = firstTaken rec elifs
  | [], L => rfl
  | cb :: rest, L => by
    have ih := firstTaken_loop rec body g hb rest
    simp only [List.map, iLoop, firstTaken, bnd_assoc, hb, pure_bnd]
    apply bind_congr; intro x
    obtain ⟨o, b⟩ := x
    cases o <;> cases b <;> first | exact ih _ | rfl

theorem elifList_eq (C : Ctx) (rec : Oracle) (elifs : List (Expr × Block)) :
    elifListSem C rec elifs = firstTaken rec elifs := by
  have hmap : elifs.map (fun cb => handlerT C (elifNode rec cb) accept_ElIfNode) = elifs.map (elifSem rec) := by
    congr 1; funext cb; exact elif_eq C rec cb
  simp only [elifListSem, hmap]
  simp only [ishape, handlerT, String.reduceBEq, accept_ElIfListNode]
  refine firstTaken_loop rec _ (fun m L => L.set "child" (.child m)) ?_ elifs []
  intro m L
  apply bind_congr; intro x
  obtain ⟨o, b⟩ := x
  cases o <;> cases b <;> rfl

theorem firstTaken_then (rec : Oracle) (els : Option Block) : ∀ elifs : List (Expr × Block),
    (do let x ← firstTaken rec elifs
        afterElifs rec els x) = execElifs rec elifs els
  | [] => by cases els <;> rfl
  | (c, b) :: rest => by
    simp only [firstTaken, elifSem, execElifs, bnd_assoc]
    apply bind_congr; intro v
    apply bind_congr; intro t
    cases t
    · exact firstTaken_then rec els rest
    · refine Eq.trans ?_ (bnd_pure _)
      simp only [↓reduceIte, bnd_assoc]
      apply bind_congr; intro o
      cases o <;> rfl

theorem elifList_then (C : Ctx) (rec : Oracle) (elifs : List (Expr × Block)) (els : Option Block) :
    (do let x ← elifListSem C rec elifs
        afterElifs rec els x) = execElifs rec elifs els := by
  rw [elifList_eq]; exact firstTaken_then rec els elifs


theorem afterElifs_eq (C : Ctx) (rec : Oracle) (els : Option Block) (x : Out × Bool) :
    (afterChild x [] (if (x.2 != true) = true then elseClause C rec els >>= fun r => afterChild r [] (pure ([], .next))
        else pure ([], .next)) >>= fun r => sigOut r.2) = afterElifs rec els x := by
  obtain ⟨o, b⟩ := x
  cases o <;> try rfl
  cases b
  · cases els with
    | none => rfl
    | some b =>
      simp only [afterChild_normal, afterElifs, elseClause, else_eq, elseSem, bnd_assoc, pure_bnd, afterChild_out, bnd_pure,
        Bool.false_bne, ↓reduceIte, Bool.false_eq_true]
  · rfl

theorem if_eq (C : Ctx) (rec : Oracle) (c : Expr) (thn : Block) (elifs : List (Expr × Block)) (els : Option Block) :
    execStep C rec (.ifS c thn elifs els) = handlerS C (ifNode C rec c thn elifs els) accept_IfNode := by
  simp only [ishape, handlerS, String.reduceEq, ↓reduceIte, accept_IfNode, ifNode, exprChild, blockChild, execStep]
  apply bind_congr; intro v
  apply bind_congr; intro t
  cases t
  · simp only [↓reduceIte, bnd_assoc, afterElifs_eq, Bool.false_bne, Bool.false_eq_true]
    exact (elifList_then C rec elifs els).symm
  · simp only [↓reduceIte, bnd_assoc, afterChild_out, bnd_pure, Bool.true_bne, Bool.not_false]


theorem assignVar_eq (C : Ctx) (rec : Oracle) (x : String) (e : Expr) :
    execStep C rec (.assignVar x e) = handlerS C (assignNode (rec.eval e) (pure (.var x))) accept_AssignmentNode := by
  simp only [ishape, handlerS, String.reduceBEq, String.reduceEq, ↓reduceIte, accept_AssignmentNode, assignNode, exprChild,
    execStep]

theorem assignField_eq (C : Ctx) (rec : Oracle) (h : Expr) (name : String) (e : Expr) :
    execStep C rec (.assignField h name e) =
      handlerS C (assignNode (rec.eval e) (fieldAccess rec h name)) accept_AssignmentNode := by
  simp only [ishape, handlerS, String.reduceBEq, String.reduceEq, ↓reduceIte, accept_AssignmentNode, assignNode, exprChild,
    fieldAccess, execStep]

theorem binary_eq (C : Ctx) (rec : Oracle) (op : BinOp) (l r : Expr) :
    evalStep C rec (.bin op l r) = handlerE C (binNode op (rec.eval l) (rec.eval r)) accept_BinaryOperationNode := by
  simp only [ishape, handlerE, String.reduceBEq, String.reduceEq, ↓reduceIte, accept_BinaryOperationNode, binNode, evalStep]

theorem unary_eq (C : Ctx) (rec : Oracle) (op : UnOp) (e : Expr) :
    evalStep C rec (.un op e) = handlerE C (unNode op (rec.eval e)) accept_UnaryOperationNode := by
  simp only [ishape, handlerE, String.reduceBEq, ↓reduceIte, accept_UnaryOperationNode, unNode, exprChild,
    evalStep]

theorem selected_eq (C : Ctx) (rec : Oracle) : evalStep C rec .selected = handlerE C {} accept_SelectedAccessNode := by
  simp only [ishape, handlerE, String.reduceBEq, accept_SelectedAccessNode, evalStep]


theorem querySt_ok {α : Type} (a : α) : querySt (fun _ => (.ok a : Except Err α)) = pure a := rfl

theorem querySt_bind {α β γ : Type} (f : State → Except Err α) (g : α → State → Except Err β) (K : β → M γ) :
    (querySt f >>= fun a => querySt (g a) >>= K) =
      (querySt (fun st => match f st with | .error e => .error e | .ok a => g a st) >>= K) := by
  funext c
  simp only [bind_run, querySt]
  cases f c.st <;> rfl

/-- `for step in self.accept(node.navigation_chain): chain = step(chain)`, the body as the interpreter's equations leave it -/
def stepBody (C : Ctx) (s : NavStep) (L : Locals) : M (Locals × Sig) :=
  callLocal C (L.set "step" (.step s)) "step" ["chain"] >>= fun v => pure ((L.set "step" (.step s)).set "chain" v, Sig.next)

/-- the loop is the chain navigation of `Spec`, whatever follows it (a continuation that reads the locals `chain` and `where` only) -/
theorem steps_loop {α : Type} (C : Ctx) (m : Bool) (w : PV) (K : Locals × Sig → M α) (K0 : List Inst → M α)
    (hK : ∀ L l, L.get "chain" = .chain m l → L.get "where" = w → K (L, .next) = K0 l) :
    ∀ (steps : List NavStep) (L : Locals) (l : List Inst), L.get "chain" = .chain m l → L.get "where" = w →
      (iLoop (stepBody C) steps L >>= K) = (querySt (fun st => navChain C st l steps) >>= K0)
  | [], L, l, hL, hw => by
    simp only [iLoop, pure_bnd, navChain, querySt_ok]
    exact hK L l hL hw
  | s :: rest, L, l, hL, hw => by
    simp only [iLoop, stepBody, callLocal, get_set, String.reduceBEq, BEq.rfl, cond_true, cond_false, hL, bnd_assoc, pure_bnd,
      navChain]
    simp only [fun l' => steps_loop C m w K K0 hK rest ((L.set "step" (.step s)).set "chain" (.chain m l')) l' (get_set_eq _ _ _)
      (by simp only [get_set, String.reduceBEq, cond_false, hw])]
    -- the goal is an instance of `querySt_bind`, proved again by its two lines: `exact querySt_bind ..` fails, the `match` unfolded
    -- from `navChain` and the one in the lemma being different matchers
    funext c
    simp only [bind_run, querySt]
    cases navStepList C c.st l s <;> rfl

theorem callLocal_chain (C : Ctx) (L : Locals) (m : Bool) (l : List Inst) (h : L.get "chain" = .chain m l) :
    callLocal C L "chain" [] = selRes m l none >>= fun r => pure (.val r) := by
  simp only [callLocal, h]

theorem selectRelated_eq (C : Ctx) (rec : Oracle) (many : Bool) (v : String) (h : Expr) (chain : List NavStep) :
    execStep C rec (.selectRelated many v h chain none) =
      handlerS C (selRelNode many v (rec.eval h) chain none) accept_SelectRelatedNode := by
  cases many <;>
    simp only [ishape, handlerS, String.reduceBEq, ↓reduceIte, accept_SelectRelatedNode, selRelNode, execStep]
  all_goals
    apply bind_congr
    intro hv
    apply bind_congr
    intro start
    symm
    refine steps_loop C _ .unset _ _ ?_ chain _ start (get_set_eq _ _ _) rfl
    intro L' l' h1 _
    simp only [ishape, String.reduceBEq, callLocal_chain C L' _ l' h1, selRes_none rec]


theorem callLocal_chain_where (C : Ctx) (L : Locals) (m : Bool) (l : List Inst) (f : Inst → M Val)
    (h : L.get "chain" = .chain m l) (hw : L.get "where" = .closure f) :
    callLocal C L "chain" ["where"] = selRes m l (some f) >>= fun r => pure (.val r) := by
  simp only [callLocal, h, closureOf, hw, pure_bnd]

theorem selectRelatedWhere_eq (C : Ctx) (rec : Oracle) (many : Bool) (v : String) (h : Expr) (chain : List NavStep) (wh : Expr) :
    execStep C rec (.selectRelated many v h chain (some wh)) =
      handlerS C (selRelNode many v (rec.eval h) chain (some (rec.eval wh))) accept_SelectRelatedWhereNode := by
  cases many <;>
    simp only [ishape, handlerS, String.reduceBEq, String.reduceEq, ↓reduceIte, accept_SelectRelatedWhereNode, selRelNode,
      execStep]
  all_goals
    apply bind_congr
    intro hv
    apply bind_congr
    intro start
    symm
    refine steps_loop C _ _ _ _ ?_ chain _ start (get_set_eq _ _ _) rfl
    intro L' l' h1 h2
    simp only [ishape, String.reduceBEq, callLocal_chain_where C L' _ l' _ h1 h2, selRes_some rec]


theorem integer_eq (C : Ctx) (rec : Oracle) (v : String) (i : Int) (h : v.toInt? = some i) :
    evalStep C rec (.int i) = handlerE C (strNode [("value", v)]) accept_IntegerNode := by
  simp only [ishape, handlerE, String.reduceBEq, accept_IntegerNode, h, evalStep]

theorem string_eq (C : Ctx) (rec : Oracle) (v : String) :
    evalStep C rec (.str (String.ofList ((v.toList.drop 1).dropLast))) =
      handlerE C (strNode [("value", v)]) accept_StringNode := by
  simp only [ishape, handlerE, String.reduceBEq, accept_StringNode, evalStep]

theorem boolean_eq (C : Ctx) (rec : Oracle) (v : String) :
    evalStep C rec (.bool (asciiUpper v == "TRUE")) = handlerE C (strNode [("value", v)]) accept_BooleanNode := by
  simp only [ishape, handlerE, String.reduceBEq, accept_BooleanNode, evalStep]

/-- accept_VariableAccessNode touches nothing: it returns a property whose getter is the lookup and whose setter the install -/
theorem variableAccess_eq (C : Ctx) (x : String) :
    handlerP C (strNode [("variable_name", x)]) accept_VariableAccessNode =
      pure (.lazy (lookupVar C x) (fun v => install x v)) := by
  simp only [ishape, iCall, handlerP, String.reduceBEq, accept_VariableAccessNode]

theorem variableRead_eq (C : Ctx) (rec : Oracle) (x : String) :
    evalStep C rec (.var x) = (handlerP C (strNode [("variable_name", x)]) accept_VariableAccessNode >>= propGet) := by
  rw [variableAccess_eq]; rfl

theorem variableWrite_eq (C : Ctx) (rec : Oracle) (x : String) (e : Expr) :
    execStep C rec (.assignVar x e) = (do
      let v ← rec.eval e
      let p ← handlerP C (strNode [("variable_name", x)]) accept_VariableAccessNode
      propSet v p
      pure .normal) := by
  simp only [variableAccess_eq, pure_bnd, propSet, execStep]

/-- accept_FieldAccessNode evaluates the handle; reading / writing the attribute happens when fget / fset is called -/
theorem fieldAccess_eq (C : Ctx) (rec : Oracle) (h : M Val) (name : String) :
    handlerP C (fieldNode C rec h name) accept_FieldAccessNode = (do
      let hv ← h
      pure (.lazy (do let i ← asInst hv; readField C rec i name) (fun v => do let i ← asInst hv; writeField C i name v))) := by
  simp only [ishape, handlerP, String.reduceBEq, ↓reduceIte, accept_FieldAccessNode, fieldNode, exprChild]

theorem fieldRead_eq (C : Ctx) (rec : Oracle) (h : Expr) (name : String) :
    evalStep C rec (.field h name) = (handlerP C (fieldNode C rec (rec.eval h) name) accept_FieldAccessNode >>= propGet) := by
  simp only [fieldAccess_eq, bnd_assoc, pure_bnd, propGet, evalStep]

theorem fieldWrite_eq (C : Ctx) (rec : Oracle) (h : Expr) (name : String) (e : Expr) :
    execStep C rec (.assignField h name e) = (do
      let v ← rec.eval e
      let p ← handlerP C (fieldNode C rec (rec.eval h) name) accept_FieldAccessNode
      propSet v p
      pure .normal) := by
  simp only [fieldAccess_eq, bnd_assoc, pure_bnd, propSet, execStep]

theorem navigationStep_eq (C : Ctx) (kl rel ph : String) :
    handlerP C (strNode [("key_letter", kl), ("rel_id", rel), ("phrase", ph)]) accept_NavigationStepNode =
      pure (.step ⟨kl, rel, stripTicks ph⟩) := by
  simp only [ishape, handlerP, String.reduceBEq, accept_NavigationStepNode]


/-! ### the wrapper `ActionWalker.accept` and `default_accept`

  `Spec`'s monad has one kind of failure ("left the domain", no configuration).  To say what the SOURCE does with an
  `xtuml.MetaException` (relate rejected, unknown link / class, second delete, …) the wrapper is interpreted over computations
  that say so explicitly: `WRes.raised` = a MetaException is propagating, the configuration is whatever the handler had done. -/

inductive WRes (α : Type) where
  | ret (a : α)       -- `return a`
  | raised            -- an xtuml.MetaException propagates
  | next              -- fell through (the function returns None)

mutual
  def iW {α : Type} (disp : M (WRes α)) : WStmt → M (WRes α)
    | .returnDispatch => disp
    | .logError => pure .next
    | .tryExcept body exc handler => do
      let r ← iWs disp body
      match r with
      | .raised => if exc = "xtuml.MetaException" then iWs disp handler else pure .raised
      | r => pure r
  def iWs {α : Type} (disp : M (WRes α)) : List WStmt → M (WRes α)
    | [] => pure .next
    | s :: rest => do
      let r ← iW disp s
      match r with
      | .next => iWs disp rest
      | r => pure r
end

/-- a handler that raises no MetaException -/
def inDomain {α : Type} (m : M α) : M (WRes α) := do
  let a ← m
  pure (.ret a)

/-- the wrapper: a MetaException becomes None in the configuration the handler left, everything else passes -/
theorem accept_form {α : Type} (disp : M (WRes α)) :
    iWs disp ActionWalker_accept = disp >>= fun r => match r with | .raised => pure .next | r => pure r := by
  simp only [ActionWalker_accept, iWs, iW, bnd_assoc, pure_bnd]
  apply bind_congr; intro r
  cases r <;> rfl

/-- in the domain (no MetaException) the wrapper is transparent: `self.accept(child)` is the child's handler -/
theorem accept_inDomain {α : Type} (m : M α) : iWs (inDomain m) ActionWalker_accept = inDomain m := by
  simp only [accept_form, inDomain, bnd_assoc, pure_bnd]

/-- a MetaException is swallowed: the wrapper returns None in the configuration the handler left, and nothing propagates -/
theorem accept_meta {α : Type} (disp : M (WRes α)) (c c' : Cfg) (h : disp c = some (.ok (.raised, c'))) :
    iWs disp ActionWalker_accept c = some (.ok (.next, c')) := by
  rw [accept_form, bind_ok h]
  rfl

theorem accept_ret {α : Type} (disp : M (WRes α)) (c c' : Cfg) (a : α) (h : disp c = some (.ok (.ret a, c'))) :
    iWs disp ActionWalker_accept c = some (.ok (.ret a, c')) := by
  rw [accept_form, bind_ok h]
  rfl

/-- an unsupported node: only a log line; None, the configuration is untouched -/
theorem default_accept_eq {α : Type} (disp : M (WRes α)) : iWs disp ActionWalker_default_accept = pure .next := by
  simp only [ActionWalker_default_accept, iWs, iW, pure_bnd]

/-- `self.accept(child)` for a statement child, through the wrapper: an outcome, or None after a swallowed MetaException -/
def wrappedChild (disp : M (WRes Out)) : M (Out × Bool) := do
  let r ← iWs disp ActionWalker_accept
  match r with
  | .ret o => pure (o, false)
  | .next => pure (.normal, false)
  | .raised => fail "unreachable: the wrapper catches MetaException"

/-- the statement list with the wrapper's behaviour spelled out: a child whose handler raised a MetaException counts as
    completed, the list GOES ON with the next child in the configuration the failed handler left -/
def swallowList : List (M (WRes Out)) → M Out
  | [] => pure .normal
  | d :: rest => do
    let r ← d
    match r with
    | .raised => swallowList rest
    | .next => swallowList rest
    | .ret .normal => swallowList rest
    | .ret o => pure o

theorem wrappedChild_eq (disp : M (WRes Out)) : wrappedChild disp = (do
    let r ← disp
    match r with
    | .ret o => pure (o, false)
    | _ => pure (.normal, false)) := by
  simp only [wrappedChild, accept_form, bnd_assoc]
  apply bind_congr; intro r
  cases r <;> rfl

theorem swallow_loop (body : M (Out × Bool) → Locals → M (Locals × Sig)) (g : M (Out × Bool) → Locals → Locals)
    (hb : ∀ m L, body m L = do let x ← m; pure (g m L, sigOfOut x.1)) : ∀ (ds : List (M (WRes Out))) (L : Locals),
    (do let r ← iLoop body (ds.map wrappedChild) L
        sigOut r.2) = swallowList ds
  | [], L => rfl
  | d :: rest, L => by
    have ih := swallow_loop body g hb rest
    simp only [List.map, iLoop, swallowList, bnd_assoc, hb, wrappedChild_eq, pure_bnd]
    apply bind_congr; intro r
    cases r with
    | ret o => cases o <;> simp only [sigOfOut, pure_bnd] <;> first | exact ih _ | rfl
    | raised => simp only [sigOfOut, pure_bnd]; exact ih _
    | next => simp only [sigOfOut, pure_bnd]; exact ih _

theorem statementList_swallows (C : Ctx) (ds : List (M (WRes Out))) :
    handlerS C { children := ds.map wrappedChild } accept_StatementListNode = swallowList ds := by
  simp only [ishape, handlerS, String.reduceBEq, accept_StatementListNode]
  refine swallow_loop _ (fun m L => L.set "child" (.child m)) ?_ ds []
  intro m L
  apply bind_congr; intro r
  obtain ⟨o, b⟩ := r
  cases o <;> rfl

/-- in the domain the wrapped child is the child: the statement-list equation of `Spec` is about the source as it is -/
theorem wrappedChild_inDomain (rec : Oracle) (s : Interp.Stmt) : wrappedChild (inDomain (rec.exec s)) = stmtChild rec s := by
  rw [wrappedChild, accept_inDomain]
  simp only [inDomain, stmtChild, bnd_assoc, pure_bnd]

/-- … and nothing is swallowed: the list with the wrapper's behaviour is `Spec`'s list -/
theorem swallowList_inDomain (rec : Oracle) : ∀ l : List Interp.Stmt,
    swallowList (l.map fun s => inDomain (rec.exec s)) = execList rec l
  | [] => rfl
  | s :: rest => by
    simp only [List.map, swallowList, execList, inDomain, bnd_assoc, pure_bnd]
    apply bind_congr; intro o
    cases o <;> first | exact swallowList_inDomain rec rest | rfl

theorem execList_eq (C : Ctx) (rec : Oracle) (l : List Interp.Stmt) :
    execList rec l = handlerS C { children := l.map (stmtChild rec) } accept_StatementListNode := by
  rw [← swallowList_inDomain, ← statementList_swallows C, List.map_map]
  simp only [Function.comp_def, wrappedChild_inDomain]

/-! ### the symbol table: the generated `symtab` record, interpreted over the Python scope (blocks in ENTRY order) -/

/-- `scope_head`: the blocks in the order they were entered (Python list; `Spec`'s `Env` is this list reversed) -/
abbrev PScope := List (List (String × Val))

def searchList (o : SearchOrder) (sc : PScope) : PScope :=
  match o with
  | .firstToLast => sc
  | .lastToFirst => sc.reverse

/-- `for block in <order>: if name in block: return block[name]` -/
def pyFind (sh : SymtabShape) (sc : PScope) (x : String) : Option Val :=
  (searchList sh.findSearch sc).findSome? (fun b => b.lookup x)

/-- the first block of the list that holds `x` gets the new value in place (`block[name] = handle; return`) -/
def updFirst (x : String) (v : Val) : PScope → Option PScope
  | [] => none
  | b :: rest => if (b.lookup x).isSome then some (blockSet x v b :: rest) else (updFirst x v rest).map (b :: ·)

/-- `install_symbol`: search, overwrite in place on a hit; on a miss the name is created in the block at `installMissAt`
    (no block at all: Python raises IndexError; here the scope is returned unchanged, the theorems carry the guard) -/
def pyInstall (sh : SymtabShape) (sc : PScope) (x : String) (v : Val) : PScope :=
  let hit := match sh.installSearch, sh.installHit with
    | .firstToLast, .overwriteInPlace => updFirst x v sc
    | .lastToFirst, .overwriteInPlace => (updFirst x v sc.reverse).map List.reverse
  match hit with
  | some sc' => sc'
  | none => match sh.installMissAt with
    | .last => (match sc.reverse with | [] => [] | b :: rest => (((x, v) :: b) :: rest).reverse)
    | .first => (match sc with | [] => [] | b :: rest => ((x, v) :: b) :: rest)

def pyEnterBlock (sh : SymtabShape) (sc : PScope) : PScope :=
  match sh.enterBlockAt with | .last => sc ++ [[]] | .first => [] :: sc
def pyLeaveBlock (sh : SymtabShape) (sc : PScope) : PScope :=
  match sh.leaveBlockAt with | .last => sc.dropLast | .first => sc.tail
def pyNewScope (sh : SymtabShape) : PScope := if sh.scopeStartsWithOneBlock then [[]] else []

/-- `find_symbol` of a walker: self, the scope, then what the record says happens on a miss -/
def pyLookupVar (sh : SymtabShape) (C : Ctx) (x : String) : M Val := do
  let fr ← getFr
  if selfHit fr x then pure fr.self
  else
    match pyFind sh fr.env.reverse x with
    | some v => pure v
    | none =>
      match sh.findMiss with
      | .domainConstant =>
        match C.consts.lookup x with
        | some v => pure v
        | none => fail ("variable " ++ x ++ " is not set")

/-! the invariant: a name is held by at most one block of the scope, once -/

def EnvUnique (env : Env) : Prop := (envNames env).flatten.Nodup

/-- a scope read as ONE association list, the concatenation of its blocks: `envLookup` is the look-up in it, and the invariant
    says that its keys are distinct -/
theorem envLookup_flatten (x : String) : ∀ env : Env, envLookup env x = env.flatten.lookup x
  | [] => rfl
  | b :: rest => by
    rw [List.flatten_cons, List.lookup_append, envLookup_cons, envLookup_flatten x rest]
    cases b.lookup x <;> rfl

theorem findSome_lookup (x : String) : ∀ sc : PScope, sc.findSome? (fun b => b.lookup x) = sc.flatten.lookup x
  | [] => rfl
  | b :: rest => by
    rw [List.findSome?_cons, List.flatten_cons, List.lookup_append, findSome_lookup x rest]
    cases b.lookup x <;> rfl

theorem envNames_flatten (env : Env) : (envNames env).flatten = env.flatten.map Prod.fst := by
  simp only [envNames, List.map_flatten]

theorem envLookup_none_iff (x : String) (env : Env) : envLookup env x = none ↔ x ∉ (envNames env).flatten := by
  rw [envLookup_flatten, envNames_flatten]
  exact lookup_none_iff _ x

theorem envUnique_cons (b : List (String × Val)) (rest : Env) :
    EnvUnique (b :: rest) ↔ (b.map Prod.fst).Nodup ∧ EnvUnique rest ∧
      ∀ x, x ∈ b.map Prod.fst → x ∉ (envNames rest).flatten := by
  simp only [EnvUnique, envNames, List.map_cons, List.flatten_cons, List.nodup_append]
  constructor
  · rintro ⟨h1, h2, h3⟩; exact ⟨h1, h2, fun x hx hr => h3 x hx x hr rfl⟩
  · rintro ⟨h1, h2, h3⟩; exact ⟨h1, h2, fun x hx y hy hxy => h3 x hx (hxy ▸ hy)⟩

/-- under the invariant the order in which the blocks are searched does not matter: another order is a permutation of the
    association list -/
theorem envLookup_perm {env sc : Env} (hp : env.Perm sc) (hu : EnvUnique env) (x : String) :
    envLookup env x = sc.findSome? (fun b => b.lookup x) := by
  rw [envLookup_flatten, findSome_lookup]
  exact lookup_perm hp.flatten (by rw [← envNames_flatten]; exact hu) x

theorem envLookup_eq (env : Env) (x : String) (hu : EnvUnique env) : envLookup env x = pyFind symtab env.reverse x :=
  envLookup_perm (List.reverse_perm env).symm hu x

theorem lookupVar_eq (C : Ctx) (x : String) (c : Cfg) (hu : EnvUnique c.fr.env) :
    lookupVar C x c = pyLookupVar symtab C x c := by
  unfold lookupVar pyLookupVar
  rw [bind_ok (getFr_run c), bind_ok (getFr_run c)]
  rw [envLookup_eq _ _ hu]
  rfl

theorem updFirst_none (x : String) (v : Val) : ∀ sc : PScope, (∀ b ∈ sc, b.lookup x = none) → updFirst x v sc = none
  | [], _ => rfl
  | b :: rest, h => by
    have hb := h b (by simp)
    simp only [updFirst, hb, Option.isSome_none, Bool.false_eq_true, ↓reduceIte,
      updFirst_none x v rest (fun b' hb' => h b' (by simp [hb'])), Option.map_none]

theorem updFirst_append (x : String) (v : Val) (l2 : PScope) : ∀ l1 : PScope,
    updFirst x v (l1 ++ l2) = match updFirst x v l1 with
      | some l1' => some (l1' ++ l2)
      | none => (updFirst x v l2).map (l1 ++ ·)
  | [] => by simp [updFirst]
  | b :: rest => by
    simp only [List.cons_append, updFirst]
    by_cases h : (b.lookup x).isSome
    · simp [h]
    · simp only [h, Bool.false_eq_true, ↓reduceIte, updFirst_append x v l2 rest]
      cases updFirst x v rest <;> simp [Option.map]
      cases updFirst x v l2 <;> simp

/-- a name that no block of the scope holds: the source's search through the blocks in entry order finds none to overwrite -/
theorem updFirst_miss (x : String) (v : Val) (env : Env) (h : x ∉ (envNames env).flatten) : updFirst x v env.reverse = none :=
  updFirst_none x v env.reverse fun b hb => (lookup_none_iff b x).2 fun hx =>
    h (List.mem_flatten.2 ⟨_, List.mem_map.2 ⟨b, List.mem_reverse.1 hb, rfl⟩, hx⟩)

/-- a hit: the block the OUTERMOST-first search of the source updates is the block `Spec` updates -/
theorem updFirst_hit (x : String) (v : Val) : ∀ env : Env, EnvUnique env → (envLookup env x).isSome →
    updFirst x v env.reverse = some (envUpdate x v env).reverse
  | [], _, h => by simp [envLookup] at h
  | b :: rest, hu, h => by
    obtain ⟨_, hr, hd⟩ := (envUnique_cons b rest).1 hu
    rw [List.reverse_cons, updFirst_append]
    unfold envUpdate
    cases hb : b.lookup x with
    | some w =>
      -- uniqueness: `b` holds `x`, so no block of `rest` does; the outermost-first search passes `rest.reverse` and ends in `b`
      have hx : x ∈ b.map Prod.fst :=
        Classical.byContradiction (fun hn => by rw [(lookup_none_iff b x).2 hn] at hb; cases hb)
      simp [updFirst_miss x v rest (hd x hx), updFirst, hb]
    | none =>
      have h' : (envLookup rest x).isSome := by
        unfold envLookup at h; rw [hb] at h; exact h
      simp [updFirst_hit x v rest hr h']

def Ruq (c c' : Cfg) : Prop := EnvUnique c.fr.env → EnvUnique c'.fr.env

theorem envInstall_unique (env : Env) (x : String) (v : Val) (hu : EnvUnique env) : EnvUnique (envInstall env x v) := by
  unfold envInstall
  cases h : (envLookup env x).isSome with
  | true =>
    simp only [↓reduceIte]
    unfold EnvUnique
    rw [envUpdate_names]
    exact hu
  | false =>
    have hx := (envLookup_none_iff x env).1 (Option.not_isSome_iff_eq_none.1 (h ▸ Bool.false_ne_true))
    simp only [Bool.false_eq_true, ↓reduceIte]
    cases env with
    | nil => simp [EnvUnique, envNames]
    | cons b rest =>
      simp only [EnvUnique, envNames, List.map_cons, List.flatten_cons, List.cons_append, List.nodup_cons] at *
      exact ⟨hx, hu⟩

theorem ruq_rel : EnvRel Ruq where
  po := ⟨fun _ h => h, fun _ _ _ h1 h2 h => h2 (h1 h)⟩
  ofRfr := fun h hu => by unfold Rfr at h; rw [h]; exact hu
  install := fun x v c a c' h hu => by
    rw [install_run] at h
    cases h
    exact envInstall_unique _ x v hu
  stateOnly := fun hm c a c' h hu => by rw [hm c a c' h]; exact hu
  setRet := fun v c a c' h hu => by
    simp [setRet] at h
    rw [← h]; exact hu
  push := fun c a c' h hu => by
    rw [pushBlock_run] at h
    cases h
    simpa [EnvUnique, envNames] using hu
  pop := fun c a c' h hu => by
    rw [popBlock_run] at h
    cases h
    show EnvUnique c.fr.env.tail
    cases he : c.fr.env with
    | nil => simp [EnvUnique, envNames]
    | cons b rest =>
      rw [he] at hu
      exact ((envUnique_cons b rest).1 hu).2.1

/-- every statement, with any amount of fuel, keeps the names of the scope unique -/
theorem unique_run (C : Ctx) (n : Nat) (s : Interp.Stmt) (c : Cfg) (o : Out) (c' : Cfg)
    (h : (run C n).exec s c = some (.ok (o, c'))) (hu : EnvUnique c.fr.env) : EnvUnique c'.fr.env :=
  inv_run ruq_rel C n s c o c' h hu

theorem unique_body (C : Ctx) (n : Nat) (body : Block) (c : Cfg) (c' : Cfg)
    (h : runBody (run C n) body c = some (.ok ((), c'))) (hu : EnvUnique c.fr.env) : EnvUnique c'.fr.env := by
  obtain ⟨o, h1⟩ := runBody_inv h
  have ih := step_run (ruq_rel.step C) okTrue (fun _ _ _ _ => trivial) n
  exact step_execBlock (ruq_rel.step C).toStepBase ih.2 body (fun _ _ => trivial) c o c' h1 hu

/-- every body starts with the names of its scope unique -/
theorem unique_start (kind : WalkerKind) (kw : List (String × Val)) (self : Val) : EnvUnique (mkFrame kind kw self).env := by
  simp [mkFrame, EnvUnique, envNames]

end Pyx.IShape
