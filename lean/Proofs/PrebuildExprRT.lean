import Proofs.PrebuildExpr
import PyxModel.Prebuild.Parse

/-
  C05: the expression round trip `parseExpr (genExpr e ++ rest) = (e, rest)`.
-/
namespace Pyx.Prebuild
open Tok Kw Pn

theorem parsePostfix_stop (ctx : Ctx) (f : Nat) (acc : Expr) (rest : List Tok) (h : Stops rest) :
    parsePostfix ctx (f+1) acc rest = some (acc, rest) := by
  rw [parsePostfix.eq_def]
  simp only
  split
  · have := h _ _ rfl; simp [stopTok] at this
  · have := h _ _ rfl; simp [stopTok] at this
  · rfl

theorem parsePostfix_field (ctx : Ctx) (f : Nat) (acc : Expr) (n : String) (rest : List Tok)
    (h : ∀ r, rest ≠ p lpar :: r) :
    parsePostfix ctx (f+1) acc (p dot :: ident n :: rest) = parsePostfix ctx f (.field acc n) rest := by
  rw [parsePostfix.eq_def]
  simp only

theorem Stops.not_lpar {rest : List Tok} (h : Stops rest) : ∀ r, rest ≠ p lpar :: r := by
  intro r e; have := h _ _ e; simp [stopTok] at this

theorem parsePostfix_index (ctx : Ctx) (f : Nat) (acc i : Expr) (ts rest : List Tok)
    (h : parseExpr ctx f ts = some (i, p rsq :: rest)) :
    parsePostfix ctx (f+1) acc (p lsq :: ts) = parsePostfix ctx f (.index acc i) rest := by
  rw [parsePostfix.eq_def]
  simp only [h]

theorem parsePostfix_icall (ctx : Ctx) (f : Nat) (acc : Expr) (n : String) (ps : Params) (ts rest : List Tok)
    (h : parseParams ctx f ts = some (ps, p rpar :: rest)) :
    parsePostfix ctx (f+1) acc (p dot :: ident n :: p lpar :: ts) = some (.icall acc n ps, rest) := by
  rw [parsePostfix.eq_def]
  simp only [h]

theorem succ_of_le {a f : Nat} (h : a + 1 ≤ f) : ∃ g, f = g + 1 ∧ a ≤ g := ⟨f - 1, by omega, by omega⟩

theorem parseExpr_num (ctx : Ctx) (f : Nat) (v : String) (r : List Tok) :
    parseExpr ctx (f+1) (num v :: r) = some (.int v, r) := by rw [parseExpr.eq_def]
theorem parseExpr_frac (ctx : Ctx) (f : Nat) (v : String) (r : List Tok) :
    parseExpr ctx (f+1) (frac v :: r) = some (.real v, r) := by rw [parseExpr.eq_def]
theorem parseExpr_str (ctx : Ctx) (f : Nat) (v : String) (r : List Tok) :
    parseExpr ctx (f+1) (str v :: r) = some (.str v, r) := by rw [parseExpr.eq_def]
theorem parseExpr_true (ctx : Ctx) (f : Nat) (r : List Tok) :
    parseExpr ctx (f+1) (kw true_ :: r) = some (.bool "true", r) := by rw [parseExpr.eq_def]
theorem parseExpr_false (ctx : Ctx) (f : Nat) (r : List Tok) :
    parseExpr ctx (f+1) (kw false_ :: r) = some (.bool "false", r) := by rw [parseExpr.eq_def]
theorem parseExpr_var (ctx : Ctx) (f : Nat) (n : String) (r : List Tok) :
    parseExpr ctx (f+1) (ident n :: r) = parsePostfix ctx f (.var n) r := by rw [parseExpr.eq_def]
theorem parseExpr_self (ctx : Ctx) (f : Nat) (r : List Tok) :
    parseExpr ctx (f+1) (kw self_ :: r) = parsePostfix ctx f .self r := by rw [parseExpr.eq_def]
theorem parseExpr_selected (ctx : Ctx) (f : Nat) (r : List Tok) :
    parseExpr ctx (f+1) (kw selected :: r) = parsePostfix ctx f .selected r := by rw [parseExpr.eq_def]
theorem parseExpr_param (ctx : Ctx) (f : Nat) (n : String) (r : List Tok) :
    parseExpr ctx (f+1) (kw param :: p dot :: ident n :: r) = parsePostfix ctx f (.param n) r := by
  rw [parseExpr.eq_def]

theorem parseExpr_un (ctx : Ctx) (f : Nat) (t : Tok) (op : String) (e : Expr) (r r' : List Tok)
    (h1 : nameOf unOps t = some op) (h2 : parseExpr ctx f r = some (e, p rpar :: r')) :
    parseExpr ctx (f+1) (p lpar :: t :: r) = some (.un op e, r') := by
  rw [parseExpr.eq_def]; simp only [h1, h2]

theorem parseExpr_bin (ctx : Ctx) (f : Nat) (t t2 : Tok) (op : String) (l rr : Expr) (r r2 r3 : List Tok)
    (h1 : nameOf unOps t = none) (h2 : parseExpr ctx f (t :: r) = some (l, t2 :: r2))
    (h3 : nameOf binOps t2 = some op) (h4 : parseExpr ctx f r2 = some (rr, p rpar :: r3)) :
    parseExpr ctx (f+1) (p lpar :: t :: r) = some (.bin l op rr, r3) := by
  rw [parseExpr.eq_def]; simp only [h1, h2, h3, h4]

theorem parseExpr_enum (ctx : Ctx) (f : Nat) (nsp n : String) (r : List Tok) (h : ∀ r1, r ≠ p lpar :: r1) :
    parseExpr ctx (f+1) (ns nsp :: p dcolon :: ident n :: r) = some (.enum nsp n, r) := by
  rw [parseExpr.eq_def]; simp only

theorem parseExpr_call (ctx : Ctx) (f : Nat) (nsp n : String) (ps : Params) (r1 r2 : List Tok)
    (h : parseParams ctx f r1 = some (ps, p rpar :: r2)) :
    parseExpr ctx (f+1) (ns nsp :: p dcolon :: ident n :: p lpar :: r1) =
      some (.call (resolve ctx nsp) nsp n ps, r2) := by
  rw [parseExpr.eq_def]; simp only [h]

theorem parseExpr_func (ctx : Ctx) (f : Nat) (n : String) (ps : Params) (r1 r2 : List Tok)
    (h : parseParams ctx f r1 = some (ps, p rpar :: r2)) :
    parseExpr ctx (f+1) (p dcolon :: ident n :: p lpar :: r1) = some (.call .func "" n ps, r2) := by
  rw [parseExpr.eq_def]; simp only [h]

theorem parseParams_nil (ctx : Ctx) (f : Nat) (r : List Tok) :
    parseParams ctx (f+1) (p rpar :: r) = some (.nil, p rpar :: r) := by rw [parseParams.eq_def]

theorem parseParams_last (ctx : Ctx) (f : Nat) (n : String) (e : Expr) (ts r : List Tok)
    (h : parseExpr ctx f ts = some (e, p rpar :: r)) :
    parseParams ctx (f+1) (ident n :: p colon :: ts) = some (.cons n e .nil, p rpar :: r) := by
  rw [parseParams.eq_def]; simp only [h]

theorem parseParams_more (ctx : Ctx) (f : Nat) (n : String) (e : Expr) (rest : Params) (ts r1 r2 : List Tok)
    (h1 : parseExpr ctx f ts = some (e, p comma :: r1)) (h2 : parseParams ctx f r1 = some (rest, r2)) :
    parseParams ctx (f+1) (ident n :: p colon :: ts) = some (.cons n e rest, r2) := by
  rw [parseParams.eq_def]; simp only [h1, h2]

/-- statement A: a printed expression followed by a stopping token reads back;
    statement B (access paths only, continuation form): whatever the postfix loop makes of the path and `rest`,
    `parseExpr` makes of the printed path followed by `rest` -/
def RT (ctx : Ctx) (e : Expr) : Prop :=
  (∀ rest f, Stops rest → szE e ≤ f → parseExpr ctx f (genExpr e ++ rest) = some (e, rest)) ∧
  (isAccess e = true → ∀ rest r G f, (∀ r', rest ≠ p lpar :: r') →
      (∀ g, G ≤ g → parsePostfix ctx g e rest = some r) → G + szE e ≤ f + 1 →
      parseExpr ctx f (genExpr e ++ rest) = some r)

theorem RT_of_B (ctx : Ctx) (e : Expr)
    (B : ∀ rest r G f, (∀ r', rest ≠ p lpar :: r') → (∀ g, G ≤ g → parsePostfix ctx g e rest = some r) →
        G + szE e ≤ f + 1 → parseExpr ctx f (genExpr e ++ rest) = some r) : RT ctx e := by
  refine ⟨fun rest f hs hf => B rest _ 1 f hs.not_lpar (fun g hg => ?_) (by omega), fun _ => B⟩
  obtain ⟨g', rfl, -⟩ := succ_of_le (a := 0) hg
  exact parsePostfix_stop ctx g' e rest hs

theorem RT_of_A (ctx : Ctx) (e : Expr) (hacc : isAccess e = false)
    (A : ∀ rest f, Stops rest → szE e ≤ f → parseExpr ctx f (genExpr e ++ rest) = some (e, rest)) : RT ctx e :=
  ⟨A, fun h => by rw [hacc] at h; cases h⟩

mutual
  theorem exprRT (ctx : Ctx) (e : Expr) (hw : wfExpr ctx e = true) : RT ctx e := by
    cases e
    case str v =>
      refine RT_of_A ctx _ rfl (fun rest f _ hf => ?_)
      obtain ⟨g, rfl, _⟩ := succ_of_le (a := 0) (by simpa [szE] using hf)
      have hv : requote v = v := by simpa [wfExpr] using hw
      simp only [genExpr, List.cons_append, List.nil_append, parseExpr_str, hv]
    case bool v =>
      refine RT_of_A ctx _ rfl (fun rest f _ hf => ?_)
      obtain ⟨g, rfl, _⟩ := succ_of_le (a := 0) (by simpa [szE] using hf)
      have hv : v = "true" ∨ v = "false" := by simpa [wfExpr] using hw
      rcases hv with rfl | rfl
      · have : boolTok "true" = kw true_ := by decide
        simp only [genExpr, List.cons_append, List.nil_append, this, parseExpr_true]
      · have : boolTok "false" = kw false_ := by decide
        simp only [genExpr, List.cons_append, List.nil_append, this, parseExpr_false]
    case enum a b =>
      refine RT_of_A ctx _ rfl (fun rest f hs hf => ?_)
      obtain ⟨g, rfl, _⟩ := succ_of_le (a := 0) (by simpa [szE] using hf)
      simp only [genExpr, List.cons_append, List.nil_append]
      exact parseExpr_enum ctx g a b rest hs.not_lpar
    case field h n =>
      simp only [wfExpr, Bool.and_eq_true] at hw
      refine RT_of_B ctx _ (fun rest r G f hr hk hf => ?_)
      simp only [szE] at hf
      simp only [genExpr, List.append_assoc, List.cons_append, List.nil_append]
      -- statement B for the handle, with the bound raised by one: the one more round of the postfix loop that
      -- `parsePostfix_field` takes
      refine (exprRT ctx h hw.2).2 hw.1 _ r (G + 1) f (by intro r e; cases e) (fun g hg => ?_) (by omega)
      obtain ⟨g', rfl, hg'⟩ := succ_of_le hg
      rw [parsePostfix_field ctx g' h n rest hr]
      exact hk g' hg'
    case index h i =>
      simp only [wfExpr, Bool.and_eq_true] at hw
      refine RT_of_B ctx _ (fun rest r G f _ hk hf => ?_)
      simp only [szE] at hf
      simp only [genExpr, List.append_assoc, List.cons_append, List.nil_append]
      refine (exprRT ctx h hw.1.2).2 hw.1.1 _ r (G + szE i + 1) f (by intro r e; cases e) (fun g hg => ?_) (by omega)
      obtain ⟨g', rfl, hg'⟩ := succ_of_le hg
      rw [parsePostfix_index ctx g' h i _ rest ((exprRT ctx i hw.2).1 _ g' (Stops.cons rfl) (by omega))]
      exact hk g' (by omega)
    case un op e =>
      simp only [wfExpr, Bool.and_eq_true] at hw
      refine RT_of_A ctx _ rfl (fun rest f _ hf => ?_)
      obtain ⟨g, rfl, hg⟩ := succ_of_le (a := szE e) (by simpa [szE] using hf)
      simp only [genExpr, List.append_assoc, List.cons_append, List.nil_append]
      exact parseExpr_un ctx g _ op e _ rest (tokOf_back unOps_back hw.1) ((exprRT ctx e hw.2).1 _ g (Stops.cons rfl) hg)
    case bin l op r =>
      simp only [wfExpr, Bool.and_eq_true] at hw
      refine RT_of_A ctx _ rfl (fun rest f _ hf => ?_)
      obtain ⟨g, rfl, hg⟩ := succ_of_le (a := szE l + szE r) (by simpa [szE] using hf)
      obtain ⟨t, tl, htl, hst⟩ := genExpr_head l
      simp only [genExpr, List.append_assoc, List.cons_append, List.nil_append]
      have h2 := (exprRT ctx l hw.1.2).1 (tokOf binOps op :: (genExpr r ++ p rpar :: rest)) g
        (Stops.cons (binOps_stop _ (tokOf_mem hw.1.1))) (by omega)
      rw [htl] at h2 ⊢
      exact parseExpr_bin ctx g t _ op l r _ _ rest hst h2 (tokOf_back binOps_back hw.1.1)
        ((exprRT ctx r hw.2).1 _ g (Stops.cons rfl) (by omega))
    case call k nsp name ps =>
      cases k
      case implicit | port => simp only [wfExpr, Bool.false_eq_true] at hw
      all_goals
        simp only [wfExpr, Bool.and_eq_true, beq_iff_eq] at hw
        refine RT_of_A ctx _ rfl (fun rest f _ hf => ?_)
        obtain ⟨g, rfl, hg⟩ := succ_of_le (a := szP ps) (by simpa [szE] using hf)
        simp only [genExpr, List.append_assoc, List.cons_append, List.nil_append]
      case func => rw [parseExpr_func ctx g name ps _ rest (paramsRT ctx ps hw.2 rest g hg), hw.1]
      case bridge | classop => rw [parseExpr_call ctx g nsp name ps _ rest (paramsRT ctx ps hw.2 rest g hg), hw.1]
    case icall h name ps =>
      simp only [wfExpr, Bool.and_eq_true] at hw
      refine RT_of_A ctx _ rfl (fun rest f _ hf => ?_)
      simp only [szE] at hf
      cases h
      all_goals simp only [isVarOrSelf, Bool.false_eq_true, false_and] at hw
      case var | self =>
        simp only [szE] at hf
        obtain ⟨g, rfl, hg⟩ := succ_of_le (a := szP ps + 2) (f := f) (by omega)
        obtain ⟨g', rfl, hg'⟩ := succ_of_le (a := szP ps + 1) hg
        simp only [genExpr, List.append_assoc, List.cons_append, List.nil_append, parseExpr_var, parseExpr_self]
        exact parsePostfix_icall ctx g' _ name ps _ rest (paramsRT ctx ps hw.2 rest g' (by omega))
    case int | real =>
      refine RT_of_A ctx _ rfl (fun rest f _ hf => ?_)
      obtain ⟨g, rfl, _⟩ := succ_of_le (a := 0) (by simpa [szE] using hf)
      simp only [genExpr, List.cons_append, List.nil_append, parseExpr_num, parseExpr_frac]
    case var | self | selected | param =>
      refine RT_of_B ctx _ (fun rest r G f _ hk hf => ?_)
      simp only [szE] at hf
      obtain ⟨g, rfl, hg⟩ := succ_of_le (a := G) (f := f) (by omega)
      simp only [genExpr, List.cons_append, List.nil_append, parseExpr_var, parseExpr_self, parseExpr_selected,
        parseExpr_param]
      exact hk g hg
  theorem paramsRT (ctx : Ctx) : ∀ (ps : Params), wfParams ctx ps = true → ∀ rest f, szP ps ≤ f →
      parseParams ctx f (genParams ps ++ p rpar :: rest) = some (ps, p rpar :: rest)
    | .nil, _ => fun rest f hf => by
        obtain ⟨g, rfl, _⟩ := succ_of_le (a := 0) (by simpa [szP] using hf)
        simp only [genParams, List.nil_append, parseParams_nil]
    | .cons n e .nil, hw => fun rest f hf => by
        have hw' : wfExpr ctx e = true := by simpa [wfParams] using hw
        have ie := (exprRT ctx e hw').1
        obtain ⟨g, rfl, hg⟩ := succ_of_le (a := szE e + 1) (by simpa [szP] using hf)
        simp only [genParams, List.cons_append, List.nil_append]
        exact parseParams_last ctx g n e _ rest (ie _ g (Stops.cons rfl) (by omega))
    | .cons n e (.cons n2 e2 r2), hw => fun rest f hf => by
        have hw' : wfExpr ctx e = true ∧ wfParams ctx (.cons n2 e2 r2) = true := by
          simpa [wfParams] using hw
        have ie := (exprRT ctx e hw'.1).1
        have ir := paramsRT ctx (.cons n2 e2 r2) hw'.2
        simp only [szP] at hf
        obtain ⟨g, rfl, hg⟩ := succ_of_le (a := szE e + (szE e2 + szP r2 + 1)) (by omega)
        have hgen : genParams (.cons n e (.cons n2 e2 r2)) =
            [ident n, p colon] ++ genExpr e ++ [p comma] ++ genParams (.cons n2 e2 r2) := by
          rw [genParams]; intro h; cases h
        rw [hgen]
        simp only [List.append_assoc, List.cons_append, List.nil_append]
        exact parseParams_more ctx g n e _ _ _ _ (ie _ g (Stops.cons rfl) (by omega))
          (ir rest g (by simp only [szP]; omega))
end

end Pyx.Prebuild
