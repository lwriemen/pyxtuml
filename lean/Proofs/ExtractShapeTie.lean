import Gen.ExtractShape
import PyxModel.Extract.Rows
import Proofs.Lib.SimpSets

/-!
  C14 — generic interpreter of the IR of Gen/ExtractShape.lean (the statement structure of the extraction functions of
  bridgepoint/ooaofooa.py), its rewrite rules, the populations `dtWorld` and `relWorld`, and the tie of `_get_data_type_name`
  (`dtType_eq`).  The other functions are tied in Proofs/ExtractShapeAssoc / Linked / Subsup (mk_association), Scope
  (is_global, is_contained_in), Class and Attrs (the two loops of mk_class).

  The interpreter (`Pyx.XShape`: `eNav`, `eExpr`, `eCond`, `iStmt` / `iStmts`, `callAt`) works for ANY IR value over an abstract
  population `World I`: instance handles `I`, one navigation step `hop` (the instances related across `<CLS>[<rel>, '<phrase>']`,
  in link order), attribute reading `attr`, `type(x).__name__` = `kind`, `subtype(x, rel)`, `select_many(cls)` = `select`.  It
  records the `define_class` / `define_unique_identifier` / `define_association` calls with the value handed to EACH parameter.
  Python's `None.attr` is the error `attributeError`, calling `None` is `typeError`; anything the IR cannot express is `stuck`.

  The model of C14 is stated over the class diagram (PyxModel/Extract/Diagram.lean), not over rows.  The population a diagram
  denotes is given as hand-written worlds (`relWorld`, `dtWorld` here; `scopeWorld`, `classWorld`, `attrWorld` in the files
  that use them): the same diagram -> rows reading as harness/ooa_encoder.py, in navigation form (an end row together with its R_RGO / R_RTO / R_OIR supertype rows, the O_REF rows
  of an (R_RGO, R_RTO) pair with their O_RATTR / O_RTIDA / O_OIDA rows, ...).  THIS reading is hand-modelled (validated by the
  correspondence K of the harness); everything between it and the `define_*` arguments is the generated IR.

  Running the interpreter on a concrete IR is `simp only [xsh, <the function's Def>, <hypotheses>]`.  The set `xsh` holds the
  equation lemmas of the interpreter (`attribute [xsh] iStmt.eq_1 …` below: ALL equations of each function, so the numbering
  carries no meaning), the few facts about `Option` / `List` / `Bool` the results need, and, under `xsh_proc`, the simprocs that
  decide `=` / `!=` between `String` literals and `=` between distinct constructors.  A `World` is wired in by `[xsh]` lemmas
  `W.hop x ⟨cls, rel, phrase⟩ = …`, one conjunction per kind of row `x` (`relHop_*` below), and the equations of its `attr`.
  A fuel `n + 1` at a call is the depth of calls below it: `mk_association` (6) calls a constructor (5), that `_mk_assoc` (4) or `_get_related_attributes`.
-/

namespace Pyx.XShape
open Pyx.Extract Pyx.Gen.ExtractShape

inductive Err where
  | attributeError            -- None.<attr>
  | typeError                 -- None(...)
  | raised (exc : String)     -- raise <exc>(...)
  | stuck                     -- outside the interpreted fragment (ill-typed IR, fuel)
  deriving DecidableEq, Repr

inductive Val (I : Type) where
  | inst (o : Option I)                 -- an instance or None
  | insts (l : List I)                  -- a set of instances, in navigation order
  | str (s : String)
  | nat (n : Nat)
  | bool (b : Bool)
  | strs (l : List String)
  | pairs (l : List (String × String))
  | tup (a b : Val I)
  | table (t : List (String × String))
  | fn (name : Option String)           -- a function of the file / None
  | opaque                              -- the metamodel under construction, a metaclass, ...
  | unset

/-- one `m.define_*` call: the value handed to each parameter (positional ones are "0", "1", …), and the `*names` -/
structure Call (I : Type) where
  fn : String
  args : List (String × Val I)
  star : List String

structure World (I : Type) where
  hop : I → Hop → List I
  attr : I → String → Val I
  kind : I → String
  subtype : I → Nat → Option I
  select : String → List I

abbrev Loc (I : Type) := String → Val I
def Loc.set {I : Type} (L : Loc I) (x : String) (v : Val I) : Loc I := fun y => if y = x then v else L y
def Loc.empty {I : Type} : Loc I := fun _ => .unset

def bindAll {I : Type} (L : Loc I) : List String → List (Val I) → Loc I
  | p :: ps, a :: as => bindAll (L.set p a) ps as
  | _, _ => L

inductive Sig (I : Type) where
  | next
  | ret (v : Val I)
  | cont

abbrev Calls (I : Type) := List (Call I)
abbrev CallF (I : Type) := String → List (Val I) → Loc I → Calls I → Except Err (Val I × Calls I)

def truthy {I : Type} : Val I → Option Bool
  | .inst o => some o.isSome
  | .insts l => some (!l.isEmpty)
  | .str s => some (s != "")
  | .nat n => some (n != 0)
  | .bool b => some b
  | .strs l => some (!l.isEmpty)
  | .pairs l => some (!l.isEmpty)
  | _ => none

section
variable {I : Type} [DecidableEq I]

def startSet : Val I → Option (List I)
  | .inst o => some o.toList
  | .insts l => some l
  | _ => none

def evalHops (W : World I) : List I → List Hop → List I
  | xs, [] => xs
  | xs, h :: t => evalHops W (xs.flatMap (fun x => W.hop x h)) t

/-- the filter of a navigation, evaluated per candidate (lazily: no candidate, no evaluation) -/
def passes (W : World I) (L : Loc I) : Filter → I → Except Err Bool
  | .all, _ => .ok true
  | .neVar v, x =>
    match L v with
    | .inst o => .ok (decide (o ≠ some x))
    | _ => .error .stuck
  | .attrEqAttr f v g, x =>
    match L v with
    | .inst (some y) =>
      match W.attr x f, W.attr y g with
      | .nat a, .nat b => .ok (a == b)
      | _, _ => .error .stuck
    | .inst none => .error .attributeError
    | _ => .error .stuck
  | .lacks hops, x => .ok (evalHops W [x] hops).isEmpty

def filterE (p : I → Except Err Bool) : List I → Except Err (List I)
  | [] => .ok []
  | x :: xs =>
    match p x with
    | .error e => .error e
    | .ok b =>
      match filterE p xs with
      | .error e => .error e
      | .ok r => .ok (if b then x :: r else r)

def eNav (W : World I) (L : Loc I) (n : Nav) : Except Err (Val I) :=
  match startSet (L n.start) with
  | none => .error .stuck
  | some xs =>
    match filterE (passes W L n.filter) (evalHops W xs n.hops) with
    | .error e => .error e
    | .ok ys =>
      match n.card with
      | .many => .ok (.insts ys)
      | _ => .ok (.inst ys.head?)

def namesE (W : World I) (f : String) : List I → Except Err (List String)
  | [] => .ok []
  | x :: xs =>
    match W.attr x f, namesE W f xs with
    | .str s, .ok r => .ok (s :: r)
    | _, .error e => .error e
    | _, _ => .error .stuck

def eExpr (W : World I) (callF : CallF I) (L : Loc I) (C : Calls I) : Expr → Except Err (Val I × Calls I)
  | .nav n => (eNav W L n).map (fun v => (v, C))
  | .var v => .ok (L v, C)
  | .attr v f =>
    match L v with
    | .inst (some x) => .ok (W.attr x f, C)
    | .inst none => .error .attributeError
    | _ => .error .stuck
  | .attrSucc v f =>
    match L v with
    | .inst (some x) => match W.attr x f with
      | .nat n => .ok (.nat (n + 1), C)
      | _ => .error .stuck
    | .inst none => .error .attributeError
    | _ => .error .stuck
  | .attrUpper v f =>
    match L v with
    | .inst (some x) => match W.attr x f with
      | .str s => .ok (.str (upper s), C)
      | _ => .error .stuck
    | .inst none => .error .attributeError
    | _ => .error .stuck
  | .str s => .ok (.str s, C)
  | .bool b => .ok (.bool b, C)
  | .none => .ok (.inst none, C)
  | .emptyList => .ok (.strs [], C)
  | .listOf v => .ok (L v, C)
  | .namesOf f v =>
    match L v with
    | .insts l => (namesE W f l).map (fun r => (.strs r, C))
    | _ => .error .stuck
  | .pair a b => .ok (.tup (L a) (L b), C)
  | .call fn args => callF fn (args.map L) L C
  | .callVar v args =>
    match L v with
    | .fn (some name) => callF name (args.map L) L C
    | .fn none => .error .typeError
    | _ => .error .stuck
  | .table t => .ok (.table t, C)
  | .tableGet tbl v =>
    match L tbl, L v with
    | .table t, .inst (some x) => .ok (.fn (t.lookup (W.kind x)), C)
    | .table t, .inst none => .ok (.fn (t.lookup "NoneType"), C)
    | _, _ => .error .stuck
  | .subtype v rel =>
    match L v with
    | .inst (some x) => .ok (.inst (W.subtype x rel), C)
    | _ => .error .stuck
  | .selectAnyWhere cls a v =>
    match L v with
    | .str s => .ok (.inst ((W.select cls).find? (fun x => match W.attr x a with
        | .str t => t == s
        | _ => false)), C)
    | .inst none => .ok (.inst none, C)
    | _ => .error .stuck

def eCond (W : World I) (callF : CallF I) (L : Loc I) : Cond → Calls I → Except Err (Bool × Calls I)
  | .truthy e, C =>
    match eExpr W callF L C e with
    | .error e => .error e
    | .ok (v, C') => match truthy v with
      | some b => .ok (b, C')
      | none => .error .stuck
  | .not c, C => (eCond W callF L c C).map (fun r => (!r.1, r.2))
  | .and a b, C =>
    match eCond W callF L a C with
    | .error e => .error e
    | .ok (false, C') => .ok (false, C')
    | .ok (true, C') => eCond W callF L b C'
  | .or a b, C =>
    match eCond W callF L a C with
    | .error e => .error e
    | .ok (true, C') => .ok (true, C')
    | .ok (false, C') => eCond W callF L b C'
  | .attrNe a f b g, C =>
    match L a, L b with
    | .inst (some x), .inst (some y) =>
      match W.attr x f, W.attr y g with
      | .nat m, .nat n => .ok (m != n, C)
      | _, _ => .error .stuck
    | .inst none, .inst _ => .error .attributeError
    | .inst _, .inst none => .error .attributeError
    | _, _ => .error .stuck
  | .typeNameNe v name, C =>
    match L v with
    | .inst (some x) => .ok (W.kind x != name, C)
    | .inst none => .ok ("NoneType" != name, C)
    | _ => .error .stuck
  | .isNone v, C =>
    match L v with
    | .inst o => .ok (o.isNone, C)
    | _ => .error .stuck
  | .among v vs, C =>
    match L v with
    | .inst o => .ok (vs.any (fun w => match L w with
        | .inst o' => decide (o = o')
        | _ => false), C)
    | _ => .error .stuck
  | .attrInRange v f lo hi, C =>
    match L v with
    | .inst (some x) => match W.attr x f with
      | .nat n => .ok (decide (lo ≤ n ∧ n < hi), C)
      | _ => .error .stuck
    | .inst none => .error .attributeError
    | _ => .error .stuck

abbrev Step (I : Type) := Except Err (Loc I × Calls I × Sig I)

def forLoop (body : I → Loc I → Calls I → Step I) : List I → Loc I → Calls I → Step I
  | [], L, C => .ok (L, C, .next)
  | x :: xs, L, C =>
    match body x L C with
    | .error e => .error e
    | .ok (L', C', .ret v) => .ok (L', C', .ret v)
    | .ok (L', C', _) => forLoop body xs L' C'

def whileLoop (v : String) (body : Loc I → Calls I → Step I) : Nat → Loc I → Calls I → Step I
  | 0, _, _ => .error .stuck
  | n + 1, L, C =>
    match truthy (L v) with
    | none => .error .stuck
    | some false => .ok (L, C, .next)
    | some true =>
      match body L C with
      | .error e => .error e
      | .ok (L', C', .ret r) => .ok (L', C', .ret r)
      | .ok (L', C', _) => whileLoop v body n L' C'

def evalArgs (W : World I) (callF : CallF I) (L : Loc I) : List (String × Expr) → Calls I → Except Err (List (String × Val I) × Calls I)
  | [], C => .ok ([], C)
  | (p, e) :: rest, C =>
    match eExpr W callF L C e with
    | .error e => .error e
    | .ok (v, C') =>
      match evalArgs W callF L rest C' with
      | .error e => .error e
      | .ok (r, C'') => .ok ((p, v) :: r, C'')

def thenStep (r : Step I) (k : Loc I → Calls I → Step I) : Step I :=
  match r with
  | .error e => .error e
  | .ok (L, C, .next) => k L C
  | .ok (L, C, s) => .ok (L, C, s)

mutual
  def iStmt (W : World I) (callF : CallF I) (fuel : Nat) : Stmt → Loc I → Calls I → Step I
    | .assign dst e, L, C =>
      match eExpr W callF L C e with
      | .error e => .error e
      | .ok (v, C') => .ok (L.set dst v, C', .next)
    | .assignAll dsts e, L, C =>
      match eExpr W callF L C e with
      | .error e => .error e
      | .ok (v, C') => .ok (dsts.foldl (fun L' d => L'.set d v) L, C', .next)
    | .unpack d1 d2 e, L, C =>
      match eExpr W callF L C e with
      | .error e => .error e
      | .ok (.tup a b, C') => .ok ((L.set d1 a).set d2 b, C', .next)
      | .ok _ => .error .stuck
    | .append l e, L, C =>
      match eExpr W callF L C e with
      | .error e => .error e
      | .ok (.str s, C') =>
        match L l with
        | .strs xs => .ok (L.set l (.strs (xs ++ [s])), C', .next)
        | _ => .error .stuck
      | .ok _ => .error .stuck
    | .appendPair l e1 e2, L, C =>
      match eExpr W callF L C e1 with
      | .error e => .error e
      | .ok (.str a, C') =>
        match eExpr W callF L C' e2 with
        | .error e => .error e
        | .ok (.str b, C'') =>
          match L l with
          | .strs [] => .ok (L.set l (.pairs [(a, b)]), C'', .next)
          | .pairs xs => .ok (L.set l (.pairs (xs ++ [(a, b)])), C'', .next)
          | _ => .error .stuck
        | .ok _ => .error .stuck
      | .ok _ => .error .stuck
    | .ite c thn els, L, C =>
      match eCond W callF L c C with
      | .error e => .error e
      | .ok (true, C') => iStmts W callF fuel thn L C'
      | .ok (false, C') => iStmts W callF fuel els L C'
    | .forNav v n body, L, C =>
      match eNav W L n with
      | .error e => .error e
      | .ok (.insts xs) => forLoop (fun x L' C' => iStmts W callF fuel body (L'.set v (.inst (some x))) C') xs L C
      | .ok _ => .error .stuck
    | .forSelect v cls sel scope body, L, C =>
      match filterE (fun x => (eCond W callF (L.set sel (.inst (some x))) scope []).map (·.1)) (W.select cls) with
      | .error e => .error e
      | .ok xs => forLoop (fun x L' C' => iStmts W callF fuel body (L'.set v (.inst (some x))) C') xs L C
    | .whileVar v body, L, C => whileLoop v (fun L' C' => iStmts W callF fuel body L' C') fuel L C
    | .log, L, C => .ok (L, C, .next)
    | .pass, L, C => .ok (L, C, .next)
    | .continue, L, C => .ok (L, C, .cont)
    | .ret e, L, C =>
      match eExpr W callF L C e with
      | .error e => .error e
      | .ok (v, C') => .ok (L, C', .ret v)
    | .raise exc, _, _ => .error (.raised exc)
    | .define fn args star bind, L, C =>
      match evalArgs W callF L args C with
      | .error e => .error e
      | .ok (vs, C') =>
        match (match star with
          | none => some []
          | some s => match L s with
            | .strs l => some l
            | _ => none) with
        | none => .error .stuck
        | some st =>
          .ok ((match bind with
            | some b => L.set b .opaque
            | none => L), C' ++ [{ fn := fn, args := vs, star := st }], .next)
    | .callStmt fn args, L, C =>
      match callF fn (args.map L) L C with
      | .error e => .error e
      | .ok (_, C') => .ok (L, C', .next)
    | .opaque _, L, C => .ok (L, C, .next)
  def iStmts (W : World I) (callF : CallF I) (fuel : Nat) : List Stmt → Loc I → Calls I → Step I
    | [], L, C => .ok (L, C, .next)
    | s :: rest, L, C => thenStep (iStmt W callF fuel s L C) (iStmts W callF fuel rest)
end

/-- functions of other ties (translator/gen_callshape.py): their result is an opaque value, they define nothing -/
def foreign : List String := ["mk_operation", "mk_derived_attribute", "mk_function", "mk_enum", "mk_constant", "mk_external_entity"]

/-- calling a function of the file: a fresh frame (a nested function: the caller's), the parameters bound in order; falling off
    the end returns None.  `fuel` bounds the call depth and the iterations of each `while`. -/
def callAt (W : World I) (defs : List (String × Def)) : Nat → CallF I
  | 0, _, _, _, _ => .error .stuck
  | n + 1, f, args, Lc, C =>
    if foreign.contains f then .ok (.opaque, C) else
    match defs.lookup f with
    | none => .error .stuck
    | some d =>
      if d.params.length ≠ args.length then .error .stuck else
      match iStmts W (callAt W defs n) n d.body (bindAll (if d.nested then Lc else Loc.empty) d.params args) C with
      | .error e => .error e
      | .ok (_, C', .ret v) => .ok (v, C')
      | .ok (_, C', _) => .ok (.inst none, C')

def run (W : World I) (defs : List (String × Def)) (fuel : Nat) (f : String) (args : List (Val I)) : Except Err (Val I × Calls I) :=
  callAt W defs fuel f args Loc.empty []

end

/-! ### the interpreter as rewrite rules

  The rules are the equation THEOREMS of the functions.  (Given the functions' names, `simp [iStmt, …]`, simp unfolds by
  definitional reduction and records no proof; the kernel then re-checks each step by running the interpreter.) -/

attribute [xsh] iStmts.eq_1 iStmts.eq_2 thenStep.eq_1 thenStep.eq_2
  iStmt.eq_1 iStmt.eq_2 iStmt.eq_3 iStmt.eq_4 iStmt.eq_5 iStmt.eq_6 iStmt.eq_7 iStmt.eq_8 iStmt.eq_9 iStmt.eq_10 iStmt.eq_11
  iStmt.eq_12 iStmt.eq_13 iStmt.eq_14 iStmt.eq_15 iStmt.eq_16 iStmt.eq_17 iStmt.eq_18 iStmt.eq_19 iStmt.eq_20
  eExpr.eq_1 eExpr.eq_2 eExpr.eq_3 eExpr.eq_4 eExpr.eq_5 eExpr.eq_6 eExpr.eq_7 eExpr.eq_8 eExpr.eq_9 eExpr.eq_10 eExpr.eq_11
  eExpr.eq_12 eExpr.eq_13 eExpr.eq_14 eExpr.eq_15 eExpr.eq_16 eExpr.eq_17 eExpr.eq_18
  eCond.eq_1 eCond.eq_2 eCond.eq_3 eCond.eq_4 eCond.eq_5 eCond.eq_6 eCond.eq_7 eCond.eq_8 eCond.eq_9
  evalArgs.eq_1 evalArgs.eq_2 forLoop.eq_1 forLoop.eq_2 whileLoop.eq_1 whileLoop.eq_2 filterE.eq_1 filterE.eq_2
  passes.eq_1 passes.eq_2 passes.eq_3 passes.eq_4 startSet.eq_1 startSet.eq_2 eNav.eq_1 evalHops.eq_1 bindAll.eq_1
  truthy.eq_1 truthy.eq_2 truthy.eq_3 truthy.eq_4 truthy.eq_5 truthy.eq_6 truthy.eq_7

attribute [xsh] Option.isSome_none Option.isSome_some Option.toList_none Option.toList_some Option.map_none Option.map_some
  Option.bind_none Option.bind_some Option.head?_toList List.head?_nil List.head?_cons List.isEmpty_nil List.isEmpty_cons List.map_nil List.map_cons
  List.nil_append List.foldl_nil List.foldl_cons List.any_cons List.any_nil Option.bind_fun_none Bool.or_false Bool.or_true
  Bool.true_or Bool.false_or Bool.not_true Bool.not_false Bool.false_eq_true Bool.and_true Bool.and_false Bool.true_and Bool.false_and
  ne_eq not_true_eq_false not_false_eq_true decide_true decide_false if_true if_false

attribute [xsh_proc] reduceCtorEq String.reduceEq String.reduceBNe

section
variable {I : Type}

@[xsh] theorem thenStep_ret (L : Loc I) (C : Calls I) (v : Val I) (k : Loc I → Calls I → Step I) :
    thenStep (.ok (L, C, .ret v)) k = .ok (L, C, .ret v) := thenStep.eq_3 k L C _ nofun

@[xsh] theorem thenStep_cont (L : Loc I) (C : Calls I) (k : Loc I → Calls I → Step I) :
    thenStep (.ok (L, C, .cont)) k = .ok (L, C, .cont) := thenStep.eq_3 k L C _ nofun

@[xsh] theorem map_ok {α β : Type} (f : α → β) (a : α) : Except.map f (.ok a : Except Err α) = .ok (f a) := rfl

theorem thenStep_assoc (r : Step I) (k1 k2 : Loc I → Calls I → Step I) :
    thenStep (thenStep r k1) k2 = thenStep r (fun L C => thenStep (k1 L C) k2) := by
  rcases r with e | ⟨L, C, s⟩
  · rfl
  · cases s <;> rfl

@[xsh] theorem bindAll_nil (L : Loc I) (as : List (Val I)) : bindAll L [] as = L := bindAll.eq_2 L [] as (by simp)

@[xsh] theorem Loc.set_apply (L : Loc I) (x y : String) (v : Val I) : (L.set x v) y = if y = x then v else L y := by
  unfold Loc.set; exact Eq.refl _

theorem filterE_all (p : I → Except Err Bool) (xs : List I) (h : ∀ x ∈ xs, p x = .ok true) :
    filterE p xs = .ok xs := by
  induction xs with
  | nil => rfl
  | cons x xs ih =>
    simp only [filterE, h x (List.mem_cons_self), ih (fun y hy => h y (List.mem_cons_of_mem _ hy))]
    rfl

/-- what a call makes of the run of the body -/
def retOf : Step I → Except Err (Val I × Calls I)
  | .error e => .error e
  | .ok (_, C', .ret v) => .ok (v, C')
  | .ok (_, C', _) => .ok (.inst none, C')

attribute [xsh] retOf.eq_1 retOf.eq_2

@[xsh] theorem retOf_next (L : Loc I) (C : Calls I) : retOf (.ok (L, C, .next)) = .ok (.inst none, C) := rfl

/-- one hop from one instance: `evalHops.eq_2` would leave `W.hop x h` under a binder `x`, where simp unfolds every case of
    the world's `hop` -/
@[xsh] theorem evalHops_one (W : World I) (x : I) (h : Hop) (t : List Hop) :
    evalHops W [x] (h :: t) = evalHops W (W.hop x h) t := by
  simp only [evalHops, List.flatMap_cons, List.flatMap_nil, List.append_nil]

theorem evalHops_append (W : World I) (xs ys : List I) (hs : List Hop) :
    evalHops W (xs ++ ys) hs = evalHops W xs hs ++ evalHops W ys hs := by
  induction hs generalizing xs ys with
  | nil => rfl
  | cons h t ih => simp only [evalHops, List.flatMap_append, ih]

@[xsh] theorem evalHops_none (W : World I) (hs : List Hop) : evalHops W [] hs = [] := by
  induction hs with
  | nil => rfl
  | cons h t ih => simpa only [evalHops, List.flatMap_nil] using ih

end

section
variable {I : Type} [DecidableEq I]

theorem iStmts_append (W : World I) (cf : CallF I) (fuel : Nat) (a b : List Stmt) (L : Loc I) (C : Calls I) :
    iStmts W cf fuel (a ++ b) L C = thenStep (iStmts W cf fuel a L C) (iStmts W cf fuel b) := by
  induction a generalizing L C with
  | nil => simp only [List.nil_append, iStmts.eq_1, thenStep.eq_2]
  | cons s a ih =>
    simp only [List.cons_append, iStmts.eq_2, thenStep_assoc]
    congr 1
    funext L' C'
    exact ih L' C'

@[xsh] theorem filterE_passes_all (W : World I) (L : Loc I) (xs : List I) :
    filterE (passes W L .all) xs = .ok xs := filterE_all _ _ (fun _ _ => rfl)

theorem foreign_undefined : foreign.all (fun g => (defs.lookup g).isNone) = true := by decide +kernel

theorem callAt_def (W : World I) (n : Nat) (f : String) (d : Def) (args : List (Val I)) (Lc : Loc I) (C : Calls I)
    (hd : defs.lookup f = some d) (hl : d.params.length = args.length) :
    callAt W defs (n + 1) f args Lc C =
      retOf (iStmts W (callAt W defs n) n d.body (bindAll (if d.nested then Lc else Loc.empty) d.params args) C) := by
  have hf : foreign.contains f = false := by
    cases hf : foreign.contains f with
    | false => rfl
    | true =>
      have h := List.all_eq_true.mp foreign_undefined f (List.contains_iff_mem.mp hf)
      rw [hd] at h
      cases h
  rw [callAt.eq_2]
  simp only [hf, hd, hl, Bool.false_eq_true, ↓reduceIte, ne_eq, not_true_eq_false]
  unfold retOf
  split <;> simp_all

end

end Pyx.XShape

/-! ## the data-type mapping: `_get_data_type_name` -/
namespace Pyx.XShape
open Pyx.Extract Pyx.Gen.ExtractShape

/-- the S_DT rows with their R17 subtype rows -/
inductive DI where
  | dt (t : DataType)
  | cdt (t : DataType)
  | edt (t : DataType)
  | udt (t : DataType)
  deriving DecidableEq

/-- the data types of a diagram as a population: S_DT —R17→ S_CDT (Core_Typ) / S_EDT / S_UDT —R18→ S_DT -/
def dtWorld (dts : List DataType) : World DI where
  hop x h :=
    match x with
    | .dt t =>
      if h = { cls := "S_CDT", rel := 17, phrase := "" } then (match t.kind with | .core _ => [.cdt t] | _ => [])
      else if h = { cls := "S_EDT", rel := 17, phrase := "" } then (match t.kind with | .enum _ => [.edt t] | _ => [])
      else if h = { cls := "S_UDT", rel := 17, phrase := "" } then (match t.kind with | .user _ => [.udt t] | _ => [])
      else []
    | .udt t =>
      if h = { cls := "S_DT", rel := 18, phrase := "" } then
        (match t.kind with | .user b => ((findDt dts b).map DI.dt).toList | _ => [])
      else []
    | _ => []
  attr x f :=
    match x with
    | .dt t => if f = "Name" then .str t.name else .unset
    | .cdt t => if f = "Core_Typ" then (match t.kind with | .core n => .nat n | _ => .unset) else .unset
    | _ => .unset
  kind x := match x with | .dt _ => "S_DT" | .cdt _ => "S_CDT" | .edt _ => "S_EDT" | .udt _ => "S_UDT"
  subtype _ _ := none
  select _ := []

/-- what `mk_class` makes of the result: `elif not ty:` — None and the empty string are no type; an interpreter error (stuck,
    out of fuel, AttributeError) is no type either, so `dtType_eq` does not tell an IR that cannot be run from an unsupported type -/
def tyOf {I : Type} : Except Err (Val I × Calls I) → Option String
  | .ok (.str s, _) => if s = "" then none else some s
  | _ => none

theorem upper_eq_empty (s : String) : upper s = "" ↔ s = "" := by
  unfold upper
  constructor
  · intro h
    have h2 : (String.ofList (s.toList.map Char.toUpper)).toList = [] := by rw [h]; rfl
    simp at h2
    exact h2
  · intro h; subst h; rfl

theorem lookup_get_data_type_name : defs.lookup "_get_data_type_name" = some get_data_type_name := by
  simp only [defs, List.lookup_cons, String.reduceBEq]
theorem lookup_get_related_attributes : defs.lookup "_get_related_attributes" = some get_related_attributes := by
  simp only [defs, List.lookup_cons, String.reduceBEq]
theorem lookup_mk_simple_association : defs.lookup "mk_simple_association" = some mk_simple_association := by
  simp only [defs, List.lookup_cons, String.reduceBEq]
theorem lookup_mk_linked_association : defs.lookup "mk_linked_association" = some mk_linked_association := by
  simp only [defs, List.lookup_cons, String.reduceBEq]
theorem lookup_mk_assoc : defs.lookup "_mk_assoc" = some mk_linked_association_mk_assoc := by
  simp only [defs, List.lookup_cons, String.reduceBEq]
theorem lookup_mk_subsuper_association : defs.lookup "mk_subsuper_association" = some mk_subsuper_association := by
  simp only [defs, List.lookup_cons, String.reduceBEq]
theorem lookup_mk_derived_association : defs.lookup "mk_derived_association" = some mk_derived_association := by
  simp only [defs, List.lookup_cons, String.reduceBEq]
theorem lookup_mk_association : defs.lookup "mk_association" = some mk_association := by
  simp only [defs, List.lookup_cons, String.reduceBEq]

theorem dtWorld_hop (dts : List DataType) (x : DI) (h : Hop) : (dtWorld dts).hop x h =
    match x with
    | .dt t =>
      if h = { cls := "S_CDT", rel := 17, phrase := "" } then (match t.kind with | .core _ => [.cdt t] | _ => [])
      else if h = { cls := "S_EDT", rel := 17, phrase := "" } then (match t.kind with | .enum _ => [.edt t] | _ => [])
      else if h = { cls := "S_UDT", rel := 17, phrase := "" } then (match t.kind with | .user _ => [.udt t] | _ => [])
      else []
    | .udt t =>
      if h = { cls := "S_DT", rel := 18, phrase := "" } then
        (match t.kind with | .user b => ((findDt dts b).map DI.dt).toList | _ => [])
      else []
    | _ => [] := rfl
theorem dtWorld_attr (dts : List DataType) (x : DI) (f : String) : (dtWorld dts).attr x f =
    match x with
    | .dt t => if f = "Name" then .str t.name else .unset
    | .cdt t => if f = "Core_Typ" then (match t.kind with | .core n => .nat n | _ => .unset) else .unset
    | _ => .unset := rfl

@[xsh] theorem dtWorld_dt (dts : List DataType) (t : DataType) :
    (dtWorld dts).hop (.dt t) ⟨"S_CDT", 17, ""⟩ = (match t.kind with | .core _ => [.cdt t] | _ => []) ∧
    (dtWorld dts).hop (.dt t) ⟨"S_EDT", 17, ""⟩ = (match t.kind with | .enum _ => [.edt t] | _ => []) ∧
    (dtWorld dts).hop (.dt t) ⟨"S_UDT", 17, ""⟩ = (match t.kind with | .user _ => [.udt t] | _ => []) ∧
    (dtWorld dts).hop (.udt t) ⟨"S_DT", 18, ""⟩ =
      (match t.kind with | .user b => ((findDt dts b).map DI.dt).toList | _ => []) ∧
    (dtWorld dts).attr (.dt t) "Name" = .str t.name ∧
    (dtWorld dts).attr (.cdt t) "Core_Typ" = (match t.kind with | .core n => .nat n | _ => .unset) :=
  ⟨rfl, rfl, rfl, rfl, rfl, rfl⟩

theorem dtType_eq (dts : List DataType) : ∀ (f id : Nat) (L : Loc DI) (C : Calls DI),
    tyOf (callAt (dtWorld dts) defs f "_get_data_type_name" [.inst ((findDt dts id).map DI.dt)] L C) =
      dtTypeFuel dts f id := by
  intro f
  induction f with
  | zero => intro id L C; rfl
  | succ f ih =>
    intro id L C
    rw [callAt_def _ _ _ _ _ _ _ lookup_get_data_type_name rfl, dtTypeFuel]
    cases ht : findDt dts id with
    | none => simp only [xsh, get_data_type_name, tyOf]
    | some t =>
      cases hk : t.kind with
      | core n =>
        by_cases hn : 1 ≤ n ∧ n < 6
        · have hn' : 1 ≤ n ∧ n ≤ 5 := by omega
          simp only [xsh, get_data_type_name, hk, hn, hn', tyOf, upper_eq_empty, true_and, ite_not]
        · have hn' : ¬ (1 ≤ n ∧ n ≤ 5 ∧ t.name ≠ "") := by omega
          simp only [xsh, get_data_type_name, hk, hn, hn', tyOf]
      | enum es => simp only [xsh, get_data_type_name, hk, tyOf]
      | other => simp only [xsh, get_data_type_name, hk, tyOf]
      | user b =>
        simp only [xsh, get_data_type_name, hk]
        cases hb : findDt dts b with
        | none =>
          have hm : dtTypeFuel dts f b = none := by cases f <;> simp only [dtTypeFuel, hb]
          simp only [xsh, tyOf, hm]
        | some tb =>
          -- the recursive call has the locals of this frame as its caller's locals
          have hi := ih b (((Loc.empty.set "s_dt" (.inst (some (DI.dt t)))).set "s_cdt" (.inst none)).set "s_dt"
            (.inst (some (DI.dt tb)))) C
          rw [hb] at hi
          rw [← hi]
          simp only [xsh]
          generalize callAt (dtWorld dts) defs f "_get_data_type_name" _ _ C = r
          rcases r with e | ⟨v, C'⟩
          · rfl
          · simp only [xsh]
end Pyx.XShape

/-! ## the rows of a relationship as a population -/
namespace Pyx.XShape
open Pyx.Extract Pyx.Gen.ExtractShape

/-- the end rows of one R_REL -/
inductive EndId where
  | form | part (i : Nat) | aone | aoth | assr | super | sub (j : Nat)
  deriving DecidableEq

/-- the rows that hang on one R_REL (`RelRows`) and what they lead to -/
inductive RI where
  | rel | simp | assoc | subsup | comp          -- R_REL and its R206 subtype row
  | row (e : EndId)                             -- R_FORM / R_PART / R_AONE / R_AOTH / R_ASSR / R_SUPER / R_SUB
  | rgo (e : EndId) | rto (e : EndId) | oir (e : EndId)   -- its R_RGO / R_RTO and R_OIR supertype rows
  | obj (c : Class)                             -- O_OBJ
  | rtida (g t : EndId) (r : Ref)               -- per O_REF of the pair (referring end g, referred end t): O_RTIDA,
  | ref (g t : EndId) (r : Ref)                 --   O_REF,
  | rattr (g t : EndId) (r : Ref)               --   O_RATTR,
  | oida (g t : EndId) (r : Ref)                --   O_OIDA
  | attr (a : Attr)                             -- O_ATTR
  deriving DecidableEq

def plainEnd (c : Nat) : End := { cls := c, mult := false, cond := false, phrase := "" }

def endOf (w : RelRows) : EndId → Option End
  | .form => w.form
  | .part i => w.parts[i]?
  | .aone => w.aone
  | .aoth => w.aoth
  | .assr => w.assr.map plainEnd
  | .super => w.super.map plainEnd
  | .sub j => w.subs[j]?.map (fun s => plainEnd s.1)

def classOfEnd (d : ClassDiagram) (w : RelRows) (e : EndId) : Option Class := (endOf w e).bind (fun en => findClass d en.cls)

def attrAt (d : ClassDiagram) (w : RelRows) (e : EndId) (i : Nat) : Option Attr := (classOfEnd d w e).bind (fun c => c.findAttr i)

/-- OIR_ID: one R_OIR row per end row (any numbering that tells the ends apart would do) -/
def oirId : EndId → Nat
  | .form => 0 | .aone => 1 | .aoth => 2 | .assr => 3 | .super => 4
  | .part i => 5 + 2 * i
  | .sub j => 6 + 2 * j

def subRefs : Nat → List (Nat × List Ref) → List (EndId × Ref)
  | _, [] => []
  | j, s :: rest => s.2.map (fun r => (EndId.sub j, r)) ++ subRefs (j + 1) rest

/-- the O_REF rows hanging (over O_RTIDA) on the R_RTO of end `t`, each with the end that refers -/
def refsOn (w : RelRows) : EndId → List (EndId × Ref)
  | .part 0 => w.refs.map (fun r => (if w.form.isSome then EndId.form else EndId.part 1, r))
  | .aone => w.refsOne.map (fun r => (EndId.assr, r))
  | .aoth => w.refsOth.map (fun r => (EndId.assr, r))
  | .super => subRefs 0 w.subs
  | _ => []

def rowsFrom {α : Type} (mk : Nat → EndId) : Nat → List α → List RI
  | _, [] => []
  | i, _ :: rest => RI.row (mk i) :: rowsFrom mk (i + 1) rest

def hp (c : String) (r : Nat) : Hop := { cls := c, rel := r, phrase := "" }

def relHop (d : ClassDiagram) (w : RelRows) (x : RI) (h : Hop) : List RI :=
    match x with
    | .simp =>
      if h = hp "R_REL" 206 then [.rel]
      else if h = hp "R_FORM" 208 then (if w.form.isSome then [.row .form] else [])
      else if h = hp "R_PART" 207 then rowsFrom EndId.part 0 w.parts
      else []
    | .assoc =>
      if h = hp "R_REL" 206 then [.rel]
      else if h = hp "R_ASSR" 211 then (if w.assr.isSome then [.row .assr] else [])
      else if h = hp "R_AONE" 209 then (if w.aone.isSome then [.row .aone] else [])
      else if h = hp "R_AOTH" 210 then (if w.aoth.isSome then [.row .aoth] else [])
      else []
    | .subsup =>
      if h = hp "R_REL" 206 then [.rel]
      else if h = hp "R_SUPER" 212 then (if w.super.isSome then [.row .super] else [])
      else if h = hp "R_SUB" 213 then rowsFrom EndId.sub 0 w.subs
      else []
    | .comp => if h = hp "R_REL" 206 then [.rel] else []
    | .row e =>
      if h = hp "R_RGO" 205 then (match e with | .form | .assr | .sub _ => [.rgo e] | _ => [])
      else if h = hp "R_RTO" 204 then (match e with | .part _ | .aone | .aoth | .super => [.rto e] | _ => [])
      else []
    | .rgo e => if h = hp "R_OIR" 203 then [.oir e] else []
    | .rto e =>
      if h = hp "R_OIR" 203 then [.oir e]
      else if h = hp "O_RTIDA" 110 then (refsOn w e).map (fun p => RI.rtida p.1 e p.2)
      else []
    | .oir e => if h = hp "O_OBJ" 201 then ((classOfEnd d w e).map RI.obj).toList else []
    | .rtida g t r =>
      if h = hp "O_REF" 111 then [.ref g t r]
      else if h = hp "O_OIDA" 110 then [.oida g t r]
      else []
    | .ref g t r =>
      if h = hp "O_RATTR" 108 then [.rattr g t r]
      else if h = hp "O_RTIDA" 111 then [.rtida g t r]
      else []
    | .rattr g _ r =>
      if h = hp "O_ATTR" 106 then ((attrAt d w g r.rattr).map RI.attr).toList else []
    | .oida _ t r =>
      if h = hp "O_ATTR" 105 then ((attrAt d w t r.iattr).map RI.attr).toList else []
    | _ => []

def relAttr (numb : Nat) (w : RelRows) (x : RI) (f : String) : Val RI :=
    match x with
    | .rel => if f = "Numb" then .nat numb else .unset
    | .row e =>
      match endOf w e with
      | some en =>
        if f = "Mult" then .bool en.mult else if f = "Cond" then .bool en.cond
        else if f = "Txt_Phrs" then .str en.phrase else if f = "Obj_ID" then .nat en.cls else .unset
      | none => .unset
    | .rgo e => if f = "OIR_ID" then .nat (oirId e) else .unset
    | .rto e => if f = "OIR_ID" then .nat (oirId e) else .unset
    | .ref g _ _ => if f = "OIR_ID" then .nat (oirId g) else .unset
    | .obj c => if f = "Obj_ID" then .nat c.id else if f = "Key_Lett" then .str c.kl else .unset
    | .attr a => if f = "Name" then .str a.name else .unset
    | _ => .unset

def relKind (x : RI) : String :=
    match x with
    | .simp => "R_SIMP" | .assoc => "R_ASSOC" | .subsup => "R_SUBSUP" | .comp => "R_COMP" | .rel => "R_REL" | _ => ""

/-- `subtype(r_rel, 206)`: navigate_subtype tries the R206 links in the order of bridgepoint/schema.py (`RelRows.dispatch`) -/
def relSubtype (w : RelRows) (x : RI) (r : Nat) : Option RI :=
    match x with
    | .rel =>
      if r = 206 then
        (match w.dispatch with
         | .linked => some .assoc | .comp => some .comp | .simple => some .simp | .subsup => some .subsup | .none => none)
      else none
    | _ => none

def relWorld (d : ClassDiagram) (numb : Nat) (w : RelRows) : World RI :=
  { hop := relHop d w, attr := relAttr numb w, kind := relKind, subtype := relSubtype w, select := fun _ => [] }

@[simp] theorem relWorld_hop (d : ClassDiagram) (numb : Nat) (w : RelRows) : (relWorld d numb w).hop = relHop d w := rfl
@[simp] theorem relWorld_attr (d : ClassDiagram) (numb : Nat) (w : RelRows) : (relWorld d numb w).attr = relAttr numb w := rfl
@[simp] theorem relWorld_kind (d : ClassDiagram) (numb : Nat) (w : RelRows) : (relWorld d numb w).kind = relKind := rfl
@[simp] theorem relWorld_subtype (d : ClassDiagram) (numb : Nat) (w : RelRows) : (relWorld d numb w).subtype = relSubtype w := rfl

attribute [xsh] relWorld_hop relWorld_attr relWorld_kind relWorld_subtype

section
variable (d : ClassDiagram) (numb : Nat) (w : RelRows)

@[xsh] theorem relHop_simp :
    relHop d w .simp ⟨"R_REL", 206, ""⟩ = [.rel] ∧
    relHop d w .simp ⟨"R_FORM", 208, ""⟩ = (w.form.map fun _ => RI.row .form).toList ∧
    relHop d w .simp ⟨"R_PART", 207, ""⟩ = rowsFrom EndId.part 0 w.parts := by
  cases h : w.form <;> simp [relHop, hp, h]

@[xsh] theorem relHop_assoc :
    relHop d w .assoc ⟨"R_REL", 206, ""⟩ = [.rel] ∧
    relHop d w .assoc ⟨"R_ASSR", 211, ""⟩ = (w.assr.map fun _ => RI.row .assr).toList ∧
    relHop d w .assoc ⟨"R_AONE", 209, ""⟩ = (w.aone.map fun _ => RI.row .aone).toList ∧
    relHop d w .assoc ⟨"R_AOTH", 210, ""⟩ = (w.aoth.map fun _ => RI.row .aoth).toList := by
  cases h1 : w.assr <;> cases h2 : w.aone <;> cases h3 : w.aoth <;> simp [relHop, hp, h1, h2, h3]

@[xsh] theorem relHop_subsup :
    relHop d w .subsup ⟨"R_REL", 206, ""⟩ = [.rel] ∧
    relHop d w .subsup ⟨"R_SUPER", 212, ""⟩ = (w.super.map fun _ => RI.row .super).toList ∧
    relHop d w .subsup ⟨"R_SUB", 213, ""⟩ = rowsFrom EndId.sub 0 w.subs := by
  cases h : w.super <;> simp [relHop, hp, h]

/-- the referring ends have an R_RGO row, the referred ends an R_RTO row -/
@[xsh] theorem relHop_row :
    relHop d w (.row .form) ⟨"R_RGO", 205, ""⟩ = [.rgo .form] ∧
    relHop d w (.row .assr) ⟨"R_RGO", 205, ""⟩ = [.rgo .assr] ∧
    relHop d w (.row .aone) ⟨"R_RTO", 204, ""⟩ = [.rto .aone] ∧
    relHop d w (.row .aoth) ⟨"R_RTO", 204, ""⟩ = [.rto .aoth] ∧
    relHop d w (.row .super) ⟨"R_RTO", 204, ""⟩ = [.rto .super] := by
  simp [relHop, hp]

@[xsh] theorem relHop_row_nth (i : Nat) :
    relHop d w (.row (.sub i)) ⟨"R_RGO", 205, ""⟩ = [.rgo (.sub i)] ∧
    relHop d w (.row (.part i)) ⟨"R_RTO", 204, ""⟩ = [.rto (.part i)] := by
  simp [relHop, hp]

@[xsh] theorem relHop_oir (e : EndId) :
    relHop d w (.rgo e) ⟨"R_OIR", 203, ""⟩ = [.oir e] ∧
    relHop d w (.rto e) ⟨"R_OIR", 203, ""⟩ = [.oir e] ∧
    relHop d w (.oir e) ⟨"O_OBJ", 201, ""⟩ = ((classOfEnd d w e).map RI.obj).toList ∧
    relHop d w (.rto e) ⟨"O_RTIDA", 110, ""⟩ = (refsOn w e).map (fun p => RI.rtida p.1 e p.2) := by
  simp [relHop, hp]

@[xsh] theorem relHop_ref (g t : EndId) (r : Ref) :
    relHop d w (.rtida g t r) ⟨"O_REF", 111, ""⟩ = [.ref g t r] ∧
    relHop d w (.rtida g t r) ⟨"O_OIDA", 110, ""⟩ = [.oida g t r] ∧
    relHop d w (.ref g t r) ⟨"O_RATTR", 108, ""⟩ = [.rattr g t r] ∧
    relHop d w (.ref g t r) ⟨"O_RTIDA", 111, ""⟩ = [.rtida g t r] ∧
    relHop d w (.rattr g t r) ⟨"O_ATTR", 106, ""⟩ = ((attrAt d w g r.rattr).map RI.attr).toList ∧
    relHop d w (.oida g t r) ⟨"O_ATTR", 105, ""⟩ = ((attrAt d w t r.iattr).map RI.attr).toList := by
  simp [relHop, hp]

attribute [xsh] relAttr.eq_1 relAttr.eq_2 relAttr.eq_3 relAttr.eq_4 relAttr.eq_5 relAttr.eq_6 relAttr.eq_7
  endOf.eq_1 endOf.eq_2 endOf.eq_3 endOf.eq_4 endOf.eq_5 endOf.eq_6 endOf.eq_7

end

def argStr {I : Type} (a : List (String × Val I)) (k : String) : Option String :=
  match a.lookup k with | some (.str s) => some s | _ => none
def argBool {I : Type} (a : List (String × Val I)) (k : String) : Option Bool :=
  match a.lookup k with | some (.bool b) => some b | _ => none
def argStrs {I : Type} (a : List (String × Val I)) (k : String) : Option (List String) :=
  match a.lookup k with | some (.strs l) => some l | _ => none
def argNat {I : Type} (a : List (String × Val I)) (k : String) : Option Nat :=
  match a.lookup k with | some (.nat n) => some n | _ => none

/-- a `define_association` call as (rel_id, source side, target side): every keyword parameter by ITS OWN name -/
def decodeAssoc {I : Type} (c : Call I) : Option (Nat × SAssoc) :=
  if c.fn ≠ "define_association" ∨ c.args.length ≠ 11 ∨ c.star ≠ [] then none else
  match argNat c.args "rel_id", argStr c.args "source_kind", argStrs c.args "source_keys", argBool c.args "source_many",
        argBool c.args "source_conditional", argStr c.args "source_phrase", argStr c.args "target_kind",
        argStrs c.args "target_keys", argBool c.args "target_many", argBool c.args "target_conditional",
        argStr c.args "target_phrase" with
  | some n, some sk, some sks, some sm, some sc, some sp, some tk, some tks, some tm, some tc, some tp =>
    some (n, { src := { kind := sk, keys := sks, many := sm, cond := sc, phrase := sp },
               tgt := { kind := tk, keys := tks, many := tm, cond := tc, phrase := tp } })
  | _, _, _, _, _, _, _, _, _, _, _ => none

def decodeAll {I : Type} : List (Call I) → Option (List (Nat × SAssoc))
  | [] => some []
  | c :: cs => match decodeAssoc c, decodeAll cs with
    | some a, some r => some (a :: r)
    | _, _ => none

/-- how a run of `mk_association` ends, in the model's terms -/
def assocsOf {I : Type} : Except Err (Val I × Calls I) → Except Err (List (Nat × SAssoc))
  | .ok (_, cs) => match decodeAll cs with
    | some l => .ok l
    | none => .error .stuck
  | .error e => .error e

def expected (numb : Nat) : AssocOutcome → Except Err (List (Nat × SAssoc))
  | .defined items => .ok (items.map (fun a => (numb, a)))
  | .attributeError => .error .attributeError
  | .typeError => .error .typeError

/-- equality of two endings of `mk_association`, as a Boolean (for kernel evaluation) -/
def sameR (a b : Except Err (List (Nat × SAssoc))) : Bool :=
  match a, b with
  | .ok x, .ok y => x == y
  | .error e, .error f => e == f
  | _, _ => false

theorem sameR_self (a : Except Err (List (Nat × SAssoc))) : sameR a a = true := by
  cases a <;> simp [sameR]

/-- `mk_association(m, r_rel)` of the generated IR `ds` on the rows `w` of a relationship numbered `numb` -/
def iMkAssociation (ds : List (String × Def)) (d : ClassDiagram) (numb : Nat) (w : RelRows) : Except Err (List (Nat × SAssoc)) :=
  assocsOf (run (relWorld d numb w) ds 6 "mk_association" [.opaque, .inst (some .rel)])

theorem dtTypeName_eq (dts : List DataType) (id : Nat) :
    dtTypeName dts id = tyOf (run (dtWorld dts) defs (dts.length + 1) "_get_data_type_name" [.inst ((findDt dts id).map DI.dt)]) := by
  unfold dtTypeName run
  exact (dtType_eq dts _ id _ _).symm

end Pyx.XShape
