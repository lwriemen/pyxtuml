import Proofs.InterpPres

/-!
  One induction for the invariants of runs.

  An invariant is a pair: a relation `Re` between the configurations before and after the evaluation of an expression, and
  a relation `T o` between those before and after a statement, INDEXED BY THE OUTCOME `o` (a postcondition per exit mode: what
  holds after `return e` need not hold after normal completion).  `StepBase C N Re T` lists what the primitives of `Spec` have
  to respect — the frame primitives `install`, a block (push … pop as ONE rule: the scope shape is not kept by push or pop alone),
  the write of the return register in a derived attribute, a successful state operation (`op`, over `Eff` / `applyEff`: an
  invariant that does not look at the state says so once), an invocation; `StepRules` adds `retv`: `return e` may write ANY
  value.  Every level of the interpreter respects the pair if its oracle does (`step_evalStep`; `step_execStep`, which takes
  the rule for `return e` — the register written with the value `e` was just evaluated to — as a premise: `step_run` gets it
  from `retv`), hence every run (`step_run`), for the statements `Ok` allows (`OkClosed`: closed under sub-statements;
  attribute assignments name attributes `N` allows).  An invariant that says WHICH expression was returned obeys `StepBase`
  only and supplies that rule itself (Proofs/InterpReturn.lean); since `Ok` is handed down to sub-statements, it may also say
  where in the program.
-/
namespace Pyx.Interp
open M

def Cfg.withEnv (c : Cfg) (env : Env) : Cfg := { c with fr := { c.fr with env := env } }
def Cfg.withRet (c : Cfg) (v : Val) : Cfg := { c with fr := { c.fr with ret := v } }
def Cfg.withSt (c : Cfg) (st : State) : Cfg := { c with st := st }

def PresO (T : Out → Cfg → Cfg → Prop) (m : M Out) : Prop :=
  ∀ c o c', m c = some (.ok (o, c')) → T o c c'

structure OkClosed (N : String → Prop) (Ok : Stmt → Prop) : Prop where
  assignField : ∀ {h name e}, Ok (.assignField h name e) → N name
  ifThen : ∀ {c thn elifs els}, Ok (.ifS c thn elifs els) → ∀ s ∈ thn, Ok s
  ifElif : ∀ {c thn elifs els}, Ok (.ifS c thn elifs els) → ∀ p ∈ elifs, ∀ s ∈ p.2, Ok s
  ifElse : ∀ {c thn elifs b}, Ok (.ifS c thn elifs (some b)) → ∀ s ∈ b, Ok s
  whileB : ∀ {c body}, Ok (.whileS c body) → ∀ s ∈ body, Ok s
  forB : ∀ {v setv body}, Ok (.forEach v setv body) → ∀ s ∈ body, Ok s

theorem okTrue : OkClosed (fun _ => True) (fun _ => True) :=
  ⟨fun _ => trivial, fun _ _ _ => trivial, fun _ _ _ _ _ => trivial, fun _ _ _ => trivial, fun _ _ _ => trivial,
   fun _ _ _ => trivial⟩

/-- one successful state operation, on named instances -/
inductive Eff where
  | new (cls : String)
  | delete (i : Inst)
  | relate (x y : Inst) (rel phrase : String)
  | unrelate (x y : Inst) (rel phrase : String)
  | set (i : Inst) (name : String) (v : Val)

def applyEff (C : Ctx) : Eff → State → Except Err State
  | .new cls, st => match newInst C cls st with | .ok (_, st') => .ok st' | .error e => .error e
  | .delete i, st => deleteInst i st
  | .relate x y r p, st => relate C x y r p st
  | .unrelate x y r p, st => unrelate C x y r p st
  | .set i n v, st => setAttr C i n v st

def SetsOnly (N : String → Prop) : Eff → Prop
  | .set _ name _ => N name
  | _ => True

/-- `bracket`: a block (push, the statements, pop) as ONE rule, since push and pop alone need not keep the invariant;
    `reg`: an assignment to the attribute a derived-attribute body computes (`regHit`) writes the return register instead of
    the state; `invoke`: a call runs its body in a frame of its own and comes back to the caller's frame with the callee's
    state. -/
structure StepBase (C : Ctx) (N : String → Prop) (Re : Cfg → Cfg → Prop) (T : Out → Cfg → Cfg → Prop) : Prop where
  po : PreOrder Re
  ofRe : ∀ {a b}, Re a b → T .normal a b
  refl : ∀ {o} c, o ≠ .ret → T o c c
  seq : ∀ {o1 o a b c}, o1 ≠ .ret → T o1 a b → T o b c → T o a c
  install : ∀ x v c, T .normal c (c.withEnv (envInstall c.fr.env x v))
  bracket : ∀ {o c c1}, T o (c.withEnv ([] :: c.fr.env)) c1 → T o c (c1.withEnv c1.fr.env.tail)
  reg : ∀ {c i name} v, regHit c.fr i name = true → T .normal c (c.withRet v)
  op : ∀ {c st'} e, SetsOnly N e → applyEff C e c.st = .ok st' → T .normal c (c.withSt st')
  invoke : ∀ {o c c1 fr}, T o ⟨fr, c.st⟩ c1 → Re c ⟨c.fr, c1.st⟩

structure StepRules (C : Ctx) (N : String → Prop) (Re : Cfg → Cfg → Prop) (T : Out → Cfg → Cfg → Prop) : Prop
    extends StepBase C N Re T where
  retv : ∀ v c, T .ret c (c.withRet v)

theorem mem_of_findCallable {C : Ctx} {p : Callable → Bool} {f : Callable} (h : findCallable C p = some f) :
    f ∈ C.callables := List.mem_of_find?_eq_some h

theorem mem_of_resolveNs {C : Ctx} {ns name : String} {f : Callable} (h : resolveNs C ns name = some f) :
    f ∈ C.callables := by
  unfold resolveNs at h
  split at h
  · rename_i g hg; cases h; exact mem_of_findCallable hg
  · exact mem_of_findCallable h

theorem runBody_inv {r : Oracle} {body : Block} {c c' : Cfg} (h : runBody r body c = some (.ok ((), c'))) :
    ∃ o, execBlock r body c = some (.ok (o, c')) := by
  unfold runBody at h
  obtain ⟨o, c1, h1, h2⟩ := bind_ok_inv h
  have hc : c' = c1 := by
    cases o <;> first | exact (pure_ok_inv h2).2 | (simp only [fail] at h2; cases h2)
  exact ⟨o, hc ▸ h1⟩

theorem invoke_ok_inv {rec : Oracle} {kind : WalkerKind} {body : Block} {kw : List (String × Val)} {self : Val}
    {c c2 : Cfg} {v : Val} (h : invoke rec kind body kw self c = some (.ok (v, c2))) :
    ∃ c', runBody rec body { fr := mkFrame kind kw self, st := c.st } = some (.ok ((), c')) ∧
      v = c'.fr.ret ∧ c2 = { fr := c.fr, st := c'.st } := by
  unfold invoke at h
  split at h
  · cases h
  · cases h
  · rename_i u c' hb
    simp at h
    exact ⟨c', hb, h.1.symm, h.2.symm⟩

theorem bracket_inv {α : Type} {m : M α} {c c' : Cfg} {a : α}
    (h : (do pushBlock; let a ← m; popBlock; pure a) c = some (.ok (a, c'))) :
    ∃ c1, m (c.withEnv ([] :: c.fr.env)) = some (.ok (a, c1)) ∧ c' = c1.withEnv c1.fr.env.tail := by
  obtain ⟨_, c0, h0, h⟩ := bind_ok_inv h
  obtain ⟨a1, c1, h1, h⟩ := bind_ok_inv h
  obtain ⟨_, c2, h2, h⟩ := bind_ok_inv h
  obtain ⟨rfl, rfl⟩ := pure_ok_inv h
  have h0' : (pure () : M Unit) (c.withEnv ([] :: c.fr.env)) = some (.ok ((), c0)) := h0
  have h2' : (pure () : M Unit) (c1.withEnv c1.fr.env.tail) = some (.ok ((), c')) := h2
  rw [(pure_ok_inv h0').2] at h1
  exact ⟨c1, h1, (pure_ok_inv h2').2⟩

theorem step_modifySt {R : Cfg → Cfg → Prop} {f : State → Except Err State} (hf : ∀ c st', f c.st = .ok st' → R c (c.withSt st')) :
    Pres R (modifySt f) := by
  intro c a c' h
  unfold modifySt at h
  split at h
  · rename_i st' hst
    have h' : (pure () : M Unit) (c.withSt st') = some (.ok (a, c')) := h
    rw [(pure_ok_inv h').2]
    exact hf c st' hst
  · cases h

theorem step_modifyGet {R : Cfg → Cfg → Prop} {α : Type} {f : State → Except Err (α × State)}
    (hf : ∀ c a st', f c.st = .ok (a, st') → R c (c.withSt st')) : Pres R (M.modifyGet f) := by
  intro c a c' h
  unfold M.modifyGet at h
  split at h
  · rename_i a' st' hst
    have h' : (pure a' : M α) (c.withSt st') = some (.ok (a, c')) := h
    rw [(pure_ok_inv h').2]
    exact hf c a' st' hst
  · cases h

section
variable {C : Ctx} {N : String → Prop} {Re : Cfg → Cfg → Prop} {T : Out → Cfg → Cfg → Prop} (H : StepBase C N Re T)
include H

theorem StepBase.poN : PreOrder (T .normal) :=
  ⟨fun c => H.refl c (by decide), fun _ _ _ h1 h2 => H.seq (by decide) h1 h2⟩

theorem stepN {α : Type} {m : M α} (h : Neutral m) : Pres (T .normal) m := pres_of_neutral H.poN h

theorem stepE {α : Type} {m : M α} (h : Pres Re m) : Pres (T .normal) m := fun c a c' hc => H.ofRe (h c a c' hc)

theorem step_install (x : String) (v : Val) : Pres (T .normal) (install x v) := by
  intro c a c' h
  have h' : (pure () : M Unit) (c.withEnv (envInstall c.fr.env x v)) = some (.ok (a, c')) := h
  rw [(pure_ok_inv h').2]
  exact H.install x v c

theorem presO_pure {o : Out} (ho : o ≠ .ret) : PresO T (pure o) := by
  intro c o' c' h
  obtain ⟨rfl, rfl⟩ := pure_ok_inv h
  exact H.refl _ ho

theorem presO_bind {α : Type} {m : M α} {f : α → M Out} (hm : Pres (T .normal) m) (hf : ∀ a, PresO T (f a)) :
    PresO T (m >>= f) := by
  intro c o c' h
  obtain ⟨a, c1, h1, h2⟩ := bind_ok_inv h
  exact H.seq (by decide) (hm c a c1 h1) (hf a c1 o c' h2)

theorem presO_of {α : Type} {m : M α} (hm : Pres (T .normal) m) : PresO T (m >>= fun _ => pure .normal) :=
  presO_bind H hm fun _ => presO_pure H (by decide)

theorem presO_after {m : M Out} {g : Out → M Out} (hm : PresO T m) (hg : ∀ o, o ≠ .ret → PresO T (g o))
    (hret : g .ret = pure .ret) : PresO T (m >>= g) := by
  intro c o c' h
  obtain ⟨o1, c1, h1, h2⟩ := bind_ok_inv h
  by_cases ho1 : o1 = .ret
  · subst ho1
    rw [hret] at h2
    obtain ⟨rfl, rfl⟩ := pure_ok_inv h2
    exact hm c _ _ h1
  · exact H.seq ho1 (hm c o1 c1 h1) (hg o1 ho1 c1 o c' h2)

theorem presO_bracket {m : M Out} (hm : PresO T m) : PresO T (do pushBlock; let o ← m; popBlock; pure o) := by
  intro c o c' h
  obtain ⟨c1, h1, rfl⟩ := bracket_inv h
  exact H.bracket (hm _ _ _ h1)

theorem pres_bracket {α : Type} {m : M α} (hm : Pres (T .normal) m) :
    Pres (T .normal) (do pushBlock; let a ← m; popBlock; pure a) := by
  intro c a c' h
  obtain ⟨c1, h1, rfl⟩ := bracket_inv h
  exact H.bracket (hm _ _ _ h1)

section
variable {Ok : Stmt → Prop} {r : Oracle} (he : ∀ e, Pres Re (r.eval e)) (hs : ∀ s, Ok s → PresO T (r.exec s))
include he hs

omit he in
theorem step_execList : ∀ l, (∀ s ∈ l, Ok s) → PresO T (execList r l)
  | [], _ => presO_pure H (by decide)
  | s :: rest, hl => by
    unfold execList
    refine presO_after H (hs s (hl s List.mem_cons_self)) (fun o ho => ?_) rfl
    cases o <;> first
      | exact step_execList rest (fun s' h' => hl s' (List.mem_cons_of_mem _ h'))
      | exact presO_pure H ho

omit he in
theorem step_execBlock (b : Block) (hb : ∀ s ∈ b, Ok s) : PresO T (execBlock r b) :=
  presO_bracket H (step_execList H hs b hb)

theorem step_execElifs : ∀ l els, (∀ p ∈ l, ∀ s ∈ p.2, Ok s) → (∀ b, els = some b → ∀ s ∈ b, Ok s) →
    PresO T (execElifs r l els)
  | [], none, _, _ => presO_pure H (by decide)
  | [], some b, _, he' => step_execBlock H hs b (he' b rfl)
  | (c, b) :: rest, els, hl, he' => by
    unfold execElifs
    refine presO_bind H (stepE H (he c)) fun v => presO_bind H (stepN H (neutral_asBool v)) fun t => ?_
    cases t
    · exact step_execElifs rest els (fun p hp => hl p (List.mem_cons_of_mem _ hp)) he'
    · exact step_execBlock H hs b (hl (c, b) List.mem_cons_self)

omit he in
theorem step_forItems (v : String) (body : Block) (hb : ∀ s ∈ body, Ok s) : ∀ l, PresO T (forItems r v body l)
  | [] => presO_pure H (by decide)
  | i :: rest => by
    unfold forItems
    refine presO_bind H (step_install H _ _) fun _ => presO_after H (step_execBlock H hs body hb) (fun o ho => ?_) rfl
    cases o <;> first | exact step_forItems v body hb rest | exact presO_pure H (by decide) | exact absurd rfl ho

omit hs in
theorem step_evalWhere (wh : Expr) (c : Inst) : Pres (T .normal) (evalWhere r wh c) := by
  -- re-associated: push … pop brackets `install; eval`, and `asBool` stands outside, so `pres_bracket` applies
  have e : evalWhere r wh c =
      (do pushBlock; let v ← (do install "selected" (.inst c); r.eval wh); popBlock; pure v) >>= asBool := by
    simp only [evalWhere, bind_assoc, pure_bind]
  rw [e]
  exact pres_bind H.poN (pres_bracket H (pres_bind H.poN (step_install H _ _) fun _ => stepE H (he wh))) fun v =>
    stepN H (neutral_asBool v)

omit hs in
theorem step_filterAll (wh : Expr) : ∀ l, Pres (T .normal) (filterAll r wh l)
  | [] => stepN H (neutral_pure _)
  | c :: rest => by
    unfold filterAll
    exact pres_bind H.poN (step_evalWhere H he wh c) fun t =>
      pres_bind H.poN (step_filterAll wh rest) fun _ => stepN H (neutral_pure _)

omit hs in
theorem step_filterFirst (wh : Expr) : ∀ l, Pres (T .normal) (filterFirst r wh l)
  | [] => stepN H (neutral_pure _)
  | c :: rest => by
    unfold filterFirst
    refine pres_bind H.poN (step_evalWhere H he wh c) fun t => ?_
    cases t
    · exact step_filterFirst wh rest
    · exact stepN H (neutral_pure _)

omit hs in
theorem step_selectResult (many : Bool) (cands : List Inst) (wh : Option Expr) :
    Pres (T .normal) (selectResult r many cands wh) := by
  unfold selectResult
  cases many <;> cases wh <;> simp only
  · exact stepN H (neutral_pure _)
  · exact pres_bind H.poN (step_filterFirst H he _ _) fun _ => stepN H (neutral_pure _)
  · exact stepN H (neutral_pure _)
  · exact pres_bind H.poN (step_filterAll H he _ _) fun _ => stepN H (neutral_pure _)

omit hs in
theorem step_evalArgs : ∀ l, Pres Re (evalArgs r l)
  | [] => pres_of_neutral H.po (neutral_pure _)
  | (n, e) :: rest => by
    unfold evalArgs
    exact pres_bind H.po (he e) fun _ => pres_bind H.po (step_evalArgs rest) fun _ => pres_of_neutral H.po (neutral_pure _)

omit he in
theorem step_invoke (kind : WalkerKind) (body : Block) (kw : List (String × Val)) (self : Val) (hbody : ∀ s ∈ body, Ok s) :
    Pres Re (invoke r kind body kw self) := by
  intro c a c' h
  obtain ⟨c1, hb, _, rfl⟩ := invoke_ok_inv h
  obtain ⟨o, h1⟩ := runBody_inv hb
  exact H.invoke (step_execBlock H hs body hbody _ _ _ h1)

omit he in
theorem step_readField (COk : ∀ f ∈ C.callables, ∀ s ∈ f.body, Ok s) (i : Inst) (name : String) : Pres Re (readField C r i name) := by
  unfold readField
  refine pres_bind H.po (pres_of_neutral H.po neutral_getFr) fun fr => ?_
  cases regHit fr i name
  · simp only [Bool.false_eq_true, if_false]
    split
    · rename_i f hf
      exact step_invoke H hs _ _ _ _ (COk f (mem_of_findCallable hf))
    · exact pres_of_neutral H.po (neutral_querySt _)
  · exact pres_of_neutral H.po (neutral_pure _)

omit he hs in
theorem step_writeField (i : Inst) (name : String) (v : Val) (hN : N name) : Pres (T .normal) (writeField C i name v) := by
  intro c a c' h
  unfold writeField at h
  rw [bind_ok (getFr_run c)] at h
  cases hreg : regHit c.fr i name
  · rw [hreg] at h
    cases hfd : findDerived C i.cls name with
    | some f => simp [hfd, fail] at h
    | none =>
      simp only [hfd, Bool.false_eq_true, if_false] at h
      exact step_modifySt (fun _ _ hst => H.op (.set i name v) hN hst) c a c' h
  · rw [hreg, if_pos rfl] at h
    have h' : (pure () : M Unit) (c.withRet v) = some (.ok (a, c')) := h
    rw [(pure_ok_inv h').2]
    exact H.reg v hreg

theorem step_evalStep (COk : ∀ f ∈ C.callables, ∀ s ∈ f.body, Ok s) (e : Expr) : Pres Re (evalStep C r e) := by
  have NE : ∀ {α : Type} {m : M α}, Neutral m → Pres Re m := fun h => pres_of_neutral H.po h
  have I := fun kind body kw self hb => step_invoke H hs kind body kw self hb
  have A := step_evalArgs H he
  cases e with
  | int i => exact NE (neutral_pure _)
  | str s => exact NE (neutral_pure _)
  | bool b => exact NE (neutral_pure _)
  | var x => exact NE (neutral_lookupVar C x)
  | selected => exact NE (neutral_lookupVar C _)
  | self =>
    unfold evalStep
    refine pres_bind H.po (NE neutral_getFr) fun fr => ?_
    split <;> first | exact NE (neutral_pure _) | exact NE (neutral_fail _)
  | param x =>
    unfold evalStep
    refine pres_bind H.po (NE neutral_getFr) fun fr => ?_
    split
    · exact NE (neutral_fail _)
    · split <;> first | exact NE (neutral_pure _) | exact NE (neutral_fail _)
  | field hx name =>
    unfold evalStep
    exact pres_bind H.po (he hx) fun v => pres_bind H.po (NE (neutral_asInst v)) fun _ =>
      step_readField H hs COk _ _
  | bin op l rr =>
    unfold evalStep
    exact pres_bind H.po (he l) fun _ => pres_bind H.po (he rr) fun _ => NE (neutral_liftE _)
  | un op e =>
    unfold evalStep
    exact pres_bind H.po (he e) fun _ => NE (neutral_liftE _)
  | enumOrConst ns name =>
    simp only [evalStep]
    split
    · split <;> first | exact NE (neutral_pure _) | exact NE (neutral_fail _)
    · exact NE (neutral_fail _)
  | call k name args =>
    cases k with
    | function =>
      simp only [evalStep]
      refine pres_bind H.po (A args) fun kw => ?_
      split
      · rename_i f hf
        exact I _ _ _ _ (COk f (mem_of_findCallable hf))
      · exact NE (neutral_fail _)
    | implicit ns =>
      simp only [evalStep]
      refine pres_bind H.po (A args) fun kw => ?_
      split
      · rename_i f hf
        split <;> exact I _ _ _ _ (COk f (mem_of_resolveNs hf))
      · exact NE (neutral_fail _)
    | classOp ns =>
      simp only [evalStep]
      split
      · rename_i f hf
        exact pres_bind H.po (A args) fun kw => I _ _ _ _ (COk f (mem_of_findCallable hf))
      · exact NE (neutral_fail _)
    | bridge ns =>
      simp only [evalStep]
      refine pres_bind H.po (A args) fun kw => ?_
      split
      · rename_i f hf
        split <;> exact I _ _ _ _ (COk f (mem_of_resolveNs hf))
      · exact NE (neutral_fail _)
  | callInst hx name args =>
    unfold evalStep
    refine pres_bind H.po (he hx) fun v => pres_bind H.po (NE (neutral_asInst v)) fun i => ?_
    split
    · rename_i f hf
      exact pres_bind H.po (A args) fun _ => I _ _ _ _ (COk f (mem_of_findCallable hf))
    · exact NE (neutral_fail _)

theorem step_execStep (K : OkClosed N Ok)
    (hret : ∀ e, Ok (.ret (some e)) → ∀ c v c1, r.eval e c = some (.ok (v, c1)) → T .ret c (c1.withRet v)) (s : Stmt)
    (hok : Ok s) : PresO T (execStep C r s) := by
  have E : ∀ e, Pres (T .normal) (r.eval e) := fun e => stepE H (he e)
  have B : ∀ {α : Type} {m : M α} {f : α → M Out}, Pres (T .normal) m → (∀ a, PresO T (f a)) → PresO T (m >>= f) :=
    presO_bind H
  have LI : ∀ {x} {f : Inst → M Out}, (∀ i, PresO T (f i)) → PresO T (lookupVar C x >>= fun v => asInst v >>= f) :=
    fun hf => B (stepN H (neutral_lookupVar C _)) fun v => B (stepN H (neutral_asInst v)) hf
  have SR := step_selectResult H he
  cases s with
  | assignVar x e =>
    unfold execStep
    exact B (E e) fun _ => presO_of H (step_install H _ _)
  | assignField hx name e =>
    unfold execStep
    exact B (E e) fun _ => B (E hx) fun v => B (stepN H (neutral_asInst v)) fun _ =>
      presO_of H (step_writeField H _ _ _ (K.assignField hok))
  | ifS c thn elifs els =>
    unfold execStep
    refine B (E c) fun v => B (stepN H (neutral_asBool v)) fun t => ?_
    cases t
    · exact step_execElifs H he hs _ _ (K.ifElif hok) (fun b hb => by subst hb; exact K.ifElse hok)
    · exact step_execBlock H hs _ (K.ifThen hok)
  | whileS c body =>
    unfold execStep
    refine B (E c) fun v => B (stepN H (neutral_asBool v)) fun t => ?_
    cases t
    · exact presO_pure H (by decide)
    · simp only [if_true]
      refine presO_after H (step_execBlock H hs body (K.whileB hok)) (fun o ho => ?_) rfl
      -- the next round re-enters through the oracle, one level down: `hs`, no induction on rounds
      cases o <;> first | exact hs _ hok | exact presO_pure H (by decide) | exact absurd rfl ho
  | forEach v setv body =>
    unfold execStep
    refine B (stepN H (neutral_lookupVar C _)) fun s => ?_
    cases s <;> first
      | exact step_forItems H hs _ _ (K.forB hok) _
      | exact fun c o c' h => (by simp only [fail] at h; cases h)
  | brk => exact presO_pure H (by decide)
  | cont => exact presO_pure H (by decide)
  | stop => exact presO_pure H (by decide)
  | ret e =>
    cases e with
    | none => exact presO_pure H (by decide)
    | some e =>
      intro c o c' h
      simp only [execStep] at h
      obtain ⟨v, c1, h1, h2⟩ := bind_ok_inv h
      have h2' : (pure Out.ret : M Out) (c1.withRet v) = some (.ok (o, c')) := h2
      obtain ⟨rfl, rfl⟩ := pure_ok_inv h2'
      exact hret e hok c v c1 h1
  | create v cls =>
    unfold execStep
    refine B (step_modifyGet fun _ _ _ h => H.op (.new cls) trivial (by rw [applyEff, h])) fun i => ?_
    cases v with
    | none => exact presO_of H (m := pure ()) (stepN H (neutral_pure ()))
    | some x => exact presO_of H (step_install H _ _)
  | delete v =>
    unfold execStep
    exact LI fun _ => presO_of H (step_modifySt fun _ _ h => H.op (.delete _) trivial h)
  | relate a b rel phrase =>
    unfold execStep
    exact LI fun _ => LI fun _ => presO_of H (step_modifySt fun _ _ h => H.op (.relate ..) trivial h)
  | relateUsing a b rel phrase u =>
    unfold execStep
    refine LI fun _ => LI fun _ => LI fun _ => presO_of H (step_modifySt fun c st' h => ?_)
    -- `… using` is two operations: `seq` of two `op` rules, the second at the intermediate state (so for `unrelate … using`)
    unfold Pyx.Interp.relateUsing at h
    split at h
    · cases h
    · rename_i st1 h1
      exact H.seq (by decide) (H.op (.relate ..) trivial h1) (H.op (.relate ..) (c := c.withSt st1) trivial h)
  | unrelate a b rel phrase =>
    unfold execStep
    exact LI fun _ => LI fun _ => presO_of H (step_modifySt fun _ _ h => H.op (.unrelate ..) trivial h)
  | unrelateUsing a b rel phrase u =>
    unfold execStep
    refine LI fun _ => LI fun _ => LI fun _ => presO_of H (step_modifySt fun c st' h => ?_)
    unfold Pyx.Interp.unrelateUsing at h
    split at h
    · cases h
    · rename_i st1 h1
      exact H.seq (by decide) (H.op (.unrelate ..) trivial h1) (H.op (.unrelate ..) (c := c.withSt st1) trivial h)
  | selectFrom many v cls wh =>
    unfold execStep
    exact B (stepN H (neutral_querySt _)) fun _ => B (SR _ _ _) fun _ => presO_of H (step_install H _ _)
  | selectRelated many v hx chain wh =>
    unfold execStep
    exact B (E hx) fun hv => B (stepN H (neutral_startOf hv)) fun _ => B (stepN H (neutral_querySt _)) fun _ =>
      B (SR _ _ _) fun _ => presO_of H (step_install H _ _)
  | invoke e =>
    unfold execStep
    exact presO_of H (E e)

end

end

theorem step_run {C : Ctx} {N : String → Prop} {Re : Cfg → Cfg → Prop} {T : Out → Cfg → Cfg → Prop} (H : StepRules C N Re T) {Ok : Stmt → Prop} (K : OkClosed N Ok) (COk : ∀ f ∈ C.callables, ∀ s ∈ f.body, Ok s) :
    ∀ n, (∀ e, Pres Re ((run C n).eval e)) ∧ (∀ s, Ok s → PresO T ((run C n).exec s))
  | 0 => ⟨fun _ _ _ _ h => by simp [run] at h, fun _ _ _ _ _ h => by simp [run] at h⟩
  | n + 1 =>
    have ih := step_run H K COk n
    ⟨step_evalStep H.toStepBase ih.1 ih.2 COk, step_execStep H.toStepBase ih.1 ih.2 K
      fun e _ c v c1 h => H.seq (by decide) (H.ofRe (ih.1 e c v c1 h)) (H.retv v c1)⟩

end Pyx.Interp
