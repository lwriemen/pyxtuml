import PyxModel.Extract.Rows
import Proofs.ExtractFuel

/-!
  C14 — `mkAssociation` (PyxModel/Extract/Rows.lean): which rows produce associations, which raise what.
-/

namespace Pyx.Extract

theorem kindOutcome_resolved {d : ClassDiagram} {k : RelKind} (h : resolvedRel d k.asRel = true) :
    ∃ g, groupOf d k.asRel = some g ∧ kindOutcome d k = .defined g.items ∧ g.items.length = k.count := by
  obtain ⟨g, hg, hl, _⟩ := resolved_group h
  refine ⟨g, hg, ?_, ?_⟩
  · simp only [kindOutcome, h, hg, if_true]
  · cases k <;> simpa [RelKind.count, RelKind.asRel] using hl

theorem kindOutcome_unresolved {d : ClassDiagram} {k : RelKind} (h : resolvedRel d k.asRel = false) :
    kindOutcome d k = .attributeError := by
  simp [kindOutcome, h]

theorem kindOutcome_ne_typeError (d : ClassDiagram) (k : RelKind) : kindOutcome d k ≠ .typeError := by
  unfold kindOutcome
  split
  · split <;> simp
  · simp

theorem kindOutcome_defined_iff {d : ClassDiagram} {k : RelKind} :
    (∃ items, kindOutcome d k = .defined items) ↔ resolvedRel d k.asRel = true := by
  constructor
  · rintro ⟨items, h⟩
    cases hr : resolvedRel d k.asRel with
    | true => rfl
    | false => rw [kindOutcome_unresolved hr] at h; cases h
  · intro h
    obtain ⟨g, _, hk, _⟩ := kindOutcome_resolved h
    exact ⟨_, hk⟩

/-- a relationship of `rels`, given row by row, ends as `groupOf` / `resolvedRel` say.  (The one exception: a subtype
    relationship WITHOUT subtypes whose supertype class row is missing — `resolvedRel` calls it unresolved, the Python
    loop never touches the supertype.) -/
theorem mkAssociation_rowsOf (d : ClassDiagram) (k : RelKind)
    (h : ∀ s, k = .subsup s [] → (findClass d s).isSome = true) :
    mkAssociation d (rowsOf k) = kindOutcome d k := by
  cases k with
  | simple f p refs => rfl
  | linked o t l r1 r2 => rfl
  | derived => rfl
  | subsup s subs =>
    cases subs with
    | cons x xs => rfl
    | nil =>
      have hs := h s rfl
      obtain ⟨pc, hpc⟩ := Option.isSome_iff_exists.mp hs
      simp [mkAssociation, rowsOf, RelRows.dispatch, kindOutcome, resolvedRel, groupOf, RelKind.asRel, hpc]

/-- the rows from which `mk_association` reaches `define_association`: all end rows present and every class and attribute
    row they name exists -/
def reachesDefine (d : ClassDiagram) (w : RelRows) : Prop :=
  (w.dispatch = .linked ∧ ∃ o t l, w.aone = some o ∧ w.aoth = some t ∧ w.assr = some l ∧
      resolvedRel d (RelKind.linked o t l w.refsOne w.refsOth).asRel = true) ∨
  (w.dispatch = .simple ∧ ∃ s t, w.simpleEnds = some (s, t) ∧ resolvedRel d (RelKind.simple s t w.refs).asRel = true) ∨
  (w.dispatch = .subsup ∧ w.subs ≠ [] ∧ ∃ s, w.super = some s ∧ resolvedRel d (RelKind.subsup s w.subs).asRel = true)

/-- the rows that reach `define_association` are those of a resolved relationship of some shape `k` that makes at least one
    definition -/
theorem mkAssociation_of_reaches {d : ClassDiagram} {w : RelRows} (h : reachesDefine d w) :
    ∃ k, resolvedRel d k.asRel = true ∧ mkAssociation d w = kindOutcome d k ∧ k.count ≠ 0 ∧
      (w.formalised = true → ∀ l ∈ k.refLists, l ≠ []) := by
  unfold mkAssociation RelRows.formalised
  rcases h with ⟨hd, o, t, l, ho, ht, hl, hres⟩ | ⟨hd, s, t, hs, hres⟩ | ⟨hd, hsub, s, hsup, hres⟩
  · refine ⟨_, hres, by simp only [hd, ho, ht, hl], by simp [RelKind.count], ?_⟩
    simp only [hd, ho, ht, hl, Option.isSome_some, Bool.true_and, Bool.and_eq_true, Bool.not_eq_true', List.isEmpty_eq_false_iff]
    rintro ⟨h1, h2⟩
    simp [RelKind.refLists, h1, h2]
  · refine ⟨_, hres, by simp only [hd, hs], by simp [RelKind.count], ?_⟩
    simp only [hd, Bool.and_eq_true, Bool.not_eq_true', List.isEmpty_eq_false_iff]
    rintro ⟨_, h2⟩
    simp [RelKind.refLists, h2]
  · obtain ⟨x, xs, hsubs⟩ := List.exists_cons_of_ne_nil hsub
    refine ⟨_, hres, by simp only [hd, hsubs, hsup], by simp [RelKind.count, hsubs], ?_⟩
    simp only [hd, Bool.and_eq_true, List.all_eq_true, Bool.not_eq_true', List.isEmpty_eq_false_iff, RelKind.refLists, List.mem_map]
    rintro ⟨_, h2⟩ l ⟨sb, hsb, rfl⟩
    exact h2 sb hsb

/-- … any other rows: TypeError without a subtype row, nothing for R_COMP and for a subtype relationship without subtypes,
    AttributeError otherwise -/
theorem mkAssociation_of_not_reaches {d : ClassDiagram} {w : RelRows} (h : ¬ reachesDefine d w) :
    mkAssociation d w = match w.dispatch with
      | .none => .typeError
      | .comp => .defined []
      | .subsup => if w.subs = [] then .defined [] else .attributeError
      | _ => .attributeError := by
  unfold reachesDefine at h
  unfold mkAssociation
  cases hd : w.dispatch with
  | none => rfl
  | comp => rfl
  | linked =>
    cases ho : w.aone <;> cases ht : w.aoth <;> cases hl : w.assr <;> try rfl
    exact kindOutcome_unresolved (Bool.eq_false_iff.mpr fun hr => h (.inl ⟨hd, _, _, _, ho, ht, hl, hr⟩))
  | simple =>
    cases hs : w.simpleEnds with
    | none => rfl
    | some st => exact kindOutcome_unresolved (Bool.eq_false_iff.mpr fun hr => h (.inr (.inl ⟨hd, _, _, hs, hr⟩)))
  | subsup =>
    cases hsub : w.subs with
    | nil => rfl
    | cons x xs =>
      cases hsup : w.super with
      | none => rfl
      | some s =>
        simp only [reduceCtorEq, if_false]
        exact kindOutcome_unresolved (Bool.eq_false_iff.mpr fun hr =>
          h (.inr (.inr ⟨hd, by simp [hsub], s, hsup, by rw [hsub]; exact hr⟩)))

theorem reaches_defined {d : ClassDiagram} {w : RelRows} (h : reachesDefine d w) :
    ∃ items, mkAssociation d w = .defined items ∧ items ≠ [] := by
  obtain ⟨k, hres, hk, hc, _⟩ := mkAssociation_of_reaches h
  obtain ⟨g, _, hg, hlen⟩ := kindOutcome_resolved hres
  exact ⟨_, hk.trans hg, fun he => hc (by rw [← hlen, he]; rfl)⟩

theorem sides_refs (k : RelKind) : k.sides.map (·.refs) = k.refLists := by
  cases k <;> simp [RelKind.sides, RelKind.refLists, Function.comp_def]

/-! ### unformalised relationships still produce associations -/

theorem kindOutcome_simple_nil (d : ClassDiagram) (s t : End) :
    kindOutcome d (.simple s t []) =
      match findClass d s.cls, findClass d t.cls with
      | some sc, some tc => .defined [
          { src := { kind := sc.kl, keys := [], many := s.mult, cond := s.cond, phrase := phraseIf (s.cls == t.cls) t.phrase },
            tgt := { kind := tc.kl, keys := [], many := t.mult, cond := t.cond, phrase := phraseIf (s.cls == t.cls) s.phrase } } ]
      | _, _ => .attributeError := by
  cases hs : findClass d s.cls <;> cases ht : findClass d t.cls <;>
    simp [kindOutcome, resolvedRel, pairResolved, groupOf, RelKind.asRel, hs, ht, refsResolved, keyNames]

theorem mkAssociation_unformalised (d : ClassDiagram) (w : RelRows) (p q : End)
    (hd : w.dispatch = .simple) (hf : w.form = none) (hp : w.parts = [p, q]) (hr : w.refs = []) :
    mkAssociation d w = kindOutcome d (.simple q p []) := by
  simp only [mkAssociation, hd, RelRows.simpleEnds, hf, hp, hr]

theorem firstRaise_none_iff (l : List AssocOutcome) :
    firstRaise l = none ↔ ∀ o ∈ l, ∃ items, o = .defined items := by
  induction l with
  | nil => simp [firstRaise]
  | cons o t ih =>
    cases o with
    | defined items => simp [firstRaise, ih]
    | attributeError => simp [firstRaise]
    | typeError => simp [firstRaise]

theorem firstRaise_ne_ok (l : List AssocOutcome) (s : Schema) : firstRaise l ≠ some (.ok s) := by
  induction l with
  | nil => simp [firstRaise]
  | cons o t ih => cases o <;> simp [firstRaise, ih]

theorem firstRaise_ne_mme (l : List AssocOutcome) : firstRaise l ≠ some .metaModelException := by
  induction l with
  | nil => simp [firstRaise]
  | cons o t ih => cases o <;> simp [firstRaise, ih]

theorem firstRaise_typeError (l : List AssocOutcome) (h : firstRaise l = some .typeError) : .typeError ∈ l := by
  induction l with
  | nil => simp [firstRaise] at h
  | cons o t ih =>
    cases o with
    | defined items => simp only [firstRaise] at h; exact List.mem_cons_of_mem _ (ih h)
    | attributeError => simp [firstRaise] at h
    | typeError => simp

theorem buildOutcome_ok_definable {d : ClassDiagram} {comp : Option Nat} {drv : Bool} {s : Schema}
    (h : buildOutcome d comp drv = .ok s) : s.definable = true := by
  by_cases hn : ((extract d comp drv).classes.map (fun c => upper c.kl)).Nodup
  · cases hr : resolvedIn d comp <;> cases hd : (extract d comp drv).definable <;>
      simp [buildOutcome, mkComponent, hn, hr, hd] at h
    subst h
    exact hd
  · cases hr : resolvedIn d comp <;> simp [buildOutcome, hn] at h

end Pyx.Extract
