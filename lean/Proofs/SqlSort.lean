import Proofs.SqlRoutes
import Proofs.Lib.ListExtra

/-! the stable insertion sort of PyxModel/Sql/Chars.lean: its output is sorted, and sorting a sorted list changes nothing.
    The two orders it is used with, `textLe` and `pairLe`, are core's lexicographic `≤` on code points, whence total preorders. -/
namespace Pyx.Sql

structure TotalPreorder {α : Type} (le : α → α → Bool) : Prop where
  total : ∀ a b, le a b = true ∨ le b a = true
  trans : ∀ a b c, le a b = true → le b c = true → le a c = true

theorem textLe_iff (a b : Text) : textLe a b = true ↔ a.map Char.toNat ≤ b.map Char.toNat := by
  induction a generalizing b with
  | nil => simp [textLe]
  | cons x xs ih =>
    cases b with
    | nil => simp [textLe]
    | cons y ys =>
      rw [List.map_cons, List.map_cons, List.cons_le_cons_iff, ← ih, textLe]
      by_cases h1 : x.toNat < y.toNat
      · simp only [h1, if_true, true_or]
      · by_cases h2 : y.toNat < x.toNat
        · simp only [h1, h2, if_true, if_false, false_or, Bool.false_eq_true, false_iff, not_and]
          omega
        · simp only [h1, h2, if_false, false_or, iff_and_self]
          omega

theorem textLe_total (a b : Text) : textLe a b = true ∨ textLe b a = true := by
  rw [textLe_iff, textLe_iff]; exact List.le_total _ _

theorem textLe_trans (a b c : Text) (hab : textLe a b = true) (hbc : textLe b c = true) : textLe a c = true := by
  rw [textLe_iff] at *; exact List.le_trans hab hbc

theorem textLe_preorder : TotalPreorder textLe := ⟨textLe_total, textLe_trans⟩

theorem textLe_refl (a : Text) : textLe a a = true := by
  rcases textLe_total a a with h | h <;> exact h

theorem preorder_comap {α β : Type} (le : β → β → Bool) (h : TotalPreorder le) (f : α → β) :
    TotalPreorder (fun a b => le (f a) (f b)) :=
  ⟨fun a b => h.total (f a) (f b), fun a b c => h.trans (f a) (f b) (f c)⟩

theorem pairLe_iff (a b : Text × Text) :
    pairLe a b = true ↔ [a.1.map Char.toNat, a.2.map Char.toNat] ≤ [b.1.map Char.toNat, b.2.map Char.toNat] := by
  have inj : ∀ {x y : Text}, x.map Char.toNat = y.map Char.toNat ↔ x = y :=
    List.map_inj_right fun _ _ h => Char.ext (UInt32.toNat_inj.mp h)
  rw [List.cons_le_cons_iff, List.cons_le_cons_iff, inj, pairLe]
  by_cases h : a.1 = b.1 <;> simp [h, textLe_iff, List.le_iff_lt_or_eq, inj, List.lt_irrefl]

theorem pairLe_preorder : TotalPreorder pairLe :=
  ⟨fun a b => by rw [pairLe_iff, pairLe_iff]; exact List.le_total _ _,
   fun a b c hab hbc => by rw [pairLe_iff] at *; exact List.le_trans hab hbc⟩

def SortedBy {α : Type} (le : α → α → Bool) (l : List α) : Prop := l.Pairwise (fun a b => le a b = true)

theorem insertBy_of_all_le {α : Type} (le : α → α → Bool) (x : α) : ∀ (l : List α), (∀ y ∈ l, le y x = true) →
    insertBy le x l = l ++ [x] := by
  intro l
  induction l with
  | nil => intro _; rfl
  | cons y ys ih => intro h; simp only [insertBy, h y (by simp), if_true, ih (fun z hz => h z (by simp [hz])), List.cons_append]

theorem sortBy_of_sorted {α : Type} (le : α → α → Bool) (l : List α) (h : SortedBy le l) : sortBy le l = l :=
  foldl_snoc (fun acc x => insertBy_of_all_le le x acc) l [] h

theorem insertBy_sorted {α : Type} (le : α → α → Bool) (hp : TotalPreorder le) (x : α) : ∀ (l : List α), SortedBy le l →
    SortedBy le (insertBy le x l) := by
  intro l
  induction l with
  | nil => intro _; simp [insertBy, SortedBy]
  | cons y ys ih =>
    intro h
    simp only [SortedBy, List.pairwise_cons] at h
    simp only [insertBy]
    by_cases hyx : le y x = true
    · simp only [hyx, if_true, SortedBy, List.pairwise_cons]
      refine ⟨?_, ih h.2⟩
      intro z hz
      rcases (mem_insertBy le x z ys).mp hz with rfl | hz'
      · exact hyx
      · exact h.1 z hz'
    · have hyx' := Bool.eq_false_iff.mpr hyx
      simp only [hyx', Bool.false_eq_true, if_false, SortedBy, List.pairwise_cons]
      -- totality turns `¬ le y x` into `le x y`; transitivity carries it over the tail
      have hxy : le x y = true := by rcases hp.total x y with h' | h'; exact h'; exact absurd h' hyx
      refine ⟨?_, h.1, h.2⟩
      intro z hz
      simp only [List.mem_cons] at hz
      rcases hz with rfl | hz
      · exact hxy
      · exact hp.trans x y z hxy (h.1 z hz)

theorem sortBy_sorted {α : Type} (le : α → α → Bool) (hp : TotalPreorder le) (l : List α) : SortedBy le (sortBy le l) :=
  List.foldlRecOn l _ List.Pairwise.nil fun acc h x _ => insertBy_sorted le hp x acc h

theorem sortBy_idem {α : Type} (le : α → α → Bool) (hp : TotalPreorder le) (l : List α) : sortBy le (sortBy le l) = sortBy le l :=
  sortBy_of_sorted le _ (sortBy_sorted le hp l)

theorem sorted_map {α β : Type} (le : α → α → Bool) (le' : β → β → Bool) (f : α → β)
    (h : ∀ a b, le' (f a) (f b) = le a b) (l : List α) (hs : SortedBy le l) : SortedBy le' (l.map f) := by
  unfold SortedBy at *
  rw [List.pairwise_map]
  exact hs.imp (fun hab => by rw [h]; exact hab)

end Pyx.Sql
