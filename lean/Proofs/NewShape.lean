import Proofs.NewInst
import Gen.NewShape

/-!
  C19 source tie: a GENERIC interpreter of the IR that translator/gen_newshape.py extracts from
  `MetaClass.new` (its assignment loops) and from the id generators, and the lemmas showing that
  PyxModel/NewInst.lean equals that interpretation of the IR generated from xtuml/meta.py and xtuml/tools.py.
-/
namespace Pyx.NShape
open Pyx.Attr Pyx.NewInst Pyx.Gen.NewShape

/-! ### the assignment loops of MetaClass.new, statement by statement -/

structure IState where
  acc : NewAcc
  pos : Nat                          -- position of the id generator
  defs : List (Name × Val)           -- defaults computed so far
  ok : Bool                          -- `false` once an exception was raised: nothing more is executed

/-- the items a loop visits: (name, type name, value given) -/
def loopItems (c : Cls) (args : List Val) (kwargs : List (Name × Val)) : Source → List (Name × Name × Option Val)
  | .attributes => c.attrs.map (fun a => (a.1, a.2, none))
  | .zipAttributesArgs => (c.attrs.zip args).map (fun p => (p.1.1, p.1.2, some p.2))
  | .kwargs => kwargs.map (fun kw => (kw.1, [], some kw.2))

/-- one pass through a loop body: resolve the name if the loop does, test `name not in referential_attributes`,
    execute the branch taken; defaults are computed (and ids drawn) at the moment their branch is executed -/
def iItem (lp : AssignLoop) (c : Cls) (dflt : DfltFn) (st : IState) (it : Name × Name × Option Val) : IState :=
  if st.ok = false then st else
  let name := if lp.resolvesName then (declMatch c it.1).getD it.1 else it.1
  match (if name ∈ c.refs then lp.whenReferential else lp.whenNotReferential), it.2.2 with
  | .setattr, some v =>
    let r := setattr c st.acc.dict name v
    { st with acc := { st.acc with dict := r.1 }, ok := decide (r.2 = .ok) }
  | .setattrDefault, _ =>
    match dflt it.2.1 st.pos with
    | none => { st with ok := false }                        -- default_value raised MetaException
    | some (v, p) =>
      let r := setattr c st.acc.dict name v
      { acc := { st.acc with dict := r.1 }, pos := p, defs := st.defs ++ [(name, v)], ok := decide (r.2 = .ok) }
  | .storeReferential, some v => { st with acc := { st.acc with refd := dset st.acc.refd name v } }
  | _, _ => st

def iLoop (c : Cls) (dflt : DfltFn) (args : List Val) (kwargs : List (Name × Val)) (st : IState) (lp : AssignLoop) : IState :=
  (loopItems c args kwargs lp.source).foldl (iItem lp c dflt) st

def iNewOne (loops : List AssignLoop) (stream : Nat → Int) (call : Call) (pos : Nat) : Made × Nat :=
  let st := loops.foldl (iLoop call.cls (typedDefault stream) call.args call.kwargs) ⟨⟨[], []⟩, pos, [], true⟩
  ({ dict := st.acc.dict, defs := st.defs, ok := st.ok }, st.pos)

/-! ### the id generators -/

structure GRegs where
  current : Int                      -- self._current
  saved : Option Int                 -- the local `val` (unbound until `val = self._current` ran)
  ret : Option Int                   -- the value returned, if a return statement was executed
  done : Bool                        -- a return statement was executed: nothing after it runs

def iGStmt (readfunc : Int → Int) (r : GRegs) : GStmt → GRegs
  | .drawCurrent => { r with current := readfunc r.current }
  | .saveCurrent => { r with saved := some r.current }
  | .returnCurrent => { r with ret := some r.current, done := true }
  | .returnSaved => { r with ret := r.saved, done := true }       -- an unbound `val` yields no value (NameError)

/-- the statements in order; a `return` ENDS the method (statements after it do not run); a method that ends without a
    return statement returns no value (`ret = none`, Python's None) -/
def iGSteps (readfunc : Int → Int) : List GStmt → GRegs → GRegs
  | [], r => r
  | s :: rest, r =>
    let r' := iGStmt readfunc r s
    if r'.done then r' else iGSteps readfunc rest r'

def iGRun (readfunc : Int → Int) (body : List GStmt) (current : Int) : GRegs :=
  iGSteps readfunc body { current := current, saved := none, ret := none, done := false }

theorem foldl_iItem_failed (lp : AssignLoop) (c : Cls) (dflt : DfltFn) (items : List (Name × Name × Option Val))
    (st : IState) (h : st.ok = false) : items.foldl (iItem lp c dflt) st = st :=
  foldl_fixed (fun it => by unfold iItem; simp [h]) items

theorem assignAll_append (c : Cls) : ∀ (l1 l2 : List (Name × Val)) (acc : NewAcc),
    assignAll c acc (l1 ++ l2) =
      match assignAll c acc l1 with
      | (acc', .ok) => assignAll c acc' l2
      | (acc', .metaExc) => (acc', .metaExc)
  | [], _, _ => rfl
  | (n, v) :: r, l2, acc => by
    simp only [List.cons_append, assignAll]
    cases h : assignArg c acc n v with
    | mk acc' res =>
      cases res with
      | ok => simp only; exact assignAll_append c r l2 acc'
      | metaExc => rfl

theorem defaults_loop_eq {c : Cls} (hwf : WF c) (dflt : DfltFn) (lp : AssignLoop) (hr : lp.resolvesName = false)
    (h1 : lp.whenNotReferential = .setattrDefault) (h2 : lp.whenReferential = .nothing)
    (attrs : List (Name × Name)) (pos : Nat) (st : IState) (hpos : st.pos = pos) :
    (∀ a ∈ attrs, a.1 ∈ c.names) → st.ok = true →
    (attrs.map (fun a => (a.1, a.2, (none : Option Val)))).foldl (iItem lp c dflt) st =
      { acc := (assignAll c st.acc (computeDefaults dflt c attrs pos).1).1,
        pos := (computeDefaults dflt c attrs pos).2.1,
        defs := st.defs ++ (computeDefaults dflt c attrs pos).1,
        ok := (computeDefaults dflt c attrs pos).2.2 } := by
  fun_induction computeDefaults dflt c attrs pos generalizing st with
  | case1 n =>
    intro _ hok
    cases st; simp_all [assignAll]
  | case2 b ty r n hbr ih =>
    intro hmem hok
    have hstep : iItem lp c dflt st (b, ty, none) = st := by
      unfold iItem; simp [hok, hr, hbr, h2]
    rw [List.map_cons, List.foldl_cons, hstep]
    exact ih st hpos (fun a ha => hmem a (List.mem_cons_of_mem _ ha)) hok
  | case3 b ty r n hbr hd =>
    intro _ hok
    have hstep : iItem lp c dflt st (b, ty, none) = { st with ok := false } := by
      unfold iItem; simp [hok, hr, hbr, h1, hpos, hd]
    rw [List.map_cons, List.foldl_cons, hstep, foldl_iItem_failed lp c dflt _ _ rfl]
    cases st; simp_all [assignAll]
  | case4 b ty r n hbr v p hd l n'' ok hcd ih =>
    intro hmem hok
    -- where `WF` enters: writing a declared non-referential name always succeeds, so the interpreted loop, which computes each
    -- default when its branch runs, can only stop where `computeDefaults` stops
    have hset : setattr c st.acc.dict b v = (dset st.acc.dict b v, .ok) :=
      setattr_plain hwf st.acc.dict v (hmem (b, ty) List.mem_cons_self) hbr rfl
    have hstep : iItem lp c dflt st (b, ty, none) =
        { acc := { st.acc with dict := dset st.acc.dict b v }, pos := p, defs := st.defs ++ [(b, v)], ok := true } := by
      unfold iItem; simp [hok, hr, hbr, h1, hpos, hd, hset]
    rw [List.map_cons, List.foldl_cons, hstep, ih _ rfl (fun a ha => hmem a (List.mem_cons_of_mem _ ha)) rfl, hcd]
    simp only [assignAll, assignArg, hbr, ↓reduceIte, hset, List.append_assoc, List.singleton_append]

theorem given_loop_eq {α : Type} (c : Cls) (dflt : DfltFn) (lp : AssignLoop) (h1 : lp.whenNotReferential = .setattr)
    (h2 : lp.whenReferential = .storeReferential) (nm ty : α → Name) (val : α → Val) :
    ∀ (items : List α) (st : IState), st.ok = true →
    (items.map (fun x => (nm x, ty x, some (val x)))).foldl (iItem lp c dflt) st =
      { st with
        acc := (assignAll c st.acc (items.map fun x =>
          ((if lp.resolvesName then (declMatch c (nm x)).getD (nm x) else nm x), val x))).1,
        ok := decide ((assignAll c st.acc (items.map fun x =>
          ((if lp.resolvesName then (declMatch c (nm x)).getD (nm x) else nm x), val x))).2 = .ok) }
  | [], st, hok => by cases st; simp_all [assignAll]
  | x :: rest, st, hok => by
    simp only [List.map_cons, List.foldl_cons, assignAll]
    generalize hname : (if lp.resolvesName then (declMatch c (nm x)).getD (nm x) else nm x) = name
    by_cases hnr : name ∈ c.refs
    · have hstep : iItem lp c dflt st (nm x, ty x, some (val x)) =
          { st with acc := { st.acc with refd := dset st.acc.refd name (val x) } } := by
        unfold iItem; simp [hok, hname, hnr, h2]
      rw [hstep, given_loop_eq c dflt lp h1 h2 nm ty val rest
        { st with acc := { st.acc with refd := dset st.acc.refd name (val x) } } hok]
      simp [assignArg, hnr]
    · cases hs : setattr c st.acc.dict name (val x) with
      | mk d res =>
        have hstep : iItem lp c dflt st (nm x, ty x, some (val x)) =
            { st with acc := { st.acc with dict := d }, ok := decide (res = .ok) } := by
          unfold iItem; simp [hok, hname, hnr, h1, hs]
        rw [hstep]
        cases res with
        | ok =>
          rw [given_loop_eq c dflt lp h1 h2 nm ty val rest
            { st with acc := { st.acc with dict := d }, ok := decide (SetRes.ok = SetRes.ok) } (by simp)]
          simp [assignArg, hnr, hs]
        | metaExc =>
          rw [foldl_iItem_failed lp c dflt _
            { st with acc := { st.acc with dict := d }, ok := decide (SetRes.metaExc = SetRes.ok) } (by simp)]
          simp [assignArg, hnr, hs]

theorem defs_assign_ok {c : Cls} (hwf : WF c) (dflt : DfltFn) (acc : NewAcc) (pos : Nat) :
    (assignAll c acc (computeDefaults dflt c c.attrs pos).1).2 = .ok := by
  obtain ⟨rd, h⟩ := assignAll_resolved hwf _ acc fun it hi => Or.inl (computeDefaults_declared dflt c pos it hi)
  rw [h]

theorem foldl_iLoop_failed (c : Cls) (dflt : DfltFn) (args : List Val) (kwargs : List (Name × Val))
    (loops : List AssignLoop) (st : IState) (h : st.ok = false) : loops.foldl (iLoop c dflt args kwargs) st = st :=
  foldl_fixed (fun lp => foldl_iItem_failed lp c dflt _ st h) loops

theorem newOne_eq (stream : Nat → Int) (call : Call) (pos : Nat) (hwf : WF call.cls) :
    newOne stream call pos = iNewOne newLoops stream call pos := by
  unfold iNewOne newLoops
  rw [List.foldl_cons]
  -- loop 1: defaults
  have h0 : iLoop call.cls (typedDefault stream) call.args call.kwargs ⟨⟨[], []⟩, pos, [], true⟩
      { source := .attributes, resolvesName := false, whenNotReferential := .setattrDefault, whenReferential := .nothing } =
      { acc := (assignAll call.cls ⟨[], []⟩ (computeDefaults (typedDefault stream) call.cls call.cls.attrs pos).1).1,
        pos := (computeDefaults (typedDefault stream) call.cls call.cls.attrs pos).2.1,
        defs := (computeDefaults (typedDefault stream) call.cls call.cls.attrs pos).1,
        ok := (computeDefaults (typedDefault stream) call.cls call.cls.attrs pos).2.2 } := by
    unfold iLoop loopItems
    rw [defaults_loop_eq hwf (typedDefault stream) _ rfl rfl rfl call.cls.attrs pos ⟨⟨[], []⟩, pos, [], true⟩ rfl
      (fun a ha => List.mem_map.mpr ⟨a, ha, rfl⟩) rfl]
    simp
  rw [h0]
  unfold newOne
  cases hok : (computeDefaults (typedDefault stream) call.cls call.cls.attrs pos).2.2 with
  | false =>
    -- an unknown type: the remaining loops are not executed
    rw [foldl_iLoop_failed _ _ _ _ _ _ rfl]
    simp [hok]
  | true =>
    have hdefs := defs_assign_ok hwf (typedDefault stream) ⟨[], []⟩ pos
    cases hA : assignAll call.cls ⟨[], []⟩ (computeDefaults (typedDefault stream) call.cls call.cls.attrs pos).1 with
    | mk accD resD =>
      have hresD : resD = .ok := by rw [hA] at hdefs; exact hdefs
      subst hresD
      -- loop 2: positional values
      rw [List.foldl_cons]
      have hzip : (call.cls.attrs.zip call.args).map
          (fun p => ((if false = true then (declMatch call.cls p.1.1).getD p.1.1 else p.1.1), p.2)) =
          call.cls.names.zip call.args := by
        simp only [Bool.false_eq_true, ↓reduceIte, Cls.names]
        rw [List.zip_map_left]
        simp
      have h1 : iLoop call.cls (typedDefault stream) call.args call.kwargs
          { acc := accD, pos := (computeDefaults (typedDefault stream) call.cls call.cls.attrs pos).2.1,
            defs := (computeDefaults (typedDefault stream) call.cls call.cls.attrs pos).1, ok := true }
          { source := .zipAttributesArgs, resolvesName := false, whenNotReferential := .setattr, whenReferential := .storeReferential } =
          { acc := (assignAll call.cls accD (call.cls.names.zip call.args)).1,
            pos := (computeDefaults (typedDefault stream) call.cls call.cls.attrs pos).2.1,
            defs := (computeDefaults (typedDefault stream) call.cls call.cls.attrs pos).1,
            ok := decide ((assignAll call.cls accD (call.cls.names.zip call.args)).2 = .ok) } := by
        simp only [iLoop, loopItems]
        rw [given_loop_eq (α := (Name × Name) × Val) _ _ _ rfl rfl (·.1.1) (·.1.2) (·.2) _ _ rfl, hzip]
      rw [h1]
      -- the model's single assignAll over the concatenation, split
      have hsplit := assignAll_append call.cls (computeDefaults (typedDefault stream) call.cls call.cls.attrs pos).1
        (call.cls.names.zip call.args ++ call.kwargs.map (resolveKw call.cls)) ⟨[], []⟩
      have hsplit2 := assignAll_append call.cls (call.cls.names.zip call.args) (call.kwargs.map (resolveKw call.cls)) accD
      rw [hA] at hsplit
      simp only at hsplit
      simp only [hok, ↓reduceIte, newItems, List.append_assoc, hsplit, hsplit2]
      cases hB : assignAll call.cls accD (call.cls.names.zip call.args) with
      | mk accZ resZ =>
        cases resZ with
        | metaExc =>
          rw [foldl_iLoop_failed _ _ _ _ _ _ (by simp)]
        | ok =>
          -- loop 3: keywords, resolved to the declared names
          rw [List.foldl_cons, List.foldl_nil]
          simp only [iLoop, loopItems]
          rw [given_loop_eq (α := Name × Val) _ _ _ rfl rfl (·.1) (fun _ => []) (·.2) _ _ (by simp)]
          rfl

theorem intGen_eq (g : IntGen) :
    IntGen.init = { current := (iGRun (fun cur => cur + intIncrement) genInit intStart).current } ∧
    (iGRun (fun cur => cur + intIncrement) genPeek g.current).ret = some (IntGen.peek g) ∧
    (iGRun (fun cur => cur + intIncrement) genPeek g.current).current = g.current ∧
    (iGRun (fun cur => cur + intIncrement) genNext g.current).ret = some (IntGen.next g).1 ∧
    (IntGen.next g).2 = { current := (iGRun (fun cur => cur + intIncrement) genNext g.current).current } :=
  ⟨rfl, rfl, rfl, rfl, rfl⟩

end Pyx.NShape
