import Proofs.SqlLinks
import Proofs.SqlTextFixed
import Proofs.LoadBuild
import Proofs.LoadJoin
import Proofs.SqlAttrNames

/-!
  BRIDGE between the two loader models.

  C01 states its link clause on the SPEC join `linksOfAssoc` (PyxModel/Sql/Links.lean: a nested loop over the rows of the
  metamodel the writers see, `Pyx.Sql.MM`).  That `populate_connections` computes that join is C03's subject, proved on
  the statement-level model of the loader (`Pyx.Load`, PyxModel/Load.lean: `build` = the five phases with the
  hashed index, the index cache and `connect`).  This file maps a metamodel of the first model to the statement list of
  the second (`toLoad`) and proves that the links the LOADER MODEL builds from it are exactly the links the spec join
  denotes (`links_agree`), using C03's `buildCore_assocs` / `mem_nestedJoin_*` (hash join = nested join) as the loader side.
-/
namespace Pyx.Sql
open Gen.Persist (Ty)

def lstr (t : Text) : String := String.ofList t

theorem lstr_inj {a b : Text} : lstr a = lstr b ↔ a = b := String.ofList_inj

def toLTy : Ty → Load.Ty
  | .BOOLEAN => .boolean
  | .INTEGER => .integer
  | .REAL => .real
  | .STRING => .string
  | .UNIQUE_ID => .uniqueId

/-- a value as the loader model holds it (`real`: the signed number of millionths; unset = `None`) -/
def toLVal : Option Val → Load.Val
  | none => .none
  | some (.bool b) => .bool b
  | some (.int z) => .int z
  | some (.real neg micro) => .real (if neg then - (Int.ofNat micro) else Int.ofNat micro)
  | some (.str s) => .str (lstr s)
  | some (.id n) => .id n

def toLAttrs (u : UC) (attrs : List (Name × Name)) : List (String × Load.Ty) :=
  attrs.map (fun a => (lstr a.1, match tyOfName u a.2 with
    | some t => toLTy t
    | none => .string))

def toLAssoc (a : AssocM) : Load.AssocStmt :=
  ⟨lstr a.relId, lstr a.src.kind, a.src.many, a.src.cond, a.src.keys.map lstr, lstr a.src.phrase,
   lstr a.tgt.kind, a.tgt.many, a.tgt.cond, a.tgt.keys.map lstr, lstr a.tgt.phrase⟩

/-- the instance of the loader model for a row: `__dict__` entries in attribute order -/
def toLRow (u : UC) (c : ClassM) (r : List (Option Val)) : Load.Row :=
  Load.mkRow (toLAttrs u c.attrs) none (r.map toLVal)

/-- the statements of a metamodel: CREATE TABLE per class, CREATE ROP per association, one positional INSERT per row -/
def toLoad (u : UC) (m : MM) : List Load.Stmt :=
  m.classes.map (fun c => Load.Stmt.cls (lstr c.kind) (toLAttrs u c.attrs)) ++
  m.assocs.map (fun a => Load.Stmt.assoc (toLAssoc a)) ++
  m.classes.flatMap (fun c => c.rows.map (fun r => Load.Stmt.insert (lstr c.kind) none (r.map toLVal)))

/-- a cell holds nothing or a value of its column's type: the `typed` clause of `LoadDom`, a hypothesis of its own (of the
    printer only this much is shown: a value that `fmtValue` prints at a type is of that type, `typedB_of_fmt`) -/
def typedB : Ty → Option Val → Bool
  | _, none => true
  | .BOOLEAN, some (.bool _) => true
  | .INTEGER, some (.int _) => true
  | .REAL, some (.real _ _) => true
  | .STRING, some (.str _) => true
  | .UNIQUE_ID, some (.id _) => true
  | _, _ => false

theorem typedB_of_fmt (t : Ty) (x : Val) (txt : Text) (h : fmtValue t x = some txt) : typedB t (some x) = true := by
  cases printed_of_fmt h <;> rfl

theorem int_of_sign_abs {a b : Int} (h1 : decide (a < 0) = decide (b < 0)) (h2 : a.natAbs = b.natAbs) : a = b := by
  have := Int.natAbs_eq_natAbs_iff.mp h2
  rcases this with h | h
  · exact h
  · simp only [decide_eq_decide] at h1
    omega

/-- what `pyNum` keeps of a real is the sign and the magnitude of its signed number of millionths: `-0.0` has no sign -/
theorem signed_pair (n : Bool) (m : Nat) :
    (n && m != 0, m) = (decide ((if n then - (Int.ofNat m) else Int.ofNat m) < 0),
      (if n then - (Int.ofNat m) else Int.ofNat m).natAbs) := by
  cases n
  · simp only [Bool.false_and, Bool.false_eq_true, if_false, Int.ofNat_eq_natCast, Int.natAbs_natCast, Prod.mk.injEq, and_true]
    exact (decide_eq_false (by omega)).symm
  · simp only [Bool.true_and, if_true, Int.ofNat_eq_natCast, Int.natAbs_neg, Int.natAbs_natCast, Prod.mk.injEq, and_true]
    by_cases h : m = 0
    · subst h; rfl
    · rw [decide_eq_true (by omega)]; simpa using h

theorem real_signed_eq (n1 n2 : Bool) (m1 m2 : Nat) :
    ((n1 && m1 != 0, m1) = (n2 && m2 != 0, m2)) ↔
      ((if n1 then - (Int.ofNat m1) else Int.ofNat m1) = (if n2 then - (Int.ofNat m2) else Int.ofNat m2)) := by
  rw [signed_pair, signed_pair]
  exact ⟨fun h => int_of_sign_abs (congrArg Prod.fst h) (congrArg Prod.snd h), fun h => by rw [h]⟩

/-- on two cells of one core type: "both not null and equal" of the spec join (`_is_null` by column type, Python's `==`)
    is "the first not null, and equal" of the loader model (`isNull` by value, structural equality) -/
theorem cellMatch_iff (t : Ty) (x y : Option Val) (hx : typedB t x = true) (hy : typedB t y = true) :
    cellMatch (some t, x) (some t, y) = true ↔ (Load.isNull (toLVal x) = false ∧ toLVal x = toLVal y) := by
  cases x with
  | none => simp [cellMatch, isNullL, toLVal, Load.isNull]
  | some vx =>
    cases y with
    | none =>
      cases t <;> cases vx <;> simp [typedB] at hx <;> simp [cellMatch, isNullL, toLVal]
    | some vy =>
      cases t with
      | BOOLEAN =>
        cases vx <;> simp [typedB] at hx
        cases vy <;> simp [typedB] at hy
        rename_i a b
        cases a <;> cases b <;> simp [cellMatch, isNullL, valKeyEq, pyNum, toLVal, Load.isNull]
      | INTEGER =>
        -- `pyNum` compares sign and magnitude; together they determine the integer
        cases vx <;> simp [typedB] at hx
        cases vy <;> simp [typedB] at hy
        rename_i a b
        simp only [cellMatch, isNullL, valKeyEq, pyNum, toLVal, Load.isNull, Bool.not_false, Bool.true_and, beq_iff_eq,
          Option.some.injEq, Prod.mk.injEq, true_and, Load.Val.int.injEq]
        constructor
        · intro ⟨h1, h2⟩
          exact int_of_sign_abs h1 (Nat.eq_of_mul_eq_mul_right (by decide) h2)
        · intro h; subst h; exact ⟨rfl, rfl⟩
      | REAL =>
        -- `pyNum` drops the sign of zero (`-0.0 == 0.0`); so does the signed number of millionths
        cases vx <;> simp [typedB] at hx
        cases vy <;> simp [typedB] at hy
        rename_i n1 m1 n2 m2
        simp only [cellMatch, isNullL, valKeyEq, pyNum, toLVal, Load.isNull, Bool.not_false, Bool.true_and, beq_iff_eq,
          Option.some.injEq, true_and, Load.Val.real.injEq]
        exact real_signed_eq n1 n2 m1 m2
      | STRING =>
        -- here and for UNIQUE_ID the spec join asks both cells non-null, the loader model the first: the second equals it
        cases vx <;> simp [typedB] at hx
        cases vy <;> simp [typedB] at hy
        rename_i s1 s2
        simp only [cellMatch, isNullL, valKeyEq, toLVal, Load.isNull, beq_self_eq_true, Bool.true_and, Bool.and_eq_true,
          Bool.not_eq_true', beq_iff_eq, Load.Val.str.injEq, lstr_inj, beq_eq_false_iff_ne, ne_eq]
        constructor
        · intro ⟨⟨h1, _⟩, h3⟩
          refine ⟨?_, h3⟩
          intro he
          have : s1 = [] := String.ofList_eq_empty_iff.mp he
          subst this; simp at h1
        · intro ⟨h1, h2⟩
          subst h2
          have hne : s1 ≠ [] := fun e => h1 (by subst e; rfl)
          refine ⟨⟨?_, ?_⟩, rfl⟩ <;> (cases s1 <;> simp_all)
      | UNIQUE_ID =>
        cases vx <;> simp [typedB] at hx
        cases vy <;> simp [typedB] at hy
        rename_i a b
        simp only [cellMatch, isNullL, valKeyEq, pyNum, toLVal, Load.isNull, beq_self_eq_true, Bool.true_and, Bool.and_eq_true,
          Bool.not_eq_true', beq_iff_eq, Option.some.injEq, Prod.mk.injEq, true_and, Load.Val.id.injEq, beq_eq_false_iff_ne, ne_eq]
        constructor
        · intro ⟨⟨h1, _⟩, h3⟩
          exact ⟨h1, Nat.eq_of_mul_eq_mul_right (by decide) h3⟩
        · intro ⟨h1, h2⟩
          subst h2; exact ⟨⟨h1, h1⟩, rfl⟩

def cellAt (attrs : List (Name × Name)) (vals : List (Option Val)) (k : Name) : Option Val :=
  match colExact attrs k with
  | some i => (vals[i]?).join
  | none => none

theorem cellAt_cons (a : Name × Name) (as : List (Name × Name)) (v : Option Val) (vs : List (Option Val)) (k : Name) :
    cellAt (a :: as) (v :: vs) k = if a.1 = k then v else cellAt as vs k := by
  unfold cellAt colExact
  rw [List.findIdx?_cons]
  by_cases h : a.1 = k
  · simp [h]
  · have : (a.1 == k) = false := by simpa using h
    simp only [this, Bool.false_eq_true, if_false, h]
    cases List.findIdx? (fun a => a.1 == k) as <;> simp

theorem get_mkRow (u : UC) : ∀ (attrs : List (Name × Name)) (vals : List (Option Val)) (k : Name),
    Load.Row.get (Load.mkRow (toLAttrs u attrs) none (vals.map toLVal)) (lstr k) = toLVal (cellAt attrs vals k) := by
  intro attrs
  induction attrs with
  | nil => intro vals k; simp [Load.mkRow, Load.Row.get, toLAttrs, cellAt, colExact, toLVal]
  | cons a as ih =>
    intro vals k
    cases vals with
    | nil =>
      have : cellAt (a :: as) [] k = none := by
        unfold cellAt; cases colExact (a :: as) k <;> simp
      simp [Load.mkRow, Load.Row.get, this, toLVal]
    | cons v vs =>
      rw [cellAt_cons] -- `lookup` walks `names.zip vals` as `cellAt` walks `attrs` and `vals`
      have ih' := ih vs k
      simp only [Load.mkRow, toLAttrs, List.map_cons, List.zip_cons_cons, Load.Row.get, List.lookup_cons] at ih' ⊢
      by_cases h : a.1 = k
      · subst h; simp
      · have : (lstr k == lstr a.1) = false := by
          simp only [beq_eq_false_iff_ne, ne_eq, lstr_inj]; exact fun e => h e.symm
        simp only [this, h, if_false]
        exact ih'

theorem colExact_of_mem (attrs : List (Name × Name)) (k : Name) (h : k ∈ attrs.map (fun a => a.1)) :
    ∃ i a, colExact attrs k = some i ∧ attrs[i]? = some a := by
  unfold colExact
  cases hf : attrs.findIdx? (fun a => a.1 == k) with
  | none =>
    rw [List.findIdx?_eq_none_iff] at hf
    obtain ⟨a, ha, rfl⟩ := List.mem_map.mp h
    have := hf a ha
    simp at this
  | some i =>
    have hlt := (List.findIdx?_eq_some_iff_getElem.mp hf).1
    exact ⟨i, attrs[i], rfl, by simp [hlt]⟩

/-- an attribute that the class declares under exactly this name is found by the exact lookup, so the case-insensitive
    fall-back of `Class.__getattr__` is not needed -/
theorem colCI_of_mem (u : UC) (attrs : List (Name × Name)) (k : Name) (h : k ∈ attrs.map (fun a => a.1)) :
    colCI u attrs k = colExact attrs k := by
  obtain ⟨i, _, hi, _⟩ := colExact_of_mem attrs k h
  simp only [colCI, hi]

/-- the metamodels on which the two models are compared: closed (C01's `MM.Closed`); association ends spell their key
    attributes exactly as the classes declare them (the loader model compares names exactly: its documented limitation
    "no case folding of kinds / attribute names"); no attribute twice in a key list (`KeysOk` of C03); corresponding key
    attributes have the same declared type (C03's domain: Python's cross-type `1 == 1.0 == True` is not in the loader
    model); every cell holds nothing or a value of its column's type (what printing demands anyway). -/
structure LoadDom (u : UC) (m : MM) : Prop where
  closed : m.Closed u
  srcKeys : ∀ a ∈ m.assocs, ∀ c ∈ m.classes, c.kind = a.src.kind → ∀ k ∈ a.src.keys, k ∈ c.attrs.map (fun x => x.1)
  tgtKeys : ∀ a ∈ m.assocs, ∀ c ∈ m.classes, c.kind = a.tgt.kind → ∀ k ∈ a.tgt.keys, k ∈ c.attrs.map (fun x => x.1)
  keysNodup : ∀ a ∈ m.assocs, a.src.keys.Nodup ∧ a.tgt.keys.Nodup
  sameTypes : ∀ a ∈ m.assocs, ∀ sc ∈ m.classes, ∀ tc ∈ m.classes, sc.kind = a.src.kind → tc.kind = a.tgt.kind →
    ∀ kk ∈ a.src.keys.zip a.tgt.keys, colType u sc (colExact sc.attrs kk.1) = colType u tc (colExact tc.attrs kk.2)
  typed : ∀ c ∈ m.classes, ∀ r ∈ c.rows, ∀ (i : Nat) (a : Name × Name) (t : Ty), c.attrs[i]? = some a → tyOfName u a.2 = some t → typedB t ((r[i]?).join) = true

/-- a decidable form of the `typed` clause, for concrete metamodels -/
def rowTypedM (u : UC) : List (Name × Name) → List (Option Val) → Bool
  | a :: as, v :: vs => (match tyOfName u a.2 with
      | some t => typedB t v
      | none => true) && rowTypedM u as vs
  | _, _ => true

theorem typed_of_rowTypedM (u : UC) : ∀ (attrs : List (Name × Name)) (r : List (Option Val)), rowTypedM u attrs r = true →
    ∀ (i : Nat) (a : Name × Name) (t : Ty), attrs[i]? = some a → tyOfName u a.2 = some t → typedB t ((r[i]?).join) = true := by
  intro attrs
  induction attrs with
  | nil => intro r _ i a t ha; simp at ha
  | cons a0 as ih =>
    intro r h i a t ha ht
    cases r with
    | nil => cases t <;> rfl
    | cons v vs =>
      simp only [rowTypedM, Bool.and_eq_true] at h
      cases i with
      | zero =>
        simp only [List.getElem?_cons_zero, Option.some.injEq] at ha; subst ha
        have h1 := h.1
        rw [ht] at h1
        simpa using h1
      | succ i =>
        simp only [List.getElem?_cons_succ] at ha ⊢
        exact ih vs h.2 i a t ha ht

theorem filterMap_none {α β : Type} (l : List α) : l.filterMap (fun _ => (none : Option β)) = [] :=
  List.filterMap_eq_nil_iff.mpr fun _ _ => rfl

theorem flatMap_nil {α β : Type} (l : List α) : l.flatMap (fun _ => ([] : List β)) = [] :=
  List.flatMap_eq_nil_iff.mpr fun _ _ => rfl

theorem popClasses_toLoad (u : UC) (m : MM) :
    Load.popClasses (toLoad u m) = m.classes.map (fun c => (⟨lstr c.kind, toLAttrs u c.attrs, [], []⟩ : Load.Cls)) := by
  simp only [Load.popClasses, toLoad, List.filterMap_append, List.filterMap_map, List.filterMap_flatMap, Function.comp_def,
    filterMap_none, flatMap_nil, List.filterMap_eq_map', List.append_nil]

theorem popAssocs_toLoad (u : UC) (m : MM) : Load.popAssocs (toLoad u m) = m.assocs.map toLAssoc := by
  simp only [Load.popAssocs, toLoad, List.filterMap_append, List.filterMap_map, List.filterMap_flatMap, Function.comp_def,
    filterMap_none, flatMap_nil, List.filterMap_eq_map', List.append_nil, List.nil_append]

theorem nodup_map_of {α β γ : Type} {f : α → β} {g : α → γ} {l : List α} (h : (l.map f).Nodup)
    (hfg : ∀ a b, g a = g b → f a = f b) : (l.map g).Nodup :=
  List.pairwise_map.mpr ((List.pairwise_map.mp h).imp fun hab e => hab (hfg _ _ e))

theorem class_of_kind (u : UC) (m : MM) (hm : m.Closed u) {c d : ClassM} (hc : c ∈ m.classes) (hd : d ∈ m.classes)
    (h : c.kind = d.kind) : c = d :=
  class_unique u hm.distinct hc hd (by rw [h]; exact sameKind_refl u _)

theorem insOf_toLoad (u : UC) (m : MM) (hm : m.Closed u) (c : ClassM) (hc : c ∈ m.classes) :
    Load.insOf (toLoad u m) (lstr c.kind) = c.rows.map (fun r => (none, r.map toLVal)) := by
  simp only [Load.insOf, toLoad, List.filterMap_append, List.filterMap_map, List.filterMap_flatMap, Function.comp_def,
    filterMap_none, List.nil_append]
  rw [flatMap_eq_of_unique hc (hm.distinct.of_map _ fun _ _ h e => h (e ▸ rfl)) fun d hd hne => by
    simp only [if_neg fun e => hne (class_of_kind u m hm hd hc (lstr_inj.mp e)), filterMap_none]]
  simp only [if_true, List.filterMap_eq_map']

theorem findCls_popClasses (u : UC) (m : MM) (hm : m.Closed u) (c : ClassM) (hc : c ∈ m.classes) :
    Load.findCls (Load.popClasses (toLoad u m)) (lstr c.kind) = some ⟨lstr c.kind, toLAttrs u c.attrs, [], []⟩ := by
  have h : m.classes.find? (fun d => decide (lstr d.kind = lstr c.kind)) = some c :=
    find?_unique hc (decide_eq_true rfl) fun d hd hk =>
      class_of_kind u m hm hd hc (lstr_inj.mp (of_decide_eq_true hk))
  rw [popClasses_toLoad, Load.findCls, List.find?_map]
  exact congrArg (Option.map _) h

theorem accepted_toLoad (u : UC) (m : MM) (h : LoadDom u m) : Load.accepted (toLoad u m) = true := by
  have hm := h.closed
  unfold Load.accepted
  simp only [Bool.and_eq_true, decide_eq_true_eq, List.all_eq_true]
  have hkinds : (Load.popClasses (toLoad u m)).map (fun c => c.kind) = m.classes.map (fun c => lstr c.kind) := by
    rw [popClasses_toLoad, List.map_map]; rfl
  refine ⟨by rw [hkinds]; exact nodup_map_of hm.distinct fun _ _ e => by rw [lstr_inj.mp e], ?_⟩
  intro s hs
  unfold toLoad at hs
  simp only [List.mem_append] at hs
  rcases hs with (hs | hs) | hs
  · obtain ⟨c, hc, rfl⟩ := List.mem_map.mp hs
    rw [decide_eq_true_eq, toLAttrs, List.map_map]
    exact nodup_map_of ((attrNamesOk_iff u c.attrs).mp (hm.attrNames c hc)).1 fun _ _ e => by rw [lstr_inj.mp e]
  · obtain ⟨a, ha, rfl⟩ := List.mem_map.mp hs
    obtain ⟨⟨sc, hsc, hsk⟩, hlen, tc, htc, htk, _⟩ := hm.ends a ha
    simp only [Bool.and_eq_true, List.contains_iff_mem, List.all_eq_true, beq_iff_eq, toLAssoc, List.length_map]
    rw [hkinds]
    refine ⟨⟨⟨?_, ?_⟩, ?_⟩, hlen⟩
    · exact List.mem_map.mpr ⟨sc, hsc, by rw [hsk]⟩
    · exact List.mem_map.mpr ⟨tc, htc, by rw [htk]⟩
    · intro n hn
      obtain ⟨k, hk, rfl⟩ := List.mem_map.mp hn
      rw [← htk, Load.attrNames, findCls_popClasses u m hm tc htc]
      obtain ⟨x, hx, rfl⟩ := List.mem_map.mp (h.tgtKeys a ha tc htc htk k hk)
      exact List.mem_map.mpr ⟨_, List.mem_map.mpr ⟨x, hx, rfl⟩, rfl⟩
  · obtain ⟨c, _, hr⟩ := List.mem_flatMap.mp hs
    obtain ⟨r, _, rfl⟩ := List.mem_map.mp hr
    rfl

theorem rowsOf_toLoad (u : UC) (m : MM) (hm : m.Closed u) (c : ClassM) (hc : c ∈ m.classes) :
    Load.rowsOf (Load.buildCore (toLoad u m)).classes (lstr c.kind) = c.rows.map (toLRow u c) := by
  unfold Load.rowsOf
  rw [Load.findCls_buildCore]
  unfold Load.clsSpec
  rw [findCls_popClasses u m hm c hc, insOf_toLoad u m hm c hc]
  simp only [List.map_map]
  rfl

theorem mem_joinRows (f : List (Option Val) → List (Option Val) → Bool) (T S : List (List (Option Val))) (i j : Nat) :
    (i, j) ∈ joinRows f T 0 S ↔ ∃ s t, S[i]? = some s ∧ T[j]? = some t ∧ f s t = true := by
  simp only [joinRows_eq, partnersOf_eq, List.mem_flatMap, List.mem_map, List.mem_filter, Prod.exists, Prod.mk.injEq,
    List.mem_zipIdx_iff_getElem?]
  constructor
  · rintro ⟨s, _, hs, _, ⟨t, _, ⟨ht, hf⟩, rfl⟩, rfl, rfl⟩
    exact ⟨s, t, hs, ht, hf⟩
  · rintro ⟨s, t, hs, ht, hf⟩
    exact ⟨s, i, hs, j, ⟨t, j, ⟨ht, hf⟩, rfl⟩, rfl, rfl⟩

theorem findClass_of_mem (u : UC) (m : MM) (hm : m.Closed u) {c : ClassM} (hc : c ∈ m.classes) :
    m.findClass u c.kind = some c :=
  find?_key_of_mem (fun c : ClassM => u.upper c.kind) hm.distinct hc

theorem keyCell_typed (u : UC) (m : MM) (h : LoadDom u m) (c : ClassM) (hc : c ∈ m.classes) (r : List (Option Val))
    (hr : r ∈ c.rows) (k : Name) (hk : k ∈ c.attrs.map (fun a => a.1)) :
    ∃ t, keyCell u c r (colExact c.attrs k) = (some t, cellAt c.attrs r k) ∧ typedB t (cellAt c.attrs r k) = true := by
  obtain ⟨i, a, hi, ha⟩ := colExact_of_mem c.attrs k hk
  have hcore := h.closed.types c hc a (List.mem_of_getElem? ha)
  obtain ⟨t, ht⟩ := Option.isSome_iff_exists.mp hcore
  refine ⟨t, ?_, ?_⟩
  · have h1 : (keyCell u c r (colExact c.attrs k)).1 = some t := by
      rw [keyCell_fst, hi]; simp [colType, ha, ht]
    exact Prod.ext h1 (by unfold keyCell cellAt; cases colExact c.attrs k <;> rfl)
  · have : cellAt c.attrs r k = (r[i]?).join := by unfold cellAt; rw [hi]
    rw [this]
    exact h.typed c hc r hr i a t ha ht

theorem rowsMatch_iff (u : UC) (m : MM) (h : LoadDom u m) (a : AssocM) (ha : a ∈ m.assocs) (sc tc : ClassM)
    (hsc : sc ∈ m.classes) (htc : tc ∈ m.classes) (hsk : sc.kind = a.src.kind) (htk : tc.kind = a.tgt.kind)
    (s t : List (Option Val)) (hs : s ∈ sc.rows) (ht : t ∈ tc.rows) :
    rowsMatch u a sc tc s t = true ↔ Load.matchesB (toLAssoc a) (toLRow u sc s) (toLRow u tc t) = true := by
  rw [Load.matchesB_iff]
  unfold rowsMatch Load.keyPairs
  simp only [List.all_eq_true, toLAssoc]
  have hzip : (a.src.keys.map lstr).zip (a.tgt.keys.map lstr) = (a.src.keys.zip a.tgt.keys).map (fun kk => (lstr kk.1, lstr kk.2)) := by
    rw [List.zip_map]; rfl
  rw [hzip]
  have hcell : ∀ kk ∈ a.src.keys.zip a.tgt.keys,
      (cellMatch (keyCell u sc s (colExact sc.attrs kk.1)) (keyCell u tc t (colCI u tc.attrs kk.2)) = true ↔
        (Load.isNull ((toLRow u sc s).get (lstr kk.1)) = false ∧
          (toLRow u sc s).get (lstr kk.1) = (toLRow u tc t).get (lstr kk.2))) := by
    intro kk hkk
    have hk1 : kk.1 ∈ a.src.keys := (List.of_mem_zip hkk).1
    have hk2 : kk.2 ∈ a.tgt.keys := (List.of_mem_zip hkk).2
    have hm1 := h.srcKeys a ha sc hsc hsk kk.1 hk1
    have hm2 := h.tgtKeys a ha tc htc htk kk.2 hk2
    obtain ⟨t1, e1, ty1⟩ := keyCell_typed u m h sc hsc s hs kk.1 hm1
    obtain ⟨t2, e2, ty2⟩ := keyCell_typed u m h tc htc t ht kk.2 hm2
    -- `sameTypes` makes the two cells one type, so `cellMatch_iff` applies; `tgtKeys` makes `colCI` the exact lookup
    have hsame := h.sameTypes a ha sc hsc tc htc hsk htk kk hkk
    rw [← keyCell_fst u sc s, ← keyCell_fst u tc t, e1, e2] at hsame
    simp only [Option.some.injEq] at hsame
    subst hsame
    rw [colCI_of_mem u tc.attrs kk.2 hm2, e1, e2, cellMatch_iff t1 _ _ ty1 ty2]
    unfold toLRow
    rw [get_mkRow, get_mkRow]
  constructor
  · intro hall p hp
    obtain ⟨kk, hkk, rfl⟩ := List.mem_map.mp hp
    exact (hcell kk hkk).mp (hall kk hkk)
  · intro hall kk hkk
    exact (hcell kk hkk).mpr (hall (lstr kk.1, lstr kk.2) (List.mem_map.mpr ⟨kk, hkk, rfl⟩))

/-- LINKS AGREE: for every metamodel in the bridge domain, the loader model (C03's `Pyx.Load.build`: the five phases, the
    hashed index with its cache, `connect` in both directions) ACCEPTS the statements of the metamodel, keeps its
    associations in order, and the links it builds for an association -- both directed links -- are exactly the pairs of
    the spec join `linksOfAssoc` (row indices within the classes' storage) -/
theorem links_agree (u : UC) (m : MM) (h : LoadDom u m) :
    ∃ lm, Load.build (toLoad u m) = some lm ∧ lm.assocs.map (fun x => x.1) = m.assocs.map toLAssoc ∧
      ∀ a ∈ m.assocs, ∀ L, (toLAssoc a, L) ∈ lm.assocs → ∀ i j,
        ((i, j) ∈ linksOfAssoc u m a ↔ j ∈ L.tgt i) ∧ ((i, j) ∈ linksOfAssoc u m a ↔ i ∈ L.src j) := by
  have hm := h.closed
  have hacc := accepted_toLoad u m h
  have hk : ∀ a' ∈ Load.popAssocs (toLoad u m), Load.KeysOk a' := by
    intro a' ha'
    rw [popAssocs_toLoad] at ha'
    obtain ⟨a, ha, rfl⟩ := List.mem_map.mp ha'
    exact ⟨nodup_map_of (f := id) (by simpa using (h.keysNodup a ha).1) fun _ _ e => lstr_inj.mp e,
      nodup_map_of (f := id) (by simpa using (h.keysNodup a ha).2) fun _ _ e => lstr_inj.mp e⟩
  have hassocs := Load.buildCore_assocs (toLoad u m) hk
  refine ⟨Load.buildCore (toLoad u m), by simp [Load.build, hacc], ?_, ?_⟩
  · rw [hassocs, List.map_map, popAssocs_toLoad]
    simp [Function.comp]
  · intro a ha L hL i j
    rw [hassocs] at hL
    obtain ⟨a', _, he⟩ := List.mem_map.mp hL
    simp only [Prod.mk.injEq] at he
    obtain ⟨rfl, rfl⟩ := he
    obtain ⟨⟨sc, hsc, hsk⟩, _, tc, htc, htk, _⟩ := hm.ends a ha
    have hS : Load.rowsOf (Load.buildCore (toLoad u m)).classes (toLAssoc a).srcKind = sc.rows.map (toLRow u sc) := by
      show Load.rowsOf _ (lstr a.src.kind) = _
      rw [← hsk]; exact rowsOf_toLoad u m hm sc hsc
    have hT : Load.rowsOf (Load.buildCore (toLoad u m)).classes (toLAssoc a).tgtKind = tc.rows.map (toLRow u tc) := by
      show Load.rowsOf _ (lstr a.tgt.kind) = _
      rw [← htk]; exact rowsOf_toLoad u m hm tc htc
    rw [hS, hT]
    -- both joins have the same membership characterisation; `hspec` carries it across `toLRow` by `rowsMatch_iff`
    have hlinks : (i, j) ∈ linksOfAssoc u m a ↔
        ∃ s t, sc.rows[i]? = some s ∧ tc.rows[j]? = some t ∧ rowsMatch u a sc tc s t = true := by
      unfold linksOfAssoc
      rw [← hsk, ← htk, findClass_of_mem u m hm hsc, findClass_of_mem u m hm htc]
      exact mem_joinRows ..
    have hspec : (∃ s t, sc.rows[i]? = some s ∧ tc.rows[j]? = some t ∧ rowsMatch u a sc tc s t = true) ↔
        ∃ s' t', (sc.rows.map (toLRow u sc))[i]? = some s' ∧ (tc.rows.map (toLRow u tc))[j]? = some t' ∧
          Load.matchesB (toLAssoc a) s' t' = true := by
      constructor
      · intro ⟨s, t, h1, h2, h3⟩
        refine ⟨toLRow u sc s, toLRow u tc t, by simp [h1], by simp [h2], ?_⟩
        exact (rowsMatch_iff u m h a ha sc tc hsc htc hsk htk s t (List.mem_of_getElem? h1) (List.mem_of_getElem? h2)).mp h3
      · intro ⟨s', t', h1, h2, h3⟩
        simp only [List.getElem?_map, Option.map_eq_some_iff] at h1 h2
        obtain ⟨s, hs, rfl⟩ := h1
        obtain ⟨t, ht, rfl⟩ := h2
        exact ⟨s, t, hs, ht,
          (rowsMatch_iff u m h a ha sc tc hsc htc hsk htk s t (List.mem_of_getElem? hs) (List.mem_of_getElem? ht)).mpr h3⟩
    rw [hlinks, hspec, Load.mem_nestedJoin_tgt, Load.mem_nestedJoin_src]
    exact ⟨Iff.rfl, Iff.rfl⟩

/-- `(i, j)` is linked across `a` in the metamodel the LOADER MODEL builds from the statements of `m`: both directed links
    hold the pair (`i`, `j`: positions in the storage of the source / target class) -/
def LoaderLinked (u : UC) (m : MM) (a : AssocM) (i j : Nat) : Prop :=
  ∃ lm L, Load.build (toLoad u m) = some lm ∧ (toLAssoc a, L) ∈ lm.assocs ∧ j ∈ L.tgt i ∧ i ∈ L.src j

theorem loaderLinked_iff (u : UC) (m : MM) (h : LoadDom u m) (a : AssocM) (ha : a ∈ m.assocs) (i j : Nat) :
    LoaderLinked u m a i j ↔ (i, j) ∈ linksOfAssoc u m a := by
  obtain ⟨lm, hb, has, hl⟩ := links_agree u m h
  constructor
  · intro ⟨lm', L, hb', hL, h1, _⟩
    rw [hb] at hb'; simp only [Option.some.injEq] at hb'; subst hb'
    exact ((hl a ha L hL i j).1).mpr h1
  · intro hp
    have hmem : toLAssoc a ∈ lm.assocs.map (fun x => x.1) := by rw [has]; exact List.mem_map.mpr ⟨a, ha, rfl⟩
    obtain ⟨x, hx, hxe⟩ := List.mem_map.mp hmem
    obtain ⟨a', L⟩ := x
    simp only at hxe; subst hxe
    exact ⟨lm, L, hb, hx, ((hl a ha L hx i j).1).mp hp, ((hl a ha L hx i j).2).mp hp⟩

theorem typedB_resolve (t : Ty) (v : Option Val) (h : typedB t v = true) : typedB t (resolveVal t v) = true := by
  cases v with
  | some x => exact h
  | none => cases t <;> rfl

theorem colType_canon (u : UC) (c : ClassM) (htypes : ∀ a ∈ c.attrs, (tyOfName u a.2).isSome = true) (col : Option Nat) :
    colType u (canonClass u c) col = colType u c col := by
  cases col with
  | none => rfl
  | some i =>
    simp only [colType, canonClass, upAttrs, List.getElem?_map]
    cases ha : c.attrs[i]? with
    | none => rfl
    | some a =>
      obtain ⟨t, ht⟩ := Option.isSome_iff_exists.mp (htypes a (List.mem_of_getElem? ha))
      simp [ht, tyOfName_upper_of_some u a.2 t ht]

theorem loadDom_reloaded (u : UC) (m : MM) (h : LoadDom u m) (A : List AssocM) (hA : ∀ a ∈ A, a ∈ m.assocs) :
    LoadDom u (m.reloaded u A) := by
  have hm := h.closed
  have hnames : ∀ c : ClassM, (canonClass u c).attrs.map (fun x => x.1) = c.attrs.map (fun x => x.1) := by
    intro c; simp only [canonClass, upAttrs, List.map_map]; rfl
  refine ⟨closed_reloaded u m hm A hA, ?_, ?_, fun a ha => h.keysNodup a (hA a ha), ?_, ?_⟩
  · intro a ha c' hc' hk k hkm
    obtain ⟨c, hc, rfl⟩ := mem_reloaded_classes hc'
    exact hnames c ▸ h.srcKeys a (hA a ha) c hc hk k hkm
  · intro a ha c' hc' hk k hkm
    obtain ⟨c, hc, rfl⟩ := mem_reloaded_classes hc'
    exact hnames c ▸ h.tgtKeys a (hA a ha) c hc hk k hkm
  · intro a ha sc' hsc' tc' htc' hsk htk kk hkk
    obtain ⟨sc, hsc, rfl⟩ := mem_reloaded_classes hsc'
    obtain ⟨tc, htc, rfl⟩ := mem_reloaded_classes htc'
    rw [colType_canon u sc (hm.types sc hsc), colType_canon u tc (hm.types tc htc)]
    show colType u sc (colExact (upAttrs u sc.attrs) kk.1) = colType u tc (colExact (upAttrs u tc.attrs) kk.2)
    rw [colExact_up, colExact_up]
    exact h.sameTypes a (hA a ha) sc hsc tc htc hsk htk kk hkk
  · intro c' hc' r' hr' i a' t ha' ht'
    obtain ⟨c, hc, rfl⟩ := mem_reloaded_classes hc'
    obtain ⟨r, hr, rfl⟩ := List.mem_map.mp hr'
    simp only [canonClass, upAttrs, List.getElem?_map, Option.map_eq_some_iff] at ha'
    obtain ⟨a, ha, rfl⟩ := ha'
    obtain ⟨t0, ht0⟩ := Option.isSome_iff_exists.mp (hm.types c hc a (List.mem_of_getElem? ha))
    cases (tyOfName_upper_of_some u a.2 t0 ht0).symm.trans ht'
    -- a canonical cell is `resolveVal` of the original, which keeps `typedB`
    rw [canonVals_get u c.attrs r i (hm.rows c hc r hr), ha]
    cases hv : r[i]? with
    | none => rfl
    | some v =>
      simp only [Option.bind_some, Option.map_some, Option.join_some, canonVal, ht0]
      have := h.typed c hc r hr i a _ ha ht0
      rw [hv] at this
      exact typedB_resolve _ _ this

/-- THE LINK CLAUSE ON THE LOADER MODEL: for a metamodel in the bridge domain whose unset numeric key cells meet no type
    default (`UnsetSafe`, the guard against the open finding `unset-referential-relinks` of KNOWN_FINDINGS.txt), the loader
    model builds from the statements of the RELOADED metamodel exactly the links it builds from the statements of the original -/
theorem loader_links_reloaded (u : UC) (m : MM) (h : LoadDom u m) (hsafe : UnsetSafe u m) (A : List AssocM)
    (hA : ∀ a ∈ A, a ∈ m.assocs) (a : AssocM) (ha : a ∈ A) (i j : Nat) :
    LoaderLinked u (m.reloaded u A) a i j ↔ LoaderLinked u m a i j := by
  rw [loaderLinked_iff u _ (loadDom_reloaded u m h A hA) a ha, loaderLinked_iff u m h a (hA a ha),
    linksOfAssoc_reloaded u m h.closed hsafe A a (hA a ha)]

theorem loader_links_kept (u : UC) (m : MM) (h : LoadDom u m) (hsafe : UnsetSafe u m) {A : List AssocM}
    (hA : ∀ a ∈ A, a ∈ m.assocs) (hA' : ∀ a ∈ m.assocs, a ∈ A) {L : AssocM → List (Nat × Nat)}
    (hL : ∀ a ∈ m.assocs, ∀ i j, (i, j) ∈ L a ↔ LoaderLinked u m a i j) :
    ∀ a ∈ m.assocs, ∀ i j, (i, j) ∈ L a ↔ LoaderLinked u (m.reloaded u A) a i j :=
  fun a ha i j => (hL a ha i j).trans (loader_links_reloaded u m h hsafe A hA a (hA' a ha) i j).symm

end Pyx.Sql
