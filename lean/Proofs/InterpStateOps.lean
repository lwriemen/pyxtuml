import PyxModel.Interp.State

/-!
  What a successful state operation of `Spec` did: one inversion per operation (`relate_inv`, `unrelate_inv`, `deleteInst_inv`,
  `setAttr_inv`, `newInst_inv`), from which well-formedness, the frame conditions and the refinement steps are read off.
-/
namespace Pyx.Interp

theorem relate_inv {C : Ctx} {x y : Inst} {rel phrase : String} {st st' : State} (h : relate C x y rel phrase st = .ok st') :
    st.isLive x = true ∧ st.isLive y = true ∧ ∃ k a s t, findLink C rel phrase x y = some (k, a, s, t) ∧
      (st' = st ∧ (s, t) ∈ st.links k ∨
        (s, t) ∉ st.links k ∧ st' = { st with links := upd st.links k (st.links k ++ [(s, t)]) }) := by
  unfold relate at h
  split at h
  · rename_i hl
    rw [Bool.and_eq_true] at hl
    split at h
    · cases h
    · rename_i k a s t hfl
      refine ⟨hl.1, hl.2, k, a, s, t, hfl, ?_⟩
      simp only at h
      split at h
      · rename_i hm
        cases h
        exact .inl ⟨rfl, hm⟩
      · rename_i hm
        split at h
        · cases h
        · cases h; exact .inr ⟨hm, rfl⟩
  · cases h

theorem unrelate_inv {C : Ctx} {x y : Inst} {rel phrase : String} {st st' : State}
    (h : unrelate C x y rel phrase st = .ok st') :
    st.isLive x = true ∧ st.isLive y = true ∧ ∃ k a s t, findLink C rel phrase x y = some (k, a, s, t) ∧
      (s, t) ∈ st.links k ∧ st' = { st with links := upd st.links k ((st.links k).erase (s, t)) } := by
  unfold unrelate at h
  split at h
  · rename_i hl
    rw [Bool.and_eq_true] at hl
    split at h
    · cases h
    · rename_i k a s t hfl
      simp only at h
      split at h
      · rename_i hm
        cases h
        exact ⟨hl.1, hl.2, k, a, s, t, hfl, hm, rfl⟩
      · cases h
  · cases h

theorem deleteInst_inv {i : Inst} {st st' : State} (h : deleteInst i st = .ok st') :
    st.isLive i = true ∧ st' =
      { st with live := upd st.live i.cls ((st.live i.cls).erase i.idx),
                links := fun k => (st.links k).filter (fun p => decide (p.1 ≠ i ∧ p.2 ≠ i)) } := by
  unfold deleteInst at h
  split at h
  · rename_i hl
    cases h
    exact ⟨hl, rfl⟩
  · cases h

theorem setAttr_inv {C : Ctx} {i : Inst} {name : String} {v : Val} {st st' : State} (h : setAttr C i name v st = .ok st') :
    st.isLive i = true ∧ (∃ a, findAttr C i.cls name = some a ∧ a.referential = false ∧ tyMatches a.ty v = true) ∧
      st' = { st with attr := fun j n => if j = i ∧ n = name then v else st.attr j n } := by
  unfold setAttr at h
  split at h
  · rename_i hl
    split at h
    · rename_i a ha
      split at h
      · cases h
      · rename_i hr
        split at h
        · rename_i ht
          cases h
          exact ⟨hl, ⟨a, ha, by simpa using hr, ht⟩, rfl⟩
        · cases h
    · cases h
  · cases h

theorem newInst_inv {C : Ctx} {cls : String} {st st' : State} {i : Inst} (h : newInst C cls st = .ok (i, st')) :
    ∃ c, findClass C cls = some c ∧ i = ⟨cls, st.next cls⟩ ∧
      st' = { st with live := upd st.live cls (st.live cls ++ [st.next cls]), next := upd st.next cls (st.next cls + 1),
                      attr := (initAttrs ⟨cls, st.next cls⟩ c.attrs (st.attr, st.nextId)).1,
                      nextId := (initAttrs ⟨cls, st.next cls⟩ c.attrs (st.attr, st.nextId)).2 } := by
  unfold newInst at h
  split at h
  · cases h
  · rename_i c hc
    simp only [Except.ok.injEq, Prod.mk.injEq] at h
    exact ⟨c, hc, h.1.symm, h.2.symm⟩

end Pyx.Interp
