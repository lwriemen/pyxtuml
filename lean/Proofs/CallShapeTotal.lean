import Proofs.CallShapeMore

/-!
  C15 source tie (continues Proofs/CallShapeMore.lean): `NS::f()` / `bridge NS::f()` for EVERY model, found or not, against
  `srcDom C`.  Both handlers are `find_symbol`, `getattr`, the call; `call_attr` says which callable the last two reach from a
  symbol (`attrCallable`), so each form comes down to one equation in `Option Callable`: `find_symbol` then `attrCallable` is
  `Spec`'s `resolveNs` (`resolve_implicit`, `resolve_bridge`; `hsep` is exactly where they differ).  Also `E::name` whether
  or not the enumeration is found, `transform KL::op()` where the model has neither a class KL nor an untyped entry under KL, and
  the untyped dictionary of `Domain.add_symbol` for every registration order.
-/
namespace Pyx.CShape
open Pyx.Interp Pyx.Interp.M Pyx.Gen.CallShape
open Pyx.IShape (bind_run fail_run noMsg)

/-- the callable `getattr(<s>, name)` denotes when it is called without an instance: a bridge of the external entity, a
    class-based operation of the class; nothing for a constant, an enumeration, a function -/
def attrCallable (C : Ctx) (name : String) : Sym → Option Callable
  | .ee ns => findCallable C (fun f => f.kind = .bridge ns ∧ f.name = name)
  | .cls kl => findCallable C (fun f => f.kind = .classOp kl ∧ f.name = name)
  | _ => none

/-- `Spec`'s clause for `NS::f()` / `bridge NS::f()` after the parameters -/
def runNs (rec : Oracle) (kw : List (String × Val)) (msg : String) : Option Callable → M Val
  | some f =>
    match f.kind with
    | .bridge _ => invoke rec .function f.body kw .none
    | _ => invoke rec .operation f.body kw .none
  | none => fail msg

/-- `getattr(<s>, name)(**kw)` runs the callable it denotes; where it denotes none, `getattr` or the call fails (an
    instance-based operation fetched from the class lacks its instance) -/
theorem call_attr (C : Ctx) (rec : Oracle) (s : Sym) (name msg : String) (kw : List (String × Val)) (c : Cfg) :
    noMsg ((getattrSym C gen s name >>= callPV gen rec [] kw) c) = noMsg (runNs rec kw msg (attrCallable C name s) c) := by
  cases s with
  | ee ns =>
    simp only [getattrSym, attrCallable]
    cases hb : findCallable C (fun f => f.kind = .bridge ns ∧ f.name = name) with
    | none => simp only [csym, runNs]
    | some f => simp only [csym, runNs, (hasBridges_of_found hb).2]
  | cls kl =>
    simp only [getattrSym, classAttr, attrCallable]
    cases hc : findCallable C (fun f => f.kind = .classOp kl ∧ f.name = name) with
    | some f => simp only [csym, runNs, classOp_kind hc]
    | none => cases findCallable C (fun f => f.kind = .instOp kl ∧ f.name = name) <;> simp only [csym, runNs]
  | enum d =>
    simp only [getattrSym, attrCallable, runNs]
    cases posOf name d.enumerators <;> simp only [csym]
  | _ => simp only [csym, attrCallable, runNs]

theorem ns_call_total (C : Ctx) (rec : Oracle) (ns name : String) (kinds : List String) (msg : String)
    (kw : List (String × Val)) (c : Cfg) :
    noMsg (runNs rec kw msg ((iFind gen.domain (srcDom C) ns kinds).bind (attrCallable C name)) c) =
      noMsg ((do let s ← findSym gen (srcDom C) ns kinds
                 let fn ← getattrSym C gen s name
                 callPV gen rec [] kw fn) c) := by
  simp only [findSym]
  cases iFind gen.domain (srcDom C) ns kinds with
  | none => simp only [Option.bind_none, runNs, Pyx.IShape.fail_bnd, noMsg_fail]
  | some s => exact (call_attr C rec s name msg kw c).symm

/-- without an external entity of the name, the untyped dictionary holds a constant, an enumeration or a function: nothing to
    fetch a callable from -/
theorem attrCallable_untyped {C : Ctx} {n : String} {s : Sym} (hee : hasBridges C n = false) (h : untypedOf C n = some s)
    (name : String) : attrCallable C name s = none := by
  have hs := untypedOf_some h
  cases s with
  | ee m => rw [hee] at hs; cases hs.2
  | cls kl => cases hs
  | _ => rfl

section
variable (C : Ctx) (ns name : String)
  (hwf : (findClass C ns).isSome = false → findCallable C (fun f => f.kind = .classOp ns ∧ f.name = name) = none)
include hwf

/-- `find_symbol(NS, ['external entity', 'class'])` then `getattr` reach the callable `resolveNs` picks, unless (`hsep`) an
    external entity NS without a bridge `name` hides a class NS with the operation `name`.  `hwf`: class-based operations belong
    to declared classes. -/
theorem resolve_implicit
    (hsep : hasBridges C ns = true → findCallable C (fun f => f.kind = .bridge ns ∧ f.name = name) = none →
      findCallable C (fun f => f.kind = .classOp ns ∧ f.name = name) = none) :
    (iFind gen.domain (srcDom C) ns ["external entity", "class"]).bind (attrCallable C name) = resolveNs C ns name := by
  rw [srcDom, iFind_gen_ee_class, resolveNs]
  -- an external entity is found first; without one the CLASS is asked before the untyped dictionary, which holds nothing callable
  cases hee : hasBridges C ns with
  | true =>
    simp only [↓reduceIte, Option.bind_some, attrCallable]
    cases hb : findCallable C (fun f => f.kind = .bridge ns ∧ f.name = name) with
    | some f => rfl
    | none => exact (hsep hee hb).symm
  | false =>
    simp only [no_bridge_of_none hee, Bool.false_eq_true, ↓reduceIte, classSym]
    cases hcls : (findClass C ns).isSome with
    | true => rfl
    | false =>
      simp only [Bool.false_eq_true, ↓reduceIte, Option.none_or, hwf hcls]
      cases hu : untypedOf C ns with
      | none => rfl
      | some s => exact attrCallable_untyped hee hu name

/-- `find_symbol(NS, 'external entity')` falls back to the untyped dictionary BEFORE the class: here `hsep` also excludes a
    constant, an enumeration or a function NS hiding the class -/
theorem resolve_bridge
    (hsep : untypedOf C ns ≠ none → findCallable C (fun f => f.kind = .bridge ns ∧ f.name = name) = none →
      findCallable C (fun f => f.kind = .classOp ns ∧ f.name = name) = none) :
    (iFind gen.domain (srcDom C) ns ["external entity"]).bind (attrCallable C name) = resolveNs C ns name := by
  rw [srcDom, iFind_gen_ee, resolveNs]
  cases hee : hasBridges C ns with
  | true =>
    simp only [↓reduceIte, Option.bind_some, attrCallable]
    cases hb : findCallable C (fun f => f.kind = .bridge ns ∧ f.name = name) with
    | some f => rfl
    | none => exact (hsep (by simp [untypedOf, hee]) hb).symm
  | false =>
    simp only [no_bridge_of_none hee, Bool.false_eq_true, ↓reduceIte]
    cases hu : untypedOf C ns with
    | some s =>
      rw [hsep (by simp [hu]) (no_bridge_of_none hee name)]
      exact attrCallable_untyped hee hu name
    | none =>
      simp only [Option.none_or, classSym]
      cases hcls : (findClass C ns).isSome with
      | true => rfl
      | false => exact (hwf hcls).symm
end

/-- `NS::name(args)` for every model, found or not, against the domain as the source builds it.  `hwf`: class-based operations
    belong to declared classes.  `hsep`: the one case where `Spec` and the source DISAGREE is excluded — an external entity NS
    that has no bridge `name` while a class NS has a class-based operation `name` (`Spec` runs the operation, the source finds the
    external entity first and fails at `getattr`): `implicit_call_disagreement_witness` in Props/C15.lean.  Up to the error text. -/
theorem implicit_call_total (C : Ctx) (rec : Oracle) (ns name : String) (args : List (String × Expr)) (c : Cfg)
    (hwf : (findClass C ns).isSome = false → findCallable C (fun f => f.kind = .classOp ns ∧ f.name = name) = none)
    (hsep : hasBridges C ns = true → findCallable C (fun f => f.kind = .bridge ns ∧ f.name = name) = none →
      findCallable C (fun f => f.kind = .classOp ns ∧ f.name = name) = none) :
    noMsg (evalStep C rec (.call (.implicit ns) name args) c) =
      noMsg (handlerE C gen (srcDom C) rec (invNode C gen (srcDom C) rec [("namespace", ns), ("action_name", name)] none args)
        accept_ImplicitInvocationNode c) := by
  rw [implicit_handler]
  -- both sides evaluate the parameters first: compare what follows them
  refine Pyx.IShape.noMsg_bind _ c fun kw c' => ?_
  rw [← ns_call_total, resolve_implicit C ns name hwf hsep]
  rfl

/-- `bridge NS::name(args)` for every model, found or not, against the domain as the source builds it: a bridge of the external
    entity NS; else — when NS names nothing in the untyped dictionary — the class NS through find_class and its class-based
    operation.  `hwf`: class-based operations belong to declared classes.  `hsep` excludes where `Spec` and the source DISAGREE:
    NS names something in the untyped dictionary (an external entity without a bridge `name`, a constant, an enumeration, a
    function) while a class NS has a class-based operation `name` — `Spec` runs the operation, the source stops at the symbol
    found first (`bridge_call_disagreement_witness` in Props/C15.lean).  Up to the error text. -/
theorem bridge_call_total (C : Ctx) (rec : Oracle) (ns name : String) (args : List (String × Expr)) (c : Cfg)
    (hwf : (findClass C ns).isSome = false → findCallable C (fun f => f.kind = .classOp ns ∧ f.name = name) = none)
    (hsep : untypedOf C ns ≠ none → findCallable C (fun f => f.kind = .bridge ns ∧ f.name = name) = none →
      findCallable C (fun f => f.kind = .classOp ns ∧ f.name = name) = none) :
    noMsg (evalStep C rec (.call (.bridge ns) name args) c) =
      noMsg (handlerE C gen (srcDom C) rec (invNode C gen (srcDom C) rec [("namespace", ns), ("action_name", name)] none args)
        accept_BridgeInvocationNode c) := by
  rw [bridge_handler]
  refine Pyx.IShape.noMsg_bind _ c fun kw c' => ?_
  rw [← ns_call_total, resolve_bridge C ns name hwf hsep]
  rfl

/-- `NS::name` (no parentheses) for every model: the enumeration NS — its enumerator's position; NS no enumeration — the source
    falls back to the untyped dictionary (an external entity, a constant or a function NS has no such attribute) and to the class
    NS, and raises; `Spec` reports the unknown enumeration.  The hypotheses keep NS::name from denoting a bridge or an operation
    (Python would then deliver the function OBJECT as a value: outside the value domain of the reference semantics).  Up to the
    error text. -/
theorem enumerator_total (C : Ctx) (rec : Oracle) (ns name : String) (c : Cfg)
    (hnb : findCallable C (fun f => f.kind = .bridge ns ∧ f.name = name) = none)
    (hnc : findCallable C (fun f => f.kind = .classOp ns ∧ f.name = name) = none)
    (hni : findCallable C (fun f => f.kind = .instOp ns ∧ f.name = name) = none) :
    noMsg (evalStep C rec (.enumOrConst ns name) c) =
      noMsg (handlerE C gen (srcDom C) rec (enumNode ns name) accept_EnumOrNamedConstantNode c) := by
  cases hd : C.enums.find? (fun d => d.name = ns) with
  | some d => rw [srcDom, enumNode, enumerator_eq C (untypedOf C) rec ns name d hd]
  | none =>
    rw [enum_handler]
    simp only [csym, hd, iFind_gen_enum]
    cases hu : untypedOf C ns with
    | none => cases (findClass C ns).isSome <;> simp only [csym, hnc, hni]
    | some s =>
      have hs := untypedOf_some hu
      cases s with
      | ee m => simp only [csym, hs.1, hnb]
      | enum d => rw [hd] at hs; cases hs
      | cls kl => cases hs
      | _ => simp only [csym]

/-- `transform KL::op(args)` where the model has NO class KL and the untyped dictionary holds nothing under KL: the source raises
    'Unknown symbol' BEFORE the parameters are evaluated, `Spec` reports the unknown operation, before the parameters too
    (`hwf`: class-based operations belong to declared classes).  Up to the error text. -/
theorem class_call_no_class (C : Ctx) (rec : Oracle) (ns name : String) (args : List (String × Expr)) (c : Cfg)
    (hcls : (findClass C ns).isSome = false) (hu : untypedOf C ns = none)
    (hwf : (findClass C ns).isSome = false → findCallable C (fun f => f.kind = .classOp ns ∧ f.name = name) = none) :
    noMsg (evalStep C rec (.call (.classOp ns) name args) c) =
      noMsg (handlerE C gen (srcDom C) rec (invNode C gen (srcDom C) rec [("key_letter", ns), ("action_name", name)] none args)
        accept_ClassInvocationNode c) := by
  rw [class_handler]
  simp only [csym, iFind_gen_class, hcls, hu, hwf hcls]

theorem foldl_untyped (name : String) (regs : List Reg) (D : Dom) :
    (regs.foldl (addSymbol domain) D).untyped name =
      (match regs.reverse.find? (fun r => decide (r.name = name)) with
       | some r => some r.sym
       | none => D.untyped name) := by
  refine foldl_last _ (fun D => D.untyped name) _ (fun D r => ?_) regs D
  by_cases h : r.name = name
  · simp [addSymbol, domain, h]
  · have h' : ¬ name = r.name := fun e => h e.symm
    simp [addSymbol, domain, h, h']

theorem foldl_classes : ∀ (regs : List Reg) (D : Dom),
    (regs.foldl (addSymbol domain) D).findClass = D.findClass ∧ (regs.foldl (addSymbol domain) D).isMetaclass = D.isMetaclass
  | [], _ => ⟨rfl, rfl⟩
  | _ :: rest, _ => by rw [List.foldl_cons]; exact foldl_classes rest _

/-- the untyped dictionary: `find_symbol(name)` without a kind — and with kinds under none of which the name is registered —
    delivers the symbol registered LAST under the name, whatever its kind -/
theorem find_symbol_untyped (regs : List Reg) (name : String) (ks : List String)
    (hks : ∀ k ∈ ks, regs.reverse.find? (fun r => decide (r.kind = some k ∧ r.name = name)) = none) :
    iFind domain (regAll domain regs) name ks = (regs.reverse.find? (fun r => decide (r.name = name))).map Reg.sym := by
  have hk : ks.findSome? (kindProbe (regAll domain regs) name) = none := by
    apply List.findSome?_eq_none_iff.mpr
    intro k hk
    rw [kindProbe, regAll_byKind, hks k hk, regAll, (foldl_classes regs emptyDom).2]
    simp [emptyDom]
  rw [iFind_domain, hk, regAll, foldl_untyped, (foldl_classes regs emptyDom).1]
  cases regs.reverse.find? (fun r => decide (r.name = name)) <;> rfl

end Pyx.CShape
