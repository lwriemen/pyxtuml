import PyxModel.Oal.Text

/-!
  The operator table the parser model runs with (`Gen.OalPrec.table`, built from `binOps`) IS the generic reading of
  `OALParser.precedence` as written (`Gen.OalPrec.precRows`): yacc gives a token the 1-based index of the row that
  names it and that row's associativity; the production `expression : expression TOK expression` has the precedence
  of TOK.  `rowOf` / `precInterp` are that reading for ANY rows and ANY list of alternatives.
-/
namespace Pyx.Oal

/-- yacc's precedence of a token name: level = 1-based index of the first row that lists it -/
def rowOf : List (Assoc × List String) → String → Nat → Option (Nat × Assoc)
  | [], _, _ => none
  | (a, names) :: rest, n, lvl => if names.contains n then some (lvl, a) else rowOf rest n (lvl + 1)

/-- the binary-operator table yacc derives from the rows for the alternatives `expression TOK expression` -/
def precInterp (rows : List (Assoc × List String)) (alts : List Kind) : List (Kind × Nat × Assoc) :=
  alts.filterMap fun k => (rowOf rows k.name 1).map fun r => (k, r)

theorem ofLists_precInterp (rows : List (Assoc × List String)) (uns : List Kind) (ul : Nat) (k : Kind) :
    ∀ alts : List Kind, (Tbl.ofLists (precInterp rows alts) uns ul).bin k =
      if k ∈ alts then rowOf rows k.name 1 else none
  | [] => by simp [Tbl.ofLists, precInterp]
  | a :: alts => by
    have ih := ofLists_precInterp rows uns ul k alts
    simp only [Tbl.ofLists, precInterp] at ih ⊢
    by_cases hka : k = a
    · subst hka
      cases hr : rowOf rows k.name 1 with
      | none =>
        simp only [List.filterMap_cons, hr, Option.map_none, List.mem_cons, true_or, if_true]
        rw [ih, hr]; simp
      | some r =>
        simp [hr]
    · have hne : (k == a) = false := by simpa using hka
      cases hr : rowOf rows a.name 1 with
      | none =>
        simp only [List.filterMap_cons, hr, Option.map_none, List.mem_cons, hka, false_or]
        exact ih
      | some r =>
        simp only [List.filterMap_cons, hr, Option.map_some, List.lookup_cons, hne, List.mem_cons, hka, false_or]
        exact ih

end Pyx.Oal
