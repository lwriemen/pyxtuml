import Proofs.SgShape

/-!
  C05 source tie, INVENTORY of the text generator's handlers: which `ActionTextGenWalker.accept_*` of the generated IR
  (Gen/SgShape.lean) the flat-population printer of PyxModel/Prebuild/Flat.lean models, which it does not, and where a
  modelled handler names a class on the other side of that boundary.  Everything here is a statement about the GENERATED
  constants (closed) or holds for every population / row / instance.
-/
namespace Pyx.SgShape
open Pyx.Prebuild Pyx.Prebuild.Flat Pyx.Gen.SgShape

/-- the ooaofooa classes whose handler the model covers (a Row constructor of Flat.lean, the ACT_ACT, or S_BPARM: the
    parameter a V_PVL row names) in the order of the source -/
def modelledClasses : List String :=
  ["ACT_ACT", "ACT_BLK", "ACT_SMT", "ACT_RET", "ACT_BRK", "ACT_CON", "ACT_CTL", "ACT_CR", "ACT_CNV", "ACT_DEL", "ACT_REL",
   "ACT_RU", "ACT_UNR", "ACT_URU", "ACT_FIO", "ACT_FIW", "ACT_AI", "ACT_WHL", "ACT_IF", "ACT_EL", "ACT_E", "ACT_FOR",
   "V_VAL", "V_TVL", "V_ISR", "V_VAR", "V_IRF", "V_PVL", "V_SLR", "V_AVL", "V_LIN", "V_LRL", "V_LST", "V_LBO", "V_LEN",
   "V_BIN", "V_UNY", "V_SCV", "S_BPARM"]

/-- action homes: the model element an action belongs to; each handler walks `…[69x / 68x].ACT_ACT[698]` -/
def outsideHomes : List String :=
  ["S_BRG", "O_TFR", "S_SYNC", "O_DBATTR", "SM_ACT", "SPR_PO", "SPR_PS", "SPR_RO", "SPR_RS"]
/-- `select … related by`: the statement, its where clause, the chain links -/
def outsideSelectRelated : List String := ["ACT_SEL", "ACT_SRW", "ACT_LNK"]
/-- invocation statements (R603 subtypes) -/
def outsideInvocationStatements : List String := ["ACT_FNC", "ACT_BRG", "ACT_IOP", "ACT_SGN", "ACT_TFM"]
/-- value subtypes (R801) Flat.lean has no row for: member / array element / array length / event datum / the four
    invocation values -/
def outsideValues : List String := ["V_MVL", "V_AER", "V_ALV", "V_EDV", "V_FNV", "V_BRV", "V_TRV", "V_MSV"]
/-- actual parameter chains and what event data / messages name -/
def outsideParameters : List String := ["V_PAR", "V_EPR", "SM_EVTDI", "SPR_PEP", "SPR_REP", "O_TPARM", "S_SPARM", "C_PP"]
/-- the event subsystem: generate / create event statements and their targets -/
def outsideEvents : List String :=
  ["E_GPR", "E_ESS", "E_GES", "E_CES", "SM_EVT", "E_GSME", "E_GAR", "E_GEC", "E_CSME", "E_CEA", "E_CEC"]

/-- the classes with a handler in the source that the model does NOT cover, in the order of the source -/
def outsideClasses : List String :=
  ["S_BRG", "O_TFR", "S_SYNC", "O_DBATTR", "SM_ACT", "SPR_PO", "SPR_PS", "SPR_RO", "SPR_RS",
   "ACT_SEL", "ACT_SRW", "ACT_LNK", "ACT_FNC", "ACT_BRG", "ACT_IOP", "ACT_SGN", "ACT_TFM",
   "V_MVL", "V_AER", "V_ALV", "V_PAR", "V_EDV", "V_EPR", "SM_EVTDI", "V_FNV", "V_BRV", "V_TRV", "V_MSV",
   "SPR_PEP", "SPR_REP", "E_GPR", "E_ESS", "E_GES", "E_CES", "SM_EVT", "E_GSME", "E_GAR", "E_GEC", "E_CSME", "E_CEA",
   "E_CEC", "O_TPARM", "S_SPARM", "C_PP"]

def handlerName (c : String) : String := "accept_" ++ c

/-- the rows of Flat.lean the walker never visits (no handler; nothing navigates to them): the R814 subtypes -/
def unvisitedRowClasses : List String := ["V_INT", "V_INS", "V_TRN"]

def navHops : Nav → List Hop
  | .one _ hops _ => hops
  | .any _ hops _ => hops
  | .many _ hops _ => hops
  | _ => []

def condHops : Cond → List Hop
  | .nav n => navHops n
  | .navNot n => navHops n
  | .navIsNone n => navHops n
  | .navIsNotNone n => navHops n
  | _ => []

def condsHops : List Cond → List Hop
  | [] => []
  | c :: rest => condHops c ++ condsHops rest

def keyHops : List (Nav × String) → List Hop
  | [] => []
  | k :: rest => navHops k.1 ++ keyHops rest

mutual
  /-- every `.<cls>[<rel>…]` written anywhere in a statement -/
  def stmHops : Stm → List Hop
    | .accept n => navHops n
    | .assign _ n => navHops n
    | .defFilter _ _ conj => condsHops conj
    | .defKey _ _ k => keyHops k
    | .ite c thn els => condHops c ++ stmsHops thn ++ stmsHops els
    | .whileLoc _ body => stmsHops body
    | .forSorted _ n _ body => navHops n ++ stmsHops body
    | _ => []
  def stmsHops : List Stm → List Hop
    | [] => []
    | s :: rest => stmHops s ++ stmsHops rest
end

/-- the places where a MODELLED handler names a class whose handler is OUTSIDE the model: (handler, hop) -/
def boundaryCrossings : List (String × Hop) :=
  (handlers.filter (fun h => modelledClasses.any (fun c => handlerName c == h.1))).flatMap
    (fun h => ((stmsHops h.2).filter (fun hop => outsideClasses.contains hop.cls)).map (fun hop => (h.1, hop)))

theorem hopMany_foreign (q : FlatPop) (x : Inst) (c : String) (n : Nat)
    (hc : c = "S_SPARM" ∧ n = 832 ∨ c = "O_TPARM" ∧ n = 833 ∨ c = "C_PP" ∧ n = 843) :
    hopMany q x ⟨c, n, ""⟩ = [] := by
  rcases hc with ⟨rfl, rfl⟩ | ⟨rfl, rfl⟩ | ⟨rfl, rfl⟩
  all_goals
    cases x with
    | none => rfl
    | act => simp [hopMany, Hop.is]
    | elem cls r => simp [hopMany, elemHop, Hop.is]
    | sub r => cases r <;> simp [hopMany, subHop, Hop.is]
    | sup cls i => simp [hopMany, supHop, Hop.is]

theorem hopMany_msv (q : FlatPop) (x : Inst) : hopMany q x ⟨"V_MSV", 801, ""⟩ = [] := by
  cases x with
  | none => rfl
  | act => rfl
  | elem cls r => simp [hopMany, elemHop, Hop.is]
  | sub r => cases r <;> simp [hopMany, subHop, Hop.is]
  | sup cls i => simp [hopMany, supHop, Hop.is, subAs_msv]

theorem accept_ACT_E_eq (q : FlatPop) (f n a eb s : Nat) :
    handler (envN q f n) accept_ACT_E (.sub (.e a eb s)) = [Tok.kw .else_] ++ regenBlk q f eb := by
  rw [accept_ACT_E_acc]; simp [envN, accN_sup, accHead]

theorem accept_ACT_EL_eq (q : FlatPop) (f n a blk v i : Nat) :
    handler (envN q f n) accept_ACT_EL (.sub (.el a blk v i)) = [Tok.kw .elif_] ++ regenVal q f v ++ regenBlk q f blk := by
  rw [accept_ACT_EL_acc]; simp [envN, accN_sup, accHead]

/-- one pass over the 83 names in source order; each is compared with the 39 modelled ones as a number
    (`StrCode.beq_code`): two string literals the kernel would compare byte by byte -/
theorem handlers_partition :
    (handlers.map Prod.fst).partition (fun n => modelledClasses.any (fun c => handlerName c == n)) =
      (modelledClasses.map handlerName, outsideClasses.map handlerName) := by
  simp only [StrCode.beq_code]
  decide +kernel

theorem handlers_modelled :
    (handlers.map Prod.fst).filter (fun n => modelledClasses.any (fun c => handlerName c == n)) =
      modelledClasses.map handlerName :=
  (Prod.mk.inj (List.partition_eq_filter_filter .. ▸ handlers_partition)).1

theorem handlers_outside :
    (handlers.map Prod.fst).filter (fun n => !modelledClasses.any (fun c => handlerName c == n)) =
      outsideClasses.map handlerName :=
  (Prod.mk.inj (List.partition_eq_filter_filter .. ▸ handlers_partition)).2

theorem modelled_inside {c : String} (hc : c ∈ modelledClasses) :
    outsideClasses.contains c = false ∧ (handlers.lookup (handlerName c)).isSome = true := by
  constructor
  · rw [List.contains_eq_mem, decide_eq_false_iff_not]
    intro ho
    -- no 39 × 44 comparison, no injectivity of `handlerName`: `handlerName c` would pass the filter of the names that are
    -- NOT modelled, and `c` itself witnesses that it is
    have h := List.mem_map_of_mem (f := handlerName) ho
    rw [← handlers_outside] at h
    have hn := (List.mem_filter.mp h).2
    rw [Bool.not_eq_true', List.any_eq_false] at hn
    exact hn c hc (beq_self_eq_true _)
  · have h := List.mem_map_of_mem (f := handlerName) hc
    rw [← handlers_modelled] at h
    obtain ⟨x, hx, e⟩ := List.mem_map.mp (List.mem_filter.mp h).1
    exact List.lookup_isSome_iff.mpr ⟨x, hx, by rw [e, beq_self_eq_true]⟩

end Pyx.SgShape
