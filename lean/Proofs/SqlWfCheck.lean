import Proofs.SqlFixedPoint
import Proofs.SqlRoutes

/-! `Item.WF` and `MM.WF` of a CONCRETE item or metamodel, for every `u`, by one evaluation: Boolean tests that imply the
    predicates.  Type names are required to be ASCII, so that their upper-case form does not depend on `u`. -/
namespace Pyx.Sql

def identOkB : Text → Bool
  | [] => false
  | c :: cs => isIdStart c && cs.all isAsciiWord && !(c == 'R' && cs.head?.any isAsciiDigit)

theorem identOk_of_test {w : Text} (h : identOkB w = true) : IdentOk w := by
  cases w with
  | nil => cases h
  | cons c cs =>
    simp only [identOkB, Bool.and_eq_true, List.all_eq_true, Bool.not_eq_true', Bool.and_eq_false_iff] at h
    obtain ⟨⟨h1, h2⟩, h3⟩ := h
    refine ⟨List.cons_ne_nil _ _, fun x hx => ?_, h2, fun hR d hd => ?_⟩
    · cases hx; exact h1
    · cases hR
      have hd : cs.head? = some d := hd
      rcases h3 with h3 | h3
      · cases h3
      · simpa only [hd, Option.any_some] using h3

def endOkB (e : EndM) : Bool := identOkB e.kind && e.keys.all identOkB

def relOkB : Name → Bool
  | 'R' :: d :: ds => (d :: ds).all isAsciiDigit
  | _ => false

def Item.wfB : Item → Bool
  | .cls kind attrs => identOkB kind &&
      attrs.all fun a => identOkB a.1 && decide (AsciiText a.2) && identOkB (a.2.map asciiUpper)
  | .assoc rel s t => relOkB rel && endOkB s && endOkB t
  | .inst kind attrs _ => identOkB kind && attrs.all fun a => !a.1.contains '\n' && !a.2.contains '\n'
  | .index name kind attrs => identOkB name && identOkB kind && attrs.all identOkB

theorem noNewline_of_test {w : Text} (h : (!w.contains '\n') = true) : NoNewline w := by
  intro c hc e
  subst e
  simp [hc] at h

theorem Item.wf_of_test (u : UC) {it : Item} (h : it.wfB = true) : it.WF u := by
  cases it with
  | cls kind attrs =>
    simp only [Item.wfB, Bool.and_eq_true, List.all_eq_true, decide_eq_true_eq] at h
    refine ⟨identOk_of_test h.1, fun a ha => ?_⟩
    obtain ⟨⟨h1, h2⟩, h3⟩ := h.2 a ha
    exact ⟨identOk_of_test h1, by rw [upper_ascii u a.2 h2]; exact identOk_of_test h3⟩
  | assoc rel s t =>
    simp only [Item.wfB, endOkB, Bool.and_eq_true, List.all_eq_true] at h
    obtain ⟨⟨hr, hs1, hs2⟩, ht1, ht2⟩ := h
    refine ⟨?_, ⟨identOk_of_test hs1, fun k hk => identOk_of_test (hs2 k hk)⟩,
      ⟨identOk_of_test ht1, fun k hk => identOk_of_test (ht2 k hk)⟩⟩
    unfold relOkB at hr
    split at hr
    · exact ⟨_, _, rfl, by simpa only [List.all_eq_true] using hr⟩
    · cases hr
  | inst kind attrs vals =>
    simp only [Item.wfB, Bool.and_eq_true, List.all_eq_true] at h
    exact ⟨identOk_of_test h.1, fun a ha => ⟨noNewline_of_test (h.2 a ha).1, noNewline_of_test (h.2 a ha).2⟩⟩
  | index name kind attrs =>
    simp only [Item.wfB, Bool.and_eq_true, List.all_eq_true] at h
    exact ⟨identOk_of_test h.1.1, identOk_of_test h.1.2, fun a ha => identOk_of_test (h.2 a ha)⟩

def MM.wfB (m : MM) : Bool :=
  m.classes.all (fun c => c.item.wfB && c.indexItems.all Item.wfB && c.instItems.all Item.wfB) && m.assocs.all (·.item.wfB)

theorem MM.wf_of_test (u : UC) {m : MM} (h : m.wfB = true) : m.WF u := by
  simp only [MM.wfB, Bool.and_eq_true, List.all_eq_true] at h
  exact ⟨fun c hc => Item.wf_of_test u (h.1 c hc).1.1, fun c hc it hit => Item.wf_of_test u ((h.1 c hc).1.2 it hit),
    fun c hc it hit => Item.wf_of_test u ((h.1 c hc).2 it hit), fun a ha => Item.wf_of_test u (h.2 a ha)⟩

end Pyx.Sql
