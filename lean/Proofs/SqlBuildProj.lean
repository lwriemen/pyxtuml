import Proofs.SqlBuildOk

/-! the three folds of `builtClass` (the class a successful build yields, `buildCore_ok`) computed: what a declared class
    holds after the build, in terms of the statements that concern it -/
namespace Pyx.Sql

/-- the identifier definitions (with attributes) of the statements for a class kind, in statement order -/
def idxOf (u : UC) (k : Name) : List Stmt → List (Name × List Name)
  | [] => []
  | .createIndex kind name attrs :: rest =>
    if !attrs.isEmpty && sameKind u k kind then (name, attrs) :: idxOf u k rest else idxOf u k rest
  | _ :: rest => idxOf u k rest

/-- the referential attribute names the association statements give a class kind -/
def refsOf (u : UC) (k : Name) : List Stmt → List Name
  | [] => []
  | .createRop _ sk _ skeys _ _ _ _ _ :: rest => if sameKind u k sk then skeys ++ refsOf u k rest else refsOf u k rest
  | _ :: rest => refsOf u k rest

/-- the value lists of the INSERT statements for a class kind, in statement order -/
def insOf (u : UC) (k : Name) : List Stmt → List (List Text)
  | [] => []
  | .insert kind values _ :: rest => if sameKind u k kind then values :: insOf u k rest else insOf u k rest
  | _ :: rest => insOf u k rest

theorem foldl_identsStep (u : UC) : ∀ (stmts : List Stmt) (c : ClassB),
    stmts.foldl (identsStep u) c =
      { c with indices := (idxOf u c.kind stmts).foldl (fun d na => dictSet na.1 na.2 d) c.indices } := by
  intro stmts
  induction stmts with
  | nil => intro c; rfl
  | cons st rest ih =>
    intro c
    rw [List.foldl_cons, ih]
    cases st with
    | createIndex kind name attrs =>
      simp only [identsStep, idxOf]
      by_cases hc : (!attrs.isEmpty && sameKind u c.kind kind) = true
      · simp only [hc, if_true, List.foldl_cons]
      · have hc' := Bool.eq_false_iff.mpr hc
        simp only [hc', Bool.false_eq_true, if_false]
    | createTable _ _ => rfl
    | createRop _ _ _ _ _ _ _ _ _ => rfl
    | insert _ _ _ => rfl

theorem foldl_assocStep (u : UC) : ∀ (stmts : List Stmt) (c : ClassB),
    stmts.foldl (assocStep u) c = { c with referential := c.referential ++ refsOf u c.kind stmts } := by
  intro stmts
  induction stmts with
  | nil => intro c; simp [refsOf]
  | cons st rest ih =>
    intro c
    rw [List.foldl_cons, ih]
    cases st with
    | createRop rel sk sc skeys sp tk tc tkeys tp =>
      simp only [assocStep, refsOf]
      by_cases hc : sameKind u c.kind sk = true
      · simp only [hc, if_true, List.append_assoc]
      · have hc' := Bool.eq_false_iff.mpr hc
        simp only [hc', Bool.false_eq_true, if_false]
    | createTable _ _ => rfl
    | createIndex _ _ _ => rfl
    | insert _ _ _ => rfl

theorem specCells_congr (u : UC) (c c' : ClassB) (h : c.referential = c'.referential) :
    ∀ (attrs : List (Name × Name)) (vals : List Text), specCells u c attrs vals = specCells u c' attrs vals := by
  intro attrs
  induction attrs with
  | nil => intro vals; rfl
  | cons a attrs ih =>
    intro vals
    cases vals with
    | nil => simp only [specCells, initialCell, h]
    | cons v vs => obtain ⟨n, ty⟩ := a; simp only [specCells, ih vs]

theorem foldl_instStep (u : UC) : ∀ (stmts : List Stmt) (c : ClassB),
    stmts.foldl (instStep u) c = { c with rows := c.rows ++ (insOf u c.kind stmts).map (specCells u c c.attrs) } := by
  intro stmts
  induction stmts with
  | nil => intro c; simp [insOf]
  | cons st rest ih =>
    intro c
    rw [List.foldl_cons, ih]
    cases st with
    | insert kind values names =>
      simp only [instStep, insOf]
      by_cases hc : sameKind u c.kind kind = true
      · simp only [hc, if_true, List.map_cons, List.append_assoc, List.singleton_append]
        congr 3
        apply List.map_congr_left
        intro vs _
        -- `specCells` reads only `referential` of the class, and `instStep` changes only `rows`
        apply specCells_congr; rfl
      · have hc' := Bool.eq_false_iff.mpr hc
        simp only [hc', Bool.false_eq_true, if_false]
    | createTable _ _ => rfl
    | createIndex _ _ _ => rfl
    | createRop _ _ _ _ _ _ _ _ _ => rfl

theorem builtClass_eq (u : UC) (stmts : List Stmt) (kind : Name) (attrs : List (Name × Name)) :
    builtClass u stmts ⟨kind, attrs, [], [], []⟩ =
      ⟨kind, attrs, (idxOf u kind stmts).foldl (fun d na => dictSet na.1 na.2 d) [], refsOf u kind stmts,
        (insOf u kind stmts).map (specCells u ⟨kind, attrs, [], refsOf u kind stmts, []⟩ attrs)⟩ := by
  unfold builtClass
  rw [foldl_identsStep, foldl_assocStep, foldl_instStep]
  simp only [List.nil_append]
  congr 1
  apply List.map_congr_left
  intro vs _
  apply specCells_congr; rfl

/-- an insertion-ordered dict filled with distinct keys is the list of its entries -/
theorem foldl_dictSet_nodup : ∀ (entries acc : List (Name × List Name)),
    ((acc ++ entries).map fun e => e.1).Nodup →
    entries.foldl (fun d na => dictSet na.1 na.2 d) acc = acc ++ entries := by
  intro entries acc hn
  refine foldl_snoc (R := fun a b => a.1 ≠ b.1) (fun acc e he => ?_) entries acc (List.pairwise_map.1 hn)
  induction acc with
  | nil => rfl
  | cons a as iha =>
    rw [dictSet, if_neg (he a List.mem_cons_self), iha fun f hf => he f (List.mem_cons_of_mem _ hf)]
    rfl

end Pyx.Sql
