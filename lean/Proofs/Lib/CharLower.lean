/-!
  `Char.toLower` read on code points: an ASCII capital moves up by 32, every other character stays where it is.
  Stated as one equation between natural numbers, so that what follows about lower-casing is linear arithmetic.
  Before it, for the case maps that build their result with `Char.ofNat`: a valid code point is the one its character has.
  Used where the models change the case of ASCII letters: the OAL lexer and its bridge, the SQL fixed point, prebuild's
  canonical names.
-/
namespace Pyx

theorem toNat_ofNat {n : Nat} (h : n.isValidChar) : (Char.ofNat n).toNat = n := by
  simp [Char.ofNat, h, Char.ofNatAux, Char.toNat]

theorem toNat_toLower (c : Char) :
    c.toLower.toNat = if 65 ≤ c.toNat ∧ c.toNat ≤ 90 then c.toNat + 32 else c.toNat := by
  simp only [Char.toLower, ge_iff_le, UInt32.le_iff_toNat_le]
  show (if h : 65 ≤ c.toNat ∧ c.toNat ≤ 90 then _ else _ : Char).toNat = _
  split
  · next h =>
    show (c.val + ('a'.val - 'A'.val)).toNat = c.toNat + 32
    rw [UInt32.toNat_add, show ('a'.val - 'A'.val).toNat = 32 from by decide, Char.toNat_val,
      Nat.mod_eq_of_lt (by omega)]
  · rfl

theorem toLower_idem (c : Char) : c.toLower.toLower = c.toLower := by
  apply Char.toNat_inj.mp
  rw [toNat_toLower c.toLower, if_neg]
  have := toNat_toLower c
  split at this <;> omega

end Pyx
