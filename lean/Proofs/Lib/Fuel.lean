/-!
  A loop with fuel whose every round goes on with a smaller input gives the same answer with any two amounts of fuel
  that are at least the size of the input (the lexers and the SQL parser run such loops on the remaining text / tokens).
  `size` is the length of the input where the loop answers the empty input without fuel, the length + 1 where it
  needs a unit for that too (then `base` is void).
-/
namespace Pyx

theorem fuel_agree {σ β : Type} (size : σ → Nat) (F : Nat → σ → β)
    (base : ∀ n m s, size s = 0 → F n s = F m s)
    (step : ∀ n m s, (∀ s', size s' < size s → F n s' = F m s') → F (n + 1) s = F (m + 1) s) :
    ∀ n m s, size s ≤ n → size s ≤ m → F n s = F m s := by
  intro n
  induction n with
  | zero => exact fun m s hn _ => base 0 m s (by omega)
  | succ n ih =>
    intro m s hn hm
    cases m with
    | zero => exact base _ 0 s (by omega)
    | succ m => exact step n m s fun s' h => ih m s' (by omega) (by omega)

end Pyx
