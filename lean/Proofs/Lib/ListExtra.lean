/-!
  Facts about core `List` functions that several areas need and core does not state, for any element type.  Folds: one whose
  step appends what is new is `++` and keeps `Nodup` (a Python dict filled with distinct keys, an ordered set filled with
  distinct members, an insertion sort fed a sorted list), and one from a state that no step changes stays there (a failed
  run stays failed).  `find?` with at most one hit, in particular by a key that occurs once: what Proofs/Lib/Lookup.lean says
  of `lookup`, for rows that carry their key (the edits of Proofs/Extract… and Proofs/Xsd…, the SQL builders).  And the one
  Bool fact the decided obligations on generated tables need: their `!a || b` is an implication.
-/
namespace Pyx

/-- put in front of `Bool.or_eq_true` in a simp set: the obligations on generated tables write an implication as `!a || b` -/
theorem nor_iff_imp {a b : Bool} : (!a || b) = true ↔ (a = true → b = true) := by cases a <;> simp

theorem nodup_snoc {α : Type} {l : List α} {y : α} (h : l.Nodup) (hy : y ∉ l) : (l ++ [y]).Nodup :=
  List.nodup_append.2 ⟨h, List.nodup_cons.2 ⟨List.not_mem_nil, List.nodup_nil⟩,
    fun _ ha _ hb e => hy (List.mem_singleton.1 hb ▸ e ▸ ha)⟩

theorem foldl_snoc {α : Type} {R : α → α → Prop} {ins : List α → α → List α}
    (hins : ∀ acc e, (∀ f ∈ acc, R f e) → ins acc e = acc ++ [e]) :
    ∀ (l acc : List α), (acc ++ l).Pairwise R → l.foldl ins acc = acc ++ l
  | [], acc, _ => (List.append_nil acc).symm
  | e :: l, acc, h => by
    rw [List.foldl_cons, hins acc e fun f hf => (List.pairwise_append.1 h).2.2 f hf e List.mem_cons_self,
      foldl_snoc hins l (acc ++ [e]) (by rwa [List.append_assoc]), List.append_assoc]
    rfl

theorem inj_of_nodup_map {α β : Type} (f : α → β) {l : List α} (nd : (l.map f).Nodup)
    {x y : α} (hx : x ∈ l) (hy : y ∈ l) (h : f x = f y) : x = y :=
  have ne := List.pairwise_map.mp nd
  List.Pairwise.forall_of_forall_of_flip (R := fun a b => f a = f b → a = b) (fun _ _ _ => rfl)
    (ne.imp fun hne e => absurd e hne) (ne.imp fun hne e => absurd e.symm hne) hx hy h

theorem find?_unique {α : Type} {p : α → Bool} {a : α} {l : List α} (ha : a ∈ l) (hp : p a = true)
    (hu : ∀ x ∈ l, p x = true → x = a) : l.find? p = some a := by
  cases h : l.find? p with
  | none => exact absurd hp (by simpa using List.find?_eq_none.mp h a ha)
  | some b => rw [hu b (List.mem_of_find?_eq_some h) (List.find?_some h)]

theorem find?_perm_unique {α : Type} {p : α → Bool} {l l' : List α} (hp : l.Perm l')
    (hu : ∀ x ∈ l, ∀ y ∈ l, p x = true → p y = true → x = y) : l.find? p = l'.find? p := by
  cases h : l.find? p with
  | none =>
    exact (List.find?_eq_none.mpr fun x hx => List.find?_eq_none.mp h x (hp.mem_iff.mpr hx)).symm
  | some a =>
    have ha := List.mem_of_find?_eq_some h
    have hpa := List.find?_some h
    exact (find?_unique (hp.mem_iff.mp ha) hpa fun x hx hpx => hu x (hp.mem_iff.mpr hx) a ha hpx hpa).symm

theorem find?_key_of_mem {α κ : Type} [BEq κ] [LawfulBEq κ] (key : α → κ) {l : List α} (nd : (l.map key).Nodup)
    {x : α} (hx : x ∈ l) : l.find? (fun y => key y == key x) = some x :=
  find?_unique hx (beq_self_eq_true _) fun _ hy h => inj_of_nodup_map key nd hy hx (beq_iff_eq.mp h)

theorem find?_key_map {α κ : Type} [BEq κ] {key : α → κ} {g : α → α} (hg : ∀ x, key (g x) = key x) (k : κ) (l : List α) :
    (l.map g).find? (fun y => key y == k) = (l.find? (fun y => key y == k)).map g := by
  rw [List.find?_map, show (fun y => key y == k) ∘ g = fun y => key y == k from funext fun x => by simp [hg x]]

theorem filterMap_find?_keys {α κ : Type} [BEq κ] [LawfulBEq κ] (key : α → κ) {l : List α} (nd : (l.map key).Nodup) :
    (l.map key).filterMap (fun k => l.find? fun y => key y == k) = l := by
  have h : (l.map key).map (fun k => l.find? fun y => key y == k) = l.map some := by
    rw [List.map_map]
    exact List.map_congr_left fun x hx => find?_key_of_mem key nd hx
  show List.filterMap (id ∘ _) _ = l
  rw [← List.filterMap_map, h, List.filterMap_map]
  exact List.filterMap_some

theorem perm_filterMap_find? {α κ : Type} [BEq κ] [LawfulBEq κ] (key : α → κ) {l : List α} (nd : (l.map key).Nodup)
    {ks : List κ} (hp : ks.Perm (l.map key)) : (ks.filterMap fun k => l.find? fun y => key y == k).Perm l :=
  (hp.filterMap _).trans (.of_eq (filterMap_find?_keys key nd))

theorem find?_perm_key {α κ : Type} [BEq κ] [LawfulBEq κ] (key : α → κ) {l l' : List α} (hp : l.Perm l')
    (nd : (l.map key).Nodup) (k : κ) : l.find? (fun y => key y == k) = l'.find? (fun y => key y == k) :=
  find?_perm_unique hp fun _ hx _ hy hx' hy' => inj_of_nodup_map key nd hx hy ((beq_iff_eq.mp hx').trans (beq_iff_eq.mp hy').symm)

theorem nodup_map_of_inj_on {α β : Type} {f : α → β} {l : List α} (nd : l.Nodup)
    (inj : ∀ x ∈ l, ∀ y ∈ l, f x = f y → x = y) : (l.map f).Nodup :=
  List.pairwise_map.mpr (nd.imp_of_mem fun hx hy hne e => hne (inj _ hx _ hy e))

theorem all_congr_mem {α : Type} (p q : α → Bool) (l : List α) (h : ∀ x ∈ l, p x = q x) : l.all p = l.all q := by
  rw [Bool.eq_iff_iff, List.all_eq_true, List.all_eq_true]
  exact ⟨fun H x hx => h x hx ▸ H x hx, fun H x hx => (h x hx).symm ▸ H x hx⟩

theorem foldl_fixed {α β : Type} {f : β → α → β} {s : β} (h : ∀ x, f s x = s) : ∀ l : List α, l.foldl f s = s
  | [] => rfl
  | x :: l => by rw [List.foldl_cons, h, foldl_fixed h l]

end Pyx
