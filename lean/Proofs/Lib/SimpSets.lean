import Lean.Meta.Tactic.Simp.RegisterCommand
import Lean.Meta.Tactic.Simp.BuiltinSimprocs

/-!
  The simp sets under which the generic IR interpreters are run symbolically, one per interpreter (two for the call path:
  `cshape` runs a handler, `csym` resolves what it computes).  An attribute cannot be
  used in the module that registers it, so they are registered here, ahead of the modules that fill them.

  A set must not bear the name of a declaration that is in scope where it is used: in `simp only [name, …]` an identifier that
  resolves to a declaration is taken as that declaration, and the set is silently not consulted (so the set of
  Proofs/XsdShape.lean, where `Pyx.Extract.xsd` is open, is not called `xsd`).
-/

/-- the equations by which a handler of the generated IR (`Pyx.Gen.PbShape`) is run symbolically under the generic interpreter
    of Proofs/PbShape.lean: one per statement and expression form, the frame, the link tables row by row -/
register_simp_attr pb

/-- the equations of the interpreter of Proofs/ExtractShapeTie.lean (one per statement, expression and condition form of the
    IR, the navigation hop by hop, the locals) and what it takes to evaluate the data they produce -/
register_simp_attr xsh

/-- the equations by which a function of the generated IR (`Pyx.Gen.XsdShape`) is run symbolically under the generic interpreter
    of Proofs/XsdShape.lean: the interpreter's own, its atoms row by row (`nav_eqs`, `fieldOf_eqs`, `oracle_eqs`), and the list
    and option operations the results need.  A run is `simp only [xshape, <the IR constant>, <the facts about the input>]`. -/
register_simp_attr xshape

/-- the equations of the generic interpreter of the handler IR (Proofs/InterpShape.lean): one per constructor of the IR, and
    what they need to run a handler on a concrete statement list (locals, sequencing, the monad laws) -/
register_simp_attr ishape

/-- RUNS a handler: the equations of the generic interpreter of the call-path IR (Proofs/CallShape.lean).
    `simp only [cshape, <handler>]` turns `handlerE … <handler>` into what the handler computes; `findSym`, `getattrSym`, `callPV`
    stay folded. -/
register_simp_attr cshape

/-- RESOLVES what a handler computes on the generated model: unfolds `Spec`'s clause (`evalStep`, `resolveNs`) and `findSym` /
    `getattrSym` / `classAttr` / `callPV`, rewrites a call of what a generated `mk_*` made into `invoke`, and tidies the
    `Option.or` / `pure >>=` / `fail >>=` left over.  Used after a `…_handler` lemma, with the look-up facts of the case. -/
register_simp_attr csym
