/-!
  Association lists read with `List.lookup`, for any key type with a lawful `==` (the tables of the development are keyed by
  strings, token kinds and names).  The facts tie a look-up to membership and say what distinct keys buy: every entry is
  found, and the order of the entries does not matter.  Used wherever a table is a `List (κ × β)`: in the OAL and prebuild
  expression proofs, the interpreter and call-path proofs, the attribute and check ties, the loader.
-/
namespace Pyx

theorem lookup_cons {α β : Type} [BEq α] [LawfulBEq α] [DecidableEq α] (y k : α) (w : β) (rest : List (α × β)) :
    List.lookup y ((k, w) :: rest) = if y = k then some w else List.lookup y rest := by
  by_cases h : y = k
  · simp [List.lookup, h]
  · simp [List.lookup, beq_false_of_ne h, h]

theorem mem_of_lookup {α β : Type} [BEq α] [LawfulBEq α] {l : List (α × β)} {x : α} {y : β}
    (h : l.lookup x = some y) : (x, y) ∈ l := by
  obtain ⟨l₁, l₂, rfl, _⟩ := List.lookup_eq_some_iff.mp h
  exact List.mem_append_right _ List.mem_cons_self

theorem lookup_none_iff {α β : Type} [BEq α] [LawfulBEq α] (l : List (α × β)) (x : α) :
    l.lookup x = none ↔ x ∉ l.map Prod.fst := by
  simp only [List.lookup_eq_none_iff, List.mem_map, bne_iff_ne, ne_eq]
  exact ⟨fun h ⟨p, hp, e⟩ => h p hp e.symm, fun h p hp e => h ⟨p, hp, e.symm⟩⟩

theorem lookup_of_mem {α β : Type} [BEq α] [LawfulBEq α] {k : α} {v : β} {l : List (α × β)}
    (hn : (l.map Prod.fst).Nodup) (h : (k, v) ∈ l) : l.lookup k = some v := by
  obtain ⟨s, t, rfl⟩ := List.append_of_mem h
  rw [List.map_append, List.nodup_append] at hn
  exact List.lookup_eq_some_iff.mpr ⟨s, t, rfl, fun p hp =>
    bne_iff_ne.mpr fun e => hn.2.2 _ (List.mem_map_of_mem hp) _ List.mem_cons_self e.symm⟩

theorem map_lookup_self {α β : Type} [BEq α] [LawfulBEq α] {l : List (α × β)} (hn : (l.map Prod.fst).Nodup) (d : β) :
    (l.map Prod.fst).map (fun k => (k, (l.lookup k).getD d)) = l := by
  rw [List.map_map]
  exact (List.map_congr_left fun p hp => by rw [Function.comp, lookup_of_mem hn hp]; rfl).trans (List.map_id _)

theorem lookup_perm {α β : Type} [BEq α] [LawfulBEq α] {l l' : List (α × β)} (hp : l.Perm l')
    (hnd : (l.map Prod.fst).Nodup) (x : α) : l.lookup x = l'.lookup x := by
  cases h : l'.lookup x with
  | some v => exact lookup_of_mem hnd (hp.mem_iff.2 (mem_of_lookup h))
  | none =>
    rw [lookup_none_iff] at h ⊢
    exact fun hm => h ((hp.map Prod.fst).mem_iff.1 hm)

theorem lookup_filter_fst {α β : Type} [BEq α] [LawfulBEq α] (l : List (α × β)) (q : α → Bool) (x : α) :
    (l.filter fun p => q p.1).lookup x = if q x then l.lookup x else none := by
  induction l with
  | nil => split <;> rfl
  | cons p ps ih =>
    obtain ⟨k, v⟩ := p
    by_cases hk : x = k
    · subst hk
      by_cases hq : q x <;> simp [hq, ih]
    · by_cases hqk : q k <;> simp [hqk, List.lookup_cons, beq_false_of_ne hk, ih]

end Pyx
