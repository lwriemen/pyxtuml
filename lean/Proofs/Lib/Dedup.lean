import Proofs.Lib.ListExtra

/-!
  First-occurrence de-duplication as the fold the code runs (`OrderedSet.add` over an iterable, `QuerySet(iterable)`), for
  any element type.  The one fact with content is `foldl_step`, the fold from any start in terms of the fold from nothing;
  it gives the fold from nothing its recursive equation, and the rest is read off that.  Proofs/OSet (`fromIter`),
  Proofs/InterpQuery (`dedup`) and Proofs/Load (`osetAddAll`) get the facts about their own de-duplications from here.
-/
namespace Pyx.Dedup
variable {α : Type} [DecidableEq α]

def step (acc : List α) (x : α) : List α := if x ∈ acc then acc else acc ++ [x]

theorem foldl_step (l : List α) : ∀ acc : List α,
    l.foldl step acc = acc ++ (l.foldl step []).filter (fun x => !decide (x ∈ acc)) := by
  induction l with
  | nil => intro acc; simp
  | cons a l ih =>
    intro acc
    rw [List.foldl_cons, List.foldl_cons, ih (step acc a), ih (step [] a)]
    -- both sides keep, of the fold of `l` from nothing, what is neither `a` nor in `acc`
    by_cases ha : a ∈ acc
    · simp only [step, ha, ↓reduceIte, List.not_mem_nil, List.nil_append, List.filter_append, List.filter_cons,
        decide_true, Bool.not_true, Bool.false_eq_true, List.filter_nil, List.filter_filter]
      exact congrArg _ (List.filter_congr fun x _ => by by_cases hx : x = a <;> simp [hx, ha])
    · simp only [step, ha, ↓reduceIte, List.not_mem_nil, List.nil_append, List.filter_append, List.filter_cons,
        decide_false, Bool.not_false, List.filter_nil, List.filter_filter, List.append_assoc]
      exact congrArg _ (congrArg _ (List.filter_congr fun x _ => by by_cases hx : x = a <;> simp [hx, List.mem_append]))

theorem foldl_step_cons (a : α) (l : List α) :
    (a :: l).foldl step [] = a :: (l.foldl step []).filter (fun x => x != a) := by
  rw [List.foldl_cons, foldl_step l (step [] a)]
  exact congrArg _ (List.filter_congr fun x _ => by by_cases h : x = a <;> simp [step, h])

theorem mem_foldl_step (l : List α) (y : α) : y ∈ l.foldl step [] ↔ y ∈ l := by
  induction l with
  | nil => exact Iff.rfl
  | cons a l ih =>
    rw [foldl_step_cons, List.mem_cons, List.mem_cons, List.mem_filter, ih, bne_iff_ne]
    by_cases h : y = a <;> simp [h]

theorem nodup_foldl_step (l : List α) : (l.foldl step []).Nodup :=
  List.foldlRecOn l step List.nodup_nil fun acc h x _ => by
    unfold step
    split
    · exact h
    · exact nodup_snoc h ‹_›

theorem foldl_step_of_nodup (l : List α) (h : l.Nodup) : l.foldl step [] = l :=
  foldl_snoc (R := (· ≠ ·)) (fun _ e he => if_neg fun hm => he e hm rfl) l [] h

theorem foldl_step_map {β : Type} [DecidableEq β] (ι : α → β) (l : List α)
    (hinj : ∀ a ∈ l, ∀ b ∈ l, ι a = ι b → a = b) :
    (l.map ι).foldl step [] = (l.foldl step []).map ι := by
  induction l with
  | nil => rfl
  | cons a l ih =>
    rw [List.map_cons, foldl_step_cons, foldl_step_cons, List.map_cons,
      ih fun x hx y hy => hinj x (List.mem_cons_of_mem _ hx) y (List.mem_cons_of_mem _ hy), List.filter_map]
    refine congrArg _ (congrArg _ (List.filter_congr fun x hx => ?_))
    have hx : x ∈ l := (mem_foldl_step l x).1 hx
    by_cases h : x = a
    · simp [h]
    · rw [bne_iff_ne.2 h]
      exact bne_iff_ne.2 fun e => h (hinj x (List.mem_cons_of_mem _ hx) a List.mem_cons_self e)

end Pyx.Dedup
