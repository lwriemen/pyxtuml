import Proofs.PbShape

/-!
  C06 source tie: the variable-declaring helpers of the generated IR — `v_var` appends the V_VAR row, `v_int` / `v_ins` equal
  `newVar` of PyxModel/Prebuild/Flat.lean — and with them accept_CreateObjectNode = the `.create v kl` clause and
  accept_SelectFromNode = the `.selFrom card v kl` clause of `buildStmt`, whether the variable is declared already or not
  (of the state only `BlkOK` and `VarAns` are assumed).
-/
namespace Pyx.PbShape
open Pyx.Prebuild Pyx.Prebuild.Flat Pyx.Gen.PbShape

theorem get2_0 {α} (P : List α) (a b : α) : (P ++ [a, b])[P.length]? = some a := by simp
theorem get2_1 {α} (P : List α) (a b : α) : (P ++ [a, b])[P.length + 1]? = some b := by simp
theorem set2_1 {α} (P : List α) (a b r : α) : (P ++ [a, b]).set (P.length + 1) r = P ++ [a, r] := by simp
theorem get3_0 {α} (P : List α) (a b c : α) : (P ++ [a, b, c])[P.length]? = some a := by simp
theorem get3_1 {α} (P : List α) (a b c : α) : (P ++ [a, b, c])[P.length + 1]? = some b := by simp
theorem get3_2 {α} (P : List α) (a b c : α) : (P ++ [a, b, c])[P.length + 2]? = some c := by simp
theorem set3_2 {α} (P : List α) (a b c r : α) : (P ++ [a, b, c]).set (P.length + 2) r = P ++ [a, b, r] := by simp

theorem newVar_eq (name : String) (sub : Nat → Row) (st : St) :
    newVar name sub st = (st.pop.length,
      { pop := st.pop ++ [.var name (curBlkD st.scopes), sub st.pop.length],
        scopes := install st.scopes name st.pop.length, ok := st.ok && (curBlk st.scopes).isSome }) := by
  rw [← newVar_ok name sub st, ← newVar_scopes name sub st, ← newVar_pop name sub st, ← newVar_fst name sub st]

/-- `v_var(node, Name=name)`: a V_VAR row related over R823 to the current block (V_LOC / R835 are not stored) -/
theorem v_var_fuel (fc : FCtx) (nd : Node) (g : G) (n : Nat) (name : String) (hb : BlkOK g.st) :
    callFn (mkEnv fc nd) (n + 7) v_var [.node] [("Name", .str name)] g
      = some (.inst g.st.pop.length,
          { g with st := { pop := g.st.pop ++ [.var name (curBlkD g.st.scopes)], scopes := g.st.scopes,
                           ok := g.st.ok && (curBlk g.st.scopes).isSome } }) := by
  have h823 := hb.partner 823 fun _ => rfl
  simp only [pb, v_var, h823]

/-! A call of a declaring helper is rewritten by the call equation of the interpreter (`evalE_call_atom`): the name is no atom,
    the table holds the method, and the arguments, once evaluated, are those of the helper's own equation (`v_var_fuel`,
    `v_int_fuel`, `v_ins_fuel`).  Stated on `evalE` these equations would need hypotheses about the frame and the node that
    the call expression does not determine. -/

@[pb] theorem mkEnv_fns (fc : FCtx) (nd : Node) : (mkEnv fc nd).fns = methods := id rfl
@[pb] theorem atomCall_none (E : Env) (g : G) {fn : String} (args : List V) (h1 : fn ≠ "o_obj") (h2 : fn ≠ "r_rel")
    (h3 : fn ≠ "find_symbol") : atomCall E g fn args = none := by
  simp [atomCall, h1, h2, h3]
@[pb] theorem find_v_var : methods.find? (fun x => x.name == "v_var") = some v_var := rfl
@[pb] theorem find_v_int : methods.find? (fun x => x.name == "v_int") = some v_int := rfl
@[pb] theorem find_v_ins : methods.find? (fun x => x.name == "v_ins") = some v_ins := rfl

/-- `v_int(node, name, o_obj)` = `newVar name (V_INT of kl)`: V_VAR, V_INT, R814, R818, install_symbol; answers the V_INT -/
theorem v_int_fuel (fc : FCtx) (nd : Node) (g : G) (n : Nat) (name kl : String) (hb : BlkOK g.st) :
    callFn (mkEnv fc nd) (n + 11) v_int [.node, .str name, .obj kl] [] g
      = some (.inst (g.st.pop.length + 1), { g with st := (newVar name (fun i => .vint i kl) g.st).2 }) := by
  simp only [pb, v_int, v_var_fuel, hb, navSteps, navStep, readAttr, newVar_eq]
  simp

/-- `v_ins(node, name, o_obj)` = `newVar name (V_INS of kl)`: V_VAR, V_INS, R814, R819, install_symbol; answers the V_INS -/
theorem v_ins_fuel (fc : FCtx) (nd : Node) (g : G) (n : Nat) (name kl : String) (hb : BlkOK g.st) :
    callFn (mkEnv fc nd) (n + 11) v_ins [.node, .str name, .obj kl] [] g
      = some (.inst (g.st.pop.length + 1), { g with st := (newVar name (fun i => .vins i kl) g.st).2 }) := by
  simp only [pb, v_ins, v_var_fuel, hb, navSteps, navStep, readAttr, newVar_eq]
  simp

/-- `create object instance v of kl` : act_smt, o_obj, find_symbol, (v_int when not found), ACT_CR with R603 / R633 / R671 -/
theorem create_object_eq (fc : FCtx) (nd : Node) (g : G) (n : Nat) (v kl : String) (hb : BlkOK g.st)
    (hn : nd.strs.lookup "variable_name" = some v) (hk : nd.strs.lookup "key_letter" = some kl)
    (hv : v ≠ "self") (hc : kl ∈ fc.classes)
    (hva : VarAns (lookupVar fc v (newSmt none g.st).2)) :
    callFn (mkEnv fc nd) (n + 20) accept_CreateObjectNode [.node] [] g
      = some (.inst (buildStmt fc none (.create v kl) g.st).1,
              { g with st := (buildStmt fc none (.create v kl) g.st).2 }) := by
  have hc' : fc.classes.contains kl = true := by simpa using hc
  have hgd : (v != "self") = true := by simpa using hv
  have hx := Ext.lookupVar fc v (newSmt none g.st).2
  have hb1 := ((Ext.newSmt none g.st).trans hx).blkOK hb
  have hs := hx.get (newSmt_row g.st)
  -- the answer of the look-up is split before the run: `if implicit:` in the source and `declVar` in the model both branch on
  -- it, and the declaring branch appends two rows, so there is no closed form in `getD` / `isSome` as for `needVar`
  rcases hL : lookupVar fc v (newSmt none g.st).2 with ⟨l, S⟩
  rw [hL] at hva hb1 hs
  cases l with
  | some x =>
    obtain ⟨nm, b, hx⟩ := hva x rfl
    simp only [pb, accept_CreateObjectNode, hb, hn, hk, hc', hgd, hL, hs, hx, prevV, beq_iff_eq, buildStmt, declVar, St.new]
  | none =>
    simp only [pb, accept_CreateObjectNode, v_int_fuel, hb, hb1, hn, hk, hc', hgd, hL, hs, prevV, beq_iff_eq, buildStmt, declVar,
      St.new, newVar_eq, navSteps, navStep, Gen.PbShape.Step.mk.injEq, false_and, Row.varOf, get2_0, get2_1]

/-- `select any / many v from instances of kl` : act_smt, find_symbol, o_obj, (v_ins / v_int by `node.many` when not found),
    ACT_FIO (cardinality in lower case) with R603 / R639 / R677 -/
theorem select_from_eq (fc : FCtx) (nd : Node) (g : G) (n : Nat) (card v kl m : String) (hb : BlkOK g.st)
    (hn : nd.strs.lookup "variable_name" = some v) (hk : nd.strs.lookup "key_letter" = some kl)
    (hcd : nd.strs.lookup "cardinality" = some card) (hm : nd.strs.lookup "many" = some m)
    (hmc : (m != "") = isMany card)
    (hv : v ≠ "self") (hc : kl ∈ fc.classes)
    (hva : VarAns (lookupVar fc v (newSmt none g.st).2)) :
    callFn (mkEnv fc nd) (n + 20) accept_SelectFromNode [.node] [] g
      = some (.inst (buildStmt fc none (.selFrom card v kl) g.st).1,
              { g with st := (buildStmt fc none (.selFrom card v kl) g.st).2 }) := by
  have hc' : fc.classes.contains kl = true := by simpa using hc
  have hgd : (v != "self") = true := by simpa using hv
  have hx := Ext.lookupVar fc v (newSmt none g.st).2
  have hb1 := ((Ext.newSmt none g.st).trans hx).blkOK hb
  have hs := hx.get (newSmt_row g.st)
  -- as in `create_object_eq`: split on the answer of the look-up before the run
  rcases hL : lookupVar fc v (newSmt none g.st).2 with ⟨l, S⟩
  rw [hL] at hva hb1 hs
  cases l with
  | some x =>
    obtain ⟨nm, b, hx⟩ := hva x rfl
    simp only [pb, accept_SelectFromNode, hb, hn, hk, hcd, hc', hgd, hL, hs, hx, prevV, beq_iff_eq, buildStmt, declVar, St.new]
  | none =>
    -- the source tests `node.many` (a string field), the model `isMany card`; `hmc` ties them, and each value gets its own run
    cases hmany : isMany card <;>
    simp only [pb, accept_SelectFromNode, v_int_fuel, v_ins_fuel, hb, hb1, hn, hk, hcd, hm, hmc, hmany, hc', hgd, hL, hs, prevV, beq_iff_eq,
      buildStmt, declVar, St.new, newVar_eq, navSteps, navStep, Gen.PbShape.Step.mk.injEq, false_and, Row.varOf, get2_0, get2_1]
end Pyx.PbShape
