import PyxModel.OSetPtr
import Gen.OSetShape

/-!
  C17 source tie at the pointer level: a GENERIC interpreter of the cell-level IR that translator/gen_osetshape.py
  extracts from `xtuml.tools.OrderedSet` (add, discard, __iter__, __reversed__), and the lemmas showing that
  PyxModel/OSetPtr.lean equals that interpretation of the IR generated from xtuml/tools.py.
  Cells are addresses, the sentinel is address 0, field 1 of a cell is `prev`, field 2 is `next`.
-/
namespace Pyx.OShape
open Pyx.OSetPtr Pyx.Gen.OSetShape

structure CEnv where
  curr : Nat
  prev : Nat
  next : Nat

def CEnv.get (e : CEnv) : CVar → Nat
  | .endV => 0
  | .curr => e.curr
  | .prev => e.prev
  | .next => e.next

def CEnv.set (e : CEnv) (v : CVar) (a : Nat) : CEnv :=
  match v with
  | .endV => e
  | .curr => { e with curr := a }
  | .prev => { e with prev := a }
  | .next => { e with next := a }

def fieldOf (s : Store) (i : Nat) (a : Nat) : Nat := if i = 1 then s.prev a else s.next a

def setFieldOf (s : Store) (i : Nat) (a v : Nat) : Store :=
  if i = 1 then { s with prev := upd s.prev a v } else { s with next := upd s.next a v }

def evalC (s : Store) (env : CEnv) : CExpr → Nat
  | .var v => env.get v
  | .field v i => fieldOf s i (env.get v)

def assignPlace (k a : Nat) (env : CEnv) (s : Store) : Place → Store
  | .field v i => setFieldOf s i (env.get v) a
  | .mapAtKey => { s with map := upd s.map k (some a) }

def iCStmt (k : Nat) (st : Store × CEnv) : CStmt → Store × CEnv
  | .bind v e => (st.1, st.2.set v (evalC st.1 st.2 e))
  | .allocInto f1 f2 targets =>
    let a := st.1.fresh
    let s1 : Store := { st.1 with key := upd st.1.key a k, prev := upd st.1.prev a (evalC st.1 st.2 f1),
                                  next := upd st.1.next a (evalC st.1 st.2 f2), fresh := a + 1 }
    (targets.foldl (assignPlace k a st.2) s1, st.2)
  | .popInto p n =>
    match st.1.map k with
    | some a => ({ st.1 with map := upd st.1.map k none }, (st.2.set p (st.1.prev a)).set n (st.1.next a))
    | none => st
  | .setField v i e => (setFieldOf st.1 i (st.2.get v) (evalC st.1 st.2 e), st.2)

/-- `if key [not] in self.map: <body>` -/
def iGuarded (g : Guarded) (k : Nat) (s : Store) : Store :=
  if (s.map k).isSome = g.whenPresent then (g.body.foldl (iCStmt k) (s, ⟨0, 0, 0⟩)).1 else s

/-- the generators `__iter__` / `__reversed__` -/
def iWalkCells (w : WalkShape) : Nat → Store → Nat → List Nat
  | 0, _, _ => []
  | f + 1, s, curr => if curr = 0 then [] else s.key curr :: iWalkCells w f s (fieldOf s w.stepField curr)

def iToList (w : WalkShape) (s : Store) : List Nat := iWalkCells w s.fresh s (fieldOf s w.startField 0)

/-- iteration whose consumer discards the visited element: the generator resumes by reading the step field of the
    (possibly just discarded) current cell -/
def iIterRem (w : WalkShape) (dis : Guarded) (p : Nat → Bool) : Nat → Store → Nat → List Nat × Store
  | 0, s, _ => ([], s)
  | f + 1, s, curr =>
    if curr = 0 then ([], s) else
      let k := s.key curr
      let s' := if p k then iGuarded dis k s else s
      let r := iIterRem w dis p f s' (fieldOf s' w.stepField curr)
      (k :: r.1, r.2)

theorem add_eq (k : Nat) (s : Store) : add k s = iGuarded addProg k s := by
  unfold add iGuarded
  cases h : s.map k with
  | some a => simp [addProg]
  | none =>
    simp only [addProg, Option.isSome_none, ↓reduceIte, List.foldl_cons, List.foldl_nil, iCStmt, evalC, CEnv.set,
      CEnv.get, fieldOf, assignPlace, setFieldOf]
    simp

theorem discard_eq (k : Nat) (s : Store) : OSetPtr.discard k s = iGuarded discardProg k s := by
  unfold OSetPtr.discard iGuarded
  cases h : s.map k with
  | none => simp [discardProg]
  | some a =>
    simp only [discardProg, Option.isSome_some, ↓reduceIte, List.foldl_cons, List.foldl_nil, iCStmt, h, evalC,
      CEnv.set, CEnv.get, setFieldOf]
    simp [unlink]
    exact ⟨rfl, rfl⟩

theorem iter_eq : ∀ (f : Nat) (s : Store) (curr : Nat), iter f s curr = iWalkCells iterShape f s curr
  | 0, _, _ => rfl
  | f + 1, s, curr => by
    unfold iter iWalkCells
    rw [iter_eq f s (s.next curr)]
    simp [iterShape, fieldOf]

theorem reversed_eq : ∀ (f : Nat) (s : Store) (curr : Nat), reversed f s curr = iWalkCells reversedShape f s curr
  | 0, _, _ => rfl
  | f + 1, s, curr => by
    unfold reversed iWalkCells
    rw [reversed_eq f s (s.prev curr)]
    simp [reversedShape, fieldOf]

theorem toList_eq (s : Store) : toList s = iToList iterShape s ∧ toListRev s = iToList reversedShape s := by
  unfold toList toListRev iToList
  rw [iter_eq, reversed_eq]
  simp [iterShape, reversedShape, fieldOf]

theorem iterRem_eq (p : Nat → Bool) : ∀ (f : Nat) (s : Store) (curr : Nat),
    iterRem p f s curr = iIterRem iterShape discardProg p f s curr
  | 0, _, _ => rfl
  | f + 1, s, curr => by
    unfold iterRem iIterRem
    by_cases hc : curr = 0
    · simp [hc]
    · simp only [hc, ↓reduceIte]
      rw [← discard_eq]
      have hf : ∀ s' : Store, fieldOf s' iterShape.stepField curr = s'.next curr := fun s' => by simp [iterShape, fieldOf]
      rw [hf, iterRem_eq p f]

theorem reversedRem_eq (p : Nat → Bool) : ∀ (f : Nat) (s : Store) (curr : Nat),
    reversedRem p f s curr = iIterRem reversedShape discardProg p f s curr
  | 0, _, _ => rfl
  | f + 1, s, curr => by
    unfold reversedRem iIterRem
    by_cases hc : curr = 0
    · simp [hc]
    · simp only [hc, ↓reduceIte]
      rw [← discard_eq]
      have hf : ∀ s' : Store, fieldOf s' reversedShape.stepField curr = s'.prev curr := fun s' => by simp [reversedShape, fieldOf]
      rw [hf, reversedRem_eq p f]

end Pyx.OShape
