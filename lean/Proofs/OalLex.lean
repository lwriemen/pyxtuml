import PyxModel.Oal.Lex
import Gen.OalLex
import Proofs.Lib.ListExtra
import Proofs.Lib.CharLower

/-!
  The character-level lexer model of PyxModel/Oal/Lex.lean: positions (`findColumn` is the column of a writing cursor),
  letter case (`lexWith_map_lower`: lexing commutes with lower-casing the text), deterministic patterns (`Pat.run`), and
  the invariant of the lexer run (`lexRun_ok`: every token records exactly where it is, tokens come in text order).
-/
namespace Pyx.OalLex

theorem countNl_append (a b : List Char) : countNl (a ++ b) = countNl a + countNl b := by
  simp [countNl, List.count_append]

theorem countNl_eq_zero {cs : List Char} (h : ∀ x ∈ cs, x ≠ '\n') : countNl cs = 0 := by
  unfold countNl
  rw [List.count_eq_zero]
  intro hm
  exact h _ hm rfl

theorem countNl_singleton (c : Char) : countNl [c] = if c = '\n' then 1 else 0 := by
  unfold countNl
  by_cases h : c = '\n'
  · simp [h]
  · simp [h]

theorem slice_append_left (pre cs : List Char) (k : Nat) :
    slice (pre ++ cs) pre.length (pre.length + k) = cs.take k := by
  unfold slice
  rw [List.drop_left]
  congr 1
  omega

theorem colAfter_append (a b : List Char) (k : Nat) : colAfter (a ++ b) k = colAfter b (colAfter a k) := by
  induction a generalizing k with
  | nil => rfl
  | cons c a ih => simp only [List.cons_append, colAfter, ih]

theorem colAfter_noNl (l : List Char) (k : Nat) (h : '\n' ∉ l) : colAfter l k = k + l.length := by
  induction l generalizing k with
  | nil => rfl
  | cons c l ih =>
    have hc : c ≠ '\n' := fun e => h (by rw [e]; exact List.mem_cons_self)
    rw [colAfter, if_neg hc, ih _ (fun hm => h (List.mem_cons_of_mem _ hm)), List.length_cons]
    omega

/-- `pos - rfind('\n', 0, pos)` is the column a writing cursor is in -/
theorem rfind_cursor (l : List Char) (i k : Nat) (best : Int) (hk : (k : Int) = (i : Int) - best) :
    ((i + l.length : Nat) : Int) - rfindNlGo l i best = (colAfter l k : Int) := by
  induction l generalizing i k best with
  | nil => simp only [List.length_nil, Nat.add_zero, rfindNlGo, colAfter]; omega
  | cons c l ih =>
    simp only [List.length_cons, rfindNlGo, colAfter]
    by_cases hc : c = '\n'
    · simp only [hc, if_true]
      have := ih (i + 1) 1 (i : Int) (by omega)
      rw [← this]; congr 2; omega
    · simp only [hc, if_false]
      have := ih (i + 1) (k + 1) best (by omega)
      rw [← this]; congr 2; omega

theorem findColumn_eq_colOf (text : List Char) (off : Nat) (h : off ≤ text.length) :
    findColumn text off = (colOf text off : Int) := by
  unfold findColumn rfindNl colOf
  have hl : (text.take off).length = off := by rw [List.length_take]; omega
  have := rfind_cursor (text.take off) 0 1 (-1) (by omega)
  rw [hl] at this
  rw [← this]; simp

theorem take_pred (text : List Char) (b : Nat) (hb : 0 < b) (hlen : b ≤ text.length) :
    text.take b = text.take (b - 1) ++ [text[b - 1]'(by omega)] := by
  have : b = (b - 1) + 1 := by omega
  conv => lhs; rw [this]
  rw [List.take_succ_eq_append_getElem]

theorem slice_getLast (text : List Char) (a b : Nat) (hab : a < b) (hlen : b ≤ text.length) :
    (slice text a b).getLast? = some (text[b - 1]'(by omega)) := by
  unfold slice
  have h1 : b - a = (b - 1 - a) + 1 := by omega
  have h2 : b - 1 - a < (text.drop a).length := by rw [List.length_drop]; omega
  rw [h1, List.take_succ_eq_append_getElem h2, List.getLast?_append]
  simp only [List.getLast?_singleton, Option.some_or, List.getElem_drop]
  congr 2; omega

theorem toNat_lower (c : Char) :
    (lowerAscii c).toNat = if isUpperA c then c.toNat + 32 else c.toNat := by
  unfold lowerAscii
  split
  · next h =>
    simp only [isUpperA, Bool.and_eq_true, decide_eq_true_eq] at h
    rw [toNat_ofNat (Or.inl (by omega))]
  · rfl

theorem toNat_upper (c : Char) :
    (upperAscii c).toNat = if isLowerA c then c.toNat - 32 else c.toNat := by
  unfold upperAscii
  split
  · next h =>
    simp only [isLowerA, Bool.and_eq_true, decide_eq_true_eq] at h
    rw [toNat_ofNat (Or.inl (by omega))]
  · rfl

/-- facts about the code point of `lowerAscii c`, in a form `omega` can use -/
theorem lower_cases (c : Char) :
    ((65 ≤ c.toNat ∧ c.toNat ≤ 90) ∧ (lowerAscii c).toNat = c.toNat + 32) ∨
    (¬(65 ≤ c.toNat ∧ c.toNat ≤ 90) ∧ lowerAscii c = c) := by
  by_cases h : isUpperA c = true
  · left
    have := toNat_lower c
    rw [if_pos h] at this
    simp only [isUpperA, Bool.and_eq_true, decide_eq_true_eq] at h
    exact ⟨h, this⟩
  · right
    have h' : ¬(65 ≤ c.toNat ∧ c.toNat ≤ 90) := by
      simpa only [isUpperA, Bool.and_eq_true, decide_eq_true_eq] using h
    refine ⟨h', ?_⟩
    unfold lowerAscii
    simp only [Bool.not_eq_true] at h
    simp [h]

theorem lower_idem (c : Char) : lowerAscii (lowerAscii c) = lowerAscii c := by
  rcases lower_cases c with ⟨h, e⟩ | ⟨_, e⟩
  · rcases lower_cases (lowerAscii c) with ⟨h2, _⟩ | ⟨_, e2⟩
    · omega
    · exact e2
  · rw [e, e]

theorem upper_lower (c : Char) : upperAscii (lowerAscii c) = upperAscii c := by
  apply Char.toNat_inj.mp
  rw [toNat_upper, toNat_upper]
  rcases lower_cases c with ⟨h, e⟩ | ⟨_, e⟩
  · have h1 : isLowerA (lowerAscii c) = true := by
      simp only [isLowerA, Bool.and_eq_true, decide_eq_true_eq]; omega
    have h2 : isLowerA c = false := by
      simp only [isLowerA, Bool.and_eq_false_iff, decide_eq_false_iff_not]; omega
    rw [h1, h2]; simp only [if_true]; simp; omega
  · rw [e]

def CaseBlind (p : Char → Bool) : Prop := ∀ c, p (lowerAscii c) = p c

theorem lower_beq {x : Char} (hx : isLetterA x = false) (c : Char) : (lowerAscii c == x) = (c == x) := by
  rcases lower_cases c with ⟨h, e⟩ | ⟨_, e⟩
  · have hx' : ¬(65 ≤ x.toNat ∧ x.toNat ≤ 90) ∧ ¬(97 ≤ x.toNat ∧ x.toNat ≤ 122) := by
      simp only [isLetterA, isUpperA, isLowerA, Bool.or_eq_false_iff, Bool.and_eq_false_iff,
        decide_eq_false_iff_not] at hx
      omega
    have h1 : (lowerAscii c == x) = false := by
      rw [beq_eq_false_iff_ne]; intro e1; rw [e1] at e; omega
    have h2 : (c == x) = false := by
      rw [beq_eq_false_iff_ne]; intro e1; rw [e1] at h; omega
    simp only [h1, h2]
  · simp only [e]

theorem caseBlind_eq_nonLetter (x : Char) (hx : isLetterA x = false) : CaseBlind (fun c => c == x) := lower_beq hx

theorem caseBlind_ci (x : Char) : CaseBlind (fun c => lowerAscii c == x) := by
  intro c; simp only [lower_idem]

theorem caseBlind_not {p : Char → Bool} (h : CaseBlind p) : CaseBlind (fun c => !(p c)) := by
  intro c; simp only [h c]

theorem caseBlind_and {p q : Char → Bool} (hp : CaseBlind p) (hq : CaseBlind q) :
    CaseBlind (fun c => p c && q c) := by
  intro c; simp only [hp c, hq c]

theorem caseBlind_or {p q : Char → Bool} (hp : CaseBlind p) (hq : CaseBlind q) :
    CaseBlind (fun c => p c || q c) := by
  intro c; simp only [hp c, hq c]

theorem caseBlind_toNat (f : Nat → Bool) (hf : ∀ n, 65 ≤ n → n ≤ 90 → f (n + 32) = f n) :
    CaseBlind (fun c => f c.toNat) := by
  intro c
  rcases lower_cases c with ⟨h, e⟩ | ⟨_, e⟩
  · simp only [e]; exact hf _ h.1 h.2
  · simp only [e]

/-- the classes of the scanners are functions of the code point; each follows from `caseBlind_toNat` -/
theorem caseBlind_isWord : CaseBlind isWord :=
  caseBlind_toNat (fun n => (48 ≤ n && n ≤ 57) || ((65 ≤ n && n ≤ 90) || (97 ≤ n && n ≤ 122)) || n == 95) (by
    intro n h1 h2
    rw [Bool.eq_iff_iff]
    simp only [Bool.or_eq_true, Bool.and_eq_true, decide_eq_true_eq, beq_iff_eq]
    omega)

theorem caseBlind_isIdStart : CaseBlind isIdStart :=
  caseBlind_toNat (fun n => ((65 ≤ n && n ≤ 90) || (97 ≤ n && n ≤ 122)) || n == 95) (by
    intro n h1 h2
    rw [Bool.eq_iff_iff]
    simp only [Bool.or_eq_true, Bool.and_eq_true, decide_eq_true_eq, beq_iff_eq]
    omega)

theorem caseBlind_isDigit : CaseBlind isDigit :=
  caseBlind_toNat (fun n => if n < 128 then (48 ≤ n && n ≤ 57) else inRanges decimalRanges n) (by
    intro n h1 h2
    rw [if_pos (by omega), if_pos (by omega), Bool.eq_iff_iff]
    simp only [Bool.and_eq_true, decide_eq_true_eq]
    omega)

theorem caseBlind_isSpace : CaseBlind isSpace :=
  caseBlind_toNat (fun n => if n < 128 then ((9 ≤ n && n ≤ 13) || (28 ≤ n && n ≤ 32)) else inRanges spaceRanges n) (by
    intro n h1 h2
    rw [if_pos (by omega), if_pos (by omega), Bool.eq_iff_iff]
    simp only [Bool.or_eq_true, Bool.and_eq_true, decide_eq_true_eq]
    omega)


theorem spanLen_le (p : Char → Bool) (cs : List Char) : spanLen p cs ≤ cs.length := by
  induction cs with
  | nil => simp [spanLen]
  | cons c cs ih => simp only [spanLen]; split <;> simp <;> omega

theorem spanLen_take (p : Char → Bool) (cs : List Char) : ∀ x ∈ cs.take (spanLen p cs), p x = true := by
  induction cs with
  | nil => simp [spanLen]
  | cons c cs ih =>
    simp only [spanLen]
    split
    · next h =>
      intro x hx
      simp only [List.take_succ_cons, List.mem_cons] at hx
      rcases hx with rfl | hx
      · exact h
      · exact ih x hx
    · simp

theorem spanLen_map_lower (p : Char → Bool) (hp : CaseBlind p) (cs : List Char) :
    spanLen p (cs.map lowerAscii) = spanLen p cs := by
  induction cs with
  | nil => rfl
  | cons c cs ih => simp only [List.map_cons, spanLen, hp c, ih]

theorem hasPrefix_map_lower (s : List Char) (hs : ∀ x ∈ s, isLetterA x = false) (cs : List Char) :
    hasPrefix s (cs.map lowerAscii) = hasPrefix s cs := by
  induction s generalizing cs with
  | nil => simp [hasPrefix]
  | cons x s ih =>
    cases cs with
    | nil => simp [hasPrefix]
    | cons c cs =>
      simp only [List.map_cons, hasPrefix]
      rw [lower_beq (hs x (by simp)), ih (fun y hy => hs y (by simp [hy]))]

theorem hasPrefix_take (s cs : List Char) (h : hasPrefix s cs = true) : cs.take s.length = s := by
  induction s generalizing cs with
  | nil => simp
  | cons x s ih =>
    cases cs with
    | nil => simp [hasPrefix] at h
    | cons c cs =>
      simp only [hasPrefix, Bool.and_eq_true, beq_iff_eq] at h
      simp only [List.length_cons, List.take_succ_cons, h.1, ih cs h.2]

namespace Pat

def ClassesIn (q : Char → Prop) : Pat → Prop
  | eps => True
  | ch p => ∀ c, p c = true → q c
  | many p => ∀ c, p c = true → q c
  | seq a b => ClassesIn q a ∧ ClassesIn q b
  | alt a b => ClassesIn q a ∧ ClassesIn q b
  | look _ => True

/-- no character class of the pattern accepts `x`, no look-ahead literal contains it -/
def Rejects (x : Char) : Pat → Prop
  | eps => True
  | ch f => f x = false
  | many f => f x = false
  | seq a b => Rejects x a ∧ Rejects x b
  | alt a b => Rejects x a ∧ Rejects x b
  | look l => x ∉ l

instance Rejects.decidable (x : Char) : (p : Pat) → Decidable (Rejects x p)
  | eps => isTrue trivial
  | ch f | many f => inferInstanceAs (Decidable (f x = false))
  | seq a b | alt a b => @instDecidableAnd _ _ (decidable x a) (decidable x b)
  | look l => inferInstanceAs (Decidable (x ∉ l))

/-- no character class of the pattern sees the letter case; look-ahead literals have no letters -/
def Blind : Pat → Prop
  | eps => True
  | ch p => CaseBlind p
  | many p => CaseBlind p
  | seq a b => Blind a ∧ Blind b
  | alt a b => Blind a ∧ Blind b
  | look s => ∀ x ∈ s, isLetterA x = false

def EndsIn (q : Char → Prop) : Pat → Prop
  | ch p => ∀ c, p c = true → q c
  | seq _ b => EndsIn q b
  | _ => False

theorem run_ch_some {f : Char → Bool} {cs : List Char} {n : Nat} (h : run (ch f) cs = some n) :
    ∃ c r, cs = c :: r ∧ f c = true ∧ n = 1 := by
  cases cs with
  | nil => cases h
  | cons c r =>
    simp only [run] at h
    split at h
    · next hf => exact ⟨c, r, rfl, hf, (Option.some.inj h).symm⟩
    · cases h

theorem run_seq_some {a b : Pat} {cs : List Char} {n : Nat} (h : run (seq a b) cs = some n) :
    ∃ na nb, run a cs = some na ∧ run b (cs.drop na) = some nb ∧ n = na + nb := by
  simp only [run] at h
  cases ha : run a cs with
  | none => simp [ha] at h
  | some na =>
    simp only [ha, Option.map_eq_some_iff] at h
    obtain ⟨nb, hb, rfl⟩ := h
    exact ⟨na, nb, rfl, hb, rfl⟩

theorem run_alt_some {a b : Pat} {cs : List Char} {n : Nat} (h : run (alt a b) cs = some n) :
    run a cs = some n ∨ run b cs = some n := by
  simp only [run] at h
  cases ha : run a cs with
  | none => rw [ha] at h; exact Or.inr h
  | some na => rw [ha] at h; exact Or.inl h

theorem run_look_some {s cs : List Char} {n : Nat} (h : run (look s) cs = some n) : n = 0 := by
  simp only [run] at h
  split at h
  · exact (Option.some.inj h).symm
  · cases h

theorem run_le (p : Pat) : ∀ (cs : List Char) (n : Nat), run p cs = some n → n ≤ cs.length := by
  induction p with
  | eps => intro cs n h; cases h; exact Nat.zero_le _
  | ch f => intro cs n h; obtain ⟨c, r, rfl, _, rfl⟩ := run_ch_some h; exact Nat.succ_le_succ (Nat.zero_le _)
  | many f => intro cs n h; cases h; exact spanLen_le _ _
  | seq a b iha ihb =>
    intro cs n h
    obtain ⟨na, nb, ha, hb, rfl⟩ := run_seq_some h
    have h1 := iha cs na ha
    have h2 := ihb _ nb hb
    rw [List.length_drop] at h2
    omega
  | alt a b iha ihb => intro cs n h; exact (run_alt_some h).elim (iha cs n) (ihb cs n)
  | look s => intro cs n h; rw [run_look_some h]; exact Nat.zero_le _

theorem Rejects.classesIn {x : Char} : ∀ {p : Pat}, Rejects x p → ClassesIn (· ≠ x) p
  | eps, _ | look _, _ => trivial
  | ch _, h | many _, h => fun c hc e => by rw [e, h] at hc; cases hc
  | seq _ _, h | alt _ _, h => ⟨classesIn h.1, classesIn h.2⟩

theorem run_classes (q : Char → Prop) (p : Pat) :
    ∀ (cs : List Char) (n : Nat), run p cs = some n → ClassesIn q p → ∀ x ∈ cs.take n, q x := by
  induction p with
  | eps => intro cs n h _ x hx; cases h; cases hx
  | ch f =>
    intro cs n h hq x hx
    obtain ⟨c, r, rfl, hf, rfl⟩ := run_ch_some h
    rw [List.take_succ_cons, List.take_zero, List.mem_singleton] at hx
    exact hx ▸ hq c hf
  | many f =>
    intro cs n h hq x hx
    cases h
    exact hq x (spanLen_take f cs x hx)
  | seq a b iha ihb =>
    intro cs n h hq x hx
    obtain ⟨na, nb, ha, hb, rfl⟩ := run_seq_some h
    rw [List.take_add, List.mem_append] at hx
    exact hx.elim (iha cs na ha hq.1 x) (ihb _ nb hb hq.2 x)
  | alt a b iha ihb =>
    intro cs n h hq
    exact (run_alt_some h).elim (fun h => iha cs n h hq.1) (fun h => ihb cs n h hq.2)
  | look s => intro cs n h _ x hx; rw [run_look_some h] at hx; cases hx

theorem run_not_mem (x : Char) (p : Pat) (cs : List Char) (n : Nat) (h : run p cs = some n) (hr : Rejects x p) :
    x ∉ cs.take n :=
  fun hx => run_classes (· ≠ x) p cs n h hr.classesIn x hx rfl

theorem run_map_lower (p : Pat) : ∀ (cs : List Char), Blind p → run p (cs.map lowerAscii) = run p cs := by
  induction p with
  | eps => intro cs _; rfl
  | ch f =>
    intro cs hb
    cases cs with
    | nil => rfl
    | cons c cs => simp only [List.map_cons, run, hb c]
  | many f => intro cs hb; simp only [run, spanLen_map_lower f hb]
  | seq a b iha ihb =>
    intro cs hb
    simp only [run, iha cs hb.1]
    cases run a cs with
    | none => rfl
    | some na => simp only [← List.map_drop, ihb _ hb.2]
  | alt a b iha ihb =>
    intro cs hb
    simp only [run, iha cs hb.1, ihb cs hb.2]
  | look s => intro cs hb; simp only [run, hasPrefix_map_lower s hb]

theorem run_ends (q : Char → Prop) (p : Pat) :
    ∀ (cs : List Char) (n : Nat), run p cs = some n → EndsIn q p →
      ∃ x, (cs.take n).getLast? = some x ∧ q x := by
  induction p with
  | ch f =>
    intro cs n h he
    obtain ⟨c, r, rfl, hf, rfl⟩ := run_ch_some h
    exact ⟨c, rfl, he _ hf⟩
  | seq a b _ ihb =>
    intro cs n h he
    obtain ⟨na, nb, _, hb, rfl⟩ := run_seq_some h
    obtain ⟨x, hx, hq⟩ := ihb _ nb hb he
    exact ⟨x, by rw [List.take_add, List.getLast?_append, hx]; rfl, hq⟩
  | _ => intro cs n _ he; exact he.elim

end Pat


open Pat in
theorem scanById_noNl (rid : RegexId) (h : idMayNl rid = false) (cs : List Char) (n : Nat)
    (hs : scanById rid cs = some n) : ∀ x ∈ cs.take n, x ≠ '\n' := by
  intro x hx e
  subst e
  revert hx
  cases rid <;> simp only [idMayNl, Bool.true_eq_false] at h <;> simp only [scanById] at hs
  · exact run_not_mem _ _ cs n hs (by decide)
  · exact run_not_mem _ _ cs n hs (by decide)
  · exact run_not_mem _ _ cs n hs (by decide)
  · exact run_not_mem _ _ cs n hs (by decide)
  · exact run_not_mem _ _ cs n hs (by decide)
  · cases hs

open Pat in
/-- a match of TICKED_PHRASE / END_FOR / END_IF / END_WHILE does not end with a newline -/
theorem scanById_ends (rid : RegexId) (h : idEndsNonNl rid = true) (cs : List Char) (n : Nat)
    (hs : scanById rid cs = some n) : (cs.take n).getLast? ≠ some '\n' := by
  have key : ∀ p : Pat, run p cs = some n → EndsIn (· ≠ '\n') p → (cs.take n).getLast? ≠ some '\n' := by
    intro p hp he
    obtain ⟨x, hx, hq⟩ := run_ends _ p cs n hp he
    rw [hx]
    exact fun e => hq (Option.some.inj e)
  cases rid <;> simp only [idEndsNonNl, Bool.false_eq_true] at h <;> simp only [scanById] at hs
  -- what is left: the four patterns that end in a single-character class; that class rejects '\n'
  all_goals
    refine key _ hs ?_
    simp only [patTicked, patEnd, List.map, List.cons_append, List.nil_append, seqs, lit, ci, EndsIn]
    intro c h e
    subst e
    revert h
    decide

theorem commentBody_map_lower (cs : List Char) (star : Bool) :
    commentBody (cs.map lowerAscii) star = commentBody cs star := by
  induction cs generalizing star with
  | nil => rfl
  | cons c cs ih =>
    simp only [List.map_cons, commentBody, lower_beq (x := '*') (by decide), lower_beq (x := '/') (by decide), ih]

/-- the comment scanner reads no further than its match: the result stands on the matched characters alone -/
theorem commentBody_reads {r : List Char} {st : Bool} {n : Nat} (h : commentBody r st = some n) :
    n ≤ r.length ∧ ∀ t, commentBody (r.take n ++ t) st = some n := by
  fun_induction commentBody r st generalizing n with
  | case1 => cases h
  | case2 c r star hc ih =>
    obtain ⟨m, hm, rfl⟩ := Option.map_eq_some_iff.mp h
    refine ⟨Nat.succ_le_succ (ih hm).1, fun t => ?_⟩
    rw [List.take_succ_cons, List.cons_append, commentBody, if_pos hc, (ih hm).2 t]; rfl
  | case3 c r star hc hs =>
    cases h
    refine ⟨Nat.succ_le_succ (Nat.zero_le _), fun t => ?_⟩
    rw [List.take_succ_cons, List.take_zero, List.cons_append, commentBody, if_neg hc, if_pos hs]
  | case4 c r star hc hs ih =>
    obtain ⟨m, hm, rfl⟩ := Option.map_eq_some_iff.mp h
    refine ⟨Nat.succ_le_succ (ih hm).1, fun t => ?_⟩
    rw [List.take_succ_cons, List.cons_append, commentBody, if_neg hc, if_neg hs, (ih hm).2 t]; rfl

theorem scanComment_map_lower (cs : List Char) : scanComment (cs.map lowerAscii) = scanComment cs := by
  match cs with
  | [] => rfl
  | [_] => rfl
  | c1 :: c2 :: r =>
    simp only [List.map_cons, scanComment, lower_beq (x := '*') (by decide), lower_beq (x := '/') (by decide),
      commentBody_map_lower]

open Pat in
/-- `Blind` is decided along the pattern, the classes at the leaves by the `caseBlind_*` lemmas -/
theorem scanById_map_lower (rid : RegexId) (cs : List Char) :
    scanById rid (cs.map lowerAscii) = scanById rid cs := by
  cases rid <;> simp only [scanById]
  · exact scanComment_map_lower cs
  all_goals
    refine run_map_lower _ cs ?_
    simp +decide (maxDischargeDepth := 4) only [patSlString, patTicked, patString, patEnd, patNamespace, patId,
      patFraction, patExp, patNumber, patNewline, List.map, List.cons_append, List.nil_append, seqs, many1, opt, lit,
      ci, Blind, caseBlind_isDigit, caseBlind_isWord, caseBlind_isIdStart, caseBlind_isSpace, caseBlind_ci,
      caseBlind_eq_nonLetter, caseBlind_or, caseBlind_and, caseBlind_not, and_self]

theorem scanLit_take (s cs : List Char) (n : Nat) (h : scanLit s cs = some n) : cs.take n = s := by
  unfold scanLit at h
  split at h
  · simp at h
  · split at h
    · next hp => simp only [Option.some.injEq] at h; subst h; exact hasPrefix_take s cs hp
    · simp at h

theorem firstMatch_some {rules : List Rule} {cs : List Char} {r : Rule} {n : Nat}
    (h : firstMatch rules cs = some (r, n)) : r ∈ rules ∧ scanOf r cs = some n ∧ n ≠ 0 := by
  fun_induction firstMatch rules cs with
  | case1 => cases h
  | case2 r0 rs cs m hs hm ih => exact (ih h).imp_left (List.mem_cons_of_mem _)
  | case3 r0 rs cs m hs hm =>
    cases h
    exact ⟨List.mem_cons_self, hs, fun e => hm (by rw [e]; rfl)⟩
  | case4 r0 rs cs hs ih => exact (ih h).imp_left (List.mem_cons_of_mem _)

theorem firstMatch_none {rules : List Rule} {cs : List Char} (h : firstMatch rules cs = none) :
    ∀ r ∈ rules, ∀ n, scanOf r cs = some n → n = 0 := by
  fun_induction firstMatch rules cs with
  | case1 => intro r hr; cases hr
  | case2 r0 rs cs m hs hm ih =>
    intro r hr n hn
    rcases List.mem_cons.mp hr with rfl | hr
    · rw [hs] at hn; cases hn; exact beq_iff_eq.mp hm
    · exact ih h r hr n hn
  | case3 => cases h
  | case4 r0 rs cs hs ih =>
    intro r hr n hn
    rcases List.mem_cons.mp hr with rfl | hr
    · rw [hs] at hn; cases hn
    · exact ih h r hr n hn
theorem firstMatch_congr {rules : List Rule} {cs cs' : List Char}
    (h : ∀ r ∈ rules, scanOf r cs' = scanOf r cs) : firstMatch rules cs' = firstMatch rules cs := by
  induction rules with
  | nil => rfl
  | cons r0 rs ih =>
    simp only [firstMatch, h r0 (by simp)]
    rw [ih (fun r hr => h r (List.mem_cons_of_mem _ hr))]

theorem contains_false_iff {l : List Char} {x : Char} : l.contains x = false ↔ x ∉ l := by
  rw [← Bool.not_eq_true, List.contains_iff_mem]

theorem scanOf_noNl (r : Rule) (h : ruleMayNl r = false) (cs : List Char) (n : Nat)
    (hs : scanOf r cs = some n) : ∀ x ∈ cs.take n, x ≠ '\n' := by
  unfold scanOf at hs
  unfold ruleMayNl at h
  cases hl : r.lit with
  | some s =>
    simp only [hl] at hs h
    rw [scanLit_take s cs n hs]
    intro x hx e
    subst e
    exact (contains_false_iff.mp h) hx
  | none =>
    simp only [hl] at hs h
    exact scanById_noNl _ h cs n hs

structure RuleOk (r : Rule) : Prop where
  counts : ruleMayNl r = true → r.countsNl = true
  endLine : r.returnsTok = true → ruleMayNl r = true →
    r.setsEndLine = true ∧ r.lit = none ∧ idEndsNonNl (regexId r.regex) = true
  endPos : r.returnsTok = true → r.setsEndPos = true

theorem gen_linesOk : linesOk Gen.OalLex.cfg = true := by decide +kernel

theorem linesOk_rule {cfg : LexCfg} (h : linesOk cfg = true) {r : Rule} (hr : r ∈ cfg.rules) : RuleOk r := by
  unfold linesOk at h
  simp only [Bool.and_eq_true, List.all_eq_true] at h
  have hr' := h.1.1 r hr
  simp only [Bool.and_eq_true, nor_iff_imp] at hr'
  simp only [Bool.or_eq_true, Option.isNone_iff_eq_none] at hr'
  obtain ⟨⟨h1, h2⟩, h3⟩ := hr'
  refine ⟨fun hm => h1 (Or.inr hm), fun hret hm => ?_, h3⟩
  have h := h2 ⟨hret, Or.inr hm⟩
  exact ⟨h.1.1, h.1.2, h.2⟩

theorem linesOk_ignore {cfg : LexCfg} (h : linesOk cfg = true) : '\n' ∉ cfg.ignore := by
  unfold linesOk at h
  simp only [Bool.and_eq_true, Bool.not_eq_true'] at h
  exact contains_false_iff.mp h.2

/-- with a sound table a newline is never skipped by `t_error` -/
theorem linesOk_newline_matches {cfg : LexCfg} (h : linesOk cfg = true) (cs : List Char) :
    firstMatch cfg.rules ('\n' :: cs) ≠ none := by
  unfold linesOk at h
  simp only [Bool.and_eq_true, List.any_eq_true, Option.isNone_iff_eq_none, beq_iff_eq] at h
  obtain ⟨r, hr, hl, hid⟩ := h.1.2
  intro hn
  have := firstMatch_none hn r hr (spanLen (fun c => c == '\n') cs + 1) (by
    simp [scanOf, hl, hid, scanById, patNewline, Pat.many1, Pat.run, Nat.add_comm])
  omega

/-- what is recorded in a token agrees with the text it was cut from -/
structure TokOk (text : List Char) (t : Tok) : Prop where
  nonempty : t.start < t.stop
  bound : t.stop ≤ text.length
  lexeme : t.lexeme = slice text t.start t.stop
  line : t.line = lineOf text t.start
  endLine : t.endLine = lineOf text t.stop
  lastNotNl : t.lexeme.getLast? ≠ some '\n'

theorem match_line {cfg : LexCfg} (hok : linesOk cfg = true) {cs : List Char} {r : Rule} {n : Nat}
    (hfm : firstMatch cfg.rules cs = some (r, n)) (pre : List Char) :
    (if r.countsNl = true then 1 + countNl pre + countNl (cs.take n) else 1 + countNl pre) =
      1 + countNl (pre ++ cs.take n) := by
  obtain ⟨hr, hs, _⟩ := firstMatch_some hfm
  rw [countNl_append]
  cases hc : r.countsNl with
  | true => simp only [if_true]; omega
  | false =>
    cases hm : ruleMayNl r with
    | true => rw [(linesOk_rule hok hr).counts hm] at hc; cases hc
    | false => simp only [Bool.false_eq_true, if_false, countNl_eq_zero (scanOf_noNl r hm _ n hs)]; omega

theorem match_tok {cfg : LexCfg} (hok : linesOk cfg = true) {c : Char} {cs : List Char} {r : Rule} {n : Nat}
    (hfm : firstMatch cfg.rules (c :: cs) = some (r, n)) (hret : r.returnsTok = true) (pre : List Char) :
    TokOk (pre ++ c :: cs)
      (mkTok cfg r ((c :: cs).take n) pre.length (1 + countNl pre) (1 + countNl (pre ++ (c :: cs).take n))) := by
  obtain ⟨hr, hs, hn⟩ := firstMatch_some hfm
  have rok := linesOk_rule hok hr
  generalize hlex : (c :: cs).take n = lexeme
  have hlen : lexeme.length ≤ (c :: cs).length := by rw [← hlex, List.length_take]; omega
  have hpos : 0 < lexeme.length := by rw [← hlex, List.length_take, List.length_cons]; omega
  have hlexeq : (c :: cs).take lexeme.length = lexeme := by rw [← hlex, List.length_take, ← List.take_eq_take_min]
  have htake : (pre ++ c :: cs).take (pre.length + lexeme.length) = pre ++ lexeme := by
    rw [List.take_append, Nat.add_sub_cancel_left, List.take_of_length_le (by omega), hlexeq]
  refine ⟨?_, ?_, ?_, ?_, ?_, ?_⟩ <;> simp only [mkTok, rok.endPos hret, if_true]
  · omega
  · rw [List.length_append]; omega
  · rw [slice_append_left, hlexeq]
  · rw [lineOf, List.take_left' rfl]
  · rw [lineOf, htake]
    -- a rule that does not record the end line cannot match a newline (`RuleOk.endLine`): the end line is the start line
    cases hsl : r.setsEndLine with
    | true => rfl
    | false =>
      cases hm : ruleMayNl r with
      | true => rw [(rok.endLine hret hm).1] at hsl; cases hsl
      | false => rw [countNl_append, ← hlex, countNl_eq_zero (scanOf_noNl r hm _ n hs)]; rfl
  · rw [← hlex]
    -- a token-returning rule that can match a newline ends in a class that rejects it (`idEndsNonNl`, `scanById_ends`)
    cases hm : ruleMayNl r with
    | false => exact fun e => scanOf_noNl r hm _ n hs _ (List.mem_of_getLast? e) rfl
    | true =>
      obtain ⟨_, hl, he⟩ := rok.endLine hret hm
      rw [scanOf, hl] at hs
      exact scanById_ends _ he _ n hs

theorem lexRun_ok (cfg : LexCfg) (hok : linesOk cfg = true) (fuel : Nat) (cs : List Char) (off line : Nat) :
    ∀ pre : List Char, off = pre.length → line = 1 + countNl pre →
      (∀ t ∈ (lexRun cfg fuel cs off line).1, TokOk (pre ++ cs) t ∧ pre.length ≤ t.start) ∧
      (lexRun cfg fuel cs off line).1.Pairwise (fun a b => a.stop ≤ b.start) := by
  -- a skipped character is not a newline, so the line counter stays right
  have skip : ∀ (c : Char) (pre : List Char), c ≠ '\n' →
      pre.length + 1 = (pre ++ [c]).length ∧ 1 + countNl pre = 1 + countNl (pre ++ [c]) := by
    intro c pre hc
    rw [countNl_append, countNl_singleton, if_neg hc, List.length_append]; exact ⟨rfl, rfl⟩
  fun_induction lexRun cfg fuel cs off line with
  | case1 => intro pre _ _; simp
  | case2 => intro pre _ _; simp
  | case3 fuel c cs off line hig ih =>
    intro pre ho hl
    have hc : c ≠ '\n' := fun e => linesOk_ignore hok (List.contains_iff_mem.mp (e ▸ hig))
    have := ih (pre ++ [c]) (ho ▸ (skip c pre hc).1) (hl ▸ (skip c pre hc).2)
    rw [List.append_assoc, List.singleton_append, List.length_append] at this
    exact ⟨fun t ht => ⟨(this.1 t ht).1, by have := (this.1 t ht).2; simp at this; omega⟩, this.2⟩
  | case4 fuel c cs off line hig r n hfm lexeme line' res hret ih =>
    intro pre ho hl
    subst ho hl
    have hline : line' = 1 + countNl (pre ++ lexeme) := match_line hok hfm pre
    have := ih (pre ++ lexeme) (List.length_append).symm hline
    rw [List.append_assoc, List.take_append_drop, List.length_append] at this
    have htok := match_tok hok hfm hret pre
    rw [← hline] at htok
    refine ⟨?_, List.Pairwise.cons ?_ this.2⟩
    · intro t ht
      rcases List.mem_cons.mp ht with rfl | ht
      · exact ⟨htok, Nat.le_refl _⟩
      · exact ⟨(this.1 t ht).1, by have := (this.1 t ht).2; omega⟩
    · intro b hb
      have := (this.1 b hb).2
      simp only [mkTok, (linesOk_rule hok (firstMatch_some hfm).1).endPos hret, if_true]
      omega
  | case5 fuel c cs off line hig r n hfm lexeme line' res hret ih =>
    intro pre ho hl
    subst ho hl
    have := ih (pre ++ lexeme) (List.length_append).symm (match_line hok hfm pre)
    rw [List.append_assoc, List.take_append_drop, List.length_append] at this
    exact ⟨fun t ht => ⟨(this.1 t ht).1, by have := (this.1 t ht).2; omega⟩, this.2⟩
  | case6 fuel c cs off line hig hfm ih =>
    intro pre ho hl
    have hc : c ≠ '\n' := fun e => linesOk_newline_matches hok cs (e ▸ hfm)
    have := ih (pre ++ [c]) (ho ▸ (skip c pre hc).1) (hl ▸ (skip c pre hc).2)
    rw [List.append_assoc, List.singleton_append, List.length_append] at this
    exact ⟨fun t ht => ⟨(this.1 t ht).1, by have := (this.1 t ht).2; simp at this; omega⟩, this.2⟩
theorem lexWith_ok (cfg : LexCfg) (hok : linesOk cfg = true) (text : List Char) :
    (∀ t ∈ lexWith cfg text, TokOk text t) ∧ (lexWith cfg text).Pairwise (fun a b => a.stop ≤ b.start) :=
  let h := lexRun_ok cfg hok text.length text 0 1 [] rfl rfl
  ⟨fun t ht => (h.1 t ht).1, h.2⟩

theorem TokOk.last_ne_nl {text : List Char} {t : Tok} (h : TokOk text t) :
    text[t.stop - 1]'(by have := h.nonempty; have := h.bound; omega) ≠ '\n' := by
  have hl := h.lastNotNl
  rw [h.lexeme, slice_getLast text t.start t.stop h.nonempty h.bound] at hl
  exact fun e => hl (by rw [e])

theorem TokOk.endLine_last {text : List Char} {t : Tok} (h : TokOk text t) : t.endLine = lineOf text (t.stop - 1) := by
  rw [h.endLine, lineOf, lineOf, take_pred text t.stop (by have := h.nonempty; omega) h.bound, countNl_append,
    countNl_singleton, if_neg h.last_ne_nl]
  rfl

theorem lexRun_rest (cfg : LexCfg) (fuel : Nat) (cs : List Char) (off line : Nat) (h : cs.length ≤ fuel) :
    (lexRun cfg fuel cs off line).2 = [] := by
  fun_induction lexRun cfg fuel cs off line with
  | case1 => exact List.length_eq_zero_iff.mp (Nat.le_zero.mp h)
  | case2 => rfl
  | case3 _ _ _ _ _ _ ih => exact ih (Nat.le_of_succ_le_succ h)
  | case4 _ c cs _ _ _ _ n hfm _ _ _ _ ih =>
    have := (firstMatch_some hfm).2.2
    exact ih (by rw [List.length_drop]; rw [List.length_cons] at h ⊢; omega)
  | case5 _ c cs _ _ _ _ n hfm _ _ _ _ ih =>
    have := (firstMatch_some hfm).2.2
    exact ih (by rw [List.length_drop]; rw [List.length_cons] at h ⊢; omega)
  | case6 _ _ _ _ _ _ _ ih => exact ih (Nat.le_of_succ_le_succ h)

def lowTok (t : Tok) : Tok := { t with lexeme := t.lexeme.map lowerAscii }

theorem countNl_map_lower (cs : List Char) : countNl (cs.map lowerAscii) = countNl cs := by
  induction cs with
  | nil => rfl
  | cons c cs ih =>
    unfold countNl at ih ⊢
    simp only [List.map_cons, List.count_cons, ih, lower_beq (x := '\n') (by decide)]

theorem contains_lower (l : List Char) (hl : ∀ x ∈ l, isLetterA x = false) (c : Char) :
    l.contains (lowerAscii c) = l.contains c := by
  induction l with
  | nil => rfl
  | cons x l ih =>
    simp only [List.contains_cons, lower_beq (hl x (by simp)), ih (fun y hy => hl y (by simp [hy]))]

structure CaseOk (cfg : LexCfg) : Prop where
  idUpper : cfg.idUpper = true
  lits : ∀ r ∈ cfg.rules, ∀ s, r.lit = some s → ∀ x ∈ s, isLetterA x = false
  ignore : ∀ x ∈ cfg.ignore, isLetterA x = false

theorem caseOk_spec {cfg : LexCfg} (h : caseOk cfg = true) : CaseOk cfg := by
  unfold caseOk at h
  simp only [Bool.and_eq_true, List.all_eq_true, Bool.not_eq_true'] at h
  refine ⟨h.1.1, ?_, h.2⟩
  intro r hr s hs x hx
  have := h.1.2 r hr
  simp only [hs, List.all_eq_true, Bool.not_eq_true'] at this
  exact this x hx

theorem scanOf_map_lower (r : Rule) (hl : ∀ s, r.lit = some s → ∀ x ∈ s, isLetterA x = false)
    (cs : List Char) : scanOf r (cs.map lowerAscii) = scanOf r cs := by
  unfold scanOf
  cases h : r.lit with
  | some s => simp only [scanLit, hasPrefix_map_lower s (hl s h)]
  | none => exact scanById_map_lower _ cs

theorem map_upper_map_lower (s : List Char) : (s.map lowerAscii).map upperAscii = s.map upperAscii := by
  simp only [List.map_map, Function.comp_def, upper_lower]

theorem kindOf_map_lower (cfg : LexCfg) (hu : cfg.idUpper = true) (r : Rule) (lexeme : List Char) :
    kindOf cfg r (lexeme.map lowerAscii) = kindOf cfg r lexeme := by
  unfold kindOf
  simp only [hu, if_true, map_upper_map_lower]

theorem firstMatch_map_lower {cfg : LexCfg} (hc : CaseOk cfg) (cs : List Char) :
    firstMatch cfg.rules (cs.map lowerAscii) = firstMatch cfg.rules cs :=
  firstMatch_congr (fun r hr => scanOf_map_lower r (hc.lits r hr) cs)

theorem lexRun_map_lower (cfg : LexCfg) (hc : CaseOk cfg) (fuel : Nat) (cs : List Char) (off line : Nat) :
    lexRun cfg fuel (cs.map lowerAscii) off line =
      ((lexRun cfg fuel cs off line).1.map lowTok, (lexRun cfg fuel cs off line).2.map lowerAscii) := by
  fun_induction lexRun cfg fuel cs off line with
  | case1 => rfl
  | case2 => rfl
  | case3 fuel c cs off line hig ih => rw [List.map_cons, lexRun, contains_lower _ hc.ignore, if_pos hig, ih]
  | case4 fuel c cs off line hig r n hfm lexeme line' res hret ih =>
    rw [List.map_cons, lexRun, contains_lower _ hc.ignore, if_neg hig, ← List.map_cons, firstMatch_map_lower hc,
      hfm]
    simp only [res, line', lexeme] at ih ⊢
    simp only [hret, if_true, ← List.map_take, ← List.map_drop, countNl_map_lower, List.length_map, ih, mkTok,
      kindOf_map_lower cfg hc.idUpper]
    rfl
  | case5 fuel c cs off line hig r n hfm lexeme line' res hret ih =>
    rw [List.map_cons, lexRun, contains_lower _ hc.ignore, if_neg hig, ← List.map_cons, firstMatch_map_lower hc,
      hfm]
    simp only [res, line', lexeme] at ih ⊢
    simp only [hret, Bool.false_eq_true, if_false, ← List.map_take, ← List.map_drop, countNl_map_lower,
      List.length_map, ih]
  | case6 fuel c cs off line hig hfm ih =>
    rw [List.map_cons, lexRun, contains_lower _ hc.ignore, if_neg hig, ← List.map_cons, firstMatch_map_lower hc,
      hfm, ih]

theorem lexWith_map_lower (cfg : LexCfg) (hc : CaseOk cfg) (text : List Char) :
    lexWith cfg (text.map lowerAscii) = (lexWith cfg text).map lowTok := by
  unfold lexWith
  rw [List.length_map, lexRun_map_lower cfg hc]

def respell (cfg : LexCfg) (text : List Char) (u : Tok) : Tok :=
  if isKwKind cfg u.kind then u else { u with lexeme := slice text u.start u.stop }

/-- what `normTok` keeps of a token is fixed by its case-blind image and the text it was cut from -/
theorem normTok_eq_respell (cfg : LexCfg) {text : List Char} {t : Tok} (h : TokOk text t) :
    normTok cfg t = respell cfg text (lowTok t) := by
  have hk : (lowTok t).kind = t.kind := rfl
  unfold normTok respell
  rw [hk]
  split
  · rfl
  · exact (congrArg (fun l => { t with lexeme := l }) h.lexeme : t = _)

theorem slice_map (f : Char → Char) (text : List Char) (a b : Nat) :
    (slice text a b).map f = slice (text.map f) a b := by
  unfold slice
  rw [List.map_take, List.map_drop]

end Pyx.OalLex
