import Proofs.Meta

/-! C02 on whole states.  `relate` / `unrelate` are the per-association operations of Proofs/Meta at the association
    `_find_link` returns (`relate_found`, `unrelate_found`); what an operation does to a state is said once, as a relation
    (`OnlyLinks` for relate, `Shrinks` for unrelate and the loops of `delete`), and each invariant (`Inv`, `PoolInv`,
    `LiveOnly`) is carried across the relation.  Then the referential reads: `getAttr_spec`, at every fuel above a bound
    that a rank on the reads (`ReadRank`) gives. -/
namespace Pyx.Meta

theorem state_links_id (s : State) (i : Nat) : { s with links := upd s.links i (s.links i) } = s := by
  cases s; simp [upd_id]

def Inv (sch : Schema) (s : State) : Prop := ∀ i, AInv (specAt sch i) (s.links i)

theorem inv_init (sch : Schema) : Inv sch init := fun _ =>
  ⟨fun _ _ => ⟨nofun, nofun⟩, ⟨fun _ => List.nodup_nil, fun _ => List.nodup_nil⟩, fun _ _ => Nat.zero_le 1,
    fun _ _ => Nat.zero_le 1⟩

theorem inv_upd {sch : Schema} {s : State} {i : Nat} {l : ALinks} (h : Inv sch s) (hl : AInv (specAt sch i) l) :
    Inv sch { s with links := upd s.links i l } := by
  intro j
  by_cases hj : j = i
  · subst hj; simpa [upd] using hl
  · simpa [upd, hj] using h j

theorem relate_unknown {sch : Schema} {s : State} {x y : Inst} {r p : String}
    (hf : findLink sch (s.kindOf x) (s.kindOf y) r p = none) : relate sch s x y r p = (s, .unknownLink) := by
  simp only [relate, hf]

theorem relate_found {sch : Schema} {s : State} {x y : Inst} {r p : String} {i : Nat} {d : Dir}
    (hf : findLink sch (s.kindOf x) (s.kindOf y) r p = some (i, d)) :
    relate sch s x y r p =
      if live s x ∧ live s y then
        ({ s with links := upd s.links i (relateOn (specAt sch i) (s.links i) (orient d x y).1 (orient d x y).2).1 },
          (relateOn (specAt sch i) (s.links i) (orient d x y).1 (orient d x y).2).2)
      else (s, .relateExc) := by
  simp only [relate, hf]

theorem unrelate_unknown {sch : Schema} {s : State} {x y : Inst} {r p : String}
    (hf : findLink sch (s.kindOf x) (s.kindOf y) r p = none) : unrelate sch s x y r p = (s, .unknownLink) := by
  simp only [unrelate, hf]

theorem unrelate_found {sch : Schema} {s : State} {x y : Inst} {r p : String} {i : Nat} {d : Dir}
    (hf : findLink sch (s.kindOf x) (s.kindOf y) r p = some (i, d)) :
    unrelate sch s x y r p =
      ({ s with links := upd s.links i (unrelateOn (s.links i) (orient d x y).1 (orient d x y).2).1 },
        (unrelateOn (s.links i) (orient d x y).1 (orient d x y).2).2) := by
  simp only [unrelate, hf]

theorem relate_of_live {sch : Schema} {s : State} {x y : Inst} (hx : live s x) (hy : live s y) (r p : String) :
    relate sch s x y r p = relateCore sch s x y r p := by
  unfold relate relateCore
  split
  · rfl
  · rw [if_pos ⟨hx, hy⟩]

theorem relate_not_live_fst {sch : Schema} {s : State} {x y : Inst} (h : ¬ (live s x ∧ live s y)) (r p : String) :
    (relate sch s x y r p).1 = s ∧ (relate sch s x y r p).2 ≠ .ok := by
  cases hf : findLink sch (s.kindOf x) (s.kindOf y) r p with
  | none => rw [relate_unknown hf]; exact ⟨rfl, nofun⟩
  | some id => rw [relate_found hf, if_neg h]; exact ⟨rfl, nofun⟩

structure OnlyLinks (s' s : State) : Prop where
  pool : s'.pool = s.pool
  kindOf : s'.kindOf = s.kindOf
  count : s'.count = s.count
  idOf : s'.idOf = s.idOf
  nextId : s'.nextId = s.nextId

theorem OnlyLinks.live {s' s : State} (h : OnlyLinks s' s) (x : Inst) : live s' x ↔ live s x := by
  unfold Meta.live; rw [h.pool, h.kindOf, h.count]

theorem relate_frame (sch : Schema) (s : State) (x y : Inst) (r p : String) : OnlyLinks (relate sch s x y r p).1 s := by
  unfold relate; split
  · exact ⟨rfl, rfl, rfl, rfl, rfl⟩
  · split <;> exact ⟨rfl, rfl, rfl, rfl, rfl⟩

theorem mem_relate_src {sch : Schema} {s : State} {x y : Inst} {r p : String} {j : Nat} {z w : Inst}
    (hm : w ∈ ((relate sch s x y r p).1.links j).src z) :
    w ∈ (s.links j).src z ∨ ∃ d, findLink sch (s.kindOf x) (s.kindOf y) r p = some (j, d) ∧
      (live s x ∧ live s y) ∧ z = (orient d x y).1 ∧ w = (orient d x y).2 := by
  cases hf : findLink sch (s.kindOf x) (s.kindOf y) r p with
  | none => rw [relate_unknown hf] at hm; exact Or.inl hm
  | some id =>
    obtain ⟨i, d⟩ := id
    rw [relate_found hf] at hm
    split at hm
    · rename_i hlv
      by_cases hj : j = i
      · subst hj
        simp only [upd_same] at hm
        exact (mem_relateOn_src hm).imp_right fun h => ⟨d, rfl, hlv, h⟩
      · simp only [upd_other _ _ hj] at hm; exact Or.inl hm
    · exact Or.inl hm

/-- what an `unrelate x …`, and so what the loops of `MetaClass.delete x`, do to a state: only the links change, partner
    lists lose members but no pair that does not involve `x`, and the invariant is kept -/
structure Shrinks (sch : Schema) (x : Inst) (s' s : State) : Prop extends OnlyLinks s' s where
  links : ∀ j, Erased x (s'.links j).src (s.links j).src ∧ Erased x (s'.links j).tgt (s.links j).tgt
  inv : Inv sch s → Inv sch s'

theorem Shrinks.refl (sch : Schema) (x : Inst) (s : State) : Shrinks sch x s s :=
  ⟨⟨rfl, rfl, rfl, rfl, rfl⟩, fun _ => ⟨.refl x _, .refl x _⟩, id⟩

theorem Shrinks.trans {sch : Schema} {x : Inst} {a b c : State} (h1 : Shrinks sch x a b) (h2 : Shrinks sch x b c) :
    Shrinks sch x a c :=
  ⟨⟨h1.pool.trans h2.pool, h1.kindOf.trans h2.kindOf, h1.count.trans h2.count, h1.idOf.trans h2.idOf,
    h1.nextId.trans h2.nextId⟩, fun j => ⟨(h1.links j).1.trans (h2.links j).1, (h1.links j).2.trans (h2.links j).2⟩,
    fun h => h1.inv (h2.inv h)⟩

theorem Shrinks.src {sch : Schema} {x : Inst} {s' s : State} (h : Shrinks sch x s' s) {j : Nat} {z w : Inst}
    (hm : w ∈ (s'.links j).src z) : w ∈ (s.links j).src z := ((h.links j).1 z).1.subset hm

theorem unrelate_shrinks (sch : Schema) (s : State) (x y : Inst) (r p : String) :
    Shrinks sch x (unrelate sch s x y r p).1 s := by
  cases hf : findLink sch (s.kindOf x) (s.kindOf y) r p with
  | none => rw [unrelate_unknown hf]; exact .refl sch x s
  | some id =>
    obtain ⟨i, d⟩ := id
    rw [unrelate_found hf]
    refine ⟨⟨rfl, rfl, rfl, rfl, rfl⟩, fun j => ?_, fun h => inv_upd h (unrelateOn_inv (h _))⟩
    by_cases hj : j = i
    · subst hj
      simp only [upd_same]
      -- whichever way `_find_link` orients the pair, `x` is one of the two
      exact erased_unrelateOn _ (match d with | .fwd => .inl rfl | .rev => .inr rfl)
    · simp only [upd_other _ _ hj]; exact ⟨.refl x _, .refl x _⟩

theorem unrelateAll_shrinks (sch : Schema) (x : Inst) (r p : String) (ys : List Inst) (s : State) :
    Shrinks sch x (unrelateAll sch x r p ys s).1 s := by
  induction ys generalizing s with
  | nil => exact .refl sch x s
  | cons y ys ih =>
    rw [unrelateAll]
    split
    · exact (ih _).trans (unrelate_shrinks sch s x y r p)
    · exact unrelate_shrinks sch s x y r p

theorem deleteLinks_shrinks (sch : Schema) (x : Inst) (ls : List (Nat × Bool × String)) (s : State) :
    Shrinks sch x (deleteLinks sch x ls s).1 s := by
  induction ls generalizing s with
  | nil => exact .refl sch x s
  | cons e rest ih =>
    have h1 := unrelateAll_shrinks sch x (specAt sch e.1).rel e.2.2 (if e.2.1 then (s.links e.1).src x else (s.links e.1).tgt x) s
    rw [deleteLinks]
    generalize unrelateAll sch x _ _ _ s = r1 at h1 ⊢
    split
    · exact (ih _).trans h1
    · exact h1

/-- what a delete does in any state, accepted or not: everything but the pool and the links stays, and the links only
    lose members -/
theorem delete_shrinks (sch : Schema) (s : State) (x : Inst) :
    Shrinks sch x (delete sch s x).1 { s with pool := (delete sch s x).1.pool } := by
  unfold delete
  split
  · have h := deleteLinks_shrinks sch x (linksOf sch (s.kindOf x))
      { s with pool := upd s.pool (s.kindOf x) ((s.pool (s.kindOf x)).erase x) }
    rw [h.pool]; exact h
  · exact .refl sch x s

theorem delete_inv {sch : Schema} {s : State} (h : Inv sch s) (x : Inst) : Inv sch (delete sch s x).1 :=
  (delete_shrinks sch s x).inv h

theorem step_inv {sch : Schema} {s : State} (h : Inv sch s) (op : Op) : Inv sch (step sch s op).1 := by
  cases op with
  | new k hid => exact h
  | relate x y r p =>
    show Inv sch (relate sch s x y r p).1
    unfold relate
    split
    · exact h
    · split
      · exact inv_upd h (relateOn_inv (h _))
      · exact h
  | unrelate x y r p => exact (unrelate_shrinks sch s x y r p).inv h
  | delete x => exact delete_inv h x

theorem run_inv_from (sch : Schema) : ∀ (ops : List Op) (s : State), Inv sch s →
    Inv sch (ops.foldl (fun s op => (step sch s op).1) s) :=
  fun ops _ h => List.foldlRecOn ops _ h fun _ h op _ => step_inv h op

theorem relate_reject_atomic {sch : Schema} {s : State} (h : Inv sch s) {x y : Inst} {r p : String}
    (hr : (relate sch s x y r p).2 ≠ .ok) : (relate sch s x y r p).1 = s := by
  cases hf : findLink sch (s.kindOf x) (s.kindOf y) r p with
  | none => rw [relate_unknown hf]
  | some id =>
    rw [relate_found hf] at hr ⊢
    split
    · rw [if_pos ‹_›] at hr
      rw [relateOn_reject_atomic (h _).1 ((relateOn_out ..).resolve_left hr)]
      exact state_links_id s _
    · rfl

theorem unrelate_reject_atomic {sch : Schema} {s : State} (h : Inv sch s) {x y : Inst} {r p : String}
    (hr : (unrelate sch s x y r p).2 ≠ .ok) : (unrelate sch s x y r p).1 = s := by
  cases hf : findLink sch (s.kindOf x) (s.kindOf y) r p with
  | none => rw [unrelate_unknown hf]
  | some id =>
    rw [unrelate_found hf] at hr ⊢
    rw [unrelateOn_reject_atomic (h _).1 ((unrelateOn_out ..).resolve_left hr)]
    exact state_links_id s _

theorem relate_idempotent {sch : Schema} {s : State} (h : Inv sch s) {x y : Inst} {r p : String} {i : Nat} {d : Dir}
    (hf : findLink sch (s.kindOf x) (s.kindOf y) r p = some (i, d))
    (hrel : (orient d x y).2 ∈ (s.links i).src (orient d x y).1) (hx : live s x) (hy : live s y) :
    relate sch s x y r p = (s, .ok) := by
  rw [relate_found hf, if_pos ⟨hx, hy⟩, relateOn_idempotent (h i).1 hrel, state_links_id]

theorem unrelate_undoes_relate {sch : Schema} {s s' : State} (h : Inv sch s) {x y : Inst} {r p : String}
    {i : Nat} {d : Dir}
    (hf : findLink sch (s.kindOf x) (s.kindOf y) r p = some (i, d))
    (hnew : (orient d x y).2 ∉ (s.links i).src (orient d x y).1)
    (hr : relate sch s x y r p = (s', .ok)) : unrelate sch s' x y r p = (s, .ok) := by
  rw [relate_found hf] at hr
  split at hr
  case isFalse => cases hr
  obtain ⟨rfl, hok⟩ := Prod.mk.inj hr
  have hun := unrelateOn_undoes_relateOn (h i).1 hnew (Prod.ext rfl hok)
  rw [unrelate_found (s := { s with links := upd s.links i _ }) (i := i) (d := d) hf]
  simp only [upd_same, hun, upd_upd, state_links_id]

def PoolInv (s : State) : Prop :=
  ∀ k, (s.pool k).Nodup ∧ ∀ x ∈ s.pool k, x < s.count ∧ s.kindOf x = k

theorem OnlyLinks.poolInv {s' s : State} (h : OnlyLinks s' s) (hp : PoolInv s) : PoolInv s' := fun k => by
  rw [h.pool, h.kindOf, h.count]; exact hp k

theorem poolInv_init : PoolInv init := fun _ => ⟨List.nodup_nil, fun _ h => nomatch h⟩

theorem delete_dead_rejected (sch : Schema) (s : State) (x : Inst) (h : ¬ live s x) :
    delete sch s x = (s, .deleteExc) := by
  unfold delete
  rw [if_neg fun hc => h ⟨hc.2, hc.1⟩]

theorem delete_of_live {sch : Schema} {s : State} {x : Inst} (h : live s x) :
    delete sch s x = deleteLinks sch x (linksOf sch (s.kindOf x))
      { s with pool := upd s.pool (s.kindOf x) ((s.pool (s.kindOf x)).erase x) } := by
  unfold delete
  rw [if_pos ⟨h.2, h.1⟩]

theorem delete_makes_dead {sch : Schema} {s : State} (hp : PoolInv s) {x : Inst} (hl : live s x) :
    ¬ live (delete sch s x).1 x := by
  intro hlive
  have h2 := hlive.2
  rw [delete_of_live hl, (deleteLinks_shrinks ..).pool, (deleteLinks_shrinks ..).kindOf] at h2
  exact ((mem_upd_erase (hp _).1).1 h2).2 ⟨rfl, rfl⟩

theorem delete_twice_rejected {sch : Schema} {s : State} (hp : PoolInv s) (x : Inst) :
    delete sch (delete sch s x).1 x = ((delete sch s x).1, .deleteExc) := by
  by_cases hl : live s x
  · exact delete_dead_rejected sch _ x (delete_makes_dead hp hl)
  · rw [delete_dead_rejected sch s x hl]
    exact delete_dead_rejected sch s x hl

theorem step_poolInv {sch : Schema} {s : State} (hp : PoolInv s) (op : Op) : PoolInv (step sch s op).1 := by
  cases op with
  | new k hid =>
    show PoolInv (new s k hid).1
    intro k'
    -- every member of every pool is below `count`: the fresh index `count` is in no pool and overwrites no member's kind
    have hold : ∀ x ∈ s.pool k', x < s.count + 1 ∧ upd s.kindOf s.count k x = k' := fun x hx =>
      ⟨Nat.lt_succ_of_lt ((hp k').2 x hx).1, by rw [upd_other _ _ (Nat.ne_of_lt ((hp k').2 x hx).1)]; exact ((hp k').2 x hx).2⟩
    show (upd s.pool k (s.pool k ++ [s.count]) k').Nodup ∧
      ∀ x ∈ upd s.pool k (s.pool k ++ [s.count]) k', x < s.count + 1 ∧ upd s.kindOf s.count k x = k'
    by_cases hk : k' = k
    · subst hk
      rw [upd_same]
      refine ⟨nodup_snoc (hp k').1 fun hm => Nat.lt_irrefl _ ((hp k').2 _ hm).1, fun x hx => ?_⟩
      rcases List.mem_append.1 hx with hx | hx
      · exact hold x hx
      · rw [List.mem_singleton.1 hx, upd_same]; exact ⟨Nat.lt_succ_self _, rfl⟩
    · rw [upd_other _ _ hk]
      exact ⟨(hp k').1, hold⟩
  | relate x y r p => exact (relate_frame sch s x y r p).poolInv hp
  | unrelate x y r p => exact (unrelate_shrinks sch s x y r p).toOnlyLinks.poolInv hp
  | delete x =>
    show PoolInv (delete sch s x).1
    by_cases hl : live s x
    case neg => rw [delete_dead_rejected sch s x hl]; exact hp
    intro k
    rw [delete_of_live hl, (deleteLinks_shrinks ..).pool, (deleteLinks_shrinks ..).kindOf, (deleteLinks_shrinks ..).count]
    by_cases hk : k = s.kindOf x
    · subst hk
      simp only [upd_same]
      exact ⟨(hp _).1.erase x, fun z hz => (hp _).2 z (List.mem_of_mem_erase hz)⟩
    · simp only [upd_other _ _ hk]; exact hp k

theorem run_poolInv_from (sch : Schema) : ∀ (ops : List Op) (s : State), PoolInv s →
    PoolInv (ops.foldl (fun s op => (step sch s op).1) s) :=
  fun ops _ h => List.foldlRecOn ops _ h fun _ h op _ => step_poolInv h op

theorem findLinkFrom_sound {k1 k2 : Kind} {rel phrase : String} (sch : Schema) (n i : Nat) (d : Dir)
    (h : findLinkFrom k1 k2 rel phrase n sch = some (i, d)) :
    ∃ a, sch[i - n]? = some a ∧ n ≤ i ∧ a.rel = rel ∧
      (d = .fwd → a.tgtKind = k1 ∧ a.srcKind = k2 ∧ a.tgtPhrase = phrase) ∧
      (d = .rev → a.srcKind = k1 ∧ a.tgtKind = k2 ∧ a.srcPhrase = phrase) := by
  induction sch generalizing n with
  | nil => exact nomatch h
  | cons a rest ih =>
    -- a hit in the rest is the same hit one index on; `n ≤ i` is carried only for that shift
    have tail (h : findLinkFrom k1 k2 rel phrase (n + 1) rest = some (i, d)) :
        ∃ b, (a :: rest)[i - n]? = some b ∧ n ≤ i ∧ _ :=
      let ⟨b, hb, hn, hrest⟩ := ih (n + 1) h
      ⟨b, by rw [show i - n = (i - (n + 1)) + 1 by omega]; exact hb, Nat.le_of_succ_le hn, hrest⟩
    rw [findLinkFrom] at h
    by_cases h0 : a.rel ≠ rel
    · rw [if_pos h0] at h; exact tail h
    rw [if_neg h0] at h
    by_cases h1 : a.tgtKind = k1 ∧ a.srcKind = k2 ∧ a.tgtPhrase = phrase
    · rw [if_pos h1] at h; cases h
      exact ⟨a, by rw [Nat.sub_self]; rfl, Nat.le_refl _, Decidable.not_not.1 h0, fun _ => h1, nofun⟩
    rw [if_neg h1] at h
    by_cases h2 : a.srcKind = k1 ∧ a.tgtKind = k2 ∧ a.srcPhrase = phrase
    · rw [if_pos h2] at h; cases h
      exact ⟨a, by rw [Nat.sub_self]; rfl, Nat.le_refl _, Decidable.not_not.1 h0, nofun, fun _ => h2⟩
    · rw [if_neg h2] at h; exact tail h

def LiveOnly (s : State) : Prop := ∀ i x y, y ∈ (s.links i).src x → live s x ∧ live s y

theorem Shrinks.liveOnly {sch : Schema} {u : Inst} {s s' : State} (h : Shrinks sch u s' s) (hl : LiveOnly s) : LiveOnly s' :=
  fun i x y hm =>
    have := hl i x y (h.src hm)
    ⟨(h.live x).2 this.1, (h.live y).2 this.2⟩

theorem relate_liveOnly {sch : Schema} {s : State} (hl : LiveOnly s) {x y : Inst} {r p : String} :
    LiveOnly (relate sch s x y r p).1 := by
  intro j z w hm
  rw [(relate_frame sch s x y r p).live, (relate_frame sch s x y r p).live]
  rcases mem_relate_src hm with h | ⟨d, _, hlv, rfl, rfl⟩
  · exact hl j z w h
  · cases d
    · exact hlv
    · exact hlv.symm

theorem new_liveOnly {s : State} (_ : PoolInv s) (hl : LiveOnly s) (k : Kind) (hid : Bool) :
    LiveOnly (new s k hid).1 := by
  suffices hmono : ∀ u, live s u → live (new s k hid).1 u from fun j z w hm => ⟨hmono z (hl j z w hm).1, hmono w (hl j z w hm).2⟩
  intro u hu
  refine ⟨Nat.lt_succ_of_lt hu.1, ?_⟩
  show u ∈ upd s.pool k (s.pool k ++ [s.count]) (upd s.kindOf s.count k u)
  rw [upd_other _ _ (Nat.ne_of_lt hu.1)]
  exact mem_upd_append.2 (.inl hu.2)

theorem getAttr_own (sch : Schema) (at_ : Attrs) (s : State) (f : Nat) (x : Inst) (name : String)
    (h : formalFrom (s.kindOf x) name 0 sch = []) :
    getAttr sch at_ s (f + 1) x name = if at_.idName (s.kindOf x) = some name then some (s.idOf x) else none := by
  simp [getAttr, h]

/-- a referential attribute formalised by exactly one association reads as the identifying attribute of
    the linked instance, and as unset when unlinked -/
theorem getAttr_single (sch : Schema) (at_ : Attrs) (s : State) (f : Nat) (x : Inst) (name pk : String) (i : Nat)
    (h : formalFrom (s.kindOf x) name 0 sch = [(i, pk)]) :
    getAttr sch at_ s (f + 2) x name =
      match ((s.links i).tgt x).head? with
      | some other => getAttr sch at_ s f other pk
      | none => none := by
  simp only [getAttr, h, List.reverse_cons, List.reverse_nil, List.nil_append, readLayers]
  cases ((s.links i).tgt x).head? <;> rfl

theorem formalFrom_eq_flatMap (k : Kind) (attr : String) (sch : Schema) (n : Nat) : formalFrom k attr n sch =
    (sch.zipIdx n).flatMap fun q =>
      if q.1.srcKind = k then ((keyPairs q.1).filter (fun p => p.1 = attr)).map (fun p => (q.2, p.2)) else [] := by
  induction sch generalizing n with
  | nil => rfl
  | cons a rest ih => rw [formalFrom, ih, List.zipIdx_cons, List.flatMap_cons]

theorem mem_formalFrom {k : Kind} {attr : String} {sch : Schema} {i : Nat} {pk : String}
    (h : (i, pk) ∈ formalFrom k attr 0 sch) : ∃ a, sch[i]? = some a ∧ a.srcKind = k ∧ (attr, pk) ∈ keyPairs a := by
  rw [formalFrom_eq_flatMap, List.mem_flatMap] at h
  obtain ⟨⟨a, j⟩, hm, h⟩ := h
  split at h
  · obtain ⟨p, hp, he⟩ := List.mem_map.1 h
    obtain ⟨hp', hpa⟩ := List.mem_filter.1 hp
    obtain ⟨rfl, rfl⟩ := Prod.mk.inj he
    exact ⟨a, List.mk_mem_zipIdx_iff_getElem?.1 hm, ‹_›, of_decide_eq_true hpa ▸ hp'⟩
  · cases h

/-- an upper bound for the number of property layers of any attribute: the number of referential keys in the schema -/
def layerBound (sch : Schema) : Nat := (sch.map (fun a => a.srcKeys.length)).sum

theorem formalFrom_length_le (k : Kind) (attr : String) (sch : Schema) (i : Nat) :
    (formalFrom k attr i sch).length ≤ layerBound sch := by
  induction sch generalizing i with
  | nil => exact Nat.le_refl 0
  | cons a rest ih =>
    replace ih : _ ≤ (rest.map (fun a => a.srcKeys.length)).sum := ih (i + 1)
    have hf : ((keyPairs a).filter (fun p => decide (p.1 = attr))).length ≤ a.srcKeys.length :=
      Nat.le_trans (List.length_filter_le _ _) (by unfold keyPairs; rw [List.length_zip]; exact Nat.min_le_left _ _)
    show (formalFrom k attr i (a :: rest)).length ≤ ((a :: rest).map (fun a => a.srcKeys.length)).sum
    rw [formalFrom, List.length_append, List.map_cons, List.sum_cons]
    split
    · rw [List.length_map]; omega
    · rw [List.length_nil]; omega

/-- `bnd K r = (r + 1) * K` (`bnd_eq`), written additively so that `bnd K (r + 1) = bnd K r + K` holds by `rfl` -/
def bnd (K : Nat) : Nat → Nat
  | 0 => K
  | r + 1 => bnd K r + K

theorem bnd_eq (K : Nat) : ∀ r, bnd K r = (r + 1) * K
  | 0 => (Nat.one_mul K).symm
  | r + 1 => by rw [bnd, bnd_eq K r, Nat.succ_mul (r + 1) K]

/-- the value a chain of property layers yields, given the (converged) values `V` of the partners' attributes: the
    first layer across which the instance has a partner decides; unset when there is none -/
def readSpec (V : Inst → String → Option Nat) (s : State) (x : Inst) : List (Nat × String) → Option Nat
  | [] => none
  | (i, pk) :: rest =>
    match ((s.links i).tgt x).head? with
    | some o => V o pk
    | none => readSpec V s x rest

/-- ACYCLICITY of the referential reads as a rank on INSTANCES that decreases along every target link.  It is
    stronger than needed (a ring of instances whose referential attribute reads the partner's OWN id has no such rank although
    every read ends after one step); the theorems below use `ReadRank`, which this implies (`readRank_of_rankDecreases`) -/
def RankDecreases (s : State) (rk : Inst → Nat) : Prop :=
  ∀ i x o, ((s.links i).tgt x).head? = some o → rk o < rk x

/-- ACYCLICITY of the referential reads on READ STATES (instance, attribute): the rank drops from the read of `x.name` to the
    read it continues with — `o.pk`, for a layer `(i, pk)` of `name` on the class of `x` across which `x` has the partner `o`.
    Links that the read of no attribute follows, and partners whose `pk` is not referential (the read ends there), put no
    constraint on the rank. -/
def ReadRank (sch : Schema) (s : State) (rk : Inst → String → Nat) : Prop :=
  ∀ x name i pk o, (i, pk) ∈ formalFrom (s.kindOf x) name 0 sch → ((s.links i).tgt x).head? = some o → rk o pk < rk x name

theorem readRank_of_rankDecreases (sch : Schema) (s : State) (rk : Inst → Nat) (h : RankDecreases s rk) :
    ReadRank sch s (fun x _ => rk x) :=
  fun x _ i _ o _ ho => h i x o ho

/-- the converged value of an attribute -/
def readValue (sch : Schema) (at_ : Attrs) (s : State) (rk : Inst → String → Nat) (x : Inst) (name : String) : Option Nat :=
  getAttr sch at_ s (bnd (layerBound sch + 2) (rk x name)) x name

theorem readLayers_spec (sch : Schema) (at_ : Attrs) (s : State) (rk : Inst → String → Nat) (hdec : ReadRank sch s rk)
    (x : Inst) (name : String) (Bo : Nat)
    (ih : ∀ o pk, rk o pk < rk x name → ∀ f, Bo ≤ f → getAttr sch at_ s f o pk = readValue sch at_ s rk o pk)
    (layers : List (Nat × String)) (hsub : ∀ q ∈ layers, q ∈ formalFrom (s.kindOf x) name 0 sch)
    (g : Nat) (h : layers.length + Bo ≤ g) :
    readLayers sch at_ s g x layers = readSpec (readValue sch at_ s rk) s x layers := by
  induction layers generalizing g with
  | nil => cases g <;> rfl
  | cons q rest ihl =>
    obtain ⟨i, pk⟩ := q
    rw [List.length_cons] at h
    obtain _ | g := g
    · omega
    unfold readLayers readSpec
    cases ho : ((s.links i).tgt x).head? with
    | some o => exact ih o pk (hdec x name i pk o (hsub _ List.mem_cons_self) ho) g (by omega)
    | none =>
      cases rest with
      | nil => rfl
      | cons q qs => exact ihl (fun q' hq' => hsub q' (List.mem_cons_of_mem _ hq')) g (by omega)

/-- THE referential-read clause, for a general layer list and EVERY sufficient fuel: an attribute that no association
    formalises reads the instance's own id (or is unset); a referential attribute reads the (converged) identifying value
    of the partner across the outermost layer that has a partner, and is unset when no layer has one.
    By induction on the rank; a read of rank `n` gets `(n + 1) * K` fuel, of which `n * K` is handed to reads of
    smaller rank and `K = layerBound + 2` covers the layers of this one. -/
theorem getAttr_spec (sch : Schema) (at_ : Attrs) (s : State) (rk : Inst → String → Nat) (hdec : ReadRank sch s rk)
    (x : Inst) (name : String) (fuel : Nat) (hf : bnd (layerBound sch + 2) (rk x name) ≤ fuel) :
    getAttr sch at_ s fuel x name =
      match (formalFrom (s.kindOf x) name 0 sch).reverse with
      | [] => if at_.idName (s.kindOf x) = some name then some (s.idOf x) else none
      | layers => readSpec (readValue sch at_ s rk) s x layers := by
  induction hn : rk x name using Nat.strongRecOn generalizing x name fuel with
  | _ n IH =>
    subst hn
    rw [bnd_eq, Nat.succ_mul] at hf
    obtain ⟨g, rfl⟩ : ∃ g, fuel = g + 1 := ⟨fuel - 1, by omega⟩
    unfold getAttr
    have hlen := formalFrom_length_le (s.kindOf x) name sch 0
    rw [← List.length_reverse] at hlen
    have hsub : ∀ q ∈ (formalFrom (s.kindOf x) name 0 sch).reverse, q ∈ formalFrom (s.kindOf x) name 0 sch :=
      fun q hq => List.mem_reverse.mp hq
    cases hl : (formalFrom (s.kindOf x) name 0 sch).reverse with
    | nil => rfl
    | cons q qs =>
      rw [hl] at hlen hsub
      refine readLayers_spec sch at_ s rk hdec x name (rk x name * (layerBound sch + 2)) (fun o pk ho f hfo => ?_)
        _ hsub g (by omega)
      have hb : bnd (layerBound sch + 2) (rk o pk) ≤ rk x name * (layerBound sch + 2) := by
        rw [bnd_eq]; exact Nat.mul_le_mul_right _ ho
      unfold readValue
      -- the read at fuel `f` and the converged value are both the spec of the smaller read, hence equal
      rw [IH _ ho o pk f (Nat.le_trans hb hfo) rfl, IH _ ho o pk _ (Nat.le_refl _) rfl]

theorem getAttr_stable (sch : Schema) (at_ : Attrs) (s : State) (rk : Inst → String → Nat) (hdec : ReadRank sch s rk) :
    ∀ (n : Nat) (x : Inst) (name : String), rk x name = n → ∀ f1 f2, bnd (layerBound sch + 2) n ≤ f1 →
      bnd (layerBound sch + 2) n ≤ f2 → getAttr sch at_ s f1 x name = getAttr sch at_ s f2 x name := by
  intro n x name hn f1 f2 h1 h2
  subst hn
  rw [getAttr_spec sch at_ s rk hdec x name f1 h1, getAttr_spec sch at_ s rk hdec x name f2 h2]

/-- THE fuel the drivers give a referential read (one definition, used by Driver/C02.lean and by `driver_fuel_sufficient`):
    enough for every read whose rank is at most `s.count + layerBound sch` — instance ranks (at most the number of instances)
    and attribute ranks (at most the number of referential keys) both are -/
def driverFuel (sch : Schema) (s : State) : Nat := (s.count + layerBound sch + 1) * (layerBound sch + 2)

/-- a rank on the ATTRIBUTES of the schema that drops along every key pair: the referential keys do not refer to one another
    in a cycle (`A.B_Id → B.Id → C.Id` is fine, `N.Next_Id → N.Next_Id` is not) -/
def AttrRank (sch : Schema) (ar : Kind → String → Nat) : Prop :=
  ∀ a ∈ sch, ∀ p ∈ keyPairs a, ar a.tgtKind p.2 < ar a.srcKind p.1

/-- partners across association `i` are of its target kind (what `relate` establishes: it finds the association from the
    kinds of its two arguments) -/
def KindsOk (sch : Schema) (s : State) : Prop :=
  ∀ i a x o, sch[i]? = some a → ((s.links i).tgt x).head? = some o → s.kindOf o = a.tgtKind

/-- in a well-kinded state a schema-level attribute rank is a read rank: the acyclicity hypothesis then is a property of the
    SCHEMA, the same for every state (rings and self-links of instances included) -/
theorem readRank_of_attrRank (sch : Schema) (s : State) (ar : Kind → String → Nat) (har : AttrRank sch ar)
    (hk : KindsOk sch s) : ReadRank sch s (fun x name => ar (s.kindOf x) name) := by
  intro x name i pk o hmem ho
  obtain ⟨a, ha, hsrc, hp⟩ := mem_formalFrom hmem
  show ar (s.kindOf o) pk < ar (s.kindOf x) name
  rw [hk i a x o ha ho, ← hsrc]
  exact har a (List.mem_of_getElem? ha) (name, pk) hp

end Pyx.Meta
