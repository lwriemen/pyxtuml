import PyxModel.Sql.Loader
import Gen.BuildShape

/-!
  C12 source tie of the four tables of Gen/BuildShape.lean: interpreters of
  * `populateOrder` (the phase order `ModelLoader.populate` states),
  * `buildMetamodel` (the statement list of `ModelLoader.build_metamodel`; `bmStmt` knows six statement texts, over the
    local names `v0` and `v1`, every other text is `unknown`),
  * `inputSteps` (the order of "parse the whole text" / "extend self.statements" in `ModelLoader.input`),
  * `associationCalls` (the calls `populate_associations` makes per CREATE ROP statement),
  and the lemmas showing that the hand-written model (`build`, `Loader.input`, `popAssocs`) equals that interpretation
  of the generated tables, for all inputs.

  In the last three interpreters `none` stands for an outcome the model does not have (a statement form the interpreter
  does not know, a name read before it is bound - NameError -, a function that ends without `return`).
-/
namespace Pyx.Sql
open Gen.BuildShape (Phase)

/-- the model of each `populate_<phase>` method (`populate_connections` changes neither classes, identifiers,
    associations nor rows; the links it creates are `linksOf`, PyxModel/Sql/Links.lean; the one place where it can raise
    is `connRaises`) -/
def phaseFn (u : UC) (stmts : List Stmt) : Phase → BState → Except BuildErr BState
  | .classes => popClasses u stmts
  | .unique_identifiers => popIdents u stmts
  | .associations => popAssocs u stmts
  | .instances => popInstances u stmts
  | .connections => popConnections u

/-- run phases in a given order; the first exception ends the build -/
def runPhases (u : UC) (stmts : List Stmt) : List Phase → BState → Except BuildErr BState
  | [], s => .ok s
  | p :: ps, s =>
    match phaseFn u stmts p s with
    | .ok s' => runPhases u stmts ps s'
    | .error e => .error e

theorem build_eq_runPhases (u : UC) (stmts : List Stmt) :
    build u stmts = runPhases u stmts Gen.BuildShape.populateOrder BState.empty := by
  unfold build buildPhases buildCore
  simp only [Gen.BuildShape.populateOrder, runPhases, phaseFn]
  cases popClasses u stmts BState.empty with
  | error e => rfl
  | ok s1 =>
    simp only
    cases popIdents u stmts s1 with
    | error e => rfl
    | ok s2 =>
      simp only
      cases popAssocs u stmts s2 with
      | error e => rfl
      | ok s3 =>
        simp only
        cases popInstances u stmts s3 with
        | error e => rfl
        | ok s4 =>
          simp only
          cases popConnections u s4 <;> rfl

/-- the statement forms `build_metamodel` may consist of (over the translator's normalised local names) -/
inductive BMStmt where
  | create (v : String)        -- v = xtuml.MetaModel(id_generator)
  | populate (v : String)      -- self.populate(v)
  | ret (v : String)           -- return v
  | unknown
  deriving DecidableEq, Repr

def bmStmt : String → BMStmt
  | "v0 = xtuml.MetaModel(id_generator)" => .create "v0"
  | "v1 = xtuml.MetaModel(id_generator)" => .create "v1"
  | "self.populate(v0)" => .populate "v0"
  | "self.populate(v1)" => .populate "v1"
  | "return v0" => .ret "v0"
  | "return v1" => .ret "v1"
  | _ => .unknown

abbrev BMEnv := List (String × BState)

def bmGet (env : BMEnv) (v : String) : Option BState := (env.find? (fun p => p.1 == v)).map (·.2)

/-- `v = value` / mutation of the object bound to `v` -/
def bmSet (env : BMEnv) (v : String) (m : BState) : BMEnv := (v, m) :: env.filter (fun p => !(p.1 == v))

/-- run the statements of `build_metamodel`; `populate` is the generic phase runner on the generated phase order, it
    mutates the metamodel bound to its argument; an exception it raises ends the function (there is no handler in the
    statement list): NOTHING is returned, whatever the earlier phases did to the metamodel is unreachable -/
def iBuildMetamodel (u : UC) (stmts : List Stmt) (order : List Phase) : List String → BMEnv → Option (Except BuildErr BState)
  | [], _ => none
  | st :: rest, env =>
    match bmStmt st with
    | .create v => iBuildMetamodel u stmts order rest (bmSet env v BState.empty)
    | .populate v =>
      match bmGet env v with
      | none => none
      | some m =>
        match runPhases u stmts order m with
        | .error e => some (.error e)
        | .ok m' => iBuildMetamodel u stmts order rest (bmSet env v m')
    | .ret v => (bmGet env v).map .ok
    | .unknown => none

theorem build_eq_iBuildMetamodel (u : UC) (stmts : List Stmt) :
    iBuildMetamodel u stmts Gen.BuildShape.populateOrder Gen.BuildShape.buildMetamodel [] = some (build u stmts) := by
  rw [build_eq_runPhases]
  simp only [Gen.BuildShape.buildMetamodel, iBuildMetamodel, bmStmt, bmSet, bmGet]
  cases h : runPhases u stmts Gen.BuildShape.populateOrder BState.empty with
  | error e => simp [h]
  | ok m => simp [h]

theorem runPhases_append (u : UC) (stmts : List Stmt) (post : List Phase) :
    ∀ (pre : List Phase) (s s' : BState), runPhases u stmts pre s = .ok s' →
      runPhases u stmts (pre ++ post) s = runPhases u stmts post s' := by
  intro pre
  induction pre with
  | nil =>
    intro s s' h
    simp only [runPhases, Except.ok.injEq] at h
    subst h; rfl
  | cons q pre ih =>
    intro s s' h
    simp only [List.cons_append, runPhases] at h ⊢
    cases hq : phaseFn u stmts q s with
    | error e' => simp [hq] at h
    | ok s1 =>
      simp only [hq] at h ⊢
      exact ih s1 s' h

/-- the generic phase runner, split at the first phase that raises: the phases before it ran (on the metamodel that is
    then dropped), the phases after it never run, and the exception is the result -/
theorem runPhases_raises (u : UC) (stmts : List Stmt) (p : Phase) (post : List Phase) (e : BuildErr)
    (pre : List Phase) (s s' : BState) (h : runPhases u stmts pre s = .ok s') (he : phaseFn u stmts p s' = .error e) :
    runPhases u stmts (pre ++ p :: post) s = .error e := by
  rw [runPhases_append u stmts _ pre s s' h, runPhases, he]

/-- `input`'s steps: `v = self.parser.parse(… input=data …)` parses the WHOLE text (an exception ends the call: the steps
    after it do not run), `self.statements.extend(v)` appends what `v` is bound to -/
def iInputSteps (u : UC) (text : Text) : List (String × String) → Loader → List (String × List Stmt) → Option (Loader × InputOutcome)
  | [], l, _ => some (l, .accepted)
  | (step, v) :: rest, l, env =>
    if step = "parse" then
      match classify u text with
      | .parsing => some (l, .parsing)
      | .accepted stmts => iInputSteps u text rest l ((v, stmts) :: env.filter (fun p => !(p.1 == v)))
    else if step = "extend" then
      match env.find? (fun p => p.1 == v) with
      | none => none
      | some p => iInputSteps u text rest ⟨l.statements ++ p.2⟩ env
    else none

theorem input_eq_iInputSteps (u : UC) (l : Loader) (text : Text) :
    iInputSteps u text Gen.BuildShape.inputSteps l [] = some (l.input u text) := by
  unfold Loader.input
  simp only [Gen.BuildShape.inputSteps, iInputSteps]
  cases h : classify u text with
  | parsing => simp
  | accepted stmts => simp

/-- `MetaModel.define_association`: both classes are looked up, a reserved referential name, key lists of different
    lengths and a target key that names no attribute are refused, otherwise the association is recorded and returned -/
def defineAssocCall (u : UC) (s : BState) (a : AssocB) : Except BuildErr (BState × AssocB) :=
  match s.find? u a.srcKind, s.find? u a.tgtKind with
  | some _, some t =>
    if a.srcKeys.any isDunder then .error .metaErr
    else if a.srcKeys.length != a.tgtKeys.length then .error .metaErr
    else if a.tgtKeys.all (fun k => (t.attrs.map (fun x => u.upper x.1)).contains (u.upper k)) then
      .ok ({ s with assocs := s.assocs ++ [a] }, a)
    else .error .metaErr
  | _, _ => .error .metaErr

/-- `Association.formalize`: the source keys become referential attributes of the source class (it raises nothing) -/
def formalizeCall (u : UC) (s : BState) (a : AssocB) : BState :=
  s.update u a.srcKind (fun c => { c with referential := c.referential ++ a.srcKeys })

/-- the calls made for ONE CREATE ROP statement, in the listed order; `ass` = the association `define_association`
    returned (`formalize` is a method of it: without it, `none`) -/
def iAssocCalls (u : UC) (a : AssocB) : List String → BState → Option AssocB → Option (Except BuildErr BState)
  | [], s, _ => some (.ok s)
  | call :: rest, s, ass =>
    if call = "define_association" then
      match defineAssocCall u s a with
      | .error e => some (.error e)
      | .ok (s', r) => iAssocCalls u a rest s' (some r)
    else if call = "formalize" then
      match ass with
      | none => none
      | some r => iAssocCalls u a rest (formalizeCall u s r) ass
    else none

/-- `for stmt in self.statements: if not isinstance(stmt, CreateAssociationStmt): continue; <calls>` -/
def iPopAssocs (u : UC) (calls : List String) : List Stmt → BState → Option (Except BuildErr BState)
  | [], s => some (.ok s)
  | .createRop rel sk sc skeys sp tk tc tkeys tp :: rest, s =>
    match iAssocCalls u ⟨rel, sk, sc, skeys, sp, tk, tc, tkeys, tp⟩ calls s none with
    | none => none
    | some (.error e) => some (.error e)
    | some (.ok s') => iPopAssocs u calls rest s'
  | _ :: rest, s => iPopAssocs u calls rest s

theorem iAssocCalls_source (u : UC) (a : AssocB) (s : BState) :
    iAssocCalls u a Gen.BuildShape.associationCalls s none =
      some (match defineAssocCall u s a with
        | .error e => .error e
        | .ok (s', r) => .ok (formalizeCall u s' r)) := by
  simp only [Gen.BuildShape.associationCalls, iAssocCalls]
  cases defineAssocCall u s a with
  | error e => simp
  | ok p => simp

theorem popAssocs_eq_iPopAssocs (u : UC) : ∀ (stmts : List Stmt) (s : BState),
    iPopAssocs u Gen.BuildShape.associationCalls stmts s = some (popAssocs u stmts s) := by
  intro stmts
  induction stmts with
  | nil => intro s; rfl
  | cons st rest ih =>
    intro s
    cases st with
    | createTable _ _ | createIndex _ _ _ | insert _ _ _ => exact ih s
    | createRop rel sk sc skeys sp tk tc tkeys tp =>
      simp only [iPopAssocs, iAssocCalls_source, popAssocs, defineAssocCall]
      cases s.find? u sk with
      | none => rfl
      | some c1 =>
        cases s.find? u tk with
        | none => rfl
        | some t =>
          by_cases hd : skeys.any isDunder = true
          · simp only [hd, if_true]
          by_cases hl : (skeys.length != tkeys.length) = true
          · simp only [hd, hl, Bool.false_eq_true, if_true, if_false]
          by_cases hk : (tkeys.all fun k => (t.attrs.map fun x => u.upper x.1).contains (u.upper k)) = true
          · simp only [hd, hl, hk, Bool.false_eq_true, if_true, if_false]
            exact ih _
          · simp only [hd, hl, hk, Bool.false_eq_true, if_false]

end Pyx.Sql
