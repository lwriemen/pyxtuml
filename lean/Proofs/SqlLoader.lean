import PyxModel.Sql.Loader

/-! `Loader.inputs` over a list of texts: a text that does not parse leaves the loader as it was (`inputs_filter`), and the
    statements held afterwards are those of the accepted texts, in order (`inputs_statements`) -/
namespace Pyx.Sql

def isAccepted (u : UC) (t : Text) : Bool :=
  match classify u t with
  | .accepted _ => true
  | .parsing => false

def acceptedStmts (u : UC) (t : Text) : List Stmt :=
  match classify u t with
  | .accepted s => s
  | .parsing => []

theorem input_rejected (u : UC) (l : Loader) (t : Text) (h : isAccepted u t = false) : (l.input u t).1 = l := by
  unfold isAccepted at h
  unfold Loader.input
  cases hc : classify u t with
  | accepted s => rw [hc] at h; simp at h
  | parsing => rfl

theorem input_statements (u : UC) (l : Loader) (t : Text) :
    (l.input u t).1.statements = l.statements ++ acceptedStmts u t := by
  unfold Loader.input acceptedStmts
  cases classify u t <;> simp

theorem acceptedStmts_rejected (u : UC) (t : Text) (h : isAccepted u t = false) : acceptedStmts u t = [] := by
  unfold isAccepted at h
  unfold acceptedStmts
  cases hc : classify u t with
  | accepted s => rw [hc] at h; simp at h
  | parsing => rfl

theorem inputs_statements (u : UC) : ∀ (texts : List Text) (l : Loader),
    (Loader.inputs u l texts).statements = l.statements ++ texts.flatMap (acceptedStmts u) := by
  intro texts
  induction texts with
  | nil => intro l; simp [Loader.inputs]
  | cons t ts ih =>
    intro l
    rw [Loader.inputs, ih, input_statements]; simp

theorem inputs_filter (u : UC) : ∀ (texts : List Text) (l : Loader),
    Loader.inputs u l texts = Loader.inputs u l (texts.filter (isAccepted u)) := by
  intro texts
  induction texts with
  | nil => intro l; rfl
  | cons t ts ih =>
    intro l
    cases h : isAccepted u t with
    | true => simp only [List.filter_cons, h, if_true, Loader.inputs]; exact ih _
    | false =>
      simp only [List.filter_cons, h, Bool.false_eq_true, if_false, Loader.inputs, input_rejected u l t h]
      exact ih _

theorem getElem?_mem {α : Type} (l : List α) (i : Nat) (x : α) (h : l[i]? = some x) : x ∈ l :=
  List.mem_of_getElem? h

end Pyx.Sql
