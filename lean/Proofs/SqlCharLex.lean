import Proofs.SqlParser

/-! character level: how each printed fragment lexes when it is followed by one of the characters the writers put next -/
namespace Pyx.Sql
open Gen.SqlLex (Rule Kw)
open Gen.Persist (Ty)

/-- what the writers put after a word, a number, a string, a guid: blank, comma, closing parenthesis, semicolon,
    newline (or the end of the text) -/
def Safe (rest : Text) : Prop :=
  ∀ c, rest.head? = some c → c = ' ' ∨ c = ',' ∨ c = ')' ∨ c = ';' ∨ c = '\n'

theorem Safe.cons_space (r : Text) : Safe (' ' :: r) := by intro c hc; simp at hc; simp [← hc]
theorem Safe.cons_comma (r : Text) : Safe (',' :: r) := by intro c hc; simp at hc; simp [← hc]
theorem Safe.cons_rparen (r : Text) : Safe (')' :: r) := by intro c hc; simp at hc; simp [← hc]
theorem Safe.cons_semi (r : Text) : Safe (';' :: r) := by intro c hc; simp at hc; simp [← hc]
theorem Safe.cons_newline (r : Text) : Safe ('\n' :: r) := by intro c hc; simp at hc; simp [← hc]
theorem Safe.nil : Safe [] := by intro c hc; simp at hc

theorem Safe.not_word (u : UC) {rest : Text} (h : Safe rest) : ∀ x, rest.head? = some x → u.isWord x = false := by
  intro x hx
  rcases h x hx with rfl | rfl | rfl | rfl | rfl <;> rfl

theorem Safe.not_digit (u : UC) {rest : Text} (h : Safe rest) : ∀ x, rest.head? = some x → u.isDigit x = false := by
  intro x hx
  rcases h x hx with rfl | rfl | rfl | rfl | rfl <;> rfl

theorem Safe.not_asciiDigit {rest : Text} (h : Safe rest) : ∀ x, rest.head? = some x → isAsciiDigit x = false := by
  intro x hx
  rcases h x hx with rfl | rfl | rfl | rfl | rfl <;> decide

theorem Safe.numFollow (u : UC) {rest : Text} (h : Safe rest) : NumFollow u rest := by
  intro x hx
  refine ⟨h.not_digit u x hx, ?_, ?_⟩ <;> rcases h x hx with rfl | rfl | rfl | rfl | rfl <;> decide

theorem Safe.not_quote {rest : Text} (h : Safe rest) : ∀ x, rest.head? = some x → x ≠ '\'' := by
  intro x hx
  rcases h x hx with rfl | rfl | rfl | rfl | rfl <;> decide

/-- `[A-Za-z_][A-Za-z0-9_]*` that does not begin with `R` followed by a digit -/
structure IdentOk (w : Text) : Prop where
  ne : w ≠ []
  start : ∀ c, w.head? = some c → isIdStart c = true
  tail : ∀ x ∈ w.tail, isAsciiWord x = true
  notRelid : w.head? = some 'R' → ∀ d, w.tail.head? = some d → isAsciiDigit d = false

theorem lex_word (u : UC) (w : Text) (hw : IdentOk w) (rest : Text) (hs : Safe rest) :
    lex u (w ++ rest) = (lex u rest).map (fun ts => wordTok u w :: ts) := by
  cases w with
  | nil => exact absurd rfl hw.ne
  | cons c cs =>
    have hc := hw.start c rfl
    have hrel : NotRelid c (cs ++ rest) := by
      intro hR d hd
      subst hR
      cases cs with
      | nil => simp at hd; exact hs.not_asciiDigit d hd
      | cons e es => simp at hd; subst hd; exact hw.notRelid rfl e rfl
    exact lex_of_emit u _ _ _ (step_word u c cs rest hc hw.tail (hs.not_word u) hrel)

theorem kw_identOk (k : Kw) : IdentOk k.chars := by
  cases k <;> exact ⟨by decide, by decide, by decide, by decide⟩

theorem wordTok_kw (u : UC) (k : Kw) : wordTok u k.chars = kwTok k := mkTok_ID_kw u k

theorem lex_kw (u : UC) (k : Kw) (rest : Text) :
    lex u (k.chars ++ ' ' :: rest) = (lex u rest).map (fun ts => kwTok k :: ts) := by
  rw [lex_word u k.chars (kw_identOk k) _ (Safe.cons_space rest), lex_space, wordTok_kw]

/-- a reserved word lexes as its token in front of every `Safe` text, not only of a blank (`lex_kw`: the writers print a
    blank after every reserved word, `VALUES (` and `PHRASE '` too) -/
theorem lex_kw_safe (u : UC) (k : Kw) (rest : Text) (hs : Safe rest) :
    lex u (k.chars ++ rest) = (lex u rest).map (fun ts => kwTok k :: ts) := by
  rw [lex_word u k.chars (kw_identOk k) _ hs, wordTok_kw]

theorem lex_lparen (u : UC) (rest : Text) : lex u ('(' :: rest) = (lex u rest).map (fun ts => lparenTok :: ts) :=
  lex_of_emit u _ _ _ (step_lparen u rest)
theorem lex_rparen (u : UC) (rest : Text) : lex u (')' :: rest) = (lex u rest).map (fun ts => rparenTok :: ts) :=
  lex_of_emit u _ _ _ (step_rparen u rest)
theorem lex_comma (u : UC) (rest : Text) : lex u (',' :: rest) = (lex u rest).map (fun ts => commaTok :: ts) :=
  lex_of_emit u _ _ _ (step_comma u rest)
theorem lex_semi (u : UC) (rest : Text) : lex u (';' :: rest) = (lex u rest).map (fun ts => semiTok :: ts) :=
  lex_of_emit u _ _ _ (step_semicolon u rest)

theorem lex_comment (u : UC) (body rest : Text) (h : ∀ c ∈ body, c ≠ '\n') :
    lex u ('-' :: '-' :: (body ++ '\n' :: rest)) = lex u rest :=
  lex_of_skip u _ _ (step_comment u body rest h)

theorem lex_value (u : UC) (t : Ty) (v : Val) (txt : Text) (ts : List Tok) (hf : fmtValue t v = some txt)
    (hv : valueToks t v = some ts) (rest : Text) (hs : Safe rest) :
    lex u (txt ++ rest) = (lex u rest).map (fun more => ts ++ more) := by
  cases printed_of_fmt hf with
  | bool b => cases hv; simpa using lex_natText u _ rest (hs.numFollow u)
  | int z => cases hv; exact lex_intText u z rest (hs.numFollow u)
  | real neg micro => cases hv; exact lex_realText u neg micro rest (hs.not_digit u)
  | str s => cases hv; simpa using lex_of_emit u _ _ _ (step_string u s rest hs.not_quote)
  | id n hn =>
    cases (if_pos hn).symm.trans hv
    simpa using lex_of_emit u _ _ _ (step_guidText u n rest)

end Pyx.Sql
