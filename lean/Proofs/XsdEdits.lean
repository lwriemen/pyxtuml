import Proofs.Xsd
import Proofs.XsdFuel
import Proofs.ExtractAttrEdits

/-!
  C20 — the XSD declarations under the edits retype, add attribute, add / permute enumerators, add data type.  As in
  Proofs/ExtractEdits, a lemma `xx_foo` says what `foo` is after the edit `xx`: `rt`, `ad` as there, `en` = the enumerators
  of data type `t` mapped by `F` (`enG`), `at` = the data type `t` appended to `d.dts`.
-/

namespace Pyx.Extract

section retype
variable {d : ClassDiagram} (wf : WF d) {c a dt : Nat} {kc : Class} {xa : Attr} {ty : String}
  (hc : findClass d c = some kc) (ha : kc.findAttr a = some xa)
  (hnr : ∀ c' b, xa.kind ≠ .ref c' b)
  (hty : baseTypeName d.dts dt = some ty)
  (hold : ((attrDt d xa).bind (baseTypeName d.dts)).isSome = true)

include wf hc ha hnr hty hold in
theorem rt_xclassOf {k : Class} (hk : k ∈ d.classes) :
    xclassOf { d with classes := d.classes.map (rtK c a dt) } (rtK c a dt k) =
      (fun (s : XClass) => { s with attrs := s.attrs.map (fun a' =>
        if ((kc.kl, xa.name) :: dependents d c a).contains (s.kl, a'.name) then { a' with ty := ty } else a') })
        (xclassOf d k) := by
  unfold xclassOf
  rw [xattr_decl, xattr_decl]
  exact congrArg (XClass.mk k.kl) (rt_decls wf hc ha hnr hty hold hk (fun _ _ => rfl) true)

end retype

theorem xretype_commutes {d : ClassDiagram} (wf : WF d) (c a dt : Nat) (comp : Nat)
    (hok : ∀ kc xa, findClass d c = some kc → kc.findAttr a = some xa → (∀ c' b, xa.kind ≠ .ref c' b) →
      (baseTypeName d.dts dt).isSome = true ∧ ((attrDt d xa).bind (baseTypeName d.dts)).isSome = true) :
    xsdSpecChained (applyXEdit (.retypeAttr c a dt) d) comp =
      specEdit (xresolve d comp (.retypeAttr c a dt)) (xsdSpecChained d comp) := by
  simp only [xresolve]
  cases hc : findClass d c with
  | none => rw [show applyXEdit (.retypeAttr c a dt) d = d from mapClass_missing hc _]; rfl
  | some kc =>
    dsimp only
    cases ha : kc.findAttr a with
    | none => rw [show applyXEdit (.retypeAttr c a dt) d = d from mapAttr_missing wf hc ha _]; rfl
    | some xa =>
      rcases not_ref_or xa with hnr | ⟨c', b, hk⟩
      · obtain ⟨h1, hold⟩ := hok kc xa hc ha hnr
        obtain ⟨ty, hty⟩ := Option.isSome_iff_exists.mp h1
        rw [hty]
        dsimp only
        split
        · rename_i heq
          exact absurd heq (hnr _ _)
        · rw [show applyXEdit (.retypeAttr c a dt) d = _ from retype_rows d]
          exact xspec_ext rfl rfl (map_filter_update (rtK c a dt) (fun k => containedIn d.containers d.pkgrefs comp k.parent)
            _ (xclassOf d) _ (fun _ => rfl) (fun k hk => rt_xclassOf wf hc ha hnr hty hold hk))
      · rw [show applyXEdit (.retypeAttr c a dt) d = d from retype_ref wf hc ha hk dt]
        cases baseTypeName d.dts dt with
        | none => rfl
        | some ty => simp only [hk]; rfl

section addAttr
variable {d : ClassDiagram} (wf : WF d) {c : Nat} {x : Attr}

theorem ad_findAttr (k : Class) {b : Nat} (hb : b ≠ x.id) :
    ({ k with attrs := k.attrs ++ [x] } : Class).findAttr b = k.findAttr b := by
  unfold Class.findAttr
  simp only [List.find?_append]
  have : [x].find? (fun a => a.id == b) = none := by
    have : (x.id == b) = false := by simp [Ne.symm hb]
    simp [this]
  rw [this]; simp

/-- nothing refers to the new Attr_ID yet -/
def FreshAttr (d : ClassDiagram) (c : Nat) (x : Attr) : Prop :=
  (∀ k ∈ d.classes, ∀ y ∈ k.attrs, y.kind ≠ .ref c x.id) ∧ x.kind ≠ .ref c x.id

theorem ad_attrKindAt (c' b : Nat) (hb : ¬ (c' = c ∧ b = x.id)) :
    attrKindAt (applyXEdit (.addAttr c x) d) c' b = attrKindAt d c' b := by
  unfold attrKindAt
  rw [show findClass (applyXEdit (.addAttr c x) d) c' = _ from findClass_map (mapClass_keepsId (by intro _; rfl)) c']
  cases hf : findClass d c' with
  | none => rfl
  | some k =>
    simp only [Option.map_some, Option.bind_some]
    split
    · rename_i he
      rw [ad_findAttr k (fun hbx => hb ⟨by rw [← findClass_id hf]; simpa using he, hbx⟩)]
    · rfl

theorem ad_attrDt (y : Attr) (hy : y.kind ≠ .ref c x.id) :
    attrDt (applyXEdit (.addAttr c x) d) y = attrDt d y := by
  rw [attrDt_eq, attrDt_eq]
  cases hk : y.kind with
  | base t => rfl
  | derived t => rfl
  | ref c' b =>
    have : ¬ (c' = c ∧ b = x.id) := by
      intro h; apply hy; rw [hk, h.1, h.2]
    simp only [ad_attrKindAt c' b this]

include wf in
theorem xaddAttr_commutes (c : Nat) (x : Attr) (comp : Nat) (fresh : FreshAttr d c x) :
    xsdSpecChained (applyXEdit (.addAttr c x) d) comp =
      specEdit (xresolve d comp (.addAttr c x)) (xsdSpecChained d comp) := by
  simp only [xresolve]
  cases hc : findClass d c with
  | none => rw [show applyXEdit (.addAttr c x) d = d from mapClass_missing hc _]; rfl
  | some kc =>
    dsimp only
    have hxa : ∀ k ∈ d.classes, ∀ y ∈ k.attrs, xattr (applyXEdit (.addAttr c x) d) y = xattr d y :=
      fun k hk y hy => xattr_of_attrDt rfl (ad_attrDt y (fresh.1 k hk y hy))
    have hxx : xattr (applyXEdit (.addAttr c x) d) x = xattr d x := xattr_of_attrDt rfl (ad_attrDt x fresh.2)
    have hclasses := classes_point wf hc XClass.kl (fun k => containedIn d.containers d.pkgrefs comp k.parent)
      (xclassOf (applyXEdit (.addAttr c x) d)) (xclassOf d) (fun _ => rfl)
      (fun k => { k with attrs := k.attrs ++ [x] }) (fun _ => rfl)
      (fun k hk _ => congrArg (XClass.mk k.kl) (filterMap_congr' (hxa k hk)))
      (fun s => { s with attrs := s.attrs ++ (xattr d x).toList })
      (congrArg (XClass.mk kc.kl) (by
        show List.filterMap _ (kc.attrs ++ [x]) = _
        rw [List.filterMap_append, filterMap_congr' (hxa kc (findClass_mem hc))]
        simp only [List.filterMap_cons, List.filterMap_nil, hxx]
        cases xattr d x <;> rfl))
    cases hx : xattr d x with
    | none =>
      -- nothing is declared for the new attribute: the edit of every class is the identity
      refine xspec_ext rfl rfl (hclasses.trans ?_)
      show _ = (xsdSpecChained d comp).classes
      conv => rhs; rw [← List.map_id (xsdSpecChained d comp).classes]
      exact List.map_congr_left (fun s _ => by simp [hx])
    | some xa => exact xspec_ext rfl rfl (hclasses.trans (by rw [hx]; rfl))

end addAttr

section enums
variable {d : ClassDiagram} {t : Nat} {F : List String → List String}

def enG (t : Nat) (F : List String → List String) (x : DataType) : DataType :=
  if x.id == t then { x with kind := x.kind.mapEnum F } else x

theorem enG_id (x : DataType) : (enG t F x).id = x.id := by unfold enG; split <;> rfl
theorem enG_name (x : DataType) : (enG t F x).name = x.name := by unfold enG; split <;> rfl
theorem enG_parent (x : DataType) : (enG t F x).parent = x.parent := by unfold enG; split <;> rfl

theorem findDt_map (dts : List DataType) (i : Nat) :
    findDt (dts.map (enG t F)) i = (findDt dts i).map (enG t F) := find?_key_map enG_id i _

theorem enG_cases (x : DataType) :
    enG t F x = x ∨ ∃ es, x.kind = .enum es ∧ enG t F x = { x with kind := .enum (F es) } := by
  unfold enG
  split
  · cases hk : x.kind with
    | enum es => exact .inr ⟨es, rfl, rfl⟩
    | _ => exact .inl (by cases x; cases hk; rfl)
  · exact .inl rfl

theorem en_typeNameOf (dts : List DataType) (i : Nat) :
    typeNameOf (dts.map (enG t F)) i = typeNameOf dts i := by
  unfold typeNameOf
  rw [findDt_map]
  cases findDt dts i with
  | none => rfl
  | some x =>
    rcases enG_cases (t := t) (F := F) x with h | ⟨es, hk, h⟩ <;> simp only [Option.map_some, h]
    simp only [hk]

theorem en_baseTypeFuel (dts : List DataType) (f i : Nat) :
    baseTypeFuel (dts.map (enG t F)) f i = baseTypeFuel dts f i := by
  induction f generalizing i with
  | zero => rfl
  | succ f ih =>
    simp only [baseTypeFuel, findDt_map]
    cases findDt dts i with
    | none => rfl
    | some x =>
      rcases enG_cases (t := t) (F := F) x with h | ⟨es, hk, h⟩ <;> simp only [Option.map_some, h, ih]
      simp only [hk]

theorem en_baseTypeName (dts : List DataType) (i : Nat) :
    baseTypeName (dts.map (enG t F)) i = baseTypeName dts i := by
  unfold baseTypeName
  rw [List.length_map, en_baseTypeFuel]

theorem en_xattr (a : Attr) : xattr { d with dts := d.dts.map (enG t F) } a = xattr d a := by
  apply xattr_same
  have : attrDt { d with dts := d.dts.map (enG t F) } a = attrDt d a := rfl
  rw [this]
  show (attrDt d a).bind (baseTypeName (d.dts.map (enG t F))) = _
  rw [funext (en_baseTypeName d.dts)]

theorem en_classes (comp : Nat) :
    (xsdSpecChained { d with dts := d.dts.map (enG t F) } comp).classes = (xsdSpecChained d comp).classes := by
  show (d.classes.filter (fun k => containedIn d.containers d.pkgrefs comp k.parent)).map
      (xclassOf { d with dts := d.dts.map (enG t F) }) = _
  apply List.map_congr_left
  intro k _
  unfold xclassOf
  simp only [XClass.mk.injEq, true_and]
  apply filterMap_congr'
  intro a _
  exact en_xattr a

theorem mapDt_self {d : ClassDiagram} {t : Nat} {f : DataType → DataType}
    (h : ∀ x ∈ d.dts, x.id = t → f x = x) : mapDt d t f = d := by
  unfold mapDt; rw [map_point_self h]

/-- both enumerator edits: the enumerators of data type `t` become `F es` -/
theorem enumEdit_commutes (xwf : XWF d) (comp : Nat) :
    xsdSpecChained (mapDt d t (fun x => { x with kind := x.kind.mapEnum F })) comp =
      specEdit (match findDt d.dts t with
        | some x =>
          match x.kind with
          | .enum es => .setEnum x.name (F es)
          | _ => .nop
        | none => .nop) (xsdSpecChained d comp) := by
  cases hf : findDt d.dts t with
  | none =>
    rw [mapDt_self (fun x hx he => absurd he (find?_key_none hf x hx))]
    rfl
  | some tx =>
    dsimp only
    obtain ⟨htm, hti⟩ := findDt_mem' hf
    have huniq : ∀ x ∈ d.dts, x.id = t → x = tx := by
      intro x hx he
      exact inj_of_nodup_map (fun (y : DataType) => y.id) xwf.dtIds hx htm (by rw [he, hti])
    have nop : tx.kind.mapEnum F = tx.kind → mapDt d t (fun x => { x with kind := x.kind.mapEnum F }) = d := by
      intro h
      apply mapDt_self
      intro x hx he
      rw [huniq x hx he, h]
    cases hk : tx.kind with
    | enum es0 =>
      dsimp only
      have happ : mapDt d t (fun x => { x with kind := x.kind.mapEnum F }) = { d with dts := d.dts.map (enG t F) } := rfl
      rw [happ]
      have hpt : ∀ x ∈ d.dts, xtypeOf (d.dts.map (enG t F)) (enG t F x) =
          (xtypeOf d.dts x).map (XType.setEnum tx.name (F es0)) := by
        intro x hx
        by_cases he : x.id = t
        · have := huniq x hx he
          subst this
          have : enG t F x = { x with kind := .enum (F es0) } := by
            unfold enG; simp [he, hk, DtKind.mapEnum]
          rw [this]
          unfold xtypeOf
          simp [hk, XType.setEnum]
        · have hg : enG t F x = x := by unfold enG; simp [he]
          rw [hg]
          have hname : x.name ≠ tx.name := by
            intro hn
            have := inj_of_nodup_map (fun (y : DataType) => y.name) xwf.dtNames hx htm hn
            exact he (by rw [this, hti])
          unfold xtypeOf
          cases hxk : x.kind with
          | core n => simp only; cases coreXs x.name <;> simp [XType.setEnum]
          | enum es => simp [XType.setEnum, hname]
          | user b => simp only [en_typeNameOf]; cases typeNameOf d.dts b <;> simp [XType.setEnum]
          | other => rfl
      refine xspec_ext ?_ rfl (en_classes comp)
      show _ ++ _ = List.map _ (_ ++ _)
      rw [List.map_append, filterMap_filter_update (enG t F) _ _ (xtypeOf d.dts) _ (fun x => by rw [enG_parent]) hpt,
        filterMap_filter_update (enG t F) _ _ (xtypeOf d.dts) _ (fun x => by rw [enG_parent]) hpt]
    | core n => rw [nop (by rw [hk]; rfl)]; rfl
    | user b => rw [nop (by rw [hk]; rfl)]; rfl
    | other => rw [nop (by rw [hk]; rfl)]; rfl

theorem xaddEnum_commutes (xwf : XWF d) (t : Nat) (name : String) (comp : Nat) :
    xsdSpecChained (applyXEdit (.addEnum t name) d) comp = specEdit (xresolve d comp (.addEnum t name)) (xsdSpecChained d comp) :=
  enumEdit_commutes (F := fun es => es ++ [name]) xwf comp

theorem xpermEnums_commutes (xwf : XWF d) (t : Nat) (perm : List Nat) (comp : Nat) :
    xsdSpecChained (applyXEdit (.permEnums t perm) d) comp = specEdit (xresolve d comp (.permEnums t perm)) (xsdSpecChained d comp) :=
  enumEdit_commutes (F := permute perm) xwf comp

end enums

section addType
variable {d : ClassDiagram} {t : DataType}

/-- the new DT_ID is unused -/
structure FreshType (d : ClassDiagram) (t : DataType) : Prop where
  noDt : ∀ x ∈ d.dts, x.id ≠ t.id
  noBase : ∀ x ∈ d.dts, x.kind ≠ .user t.id
  noSelf : t.kind ≠ .user t.id
  noAttr : ∀ k ∈ d.classes, ∀ y ∈ k.attrs, y.kind ≠ .base t.id ∧ y.kind ≠ .derived t.id

/-- WITHOUT package references a global element is in no component (with them it can be: `is_global` does not follow
    EP_PKGREF rows, `is_contained_in` does) -/
theorem global_not_contained (cs : List Container) (root : Nat) (f : Nat) (p : Parent)
    (h : globalFuel cs f p = true) : containedFuel cs [] root f p = false := by
  fun_induction globalFuel cs f p <;> simp_all [containedFuel]

theorem findDt_append_ne (dts : List DataType) (t : DataType) (i : Nat) (h : i ≠ t.id) :
    findDt (dts ++ [t]) i = findDt dts i := by
  unfold findDt
  simp only [List.find?_append]
  have : [t].find? (fun x => x.id == i) = none := by
    have : (t.id == i) = false := by simp [Ne.symm h]
    simp [this]
  rw [this]; simp

theorem at_xtypeOf (x : DataType) (h : x.kind ≠ .user t.id) : xtypeOf (d.dts ++ [t]) x = xtypeOf d.dts x := by
  unfold xtypeOf
  cases hk : x.kind with
  | user b =>
    have : b ≠ t.id := by intro hb; apply h; rw [hk, hb]
    simp only [typeNameOf, findDt_append_ne _ _ _ this]
  | _ => rfl

theorem at_baseTypeFuel (fr : FreshType d t) (f i : Nat) (h : i ≠ t.id) :
    baseTypeFuel (d.dts ++ [t]) f i = baseTypeFuel d.dts f i := by
  induction f generalizing i with
  | zero => rfl
  | succ f ih =>
    simp only [baseTypeFuel]
    rw [findDt_append_ne _ _ _ h]
    cases hf : findDt d.dts i with
    | none => rfl
    | some x =>
      simp only
      cases hk : x.kind with
      | user b =>
        have : b ≠ t.id := by intro hb; exact fr.noBase x (findDt_mem' hf).1 (by rw [hk, hb])
        exact ih b this
      | _ => rfl

theorem at_baseTypeName (chain : DtChainOk d.dts) (fr : FreshType d t) (i : Nat) (h : i ≠ t.id) :
    baseTypeName (d.dts ++ [t]) i = baseTypeName d.dts i := by
  unfold baseTypeName
  rw [List.length_append, List.length_singleton, at_baseTypeFuel fr _ i h]
  exact Option.ext fun s => (baseTypeFuel_iff chain i s (by omega)).trans (baseTypeName_iff chain i s).symm

theorem attrDt_ne_fresh (fr : FreshType d t) {k : Class} (hk : k ∈ d.classes) {y : Attr} (hy : y ∈ k.attrs)
    {dt : Nat} (h : attrDt d y = some dt) : dt ≠ t.id := by
  rw [attrDt_eq] at h
  cases hyk : y.kind with
  | base u =>
    rw [hyk] at h; simp only [Option.some.injEq] at h
    intro he; exact (fr.noAttr k hk y hy).1 (by rw [hyk, h, he])
  | derived u =>
    rw [hyk] at h; simp only [Option.some.injEq] at h
    intro he; exact (fr.noAttr k hk y hy).2 (by rw [hyk, h, he])
  | ref c b =>
    rw [hyk] at h
    simp only at h
    unfold attrKindAt at h
    cases hc : findClass d c with
    | none => simp [hc] at h
    | some k' =>
      cases hb : k'.findAttr b with
      | none => simp [hc, hb] at h
      | some z =>
        simp only [hc, hb, Option.bind_some, Option.map_some] at h
        have hzm := findAttr_mem hb
        have hk'm := findClass_mem hc
        cases hzk : z.kind with
        | base u =>
          rw [hzk] at h; simp only [Option.some.injEq] at h
          intro he; exact (fr.noAttr k' hk'm z hzm).1 (by rw [hzk, h, he])
        | derived u =>
          rw [hzk] at h; simp only [Option.some.injEq] at h
          intro he; exact (fr.noAttr k' hk'm z hzm).2 (by rw [hzk, h, he])
        | ref c' b' => rw [hzk] at h; simp at h

theorem at_xattr (chain : DtChainOk d.dts) (fr : FreshType d t) {k : Class} (hk : k ∈ d.classes) {y : Attr} (hy : y ∈ k.attrs) :
    xattr { d with dts := d.dts ++ [t] } y = xattr d y := by
  apply xattr_same
  have : attrDt { d with dts := d.dts ++ [t] } y = attrDt d y := rfl
  rw [this]
  show (attrDt d y).bind (baseTypeName (d.dts ++ [t])) = _
  cases h : attrDt d y with
  | none => rfl
  | some dt =>
    simp only [Option.bind_some]
    exact at_baseTypeName chain fr dt (attrDt_ne_fresh fr hk hy h)

theorem xaddType_commutes (chain : DtChainOk d.dts) (fr : FreshType d t) (comp : Nat) :
    xsdSpecChained (applyXEdit (.addType t) d) comp = specEdit (xresolve d comp (.addType t)) (xsdSpecChained d comp) := by
  rw [show applyXEdit (.addType t) d = { d with dts := d.dts ++ [t] } from rfl]
  have hclasses : (xsdSpecChained { d with dts := d.dts ++ [t] } comp).classes = (xsdSpecChained d comp).classes :=
    List.map_congr_left (fun k hk => congrArg (XClass.mk k.kl)
      (filterMap_congr' (fun y hy => at_xattr chain fr (List.mem_filter.mp hk).1 hy)))
  -- under either selection (global, in scope) the new row is the last of its block: the position `xresolve` gives `insertType`
  have hsel : ∀ q : DataType → Bool, ((d.dts ++ [t]).filter q).filterMap (xtypeOf (d.dts ++ [t])) =
      (d.dts.filter q).filterMap (xtypeOf d.dts) ++ (if q t then (xtypeOf d.dts t).toList else []) := by
    intro q
    have hX : ∀ x ∈ (d.dts ++ [t]).filter q, xtypeOf (d.dts ++ [t]) x = xtypeOf d.dts x := by
      intro x hx
      rcases List.mem_append.mp (List.mem_filter.mp hx).1 with h | h
      · exact at_xtypeOf x (fr.noBase x h)
      · rw [List.mem_singleton.mp h]; exact at_xtypeOf t fr.noSelf
    rw [filterMap_congr' hX, filter_filterMap_split q _ d.dts [] t]
    simp
  simp only [xresolve]
  cases hx : xtypeOf d.dts t with
  | none => exact xspec_ext (by show _ ++ _ = _; rw [hsel, hsel, hx]; simp [xsdSpecChained, specEdit]) rfl hclasses
  | some x =>
    cases hg : isGlobal d.containers t.parent <;> cases hc : containedIn d.containers d.pkgrefs comp t.parent <;>
      exact xspec_ext (by
        show _ ++ _ = _
        rw [hsel, hsel, hx]
        simp [hg, hc, xsdSpecChained, specEdit, ← List.length_append, insertAt_length, insertAt_end]) rfl hclasses

end addType
end Pyx.Extract
