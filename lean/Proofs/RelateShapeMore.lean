import Proofs.RelateShape

/-!
  The C02 source tie (Proofs/RelateShape) for whole HISTORIES.  The invariants of C02 are stated about `run sch ops` (a fold of
  `step` over operations); here `step` and `run` are shown to be the generic interpretation of the generated IR
  (every `new` through `iNew newPhases`, every `relate` / `unrelate` through `iPair … relateProg / unrelateProg`,
  every `delete` through `iDelete … deleteBody` calling the interpreted `unrelate`).
-/
namespace Pyx.Shape
open Pyx.Meta Pyx.Gen.RelateShape

def iStep (defs : List LinkDef) (body : List (BExp FindAtom × FindAct)) (els : Exc) (dbody : List DStmt)
    (rel unrel : PairProg) (phases : List NewPhase) (sch : Schema) (s : State) : Op → State × Out
  | .new k h => ((iNew phases s k h).1, .ok)
  | .relate x y r p => iPair defs body els dbody rel sch s x y r p
  | .unrelate x y r p => iPair defs body els dbody unrel sch s x y r p
  | .delete x => iDelete defs (iPair defs body els dbody unrel sch) sch x true dbody s

/-- a history: the state after each operation is handed to the next whatever the outcome was (an exception leaves
    the state it had reached) -/
def iRun (defs : List LinkDef) (body : List (BExp FindAtom × FindAct)) (els : Exc) (dbody : List DStmt)
    (rel unrel : PairProg) (phases : List NewPhase) (sch : Schema) (ops : List Op) : State :=
  ops.foldl (fun s op => (iStep defs body els dbody rel unrel phases sch s op).1) init

theorem step_eq (sch : Schema) (s : State) (op : Op) :
    step sch s op = iStep linkDefs findBody findElse deleteBody relateProg unrelateProg newPhases sch s op := by
  cases op with
  | new k h => simp only [step, iStep, new_eq]
  | relate x y r p => exact relate_eq sch s x y r p
  | unrelate x y r p => exact unrelate_eq sch s x y r p
  | delete x => exact delete_eq sch s x

theorem run_eq (sch : Schema) (ops : List Op) :
    run sch ops = iRun linkDefs findBody findElse deleteBody relateProg unrelateProg newPhases sch ops := by
  unfold run iRun
  congr 1
  funext s op
  rw [step_eq]

end Pyx.Shape
