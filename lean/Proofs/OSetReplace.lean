import Proofs.OSetPtr

/-! C17, pointer level: iteration whose body REPLACES the visited element (discard it, add a fresh one).  The pointer-level
    loops refine the list-level ones from any position in the ring (`*_refines`, over `replaceAt_spec`); the list-level loops
    are put in closed form (`abs*_closed`); `reprA_iterReplace` / `reprA_reversedReplace` compose the two from the sentinel. -/
namespace Pyx.OSetPtr

theorem linked_prev (s : Store) (x : Nat) (pre : List Nat) (a : Nat) (N : List Nat) (h : Linked s (x :: pre ++ a :: N)) :
    s.prev a = (x :: pre).getLast?.getD 0 := by
  obtain ⟨P0, p, hP, _⟩ := exists_concat x pre
  rw [hP, List.append_assoc, List.singleton_append, linked_split] at h
  rw [hP, List.getLast?_concat]
  exact h.2.2.1

theorem linked_at (s : Store) (pre suf : List Nat) (a : Nat) (h : Linked s (0 :: pre ++ a :: suf ++ [0])) :
    s.next a = (suf ++ [0]).head?.getD 0 ∧ s.prev a = (0 :: pre).getLast?.getD 0 := by
  constructor
  · cases suf with
    | nil =>
      have := (linked_split s (0 :: pre) a 0 []).mp (by simpa using h)
      simpa using this.2.1
    | cons b bs =>
      have := (linked_split s (0 :: pre) a b (bs ++ [0])).mp (by simpa using h)
      simpa using this.2.1
  · exact linked_prev s 0 pre a (suf ++ [0]) (by simpa using h)

theorem linked_prev0_mem (s : Store) : ∀ (as : List Nat) (x : Nat), Linked s (x :: as ++ [0]) → s.prev 0 ∈ x :: as
  | [], x, h => by
    simp only [List.cons_append, List.nil_append, Linked] at h
    simp [h.2.1]
  | b :: bs, x, h => by
    simp only [List.cons_append, Linked] at h
    have := linked_prev0_mem s bs b (by simpa using h.2.2)
    exact List.mem_cons_of_mem _ this

/-- one execution of the loop body on the cell `a` of the ring `pre ++ a :: suf`: the cell leaves the ring, a fresh cell (at
    the allocator's address) is linked before the sentinel; the two pointer fields of the unlinked cell `a` — which the
    suspended generator reads next — are untouched; old cells keep their keys -/
theorem replaceAt_spec {s : Store} {pre suf L : List Nat} {a : Nat} (h : ReprA s (pre ++ a :: suf) L)
    (fresh added : Nat) (hf : fresh + added ∉ L) :
    ReprA (replaceAt fresh added (s.key a) s) (pre ++ suf ++ [s.fresh]) (L.erase (s.key a) ++ [fresh + added]) ∧
    (replaceAt fresh added (s.key a) s).next a = s.next a ∧
    (replaceAt fresh added (s.key a) s).prev a = s.prev a ∧
    (∀ z, z ≠ s.fresh → (replaceAt fresh added (s.key a) s).key z = s.key z) ∧
    (replaceAt fresh added (s.key a) s).key s.fresh = fresh + added := by
  have h1 : ReprA (discard (s.key a) s) (pre ++ suf) (L.erase (s.key a)) := reprA_discard_at h
  have hf1 : fresh + added ∉ L.erase (s.key a) := fun hm => hf (List.mem_of_mem_erase hm)
  have h2 := reprA_add h1 hf1
  rw [discard_fresh] at h2
  have hma : s.map (s.key a) = some a := h.mapIn a (by simp)
  have hm1 : (discard (s.key a) s).map (fresh + added) = none := h1.mapOut _ hf1
  have ha0 : a ≠ 0 := fun e => h.nz (by simp [e])
  have hanew : a ≠ s.fresh := Nat.ne_of_lt (h.bound a (by simp))
  -- `a` has left the ring, so it is not the last cell, to which `add` links the new one
  have hlast : a ≠ (discard (s.key a) s).prev 0 := by
    intro e
    have hm := linked_prev0_mem (discard (s.key a) s) (pre ++ suf) 0 (by simpa using h1.linked)
    rw [← e] at hm
    exact (List.mem_cons.mp hm).elim ha0 (List.nodup_cons.mp (List.perm_middle.nodup_iff.mp h.nodup)).1
  have hadd := add_absent hm1
  rw [discard_fresh] at hadd
  unfold replaceAt
  refine ⟨h2, ?_, ?_, ?_, ?_⟩
  · rw [hadd]
    simp only [upd, hlast, hanew, ↓reduceIte]
    -- `discard` writes `next` at the cell before `a` only; were that `a` itself, it would write the value `a` holds
    rw [discard_next hma]; split <;> rfl
  · rw [hadd]
    simp only [upd, ha0, hanew, ↓reduceIte]
    rw [discard_prev hma]; split <;> rfl
  · intro z hz
    rw [hadd]
    simp only [upd, hz, ↓reduceIte]
    rw [discard_key]
  · rw [hadd]
    simp [upd]

theorem fresh_after_replace {fresh added : Nat} {L : List Nat} (h : ∀ j, added ≤ j → fresh + j ∉ L) (k : Nat) :
    ∀ j, added + 1 ≤ j → fresh + j ∉ L.erase k ++ [fresh + added] := by
  intro j hj hm
  rcases List.mem_append.mp hm with hm | hm
  · exact h j (Nat.le_of_succ_le hj) (List.mem_of_mem_erase hm)
  · have := List.mem_singleton.mp hm
    omega

theorem iterReplace_at_sentinel (p : Nat → Bool) (fresh limit f : Nat) (s : Store) (added : Nat) :
    iterReplace p fresh limit f s 0 added = ([], s) := by
  cases f <;> simp [iterReplace]

theorem reversedReplace_at_sentinel (p : Nat → Bool) (fresh limit f : Nat) (s : Store) (added : Nat) :
    reversedReplace p fresh limit f s 0 added = ([], s) := by
  cases f <;> simp [reversedReplace]

theorem replaceAt_map_key {s : Store} {pre suf L : List Nat} {a : Nat} (h : ReprA s (pre ++ a :: suf) L)
    (fresh added : Nat) (hf : fresh + added ∉ L) (l : List Nat) (hl : ∀ z ∈ l, z ∈ pre ++ a :: suf) :
    l.map (replaceAt fresh added (s.key a) s).key = l.map s.key := by
  apply List.map_congr_left
  intro z hz
  exact (replaceAt_spec h fresh added hf).2.2.2.1 z (Nat.ne_of_lt (h.bound z (hl z hz)))

/-- THE forward refinement: from a represented ring `pre ++ suf` with the iterator about to visit the first cell of `suf`, the
    pointer-level loop visits what the list-level loop visits and leaves a represented ring denoting its final content —
    for every fuel (both stop together), every predicate, whenever the fresh elements are not already present -/
theorem iterReplace_refines (p : Nat → Bool) (fresh limit : Nat) : ∀ (f : Nat) (s : Store) (pre suf L : List Nat) (added : Nat),
    ReprA s (pre ++ suf) L → (∀ j, added ≤ j → fresh + j ∉ L) →
    (iterReplace p fresh limit f s ((suf ++ [0]).head?.getD 0) added).1 =
        (absIterReplace p fresh limit f (pre.map s.key) (suf.map s.key) added).1 ∧
    Repr (iterReplace p fresh limit f s ((suf ++ [0]).head?.getD 0) added).2
        (absIterReplace p fresh limit f (pre.map s.key) (suf.map s.key) added).2
  | 0, s, pre, suf, L, added, h, _ => by
    simp only [iterReplace, absIterReplace, true_and]
    refine ⟨pre ++ suf, ?_⟩
    rw [← List.map_append, h.keys]; exact h
  | f + 1, s, pre, [], L, added, h, _ => by
    simp only [List.nil_append, List.head?_cons, Option.getD_some, iterReplace, ↓reduceIte, List.map_nil, absIterReplace,
      true_and]
    refine ⟨pre, ?_⟩
    have := h.keys
    rw [List.append_nil] at this
    rw [this]
    simpa using h
  | f + 1, s, pre, a :: suf', L, added, h, hfresh => by
    have ha0 : a ≠ 0 := fun e => h.nz (by simp [e])
    have hat := linked_at s pre suf' a (by simpa using h.linked)
    simp only [List.cons_append, List.head?_cons, Option.getD_some, List.map_cons]
    unfold iterReplace absIterReplace
    simp only [ha0, ↓reduceIte]
    by_cases hd : (p (s.key a) && decide (added < limit)) = true
    · simp only [hd, ↓reduceIte]
      obtain ⟨h2, hnext, _, hkeyold, hkeynew⟩ := replaceAt_spec h fresh added (hfresh added (Nat.le_refl _))
      rw [hnext, hat.1]
      have hpre : pre.map (replaceAt fresh added (s.key a) s).key = pre.map s.key :=
        replaceAt_map_key h fresh added (hfresh added (Nat.le_refl _)) pre (fun z hz => by simp [hz])
      have hsuf : suf'.map (replaceAt fresh added (s.key a) s).key = suf'.map s.key :=
        replaceAt_map_key h fresh added (hfresh added (Nat.le_refl _)) suf' (fun z hz => by simp [hz])
      have hfresh' := fresh_after_replace hfresh (s.key a)
      cases suf' with
      | nil =>
        -- the replaced cell was the last one: its stale `next` is the sentinel, so the walk ends although a fresh cell was
        -- linked (the `lostFresh` case of the closed form)
        simp only [List.nil_append, List.head?_cons, Option.getD_some, iterReplace_at_sentinel, List.map_nil]
        refine ⟨trivial, pre ++ [] ++ [s.fresh], ?_⟩
        have hk := h2.keys
        rw [List.map_append, List.map_append, hpre] at hk
        simp only [List.map_nil, List.append_nil, List.map_cons, hkeynew] at hk
        rw [hk]
        exact h2
      | cons b bs =>
        have ih := iterReplace_refines p fresh limit f (replaceAt fresh added (s.key a) s) pre (b :: bs ++ [s.fresh])
          (L.erase (s.key a) ++ [fresh + added]) (added + 1) (by simpa [List.append_assoc] using h2) hfresh'
        rw [hpre, List.map_append, hsuf] at ih
        simp only [List.map_cons, List.map_nil, hkeynew, List.cons_append, List.head?_cons, Option.getD_some] at ih ⊢
        exact ⟨by rw [ih.1], ih.2⟩
    · have hd' : (p (s.key a) && decide (added < limit)) = false := Bool.eq_false_iff.mpr hd
      simp only [hd', Bool.false_eq_true, ↓reduceIte]
      rw [hat.1]
      have ih := iterReplace_refines p fresh limit f s (pre ++ [a]) suf' L added (by simpa using h) hfresh
      rw [List.map_append] at ih
      simp only [List.map_cons, List.map_nil] at ih
      exact ⟨by rw [ih.1], ih.2⟩

/-- THE backward refinement: the ring is `preRev.reverse ++ tail`, the iterator is about to visit the last cell of
    `preRev.reverse`; fresh cells are linked behind it (at the end of `tail`) and are never reached -/
theorem reversedReplace_refines (p : Nat → Bool) (fresh limit : Nat) : ∀ (preRev : List Nat) (f : Nat) (s : Store)
    (tail L : List Nat) (added : Nat),
    ReprA s (preRev.reverse ++ tail) L → (∀ j, added ≤ j → fresh + j ∉ L) → preRev.length < f →
    (reversedReplace p fresh limit f s ((0 :: preRev.reverse).getLast?.getD 0) added).1 =
        (absReversedReplace p fresh limit (preRev.map s.key) (tail.map s.key) added).1 ∧
    Repr (reversedReplace p fresh limit f s ((0 :: preRev.reverse).getLast?.getD 0) added).2
        (absReversedReplace p fresh limit (preRev.map s.key) (tail.map s.key) added).2
  | [], f, s, tail, L, added, h, _, _ => by
    simp only [List.reverse_nil, List.getLast?_singleton, Option.getD_some, reversedReplace_at_sentinel, List.map_nil,
      absReversedReplace, true_and]
    refine ⟨tail, ?_⟩
    have := h.keys
    simp only [List.reverse_nil, List.nil_append] at this
    rw [this]
    simpa using h
  | a :: rest, f, s, tail, L, added, h, hfresh, hf => by
    obtain ⟨f', rfl⟩ := Nat.exists_eq_add_one_of_ne_zero (Nat.ne_zero_of_lt hf)
    have hf' : rest.length < f' := Nat.lt_of_succ_lt_succ hf
    have h' : ReprA s (rest.reverse ++ a :: tail) L := by simpa [List.append_assoc] using h
    have ha0 : a ≠ 0 := fun e => h'.nz (by simp [e])
    have hat := linked_at s rest.reverse tail a (by simpa using h'.linked)
    have hcur : (0 :: (a :: rest).reverse).getLast?.getD 0 = a := by
      rw [List.reverse_cons, show (0 :: (rest.reverse ++ [a])) = (0 :: rest.reverse) ++ [a] from rfl, List.getLast?_append]
      simp
    rw [hcur]
    simp only [List.map_cons]
    unfold reversedReplace absReversedReplace
    simp only [ha0, ↓reduceIte]
    by_cases hd : (p (s.key a) && decide (added < limit)) = true
    · simp only [hd, ↓reduceIte]
      obtain ⟨h2, _, hprev, _, hkeynew⟩ := replaceAt_spec h' fresh added (hfresh added (Nat.le_refl _))
      rw [hprev, hat.2]
      have hpre : rest.map (replaceAt fresh added (s.key a) s).key = rest.map s.key :=
        replaceAt_map_key h' fresh added (hfresh added (Nat.le_refl _)) rest (fun z hz => by simp [hz])
      have htail : tail.map (replaceAt fresh added (s.key a) s).key = tail.map s.key :=
        replaceAt_map_key h' fresh added (hfresh added (Nat.le_refl _)) tail (fun z hz => by simp [hz])
      have hfresh' := fresh_after_replace hfresh (s.key a)
      have ih := reversedReplace_refines p fresh limit rest f' (replaceAt fresh added (s.key a) s) (tail ++ [s.fresh])
        (L.erase (s.key a) ++ [fresh + added]) (added + 1) (by simpa [List.append_assoc] using h2) hfresh' hf'
      rw [hpre, List.map_append, htail] at ih
      simp only [List.map_cons, List.map_nil, hkeynew] at ih
      exact ⟨by rw [ih.1], ih.2⟩
    · have hd' : (p (s.key a) && decide (added < limit)) = false := Bool.eq_false_iff.mpr hd
      simp only [hd', Bool.false_eq_true, ↓reduceIte]
      rw [hat.2]
      have ih := reversedReplace_refines p fresh limit rest f' s (a :: tail) L added h' hfresh hf'
      simp only [List.map_cons] at ih
      exact ⟨by rw [ih.1], ih.2⟩

theorem linked_ends (s : Store) (as : List Nat) (h : Linked s (0 :: as ++ [0])) :
    s.next 0 = (as ++ [0]).head?.getD 0 ∧ s.prev 0 = (0 :: as).getLast?.getD 0 := by
  constructor
  · cases as with
    | nil => simp only [List.cons_append, List.nil_append, Linked] at h; simpa using h.1
    | cons b bs => simp only [List.cons_append, Linked] at h; simpa using h.1
  · exact linked_prev s 0 as 0 [] h

/-! ### the list-level loops in closed form -/

/-- the elements the loop keeps (visiting order) and the number it replaces: an element is replaced when `p` holds and fewer
    than `limit` were replaced before it -/
def keptBy (p : Nat → Bool) (limit : Nat) : List Nat → Nat → List Nat
  | [], _ => []
  | k :: r, added => if p k && decide (added < limit) then keptBy p limit r (added + 1) else k :: keptBy p limit r added

def replacedCount (p : Nat → Bool) (limit : Nat) : List Nat → Nat → Nat
  | [], _ => 0
  | k :: r, added => if p k && decide (added < limit) then replacedCount p limit r (added + 1) + 1 else replacedCount p limit r added

def freshFrom (fresh added n : Nat) : List Nat := (List.range' added n).map (fun j => fresh + j)

theorem freshFrom_succ (fresh added n : Nat) : freshFrom fresh added (n + 1) = (fresh + added) :: freshFrom fresh (added + 1) n := by
  simp [freshFrom, List.range'_succ]

/-- BACKWARD: every element ahead of the iterator is visited exactly once, nearest first — no fresh element is ever visited —
    and the final content is the kept elements in their old order, then what was behind the iterator, then the fresh ones -/
theorem absReversedReplace_closed (p : Nat → Bool) (fresh limit : Nat) (preRev tail : List Nat) (added : Nat) :
    absReversedReplace p fresh limit preRev tail added =
      (preRev, (keptBy p limit preRev added).reverse ++ tail ++ freshFrom fresh added (replacedCount p limit preRev added)) := by
  fun_induction absReversedReplace p fresh limit preRev tail added with
  | case1 tail added => simp [keptBy, replacedCount, freshFrom]
  | case2 k rest tail added hd r ih =>
    simp only [r, ih, keptBy, replacedCount, hd, ↓reduceIte, freshFrom_succ]
    simp
  | case3 k rest tail added hd r ih =>
    simp only [r, ih, keptBy, replacedCount, hd]
    simp

/-- the forward walk ends right after its first replacement: that replacement happens at the last element -/
def lostFresh (p : Nat → Bool) (limit : Nat) : List Nat → Nat → Bool
  | [], _ => false
  | [k], added => p k && decide (added < limit)
  | k :: k2 :: r, added => if p k && decide (added < limit) then false else lostFresh p limit (k2 :: r) added

theorem absIterReplace_plain (p : Nat → Bool) (fresh limit : Nat) : ∀ (fr : List Nat) (f : Nat) (pre : List Nat) (added : Nat),
    (∀ x ∈ fr, p x = false) → fr.length < f → absIterReplace p fresh limit f pre fr added = (fr, pre ++ fr)
  | [], f, pre, added, _, hf => by
    obtain ⟨f', rfl⟩ := Nat.exists_eq_add_one_of_ne_zero (Nat.ne_zero_of_lt hf)
    simp [absIterReplace]
  | k :: fr, f, pre, added, hp, hf => by
    obtain ⟨f', rfl⟩ := Nat.exists_eq_add_one_of_ne_zero (Nat.ne_zero_of_lt hf)
    have hk : p k = false := hp k (by simp)
    unfold absIterReplace
    simp only [hk, Bool.false_and, Bool.false_eq_true, ↓reduceIte]
    rw [absIterReplace_plain p fresh limit fr f' (pre ++ [k]) added (fun x hx => hp x (by simp [hx])) (by simp only [List.length_cons] at hf; omega)]
    simp

/-- FORWARD, with `fr` = fresh elements already linked behind (never replaced: `p` is false on them): every element of `suf` is
    visited exactly once, in order; then the fresh elements, old and new — ALL of them, unless the walk ended right after its
    first replacement (`lostFresh`: nothing fresh was linked yet and the replaced element was the last one: its stale `next`
    is the sentinel).  The final content: what was behind the iterator, the kept elements, the fresh ones. -/
theorem absIterReplace_closed (p : Nat → Bool) (fresh limit : Nat) (hp : ∀ j, p (fresh + j) = false) :
    ∀ (suf fr : List Nat) (f : Nat) (pre : List Nat) (added : Nat),
    (∀ x ∈ fr, p x = false) → 2 * suf.length + fr.length < f →
    absIterReplace p fresh limit f pre (suf ++ fr) added =
      (suf ++ (if fr = [] ∧ lostFresh p limit suf added = true then []
               else fr ++ freshFrom fresh added (replacedCount p limit suf added)),
       pre ++ keptBy p limit suf added ++ fr ++ freshFrom fresh added (replacedCount p limit suf added))
  | [], fr, f, pre, added, hfr, hf => by
    simp only [List.nil_append, lostFresh, Bool.false_eq_true, and_false, ↓reduceIte, replacedCount, keptBy, freshFrom,
      List.range'_zero, List.map_nil, List.append_nil]
    exact absIterReplace_plain p fresh limit fr f pre added hfr (by simp only [List.length_nil] at hf; omega)
  | k :: suf, fr, f, pre, added, hfr, hf => by
    obtain ⟨f', rfl⟩ := Nat.exists_eq_add_one_of_ne_zero (Nat.ne_zero_of_lt hf)
    simp only [List.cons_append]
    unfold absIterReplace
    by_cases hd : (p k && decide (added < limit)) = true
    · simp only [hd, ↓reduceIte]
      cases hrem : suf ++ fr with
      | nil =>
        obtain ⟨rfl, rfl⟩ := List.append_eq_nil_iff.mp hrem
        simp [lostFresh, hd, keptBy, replacedCount, freshFrom]
      | cons b bs =>
        simp only
        rw [← hrem, List.append_assoc]
        have hfr' : ∀ x ∈ fr ++ [fresh + added], p x = false := by
          intro x hx
          simp only [List.mem_append, List.mem_singleton] at hx
          rcases hx with hx | rfl
          · exact hfr x hx
          · exact hp added
        rw [absIterReplace_closed p fresh limit hp suf (fr ++ [fresh + added]) f' pre (added + 1) hfr'
          (by simp only [List.length_cons, List.length_append, List.length_nil] at hf ⊢; omega)]
        have hne : ¬ (fr ++ [fresh + added] = []) := by simp
        have hlost : (fr = [] ∧ lostFresh p limit (k :: suf) added = true) ↔ False := by
          constructor
          · rintro ⟨rfl, hl⟩
            cases suf with
            | nil => simp at hrem
            | cons c cs => simp [lostFresh, hd] at hl
          · exact False.elim
        simp only [hne, false_and, ↓reduceIte, hlost, keptBy, replacedCount, hd, freshFrom_succ]
        simp
    · have hd' : (p k && decide (added < limit)) = false := Bool.eq_false_iff.mpr hd
      simp only [hd', Bool.false_eq_true, ↓reduceIte]
      rw [absIterReplace_closed p fresh limit hp suf fr f' (pre ++ [k]) added hfr (by simp only [List.length_cons] at hf; omega)]
      have hl : lostFresh p limit (k :: suf) added = lostFresh p limit suf added := by
        cases suf with
        | nil => simp [lostFresh, hd']
        | cons c cs => simp [lostFresh, hd']
      simp only [hl, keptBy, replacedCount, hd', Bool.false_eq_true, ↓reduceIte]
      simp

theorem mem_freshFrom {fresh added n x : Nat} (h : x ∈ freshFrom fresh added n) : ∃ j, x = fresh + j := by
  simp only [freshFrom, List.mem_map] at h
  obtain ⟨j, _, rfl⟩ := h
  exact ⟨j, rfl⟩

theorem reprA_iterReplace (p : Nat → Bool) (fresh limit : Nat) (hp : ∀ j, p (fresh + j) = false)
    {s : Store} {as L : List Nat} (h : ReprA s as L) (hfresh : ∀ j, fresh + j ∉ L) (f : Nat) (hf : 2 * L.length < f) :
    (iterReplace p fresh limit f s (s.next 0) 0).1 =
      L ++ (if lostFresh p limit L 0 = true then [] else freshFrom fresh 0 (replacedCount p limit L 0)) ∧
    Repr (iterReplace p fresh limit f s (s.next 0) 0).2 (keptBy p limit L 0 ++ freshFrom fresh 0 (replacedCount p limit L 0)) ∧
    (iterReplace p fresh limit f s (s.next 0) 0).1.filter (fun x => decide (x ∈ L)) = L := by
  have href := iterReplace_refines p fresh limit f s [] as L 0 (by simpa using h) (fun j _ => hfresh j)
  rw [← (linked_ends s as h.linked).1] at href
  have hcl := absIterReplace_closed p fresh limit hp L [] f [] 0 (by simp) (by simpa using hf)
  simp only [List.map_nil, h.keys] at href
  simp only [List.append_nil, true_and, List.nil_append] at hcl
  rw [hcl] at href
  refine ⟨href.1, href.2, ?_⟩
  rw [href.1, List.filter_append]
  have h1 : L.filter (fun x => decide (x ∈ L)) = L := List.filter_eq_self.mpr (fun x hx => by simpa using hx)
  have h2 : (if lostFresh p limit L 0 = true then [] else freshFrom fresh 0 (replacedCount p limit L 0)).filter
      (fun x => decide (x ∈ L)) = [] := by
    apply List.filter_eq_nil_iff.mpr
    intro x hx
    split at hx
    · simp at hx
    · obtain ⟨j, rfl⟩ := mem_freshFrom hx
      simpa using hfresh j
  rw [h1, h2, List.append_nil]

theorem reprA_reversedReplace (p : Nat → Bool) (fresh limit : Nat)
    {s : Store} {as L : List Nat} (h : ReprA s as L) (hfresh : ∀ j, fresh + j ∉ L) (f : Nat) (hf : L.length < f) :
    (reversedReplace p fresh limit f s (s.prev 0) 0).1 = L.reverse ∧
    Repr (reversedReplace p fresh limit f s (s.prev 0) 0).2
      ((keptBy p limit L.reverse 0).reverse ++ freshFrom fresh 0 (replacedCount p limit L.reverse 0)) := by
  have hlen : as.reverse.length < f := by
    rw [List.length_reverse, ← h.keys, List.length_map] at *; exact hf
  have href := reversedReplace_refines p fresh limit as.reverse f s [] L 0 (by simpa using h) (fun j _ => hfresh j) hlen
  rw [List.reverse_reverse, ← (linked_ends s as h.linked).2] at href
  rw [absReversedReplace_closed, List.map_reverse, h.keys] at href
  simpa using href

end Pyx.OSetPtr
