import Proofs.OalLayout

/-!
  Every entry of the GENERATED reserved-word table (`Gen.OalLex.keywords`, read from `OALParser.keywords`), written
  in ANY letter case, is a word the lexer model returns as exactly that keyword token.

  The only facts about the table that are decided (`kwTableOk`) are shape facts of its ENTRIES (each is an upper-case
  word `[A-Z_][0-9A-Z_]*` other than `END`); the statement over all spellings follows character by character:
  upper-casing does not turn a non-word character into a word character (`isWord_of_upper`, used in `spelling_spec`).
-/
namespace Pyx.OalLex

def kwTableOk (kws : List (List Char)) : Bool :=
  kws.all fun k =>
    (match k with
      | [] => false
      | x :: r => isIdStart x && r.all isWord) &&
    (k.map upperAscii == k) && !(k == ['E', 'N', 'D'])

theorem isLowerA_isLetterA (c : Char) (h : isLowerA c = true) : isLetterA c = true := by
  simp [isLetterA, h]

theorem isWord_of_upper (c : Char) (h : isWord (upperAscii c) = true) : isWord c = true := by
  unfold upperAscii at h
  split at h
  · next hl => simp [isWord, isLowerA_isLetterA c hl]
  · exact h

theorem isIdStart_of_upper (c : Char) (h : isIdStart (upperAscii c) = true) : isIdStart c = true := by
  unfold upperAscii at h
  split at h
  · next hl => simp [isIdStart, isLowerA_isLetterA c hl]
  · exact h

theorem spelling_spec (kws : List (List Char)) (hT : kwTableOk kws = true) (k : List Char) (hk : k ∈ kws) (s : List Char)
    (hs : s.map lowerAscii = k.map lowerAscii) : s.map upperAscii = k ∧ WellWord s := by
  have hT' := List.all_eq_true.mp hT k hk
  simp only [Bool.and_eq_true, Bool.not_eq_true', beq_iff_eq, beq_eq_false_iff_ne] at hT'
  obtain ⟨⟨hshape, hup⟩, hne⟩ := hT'
  have hu : s.map upperAscii = k := by rw [← map_upper_map_lower s, hs, map_upper_map_lower, hup]
  subst hu
  refine ⟨rfl, ?_, ?_⟩
  · cases s with
    | nil => simp at hshape
    | cons x s' =>
      simp only [List.map_cons, Bool.and_eq_true, List.all_map, List.all_eq_true, Function.comp] at hshape
      exact ⟨x, s', rfl, isIdStart_of_upper x hshape.1, fun y hy => isWord_of_upper y (hshape.2 y hy)⟩
  · intro hend
    apply hne
    rw [← map_upper_map_lower s, hend]
    decide

/-- the kind `t_ID` gives such a spelling is the table entry -/
theorem wordKind_of_spelling (k : List Char) (hk : k ∈ Gen.OalLex.keywords) (s : List Char)
    (hs : s.map upperAscii = k) : wordKind s = k := by
  unfold wordKind
  rw [hs, if_pos (List.contains_iff_mem.mpr hk)]

theorem gen_kwTableOk : kwTableOk Gen.OalLex.keywords = true := by decide

/-- ONE step of the lexer: at any spelling of any entry of the generated table, followed by the end of the text or
    by layout, the rule that matches is `t_ID` (rule 8 of the generated table), it matches exactly the spelling,
    and the token type it assigns is the table entry -/
theorem keyword_step (k : List Char) (hk : k ∈ Gen.OalLex.keywords) (s : List Char)
    (hs : s.map lowerAscii = k.map lowerAscii) (t : List Char) (ht : TailOk t) :
    firstMatch Gen.OalLex.rules (s ++ t) = some (R 8, s.length) ∧ kindOf Gen.OalLex.cfg (R 8) s = k := by
  obtain ⟨hu, hw⟩ := spelling_spec _ gen_kwTableOk k hk s hs
  exact ⟨step_word_fol s hw t (fol_tail t ht).1,
    by rw [kindOf_R8]; exact wordKind_of_spelling k hk s hu⟩

/-- a list of (table entry, spelling, layout after it): every spelling is a case variant of its entry, the
    layout between two words is not empty -/
inductive KwItemsOk : List (List Char × List Char × List Char) → Prop
  | nil : KwItemsOk []
  | cons (k s sep : List Char) (rest : List (List Char × List Char × List Char)) :
      k ∈ Gen.OalLex.keywords → s.map lowerAscii = k.map lowerAscii → Layout0 sep → (sep = [] → rest = []) →
      KwItemsOk rest → KwItemsOk ((k, s, sep) :: rest)

theorem kwItems_items (items : List (List Char × List Char × List Char)) (h : KwItemsOk items) : ItemsOk items := by
  induction h with
  | nil => exact .nil
  | cons k s sep rest hk hs hsep hne _ ih =>
    obtain ⟨hu, hw⟩ := spelling_spec _ gen_kwTableOk k hk s hs
    refine .cons k s sep rest ?_ hsep hne ?_ ih
    · have := WellLexeme.word s hw
      rwa [wordKind_of_spelling k hk s hu] at this
    · intro hsl
      exfalso
      obtain ⟨x, s', hxs, hx, _⟩ := hw.shape
      rw [hsl] at hxs
      simp only [List.cons.injEq] at hxs
      rw [← hxs.1] at hx
      revert hx; decide

/-- the WHOLE lexer: keywords of the generated table, each in any letter case, separated by any layout, come back
    as exactly the keyword tokens of the table entries, with the lexemes as written -/
theorem keywords_lexed (sep0 : List Char) (items : List (List Char × List Char × List Char))
    (h0 : Layout0 sep0) (h : KwItemsOk items) :
    (lex (sep0 ++ render items)).map (fun t => (t.kind, t.lexeme)) = items.map (fun i => (i.1, i.2.1)) :=
  layout_irrelevant sep0 items h0 (kwItems_items items h)

end Pyx.OalLex
