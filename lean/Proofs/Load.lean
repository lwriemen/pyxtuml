import PyxModel.Load
import Proofs.Lib.Dedup

/-! C03: the loader's containers read as lists. A dict fed pairs with distinct keys is the list of the pairs
    (`dictOfPairs_eq_self`), an ordered set fed a duplicate-free list is that list (`osetAddAll_nil_nodup`), a bucket of the
    hash index is `selectIdx` of the rows that `hit` its key (`bucketOf_mkIndexFrom`), and the join loop adds to every source
    row its `partners` (`joinLoop_tgt`, `joinLoop_src`). -/

namespace Pyx.Load

theorem dictSet_of_not_mem {β : Type} (d : List (String × β)) (k : String) (v : β)
    (h : k ∉ d.map (·.1)) : dictSet d k v = d ++ [(k, v)] := by
  induction d with
  | nil => rfl
  | cons e d ih =>
    obtain ⟨k', v'⟩ := e
    simp only [List.map_cons, List.mem_cons, not_or] at h
    have hne : ¬ k' = k := fun e => h.1 e.symm
    simp only [dictSet, hne, if_false, List.cons_append, ih h.2]

theorem dictOfPairs_eq_self {β : Type} (l : List (String × β)) (h : (l.map (·.1)).Nodup) :
    dictOfPairs l = l :=
  foldl_snoc (R := fun a b => a.1 ≠ b.1) (ins := fun d p => dictSet d p.1 p.2)
    (fun acc e he => dictSet_of_not_mem acc e.1 e.2 fun hm =>
      let ⟨f, hf, hfe⟩ := List.mem_map.1 hm
      he f hf hfe)
    l [] (List.pairwise_map.1 h)

theorem osetAdd_nil (j : Nat) : osetAdd [] j = [j] := by simp [osetAdd]

theorem osetAdd_idem (b : List Nat) (j : Nat) : osetAdd (osetAdd b j) j = osetAdd b j := by
  unfold osetAdd
  by_cases h : j ∈ b
  · simp [h]
  · simp [h]

theorem mem_osetAdd (b : List Nat) (j x : Nat) : x ∈ osetAdd b j ↔ x ∈ b ∨ x = j := by
  unfold osetAdd
  by_cases h : j ∈ b
  · simp only [h, if_true]
    constructor
    · exact Or.inl
    · rintro (h1 | h1)
      · exact h1
      · exact h1 ▸ h
  · simp [h]

theorem osetAddAll_nil_nodup (l : List Nat) (h : l.Nodup) : osetAddAll [] l = l := Dedup.foldl_step_of_nodup l h

theorem enumFrom_eq_zipIdx {α : Type} (n : Nat) (l : List α) :
    enumFrom n l = (l.zipIdx n).map (fun p => (p.2, p.1)) := by
  induction l generalizing n with
  | nil => rfl
  | cons x xs ih => simp [enumFrom, ih]

theorem enumFrom_map_fst {α : Type} (n : Nat) (l : List α) :
    (enumFrom n l).map (·.1) = List.range' n l.length := by
  rw [enumFrom_eq_zipIdx, List.map_map]
  exact List.zipIdx_map_snd n l

theorem mem_enumFrom {α : Type} {n i : Nat} {x : α} {l : List α} :
    (i, x) ∈ enumFrom n l ↔ (x, i) ∈ l.zipIdx n := by
  rw [enumFrom_eq_zipIdx, List.mem_map]
  exact ⟨fun ⟨p, hp, he⟩ => by cases he; exact hp, fun h => ⟨(x, i), h, rfl⟩⟩

theorem mem_enumFrom_zero {α : Type} (i : Nat) (x : α) (l : List α) :
    (i, x) ∈ enumFrom 0 l ↔ l[i]? = some x :=
  mem_enumFrom.trans List.mk_mem_zipIdx_iff_getElem?

/-- the enumerated rows selected by a test on the row, as the list of their positions -/
def selectIdx {α : Type} (n : Nat) (l : List α) (c : α → Bool) : List Nat :=
  (enumFrom n l).filterMap (fun p => if c p.2 then some p.1 else none)

theorem selectIdx_eq_map {α : Type} (n : Nat) (l : List α) (c : α → Bool) :
    selectIdx n l c = ((enumFrom n l).filter (fun p => c p.2)).map (·.1) := by
  unfold selectIdx
  induction enumFrom n l with
  | nil => rfl
  | cons p ps ih =>
    by_cases h : c p.2
    · simp [h, ih]
    · simp [h, ih]

theorem selectIdx_sorted {α : Type} (n : Nat) (l : List α) (c : α → Bool) :
    (selectIdx n l c).Pairwise (· < ·) := by
  rw [selectIdx_eq_map]
  have hs : (((enumFrom n l).filter (fun p => c p.2)).map (·.1)).Sublist ((enumFrom n l).map (·.1)) :=
    (List.filter_sublist).map _
  rw [enumFrom_map_fst] at hs
  exact (List.pairwise_lt_range').sublist hs

theorem selectIdx_nodup {α : Type} (n : Nat) (l : List α) (c : α → Bool) : (selectIdx n l c).Nodup :=
  (selectIdx_sorted n l c).imp Nat.ne_of_lt

theorem mem_selectIdx_zero {α : Type} (l : List α) (c : α → Bool) (i : Nat) :
    i ∈ selectIdx 0 l c ↔ ∃ x, l[i]? = some x ∧ c x = true := by
  unfold selectIdx
  simp only [List.mem_filterMap]
  constructor
  · rintro ⟨⟨j, x⟩, hm, hc⟩
    by_cases h : c x
    · simp only [h, if_true, Option.some.injEq] at hc
      subst hc
      exact ⟨x, (mem_enumFrom_zero _ _ _).mp hm, h⟩
    · simp [h] at hc
  · rintro ⟨x, hx, hc⟩
    exact ⟨(i, x), (mem_enumFrom_zero _ _ _).mpr hx, by simp [hc]⟩

theorem selectIdx_congr {α : Type} (n : Nat) (l : List α) (c c' : α → Bool) (h : ∀ x ∈ l, c x = c' x) :
    selectIdx n l c = selectIdx n l c' := by
  unfold selectIdx
  induction l generalizing n with
  | nil => rfl
  | cons x xs ih =>
    simp only [enumFrom, List.filterMap_cons]
    rw [h x List.mem_cons_self, ih (n + 1) (fun y hy => h y (List.mem_cons_of_mem _ hy))]

theorem selectIdx_false {α : Type} (n : Nat) (l : List α) : selectIdx n l (fun _ => false) = [] := by
  unfold selectIdx
  induction l generalizing n with
  | nil => rfl
  | cons x xs ih => simp [enumFrom]

theorem listSetEq_iff {α : Type} [BEq α] [LawfulBEq α] (a b : List α) :
    (a.all (fun p => b.contains p) && b.all (fun p => a.contains p)) = true ↔ ∀ x, x ∈ a ↔ x ∈ b := by
  simp only [Bool.and_eq_true, List.all_eq_true, List.contains_iff_mem]
  exact ⟨fun ⟨h1, h2⟩ x => ⟨h1 x, h2 x⟩, fun h => ⟨fun x hx => (h x).mp hx, fun x hx => (h x).mpr hx⟩⟩

theorem keyEq_iff (a b : Key) : keyEq a b = true ↔ ∀ x, x ∈ a ↔ x ∈ b := listSetEq_iff a b

theorem namesEq_iff (a b : List String) : namesEq a b = true ↔ ∀ x, x ∈ a ↔ x ∈ b := listSetEq_iff a b

theorem keyEq_refl (a : Key) : keyEq a a = true := (keyEq_iff a a).mpr (fun _ => Iff.rfl)

theorem keyEq_symm {a b : Key} (h : keyEq a b = true) : keyEq b a = true :=
  (keyEq_iff b a).mpr (fun x => ((keyEq_iff a b).mp h x).symm)

theorem keyEq_trans {a b c : Key} (h1 : keyEq a b = true) (h2 : keyEq b c = true) : keyEq a c = true :=
  (keyEq_iff a c).mpr (fun x => ((keyEq_iff a b).mp h1 x).trans ((keyEq_iff b c).mp h2 x))

theorem keyEq_congr_right {a b c : Key} (h : keyEq b c = true) : keyEq a b = keyEq a c := by
  cases h1 : keyEq a b <;> cases h2 : keyEq a c <;> try rfl
  · have := keyEq_trans h2 (keyEq_symm h); simp [h1] at this
  · have := keyEq_trans h1 h; simp [h2] at this

theorem keyEq_congr_left {a b c : Key} (h : keyEq a b = true) : keyEq a c = keyEq b c := by
  cases h1 : keyEq a c <;> cases h2 : keyEq b c <;> try rfl
  · have := keyEq_trans h h2; simp [h1] at this
  · have := keyEq_trans (keyEq_symm h) h1; simp [h2] at this

def bucketOf (idx : Index) (k : Key) : List Nat :=
  match findBucket idx k with
  | some b => b
  | none => []

theorem bucketOf_nil (k : Key) : bucketOf [] k = [] := rfl

theorem bucketOf_cons (e : Key × List Nat) (idx : Index) (k : Key) :
    bucketOf (e :: idx) k = if keyEq e.1 k then e.2 else bucketOf idx k := by
  unfold bucketOf findBucket
  by_cases h : keyEq e.1 k
  · simp [h]
  · simp [h]

theorem bucketOf_indexAdd (idx : Index) (k' : Key) (j : Nat) (k : Key) :
    bucketOf (indexAdd idx k' j) k = if keyEq k' k then osetAdd (bucketOf idx k) j else bucketOf idx k := by
  induction idx with
  | nil =>
    simp only [indexAdd, bucketOf_cons, bucketOf_nil, osetAdd_nil]
  | cons e rest ih =>
    obtain ⟨ke, b⟩ := e
    simp only [indexAdd]
    by_cases h1 : keyEq ke k'
    · simp only [h1, if_true, bucketOf_cons]
      rw [keyEq_congr_left (c := k) h1]
      by_cases h2 : keyEq k' k
      · simp [h2]
      · simp [h2]
    · simp only [h1, Bool.false_eq_true, if_false, bucketOf_cons, ih]
      by_cases h2 : keyEq ke k
      · have h3 : ¬ keyEq k' k = true := by
          intro h3
          exact h1 (keyEq_trans h2 (keyEq_symm h3))
        simp [h2, h3]
      · simp [h2]

/-- does the target row `t` carry the (non-null) key `k` on the attributes `names`? -/
def hit (names : List String) (t : Row) (k : Key) : Bool :=
  match indexKey names t with
  | some k' => keyEq k' k
  | none => false

theorem bucketOf_mkIndexFrom (names : List String) (j : Nat) (T : List Row) (idx : Index) (k : Key) :
    bucketOf (mkIndexFrom names j T idx) k =
      osetAddAll (bucketOf idx k) (selectIdx j T (fun t => hit names t k)) := by
  induction T generalizing j idx with
  | nil => simp [mkIndexFrom, selectIdx, enumFrom, osetAddAll]
  | cons t ts ih =>
    simp only [mkIndexFrom, ih]
    unfold selectIdx
    simp only [enumFrom, List.filterMap_cons]
    unfold hit
    cases hk : indexKey names t with
    | none => simp
    | some k' =>
      simp only [bucketOf_indexAdd]
      by_cases h : keyEq k' k
      · simp [h, osetAddAll]
      · simp [h]

theorem connectBucket_tgt (i : Nat) (b : List Nat) (L : Links) (z : Nat) :
    (connectBucket i b L).tgt z = if z = i then osetAddAll (L.tgt i) b else L.tgt z := by
  induction b generalizing L with
  | nil => by_cases h : z = i <;> simp [connectBucket, osetAddAll, h]
  | cons j js ih =>
    simp only [connectBucket, ih, connect]
    by_cases h : z = i
    · simp [h, osetAddAll]
    · simp [h]

theorem connectBucket_src (i : Nat) (b : List Nat) (L : Links) (z : Nat) :
    (connectBucket i b L).src z = if z ∈ b then osetAdd (L.src z) i else L.src z := by
  induction b generalizing L with
  | nil => simp [connectBucket]
  | cons j js ih =>
    simp only [connectBucket, ih, connect]
    by_cases h1 : z = j
    · subst h1
      by_cases h2 : z ∈ js
      · simp [h2, osetAdd_idem]
      · simp [h2]
    · by_cases h2 : z ∈ js
      · simp [h1, h2]
      · simp [h1, h2]

theorem osetAddAll_replicate_like (b : List Nat) (i : Nat) : osetAddAll (osetAdd b i) [] = osetAdd b i := rfl

theorem joinLoop_tgt (a : AssocStmt) (idx : Index) (S : List Row) :
    ∀ (n : Nat) (L : Links) (z : Nat), (joinLoop a idx (enumFrom n S) L).tgt z =
      match (if n ≤ z then S[z - n]? else none) with
      | some s => osetAddAll (L.tgt z) (partners a idx s)
      | none => L.tgt z := by
  induction S with
  | nil => intro n L z; simp [enumFrom, joinLoop]
  | cons s S ih =>
    intro n L z
    simp only [enumFrom, joinLoop, ih, connectBucket_tgt]
    by_cases h1 : z = n
    · subst h1
      have : ¬ z + 1 ≤ z := by omega
      simp [this]
    · by_cases h2 : n + 1 ≤ z
      · have e : z - n = (z - (n + 1)) + 1 := by omega
        have h3 : n ≤ z := by omega
        simp only [h2, h3, if_true, h1, if_false, e, List.getElem?_cons_succ]
      · have h3 : ¬ n ≤ z := by omega
        simp [h1, h2, h3]

theorem joinLoop_src (a : AssocStmt) (idx : Index) (n : Nat) (S : List Row) (L : Links) (z : Nat) :
    (joinLoop a idx (enumFrom n S) L).src z =
      osetAddAll (L.src z) (selectIdx n S (fun s => decide (z ∈ partners a idx s))) := by
  unfold selectIdx
  induction enumFrom n S generalizing L with
  | nil => simp [joinLoop, osetAddAll]
  | cons p rest ih =>
    obtain ⟨i, s⟩ := p
    simp only [joinLoop, ih, connectBucket_src, List.filterMap_cons]
    by_cases h : z ∈ partners a idx s
    · simp [h, osetAddAll]
    · simp [h]

end Pyx.Load
