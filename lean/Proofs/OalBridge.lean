import Proofs.Lib.CharLower
import Proofs.OalLex
import Proofs.OalParseCase
import Proofs.OalKind
import PyxModel.Oal.LexGen

/-!
  Bridge between the two halves of the OAL front end (for C08 `text_case`, C07 text -> tree):
    the character-level lexer model  `Pyx.OalLex.lex : List Char → List Pyx.OalLex.Tok`  (kind = token type as the
        characters of its PLY name, tables generated from oal.py)
    the token-level parser model     `Pyx.Oal.parseStmts : Tbl → List Pyx.Oal.Tok → Option Block`  (kind : Pyx.Oal.Kind)

  `toParserTok` converts a lexer token; `kindNames` is the name table of `Pyx.Oal.Kind`;
  `kw_tables_agree`: the hand-written `Kind.isKeyword` and the keyword table generated from the source
  (`isKwKind Gen.OalLex.cfg`) say the same about every kind; `lexer_kinds_covered`: every token type the generated
  lexer table can return has a `Kind`.
-/
namespace Pyx.OalLex
open Pyx.Oal (Kind)

/-- the PLY name of every parser token kind -/
def kindNames : List (Kind × List Char) := [
  (.ASSIGN, ['A', 'S', 'S', 'I', 'G', 'N']),
  (.ASSIGNER, ['A', 'S', 'S', 'I', 'G', 'N', 'E', 'R']),
  (.BREAK, ['B', 'R', 'E', 'A', 'K']),
  (.BRIDGE, ['B', 'R', 'I', 'D', 'G', 'E']),
  (.SEND, ['S', 'E', 'N', 'D']),
  (.CONTROL, ['C', 'O', 'N', 'T', 'R', 'O', 'L']),
  (.STOP, ['S', 'T', 'O', 'P']),
  (.CONTINUE, ['C', 'O', 'N', 'T', 'I', 'N', 'U', 'E']),
  (.CREATE, ['C', 'R', 'E', 'A', 'T', 'E']),
  (.EVENT, ['E', 'V', 'E', 'N', 'T']),
  (.INSTANCE, ['I', 'N', 'S', 'T', 'A', 'N', 'C', 'E']),
  (.OF, ['O', 'F']),
  (.OBJECT, ['O', 'B', 'J', 'E', 'C', 'T']),
  (.DELETE, ['D', 'E', 'L', 'E', 'T', 'E']),
  (.FOR, ['F', 'O', 'R']),
  (.EACH, ['E', 'A', 'C', 'H']),
  (.IN, ['I', 'N']),
  (.GENERATE, ['G', 'E', 'N', 'E', 'R', 'A', 'T', 'E']),
  (.IF, ['I', 'F']),
  (.ELIF, ['E', 'L', 'I', 'F']),
  (.ELSE, ['E', 'L', 'S', 'E']),
  (.RELATE, ['R', 'E', 'L', 'A', 'T', 'E']),
  (.TO, ['T', 'O']),
  (.ACROSS, ['A', 'C', 'R', 'O', 'S', 'S']),
  (.USING, ['U', 'S', 'I', 'N', 'G']),
  (.RETURN, ['R', 'E', 'T', 'U', 'R', 'N']),
  (.SELECT, ['S', 'E', 'L', 'E', 'C', 'T']),
  (.ONE, ['O', 'N', 'E']),
  (.ANY, ['A', 'N', 'Y']),
  (.MANY, ['M', 'A', 'N', 'Y']),
  (.TRANSFORM, ['T', 'R', 'A', 'N', 'S', 'F', 'O', 'R', 'M']),
  (.UNRELATE, ['U', 'N', 'R', 'E', 'L', 'A', 'T', 'E']),
  (.FROM, ['F', 'R', 'O', 'M']),
  (.WHILE, ['W', 'H', 'I', 'L', 'E']),
  (.CLASS, ['C', 'L', 'A', 'S', 'S']),
  (.CREATOR, ['C', 'R', 'E', 'A', 'T', 'O', 'R']),
  (.RELATED, ['R', 'E', 'L', 'A', 'T', 'E', 'D']),
  (.BY, ['B', 'Y']),
  (.INSTANCES, ['I', 'N', 'S', 'T', 'A', 'N', 'C', 'E', 'S']),
  (.WHERE, ['W', 'H', 'E', 'R', 'E']),
  (.CARDINALITY, ['C', 'A', 'R', 'D', 'I', 'N', 'A', 'L', 'I', 'T', 'Y']),
  (.EMPTY, ['E', 'M', 'P', 'T', 'Y']),
  (.FALSE, ['F', 'A', 'L', 'S', 'E']),
  (.NOT, ['N', 'O', 'T']),
  (.NOT_EMPTY, ['N', 'O', 'T', '_', 'E', 'M', 'P', 'T', 'Y']),
  (.TRUE, ['T', 'R', 'U', 'E']),
  (.AND, ['A', 'N', 'D']),
  (.OR, ['O', 'R']),
  (.PARAM, ['P', 'A', 'R', 'A', 'M']),
  (.RCVD_EVT, ['R', 'C', 'V', 'D', '_', 'E', 'V', 'T']),
  (.SELF, ['S', 'E', 'L', 'F']),
  (.SELECTED, ['S', 'E', 'L', 'E', 'C', 'T', 'E', 'D']),
  (.LOOP, ['L', 'O', 'O', 'P']),
  (.THEN, ['T', 'H', 'E', 'N']),
  (.SEMICOLON, ['S', 'E', 'M', 'I', 'C', 'O', 'L', 'O', 'N']),
  (.EQUAL, ['E', 'Q', 'U', 'A', 'L']),
  (.DOT, ['D', 'O', 'T']),
  (.DOUBLECOLON, ['D', 'O', 'U', 'B', 'L', 'E', 'C', 'O', 'L', 'O', 'N']),
  (.LPAREN, ['L', 'P', 'A', 'R', 'E', 'N']),
  (.RPAREN, ['R', 'P', 'A', 'R', 'E', 'N']),
  (.TIMES, ['T', 'I', 'M', 'E', 'S']),
  (.COLON, ['C', 'O', 'L', 'O', 'N']),
  (.COMMA, ['C', 'O', 'M', 'M', 'A']),
  (.ARROW, ['A', 'R', 'R', 'O', 'W']),
  (.LSQBR, ['L', 'S', 'Q', 'B', 'R']),
  (.RSQBR, ['R', 'S', 'Q', 'B', 'R']),
  (.ID, ['I', 'D']),
  (.NAMESPACE, ['N', 'A', 'M', 'E', 'S', 'P', 'A', 'C', 'E']),
  (.END_FOR, ['E', 'N', 'D', '_', 'F', 'O', 'R']),
  (.END_IF, ['E', 'N', 'D', '_', 'I', 'F']),
  (.END_WHILE, ['E', 'N', 'D', '_', 'W', 'H', 'I', 'L', 'E']),
  (.TICKED_PHRASE, ['T', 'I', 'C', 'K', 'E', 'D', '_', 'P', 'H', 'R', 'A', 'S', 'E']),
  (.QMARK, ['Q', 'M', 'A', 'R', 'K']),
  (.FRACTION, ['F', 'R', 'A', 'C', 'T', 'I', 'O', 'N']),
  (.NUMBER, ['N', 'U', 'M', 'B', 'E', 'R']),
  (.STRING, ['S', 'T', 'R', 'I', 'N', 'G']),
  (.DOUBLEEQUAL, ['D', 'O', 'U', 'B', 'L', 'E', 'E', 'Q', 'U', 'A', 'L']),
  (.NOTEQUAL, ['N', 'O', 'T', 'E', 'Q', 'U', 'A', 'L']),
  (.LESSTHAN, ['L', 'E', 'S', 'S', 'T', 'H', 'A', 'N']),
  (.LE, ['L', 'E']),
  (.GT, ['G', 'T']),
  (.GE, ['G', 'E']),
  (.PLUS, ['P', 'L', 'U', 'S']),
  (.MINUS, ['M', 'I', 'N', 'U', 'S']),
  (.PIPE, ['P', 'I', 'P', 'E']),
  (.DIV, ['D', 'I', 'V']),
  (.MOD, ['M', 'O', 'D']),
  (.AMP, ['A', 'M', 'P']),
  (.CARET, ['C', 'A', 'R', 'E', 'T'])
]

def kindOfChars (k : List Char) : Option Kind := (kindNames.find? (fun p => p.2 == k)).map (·.1)

/-- a lexer token as the parser sees it; a token type without a `Kind` (there is none, `lexer_kinds_covered`)
    would become an ID -/
def toParserTok (t : Tok) : Pyx.Oal.Tok := ⟨(kindOfChars t.kind).getD .ID, String.ofList t.lexeme⟩

def toParserToks (ts : List Tok) : List Pyx.Oal.Tok := ts.map toParserTok

/-- every `Kind` is found again through the name the table gives it -/
theorem kindNames_complete (k : Kind) : kindOfChars ((kindNames.find? (fun p => p.1 == k)).map (·.2) |>.getD []) = some k :=
  Pyx.Oal.forall_kind
    (p := fun k => kindOfChars ((kindNames.find? (fun p => p.1 == k)).map (·.2) |>.getD []) = some k) (by decide +kernel) k

/-- kw_tables_agree: for every token kind, `Kind.isKeyword` (hand-written in the parser model) equals membership
    in the keyword table generated from oal.py (keywords ∪ END_FOR / END_IF / END_WHILE) -/
theorem kw_tables_agree : (kindNames.all fun p => p.1.isKeyword == isKwKind Gen.OalLex.cfg p.2) = true := by
  decide +kernel

/-- every token type the generated lexer table can return (rule names of token-returning rules, keywords) has a
    parser kind -/
theorem lexer_kinds_covered :
    ((Gen.OalLex.rules.filter (·.returnsTok)).all fun r => (kindOfChars r.name).isSome) = true ∧
    (Gen.OalLex.keywords.all fun k => (kindOfChars k).isSome) = true := by
  constructor <;> decide +kernel

theorem kindOfChars_kw (k : List Char) (kd : Kind) (h : kindOfChars k = some kd) :
    kd.isKeyword = isKwKind Gen.OalLex.cfg k := by
  unfold kindOfChars at h
  cases hf : kindNames.find? (fun p => p.2 == k) with
  | none => rw [hf] at h; simp at h
  | some p =>
    rw [hf] at h
    simp only [Option.map_some, Option.some.injEq] at h
    have hm := List.mem_of_find?_eq_some hf
    have hp := List.find?_some hf
    simp only [beq_iff_eq] at hp
    have := List.all_eq_true.mp kw_tables_agree p hm
    simp only [beq_iff_eq] at this
    rw [← h, ← hp]; exact this

theorem toLower_eq_lowerAscii (c : Char) : c.toLower = lowerAscii c :=
  Char.toNat_inj.mp (by rw [toNat_lower, toNat_toLower]; simp [isUpperA])

theorem lowerStr_ofList (l : List Char) : Pyx.Oal.lowerStr (String.ofList l) = String.ofList (l.map lowerAscii) := by
  unfold Pyx.Oal.lowerStr
  rw [String.toList_ofList]
  congr 1
  exact List.map_congr_left (fun c _ => toLower_eq_lowerAscii c)

theorem isKwKind_mapped (k : List Char) (h : isKwKind Gen.OalLex.cfg k = true) : ∃ kd, kindOfChars k = some kd := by
  simp only [isKwKind, Bool.or_eq_true, List.contains_iff_mem] at h
  apply Option.isSome_iff_exists.mp
  rcases h with h | h
  · exact List.all_eq_true.mp lexer_kinds_covered.2 k h
  · exact List.all_eq_true.mp (by decide +kernel : (endKinds.all fun k => (kindOfChars k).isSome) = true) k h

theorem toParserTok_isKeyword (t : Tok) : (toParserTok t).kind.isKeyword = isKwKind Gen.OalLex.cfg t.kind := by
  unfold toParserTok
  cases h : kindOfChars t.kind with
  | some kd => simp only [Option.getD_some]; exact kindOfChars_kw _ _ h
  | none =>
    simp only [Option.getD_none]
    cases hk : isKwKind Gen.OalLex.cfg t.kind with
    | false => rfl
    | true => obtain ⟨kd, hkd⟩ := isKwKind_mapped _ hk; rw [h] at hkd; simp at hkd

theorem lower_toParserTok (t : Tok) :
    Pyx.Oal.mapTok Pyx.Oal.lowerKw (toParserTok t) = toParserTok (normTok Gen.OalLex.cfg t) := by
  have hk := toParserTok_isKeyword t
  unfold toParserTok at hk ⊢
  unfold normTok
  cases hkw : isKwKind Gen.OalLex.cfg t.kind <;>
    simp [Pyx.Oal.mapTok, Pyx.Oal.lowerKw, hk ▸ hkw, lowerStr_ofList]

theorem respelling_of_norm (l l' : List Tok)
    (h : l'.map (normTok Gen.OalLex.cfg) = l.map (normTok Gen.OalLex.cfg)) :
    Pyx.Oal.Respelling (toParserToks l) (toParserToks l') := by
  have hc : Pyx.Oal.mapTok Pyx.Oal.lowerKw ∘ toParserTok = toParserTok ∘ normTok Gen.OalLex.cfg :=
    funext lower_toParserTok
  rw [Pyx.Oal.respelling_iff, toParserToks, toParserToks, List.map_map, List.map_map, hc, ← List.map_map,
    ← List.map_map, h]

/-- text_case, given the lexical half: two texts whose normalised token streams agree (C08 `lex_case`: they differ
    only in the letter case of keyword occurrences) parse - lexer model, conversion, parser model, any precedence
    table - to trees that are equal after lower-casing the spelling-carrying fields; one is rejected iff the other is -/
theorem text_case_of_lex (tbl : Pyx.Oal.Tbl) (text text' : List Char)
    (hlex : (lex text').map (normTok Gen.OalLex.cfg) = (lex text).map (normTok Gen.OalLex.cfg)) :
    (Pyx.Oal.parseStmts tbl (toParserToks (lex text'))).map Pyx.Oal.normCase =
      (Pyx.Oal.parseStmts tbl (toParserToks (lex text))).map Pyx.Oal.normCase ∧
    (Pyx.Oal.parseStmts tbl (toParserToks (lex text')) = none ↔
      Pyx.Oal.parseStmts tbl (toParserToks (lex text)) = none) := by
  have hr := respelling_of_norm (lex text) (lex text') hlex
  exact ⟨Pyx.Oal.parseStmts_respelling tbl hr, Pyx.Oal.parseStmts_reject_iff tbl hr.sameButKeywords⟩

end Pyx.OalLex
