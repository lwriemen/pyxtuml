import Proofs.SqlReload

/-! the database routes of xtuml/persist.py, and the three separately written parts in any order, present the metamodel
    (in the sense of Proofs/SqlReload.lean) -/
namespace Pyx.Sql

theorem form_classItems (L : List ClassM) : ∀ it ∈ L.map ClassM.item, it.form = .cls := by
  intro it hit
  obtain ⟨c, _, rfl⟩ := List.mem_map.mp hit
  rfl

theorem form_assocItems (A : List AssocM) : ∀ it ∈ A.map AssocM.item, it.form = .assoc := by
  intro it hit
  obtain ⟨a, _, rfl⟩ := List.mem_map.mp hit
  rfl

theorem form_instItems (c : ClassM) : ∀ it ∈ c.instItems, it.form = .inst := by
  intro it hit
  obtain ⟨r, _, rfl⟩ := List.mem_map.mp hit
  rfl

theorem form_indexItems (c : ClassM) : ∀ it ∈ c.indexItems, it.form = .index := by
  intro it hit
  obtain ⟨e, _, rfl⟩ := List.mem_map.mp hit
  rfl

theorem form_flatMap {f : ClassM → List Item} {g : Form} (h : ∀ c, ∀ it ∈ f c, it.form = g) (L : List ClassM) :
    ∀ it ∈ L.flatMap f, it.form = g := by
  intro it hit
  obtain ⟨c, _, hin⟩ := List.mem_flatMap.mp hit
  exact h c it hin

theorem form_ne {l : List Item} {g f : Form} (hg : ∀ it ∈ l, it.form = g) (hne : g ≠ f) : ∀ it ∈ l, it.form ≠ f :=
  fun it hit => hg it hit ▸ hne

theorem tablesI_classes (u : UC) (L : List ClassM) : tablesI u (L.map ClassM.item) = L.map (classB0 u) := by
  induction L with
  | nil => rfl
  | cons c cs ih => simp only [List.map_cons, ClassM.item, tablesI, ih, classB0, upAttrs]

theorem ropsI_assocs (A : List AssocM) : ropsI (A.map AssocM.item) = A.map assocB0 := by
  induction A with
  | nil => rfl
  | cons a as ih => simp only [List.map_cons, AssocM.item, ropsI, ih, assocB0]

theorem idxI_indexItems (u : UC) (k : Name) (c : ClassM) (hne : ∀ e ∈ c.indices, e.2 ≠ []) :
    idxI u k c.indexItems = if sameKind u k c.kind then c.indices else [] := by
  unfold ClassM.indexItems
  generalize c.indices = ixs at hne
  induction ixs with
  | nil => simp only [List.map_nil, idxI, ite_self]
  | cons e es ih =>
    have he : e.2.isEmpty = false := by
      cases h : e.2 with
      | nil => exact absurd h (hne e List.mem_cons_self)
      | cons _ _ => rfl
    have ih := ih fun x hx => hne x (List.mem_cons_of_mem _ hx)
    rw [List.map_cons, idxI, he, ih]
    cases sameKind u k c.kind <;> rfl

theorem insI_instItems (u : UC) (k : Name) (c : ClassM) :
    insI u k c.instItems = if sameKind u k c.kind then c.rows.map (fun r => (c.attrs, r)) else [] := by
  unfold ClassM.instItems
  induction c.rows with
  | nil => simp only [List.map_nil, insI, ite_self]
  | cons r rs ih =>
    rw [List.map_cons, insI, ih]
    cases sameKind u k c.kind <;> rfl

theorem tablesI_item_cons (u : UC) (c : ClassM) (rest : List Item) : tablesI u (c.item :: rest) = classB0 u c :: tablesI u rest := rfl
theorem ropsI_item_cons (c : ClassM) (rest : List Item) : ropsI (c.item :: rest) = ropsI rest := rfl
theorem insI_item_cons (u : UC) (k : Name) (c : ClassM) (rest : List Item) : insI u k (c.item :: rest) = insI u k rest := rfl

theorem sameKind_false_of_ne (u : UC) (L : List ClassM) (hd : (L.map fun c => u.upper c.kind).Nodup) {c c0 : ClassM}
    (hc : c ∈ L) (hc0 : c0 ∈ L) (hne : c ≠ c0) : sameKind u c0.kind c.kind = false :=
  Bool.eq_false_iff.mpr fun h => hne (class_unique u hd hc0 hc h).symm

/-- `f` is a variable so that the identifier items of a class may stand behind the class's own table, as `persist_database`
    writes them -/
theorem idxI_flatMap_index (u : UC) (L : List ClassM) (hd : (L.map fun c => u.upper c.kind).Nodup)
    (hne : ∀ c ∈ L, ∀ e ∈ c.indices, e.2 ≠ []) {c0 : ClassM} (hc0 : c0 ∈ L) (f : ClassM → List Item)
    (hf : ∀ c, idxI u c0.kind (f c) = idxI u c0.kind c.indexItems) : idxI u c0.kind (L.flatMap f) = c0.indices := by
  rw [proj_flatMap (idxI u c0.kind) rfl (idxI_append u c0.kind) f L c0 hc0 (hd.of_map _ fun _ _ h e => h (e ▸ rfl)) (by
    intro c hc hcne
    rw [hf, idxI_indexItems u c0.kind c (hne c hc), sameKind_false_of_ne u L hd hc hc0 hcne]; rfl)]
  rw [hf, idxI_indexItems u c0.kind c0 (hne c0 hc0), sameKind_refl]; rfl

theorem insI_flatMap_inst (u : UC) (L : List ClassM) (hd : (L.map fun c => u.upper c.kind).Nodup) {c0 : ClassM} (hc0 : c0 ∈ L) :
    insI u c0.kind (L.flatMap ClassM.instItems) = c0.rows.map (fun r => (c0.attrs, r)) := by
  rw [proj_flatMap (insI u c0.kind) rfl (insI_append u c0.kind) ClassM.instItems L c0 hc0 (hd.of_map _ fun _ _ h e => h (e ▸ rfl)) (by
    intro c hc hcne
    rw [insI_instItems, sameKind_false_of_ne u L hd hc hc0 hcne]; rfl)]
  rw [insI_instItems, sameKind_refl]; rfl

/-- classes in the order `S`, associations in the order `A`, rows, identifiers class by class in the order `L`:
    `serialize_database` (`S = L` sorted) and the three `persist_*` parts one after the other (`L` in dict order) -/
theorem presents_blocks (u : UC) (m : MM) (hm : m.Closed u) {S L : List ClassM} {A : List AssocM} (hS : S.Perm m.classes)
    (hL : L.Perm m.classes) (hA : ∀ a ∈ A, a ∈ m.assocs) :
    Presents u m (S.map ClassM.item ++ A.map AssocM.item ++ m.classes.flatMap ClassM.instItems ++ L.flatMap ClassM.indexItems)
      S A := by
  have hLd : (L.map fun c => u.upper c.kind).Nodup := (hL.map _).nodup_iff.mpr hm.distinct
  have hS' := form_classItems S
  have hA' := form_assocItems A
  have hI' := form_flatMap form_instItems m.classes
  have hX' := form_flatMap form_indexItems L
  refine ⟨hS, ?_, ?_, ?_, hA, fun c hc => ?_, fun c hc => ?_⟩
  · simp only [List.forall_mem_append]
    exact ⟨⟨⟨itemOf_classItems m fun c => hS.mem_iff.mp, itemOf_assocItems m hA⟩, itemOf_instItems m fun _ h => h⟩,
      itemOf_indexItems m fun c => hL.mem_iff.mp⟩
  · rw [tablesI_append, tablesI_append, tablesI_append, tablesI_classes, tablesI_eq_nil u (form_ne hA' (by decide)),
      tablesI_eq_nil u (form_ne hI' (by decide)), tablesI_eq_nil u (form_ne hX' (by decide)), List.append_nil, List.append_nil,
      List.append_nil]
  · rw [ropsI_append, ropsI_append, ropsI_append, ropsI_assocs, ropsI_eq_nil (form_ne hS' (by decide)),
      ropsI_eq_nil (form_ne hI' (by decide)), ropsI_eq_nil (form_ne hX' (by decide)), List.nil_append, List.append_nil,
      List.append_nil]
  · rw [idxI_append, idxI_append, idxI_append, idxI_eq_nil u _ (form_ne hS' (by decide)),
      idxI_eq_nil u _ (form_ne hA' (by decide)), idxI_eq_nil u _ (form_ne hI' (by decide)),
      idxI_flatMap_index u L hLd (fun c hc => (hm.idents c (hL.mem_iff.mp hc)).2) (hL.mem_iff.mpr hc) ClassM.indexItems fun _ => rfl]
    rfl
  · rw [insI_append, insI_append, insI_append, insI_eq_nil u _ (form_ne hS' (by decide)),
      insI_eq_nil u _ (form_ne hA' (by decide)), insI_eq_nil u _ (form_ne hX' (by decide)),
      insI_flatMap_inst u m.classes hm.distinct hc, List.append_nil]
    rfl

/-- `persist_database`: per class in sorted order its table and its identifiers, associations sorted by rel id, rows -/
theorem presents_persistDatabase (u : UC) (m : MM) (hm : m.Closed u) :
    Presents u m (m.persistDatabase u) (m.sortedClasses u) m.assocsById := by
  have hperm : (m.sortedClasses u).Perm m.classes := sortBy_perm _ _
  have hA : ∀ a ∈ m.assocsById, a ∈ m.assocs := fun _ => (mem_sortBy _ _ _).mp
  have hsd : ((m.sortedClasses u).map fun c => u.upper c.kind).Nodup := (hperm.map _).nodup_iff.mpr hm.distinct
  have hA' := form_assocItems m.assocsById
  have hI' := form_flatMap form_instItems m.classes
  -- the interleaved block is no permutation of blocks (two class tables are not `Apart`): the projections are computed directly
  have hCX : ∀ (f : Form), f = .assoc ∨ f = .inst →
      ∀ it ∈ (m.sortedClasses u).flatMap (fun c => c.item :: c.indexItems), it.form ≠ f := by
    intro f hf it hit e
    obtain ⟨c, hc, hin⟩ := List.mem_flatMap.mp hit
    rcases List.mem_cons.mp hin with rfl | hin
    · rcases hf with rfl | rfl <;> cases e
    · rw [form_indexItems c it hin] at e
      rcases hf with rfl | rfl <;> cases e
  refine ⟨hperm, itemOf_route u m _ (by simp [MM.routes]), ?_, ?_, hA, fun c hc => ?_, fun c hc => ?_⟩
  · rw [MM.persistDatabase, tablesI_append, tablesI_append, tablesI_eq_nil u (form_ne hA' (by decide)),
      tablesI_eq_nil u (form_ne hI' (by decide)), List.append_nil, List.append_nil]
    induction m.sortedClasses u with
    | nil => rfl
    | cons c cs ih =>
      rw [List.flatMap_cons, List.cons_append, tablesI_item_cons, tablesI_append,
        tablesI_eq_nil u (form_ne (form_indexItems c) (by decide)), ih]
      rfl
  · rw [MM.persistDatabase, ropsI_append, ropsI_append, ropsI_eq_nil (hCX _ (Or.inl rfl)), ropsI_assocs,
      ropsI_eq_nil (form_ne hI' (by decide)), List.nil_append, List.append_nil]
  · rw [MM.persistDatabase, idxI_append, idxI_append, idxI_eq_nil u _ (form_ne hA' (by decide)),
      idxI_eq_nil u _ (form_ne hI' (by decide)),
      idxI_flatMap_index u _ hsd (fun c hc => (hm.idents c (hperm.mem_iff.mp hc)).2) (hperm.mem_iff.mpr hc)
        (fun c => c.item :: c.indexItems) fun _ => rfl, List.append_nil, List.append_nil]
  · rw [MM.persistDatabase, insI_append, insI_append, insI_eq_nil u _ (hCX _ (Or.inr rfl)),
      insI_eq_nil u _ (form_ne hA' (by decide)), insI_flatMap_inst u m.classes hm.distinct hc]
    rfl


/-- `serialize_database`: classes sorted, associations sorted by (rel id, source kind), rows, identifiers -/
theorem presents_serializeDatabase (u : UC) (m : MM) (hm : m.Closed u) :
    Presents u m (m.serializeDatabase u) (m.sortedClasses u) m.assocsByIdKind :=
  presents_blocks u m hm (sortBy_perm _ _) (sortBy_perm _ _) fun _ => (mem_sortBy _ _ _).mp

/-- the metamodel as it is after one reload through a route that writes classes in sorted order and associations in
    the order `A` -/
def MM.reloaded (u : UC) (m : MM) (A : List AssocM) : MM := ⟨(m.sortedClasses u).map (canonClass u), A⟩

theorem reload_route (u : UC) (m : MM) (hw : m.WF u) (hm : m.Closed u) {items : List Item} {A : List AssocM}
    (hpr : Presents u m items (m.sortedClasses u) A) (text : Text) (hp : printItems u items = some text) :
    ∃ stmts bs, classify u text = .accepted stmts ∧ build u stmts = .ok bs ∧ bs.toMM u = m.reloaded u A := by
  obtain ⟨stmts, hs, hc⟩ := classify_items u items text (fun it hit => hw.item (hpr.fromModel it hit)) hp
  obtain ⟨bs, hb, he⟩ := reload_of_presents u m hm _ _ _ stmts hpr hs
  exact ⟨stmts, bs, hc, hb, he⟩

theorem reload_serializeDatabase (u : UC) (m : MM) (hw : m.WF u) (hm : m.Closed u) (text : Text)
    (hp : printItems u (m.serializeDatabase u) = some text) :
    ∃ stmts bs, classify u text = .accepted stmts ∧ build u stmts = .ok bs ∧ bs.toMM u = m.reloaded u m.assocsByIdKind :=
  reload_route u m hw hm (presents_serializeDatabase u m hm) text hp

theorem reload_persistDatabase (u : UC) (m : MM) (hw : m.WF u) (hm : m.Closed u) (text : Text)
    (hp : printItems u (m.persistDatabase u) = some text) :
    ∃ stmts bs, classify u text = .accepted stmts ∧ build u stmts = .ok bs ∧ bs.toMM u = m.reloaded u m.assocsById :=
  reload_route u m hw hm (presents_persistDatabase u m hm) text hp

/-- the six orders in which the three separately written parts can be concatenated (or fed one after the other) -/
def serializeOrders (u : UC) (m : MM) : List (List Item) :=
  [(m.serializeSchema u) ++ (m.serializeInstances) ++ (m.serializeUniqueIdentifiers u),
   (m.serializeSchema u) ++ (m.serializeUniqueIdentifiers u) ++ (m.serializeInstances),
   (m.serializeInstances) ++ (m.serializeSchema u) ++ (m.serializeUniqueIdentifiers u),
   (m.serializeInstances) ++ (m.serializeUniqueIdentifiers u) ++ (m.serializeSchema u),
   (m.serializeUniqueIdentifiers u) ++ (m.serializeSchema u) ++ (m.serializeInstances),
   (m.serializeUniqueIdentifiers u) ++ (m.serializeInstances) ++ (m.serializeSchema u)]

def persistOrders (u : UC) (m : MM) : List (List Item) :=
  [(m.persistSchema u) ++ (m.persistInstances) ++ (m.persistUniqueIdentifiers),
   (m.persistSchema u) ++ (m.persistUniqueIdentifiers) ++ (m.persistInstances),
   (m.persistInstances) ++ (m.persistSchema u) ++ (m.persistUniqueIdentifiers),
   (m.persistInstances) ++ (m.persistUniqueIdentifiers) ++ (m.persistSchema u),
   (m.persistUniqueIdentifiers) ++ (m.persistSchema u) ++ (m.persistInstances),
   (m.persistUniqueIdentifiers) ++ (m.persistInstances) ++ (m.persistSchema u)]

theorem flatten_three {α : Type} (x y z : List α) : [x, y, z].flatten = x ++ y ++ z := by simp

theorem perm_of_mem_orders {α : Type} {x y z w : List α}
    (h : w ∈ [x ++ y ++ z, x ++ z ++ y, y ++ x ++ z, y ++ z ++ x, z ++ x ++ y, z ++ y ++ x]) :
    ∃ bs, [x, y, z].Perm bs ∧ w = bs.flatten := by
  simp only [List.mem_cons, List.mem_nil_iff, or_false] at h
  rcases h with rfl | rfl | rfl | rfl | rfl | rfl
  · exact ⟨_, .refl _, (flatten_three ..).symm⟩
  · exact ⟨_, .cons x (.swap z y []), (flatten_three ..).symm⟩
  · exact ⟨_, .swap y x [z], (flatten_three ..).symm⟩
  · exact ⟨_, (List.Perm.swap y x [z]).trans (.cons y (.swap z x [])), (flatten_three ..).symm⟩
  · exact ⟨_, (List.Perm.cons x (.swap z y [])).trans (.swap z x [y]), (flatten_three ..).symm⟩
  · exact ⟨_, ((List.Perm.swap y x [z]).trans (.cons y (.swap z x []))).trans (.swap z y [x]), (flatten_three ..).symm⟩

theorem parts_apart (S L L' : List ClassM) (A : List AssocM) :
    [S.map ClassM.item ++ A.map AssocM.item, L.flatMap ClassM.instItems, L'.flatMap ClassM.indexItems].Pairwise Apart := by
  have hI := form_flatMap form_instItems L
  have hX := form_flatMap form_indexItems L'
  have hS : ∀ it ∈ S.map ClassM.item ++ A.map AssocM.item, it.form = .cls ∨ it.form = .assoc := fun it hit =>
    (List.mem_append.mp hit).imp (form_classItems S it) (form_assocItems A it)
  simp only [List.pairwise_cons, List.mem_cons, List.not_mem_nil, or_false, forall_eq_or_imp, forall_eq, false_imp_iff,
    implies_true, List.Pairwise.nil, and_true]
  refine ⟨⟨fun x hx y hy e => ?_, fun x hx y hy e => ?_⟩, fun x hx y hy e => ?_⟩
  · rw [hI y hy] at e; rcases hS x hx with h | h <;> rw [h] at e <;> cases e
  · rw [hX y hy] at e; rcases hS x hx with h | h <;> rw [h] at e <;> cases e
  · rw [hI x hx, hX y hy] at e; cases e

theorem reload_parts (u : UC) (m : MM) (hm : m.Closed u) (items : List Item) (stmts : List Stmt)
    (hs : itemsStmts u items = some stmts) :
    (items ∈ serializeOrders u m → ∃ bs, build u stmts = .ok bs ∧ bs.toMM u = m.reloaded u m.assocsByIdKind) ∧
    (items ∈ persistOrders u m → ∃ bs, build u stmts = .ok bs ∧ bs.toMM u = m.reloaded u m.assocsById) := by
  have hS : (m.sortedClasses u).Perm m.classes := sortBy_perm _ _
  constructor
  · intro h
    obtain ⟨bs, hp, rfl⟩ := perm_of_mem_orders h
    have hb : Presents u m [m.serializeSchema u, m.serializeInstances, m.serializeUniqueIdentifiers u].flatten
        (m.sortedClasses u) m.assocsByIdKind := by
      rw [flatten_three]; exact presents_serializeDatabase u m hm
    exact reload_of_presents u m hm _ _ _ stmts
      (hb.perm_blocks hp (parts_apart (m.sortedClasses u) m.classes (m.sortedClasses u) m.assocsByIdKind)) hs
  · intro h
    obtain ⟨bs, hp, rfl⟩ := perm_of_mem_orders h
    have hb : Presents u m [m.persistSchema u, m.persistInstances, m.persistUniqueIdentifiers].flatten
        (m.sortedClasses u) m.assocsById := by
      rw [flatten_three]; exact presents_blocks u m hm hS (.refl _) fun _ => (mem_sortBy _ _ _).mp
    exact reload_of_presents u m hm _ _ _ stmts
      (hb.perm_blocks hp (parts_apart (m.sortedClasses u) m.classes m.classes m.assocsById)) hs

end Pyx.Sql
