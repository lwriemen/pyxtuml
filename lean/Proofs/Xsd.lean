import PyxModel.Extract.Xsd
import Proofs.ExtractScope

/-!
  C20 — well-formedness for the XSD theorems; the XSD declarations under the edits rename and move class
  (the class updates of C14).
-/

namespace Pyx.Extract

/-- well-formedness needed for the XSD theorems: C14's, unique DT_IDs and data type names, acyclic containment and
    acyclic user-type chains (where Python would not terminate) -/
structure XWF (d : ClassDiagram) : Prop where
  wf : WF d
  dtIds : (d.dts.map (·.id)).Nodup
  dtNames : (d.dts.map (·.name)).Nodup
  /-- acyclic containment: the fuel of `is_contained_in` / `is_global` is never exhausted -/
  tree : TreeOk d.containers d.pkgrefs
  /-- acyclic user-type chains: the fuel of the `while S_UDT` loop is never exhausted -/
  chain : DtChainOk d.dts
  /-- every attribute is on the R103 chain of its class (the edit theorems address attributes through the class) -/
  noLoose : d.loose = []

theorem xclassAll_chained {d : ClassDiagram} (h : d.loose = []) (c : Class) : xclassAll d c = xclassOf d c := by
  unfold xclassAll looseOf
  rw [h]
  rfl

theorem xsdSpec_chained {d : ClassDiagram} (h : d.loose = []) (comp : Nat) : xsdSpec d comp = xsdSpecChained d comp := by
  unfold xsdSpec xsdSpecChained
  rw [funext (xclassAll_chained h)]

theorem applyXEdit_loose (e : XEdit) (d : ClassDiagram) : (applyXEdit e d).loose = d.loose := by
  cases e <;> rfl

theorem xattr_same {d d' : ClassDiagram} {x : Attr}
    (ht : (attrDt d' x).bind (baseTypeName d'.dts) = (attrDt d x).bind (baseTypeName d.dts)) :
    xattr d' x = xattr d x := by
  unfold xattr; rw [ht]

theorem xattr_of_attrDt {d d' : ClassDiagram} {x : Attr} (hd : d'.dts = d.dts) (h : attrDt d' x = attrDt d x) :
    xattr d' x = xattr d x := by
  unfold xattr; rw [h, hd]

theorem xspec_ext {s s' : XsdSpec} (h1 : s.types = s'.types) (h2 : s.comp = s'.comp) (h3 : s.classes = s'.classes) :
    s = s' := by
  cases s; cases s'; simp_all

theorem xattr_decl (d : ClassDiagram) : xattr d = declOf XAttr.mk (baseTypeName d.dts) true d := rfl

theorem xrename_commutes {d : ClassDiagram} (wf : WF d) (c a : Nat) (new : String) (comp : Nat) :
    xsdSpecChained (applyXEdit (.renameAttr c a new) d) comp =
      specEdit (xresolve d comp (.renameAttr c a new)) (xsdSpecChained d comp) := by
  simp only [xresolve]
  cases hc : findClass d c with
  | none => rw [show applyXEdit (.renameAttr c a new) d = d from mapClass_missing hc _]; rfl
  | some kc =>
    dsimp only
    cases ha : kc.findAttr a with
    | none => rw [show applyXEdit (.renameAttr c a new) d = d from mapAttr_missing wf hc ha _]; rfl
    | some xa =>
      exact xspec_ext rfl rfl (classes_point wf hc XClass.kl _ (xclassOf (applyEdit (.renameAttr c a new) d)) (xclassOf d)
        (fun _ => rfl) (fun k => k.mapAttr a (fun x => { x with name := new })) (fun _ => rfl)
        (fun k _ _ => congrArg (XClass.mk k.kl) (filterMap_congr' (fun x _ => xattr_of_attrDt rfl (rn_attrDt x x rfl)))) _
        (congrArg (XClass.mk kc.kl) (rn_decls wf hc ha (mk := XAttr.mk)
          (R := fun s => { s with name := renameKey xa.name new s.name }) (fun _ _ => rfl) (baseTypeName d.dts) true)))

theorem mv_attrDt {d : ClassDiagram} {c : Nat} {p : Parent} (x : Attr) :
    attrDt (applyEdit (.moveClass c p) d) x = attrDt d x :=
  attrDt_congr rfl mv_attrKindAt

theorem mv_xclassOf {d : ClassDiagram} {c : Nat} {p : Parent} (k : Class) :
    xclassOf (applyEdit (.moveClass c p) d) (if k.id == c then { k with parent := p } else k) = xclassOf d k := by
  split <;> exact congrArg (XClass.mk k.kl) (filterMap_congr' (fun x _ => xattr_of_attrDt rfl (mv_attrDt x)))

theorem xmoveClass_commutes {d : ClassDiagram} (wf : WF d) (c : Nat) (p : Parent) (comp : Nat) :
    xsdSpecChained (applyXEdit (.moveClass c p) d) comp =
      specEdit (xresolve d comp (.moveClass c p)) (xsdSpecChained d comp) := by
  simp only [xresolve]
  cases hc : findClass d c with
  | none =>
    rw [show applyXEdit (.moveClass c p) d = d from mapClass_missing hc _]
    rfl
  | some kc =>
    have hm := filterMap_move (fun (k : Class) => k.id) XClass.kl (fun k => containedIn d.containers d.pkgrefs comp k.parent)
      (fun k => some (xclassOf (applyEdit (.moveClass c p) d) k)) (fun k => some (xclassOf d k))
      wf.clsIds hc (fun k => { k with parent := p }) (fun k => congrArg some (mv_xclassOf k))
      (fun y hy z hz w hw he => by
        cases hz; cases hw; rw [wf.kl_inj hy (findClass_mem hc) he, findClass_id hc])
    simp only [List.filterMap_eq_map'] at hm
    refine (congrArg (XsdSpec.mk _ _) hm).trans ?_
    dsimp only
    cases containedIn d.containers d.pkgrefs comp kc.parent <;> cases containedIn d.containers d.pkgrefs comp p <;>
      simp only [specEdit, List.length_map] <;> rfl

end Pyx.Extract
