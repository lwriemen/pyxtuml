import Proofs.ExtractEdits

/-!
  C14 — shape of the extracted schema; frame lemmas of the schema edits: the two facts behind every edit of the associations
  of one relationship (`mapGroup_mem`, `mapGroup_proj`) and the moves.  The frames of rename, retype, reorder and of the end
  edits are proved where they are stated (Props/C14, `edit_frame_*`).  "Shape" is that of the schema: the ties to the IR of
  Gen/ExtractShape.lean are Proofs/ExtractShapeTie and the files its head names.
-/

namespace Pyx.Extract

/-- the attribute is kept by `mk_class`: not a left-out derived attribute, and of a supported type -/
def Attr.kept (d : ClassDiagram) (drv : Bool) (a : Attr) : Bool := (drv || !a.isDerived) && (attrTy d a).isSome

theorem sattr_isSome (d : ClassDiagram) (drv : Bool) (a : Attr) : (sattr d drv a).isSome = a.kept d drv := by
  unfold sattr Attr.kept
  cases drv <;> cases a.isDerived <;> cases attrTy d a <;> rfl

theorem classOf_attr_names (d : ClassDiagram) (drv : Bool) (c : Class) :
    (classOf d drv c).attrs.map (·.name) = (c.attrs.filter (Attr.kept d drv)).map (·.name) := by
  unfold classOf
  simp only
  induction c.attrs with
  | nil => rfl
  | cons a t ih =>
    simp only [List.filterMap_cons, List.filter_cons]
    have hk := sattr_isSome d drv a
    cases hs : sattr d drv a with
    | none =>
      rw [hs] at hk
      have : a.kept d drv = false := by simpa using hk.symm
      simp [this, ih]
    | some s =>
      rw [hs] at hk
      have : a.kept d drv = true := by simpa using hk.symm
      simp [this, ih, sattr_name hs]

theorem classOf_attr_mem {d : ClassDiagram} {drv : Bool} {c : Class} {s : SAttr} :
    s ∈ (classOf d drv c).attrs ↔
      ∃ a ∈ c.attrs, a.name = s.name ∧ (drv = true ∨ a.isDerived = false) ∧ attrTy d a = some s.ty := by
  unfold classOf
  simp only [List.mem_filterMap]
  constructor
  · rintro ⟨a, ha, hs⟩
    have := sattr_eq_some.mp hs
    exact ⟨a, ha, this.2.1.symm, this.1, this.2.2⟩
  · rintro ⟨a, ha, hn, hd, ht⟩
    exact ⟨a, ha, sattr_eq_some.mpr ⟨hd, hn.symm, ht⟩⟩

theorem identOf_eq_some {drv : Bool} {c : Class} {i : Ident} {si : SIdent} :
    identOf drv c i = some si ↔
      si.num = i.num + 1 ∧ si.names = (i.attrs.filterMap c.findAttr).map (·.name) ∧ i.attrs.filterMap c.findAttr ≠ [] ∧
        (drv = true ∨ ∀ a ∈ i.attrs.filterMap c.findAttr, a.isDerived = false) := by
  unfold identOf
  generalize i.attrs.filterMap c.findAttr = as
  have hcond : ((!drv && as.any Attr.isDerived) || as.isEmpty) = false ↔
      as ≠ [] ∧ (drv = true ∨ ∀ a ∈ as, a.isDerived = false) := by
    cases drv <;> cases as <;> simp
  simp only
  split
  · rename_i hb
    exact ⟨fun h => (nomatch h), fun ⟨_, _, h⟩ => by rw [hcond.mpr h] at hb; cases hb⟩
  · rename_i hb
    rw [Option.some.injEq]
    exact ⟨fun h => h ▸ ⟨rfl, rfl, hcond.mp (Bool.eq_false_iff.mpr hb)⟩, fun ⟨h1, h2, _⟩ => by cases si; simp_all⟩

theorem classOf_ident_mem {drv : Bool} {d : ClassDiagram} {c : Class} {si : SIdent} :
    si ∈ (classOf d drv c).idents ↔
      ∃ i ∈ c.idents, si.num = i.num + 1 ∧ si.names = (i.attrs.filterMap c.findAttr).map (·.name) ∧
        (i.attrs.filterMap c.findAttr) ≠ [] ∧
        (drv = true ∨ ∀ a ∈ i.attrs.filterMap c.findAttr, a.isDerived = false) := by
  simp only [classOf, List.mem_filterMap, identOf_eq_some]

theorem frame_nop (s : Schema) : schemaEdit .nop s = s := rfl

theorem mapGroup_mem {s : Schema} {rel : Nat} {F : List SAssoc → List SAssoc} {g : SGroup} (hg : g ∈ s.groups)
    (hne : g.rel ≠ rel) : g ∈ (mapGroup s rel F).groups :=
  mem_map_of_fix hg (by simp [hne])

/-- whatever of an association the edit `F` of the items keeps (`π`), the edit of that relationship's group keeps in every group -/
theorem mapGroup_proj {τ : Type} (π : SAssoc → τ) {F : List SAssoc → List SAssoc} (h : ∀ l, (F l).map π = l.map π)
    (s : Schema) (rel : Nat) :
    (mapGroup s rel F).groups.map (fun g => (g.rel, g.items.map π)) = s.groups.map (fun g => (g.rel, g.items.map π)) := by
  unfold mapGroup
  rw [List.map_map]
  apply List.map_congr_left
  intro g _
  simp only [Function.comp]
  split
  · rw [h]
  · rfl

/-- moving a class out / in touches that class only -/
theorem frame_dropClass (kl : String) (s : Schema) :
    (schemaEdit (.dropClass kl) s).groups = s.groups ∧
    (schemaEdit (.dropClass kl) s).classes = s.classes.filter (fun c => c.kl != kl) := ⟨rfl, rfl⟩

theorem frame_insertClass (pos : Nat) (c : SClass) (s : Schema) :
    (schemaEdit (.insertClass pos c) s).groups = s.groups ∧
    (schemaEdit (.insertClass pos c) s).classes.Perm (c :: s.classes) :=
  ⟨rfl, insertAt_perm pos c s.classes⟩

theorem frame_dropGroup (rel : Nat) (s : Schema) :
    (schemaEdit (.dropGroup rel) s).classes = s.classes ∧
    (schemaEdit (.dropGroup rel) s).groups = s.groups.filter (fun g => g.rel != rel) := ⟨rfl, rfl⟩

theorem frame_insertGroup (pos : Nat) (g : SGroup) (s : Schema) :
    (schemaEdit (.insertGroup pos g) s).classes = s.classes ∧
    (schemaEdit (.insertGroup pos g) s).groups.Perm (g :: s.groups) :=
  ⟨rfl, insertAt_perm pos g s.groups⟩

end Pyx.Extract
