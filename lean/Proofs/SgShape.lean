import PyxModel.Prebuild.Flat
import Gen.SgShape
import Proofs.Lib.Lookup
import Proofs.StrCode

/-!
  C05 source tie, statement structure of the text generator's handlers: a GENERIC interpreter of the first-order IR that
  translator/gen_sgshape.py extracts from bridgepoint/sourcegen.py (`ActionTextGenWalker.accept_*`), over the flat population
  of PyxModel/Prebuild/Flat.lean, producing TOKENS, and the lemmas showing that the clauses of the hand-written printer
  (`regenVar`, `regenVal`, `regenSmt`, `regenChain`, `regenBlk`, `regenElifs`, `regenFlat`) equal that interpretation of the IR
  generated from the current source.

  The interpreter is defined once, for ANY IR value (`navWith`, `condWith`, `runStm`, `runStms`, `forStep`); only the accept
  oracle (through `handlerOf`) and the lemmas after it mention the generated constants.  What it fixes, once, is the meaning of
  the ATOMS:

    instances           `Inst`: a supertype instance by its row index (`sup "V_VAL" i`: ACT_BLK, ACT_SMT, V_VAL, V_VAR — the
                        classes other rows refer to), a subtype row by content (`sub r`), a model element that is no row, named
                        by what is printed of it, by the row it is reached from (`elem "O_OBJ" r`), the ACT_ACT (`act`), None
    `.<KL>[<n>(, 'ph')]` `hopMany`: how FlatPop stores each association (the referential in the row that holds it); from a
                        supertype instance the subtype classes of R603 / R801 yield THE subtype row (the first row naming the
                        supertype) when it is of the class asked for; R661 'precedes' = `succStmt`, 'succeeds' = the stored
                        Previous_Statement_ID; R602 = the ACT_SMT rows of the block in creation order; R682 = `elifsOf`,
                        R683 = `elseOf`, R666 = `outerBlk`; a V_PVL names its parameter whatever its class (recorded under
                        S_BPARM[831]; R832 / R833 / R843 yield nothing)
    one / any / many    the instances reached by the chain of hops that pass the filter closure: the first / all
    `<v>.<attr>`        `attrOf`: the class that owns the attribute and its value
    text → tokens       `toksOf` over the evaluated arguments of ONE buf call.  A literal is looked up VERBATIM in `litTable`
                        (unknown literal ↦ `bad`); an attribute value becomes the token of its (class, attribute, way of
                        printing) by `valTok`; two context rules of the lexer: the literal ' across R' directly followed by
                        str(R_REL.Numb) is the keyword and ONE identifier (FlatPop names an association 'R' + Numb), and a
                        data type / constant specification name directly followed by '::' is a NAMESPACE token.
                        Layout (`buf_linebreak`'s newline and indentation, `self._lvl`) has no tokens.
    self.accept(x)      an oracle `acc` (as `rec` in Proofs/InterpShape.lean): for a supertype instance the hand-written
                        printer ONE UNIT OF FUEL LOWER (`accHead`), for a subtype row / a model element the generic
                        interpretation of the handler `getattr(self, 'accept_' + class, default_accept)` (`accN`, two levels:
                        ACT_IF → ACT_E → ACT_BLK, V_PVL → S_BPARM); None prints nothing.  `envN q f n` is the environment
                        whose oracle goes through at most `n` such handlers before it meets a supertype instance: 2 under the
                        handler of a supertype (accept_V_VAL, accept_ACT_SMT), 1 under that of a subtype row, 0 where only
                        supertype instances are accepted (accept_V_VAR; anything else is `bad "accept"` there)
    while / for         `while`: one round, then the oracle `again` on the locals after the round.  `for`: the statement runs
                        no round, it hands ALL its instances to the oracle `loop`; one round is `forStep` (the body on the
                        first instance, `loop` on the rest).  The fuel of `regenChain` / `regenElifs` goes down by one per round
    sorted(…, key)      LineNumber / StartPosition are not part of FlatPop: the elif rows are taken in creation order (the key
                        closure must be bound; that creation order is source order is C06)
-/
namespace Pyx.SgShape
open Pyx.Prebuild Pyx.Prebuild.Flat Pyx.Gen.SgShape

inductive Inst where
  | none
  | sup (cls : String) (i : Nat)
  | sub (r : Row)
  | elem (cls : String) (r : Row)
  | act
  deriving DecidableEq, Repr

/-- what a Python local of a handler holds -/
inductive PV where
  | inst (x : Inst)
  | insts (l : List Inst)
  | filter (param : String) (conj : List Cond)
  | key
  | unset

abbrev Locals := List (String × PV)

def Locals.get (L : Locals) (x : String) : PV := (L.lookup x).getD .unset
def Locals.set (L : Locals) (x : String) (v : PV) : Locals := (x, v) :: L

def instOf : PV → Inst
  | .inst x => x
  | _ => .none

def truthy : PV → Bool
  | .inst .none => false
  | .inst _ => true
  | .insts l => !l.isEmpty
  | _ => false

def _root_.Pyx.Gen.SgShape.Hop.is (h : Hop) (c : String) (r : Nat) (p : String) : Bool := h.cls == c && h.rel == r && h.phrase == p

def optSup (cls : String) : Option Nat → List Inst
  | some i => [.sup cls i]
  | none => []

def optSub : Option Row → List Inst
  | some r => [.sub r]
  | none => []

def subAs (cls : String) : Option Row → List Inst
  | some r => if r.cls == cls then [.sub r] else []
  | none => []

def supHop (q : FlatPop) (cls : String) (i : Nat) (h : Hop) : List Inst :=
  if cls == "ACT_BLK" then
    if h.is "ACT_SMT" 602 "" then
      ((List.range q.length).filter (fun j => match (q[j]? : Option Row) with
        | some (Row.smt b _) => b == i
        | _ => false)).map (Inst.sup "ACT_SMT")
    else []
  else if cls == "ACT_SMT" then
    if h.is "ACT_SMT" 661 "succeeds" then
      (match q[i]? with
       | some (.smt _ p) => optSup "ACT_SMT" p
       | _ => [])
    else if h.is "ACT_SMT" 661 "precedes" then optSup "ACT_SMT" (succStmt q i)
    else if h.rel == 603 && h.phrase == "" then subAs h.cls (smtSub q i)
    else []
  else if cls == "V_VAL" then
    if h.rel == 801 && h.phrase == "" then subAs h.cls (valSub q i) else []
  else []

def subHop (q : FlatPop) (r : Row) (h : Hop) : List Inst :=
  match r with
  | .ai _ rv lv => if h.is "V_VAL" 609 "" then [.sup "V_VAL" rv] else if h.is "V_VAL" 689 "" then [.sup "V_VAL" lv] else []
  | .ret _ v => if h.is "V_VAL" 668 "" then optSup "V_VAL" v else []
  | .cr _ v _ => if h.is "V_VAR" 633 "" then [.sup "V_VAR" v] else if h.is "O_OBJ" 671 "" then [.elem "O_OBJ" r] else []
  | .cnv _ _ => if h.is "O_OBJ" 672 "" then [.elem "O_OBJ" r] else []
  | .del _ v => if h.is "V_VAR" 634 "" then [.sup "V_VAR" v] else []
  | .rel _ a b _ _ =>
    if h.is "V_VAR" 615 "" then [.sup "V_VAR" a] else if h.is "V_VAR" 616 "" then [.sup "V_VAR" b]
    else if h.is "R_REL" 653 "" then [.elem "R_REL" r] else []
  | .ru _ a b u _ _ =>
    if h.is "V_VAR" 617 "" then [.sup "V_VAR" a] else if h.is "V_VAR" 618 "" then [.sup "V_VAR" b]
    else if h.is "V_VAR" 619 "" then [.sup "V_VAR" u] else if h.is "R_REL" 654 "" then [.elem "R_REL" r] else []
  | .unr _ a b _ _ =>
    if h.is "V_VAR" 620 "" then [.sup "V_VAR" a] else if h.is "V_VAR" 621 "" then [.sup "V_VAR" b]
    else if h.is "R_REL" 655 "" then [.elem "R_REL" r] else []
  | .uru _ a b u _ _ =>
    if h.is "V_VAR" 622 "" then [.sup "V_VAR" a] else if h.is "V_VAR" 623 "" then [.sup "V_VAR" b]
    else if h.is "V_VAR" 624 "" then [.sup "V_VAR" u] else if h.is "R_REL" 656 "" then [.elem "R_REL" r] else []
  | .fio _ v _ _ => if h.is "V_VAR" 639 "" then [.sup "V_VAR" v] else if h.is "O_OBJ" 677 "" then [.elem "O_OBJ" r] else []
  | .fiw _ v _ _ w =>
    if h.is "V_VAR" 665 "" then [.sup "V_VAR" v] else if h.is "O_OBJ" 676 "" then [.elem "O_OBJ" r]
    else if h.is "V_VAL" 610 "" then [.sup "V_VAL" w] else []
  | .for_ _ blk v sv _ =>
    if h.is "V_VAR" 614 "" then [.sup "V_VAR" v] else if h.is "V_VAR" 652 "" then [.sup "V_VAR" sv]
    else if h.is "ACT_BLK" 605 "" then [.sup "ACT_BLK" blk] else []
  | .whl _ blk v => if h.is "V_VAL" 626 "" then [.sup "V_VAL" v] else if h.is "ACT_BLK" 608 "" then [.sup "ACT_BLK" blk] else []
  | .if_ s blk v =>
    if h.is "V_VAL" 625 "" then [.sup "V_VAL" v] else if h.is "ACT_BLK" 607 "" then [.sup "ACT_BLK" blk]
    else if h.is "ACT_EL" 682 "" then (elifsOf q s).map .sub else if h.is "ACT_E" 683 "" then optSub (elseOf q s) else []
  | .el _ blk v _ => if h.is "V_VAL" 659 "" then [.sup "V_VAL" v] else if h.is "ACT_BLK" 658 "" then [.sup "ACT_BLK" blk] else []
  | .e _ blk _ => if h.is "ACT_BLK" 606 "" then [.sup "ACT_BLK" blk] else []
  | .tvl _ var => if h.is "V_VAR" 805 "" then [.sup "V_VAR" var] else []
  | .irf _ var => if h.is "V_VAR" 808 "" then [.sup "V_VAR" var] else []
  | .isr _ var => if h.is "V_VAR" 809 "" then [.sup "V_VAR" var] else []
  | .uny _ _ o => if h.is "V_VAL" 804 "" then [.sup "V_VAL" o] else []
  | .bin _ _ l rr => if h.is "V_VAL" 802 "" then [.sup "V_VAL" l] else if h.is "V_VAL" 803 "" then [.sup "V_VAL" rr] else []
  | .avl _ root _ => if h.is "V_VAL" 807 "" then [.sup "V_VAL" root] else if h.is "O_ATTR" 806 "" then [.elem "O_ATTR" r] else []
  | .pvl _ _ => if h.is "S_BPARM" 831 "" then [.elem "S_BPARM" r] else []
  | .len _ _ _ => if h.is "S_ENUM" 824 "" then [.elem "S_ENUM" r] else []
  | .scv _ _ _ => if h.is "CNST_SYC" 850 "" then [.elem "CNST_SYC" r] else []
  | _ => []

def elemHop (cls : String) (r : Row) (h : Hop) : List Inst :=
  if cls == "S_ENUM" && h.is "S_EDT" 27 "" then [.elem "S_EDT" r]
  else if cls == "S_EDT" && h.is "S_DT" 17 "" then [.elem "S_DT" r]
  else if cls == "CNST_SYC" && h.is "CNST_CSP" 1504 "" then [.elem "CNST_CSP" r]
  else []

def hopMany (q : FlatPop) (x : Inst) (h : Hop) : List Inst :=
  match x with
  | .none => []
  | .sup cls i => supHop q cls i h
  | .sub r => subHop q r h
  | .elem cls r => elemHop cls r h
  | .act => if h.is "ACT_BLK" 666 "" then optSup "ACT_BLK" (outerBlk q) else []

def follow (q : FlatPop) : List Inst → List Hop → List Inst
  | xs, [] => xs
  | xs, h :: rest => follow q (xs.flatMap (fun x => hopMany q x h)) rest

/-- `subtype(inst, 603)` / `subtype(inst, 801)` -/
def subtypeOf (q : FlatPop) (x : Inst) (rel : Nat) : Inst :=
  match x with
  | .sup cls i =>
    if cls == "ACT_SMT" && rel == 603 then (match smtSub q i with | some r => .sub r | none => .none)
    else if cls == "V_VAL" && rel == 801 then (match valSub q i with | some r => .sub r | none => .none)
    else .none
  | _ => .none

def subAttr (r : Row) (a : String) : Option (String × String) :=
  match r with
  | .lin _ x => if a == "Value" then some ("V_LIN", x) else none
  | .lrl _ x => if a == "Value" then some ("V_LRL", x) else none
  | .lst _ x => if a == "Value" then some ("V_LST", x) else none
  | .lbo _ x => if a == "Value" then some ("V_LBO", x) else none
  | .uny _ op _ => if a == "Operator" then some ("V_UNY", op) else none
  | .bin _ op _ _ => if a == "Operator" then some ("V_BIN", op) else none
  | .fio _ _ _ c => if a == "cardinality" then some ("ACT_FIO", c) else none
  | .fiw _ _ _ c _ => if a == "cardinality" then some ("ACT_FIW", c) else none
  | .rel _ _ _ _ ph => if a == "relationship_phrase" then some ("ACT_REL", ph) else none
  | .ru _ _ _ _ _ ph => if a == "relationship_phrase" then some ("ACT_RU", ph) else none
  | .unr _ _ _ _ ph => if a == "relationship_phrase" then some ("ACT_UNR", ph) else none
  | .uru _ _ _ _ _ ph => if a == "relationship_phrase" then some ("ACT_URU", ph) else none
  | _ => none

def elemAttr (cls : String) (r : Row) (a : String) : Option (String × String) :=
  match r with
  | .cr _ _ kl => if cls == "O_OBJ" && a == "Key_Lett" then some (cls, kl) else none
  | .cnv _ kl => if cls == "O_OBJ" && a == "Key_Lett" then some (cls, kl) else none
  | .fio _ _ kl _ => if cls == "O_OBJ" && a == "Key_Lett" then some (cls, kl) else none
  | .fiw _ _ kl _ _ => if cls == "O_OBJ" && a == "Key_Lett" then some (cls, kl) else none
  | .rel _ _ _ n _ => if cls == "R_REL" && a == "Numb" then some (cls, n) else none
  | .ru _ _ _ _ n _ => if cls == "R_REL" && a == "Numb" then some (cls, n) else none
  | .unr _ _ _ n _ => if cls == "R_REL" && a == "Numb" then some (cls, n) else none
  | .uru _ _ _ _ n _ => if cls == "R_REL" && a == "Numb" then some (cls, n) else none
  | .avl _ _ n => if cls == "O_ATTR" && a == "Name" then some (cls, n) else none
  | .pvl _ n => if cls == "S_BPARM" && a == "Name" then some (cls, n) else none
  | .len _ nsp n =>
    if cls == "S_ENUM" && a == "Name" then some (cls, n) else if cls == "S_DT" && a == "Name" then some (cls, nsp) else none
  | .scv _ nsp n =>
    if cls == "CNST_SYC" && a == "Name" then some (cls, n)
    else if cls == "CNST_CSP" && a == "InformalGroupName" then some (cls, nsp) else none
  | _ => none

def attrOf (q : FlatPop) (x : Inst) (a : String) : Option (String × String) :=
  match x with
  | .sup cls i =>
    if cls == "V_VAR" && a == "Name" then
      (match q[i]? with
       | some (.var n _) => some ("V_VAR", n)
       | _ => none)
    else none
  | .sub r => subAttr r a
  | .elem cls r => elemAttr cls r a
  | _ => none

inductive How where
  | plain | lower | str
  | fmt (f : String)
  deriving DecidableEq, Repr

/-- an evaluated argument of buf -/
inductive EP where
  | lit (s : String)
  | val (cls attr : String) (how : How) (s : String)
  | missing (v a : String)
  deriving Repr

/-- THE TABLE: every literal the modelled handlers write, verbatim, and the tokens the lexer makes of it -/
def litTable : List (String × List Tok) :=
  [("return ", [.kw .return_]), ("break", [.kw .break_]), ("continue", [.kw .continue_]),
   ("control stop", [.kw .control_, .kw .stop]),
   ("create object instance ", [.kw .create, .kw .object, .kw .instance_]), (" of ", [.kw .of_]),
   ("create object instance of ", [.kw .create, .kw .object, .kw .instance_, .kw .of_]),
   ("delete object instance ", [.kw .delete, .kw .object, .kw .instance_]),
   ("relate ", [.kw .relate]), (" to ", [.kw .to]), (".", [.p .dot]), (" using ", [.kw .using_]),
   ("unrelate ", [.kw .unrelate]), (" from ", [.kw .from_]),
   ("select ", [.kw .select]), (" ", []), (" from instances of ", [.kw .from_, .kw .instances, .kw .of_]),
   (" where ", [.kw .where_]), ("assign ", [.kw .assign]), (" = ", [.p .eq]),
   ("while ", [.kw .while_]), ("end while", [.endWhile]), ("if ", [.kw .if_]), ("end if", [.endIf]),
   ("elif ", [.kw .elif_]), ("else", [.kw .else_]), ("for each ", [.kw .for_, .kw .each]), (" in ", [.kw .in_]),
   ("end for", [.endFor]), ("param.", [.kw .param, .p .dot]), ("selected", [.kw .selected]),
   ("(", [.p .lpar]), (")", [.p .rpar]), ("::", [.p .dcolon]), (";", [.p .semi])]

def litToks (s : String) : List Tok :=
  if s == " across R" then [.kw .across, .bad "R"] else
  match litTable.lookup s with
  | some t => t
  | none => [.bad s]

def valTok (cls attr : String) (how : How) (s : String) : Tok :=
  match how with
  | .plain =>
    if cls == "V_VAR" && attr == "Name" then nameTok s
    else if cls == "V_LIN" && attr == "Value" then .num s
    else if cls == "V_LRL" && attr == "Value" then .frac s
    else if cls == "V_BIN" && attr == "Operator" then tokOf binOps s
    else if cls == "V_UNY" && attr == "Operator" then tokOf unOps s
    else if (cls == "ACT_FIO" || cls == "ACT_FIW") && attr == "cardinality" then tokOf cards s
    else if attr == "relationship_phrase" then .phrase s
    else if cls == "O_OBJ" && attr == "Key_Lett" then .ident s
    else if attr == "Name" && (cls == "O_ATTR" || cls == "S_BPARM" || cls == "S_ENUM" || cls == "CNST_SYC" || cls == "S_DT")
      then .ident s
    else if cls == "CNST_CSP" && attr == "InformalGroupName" then .ident s
    else .bad (cls ++ "." ++ attr)
  | .lower => if cls == "V_LBO" && attr == "Value" then boolTok (lowerStr s) else .bad (cls ++ "." ++ attr)
  | .fmt f =>
    if cls == "V_LST" && attr == "Value" && f == "\"%s\"" then .str ("\"" ++ s ++ "\"") else .bad (cls ++ "." ++ attr)
  | .str => .bad (cls ++ "." ++ attr)

def isNs (cls attr : String) : Bool :=
  (cls == "S_DT" && attr == "Name") || (cls == "CNST_CSP" && attr == "InformalGroupName")

def nextIsDcolon : List EP → Bool
  | .lit s :: _ => s == "::"
  | _ => false

/-- tokens of the arguments of one buf call; `prev` = the literal written directly before -/
def toksOf (prev : Option String) : List EP → List Tok
  | [] => []
  | .lit s :: rest => (if s == " across R" then [Tok.kw .across] else litToks s) ++ toksOf (some s) rest
  | .val c a h v :: rest =>
    (if c == "R_REL" && a == "Numb" then
       (if prev == some " across R" && h == .str then Tok.ident v else .bad "R_REL.Numb")
     else if isNs c a && h == .plain && nextIsDcolon rest then .ns v
     else valTok c a h v) :: toksOf none rest
  | .missing v a :: rest => .bad (v ++ "." ++ a) :: toksOf none rest

def navWith (q : FlatPop) (L : Locals) (filt : Option String → Inst → Bool) : Nav → PV
  | .loc v => L.get v
  | .subtype v rel => .inst (subtypeOf q (instOf (L.get v)) rel)
  | .one v hops f => .inst (((follow q [instOf (L.get v)] hops).filter (filt f)).head?.getD .none)
  | .any v hops f => .inst (((follow q [instOf (L.get v)] hops).filter (filt f)).head?.getD .none)
  | .many v hops f => .insts ((follow q [instOf (L.get v)] hops).filter (filt f))

def condWith (q : FlatPop) (L : Locals) (filt : Option String → Inst → Bool) : Cond → Bool
  | .nav n => truthy (navWith q L filt n)
  | .navNot n => !truthy (navWith q L filt n)
  | .navIsNone n => !truthy (navWith q L filt n)
  | .navIsNotNone n => truthy (navWith q L filt n)
  | .attr v a =>
    (match attrOf q (instOf (L.get v)) a with
     | some (_, s) => s != ""
     | none => false)
  | .lvl => false          -- layout only (the translator admits nothing but a bare line break under it)

/-- inside a filter closure no further closure applies -/
def filt0 : Option String → Inst → Bool := fun o _ => o.isNone

def filt1 (q : FlatPop) (L : Locals) : Option String → Inst → Bool
  | none, _ => true
  | some name, x =>
    match L.get name with
    | .filter p conj => conj.all (condWith q (L.set p (.inst x)) filt0)
    | _ => false

def evalNav (q : FlatPop) (L : Locals) : Nav → PV := navWith q L (filt1 q L)
def evalCond (q : FlatPop) (L : Locals) : Cond → Bool := condWith q L (filt1 q L)

def epOf (q : FlatPop) (L : Locals) (v a : String) (how : How) : EP :=
  match attrOf q (instOf (L.get v)) a with
  | some (c, s) => .val c a how s
  | none => .missing v a

def evalPiece (q : FlatPop) (L : Locals) : Piece → EP
  | .lit s => .lit s
  | .attr v a => epOf q L v a .plain
  | .attrLower v a => epOf q L v a .lower
  | .attrStr v a => epOf q L v a .str
  | .fmt f v a => epOf q L v a (.fmt f)

structure Env where
  q : FlatPop
  acc : Inst → List Tok                                       -- self.accept(<instance>)
  again : Locals → List Tok := fun _ => [.bad "again"]       -- while: the rounds after this one
  loop : List Inst → List Tok := fun _ => [.bad "loop"]      -- for: the rounds over these instances

mutual
  def runStm (E : Env) : Stm → Locals → Locals × List Tok
    | .buf ps, L => (L, toksOf none (ps.map (evalPiece E.q L)))
    | .bufLinebreak ps, L => (L, toksOf none (ps.map (evalPiece E.q L)))
    | .accept n, L =>
      (L, match evalNav E.q L n with
          | .inst x => E.acc x
          | _ => [.bad "accept"])
    | .assign v n, L => (L.set v (evalNav E.q L n), [])
    | .defFilter name p conj, L => (L.set name (.filter p conj), [])
    | .defKey name _ _, L => (L.set name .key, [])
    | .lvlAdd _, L => (L, [])
    | .printClassName, L => (L, [])
    | .ite c thn els, L => if evalCond E.q L c then runStms E thn L else runStms E els L
    | .whileLoc v body, L =>
      if truthy (L.get v) then
        let r := runStms E body L
        (r.1, r.2 ++ E.again r.1)
      else (L, [])
    | .forSorted _ n key _, L =>
      (L, match evalNav E.q L n, L.get key with
          | .insts l, .key => E.loop l
          | _, _ => [.bad "for"])
  def runStms (E : Env) : List Stm → Locals → Locals × List Tok
    | [], L => (L, [])
    | s :: rest, L =>
      let r := runStm E s L
      let r2 := runStms E rest r.1
      (r2.1, r.2 ++ r2.2)
end

/-- one round of `for <v> in …: <body>` and the rounds that follow -/
def forStep (E : Env) (v : String) (body : List Stm) (L : Locals) : List Inst → List Tok
  | [] => []
  | x :: rest => (runStms E body (L.set v (.inst x))).2 ++ E.loop rest

def handler (E : Env) (body : List Stm) (x : Inst) : List Tok := (runStms E body [("inst", .inst x)]).2

/-- `getattr(self, 'accept_' + inst.__class__.__name__, self.default_accept)` -/
def handlerOf (cls : String) : List Stm := (handlers.lookup ("accept_" ++ cls)).getD default_accept

def rowOf : Inst → Option Row
  | .sub r => some r
  | _ => none

def optOf : PV → Option Nat
  | .inst (.sup _ i) => some i
  | _ => none

/-- accepting a supertype instance: the hand-written printer with fuel `f` -/
def accHead (q : FlatPop) (f : Nat) : Inst → List Tok
  | .none => []
  | .sup cls i =>
    if cls == "V_VAL" then regenVal q f i
    else if cls == "ACT_BLK" then regenBlk q f i
    else if cls == "ACT_SMT" then regenSmt q f i ++ [Tok.p .semi]
    else if cls == "V_VAR" then regenVar q i
    else [.bad cls]
  | _ => [.bad "accept"]

def loopN (q : FlatPop) (f : Nat) : List Inst → List Tok := fun l => regenElifs q f (l.filterMap rowOf)

/-- a subtype row / a model element: the generic interpretation of its class's handler, `n` levels deep -/
def accN (q : FlatPop) (f : Nat) : Nat → Inst → List Tok
  | 0 => accHead q f
  | n + 1 => fun x =>
    match x with
    | .sub r => handler { q := q, acc := accN q f n, loop := loopN q f } (handlerOf r.cls) (.sub r)
    | .elem cls r => handler { q := q, acc := accN q f n, loop := loopN q f } (handlerOf cls) (.elem cls r)
    | x => accHead q f x

def envN (q : FlatPop) (f : Nat) (n : Nat) : Env := { q := q, acc := accN q f n, loop := loopN q f }

theorem valSub_valOf {q : FlatPop} {v : Nat} {r : Row} (h : valSub q v = some r) : r.valOf = some v := by
  have := List.find?_some h
  simpa using this

theorem smtSub_smtOf {q : FlatPop} {s : Nat} {r : Row} (h : smtSub q s = some r) : r.smtOf = some s := by
  have := List.find?_some h
  simpa using this

theorem elseOf_isE {q : FlatPop} {s : Nat} {r : Row} (h : elseOf q s = some r) : ∃ a eb, r = .e a eb s := by
  have := List.find?_some h
  cases r <;> simp at this
  exact ⟨_, _, by rw [this]⟩

theorem elifsOf_isEl (q : FlatPop) (s : Nat) : ∀ r ∈ elifsOf q s, ∃ a blk v i, r = .el a blk v i := by
  intro r hr
  have := (List.mem_filter.mp hr).2
  cases r <;> simp at this
  exact ⟨_, _, _, _, rfl⟩

theorem handlers_nodup : (handlers.map Prod.fst).Nodup :=
  (by decide +kernel : ((handlers.map Prod.fst).map StrCode.code).Nodup).of_map _ fun _ _ hne e => hne (e ▸ rfl)

/-- `getattr` finds the entry at place `i`, names being distinct.  In the lemmas below `rfl` checks the place against the name
    of the class, so a handler inserted into sourcegen.py breaks exactly those lines. -/
theorem handlerOf_at (i : Nat) {c : String} {b : List Stm} (h : handlers[i]? = some ("accept_" ++ c, b)) :
    handlerOf c = b := by
  rw [handlerOf, lookup_of_mem handlers_nodup (List.mem_of_getElem? h)]; rfl

theorem handlerOf_ACT_ACT : handlerOf "ACT_ACT" = accept_ACT_ACT := handlerOf_at 9 rfl
theorem handlerOf_ACT_BLK : handlerOf "ACT_BLK" = accept_ACT_BLK := handlerOf_at 10 rfl
theorem handlerOf_ACT_SMT : handlerOf "ACT_SMT" = accept_ACT_SMT := handlerOf_at 11 rfl
theorem handlerOf_ACT_RET : handlerOf "ACT_RET" = accept_ACT_RET := handlerOf_at 12 rfl
theorem handlerOf_ACT_BRK : handlerOf "ACT_BRK" = accept_ACT_BRK := handlerOf_at 13 rfl
theorem handlerOf_ACT_CON : handlerOf "ACT_CON" = accept_ACT_CON := handlerOf_at 14 rfl
theorem handlerOf_ACT_CTL : handlerOf "ACT_CTL" = accept_ACT_CTL := handlerOf_at 15 rfl
theorem handlerOf_ACT_CR : handlerOf "ACT_CR" = accept_ACT_CR := handlerOf_at 16 rfl
theorem handlerOf_ACT_CNV : handlerOf "ACT_CNV" = accept_ACT_CNV := handlerOf_at 17 rfl
theorem handlerOf_ACT_DEL : handlerOf "ACT_DEL" = accept_ACT_DEL := handlerOf_at 18 rfl
theorem handlerOf_ACT_REL : handlerOf "ACT_REL" = accept_ACT_REL := handlerOf_at 19 rfl
theorem handlerOf_ACT_RU : handlerOf "ACT_RU" = accept_ACT_RU := handlerOf_at 20 rfl
theorem handlerOf_ACT_UNR : handlerOf "ACT_UNR" = accept_ACT_UNR := handlerOf_at 21 rfl
theorem handlerOf_ACT_URU : handlerOf "ACT_URU" = accept_ACT_URU := handlerOf_at 22 rfl
theorem handlerOf_ACT_FIO : handlerOf "ACT_FIO" = accept_ACT_FIO := handlerOf_at 23 rfl
theorem handlerOf_ACT_FIW : handlerOf "ACT_FIW" = accept_ACT_FIW := handlerOf_at 26 rfl
theorem handlerOf_ACT_AI : handlerOf "ACT_AI" = accept_ACT_AI := handlerOf_at 28 rfl
theorem handlerOf_ACT_WHL : handlerOf "ACT_WHL" = accept_ACT_WHL := handlerOf_at 29 rfl
theorem handlerOf_ACT_IF : handlerOf "ACT_IF" = accept_ACT_IF := handlerOf_at 30 rfl
theorem handlerOf_ACT_EL : handlerOf "ACT_EL" = accept_ACT_EL := handlerOf_at 31 rfl
theorem handlerOf_ACT_E : handlerOf "ACT_E" = accept_ACT_E := handlerOf_at 32 rfl
theorem handlerOf_ACT_FOR : handlerOf "ACT_FOR" = accept_ACT_FOR := handlerOf_at 33 rfl
theorem handlerOf_V_VAL : handlerOf "V_VAL" = accept_V_VAL := handlerOf_at 39 rfl
theorem handlerOf_V_TVL : handlerOf "V_TVL" = accept_V_TVL := handlerOf_at 40 rfl
theorem handlerOf_V_ISR : handlerOf "V_ISR" = accept_V_ISR := handlerOf_at 41 rfl
theorem handlerOf_V_VAR : handlerOf "V_VAR" = accept_V_VAR := handlerOf_at 42 rfl
theorem handlerOf_V_IRF : handlerOf "V_IRF" = accept_V_IRF := handlerOf_at 43 rfl
theorem handlerOf_V_PVL : handlerOf "V_PVL" = accept_V_PVL := handlerOf_at 44 rfl
theorem handlerOf_V_SLR : handlerOf "V_SLR" = accept_V_SLR := handlerOf_at 45 rfl
theorem handlerOf_V_AVL : handlerOf "V_AVL" = accept_V_AVL := handlerOf_at 47 rfl
theorem handlerOf_V_LIN : handlerOf "V_LIN" = accept_V_LIN := handlerOf_at 50 rfl
theorem handlerOf_V_LRL : handlerOf "V_LRL" = accept_V_LRL := handlerOf_at 51 rfl
theorem handlerOf_V_LST : handlerOf "V_LST" = accept_V_LST := handlerOf_at 52 rfl
theorem handlerOf_V_LBO : handlerOf "V_LBO" = accept_V_LBO := handlerOf_at 53 rfl
theorem handlerOf_V_LEN : handlerOf "V_LEN" = accept_V_LEN := handlerOf_at 54 rfl
theorem handlerOf_V_BIN : handlerOf "V_BIN" = accept_V_BIN := handlerOf_at 55 rfl
theorem handlerOf_V_UNY : handlerOf "V_UNY" = accept_V_UNY := handlerOf_at 56 rfl
theorem handlerOf_V_SCV : handlerOf "V_SCV" = accept_V_SCV := handlerOf_at 65 rfl
theorem handlerOf_S_BPARM : handlerOf "S_BPARM" = accept_S_BPARM := handlerOf_at 81 rfl

theorem cls_ne_msv (r : Row) : (r.cls == "V_MSV") = false := by cases r <;> rfl

theorem subAs_msv (o : Option Row) : subAs "V_MSV" o = [] := by
  cases o with
  | none => rfl
  | some r => simp only [subAs, cls_ne_msv]; rfl

theorem filter_filt0_none (l : List Inst) : l.filter (filt0 none) = l := by
  simp [filt0]

theorem filter_filt1_none (q : FlatPop) (L : Locals) (l : List Inst) : l.filter (filt1 q L none) = l := by
  simp [filt1]

theorem loopN_map_sub (q : FlatPop) (f : Nat) (l : List Row) : loopN q f (l.map .sub) = regenElifs q f l := by
  rw [loopN, List.filterMap_map]
  exact congrArg _ List.filterMap_some

theorem accN_succ_sub (q : FlatPop) (f n : Nat) (r : Row) :
    accN q f (n + 1) (.sub r) = handler { q := q, acc := accN q f n, loop := loopN q f } (handlerOf r.cls) (.sub r) := rfl
theorem accN_succ_elem (q : FlatPop) (f n : Nat) (cls : String) (r : Row) :
    accN q f (n + 1) (.elem cls r) = handler { q := q, acc := accN q f n, loop := loopN q f } (handlerOf cls) (.elem cls r) := rfl
theorem accN_sup (q : FlatPop) (f n : Nat) (cls : String) (i : Nat) : accN q f n (.sup cls i) = accHead q f (.sup cls i) := by
  cases n <;> rfl
theorem accN_none (q : FlatPop) (f n : Nat) : accN q f n .none = [] := by
  cases n <;> rfl

/-- a navigation starts at ONE instance; unfolding `follow` instead leaves `flatMap (fun x => hopMany q x h)`, and `simp`
    goes through every arm of `subHop` under that binder -/
theorem follow_one (q : FlatPop) (x : Inst) (h : Hop) (rest : List Hop) :
    follow q [x] (h :: rest) = follow q (hopMany q x h) rest := by
  simp [follow]

theorem follow_nil (q : FlatPop) : ∀ hops : List Hop, follow q [] hops = []
  | [] => rfl
  | _ :: rest => follow_nil q rest

theorem follow_end (q : FlatPop) (xs : List Inst) : follow q xs [] = xs := rfl

/-- in place of unfolding `handler`: a handler with a lemma of its own (`accept_ACT_E_acc` …) is not run again -/
theorem handler_cons (E : Env) (s : Stm) (rest : List Stm) (x : Inst) :
    handler E (s :: rest) x = (runStms E (s :: rest) [("inst", .inst x)]).2 := rfl

theorem ite_fst {α β : Type} (c : Prop) [Decidable c] (a b : α × β) : (if c then a else b).1 = if c then a.1 else b.1 :=
  apply_ite Prod.fst c a b
theorem ite_snd {α β : Type} (c : Prop) [Decidable c] (a b : α × β) : (if c then a else b).2 = if c then a.2 else b.2 :=
  apply_ite Prod.snd c a b

/-! The equalities below unfold both sides on every `Row` constructor: `regen*` by its own equation, the interpreter by this
    set — its equations, the atoms on constructors and literals, the handler of each class and its statement list. -/
attribute [local simp] handler_cons runStms runStm evalNav evalCond navWith condWith subtypeOf follow_one follow_end
  ite_fst ite_snd hopMany subHop supHop elemHop Hop.is attrOf subAttr elemAttr evalPiece epOf toksOf litToks litTable valTok
  isNs nextIsDcolon Locals.get Locals.set List.lookup instOf truthy optSup optSub subAs_msv filter_filt0_none
  filter_filt1_none loopN_map_sub envN accN_succ_sub accN_succ_elem accN_sup accN_none accHead optOf Row.cls phraseOf
  handlerOf_ACT_AI accept_ACT_AI handlerOf_ACT_RET accept_ACT_RET handlerOf_ACT_BRK accept_ACT_BRK
  handlerOf_ACT_CON accept_ACT_CON handlerOf_ACT_CTL accept_ACT_CTL handlerOf_ACT_CR accept_ACT_CR
  handlerOf_ACT_CNV accept_ACT_CNV handlerOf_ACT_DEL accept_ACT_DEL handlerOf_ACT_REL accept_ACT_REL
  handlerOf_ACT_RU accept_ACT_RU handlerOf_ACT_UNR accept_ACT_UNR handlerOf_ACT_URU accept_ACT_URU
  handlerOf_ACT_FIO accept_ACT_FIO handlerOf_ACT_FIW accept_ACT_FIW handlerOf_ACT_FOR accept_ACT_FOR
  handlerOf_ACT_WHL accept_ACT_WHL handlerOf_ACT_IF accept_ACT_IF handlerOf_ACT_EL handlerOf_ACT_E
  handlerOf_V_LIN accept_V_LIN handlerOf_V_LRL accept_V_LRL handlerOf_V_LST accept_V_LST handlerOf_V_LBO accept_V_LBO
  handlerOf_V_TVL accept_V_TVL handlerOf_V_IRF accept_V_IRF handlerOf_V_ISR accept_V_ISR handlerOf_V_UNY accept_V_UNY
  handlerOf_V_BIN accept_V_BIN handlerOf_V_SLR accept_V_SLR handlerOf_V_AVL accept_V_AVL handlerOf_V_PVL accept_V_PVL
  handlerOf_V_LEN accept_V_LEN handlerOf_V_SCV accept_V_SCV handlerOf_S_BPARM
  accept_ACT_ACT accept_ACT_SMT accept_V_VAL accept_V_VAR

theorem accept_ACT_E_acc (E : Env) (a eb s : Nat) :
    handler E accept_ACT_E (.sub (.e a eb s)) = [Tok.kw .else_] ++ E.acc (.sup "ACT_BLK" eb) := by
  simp [accept_ACT_E]

theorem accept_ACT_EL_acc (E : Env) (a blk v i : Nat) :
    handler E accept_ACT_EL (.sub (.el a blk v i)) =
      [Tok.kw .elif_] ++ E.acc (.sup "V_VAL" v) ++ E.acc (.sup "ACT_BLK" blk) := by
  simp [accept_ACT_EL]

theorem accept_S_BPARM_eq (E : Env) (v : Nat) (name : String) :
    handler E accept_S_BPARM (.elem "S_BPARM" (.pvl v name)) = [Tok.ident name] := by
  simp [accept_S_BPARM]

/-- the two supertype handlers only hand over to the handler of the subtype row (`accept_ACT_SMT` then writes ';'), so the
    equalities for `regenVal` / `regenSmt` below run ONE handler per row constructor -/
theorem accept_V_VAL_acc (E : Env) (v : Nat) :
    handler E accept_V_VAL (.sup "V_VAL" v) = E.acc (subtypeOf E.q (.sup "V_VAL" v) 801) := by
  simp [-subtypeOf]

theorem accept_ACT_SMT_acc (E : Env) (s : Nat) :
    handler E accept_ACT_SMT (.sup "ACT_SMT" s) = E.acc (subtypeOf E.q (.sup "ACT_SMT" s) 603) ++ [Tok.p .semi] := by
  simp [-subtypeOf]

attribute [local simp] accept_ACT_E_acc accept_ACT_EL_acc accept_S_BPARM_eq

def isVar (q : FlatPop) (v : Nat) : Bool :=
  match q[v]? with
  | some (.var _ _) => true
  | _ => false

theorem regenVar_eq (q : FlatPop) (E : Env) (hE : E.q = q) (v : Nat) :
    regenVar q v = if isVar q v then handler E accept_V_VAR (.sup "V_VAR" v) else [Tok.bad "V_VAR"] := by
  subst hE
  unfold regenVar isVar
  cases h : E.q[v]? with
  | none => simp
  | some r => cases r <;> simp [h]

theorem regenVal_eq (q : FlatPop) (f v : Nat) :
    regenVal q (f + 1) v =
      if (valSub q v).isSome then handler (envN q f 2) accept_V_VAL (.sup "V_VAL" v) else [Tok.bad "V_VAL"] := by
  rw [regenVal, accept_V_VAL_acc]
  cases h : valSub q v with
  | none => simp
  | some r =>
    -- `valSub` finds only rows that NAME a value; the other constructors go before the run: for them the right side would
    -- interpret the handler of the row's own class (likewise `smtSub` in `regenSmt_eq`)
    have hv := valSub_valOf h
    cases r
    all_goals simp only [Row.valOf, reduceCtorEq] at hv
    all_goals simp [h]

theorem regenSmt_eq (q : FlatPop) (f s : Nat) :
    regenSmt q (f + 1) s ++ [Tok.p .semi] =
      if (smtSub q s).isSome && !isElifOrElse q s then handler (envN q f 2) accept_ACT_SMT (.sup "ACT_SMT" s)
      else [Tok.bad "ACT_SMT", Tok.p .semi] := by
  rw [regenSmt, isElifOrElse, accept_ACT_SMT_acc]
  cases h : smtSub q s with
  | none => simp
  | some r =>
    have hv := smtSub_smtOf h
    cases r
    all_goals simp only [Row.smtOf, reduceCtorEq, Option.some.injEq] at hv
    all_goals subst hv
    case ret a v => cases v <;> simp [h]
    case if_ s0 blk v =>
      cases he : elseOf q s0 with
      | none => simp [h, he]
      | some e =>
        obtain ⟨a, eb, rfl⟩ := elseOf_isE he
        simp [h, he]
    all_goals simp [h]

def whileOf : List Stm → Option (String × List Stm)
  | [] => none
  | .whileLoc v b :: _ => some (v, b)
  | _ :: rest => whileOf rest

def forOf : List Stm → Option (String × Nav × String × List Stm)
  | [] => none
  | .forSorted v n k b :: _ => some (v, n, k, b)
  | _ :: rest => forOf rest

def filterOf : List Stm → Option (String × String × List Cond)
  | [] => none
  | .defFilter n p c :: _ => some (n, p, c)
  | _ :: rest => filterOf rest

def keyOf : List Stm → Option (String × String × List (Nav × String))
  | [] => none
  | .defKey n p k :: _ => some (n, p, k)
  | _ :: rest => keyOf rest

/-- accepting inside a block: statements with fuel `f`; the rounds of the successor loop that follow: `regenChain` with fuel
    `f` on the loop variable -/
def chainEnv (q : FlatPop) (f : Nat) (v : String) : Env :=
  { q := q, acc := accHead q f, again := fun L => regenChain q f (optOf (L.get v)) }

def curPV : Option Nat → PV
  | some s => .inst (.sup "ACT_SMT" s)
  | none => .inst .none

theorem chain_round (q : FlatPop) (f : Nat) (cur : Option Nat) (L : Locals) (hL : L.lookup "act_smt" = some (curPV cur)) :
    (runStm (chainEnv q f "act_smt") (.whileLoc "act_smt"
        [.accept (.loc "act_smt"), .assign "act_smt" (.one "act_smt" [⟨"ACT_SMT", 661, "precedes"⟩] none)]) L).2 =
      regenChain q (f + 1) cur := by
  rw [regenChain.eq_def]
  cases cur with
  | none => simp [hL, curPV]
  | some s => cases hs : succStmt q s <;> simp [hL, curPV, chainEnv, hs]

theorem regenChain_eq (q : FlatPop) (f : Nat) (cur : Option Nat) :
    (whileOf accept_ACT_BLK).map (fun vb => (runStm (chainEnv q f vb.1) (.whileLoc vb.1 vb.2) [(vb.1, curPV cur)]).2) =
      some (regenChain q (f + 1) cur) :=
  congrArg some (chain_round q f cur _ (by simp))

def firstFilterConj : List Cond :=
  [(.navNot (.one "sel" [⟨"ACT_SMT", 661, "succeeds"⟩] none)), (.navNot (.one "sel" [⟨"ACT_EL", 603, ""⟩] none)),
   (.navNot (.one "sel" [⟨"ACT_E", 603, ""⟩] none))]

theorem elif_nav (q : FlatPop) (j : Nat) :
    (!truthy (.inst ((subAs "ACT_EL" (smtSub q j)).head?.getD .none)) &&
      !truthy (.inst ((subAs "ACT_E" (smtSub q j)).head?.getD .none))) = !isElifOrElse q j := by
  unfold isElifOrElse
  cases smtSub q j with
  | none => rfl
  | some r => cases r <;> simp [subAs]

theorem firstFilter_pred (q : FlatPop) (b j : Nat) (L : Locals) (hf : L.lookup "first_filter" = some (.filter "sel" firstFilterConj)) :
    (filt1 q L (some "first_filter") (.sup "ACT_SMT" j) && (match (q[j]? : Option Row) with
      | some (Row.smt b' _) => b' == b
      | _ => false)) =
    (match q[j]? with
     | some (.smt b' none) => b' == b && !isElifOrElse q j
     | _ => false) := by
  have he := elif_nav q j
  rw [Bool.and_comm]
  cases hq : q[j]? with
  | none => simp
  | some r =>
    cases r <;> simp only [Bool.false_and]
    case smt b' prev => cases prev <;> simp [filt1, hf, firstFilterConj, hq, ← he]

def blkLocals (b : Nat) : Locals :=
  [("first_filter", .filter "sel" firstFilterConj), ("inst", .inst (.sup "ACT_BLK" b))]

theorem first_nav (q : FlatPop) (b : Nat) :
    evalNav q (blkLocals b) (.one "inst" [⟨"ACT_SMT", 602, ""⟩] (some "first_filter")) = curPV (firstStmt q b) := by
  simp only [evalNav, navWith, blkLocals, Locals.get, List.lookup, String.reduceBEq, Option.getD_some, instOf, follow,
    List.flatMap_cons, List.flatMap_nil, List.append_nil, hopMany, supHop, Hop.is, Nat.reduceBEq, beq_self_eq_true,
    Bool.and_true, ↓reduceIte, List.filter_map, List.filter_filter, List.head?_map, List.head?_filter,
    Function.comp_apply]
  have : (fun j => filt1 q (blkLocals b) (some "first_filter") (.sup "ACT_SMT" j) && (match (q[j]? : Option Row) with
      | some (Row.smt b' _) => b' == b
      | _ => false)) =
    (fun j => match q[j]? with
     | some (.smt b' none) => b' == b && !isElifOrElse q j
     | _ => false) := funext (fun j => firstFilter_pred q b j (blkLocals b) rfl)
  simp only [blkLocals] at this
  rw [this]
  unfold firstStmt
  cases List.find? _ (List.range q.length) <;> rfl

theorem regenBlk_eq (q : FlatPop) (f b : Nat) :
    regenBlk q (f + 2) b = handler (chainEnv q f "act_smt") accept_ACT_BLK (.sup "ACT_BLK" b) := by
  have hn := first_nav q b
  rw [regenBlk, handler, accept_ACT_BLK]
  -- the loop statement is hidden, so that `simp` runs the two statements before it and `chain_round` takes the loop whole
  generalize hW : Stm.whileLoc "act_smt" _ = W
  simp only [blkLocals, firstFilterConj] at hn
  simp only [runStms, runStm, evalCond, condWith, Locals.set, ↓reduceIte, Bool.false_eq_true, List.nil_append,
    List.append_nil, List.map, toksOf, chainEnv, hn]
  subst hW
  exact (chain_round q f _ _ (by simp)).symm

theorem regenElifs_eq (q : FlatPop) (f : Nat) (l : List Row) (hl : ∀ r ∈ l, ∃ a blk v i, r = Row.el a blk v i) :
    (forOf accept_ACT_IF).map (fun x => forStep (envN q f 1) x.1 x.2.2.2 [] (l.map .sub)) = some (regenElifs q (f + 1) l) := by
  simp only [accept_ACT_IF, forOf, Option.map, Option.some.injEq]
  cases l with
  | nil => rw [regenElifs]; rfl
  | cons r rest =>
    obtain ⟨a, blk, v, i, rfl⟩ := hl r (List.mem_cons_self ..)
    rw [regenElifs]
    simp only [List.map, forStep]
    simp

theorem regenFlat_eq (q : FlatPop) :
    regenFlat q = if (outerBlk q).isSome then handler { q := q, acc := accHead q (q.length + 1) } accept_ACT_ACT .act
      else [Tok.bad "ACT_BLK"] := by
  unfold regenFlat
  cases h : outerBlk q <;> simp [h]

end Pyx.SgShape
