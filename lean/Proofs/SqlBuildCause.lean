import Proofs.SqlBuildFail

/-!
  WHY a build fails, stated against the state actually reached: for every phase an `iff` between "the phase ends in
  exception `e`" and the documented cause, evaluated in the state the earlier phases / statements left; then the
  same for the whole build (`Failure`, `build_error_iff`); from it, that each documented cause on its own makes the build
  fail (`build_fails_*`) and that no built-in exception is reachable (`build_documented`).
-/
namespace Pyx.Sql

theorem popClasses_ok_iff (u : UC) (stmts : List Stmt) :
    (∃ s, popClasses u stmts BState.empty = .ok s) ↔
      (KindsDistinct u (newTables stmts) ∧ ∀ c ∈ newTables stmts, attrNamesOk u c.attrs = true) := by
  rcases popClasses_cases u stmts BState.empty (inv_empty u).distinct with ⟨hok, hr⟩ | ⟨hno, hr⟩ <;> rw [hr]
  · exact ⟨fun _ => by simpa [BState.empty, TablesOk] using hok, fun _ => ⟨_, rfl⟩⟩
  · exact ⟨fun ⟨_, h⟩ => (by cases h), fun h => absurd (by simpa [BState.empty, TablesOk] using h) hno⟩

/-- phase 2 fails exactly when some identifier with attributes names a class that does not exist; then with the
    metamodel exception -/
theorem popIdents_error_iff (u : UC) (stmts : List Stmt) (s : BState) (e : BuildErr) :
    popIdents u stmts s = .error e ↔ (e = .metaErr ∧ IndexBad u s.classes stmts) := by
  rcases popIdents_cases u stmts s with ⟨hno, hr⟩ | ⟨hb, hr⟩ <;> rw [hr]
  · exact ⟨fun h => (by cases h), fun h => absurd h.2 hno⟩
  · exact ⟨fun h => ⟨(Except.error.inj h).symm, hb⟩, fun h => by rw [h.1]⟩

/-- phase 3 fails exactly when `define_association` rejects some CREATE ROP statement (`RopBad`, against the classes of
    the state); then with the metamodel exception -/
theorem popAssocs_error_iff (u : UC) (stmts : List Stmt) (s : BState) (e : BuildErr) (hd : KindsDistinct u s.classes) :
    popAssocs u stmts s = .error e ↔ (e = .metaErr ∧ SomeRopBad u s.classes stmts) := by
  rcases popAssocs_cases u stmts s hd with ⟨hno, hr⟩ | ⟨hb, hr⟩ <;> rw [hr]
  · exact ⟨fun h => (by cases h), fun h => absurd h.2 hno⟩
  · exact ⟨fun h => ⟨(Except.error.inj h).symm, hb⟩, fun h => by rw [h.1]⟩

theorem popInstances_append (u : UC) (post : List Stmt) : ∀ (pre : List Stmt) (s s' : BState),
    popInstances u pre s = .ok s' → popInstances u (pre ++ post) s = popInstances u post s' := by
  intro pre
  induction pre with
  | nil => intro s s' h; cases h; rfl
  | cons st rest ih =>
    intro s s' h
    cases st with
    | insert k v n =>
      simp only [popInstances, List.cons_append] at h ⊢
      cases hp : popInstance u s k v n with
      | error e' => rw [hp] at h; cases h
      | ok s1 => rw [hp] at h; exact ih s1 s' h
    | createTable _ _ | createIndex _ _ _ | createRop _ _ _ _ _ _ _ _ _ => exact ih s s' h

theorem popInstances_first_failure (u : UC) : ∀ (pre : List Stmt) (s s' : BState) (kind : Name) (values : List Text)
    (names : Option (List Name)) (post : List Stmt) (e : BuildErr),
    popInstances u pre s = .ok s' → popInstance u s' kind values names = .error e →
    popInstances u (pre ++ Stmt.insert kind values names :: post) s = .error e := by
  intro pre s s' kind values names post e h1 h2
  rw [popInstances_append u _ pre s s' h1, popInstances, h2]

def FirstInsertFails (u : UC) (stmts : List Stmt) (s : BState) (e : BuildErr) : Prop :=
  ∃ pre kind values names post s', stmts = pre ++ Stmt.insert kind values names :: post ∧
    popInstances u pre s = .ok s' ∧ InsertFails u s' kind values names e

theorem popInstances_error_iff (u : UC) : ∀ (stmts : List Stmt) (s : BState) (e : BuildErr),
    popInstances u stmts s = .error e ↔ FirstInsertFails u stmts s e := by
  intro stmts s e
  constructor
  · revert s
    induction stmts with
    | nil => intro s h; simp [popInstances] at h
    | cons st rest ih =>
      intro s h
      cases st with
      | insert kind values names =>
        simp only [popInstances] at h
        cases hp : popInstance u s kind values names with
        | error e' =>
          rw [hp] at h; simp only [Except.error.injEq] at h; subst h
          exact ⟨[], kind, values, names, rest, s, rfl, rfl, (popInstance_error_iff u s kind values names e').mp hp⟩
        | ok s1 =>
          rw [hp] at h
          obtain ⟨pre, k, v, n, post, s', hs, hpre, hf⟩ := ih s1 h
          exact ⟨.insert kind values names :: pre, k, v, n, post, s', by simp [hs], by simp [popInstances, hp, hpre], hf⟩
      | createTable a b =>
        obtain ⟨pre, k, v, n, post, s', hs, hp, hf⟩ := ih s (by simpa [popInstances] using h)
        exact ⟨.createTable a b :: pre, k, v, n, post, s', by simp [hs], by simpa [popInstances] using hp, hf⟩
      | createIndex a b c =>
        obtain ⟨pre, k, v, n, post, s', hs, hp, hf⟩ := ih s (by simpa [popInstances] using h)
        exact ⟨.createIndex a b c :: pre, k, v, n, post, s', by simp [hs], by simpa [popInstances] using hp, hf⟩
      | createRop a b c d e' f g i j =>
        obtain ⟨pre, k, v, n, post, s', hs, hp, hf⟩ := ih s (by simpa [popInstances] using h)
        exact ⟨.createRop a b c d e' f g i j :: pre, k, v, n, post, s', by simp [hs], by simpa [popInstances] using hp, hf⟩
  · intro ⟨pre, k, v, n, post, s', hs, hpre, hf⟩
    subst hs
    exact popInstances_first_failure u pre s s' k v n post e hpre ((popInstance_error_iff u s' k v n e).mpr hf)

/-- WHY a build fails: the phase, the statement and the state reached before it -/
inductive Failure (u : UC) (stmts : List Stmt) : BuildErr → Prop
  | tables : ¬ (KindsDistinct u (newTables stmts) ∧ ∀ c ∈ newTables stmts, attrNamesOk u c.attrs = true) →
      Failure u stmts .metaErr
  | index (s1 : BState) : popClasses u stmts BState.empty = .ok s1 → IndexBad u s1.classes stmts → Failure u stmts .metaErr
  | rop (s1 s2 : BState) : popClasses u stmts BState.empty = .ok s1 → popIdents u stmts s1 = .ok s2 →
      SomeRopBad u s2.classes stmts → Failure u stmts .metaErr
  | insert (s1 s2 s3 : BState) (e : BuildErr) : popClasses u stmts BState.empty = .ok s1 → popIdents u stmts s1 = .ok s2 →
      popAssocs u stmts s2 = .ok s3 → FirstInsertFails u stmts s3 e → Failure u stmts e

theorem buildCore_error_iff (u : UC) (stmts : List Stmt) (e : BuildErr) :
    buildCore u stmts = .error e ↔ Failure u stmts e := by
  unfold buildCore
  constructor
  · intro h
    rcases popClasses_cases u stmts BState.empty (inv_empty u).distinct with ⟨hok, h1⟩ | ⟨hno, h1⟩
    case inr =>
      rw [h1] at h; cases h
      exact .tables (fun hx => hno (by simpa [BState.empty, TablesOk] using hx))
    -- `Inv` is carried for `i2.distinct` alone: `RopBad` speaks of every class of a kind, the code of the first one found
    have i1 := popClasses_inv u stmts _ _ (inv_empty u) h1
    simp only [h1] at h
    rcases popIdents_cases u stmts _ with ⟨_, h2⟩ | ⟨hb, h2⟩
    case inr => rw [h2] at h; cases h; exact .index _ h1 hb
    have i2 := popIdents_inv u stmts _ _ i1 h2
    simp only [h2] at h
    rcases popAssocs_cases u stmts _ i2.distinct with ⟨_, h3⟩ | ⟨hb, h3⟩
    case inr => rw [h3] at h; cases h; exact .rop _ _ h1 h2 hb
    simp only [h3] at h
    exact .insert _ _ _ e h1 h2 h3 ((popInstances_error_iff u stmts _ e).mp h)
  · intro h
    cases h with
    | tables hno =>
      rw [(popClasses_spec u stmts _ (inv_empty u).distinct).2 (fun ht => hno (by simpa [BState.empty, TablesOk] using ht))]
    | index s1 h1 hb => simp only [h1, popIdents_unknown u stmts s1 hb]
    | rop s1 s2 h1 h2 hb => simp only [h1, h2, popAssocs_bad u stmts s2 hb]
    | insert s1 s2 s3 e h1 h2 h3 hf =>
      simp only [h1, h2, h3]
      exact (popInstances_error_iff u stmts s3 e).mpr hf

theorem buildCore_fails_tables (u : UC) (stmts : List Stmt) (h : ¬ TablesOk u [] (newTables stmts)) :
    buildCore u stmts = .error .metaErr :=
  (buildCore_error_iff u stmts _).mpr (.tables h)

theorem build_error_iff (u : UC) (stmts : List Stmt) (e : BuildErr) :
    build u stmts = .error e ↔ Failure u stmts e := by
  rw [build_eq_core u stmts]; exact buildCore_error_iff u stmts e

theorem build_fails_duplicate (u : UC) (stmts : List Stmt)
    (h : ¬ KindsDistinct u (newTables stmts)) : build u stmts = .error .metaErr :=
  (build_error_iff u stmts _).mpr (.tables (fun hx => h hx.1))

theorem build_fails_attr_names (u : UC) (stmts : List Stmt)
    (h : ∃ c ∈ newTables stmts, attrNamesOk u c.attrs = false) : build u stmts = .error .metaErr := by
  obtain ⟨c, hc, hn⟩ := h
  exact (build_error_iff u stmts _).mpr (.tables (fun hx => by rw [hx.2 c hc] at hn; cases hn))

theorem build_fails_index (u : UC) (stmts : List Stmt)
    (hd : KindsDistinct u (newTables stmts)) (hn : ∀ c ∈ newTables stmts, attrNamesOk u c.attrs = true)
    (h : ∃ kind name attrs, Stmt.createIndex kind name attrs ∈ stmts ∧ attrs ≠ [] ∧
      ∀ c ∈ newTables stmts, sameKind u c.kind kind = false) : build u stmts = .error .metaErr :=
  (build_error_iff u stmts _).mpr
    (.index _ (popClasses_fresh u stmts hd hn) h)

theorem build_fails_rop (u : UC) (stmts : List Stmt)
    (hd : KindsDistinct u (newTables stmts)) (hn : ∀ c ∈ newTables stmts, attrNamesOk u c.attrs = true)
    (hi : ∀ kind name attrs, Stmt.createIndex kind name attrs ∈ stmts → attrs ≠ [] → ∃ c ∈ newTables stmts, sameKind u c.kind kind = true)
    (h : ∃ rel sk sc skeys sp tk tc tkeys tp, Stmt.createRop rel sk sc skeys sp tk tc tkeys tp ∈ stmts ∧
      RopBad u (newTables stmts) sk skeys tk tkeys) : build u stmts = .error .metaErr := by
  have h2 := (popIdents_spec u stmts (newTables stmts) id [] (fun _ => rfl)).1 hi
  -- phase 3 runs on the declared classes changed by the fold of phase 2 (`g`), so `h`, about `newTables`, goes in as it is
  have h3 := (popAssocs_spec u stmts (newTables stmts) (fun c => stmts.foldl (identsStep u) c) []
    (foldl_proj (·.kind) _ (identsStep_kind u) stmts) (foldl_proj (·.attrs) _ (identsStep_attrs u) stmts)).2 h
  rw [List.map_id] at h2
  rw [build_eq_core, buildCore]
  simp only [popClasses_fresh u stmts hd hn, h2, id, h3]

theorem build_fails_insert (u : UC) (pre post : List Stmt) (kind : Name) (values : List Text) (names : Option (List Name))
    (s1 s2 s3 s' : BState) (e : BuildErr)
    (h1 : popClasses u (pre ++ Stmt.insert kind values names :: post) BState.empty = .ok s1)
    (h2 : popIdents u (pre ++ Stmt.insert kind values names :: post) s1 = .ok s2)
    (h3 : popAssocs u (pre ++ Stmt.insert kind values names :: post) s2 = .ok s3)
    (hpre : popInstances u pre s3 = .ok s') (hins : popInstance u s' kind values names = .error e) :
    build u (pre ++ Stmt.insert kind values names :: post) = .error e :=
  (build_error_iff u _ _).mpr (.insert s1 s2 s3 e h1 h2 h3
    ⟨pre, kind, values, names, post, s', rfl, hpre, (popInstance_error_iff u s' kind values names e).mp hins⟩)

/-- every value of every INSERT has one of the lexical forms `guess_type_name` knows (true of every value the parser
    produces: Proofs/SqlValueForms.lean) -/
def ValuesGuessable (u : UC) (stmts : List Stmt) : Prop :=
  ∀ kind values names, Stmt.insert kind values names ∈ stmts → ∀ v ∈ values, (guessType u v).isSome = true

theorem failure_documented (u : UC) (stmts : List Stmt) (e : BuildErr) (hg : ValuesGuessable u stmts) (h : Failure u stmts e) :
    e = .metaErr ∨ e = .parseErr := by
  cases h with
  | tables _ => exact Or.inl rfl
  | index _ _ _ => exact Or.inl rfl
  | rop _ _ _ _ _ => exact Or.inl rfl
  | insert s1 s2 s3 e _ _ _ hf =>
    obtain ⟨pre, k, v, n, post, s', hs, _, hi⟩ := hf
    cases hi with
    | arity _ => exact Or.inr rfl
    | nameClash _ _ => exact Or.inl rfl
    | unguessable _ _ hgs =>
      exfalso
      obtain ⟨_, x, hx, hn⟩ := (guessOk_false_iff u s' k v).mp hgs
      have := hg k v n (by rw [hs]; simp) x hx
      rw [hn] at this; cases this
    | unknownType _ _ _ _ _ _ => exact Or.inl rfl
    | badValue _ _ _ _ _ _ _ _ => exact Or.inr rfl

/-- NO BUILT-IN EXCEPTION: a build of statements whose values have the lexical forms of the dialect returns a metamodel or
    raises the metamodel exception or the parsing exception; the three places where Python could raise a built-in
    (`stmt.values[idx]`, `None.upper()`, `len(value)`) are not reached -/
theorem build_documented (u : UC) (stmts : List Stmt) (hg : ValuesGuessable u stmts) :
    (∃ s, build u stmts = .ok s) ∨ build u stmts = .error .metaErr ∨ build u stmts = .error .parseErr := by
  cases h : build u stmts with
  | ok s => exact Or.inl ⟨s, rfl⟩
  | error e =>
    rcases failure_documented u stmts e hg ((build_error_iff u stmts e).mp h) with rfl | rfl
    · exact Or.inr (Or.inl rfl)
    · exact Or.inr (Or.inr rfl)

end Pyx.Sql
