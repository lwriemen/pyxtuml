import PyxModel.Regex

/-!
  Generic lemmas about the regex matcher of PyxModel/Regex.lean (nothing about a particular lexer): one unfolding
  equation per construct - stated so that `rw` unfolds exactly one step -; the one place where backtracking is shown
  to be idle: a greedy `[class]*` / `[class]+` takes the whole run (`dropWhile`) when the continuation never fails
  or cannot start with a character of the class (`starLoop_cls`, `matchK_star_cls`, `matchK_plus_cls`), with the
  lemmas that establish those two conditions; and classes as predicates (item by item, one or two literal characters).
  Proofs/SqlRegex.lean uses the closed forms directly (its hand matchers are `takeWhile`/`dropWhile` programs),
  Proofs/OalRegex.lean through `peg_eq` (its hand scanners are patterns).
-/
namespace Pyx.Regex
open Pyx.Regex.Regex

theorem matchK_eps (cs : List Char) (k : List Char → Option Nat) : matchK .eps cs k = k cs := by simp only [matchK]
theorem matchK_seq (a b : Regex) (cs : List Char) (k : List Char → Option Nat) :
    matchK (.seq a b) cs k = matchK a cs (fun cs' => matchK b cs' k) := by simp only [matchK]
theorem matchK_alt (a b : Regex) (cs : List Char) (k : List Char → Option Nat) :
    matchK (.alt a b) cs k = match matchK a cs k with
      | some v => some v
      | none => matchK b cs k := by simp only [matchK]; cases matchK a cs k <;> rfl
theorem matchK_group (r : Regex) (cs : List Char) (k : List Char → Option Nat) :
    matchK (.group r) cs k = matchK r cs k := by simp only [matchK]
theorem matchK_star (g : Bool) (r : Regex) (cs : List Char) (k : List Char → Option Nat) :
    matchK (.star g r) cs k = starLoop (matchK r) g (cs.length + 1) cs k := by simp only [matchK]
theorem matchK_cls_cons (s : CSet) (c : Char) (r : List Char) (k : List Char → Option Nat) :
    matchK (.cls s) (c :: r) k = if s.mem c = true then k r else none := by simp only [matchK]
theorem matchK_cls_nil (s : CSet) (k : List Char → Option Nat) : matchK (.cls s) [] k = none := by simp only [matchK]
theorem matchK_look (r : Regex) (cs : List Char) (k : List Char → Option Nat) :
    matchK (.look r) cs k = match matchK r cs (fun _ => some 0) with
      | some _ => k cs
      | none => none := by simp only [matchK]; cases matchK r cs (fun _ => some 0) <;> rfl
theorem matchK_nlook (r : Regex) (cs : List Char) (k : List Char → Option Nat) :
    matchK (.nlook r) cs k = match matchK r cs (fun _ => some 0) with
      | some _ => none
      | none => k cs := by simp only [matchK]; cases matchK r cs (fun _ => some 0) <;> rfl

theorem starLoop_zero (step : List Char → (List Char → Option Nat) → Option Nat) (g : Bool) (cs : List Char)
    (k : List Char → Option Nat) : starLoop step g 0 cs k = k cs := by simp only [starLoop]

theorem starLoop_greedy_succ (step : List Char → (List Char → Option Nat) → Option Nat) (f : Nat) (cs : List Char)
    (k : List Char → Option Nat) :
    starLoop step true (f + 1) cs k = match step cs (fun cs' => starLoop step true f cs' k) with
      | some v => some v
      | none => k cs := by
  simp only [starLoop, if_true]
  cases step cs (fun cs' => starLoop step true f cs' k) <;> rfl

theorem starLoop_lazy_succ (step : List Char → (List Char → Option Nat) → Option Nat) (f : Nat) (cs : List Char)
    (k : List Char → Option Nat) :
    starLoop step false (f + 1) cs k = match k cs with
      | some v => some v
      | none => step cs (fun cs' => starLoop step false f cs' k) := by
  simp only [starLoop, Bool.false_eq_true, if_false]
  cases k cs <;> rfl

theorem matchPrefix_alt (a b : Regex) (cs : List Char) :
    matchPrefix (.alt a b) cs = match matchPrefix a cs with
      | some v => some v
      | none => matchPrefix b cs := rfl

/-- the continuation never fails (`re.match`'s final continuation is one) -/
def NeverFails (k : List Char → Option Nat) : Prop := ∀ cs, (k cs).isSome = true
def RejectsCls (s : CSet) (k : List Char → Option Nat) : Prop := ∀ x rest, s.mem x = true → k (x :: rest) = none

/-- a greedy repetition of a character class takes the whole run when the continuation either never fails or cannot
    start with a character of the class (so that giving characters back cannot help) -/
theorem starLoop_cls (s : CSet) (k : List Char → Option Nat) (h : RejectsCls s k ∨ NeverFails k) :
    ∀ (cs : List Char) (fuel : Nat), cs.length < fuel →
      starLoop (matchK (.cls s)) true fuel cs k = k (cs.dropWhile s.mem) := by
  intro cs
  induction cs with
  | nil =>
    intro fuel hf
    cases fuel with
    | zero => simp at hf
    | succ f => rw [starLoop_greedy_succ, matchK_cls_nil]; rfl
  | cons x cs ih =>
    intro fuel hf
    cases fuel with
    | zero => simp at hf
    | succ f =>
      simp only [List.length_cons, Nat.add_lt_add_iff_right] at hf
      cases hx : s.mem x with
      | true =>
        rw [List.dropWhile_cons_of_pos hx, starLoop_greedy_succ, matchK_cls_cons, if_pos hx, ih f hf]
        cases hk : k (cs.dropWhile s.mem) with
        | some v => rfl
        | none => exact h.elim (fun h => h x cs hx) (fun h => by have := h (cs.dropWhile s.mem); rw [hk] at this; cases this)
      | false =>
        rw [starLoop_greedy_succ, matchK_cls_cons, hx, List.dropWhile_cons_of_neg (by simp [hx])]
        rfl

theorem matchK_star_cls (s : CSet) (k : List Char → Option Nat) (h : RejectsCls s k ∨ NeverFails k) (cs : List Char) :
    matchK (.star true (.cls s)) cs k = k (cs.dropWhile s.mem) := by
  rw [matchK_star, starLoop_cls s k h cs _ (Nat.lt_succ_self _)]

/-- `[class]+`: the whole run, which must not be empty -/
theorem matchK_plus_cls (s : CSet) (k : List Char → Option Nat) (h : RejectsCls s k ∨ NeverFails k) (cs : List Char) :
    matchK (.seq (.cls s) (.star true (.cls s))) cs k =
      if (cs.takeWhile s.mem).isEmpty then none else k (cs.dropWhile s.mem) := by
  rw [matchK_seq]
  cases cs with
  | nil => rfl
  | cons c r => rw [matchK_cls_cons, matchK_star_cls s k h]; cases hc : s.mem c <;> simp [hc]

theorem NeverFails.orElse {k : List Char → Option Nat} (h : NeverFails k) (cs : List Char) (y : Option Nat) :
    (match k cs with | some v => some v | none => y) = k cs := by
  have := h cs
  cases hv : k cs with
  | some v => rfl
  | none => rw [hv] at this; cases this

theorem nf_opt (r : Regex) (k : List Char → Option Nat) (h : NeverFails k) :
    NeverFails (fun cs => matchK (.alt r .eps) cs k) := by
  intro cs
  show (matchK (.alt r .eps) cs k).isSome = true
  rw [matchK_alt, matchK_eps]
  cases matchK r cs k with
  | some v => rfl
  | none => exact h cs

theorem rejects_cls (s t : CSet) (k : List Char → Option Nat) (h : ∀ x, s.mem x = true → t.mem x = false) :
    RejectsCls s (fun cs => matchK (.cls t) cs k) := by
  intro x rest hx
  show matchK (.cls t) (x :: rest) k = none
  rw [matchK_cls_cons, h x hx]; rfl

theorem rejects_seq_cls (s t : CSet) (b : Regex) (k : List Char → Option Nat)
    (h : ∀ x, s.mem x = true → t.mem x = false) : RejectsCls s (fun cs => matchK (.seq (.cls t) b) cs k) := by
  intro x rest hx
  show matchK (.seq (.cls t) b) (x :: rest) k = none
  rw [matchK_seq, matchK_cls_cons, h x hx]; rfl

theorem mem_pos_cons (i : CItem) (is : List CItem) :
    CSet.mem { neg := false, items := i :: is } = fun c => i.mem c || CSet.mem { neg := false, items := is } c := by
  funext c; simp [CSet.mem]

theorem mem_ch (x : Char) : CSet.mem { neg := false, items := [.ch x] } = fun c => c == x := by
  funext c; simp [CSet.mem, CItem.mem]

theorem mem_nch (x : Char) : CSet.mem { neg := true, items := [.ch x] } = fun c => !(c == x) := by
  funext c; simp [CSet.mem, CItem.mem]

theorem mem_nch2 (x y : Char) :
    CSet.mem { neg := true, items := [.ch x, .ch y] } = fun c => !(c == x) && !(c == y) := by
  funext c; simp [CSet.mem, CItem.mem]

end Pyx.Regex
