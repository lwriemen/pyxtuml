import Proofs.InterpScope
import Proofs.Lib.Lookup

/-!
  Callable model elements (C15): parameters are bound by name, `self` is the receiver, the result is the
  walker's return register, derived attributes are recomputed on every read.
-/
namespace Pyx.Interp
open M

theorem lookup_none_of_not_mem {l : List (String × Val)} {x : String} (h : x ∉ l.map Prod.fst) :
    l.lookup x = none := (lookup_none_iff l x).2 h

/-- binding is by name: permuting the argument list (distinct names) gives the same parameter binding … -/
theorem paramsOf_perm {kw kw' : List (String × Val)} (hp : kw.Perm kw') (hnd : (kw.map Prod.fst).Nodup) :
    paramsOf kw = paramsOf kw' := by
  funext x
  unfold paramsOf
  have hp' : kw.reverse.Perm kw'.reverse := (List.reverse_perm kw).trans (hp.trans (List.reverse_perm kw').symm)
  have hnd' : (kw.reverse.map Prod.fst).Nodup := by
    rw [List.map_reverse]; exact (List.reverse_perm _).nodup_iff.2 hnd
  exact lookup_perm hp' hnd' x

/-- … hence the same run of the callee and the same result -/
theorem invoke_perm (rec : Oracle) (kind : WalkerKind) (body : Block) {kw kw' : List (String × Val)} (self : Val)
    (hp : kw.Perm kw') (hnd : (kw.map Prod.fst).Nodup) :
    invoke rec kind body kw self = invoke rec kind body kw' self := by
  unfold invoke mkFrame
  rw [paramsOf_perm hp hnd]

/-- `param.x` reads the argument named `x` -/
theorem paramsOf_mem {kw : List (String × Val)} (hnd : (kw.map Prod.fst).Nodup) {x : String} {v : Val}
    (h : (x, v) ∈ kw) : paramsOf kw x = some v := by
  unfold paramsOf
  apply lookup_of_mem
  · rw [List.map_reverse]; exact (List.reverse_perm _).nodup_iff.2 hnd
  · exact List.mem_reverse.2 h

theorem eval_param {C : Ctx} {rec : Oracle} {c : Cfg} {x : String} {v : Val}
    (hk : ∀ i a, c.fr.kind ≠ .derived i a) (hv : c.fr.params x = some v) :
    evalStep C rec (.param x) c = some (.ok (v, c)) := by
  simp only [evalStep]
  rw [bind_ok (getFr_run c)]
  cases hkind : c.fr.kind with
  | derived i a => exact absurd hkind (hk i a)
  | function => simp only [hv]; rfl
  | operation => simp only [hv]; rfl

/-- in an operation or a derived attribute `self` is the receiver the walker was created with
    (`none` for a class-based operation) … -/
theorem eval_self {C : Ctx} {rec : Oracle} {c : Cfg} (hk : c.fr.kind ≠ .function) :
    evalStep C rec .self c = some (.ok (c.fr.self, c)) := by
  simp only [evalStep]
  rw [bind_ok (getFr_run c)]
  cases hkind : c.fr.kind with
  | function => exact absurd hkind hk
  | operation => rfl
  | derived i a => rfl

/-- … in a function or a bridge it is not bound -/
theorem eval_self_function {C : Ctx} {rec : Oracle} {c : Cfg} (hk : c.fr.kind = .function) :
    ∃ e, evalStep C rec .self c = some (.error e) := by
  simp only [evalStep]
  rw [bind_ok (getFr_run c)]
  simp only [hk]
  exact ⟨_, rfl⟩

/-- an instance-based operation invoked on `h.op(args)` runs with `self` = the instance `h` denotes -/
theorem callInst_runs_with_self {C : Ctx} {rec : Oracle} {h : Expr} {name : String} {args : List (String × Expr)}
    {c c1 c2 : Cfg} {i : Inst} {f : Callable} {kw : List (String × Val)}
    (hh : rec.eval h c = some (.ok (.inst i, c1)))
    (hf : findCallable C (fun f => f.kind = .instOp i.cls ∧ f.name = name) = some f)
    (ha : evalArgs rec args c1 = some (.ok (kw, c2))) :
    evalStep C rec (.callInst h name args) c = invoke rec .operation f.body kw (.inst i) c2 := by
  simp only [evalStep]
  rw [bind_ok hh, bind_ok (show asInst (.inst i) c1 = some (.ok (i, c1)) from rfl)]
  simp only [hf]
  rw [bind_ok ha]

/-- a function `::f(args)` runs in a function walker: no receiver (`self` is unbound there, `eval_self_function`) -/
theorem call_function_runs_unbound {C : Ctx} {rec : Oracle} {name : String} {args : List (String × Expr)}
    {c c2 : Cfg} {f : Callable} {kw : List (String × Val)}
    (ha : evalArgs rec args c = some (.ok (kw, c2)))
    (hf : findCallable C (fun f => f.kind = .function ∧ f.name = name) = some f) :
    evalStep C rec (.call .function name args) c = invoke rec .function f.body kw .none c2 := by
  simp only [evalStep]
  rw [bind_ok ha]
  simp only [hf]

/-- `NS::name(args)`: a bridge runs in a function walker (no receiver), a class-based operation in an operation
    walker whose receiver is the empty handle -/
theorem call_ns_runs {C : Ctx} {rec : Oracle} {k : CallKind} {ns name : String} {args : List (String × Expr)}
    {c c2 : Cfg} {f : Callable} {kw : List (String × Val)}
    (hk : k = .implicit ns ∨ k = .bridge ns)
    (ha : evalArgs rec args c = some (.ok (kw, c2)))
    (hf : resolveNs C ns name = some f) :
    evalStep C rec (.call k name args) c =
      invoke rec (match f.kind with | .bridge _ => .function | _ => .operation) f.body kw .none c2 := by
  rcases hk with rfl | rfl <;>
  · simp only [evalStep]
    rw [bind_ok ha]
    simp only [hf]
    cases f.kind <;> rfl

/-- `transform KL::op(args)`: the class-based operation of the CLASS KL (looked up before the parameters are evaluated) -/
theorem call_classOp_runs {C : Ctx} {rec : Oracle} {ns name : String} {args : List (String × Expr)}
    {c c2 : Cfg} {f : Callable} {kw : List (String × Val)}
    (ha : evalArgs rec args c = some (.ok (kw, c2)))
    (hf : findCallable C (fun f => f.kind = .classOp ns ∧ f.name = name) = some f) :
    evalStep C rec (.call (.classOp ns) name args) c = invoke rec .operation f.body kw .none c2 := by
  simp only [evalStep, hf]
  rw [bind_ok ha]

/-- inside the body of a class-based operation `self` reads as the empty handle -/
theorem eval_self_classOp (C : Ctx) (rec : Oracle) (kw : List (String × Val)) (st : State) :
    evalStep C rec .self { fr := mkFrame .operation kw .none, st := st }
      = some (.ok (.none, { fr := mkFrame .operation kw .none, st := st })) :=
  eval_self (by simp [mkFrame])

theorem mkFrame_self (kind : WalkerKind) (kw : List (String × Val)) (self : Val) :
    (mkFrame kind kw self).self = self ∧ (mkFrame kind kw self).kind = kind ∧ (mkFrame kind kw self).ret = .none ∧
    (mkFrame kind kw self).env = [[]] := ⟨rfl, rfl, rfl, rfl⟩

/-- the value an invocation delivers is the callee's return register when its body has ended; the caller keeps
    its own frame and sees the callee's effect on the population -/
theorem invoke_ok {rec : Oracle} {kind : WalkerKind} {body : Block} {kw : List (String × Val)} {self : Val}
    {c c' : Cfg} (h : runBody rec body { fr := mkFrame kind kw self, st := c.st } = some (.ok ((), c'))) :
    invoke rec kind body kw self c = some (.ok (c'.fr.ret, { fr := c.fr, st := c'.st })) := by
  unfold invoke; rw [h]

/-- an empty body delivers nothing -/
theorem invoke_empty (rec : Oracle) (kind : WalkerKind) (kw : List (String × Val)) (self : Val) (c : Cfg) :
    invoke rec kind [] kw self c = some (.ok (.none, c)) := rfl

def NotDerived (k : WalkerKind) : Prop := ∀ i a, k ≠ .derived i a

/-- statements: the kind is kept; unless the statement completes by `return`, so is the register -/
def PresRet (m : M Out) : Prop :=
  ∀ c o c', m c = some (.ok (o, c')) → NotDerived c.fr.kind →
    c'.fr.kind = c.fr.kind ∧ (o ≠ .ret → c'.fr.ret = c.fr.ret)

theorem presRet_rules : FrameRules (fun o fr fr' => NotDerived fr.kind → fr'.kind = fr.kind ∧ (o ≠ .ret → fr'.ret = fr.ret)) where
  refl := fun _ _ _ => ⟨rfl, fun _ => rfl⟩
  seq := fun ho1 h1 h2 hk => by
    have ⟨k1, r1⟩ := h1 hk
    have ⟨k2, r2⟩ := h2 (by rw [k1]; exact hk)
    exact ⟨k2.trans k1, fun ho => (r2 ho).trans (r1 ho1)⟩
  install := fun _ _ _ _ => ⟨rfl, fun _ => rfl⟩
  bracket := fun h hk => h hk
  retv := fun _ _ _ => ⟨rfl, fun h => absurd rfl h⟩
  reg := fun {fr i name} _ hreg hk => by
    unfold regHit at hreg
    cases hkind : fr.kind with
    | derived si attr => exact absurd hkind (hk si attr)
    | function => rw [hkind] at hreg; cases hreg
    | operation => rw [hkind] at hreg; cases hreg

/-- for any oracle: the rules are instantiated at the default context, which has no callables, so the premise of the walk
    about the bodies of the callables is empty -/
theorem presRet_execBlock {r : Oracle} (hs : ∀ s, PresRet (r.exec s)) (b : Block) :
    PresRet (execBlock r b) :=
  step_execBlock (presRet_rules.step default).toStepBase (fun s _ => hs s) b (fun _ _ => trivial)

theorem presRet_run (C : Ctx) (n : Nat) (s : Stmt) : PresRet ((run C n).exec s) :=
  (step_run (presRet_rules.step C) okTrue (fun _ _ _ _ => trivial) n).2 s trivial

/-- a function, bridge or operation whose body ends without executing `return <expr>` — it falls through,
    executes a bare `return;` or `control stop` — delivers nothing -/
theorem invoke_without_return_value {C : Ctx} {n : Nat} {kind : WalkerKind} {body : Block}
    {kw : List (String × Val)} {self : Val} {c c' : Cfg} {o : Out}
    (hk : NotDerived kind)
    (hb : execBlock (run C n) body { fr := mkFrame kind kw self, st := c.st } = some (.ok (o, c')))
    (ho : o = .normal ∨ o = .stop ∨ o = .retBare) :
    invoke (run C n) kind body kw self c = some (.ok (.none, { fr := c.fr, st := c'.st })) := by
  have hp := presRet_execBlock (presRet_run C n) body _ o c' hb hk
  have hret : c'.fr.ret = .none := hp.2 (by rcases ho with rfl | rfl | rfl <;> simp)
  have hrb : runBody (run C n) body { fr := mkFrame kind kw self, st := c.st } = some (.ok ((), c')) := by
    unfold runBody
    rw [bind_ok hb]
    rcases ho with rfl | rfl | rfl <;> rfl
  rw [invoke_ok hrb, hret]

/-- conversely: an invocation that delivers a value other than none executed a `return <expr>` -/
theorem invoke_value_needs_return {C : Ctx} {n : Nat} {kind : WalkerKind} {body : Block}
    {kw : List (String × Val)} {self : Val} {c c2 : Cfg} {v : Val} (hk : NotDerived kind)
    (h : invoke (run C n) kind body kw self c = some (.ok (v, c2))) (hv : v ≠ .none) :
    ∃ c', execBlock (run C n) body { fr := mkFrame kind kw self, st := c.st } = some (.ok (.ret, c')) ∧ v = c'.fr.ret := by
  obtain ⟨c', hrb, hv', _⟩ := invoke_ok_inv h
  obtain ⟨o, hb⟩ := runBody_inv hrb
  have hp := presRet_execBlock (presRet_run C n) body _ o c' hb hk
  by_cases ho : o = .ret
  · subst ho; exact ⟨c', hb, hv'⟩
  · exfalso
    have := hp.2 ho
    rw [hv', this] at hv
    exact hv rfl

/-- reading a derived attribute runs its body NOW, in the current state: the value is a function of the state at the
    time of the read (and of nothing remembered from earlier reads — there is no cache in the configuration) -/
theorem derived_read {C : Ctx} {rec : Oracle} {i : Inst} {name : String} {f : Callable} {c : Cfg}
    (hreg : regHit c.fr i name = false) (hf : findDerived C i.cls name = some f) :
    readField C rec i name c = invoke rec (.derived i name) f.body [] (.inst i) c := by
  unfold readField
  rw [bind_ok (getFr_run c), hreg]
  simp only [Bool.false_eq_true, hf, ↓reduceIte]

/-- the value read depends on the configuration only through the state -/
theorem invoke_state_only (rec : Oracle) (kind : WalkerKind) (body : Block) (kw : List (String × Val)) (self : Val)
    (c1 c2 : Cfg) (hst : c1.st = c2.st) :
    (invoke rec kind body kw self c1).map (fun r => r.map (fun p => (p.1, p.2.st))) =
    (invoke rec kind body kw self c2).map (fun r => r.map (fun p => (p.1, p.2.st))) := by
  unfold invoke
  rw [hst]
  cases runBody rec body { fr := mkFrame kind kw self, st := c2.st } with
  | none => rfl
  | some x =>
    cases x with
    | error e => rfl
    | ok p => rfl

end Pyx.Interp
