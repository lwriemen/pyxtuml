import Proofs.PbShapeMore

/-!
  C06 source tie: every builder function of Flat.lean only appends rows and keeps the scope handles (`Ext`, from `Flat.Grows`); with it the whole
  `if … elif … else … end if` chain with the HANDLERS as the oracles of the elif list, of every elif and of the else clause (no
  hypothesis about these three is left; the conditions and blocks under them stay the model's `exprAcc` / `blockAcc`, and every
  condition must be a node `buildExpr` has a clause for: `exprHead`, `elifsHead`); accept_SelfAccessNode.
-/
namespace Pyx.PbShape
open Pyx.Prebuild Pyx.Prebuild.Flat Pyx.Gen.PbShape

theorem buildStmt_ext (fc : FCtx) : ∀ (s : Stmt) (prev : Option Nat) (st : St), Ext st (buildStmt fc prev s st).2 :=
  fun s prev st => (buildStmt_grows fc s prev st).1
theorem buildStmts_ext (fc : FCtx) : ∀ (ss : Block) (prev : Option Nat) (st : St), Ext st (buildStmts fc prev ss st) :=
  fun ss prev st => (buildStmts_grows fc ss prev st).1
theorem buildElifs_ext (fc : FCtx) : ∀ (el : Elifs) (ifS : Nat) (st : St), Ext st (buildElifs fc ifS el st) :=
  fun el ifS st => (buildElifs_grows fc el ifS st).1
theorem buildElse_ext (fc : FCtx) : ∀ (els : Else) (ifS : Nat) (st : St), Ext st (buildElse fc ifS els st) :=
  fun els ifS st => (buildElse_grows fc els ifS st).1

theorem Ext.scoped {a b : St} {h : Handle} (e : Ext (pushScope h a) b) : Ext a (popScope b) := by
  obtain ⟨⟨d, hd⟩, hs⟩ := e
  refine ⟨⟨d, by simpa [popScope, pushScope] using hd⟩, ?_⟩
  simp only [popScope, hsOf, List.map_tail]
  simp only [hsOf, pushScope, List.map_cons] at hs
  rw [hs]; rfl

theorem Ext.withBlock (st : St) (body : St → St) (h : ∀ s, Ext s (body s)) : Ext st (withBlock st body).2 :=
  (Ext.new st (.blk false)).trans (Ext.scoped (h _))

theorem withBlock_blk (st : St) (body : St → St) (h : ∀ s, Ext s (body s)) :
    (withBlock st body).2.pop[(withBlock st body).1]? = some (.blk false) := by
  have e := h (pushScope (.blk (st.new (.blk false)).1) (st.new (.blk false)).2)
  have : (pushScope (.blk (st.new (.blk false)).1) (st.new (.blk false)).2).pop[st.pop.length]? = some (.blk false) := by
    simp [pushScope, St.new]
  simpa [Flat.withBlock, popScope, St.new] using e.get this

/-- the expression nodes `buildExpr` has a clause for (an index access / an invocation is not modelled: `(0, fail)`) -/
def exprHead : Expr → Bool
  | .index _ _ | .call _ _ _ _ | .icall _ _ _ => false
  | _ => true

theorem buildExpr_val (fc : FCtx) : ∀ (e : Expr) (st : St), exprHead e = true →
    ∃ b, (buildExpr fc e st).2.pop[(buildExpr fc e st).1]? = some (.val b)
  | .int _, st, _ | .real _, st, _ | .str _, st, _ | .selected, st, _ | .param _, st, _ | .bool _, st, _ | .self, st, _
  | .field _ _, st, _ | .un _ _, st, _ | .bin _ _ _, st, _ => by
    simp only [buildExpr]; exact ⟨_, (Ext.new _ _).get (newVal_row _)⟩
  | .enum nsp n, st, _ => by
    simp only [buildExpr]
    split
    · split <;> exact ⟨_, (Ext.new _ _).get (newVal_row _)⟩
    · exact ⟨_, (Ext.new _ _).get (newVal_row _)⟩
  | .var n, st, _ => by
    simp only [buildExpr]
    generalize Flat.needVar fc n (st.guard (n != "self")) = l
    obtain ⟨l1, l2⟩ := l
    dsimp only
    split
    · exact ⟨_, (Ext.new _ _).get (newVal_row l2)⟩
    · exact ⟨_, (Ext.new _ _).get (newVal_row l2)⟩
    · exact ⟨_, (Ext.new _ _).get (newVal_row l2)⟩
    · exact ⟨_, (Ext.fail _).get (newVal_row l2)⟩
  | .index _ _, _, h | .call _ _ _ _, _, h | .icall _ _ _, _, h => by simp [exprHead] at h

theorem ext_condOf (fc : FCtx) (e : Expr) (st : St) : Ext (newSmt none st).2 (condOf fc e st).2 :=
  (buildExpr_grows fc e _).1
theorem ext_blockOf (fc : FCtx) (e : Expr) (b : Block) (st : St) : Ext (condOf fc e st).2 (blockOf fc e b st).2 :=
  Ext.withBlock _ _ (buildStmts_ext fc b none)
theorem ext_clause (fc : FCtx) (e : Expr) (b : Block) (st : St) : Ext st (blockOf fc e b st).2 :=
  (Ext.newSmt none st).trans ((ext_condOf fc e st).trans (ext_blockOf fc e b st))

theorem blockOf_smt (fc : FCtx) (e : Expr) (b : Block) (st : St) :
    (blockOf fc e b st).2.pop[(newSmt none st).1]? = some (.smt (curBlkD st.scopes) none) :=
  ((ext_condOf fc e st).trans (ext_blockOf fc e b st)).get (newSmt_row st)

theorem blockOf_val (fc : FCtx) (e : Expr) (b : Block) (st : St) (he : exprHead e = true) :
    ∃ bv, (blockOf fc e b st).2.pop[(condOf fc e st).1]? = some (.val bv) := by
  obtain ⟨bv, h⟩ := buildExpr_val fc e (newSmt none st).2 he
  exact ⟨bv, (ext_blockOf fc e b st).get h⟩

theorem blockOf_blk (fc : FCtx) (e : Expr) (b : Block) (st : St) :
    (blockOf fc e b st).2.pop[(blockOf fc e b st).1]? = some (.blk false) :=
  withBlock_blk _ _ (buildStmts_ext fc b none)

/-- a handler as the oracle of a child: `self.accept(child, **kw)` runs the child's `accept_*` (stuck = answers None) -/
def handlerAcc (fc : FCtx) (fn : Fn) (nd : Node) (fuel : Nat) : Acc :=
  fun kw g => (callFn (mkEnv fc nd) fuel fn [.node] kw g).getD (.none, g)

def elifNode (fc : FCtx) (e : Expr) (b : Block) : Node := { kids := [("expression", exprAcc fc e), ("block", blockAcc fc b)] }

def elifAccs (fc : FCtx) : Elifs → List Acc
  | .nil => []
  | .cons e b rest => handlerAcc fc accept_ElIfNode (elifNode fc e b) 20 :: elifAccs fc rest

def elifsHead : Elifs → Bool
  | .nil => true
  | .cons e _ rest => exprHead e && elifsHead rest

def elifListNode (fc : FCtx) (elifs : Elifs) : Node := { children := elifAccs fc elifs }
def elifListAcc (fc : FCtx) (elifs : Elifs) : Acc :=
  handlerAcc fc accept_ElIfListNode (elifListNode fc elifs) ((elifListNode fc elifs).children.length + 0 + 5)
def elseNode (fc : FCtx) (b : Block) : Node := { kids := [("block", blockAcc fc b)] }
def elseKids (fc : FCtx) : Else → List (String × Acc)
  | .none => []
  | .some eb => [("else_clause", handlerAcc fc accept_ElseNode (elseNode fc eb) 20)]
/-- the node of `if e b elifs els`: condition and block by the model's oracles, the elif list by accept_ElIfListNode over
    accept_ElIfNode, the else clause (if there is one) by accept_ElseNode -/
def ifNode (fc : FCtx) (e : Expr) (b : Block) (elifs : Elifs) (els : Else) : Node :=
  { kids := [("expression", exprAcc fc e), ("block", blockAcc fc b), ("elif_list", elifListAcc fc elifs)] ++ elseKids fc els }

theorem elif_step (fc : FCtx) (g : G) (i si bi vi : Nat) (e : Expr) (b : Block) (hb : BlkOK g.st)
    (hi : g.st.pop[i]? = some (.if_ si bi vi)) (he : exprHead e = true) :
    handlerAcc fc accept_ElIfNode (elifNode fc e b) 20 [("act_if", .inst i)] g
      = (.inst (newSmt none g.st).1, { g with st := buildElifs fc si (.cons e b .nil) g.st }) := by
  obtain ⟨bv, hv⟩ := blockOf_val fc e b g.st he
  have h := elif_model_eq fc (elifNode fc e b) g 0 i si bi vi e b _ bv _ _ hb rfl rfl (blockOf_smt fc e b g.st) hv
    (blockOf_blk fc e b g.st) ((ext_clause fc e b g.st).get hi)
  simp only [Nat.zero_add] at h
  simp only [handlerAcc, h, Option.getD_some]

theorem buildElifs_cons (fc : FCtx) (si : Nat) (e : Expr) (b : Block) (rest : Elifs) (st : St) :
    buildElifs fc si (.cons e b rest) st = buildElifs fc si rest (buildElifs fc si (.cons e b .nil) st) := by
  simp [buildElifs]

theorem elif_chain_eq (fc : FCtx) (i si bi vi : Nat) : ∀ (elifs : Elifs) (g : G), elifsHead elifs = true → BlkOK g.st →
    g.st.pop[i]? = some (.if_ si bi vi) →
    foldAcc [("act_if", .inst i)] (elifAccs fc elifs) g = { g with st := buildElifs fc si elifs g.st }
  | .nil, g, _, _, _ => by simp [elifAccs, foldAcc, buildElifs]
  | .cons e b rest, g, hh, hb, hi => by
    simp only [elifsHead, Bool.and_eq_true] at hh
    have hx : Ext g.st (buildElifs fc si (.cons e b .nil) g.st) := buildElifs_ext fc _ si g.st
    have ih := elif_chain_eq fc i si bi vi rest { g with st := buildElifs fc si (.cons e b .nil) g.st } hh.2
      (hx.blkOK hb) (hx.get hi)
    simp only [elifAccs, foldAcc, elif_step fc g i si bi vi e b hb hi hh.1, ih, buildElifs_cons fc si e b rest]

theorem elif_list_full_eq (fc : FCtx) (g : G) (i si bi vi : Nat) (elifs : Elifs) (hh : elifsHead elifs = true) (hb : BlkOK g.st)
    (hi : g.st.pop[i]? = some (.if_ si bi vi)) :
    callFn (mkEnv fc (elifListNode fc elifs)) ((elifListNode fc elifs).children.length + 0 + 5) accept_ElIfListNode [.node]
        [("act_if", .inst i)] g
      = some (.none, { g with st := buildElifs fc si elifs g.st }) := by
  rw [elif_list_eq fc (elifListNode fc elifs) g 0 (.inst i)]
  simp only [elifListNode, elif_chain_eq fc i si bi vi elifs g hh hb hi]

theorem else_full_eq (fc : FCtx) (g : G) (i si bi vi : Nat) (eb : Block) (hb : BlkOK g.st)
    (hi : g.st.pop[i]? = some (.if_ si bi vi)) :
    callFn (mkEnv fc (elseNode fc eb)) 20 accept_ElseNode [.node] [("act_if", .inst i)] g
      = some (.inst (newSmt none g.st).1, { g with st := buildElse fc si (.some eb) g.st }) := by
  have e1 : Ext (newSmt none g.st).2 (Flat.withBlock (newSmt none g.st).2 (buildStmts fc none eb)).2 :=
    Ext.withBlock _ _ (buildStmts_ext fc eb none)
  have h := else_model_eq fc (elseNode fc eb) g 0 i si bi vi eb _ _ _ hb rfl (e1.get (newSmt_row g.st))
    (withBlock_blk _ _ (buildStmts_ext fc eb none)) (((Ext.newSmt none g.st).trans e1).get hi)
  simpa only [Nat.zero_add] using h

/-- `accept_IfNode` with the handlers as the oracles of the elif list and the else clause IS the `.if_` clause of `buildStmt` -/
theorem if_full_eq (fc : FCtx) (g : G) (n : Nat) (e : Expr) (b : Block) (elifs : Elifs) (els : Else) (hb : BlkOK g.st)
    (he : exprHead e = true) (hh : elifsHead elifs = true) :
    callFn (mkEnv fc (ifNode fc e b elifs els)) (n + 20) accept_IfNode [.node] [] g
      = some (.inst (buildStmt fc none (.if_ e b elifs els) g.st).1,
              { g with st := (buildStmt fc none (.if_ e b elifs els) g.st).2 }) := by
  obtain ⟨bv, hv⟩ := blockOf_val fc e b g.st he
  -- not through `if_model_eq`: its `hEl`, `hE` ask for ALL states, and the handlers equal `buildElifs` / `buildElse` only on
  -- states with `BlkOK` that hold the ACT_IF row
  rw [if_eq fc (ifNode fc e b elifs els) g { g with st := (condOf fc e g.st).2 } { g with st := (blockOf fc e b g.st).2 } n
    (condOf fc e g.st).1 (blockOf fc e b g.st).1 bv _ _ _ (exprAcc fc e) (blockAcc fc b) hb rfl rfl rfl rfl
    (blockOf_smt fc e b g.st) hv (blockOf_blk fc e b g.st)]
  -- the state in which the elif list is accepted: the ACT_IF row is the last one
  have hx0 : Ext g.st ((blockOf fc e b g.st).2.new (.if_ (newSmt none g.st).1 (blockOf fc e b g.st).1 (condOf fc e g.st).1)).2 :=
    (ext_clause fc e b g.st).trans (Ext.new _ _)
  have hi0 : ((blockOf fc e b g.st).2.new (.if_ (newSmt none g.st).1 (blockOf fc e b g.st).1 (condOf fc e g.st).1)).2.pop[
      (blockOf fc e b g.st).2.pop.length]? = some (.if_ (newSmt none g.st).1 (blockOf fc e b g.st).1 (condOf fc e g.st).1) := by
    simp [St.new]
  have hkEl : kid (ifNode fc e b elifs els) "elif_list" = elifListAcc fc elifs := rfl
  have hEl := elif_list_full_eq fc
    { g with st := ((blockOf fc e b g.st).2.new (.if_ (newSmt none g.st).1 (blockOf fc e b g.st).1 (condOf fc e g.st).1)).2 }
    (blockOf fc e b g.st).2.pop.length _ _ _ elifs hh (hx0.blkOK hb) hi0
  have hx1 := hx0.trans (buildElifs_ext fc elifs (newSmt none g.st).1 _)
  simp only [hkEl, elifListAcc, handlerAcc, hEl, Option.getD_some]
  cases els with
  | none =>
    have hkE : kid (ifNode fc e b elifs .none) "else_clause" = fun _ g => (.none, g) := rfl
    simp only [hkE]
    simp [buildStmt, condOf, blockOf, buildElse]
  | some eb =>
    have hkE : kid (ifNode fc e b elifs (.some eb)) "else_clause" = handlerAcc fc accept_ElseNode (elseNode fc eb) 20 := rfl
    have hE := else_full_eq fc
      { g with st := (buildElifs fc (newSmt none g.st).1 elifs ((blockOf fc e b g.st).2.new (.if_ (newSmt none g.st).1 (blockOf fc e b g.st).1 (condOf fc e g.st).1)).2) }
      (blockOf fc e b g.st).2.pop.length _ _ _ eb (hx1.blkOK hb)
      ((buildElifs_ext fc elifs (newSmt none g.st).1 _).get hi0)
    simp only [hkE, handlerAcc, hE, Option.getD_some]
    simp [buildStmt, condOf, blockOf]

theorem nav_848 (g : G) (l : Option Nat) :
    navSteps g (prevV l) [⟨"S_DT", 848, ""⟩] = some (if l.isSome then .ghost "S_DT" else .none) := by
  cases l <;> simp [navSteps, navStep, prevV]

/-- R820 to the type of a variable that may not have been found (R848 is not stored) -/
theorem relStep_820 (g : G) (k : Nat) (l : Option Nat) :
    relStep true g (.inst k) (if l.isSome then .ghost "S_DT" else .none) 820 ""
      = some { g with st := { g.st with ok := g.st.ok && l.isSome } } := by
  cases l <;> simp [relStep, relateV, gfail, St.fail]

theorem newVal_flag (st : St) (c : Bool) :
    newVal { st with ok := st.ok && c } = ((newVal st).1, { (newVal st).2 with ok := (newVal st).2.ok && c }) := by
  simp [newVal, guard_eq, St.new, Bool.and_assoc, Bool.and_comm c]

theorem self_eq (fc : FCtx) (nd : Node) (g : G) (n : Nat) (hb : BlkOK g.st) (hva : VarAns (lookupVar fc "self" g.st)) :
    callFn (mkEnv fc nd) (n + 20) accept_SelfAccessNode [.node] [] g
      = some (.inst (buildExpr fc .self g.st).1, { g with st := (buildExpr fc .self g.st).2 }) := by
  have hb1 := (Ext.lookupVar fc "self" g.st).blkOK hb
  have h808 := hva.partner (Ext.newVal _) 808 fun _ _ => rfl
  simp only [pb, accept_SelfAccessNode, hb1, h808, nav_848, relStep_820, buildExpr, needVar_eq, newVal_flag, St.new,
    Bool.and_assoc, Bool.and_self]

end Pyx.PbShape
