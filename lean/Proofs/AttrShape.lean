import Gen.AttrShape
import PyxModel.Attr

/-!
  C10 source tie: a GENERIC interpreter of the IR that translator/gen_attrshape.py extracts from
  `Class.__getattr__ / __setattr__ / __delattr__`, `MetaClass.attribute_type` and the class table of `MetaModel`,
  and the lemmas showing that PyxModel/Attr.lean equals that interpretation of the IR generated from the source.

  What is NOT read from the source but is Python itself: `object.__getattribute__` (a data descriptor on the type —
  the property of a referential attribute — first, then the instance `__dict__` under the exact name, else
  AttributeError), `object.__setattr__` (the property's setter refuses, else the `__dict__` is written), and the
  fact that `__getattr__` is consulted only after the normal lookup failed.
-/
namespace Pyx.AShape
open Pyx.Attr Pyx.Gen.AttrShape

def namesMatch : MatchForm → Name → Name → Bool
  | .upperBoth, a, b => decide (fold a = fold b)
  | .exact, a, b => decide (a = b)

/-- the loop over the declared attributes: the first one that matches the given name -/
def findDeclared (mf : MatchForm) (c : Cls) (sp : Name) : Option Name := c.names.find? (fun a => namesMatch mf a sp)

def pick (declared given : Name) : Target → Name
  | .declared => declared
  | .given => given

/-- `object.__getattribute__(self, t)` -/
def objectGet (c : Cls) (d : Dict) (t : Name) : Read :=
  if t ∈ c.refs then .prop t
  else match dget d t with
    | some v => .val v
    | none => .attrError

/-- `object.__setattr__(self, t, value)` -/
def objectSet (c : Cls) (d : Dict) (t : Name) (v : Val) : Dict × SetRes :=
  if t ∈ c.refs then (d, .metaExc) else (dset d t v, .ok)

/-- `none` = KeyError: `self.__dict__[t]` on a key that is not there - an outcome `getattr` does not have (the model's
    `Read` knows values, the property and AttributeError), so a shape that can reach it is not the model's function -/
def doGet (c : Cls) (d : Dict) (declared given : Name) : GetAct → Option Read
  | .dictValue t => (dget d (pick declared given t)).map .val
  | .objectGet t => some (objectGet c d (pick declared given t))

/-- the statement after the loop: only the name the caller gave is in scope (the loop variable is not bound to a match) -/
def doGetFall (c : Cls) (d : Dict) (given : Name) : GetFall → Option Read
  | .dictValueGiven => (dget d given).map .val
  | .objectGetGiven => some (objectGet c d given)

/-- `Class.__getattr__(name)` -/
def iGetHook (g : GetShape) (c : Cls) (d : Dict) (sp : Name) : Option Read :=
  match findDeclared g.matchForm c sp with
  | some a => if (dget d (pick a sp g.tested)).isSome then doGet c d a sp g.inDict else doGet c d a sp g.notInDict
  | none => doGetFall c d sp g.noMatch

/-- `getattr(inst, name)`: the normal lookup, then the hook; `none` = KeyError -/
def iGetattr (g : GetShape) (c : Cls) (d : Dict) (sp : Name) : Option Read :=
  match objectGet c d sp with
  | .attrError => iGetHook g c d sp
  | r => some r

def doSet (c : Cls) (d : Dict) (declared given : Name) (v : Val) : SetAct → Dict × SetRes
  | .dictStore t => (dset d (pick declared given t) v, .ok)
  | .objectSet t => objectSet c d (pick declared given t) v

/-- the statement after the loop: only the name the caller gave is in scope -/
def doSetFall (c : Cls) (d : Dict) (given : Name) (v : Val) : SetFall → Dict × SetRes
  | .dictStoreGiven => (dset d given v, .ok)
  | .objectSetGiven => objectSet c d given v

/-- `Class.__setattr__(name, value)` (it is always consulted) -/
def iSetattr (s : SetShape) (c : Cls) (d : Dict) (sp : Name) (v : Val) : Dict × SetRes :=
  match findDeclared s.matchForm c sp with
  | some a => if (dget d (pick a sp s.tested)).isSome then doSet c d a sp v s.inDict else doSet c d a sp v s.notInDict
  | none => doSetFall c d sp v s.noMatch

/-- `Class.__delattr__(name)` -/
def iDelattr (mf : MatchForm) (d : Dict) (sp : Name) : Dict × DelRes :=
  match d.find? (fun kv => namesMatch mf kv.1 sp) with
  | some kv => (ddel d kv.1, .ok)
  | none => (d, .attrError)

def iAttrType (mf : MatchForm) (c : Cls) (sp : Name) : Option Name :=
  (c.attrs.find? (fun a => namesMatch mf a.1 sp)).map (·.2)

def keyOf : KeyForm → Name → Name
  | .upper, k => fold k
  | .asGiven, k => k

def iFind (test read : KeyForm) (cs : Classes) (kind : Name) : Option Cls :=
  match clsGet cs (keyOf test kind) with
  | some _ => clsGet cs (keyOf read kind)
  | none => none

/-- two names of the list match (the loop with the `unames` set: a name is rejected when an earlier one matches) -/
def dupWith (mf : MatchForm) : List Name → Bool
  | [] => false
  | n :: r => r.any (fun m => namesMatch mf m n) || dupWith mf r

/-- the test `_is_reserved` makes: longer than `minLen`, starts with `pre`, ends with `suf` -/
def iReserved (rf : ReservedForm) (n : Name) : Bool :=
  decide (n.length > rf.minLen) && rf.pre.isPrefixOf n && rf.suf.isSuffixOf n

def iDefine (test stored store : KeyForm) (collision : Option MatchForm) (reserved : Option ReservedForm)
    (cs : Classes) (kind : Name) (attrs : List (Name × Name)) : Option Classes :=
  match clsGet cs (keyOf test kind) with
  | some _ => none
  | none =>
    -- the attribute loop raises MetaModelException at the first name that is reserved or matches an earlier one
    let refused : Bool := match reserved with
      | some rf => (attrs.map fun a => a.1).any (iReserved rf)
      | none => false
    let collides : Bool := match collision with
      | some mf => dupWith mf (attrs.map fun a => a.1)
      | none => false
    if refused || collides then none
    else some (cs ++ [(keyOf store kind, ({ kind := keyOf stored kind, attrs := attrs, refs := [] } : Cls))])

theorem findDeclared_eq (c : Cls) (sp : Name) : findDeclared .upperBoth c sp = declMatch c sp := rfl

theorem getattr_eq (c : Cls) (d : Dict) (sp : Name) : iGetattr getShape c d sp = some (getattr c d sp) := by
  unfold getattr iGetattr objectGet
  by_cases h1 : sp ∈ c.refs
  · simp [h1]
  · simp only [h1, ↓reduceIte]
    cases h2 : dget d sp with
    | some v => rfl
    | none =>
      simp only [iGetHook, getShape, findDeclared_eq]
      cases h3 : declMatch c sp with
      | none => simp [doGetFall, objectGet, h1, h2]
      | some a =>
        simp only [pick, doGet, objectGet]
        by_cases h5 : a ∈ c.refs
        · simp [h5]
        · simp only [h5, ↓reduceIte]
          cases dget d a <;> rfl

theorem setattr_eq (c : Cls) (d : Dict) (sp : Name) (v : Val) : setattr c d sp v = iSetattr setShape c d sp v := by
  unfold setattr iSetattr
  simp only [setShape, findDeclared_eq]
  cases h3 : declMatch c sp with
  | none => rfl
  | some a =>
    simp only [pick, doSet, objectSet]
    by_cases hs : (dget d a).isSome = true <;> by_cases h5 : a ∈ c.refs <;> simp [hs, h5]

theorem delattr_eq (d : Dict) (sp : Name) : delattr d sp = iDelattr delMatch d sp := rfl

theorem attrType_eq (c : Cls) (sp : Name) : attrType c sp = iAttrType attributeTypeMatch c sp := rfl

theorem findMetaclass_eq (cs : Classes) (kind : Name) :
    findMetaclass cs kind = iFind findTestKey findReadKey cs kind := by
  unfold findMetaclass iFind
  simp only [findTestKey, findReadKey, keyOf]
  cases clsGet cs (fold kind) <;> rfl

theorem dupFold_eq : ∀ (l : List Name), dupFold l = dupWith .upperBoth l
  | [] => rfl
  | n :: r => by simp only [dupFold, dupWith, namesMatch, dupFold_eq r]

theorem defineClass_eq (cs : Classes) (kind : Name) (attrs : List (Name × Name)) :
    defineClass cs kind attrs =
      iDefine defineTestKey defineStoredKind defineStoreKey defineAttrCollision defineReserved cs kind attrs := by
  unfold defineClass iDefine badNames
  simp only [defineTestKey, defineStoredKind, defineStoreKey, defineAttrCollision, defineReserved, keyOf, dupFold_eq]
  rfl

end Pyx.AShape
