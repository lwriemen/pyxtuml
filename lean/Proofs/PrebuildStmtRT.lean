import Proofs.PrebuildExprRT

/-
  C05, statement level: `parseStmt` / `parseBlock` read back what `genStmt` / `genBlock` print,
  for every supported statement / block of any size and nesting depth.
-/
namespace Pyx.Prebuild
open Tok Kw Pn

mutual
  def szS : Stmt → Nat
    | .assign l r => szE l + szE r + 1
    | .ret none => 1
    | .ret (some e) => szE e + 1
    | .brk | .cont | .ctl => 1
    | .create _ _ | .createNV _ | .delete _ => 1
    | .relate _ _ _ _ | .relateU _ _ _ _ _ | .unrelate _ _ _ _ | .unrelateU _ _ _ _ _ => 1
    | .selFrom _ _ _ => 1
    | .selFromW _ _ _ w => szE w + 1
    | .selRel _ _ h chain => szE h + chain.length + 2
    | .selRelW _ _ h chain w => szE h + chain.length + szE w + 2
    | .forEach _ _ b => szB b + 1
    | .while_ e b => szE e + szB b + 1
    | .if_ e b elifs els => szE e + szB b + szEl elifs + szElse els + 1
    | .invoke e => szE e + 1
    | .genEvt _ _ d _ => szP d + 1
    | .createEvt _ _ _ d _ => szP d + 1
    | .genPre e => szE e + 1
  def szB : Block → Nat
    | .nil => 1
    | .cons s rest => szS s + szB rest + 1
  def szEl : Elifs → Nat
    | .nil => 1
    | .cons e b rest => szE e + szB b + szEl rest + 1
  def szElse : Else → Nat
    | .none => 1
    | .some b => szB b + 1
end

theorem parseName_nameTok (v : String) (r : List Tok) : parseName (nameTok v :: r) = some (v, r) := by
  unfold nameTok
  split
  · rename_i h; subst h; rfl
  · rfl

theorem parsePhrase_phraseToks (ph : String) (rest : List Tok) (h : ∀ r, rest ≠ p dot :: r) :
    parsePhrase (phraseToks ph ++ rest) = (ph, rest) := by
  unfold phraseToks
  split
  · rename_i he; subst he
    simp only [List.nil_append]
    unfold parsePhrase
    split
    · rename_i r1 _ _; exact absurd rfl (h _)
    · rfl
  · rfl

theorem parseChain_genChain : ∀ (chain : List Step) (rest : List Tok) (f : Nat),
    (∀ r, rest ≠ p arrow :: r) → chain.length + 1 ≤ f →
    parseChain f (genChain chain ++ rest) = some (chain, rest)
  | [], rest, f, hr, hf => by
      obtain ⟨g, rfl, _⟩ := succ_of_le (a := 0) (by simpa using hf)
      simp only [genChain, List.nil_append]
      rw [parseChain.eq_def]; simp only
      split
      · rename_i h; exact absurd rfl (hr _)
      · rfl
  | s :: more, rest, f, hr, hf => by
      obtain ⟨g, rfl, hg⟩ := succ_of_le (a := more.length + 1) (by simpa using hf)
      have ih := parseChain_genChain more rest g hr hg
      simp only [genChain, genStep, List.append_assoc, List.cons_append, List.nil_append]
      rw [parseChain.eq_def]; simp only
      rw [parsePhrase_phraseToks s.phrase _ (by intro r e; cases e)]
      simp only [ih]

theorem chain_stops {chain : List Step} (h : (!chain.isEmpty) = true) (rest : List Tok) :
    Stops (genChain chain ++ rest) := by
  cases chain with
  | nil => cases h
  | cons s more => exact Stops.cons rfl

theorem stmtStart_stop : ∀ t, stmtStart t = true → stopTok t = true := by
  intro t h
  cases t with
  | kw k => rfl
  | p x =>
    cases x
    case dot | lsq | lpar => simp [stmtStart] at h
    all_goals rfl
  | _ => rfl

/- The arm `.invoke e => genExpr e` of `genStmt` comes after the arms for a bridge call and an instance call, so its equation
   holds only if `e` is neither: `rw [genStmt]` leaves these two conditions (`∀ …, e = .call .bridge … → False`, the same for
   `.icall`) as side goals, closed by the clash of constructors. -/
theorem genStmt_invoke_func (a b : String) (c : Params) :
    genStmt (.invoke (.call .func a b c)) = genExpr (.call .func a b c) := by
  rw [genStmt]
  all_goals
    intro _ _ _ h
    cases h

theorem genStmt_invoke_classop (a b : String) (c : Params) :
    genStmt (.invoke (.call .classop a b c)) = genExpr (.call .classop a b c) := by
  rw [genStmt]
  all_goals
    intro _ _ _ h
    cases h

theorem genStmt_head (ctx : Ctx) (s : Stmt) (hw : wfStmt ctx s = true) :
    ∃ t r, genStmt s = t :: r ∧ stmtStart t = true := by
  cases s
  case ret v => cases v <;> exact ⟨_, _, rfl, rfl⟩
  case invoke e =>
    simp only [wfStmt, Bool.and_eq_true] at hw
    cases e <;> simp only [isInvocation, Bool.false_eq_true, false_and] at hw
    case icall h n ps => exact ⟨_, _, rfl, rfl⟩
    case call k a b c =>
      cases k
      all_goals simp only [Bool.false_eq_true, false_and] at hw
      all_goals exact ⟨_, _, rfl, rfl⟩
  all_goals exact ⟨_, _, rfl, rfl⟩

theorem parseTo_genTo (tgt : EvtTo) (hw : wfTo tgt = true) (rest : List Tok) :
    parseTo (genTo tgt ++ p semi :: rest) = some (tgt, p semi :: rest) := by
  cases tgt with
  | cls kl => rfl
  | creator kl => rfl
  | inst h =>
    cases h with
    | var v => simp [genTo, parseTo]
    | self => rfl
    | _ => simp [wfTo, isVarOrSelf] at hw

theorem stops_block (ctx : Ctx) (b : Block) (hw : wfBlock ctx b = true) (rest : List Tok) (hr : Stops rest) :
    Stops (genBlock b ++ rest) := by
  cases b with
  | nil => simpa [genBlock] using hr
  | cons s more =>
    have hw' : wfStmt ctx s = true ∧ wfBlock ctx more = true := by simpa [wfBlock] using hw
    obtain ⟨t, r, e, hs⟩ := genStmt_head ctx s hw'.1
    simp only [genBlock, e, List.append_assoc, List.cons_append]
    exact Stops.cons (stmtStart_stop t hs)

theorem elifs_noStmt (el : Elifs) {rest : List Tok} (h : startsStmt rest = false) :
    startsStmt (genElifs el ++ rest) = false := by
  cases el with
  | nil => exact h
  | cons _ _ _ => rfl

theorem elifs_stops (el : Elifs) {rest : List Tok} (h : Stops rest) : Stops (genElifs el ++ rest) := by
  cases el with
  | nil => exact h
  | cons _ _ _ => exact Stops.cons rfl

theorem elseTail_noStmt (els : Else) (r : List Tok) : startsStmt (genElse els ++ endIf :: r) = false := by
  cases els <;> simp [genElse, startsStmt, stmtStart]

theorem elseTail_stops (els : Else) (r : List Tok) : Stops (genElse els ++ endIf :: r) := by
  cases els <;> simp only [genElse, List.nil_append, List.cons_append] <;> exact Stops.cons rfl

theorem elseTail_noElif (els : Else) (r : List Tok) : ∀ r', genElse els ++ endIf :: r ≠ kw elif_ :: r' := by
  cases els <;> simp [genElse]

theorem parseStmt_assign (ctx : Ctx) (f : Nat) (l rr : Expr) (r r1 r2 : List Tok)
    (h1 : parseExpr ctx f r = some (l, p eq :: r1)) (h2 : parseExpr ctx f r1 = some (rr, r2)) :
    parseStmt ctx (f+1) (kw assign :: r) = some (.assign l rr, r2) := by
  rw [parseStmt.eq_def]; simp only [h1, h2]

theorem parseStmt_ret_none (ctx : Ctx) (f : Nat) (r : List Tok) :
    parseStmt ctx (f+1) (kw return_ :: p semi :: r) = some (.ret none, p semi :: r) := by
  rw [parseStmt.eq_def]

theorem parseStmt_ret_some (ctx : Ctx) (f : Nat) (e : Expr) (r r1 : List Tok)
    (h : parseExpr ctx f r = some (e, r1)) :
    parseStmt ctx (f+1) (kw return_ :: r) = some (.ret (some e), r1) := by
  -- not the `return;` arm: `parseExpr` refuses a list that begins with `;`
  have hne : ∀ x, r ≠ p semi :: x := by
    rintro x rfl
    cases f <;> simp [parseExpr] at h
  rw [parseStmt.eq_def]; simp only [h]

theorem parseStmt_brk (ctx : Ctx) (f : Nat) (r : List Tok) :
    parseStmt ctx (f+1) (kw break_ :: r) = some (.brk, r) := by rw [parseStmt.eq_def]
theorem parseStmt_cont (ctx : Ctx) (f : Nat) (r : List Tok) :
    parseStmt ctx (f+1) (kw continue_ :: r) = some (.cont, r) := by rw [parseStmt.eq_def]
theorem parseStmt_ctl (ctx : Ctx) (f : Nat) (r : List Tok) :
    parseStmt ctx (f+1) (kw control_ :: kw stop :: r) = some (.ctl, r) := by rw [parseStmt.eq_def]
theorem parseStmt_create (ctx : Ctx) (f : Nat) (v kl : String) (r : List Tok) :
    parseStmt ctx (f+1) (kw create :: kw object :: kw instance_ :: ident v :: kw of_ :: ident kl :: r) =
      some (.create v kl, r) := by rw [parseStmt.eq_def]
theorem parseStmt_createNV (ctx : Ctx) (f : Nat) (kl : String) (r : List Tok) :
    parseStmt ctx (f+1) (kw create :: kw object :: kw instance_ :: kw of_ :: ident kl :: r) =
      some (.createNV kl, r) := by rw [parseStmt.eq_def]
theorem parseStmt_delete (ctx : Ctx) (f : Nat) (v : String) (r : List Tok) :
    parseStmt ctx (f+1) (kw delete :: kw object :: kw instance_ :: nameTok v :: r) = some (.delete v, r) := by
  rw [parseStmt.eq_def]; simp only [parseName_nameTok]

theorem parseRelTail_plain (rel ph : String) (rest : List Tok) :
    parseRelTail (kw across :: ident rel :: (phraseToks ph ++ p semi :: rest)) =
      some (rel, ph, none, p semi :: rest) := by
  unfold parseRelTail
  simp only [parsePhrase_phraseToks ph (p semi :: rest) (by intro r e; cases e)]

theorem parseRelTail_using (rel ph u : String) (rest : List Tok) :
    parseRelTail (kw across :: ident rel :: (phraseToks ph ++ kw using_ :: nameTok u :: rest)) =
      some (rel, ph, some u, rest) := by
  unfold parseRelTail
  simp only [parsePhrase_phraseToks ph (kw using_ :: nameTok u :: rest) (by intro r e; cases e), parseName_nameTok]

theorem parseStmt_relate (ctx : Ctx) (f : Nat) (a b rel ph : String) (rest : List Tok) :
    parseStmt ctx (f+1) (kw relate :: nameTok a :: kw to :: nameTok b :: kw across :: ident rel ::
        (phraseToks ph ++ p semi :: rest)) = some (.relate a b rel ph, p semi :: rest) := by
  rw [parseStmt.eq_def]; simp only [parseName_nameTok, parseRelTail_plain]

theorem parseStmt_relateU (ctx : Ctx) (f : Nat) (a b rel ph u : String) (rest : List Tok) :
    parseStmt ctx (f+1) (kw relate :: nameTok a :: kw to :: nameTok b :: kw across :: ident rel ::
        (phraseToks ph ++ kw using_ :: nameTok u :: rest)) = some (.relateU a b rel ph u, rest) := by
  rw [parseStmt.eq_def]; simp only [parseName_nameTok, parseRelTail_using]

theorem parseStmt_unrelate (ctx : Ctx) (f : Nat) (a b rel ph : String) (rest : List Tok) :
    parseStmt ctx (f+1) (kw unrelate :: nameTok a :: kw from_ :: nameTok b :: kw across :: ident rel ::
        (phraseToks ph ++ p semi :: rest)) = some (.unrelate a b rel ph, p semi :: rest) := by
  rw [parseStmt.eq_def]; simp only [parseName_nameTok, parseRelTail_plain]

theorem parseStmt_unrelateU (ctx : Ctx) (f : Nat) (a b rel ph u : String) (rest : List Tok) :
    parseStmt ctx (f+1) (kw unrelate :: nameTok a :: kw from_ :: nameTok b :: kw across :: ident rel ::
        (phraseToks ph ++ kw using_ :: nameTok u :: rest)) = some (.unrelateU a b rel ph u, rest) := by
  rw [parseStmt.eq_def]; simp only [parseName_nameTok, parseRelTail_using]

theorem parseStmt_selFrom (ctx : Ctx) (f : Nat) (c : Tok) (card v kl : String) (rest : List Tok)
    (hc : nameOf cards c = some card) :
    parseStmt ctx (f+1) (kw select :: c :: ident v :: kw from_ :: kw instances :: kw of_ :: ident kl ::
        p semi :: rest) = some (.selFrom card v kl, p semi :: rest) := by
  rw [parseStmt.eq_def]; simp only [hc]

theorem parseStmt_selFromW (ctx : Ctx) (f : Nat) (c : Tok) (card v kl : String) (w : Expr) (r r1 : List Tok)
    (hc : nameOf cards c = some card) (h : parseExpr ctx f r = some (w, r1)) :
    parseStmt ctx (f+1) (kw select :: c :: ident v :: kw from_ :: kw instances :: kw of_ :: ident kl ::
        kw where_ :: r) = some (.selFromW card v kl w, r1) := by
  rw [parseStmt.eq_def]; simp only [hc, h]

theorem parseStmt_selRel (ctx : Ctx) (f : Nat) (c : Tok) (card v : String) (h : Expr) (chain : List Step)
    (r r1 rest : List Tok) (hc : nameOf cards c = some card) (h1 : parseExpr ctx f r = some (h, r1))
    (h2 : parseChain f r1 = some (chain, p semi :: rest)) :
    parseStmt ctx (f+1) (kw select :: c :: ident v :: kw related :: kw by_ :: r) =
      some (.selRel card v h chain, p semi :: rest) := by
  rw [parseStmt.eq_def]; simp only [hc, h1, h2]

theorem parseStmt_selRelW (ctx : Ctx) (f : Nat) (c : Tok) (card v : String) (h w : Expr) (chain : List Step)
    (r r1 r2 r3 : List Tok) (hc : nameOf cards c = some card) (h1 : parseExpr ctx f r = some (h, r1))
    (h2 : parseChain f r1 = some (chain, kw where_ :: r2)) (h3 : parseExpr ctx f r2 = some (w, r3)) :
    parseStmt ctx (f+1) (kw select :: c :: ident v :: kw related :: kw by_ :: r) =
      some (.selRelW card v h chain w, r3) := by
  rw [parseStmt.eq_def]; simp only [hc, h1, h2, h3]

theorem parseStmt_forEach (ctx : Ctx) (f : Nat) (v s : String) (b : Block) (r r1 : List Tok)
    (h : parseBlock ctx f r = some (b, endFor :: r1)) :
    parseStmt ctx (f+1) (kw for_ :: kw each :: ident v :: kw in_ :: ident s :: r) = some (.forEach v s b, r1) := by
  rw [parseStmt.eq_def]; simp only [h]

theorem parseStmt_while (ctx : Ctx) (f : Nat) (e : Expr) (b : Block) (r r1 r2 : List Tok)
    (h1 : parseExpr ctx f r = some (e, r1)) (h2 : parseBlock ctx f r1 = some (b, endWhile :: r2)) :
    parseStmt ctx (f+1) (kw while_ :: r) = some (.while_ e b, r2) := by
  rw [parseStmt.eq_def]; simp only [h1, h2]

theorem parseStmt_if (ctx : Ctx) (f : Nat) (e : Expr) (b : Block) (el : Elifs) (els : Else)
    (r r1 r2 r3 r4 : List Tok)
    (h1 : parseExpr ctx f r = some (e, r1)) (h2 : parseBlock ctx f r1 = some (b, r2))
    (h3 : parseElifs ctx f r2 = some (el, r3)) (h4 : parseElse ctx f r3 = some (els, endIf :: r4)) :
    parseStmt ctx (f+1) (kw if_ :: r) = some (.if_ e b el els, r4) := by
  rw [parseStmt.eq_def]; simp only [h1, h2, h3, h4]

theorem parseStmt_bridge (ctx : Ctx) (f : Nat) (nsp n : String) (ps : Params) (r r1 : List Tok)
    (h : parseParams ctx f r = some (ps, p rpar :: r1)) :
    parseStmt ctx (f+1) (kw bridge :: ns nsp :: p dcolon :: ident n :: p lpar :: r) =
      some (.invoke (.call .bridge nsp n ps), r1) := by
  rw [parseStmt.eq_def]; simp only [h]

theorem parseStmt_transform (ctx : Ctx) (f : Nat) (h : Expr) (n : String) (ps : Params) (r r1 : List Tok)
    (he : parseExpr ctx f r = some (.icall h n ps, r1)) :
    parseStmt ctx (f+1) (kw transform :: r) = some (.invoke (.icall h n ps), r1) := by
  rw [parseStmt.eq_def]; simp only [he]

theorem parseStmt_ns (ctx : Ctx) (f : Nat) (nsp : String) (k : CallKind) (a b : String) (c : Params)
    (r r1 : List Tok) (he : parseExpr ctx f (ns nsp :: r) = some (.call k a b c, r1)) :
    parseStmt ctx (f+1) (ns nsp :: r) = some (.invoke (.call k a b c), r1) := by
  rw [parseStmt.eq_def]; simp only [he]

theorem parseStmt_dcolon (ctx : Ctx) (f : Nat) (k : CallKind) (a b : String) (c : Params)
    (r r1 : List Tok) (he : parseExpr ctx f (p dcolon :: r) = some (.call k a b c, r1)) :
    parseStmt ctx (f+1) (p dcolon :: r) = some (.invoke (.call k a b c), r1) := by
  rw [parseStmt.eq_def]; simp only [he]

theorem parseStmt_genEvt (ctx : Ctx) (f : Nat) (l m : String) (d : Params) (tgt : EvtTo) (r r1 r2 : List Tok)
    (h1 : parseParams ctx f r = some (d, p rpar :: kw to :: r1)) (h2 : parseTo r1 = some (tgt, r2)) :
    parseStmt ctx (f+1) (kw generate :: ident l :: p colon :: phrase m :: p lpar :: r) =
      some (.genEvt l (some m) d tgt, r2) := by
  rw [parseStmt.eq_def]; simp only [h1, h2]

theorem parseStmt_createEvt (ctx : Ctx) (f : Nat) (v l m : String) (d : Params) (tgt : EvtTo)
    (r r1 r2 : List Tok)
    (h1 : parseParams ctx f r = some (d, p rpar :: kw to :: r1)) (h2 : parseTo r1 = some (tgt, r2)) :
    parseStmt ctx (f+1) (kw create :: kw event :: kw instance_ :: ident v :: kw of_ :: ident l :: p colon ::
        phrase m :: p lpar :: r) = some (.createEvt v l (some m) d tgt, r2) := by
  rw [parseStmt.eq_def]; simp only [h1, h2]

theorem parseStmt_genPre (ctx : Ctx) (f : Nat) (e : Expr) (r r1 : List Tok)
    (hne : ∀ l m r', r ≠ ident l :: p colon :: phrase m :: p lpar :: r') (h : parseExpr ctx f r = some (e, r1)) :
    parseStmt ctx (f+1) (kw generate :: r) = some (.genPre e, r1) := by
  rw [parseStmt.eq_def]; simp only [h]

theorem parseBlock_nil (ctx : Ctx) (f : Nat) (ts : List Tok) (h : startsStmt ts = false) :
    parseBlock ctx (f+1) ts = some (.nil, ts) := by
  rw [parseBlock.eq_def]; simp only [h]; rfl

theorem parseBlock_cons (ctx : Ctx) (f : Nat) (s : Stmt) (more : Block) (ts r r1 : List Tok)
    (h0 : startsStmt ts = true) (h1 : parseStmt ctx f ts = some (s, p semi :: r))
    (h2 : parseBlock ctx f r = some (more, r1)) :
    parseBlock ctx (f+1) ts = some (.cons s more, r1) := by
  rw [parseBlock.eq_def]; simp only [h0, h1, h2]; rfl

theorem parseElifs_nil (ctx : Ctx) (f : Nat) (ts : List Tok) (h : ∀ r, ts ≠ kw elif_ :: r) :
    parseElifs ctx (f+1) ts = some (.nil, ts) := by
  rw [parseElifs.eq_def]; simp only

theorem parseElifs_cons (ctx : Ctx) (f : Nat) (e : Expr) (b : Block) (more : Elifs) (r r1 r2 r3 : List Tok)
    (h1 : parseExpr ctx f r = some (e, r1)) (h2 : parseBlock ctx f r1 = some (b, r2))
    (h3 : parseElifs ctx f r2 = some (more, r3)) :
    parseElifs ctx (f+1) (kw elif_ :: r) = some (.cons e b more, r3) := by
  rw [parseElifs.eq_def]; simp only [h1, h2, h3]

theorem parseElse_none (ctx : Ctx) (f : Nat) (r : List Tok) :
    parseElse ctx (f+1) (endIf :: r) = some (.none, endIf :: r) := by
  rw [parseElse.eq_def]

theorem parseElse_some (ctx : Ctx) (f : Nat) (b : Block) (r r1 : List Tok)
    (h : parseBlock ctx f r = some (b, r1)) :
    parseElse ctx (f+1) (kw else_ :: r) = some (.some b, r1) := by
  rw [parseElse.eq_def]; simp only [h]

theorem tokOf_cards_back {card : String} (h : inTable cards card = true) :
    nameOf cards (tokOf cards card) = some card := tokOf_back cards_back h

theorem anyMany_inTable {card : String} (h : card = "any" ∨ card = "many") : inTable cards card = true := by
  rcases h with rfl | rfl <;> decide

mutual
  theorem stmtRT (ctx : Ctx) : ∀ (s : Stmt), wfStmt ctx s = true → ∀ rest f, szS s ≤ f →
      parseStmt ctx f (genStmt s ++ p semi :: rest) = some (s, p semi :: rest) := by
    intro s hw rest f hf
    cases s
    case ret v =>
      cases v with
      | none =>
        obtain ⟨g, rfl, _⟩ := succ_of_le (a := 0) (by simpa [szS] using hf)
        simp only [genStmt, List.cons_append, List.nil_append, parseStmt_ret_none]
      | some e =>
        obtain ⟨g, rfl, hg⟩ := succ_of_le (a := szE e) (by simpa [szS] using hf)
        simp only [genStmt, List.cons_append, List.nil_append]
        exact parseStmt_ret_some ctx g e _ _
          ((exprRT ctx e (by simpa [wfStmt] using hw)).1 _ g (Stops.cons rfl) hg)
    case invoke e =>
      simp only [wfStmt, Bool.and_eq_true] at hw
      obtain ⟨g, rfl, hg⟩ := succ_of_le (a := szE e) (by simpa [szS] using hf)
      have he := (exprRT ctx e hw.2).1 (p semi :: rest) g (Stops.cons rfl) hg
      cases e <;> simp only [isInvocation, Bool.false_eq_true, false_and] at hw
      case icall h n ps =>
        rw [genStmt]
        simp only [List.cons_append]
        exact parseStmt_transform ctx g h n ps _ _ he
      case call k a b c =>
        cases k <;> simp only [Bool.false_eq_true, false_and] at hw
        case func =>
          rw [genStmt_invoke_func]
          rw [genExpr] at he ⊢
          simp only [List.append_assoc, List.cons_append, List.nil_append] at he ⊢
          exact parseStmt_dcolon ctx g _ _ _ _ _ _ he
        case bridge =>
          have hb : resolve ctx a = .bridge ∧ wfParams ctx c = true := by simpa [wfExpr] using hw.2
          rw [genStmt, genExpr]
          simp only [List.append_assoc, List.cons_append, List.nil_append]
          exact parseStmt_bridge ctx g a b c _ _ (paramsRT ctx c hb.2 (p semi :: rest) g (by simp only [szE] at hg; omega))
        case classop =>
          rw [genStmt_invoke_classop]
          rw [genExpr] at he ⊢
          simp only [List.append_assoc, List.cons_append, List.nil_append] at he ⊢
          exact parseStmt_ns ctx g _ _ _ _ _ _ _ he
    case genPre e =>
      cases e <;> simp only [wfStmt, Bool.false_eq_true] at hw
      obtain ⟨g, rfl, hg⟩ := succ_of_le (by simpa [szS] using hf)
      refine parseStmt_genPre ctx g _ _ _ ?_ ((exprRT ctx _ rfl).1 _ g (Stops.cons rfl) hg)
      intro l m r' h; cases h
    all_goals try simp only [wfStmt, Bool.and_eq_true] at hw
    all_goals simp only [szS] at hf
    all_goals obtain ⟨g, rfl, -⟩ := succ_of_le (a := 0) (f := f) (by omega)
    all_goals simp only [genStmt, genEvtSpec, List.append_assoc, List.cons_append, List.nil_append]
    case assign l r =>
      exact parseStmt_assign ctx g l r _ _ _ ((exprRT ctx l hw.1).1 _ g (Stops.cons rfl) (by omega))
        ((exprRT ctx r hw.2).1 _ g (Stops.cons rfl) (by omega))
    case selFrom card v kl =>
      exact parseStmt_selFrom ctx g _ card v kl rest (tokOf_cards_back (anyMany_inTable (by simpa using hw)))
    case selFromW card v kl w =>
      exact parseStmt_selFromW ctx g _ card v kl w _ _ (tokOf_cards_back (anyMany_inTable (by simpa using hw.1)))
        ((exprRT ctx w hw.2).1 _ g (Stops.cons rfl) (by omega))
    case selRel card v h chain =>
      exact parseStmt_selRel ctx g _ card v h chain _ _ rest (tokOf_cards_back hw.1.1)
        ((exprRT ctx h hw.1.2).1 _ g (chain_stops hw.2 _) (by omega))
        (parseChain_genChain chain _ g (by intro r e; cases e) (by omega))
    case selRelW card v h chain w =>
      exact parseStmt_selRelW ctx g _ card v h w chain _ _ _ _ (tokOf_cards_back hw.1.1.1)
        ((exprRT ctx h hw.1.1.2).1 _ g (chain_stops hw.1.2 _) (by omega))
        (parseChain_genChain chain _ g (by intro r e; cases e) (by omega))
        ((exprRT ctx w hw.2).1 _ g (Stops.cons rfl) (by omega))
    case forEach v s b => exact parseStmt_forEach ctx g v s b _ _ (blockRT ctx b hw _ g rfl (by omega))
    case while_ e b =>
      exact parseStmt_while ctx g e b _ _ _
        ((exprRT ctx e hw.1).1 _ g (stops_block ctx b hw.2 _ (Stops.cons rfl)) (by omega))
        (blockRT ctx b hw.2 _ g rfl (by omega))
    case if_ e b el els =>
      exact parseStmt_if ctx g e b el els _ _ _ _ _
        ((exprRT ctx e hw.1.1.1).1 _ g (stops_block ctx b hw.1.1.2 _ (elifs_stops el (elseTail_stops els _))) (by omega))
        (blockRT ctx b hw.1.1.2 _ g (elifs_noStmt el (elseTail_noStmt els _)) (by omega))
        (elifsRT ctx el hw.1.2 _ g (elseTail_noElif els _) (elseTail_noStmt els _) (elseTail_stops els _) (by omega))
        (elseRT ctx els hw.2 _ g (by omega))
    case genEvt l m d tgt =>
      obtain ⟨mm, rfl⟩ := Option.isSome_iff_exists.mp hw.1.1
      simp only [List.append_assoc, List.cons_append, List.nil_append]
      exact parseStmt_genEvt ctx g l mm d tgt _ _ _ (paramsRT ctx d hw.1.2 _ g (by omega)) (parseTo_genTo tgt hw.2 rest)
    case createEvt v l m d tgt =>
      obtain ⟨mm, rfl⟩ := Option.isSome_iff_exists.mp hw.1.1
      simp only [List.append_assoc, List.cons_append, List.nil_append]
      exact parseStmt_createEvt ctx g v l mm d tgt _ _ _ (paramsRT ctx d hw.1.2 _ g (by omega))
        (parseTo_genTo tgt hw.2 rest)
    case brk | cont | ctl | create | createNV | delete | relate | relateU | unrelate | unrelateU =>
      simp only [parseStmt_brk, parseStmt_cont, parseStmt_ctl, parseStmt_create, parseStmt_createNV, parseStmt_delete,
        parseStmt_relate, parseStmt_relateU, parseStmt_unrelate, parseStmt_unrelateU]
  theorem blockRT (ctx : Ctx) : ∀ (b : Block), wfBlock ctx b = true → ∀ rest f, startsStmt rest = false →
      szB b ≤ f → parseBlock ctx f (genBlock b ++ rest) = some (b, rest)
    | .nil, _ => fun rest f hr hf => by
        obtain ⟨g, rfl, _⟩ := succ_of_le (a := 0) (by simpa [szB] using hf)
        simp only [genBlock, List.nil_append]
        exact parseBlock_nil ctx g rest hr
    | .cons s more, hw => fun rest f hr hf => by
        have hw' : wfStmt ctx s = true ∧ wfBlock ctx more = true := by simpa [wfBlock] using hw
        simp only [szB] at hf
        obtain ⟨g, rfl, hg⟩ := succ_of_le (a := szS s + szB more) (f := f) (by omega)
        obtain ⟨t, r, e, hs⟩ := genStmt_head ctx s hw'.1
        have h1 := stmtRT ctx s hw'.1 (genBlock more ++ rest) g (by omega)
        simp only [genBlock, List.append_assoc, List.cons_append, List.nil_append]
        refine parseBlock_cons ctx g s more _ _ rest ?_ h1 (blockRT ctx more hw'.2 rest g hr (by omega))
        rw [e]; simpa [startsStmt] using hs
  theorem elifsRT (ctx : Ctx) : ∀ (el : Elifs), wfElifs ctx el = true → ∀ rest f,
      (∀ r, rest ≠ kw elif_ :: r) → startsStmt rest = false → Stops rest → szEl el ≤ f →
      parseElifs ctx f (genElifs el ++ rest) = some (el, rest)
    | .nil, _ => fun rest f hne _ _ hf => by
        obtain ⟨g, rfl, _⟩ := succ_of_le (a := 0) (by simpa [szEl] using hf)
        simp only [genElifs, List.nil_append]
        exact parseElifs_nil ctx g rest hne
    | .cons e b more, hw => fun rest f hne hns hst hf => by
        have hw' : (wfExpr ctx e = true ∧ wfBlock ctx b = true) ∧ wfElifs ctx more = true := by
          simpa [wfElifs] using hw
        simp only [szEl] at hf
        obtain ⟨g, rfl, hg⟩ := succ_of_le (a := szE e + szB b + szEl more) (f := f) (by omega)
        simp only [genElifs, List.append_assoc, List.cons_append, List.nil_append]
        exact parseElifs_cons ctx g e b more _ _ _ _
          ((exprRT ctx e hw'.1.1).1 _ g (stops_block ctx b hw'.1.2 _ (elifs_stops more hst)) (by omega))
          (blockRT ctx b hw'.1.2 _ g (elifs_noStmt more hns) (by omega))
          (elifsRT ctx more hw'.2 rest g hne hns hst (by omega))
  theorem elseRT (ctx : Ctx) : ∀ (els : Else), wfElse ctx els = true → ∀ rest f, szElse els ≤ f →
      parseElse ctx f (genElse els ++ endIf :: rest) = some (els, endIf :: rest)
    | .none, _ => fun rest f hf => by
        obtain ⟨g, rfl, _⟩ := succ_of_le (a := 0) (by simpa [szElse] using hf)
        simp only [genElse, List.nil_append, parseElse_none]
    | .some b, hw => fun rest f hf => by
        have hw' : wfBlock ctx b = true := by simpa [wfElse] using hw
        obtain ⟨g, rfl, hg⟩ := succ_of_le (a := szB b) (by simpa [szElse] using hf)
        simp only [genElse, List.cons_append, List.nil_append]
        exact parseElse_some ctx g b _ _ (blockRT ctx b hw' _ g rfl hg)
end

end Pyx.Prebuild
