import Proofs.Reflexive

/-!
  C16: a listing of the chains in the set-order of their heads EXISTS for every duplicate-free set made up
  of whole chains (the hypothesis `hheads` of `sort_chains` can always be met by permuting the given chains).
-/
namespace Pyx.Reflexive
open Pyx.Meta

theorem exists_perm_filterMap_eq {α β : Type} [DecidableEq α] (f : α → Option β) :
    ∀ (hs : List β) (cs : List α), hs.Perm (cs.filterMap f) → ∃ cs' : List α, cs'.Perm cs ∧ cs'.filterMap f = hs
  | [], cs, h => ⟨cs, List.Perm.refl _, (List.perm_nil.mp h.symm)⟩
  | b :: hs, cs, h => by
    have hb : b ∈ cs.filterMap f := h.subset (by simp)
    obtain ⟨c, hc, hfc⟩ := List.mem_filterMap.mp hb
    have hp : cs.Perm (c :: cs.erase c) := List.perm_cons_erase hc
    have hp2 : (b :: hs).Perm (b :: (cs.erase c).filterMap f) := by
      have := h.trans (hp.filterMap f)
      simpa [List.filterMap_cons, hfc] using this
    obtain ⟨cs', hperm, heq⟩ := exists_perm_filterMap_eq f hs (cs.erase c) hp2.cons_inv
    refine ⟨c :: cs', (hperm.cons c).trans hp.symm, ?_⟩
    simp [hfc, heq]

theorem adj_tail_across {across back : Inst → Option Inst} : ∀ (c : List Inst), Adj (Succ across back) c →
    ∀ x ∈ c.tail, (across x).isSome
  | [], _, x, hx => by simp at hx
  | [_], _, x, hx => by simp at hx
  | a :: b :: rest, hadj, x, hx => by
    simp only [List.tail_cons, List.mem_cons] at hx
    rcases hx with rfl | hx
    · simp [hadj.1.2]
    · exact adj_tail_across (b :: rest) hadj.2 x (by simpa using hx)

theorem IsChain.none_iff_head {across back : Inst → Option Inst} {c : List Inst} (h : IsChain across back c)
    {x : Inst} (hx : x ∈ c) : across x = none ↔ c.head? = some x := by
  constructor
  · intro hn
    cases c with
    | nil => simp at hx
    | cons a l =>
      rcases List.mem_cons.mp hx with rfl | hl
      · rfl
      · have := adj_tail_across (a :: l) h.adj x (by simpa using hl)
        simp [hn] at this
  · exact h.head x

theorem heads_sublist_flatten : ∀ (cs : List (List Inst)), (cs.filterMap List.head?).Sublist cs.flatten
  | [] => by simp
  | [] :: cs => by
    simp only [List.filterMap_cons, List.head?_nil, List.flatten_cons, List.nil_append]
    exact heads_sublist_flatten cs
  | (a :: l) :: cs => by
    simp only [List.filterMap_cons, List.head?_cons, List.flatten_cons, List.cons_append]
    exact List.Sublist.cons_cons a ((heads_sublist_flatten cs).trans (List.sublist_append_right l _))

theorem firsts_perm_heads (across back : Inst → Option Inst) (set : List Inst) (chains : List (List Inst))
    (hset : set.Nodup) (hch : ∀ c ∈ chains, IsChain across back c) (hnd : chains.flatten.Nodup)
    (hmem : ∀ x, x ∈ set ↔ x ∈ chains.flatten) :
    (set.filter (fun x => (across x).isNone)).Perm (chains.filterMap List.head?) := by
  refine (List.perm_ext_iff_of_nodup (List.filter_sublist.nodup hset)
    ((heads_sublist_flatten chains).nodup hnd)).mpr ?_
  intro x
  simp only [List.mem_filter, List.mem_filterMap, Option.isNone_iff_eq_none]
  constructor
  · rintro ⟨hx, hn⟩
    obtain ⟨c, hc, hxc⟩ := List.mem_flatten.mp ((hmem x).1 hx)
    exact ⟨c, hc, ((hch c hc).none_iff_head hxc).1 hn⟩
  · rintro ⟨c, hc, hh⟩
    have hxc : x ∈ c := List.mem_of_mem_head? hh
    exact ⟨(hmem x).2 (List.mem_flatten.mpr ⟨c, hc, hxc⟩), (hch c hc).head x hh⟩

theorem chains_listing_exists (across back : Inst → Option Inst) (set : List Inst) (chains : List (List Inst))
    (hset : set.Nodup) (hch : ∀ c ∈ chains, IsChain across back c) (hnd : chains.flatten.Nodup)
    (hmem : ∀ x, x ∈ set ↔ x ∈ chains.flatten) :
    ∃ chains' : List (List Inst), chains'.Perm chains ∧
      set.filter (fun x => (across x).isNone) = chains'.filterMap List.head? := by
  obtain ⟨cs', hp, he⟩ := exists_perm_filterMap_eq List.head? _ chains
    (firsts_perm_heads across back set chains hset hch hnd hmem)
  exact ⟨cs', hp, he.symm⟩

end Pyx.Reflexive
