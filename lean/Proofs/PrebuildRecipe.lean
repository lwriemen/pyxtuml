import PyxModel.Prebuild.Recipe

/-!
  C06, the recipe table: of the schema only the associations with the recipe's class at an end matter to `conforms`, so
  `partnerCards` and `required` can be read off that short list (`near`) instead of the whole of `assocs`.
-/
namespace Pyx.Prebuild
open Pyx.Gen.OoaSchema

def near (cls : String) : List Assoc := assocs.filter fun a => a.src.cls == cls || a.tgt.cls == cls

theorem filterMap_filter_of {α β} {f : α → Option β} {p : α → Bool} (h : ∀ a, p a = false → f a = none) (l : List α) :
    (l.filter p).filterMap f = l.filterMap f := by
  rw [List.filterMap_filter]
  congr 1; funext a
  cases hp : p a
  · exact (h a hp).symm
  · rfl

theorem partnerCards_near (cls : String) (l : Nat × String) :
    partnerCards cls l = (near cls).filterMap fun a =>
      if a.rel == l.1 && a.src.cls == cls && a.tgt.cls == l.2 then some a.tgt.card
      else if a.rel == l.1 && a.tgt.cls == cls && a.src.cls == l.2 then some a.src.card
      else none :=
  (filterMap_filter_of (fun a h => by simp only [Bool.or_eq_false_iff] at h; simp [h.1, h.2]) assocs).symm

theorem required_near (cls : String) :
    required cls = (near cls).filterMap fun a =>
      if a.src.cls == cls && a.tgt.card == "1" then some (a.rel, a.tgt.cls)
      else if a.tgt.cls == cls && a.src.card == "1" then some (a.rel, a.src.cls)
      else none :=
  (filterMap_filter_of (fun a h => by simp only [Bool.or_eq_false_iff] at h; simp [h.1, h.2]) assocs).symm

end Pyx.Prebuild
