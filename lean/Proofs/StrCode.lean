/-!
  A string as a number, for tables of names that the kernel has to search: `s == t` is `code s == code t`.
-/
namespace Pyx.StrCode

/-- bytes as the digits 1..256 of a number in base 257, first byte lowest: there is no digit 0, so lists of different
    lengths get different numbers too -/
def digits : List UInt8 → Nat
  | [] => 0
  | c :: l => 257 * digits l + (c.toNat + 1)

theorem digits_inj : ∀ {l m : List UInt8}, digits l = digits m → l = m
  | [], [], _ => rfl
  | [], y :: m, h | x :: l, [], h => by simp only [digits] at h; omega
  | x :: l, y :: m, h => by
    have hx := x.toNat_lt
    have hy := y.toNat_lt
    simp only [digits] at h
    rw [digits_inj (l := l) (m := m) (by omega), UInt8.toNat_inj.mp (by omega : x.toNat = y.toNat)]

def code (s : String) : Nat := digits s.toByteArray.data.toList

theorem code_inj {s t : String} (h : code s = code t) : s = t :=
  String.toByteArray_inj.mp (ByteArray.ext (Array.toList_inj.mp (digits_inj h)))

/-- The kernel compares two numerals in one step; two string literals it unfolds to their bytes and compares byte by byte,
    at every comparison.  `code` of a literal is a closed term, evaluated once however often it is compared.  Rewriting with
    this equation needs `code` injective: reading the bytes in base 256 from 0 gives "\0a" and "a" the same number. -/
theorem beq_code (s t : String) : (s == t) = (code s == code t) := by
  by_cases h : s = t
  · rw [h, beq_self_eq_true, beq_self_eq_true]
  · rw [beq_false_of_ne h, beq_false_of_ne fun e => h (code_inj e)]

end Pyx.StrCode
