import Gen.InterpOps
import PyxModel.Interp.Ast

/-!
  The operator tables of `interpret.py` (regenerated into `Gen/InterpOps.lean` on every run) denote the
  operations `Spec` uses.

  `denoteBin` / `denoteUn` are the hand-written reading of the Python expressions that occur in the
  tables ("lhs + rhs" is addition / concatenation, "function divide" with the recorded body of `divide`
  is truncating division, "function modulo" with the recorded bodies of `modulo` AND `divide` is its remainder, …;
  a lambda `lhs % rhs` — Python's floor remainder — is NOT the remainder `Spec` uses and is not denoted).  A lambda that
  changes in the source changes the generated table, is then not (or differently) denoted, and the `decide` of
  `ops_table` (Props/C04.lean) fails.
-/
namespace Pyx.Interp
open Pyx.Gen.InterpOps

/-- the shape of `divide` this model was written against -/
def expectedDivide : String × List String × List String :=
  ("divide", ["lhs", "rhs"],
   ["is_int = lambda value: isinstance(value, int) and (not isinstance(value, bool))",
    "if is_int(lhs) and is_int(rhs):\n    quotient = abs(lhs) // abs(rhs)\n    if (lhs < 0) != (rhs < 0):\n        quotient = -quotient\n    return quotient",
    "return lhs / rhs"])

/-- the shape of `modulo` this model was written against (integers: `lhs - rhs * divide(lhs, rhs)`; anything else —
    no such operands are in the domain of C04 — Python's `%`) -/
def expectedModulo : String × List String × List String :=
  ("modulo", ["lhs", "rhs"],
   ["is_int = lambda value: isinstance(value, int) and (not isinstance(value, bool))",
    "if is_int(lhs) and is_int(rhs):\n    return lhs - rhs * divide(lhs, rhs)",
    "return lhs % rhs"])

def denoteBin (helpers : List (String × List String × List String)) (e : Entry) : Option BinOp :=
  if e.params = ["lhs", "rhs"] then
    match e.body with
    | "lhs + rhs" => some .add
    | "lhs - rhs" => some .sub
    | "lhs * rhs" => some .mul
    | "lhs < rhs" => some .lt
    | "lhs <= rhs" => some .le
    | "lhs > rhs" => some .gt
    | "lhs >= rhs" => some .ge
    | "lhs != rhs" => some .ne
    | "lhs == rhs" => some .eq
    | "lhs or rhs" => some .or
    | "lhs and rhs" => some .and
    | _ => none
  else if e.params = [] ∧ e.body = "function divide" ∧ helpers = [expectedDivide, expectedModulo] then some .div
  else if e.params = [] ∧ e.body = "function modulo" ∧ helpers = [expectedDivide, expectedModulo] then some .mod
  else none

def denoteUn (e : Entry) : Option UnOp :=
  if e.params = ["value"] then
    match e.lexeme, e.body with
    | _, "-value" => some .neg
    | _, "+value" => some .pos
    -- `not value` is boolean negation on a boolean and the emptiness test on a handle / instance set
    | "not", "not value" => some .not
    | "empty", "not value" => some .empty
    | _, "not not value" => some .notEmpty
    | _, "xtuml.cardinality(value)" => some .card
    | _, _ => none
  else none

/-- Python's `divide` on integers: `abs(lhs) // abs(rhs)`, negated when the signs differ (for `rhs = 0` Python raises
    ZeroDivisionError where this total function yields 0: it models `divide` for `rhs ≠ 0` only) -/
def pyDivide (x y : Int) : Int :=
  let q : Int := (x.natAbs / y.natAbs : Nat)
  if (decide (x < 0)) != (decide (y < 0)) then -q else q

theorem pyDivide_eq_tdiv (x y : Int) (_hy : y ≠ 0) : pyDivide x y = Int.tdiv x y := by
  unfold pyDivide
  cases x with
  | ofNat m =>
    cases y with
    | ofNat n =>
      simp [Int.tdiv]
      intro h
      exact absurd (by constructor <;> intro h' <;> omega) h
    | negSucc n =>
      have h2 : (Int.negSucc n < 0) := Int.negSucc_lt_zero n
      simp [h2, Int.tdiv, Int.natAbs]
  | negSucc m =>
    cases y with
    | ofNat n =>
      have h1 : (Int.negSucc m < 0) := Int.negSucc_lt_zero m
      simp [h1, Int.tdiv, Int.natAbs]
    | negSucc n =>
      have h1 : (Int.negSucc m < 0) := Int.negSucc_lt_zero m
      have h2 : (Int.negSucc n < 0) := Int.negSucc_lt_zero n
      simp [h1, h2, Int.tdiv, Int.natAbs]

/-- on non-negative operands every convention for `%` (Python's floor, C's truncation, Euclid) agrees -/
theorem mod_conventions_agree (x y : Int) (hx : 0 ≤ x) (hy : 0 < y) :
    x % y = Int.tmod x y ∧ x % y = Int.fmod x y := by
  constructor
  · exact (Int.tmod_eq_emod_of_nonneg hx).symm
  · exact (Int.fmod_eq_emod_of_nonneg x (Int.le_of_lt hy)).symm

/-- Python's `modulo` on integers: `lhs - rhs * divide(lhs, rhs)` (for `rhs = 0` Python raises ZeroDivisionError: the
    model is for `rhs ≠ 0`) -/
def pyModulo (x y : Int) : Int := x - y * pyDivide x y

theorem pyModulo_eq_tmod (x y : Int) (hy : y ≠ 0) : pyModulo x y = Int.tmod x y := by
  unfold pyModulo
  rw [pyDivide_eq_tdiv x y hy]
  have h := Int.tmod_add_mul_tdiv x y
  omega

/-- Python's `%` (floor) differs from the truncating remainder as soon as an operand is negative -/
theorem fmod_ne_tmod_witness : Int.fmod (-7) 2 = 1 ∧ Int.tmod (-7) 2 = -1 ∧ Int.fmod 7 (-2) = -1 ∧ Int.tmod 7 (-2) = 1 := by
  decide

end Pyx.Interp
