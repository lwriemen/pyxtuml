import Proofs.PbShape

/-!
  C06 source tie: the `accept_*` handlers of relate / unrelate (+ using), return with a value, while / if / elif / else and
  `selected` of the generated IR (`Pyx.Gen.PbShape`), run by the interpreter of Proofs/PbShape.lean, equal the clauses of
  `buildStmt` / `buildExpr` / `buildElifs` / `buildElse` of PyxModel/Prebuild/Flat.lean.  The compound statements come twice:
  for ANY oracles of the children (`while_eq`, `if_eq`, `elif_eq`, `else_eq`, `elif_list_eq`), then with the model's functions
  as the oracles (`…_model_eq`); with the handlers themselves as the oracles they follow in Proofs/PbShapeMore2.lean.
-/
namespace Pyx.PbShape
open Pyx.Prebuild Pyx.Prebuild.Flat Pyx.Gen.PbShape

/-- a failure flag set BEFORE a look-up is the same flag set after it (the model fails at `needVar`, the source at the
    asserting `relate` that comes later) -/
theorem lookupVar_fail (fc : FCtx) (n : String) (st : St) :
    lookupVar fc n st.fail = ((lookupVar fc n st).1, (lookupVar fc n st).2.fail) := by
  obtain ⟨pop, scopes, ok⟩ := st
  unfold lookupVar
  simp only [St.fail]
  split
  · rfl
  · split
    · rfl
    · split
      · split
        · simp [newVar, St.new, St.guard, St.fail]
          split <;> simp
        · rfl
      · rfl

theorem lookupVar_ok (fc : FCtx) (n : String) (st : St) (c : Bool) :
    lookupVar fc n { st with ok := st.ok && c }
      = ((lookupVar fc n st).1, { (lookupVar fc n st).2 with ok := (lookupVar fc n st).2.ok && c }) := by
  cases c
  · simpa [St.fail] using lookupVar_fail fc n st
  · simp

theorem VarAns.of_eq {r : Option Nat × St} {v : Nat} {nm : String} {b : Nat} (h : r.1 = some v)
    (hv : r.2.pop[v]? = some (.var nm b)) : VarAns r := by
  intro w hw
  rw [h] at hw
  cases hw
  exact ⟨nm, b, hv⟩

theorem VarAns.of_none {r : Option Nat × St} (h : r.1 = none) : VarAns r := by
  intro w hw
  rw [h] at hw
  cases hw

section Relate
variable (fc : FCtx) (nd : Node) (g : G) (n : Nat) (a b r ph u : String) (hb : BlkOK g.st)
    (ha : nd.strs.lookup "from_variable_name" = some a) (hbn : nd.strs.lookup "to_variable_name" = some b)
    (hun : nd.strs.lookup "using_variable_name" = some u)
    (hr : nd.strs.lookup "rel_id" = some r) (hph : nd.strs.lookup "phrase" = some ph)
    (hva : VarAns (lookupVar fc a (newSmt none g.st).2))
    (hvb : VarAns (lookupVar fc b (lookupVar fc a (newSmt none g.st).2).2))
    (hvc : VarAns (lookupVar fc u (lookupVar fc b (lookupVar fc a (newSmt none g.st).2).2).2))
include hb ha hbn hr hph hva hvb

theorem relate_eq :
    callFn (mkEnv fc nd) (n + 20) accept_RelateNode [.node] [] g
      = some (.inst (buildStmt fc none (.relate a b r ph) g.st).1,
              { g with st := (buildStmt fc none (.relate a b r ph) g.st).2 }) := by
  have e2 := Ext.lookupVar fc b (lookupVar fc a (newSmt none g.st).2).2
  have hs := ((Ext.lookupVar fc a (newSmt none g.st).2).trans e2).get (newSmt_row g.st)
  have h615 := hva.partner e2 615 fun _ _ => rfl
  have h616 := hvb.partner (Ext.refl _) 616 fun _ _ => rfl
  simp only [pb, accept_RelateNode, hb, ha, hbn, hr, hph, hs, h615, h616, buildStmt, needVar_eq, lookupVar_ok, Bool.and_assoc,
    St.new]

theorem unrelate_eq :
    callFn (mkEnv fc nd) (n + 20) accept_UnrelateNode [.node] [] g
      = some (.inst (buildStmt fc none (.unrelate a b r ph) g.st).1,
              { g with st := (buildStmt fc none (.unrelate a b r ph) g.st).2 }) := by
  have e2 := Ext.lookupVar fc b (lookupVar fc a (newSmt none g.st).2).2
  have hs := ((Ext.lookupVar fc a (newSmt none g.st).2).trans e2).get (newSmt_row g.st)
  have h620 := hva.partner e2 620 fun _ _ => rfl
  have h621 := hvb.partner (Ext.refl _) 621 fun _ _ => rfl
  simp only [pb, accept_UnrelateNode, hb, ha, hbn, hr, hph, hs, h620, h621, buildStmt, needVar_eq, lookupVar_ok, Bool.and_assoc,
    St.new]

include hun hvc

theorem relate_using_eq :
    callFn (mkEnv fc nd) (n + 20) accept_RelateUsingNode [.node] [] g
      = some (.inst (buildStmt fc none (.relateU a b r ph u) g.st).1,
              { g with st := (buildStmt fc none (.relateU a b r ph u) g.st).2 }) := by
  have e2 := Ext.lookupVar fc b (lookupVar fc a (newSmt none g.st).2).2
  have e3 := Ext.lookupVar fc u (lookupVar fc b (lookupVar fc a (newSmt none g.st).2).2).2
  have hs := ((Ext.lookupVar fc a (newSmt none g.st).2).trans (e2.trans e3)).get (newSmt_row g.st)
  have h617 := hva.partner (e2.trans e3) 617 fun _ _ => rfl
  have h618 := hvb.partner e3 618 fun _ _ => rfl
  have h619 := hvc.partner (Ext.refl _) 619 fun _ _ => rfl
  simp only [pb, accept_RelateUsingNode, hb, ha, hbn, hun, hr, hph, hs, h617, h618, h619, buildStmt, needVar_eq, lookupVar_ok,
    Bool.and_assoc, St.new]

theorem unrelate_using_eq :
    callFn (mkEnv fc nd) (n + 20) accept_UnrelateUsingNode [.node] [] g
      = some (.inst (buildStmt fc none (.unrelateU a b r ph u) g.st).1,
              { g with st := (buildStmt fc none (.unrelateU a b r ph u) g.st).2 }) := by
  have e2 := Ext.lookupVar fc b (lookupVar fc a (newSmt none g.st).2).2
  have e3 := Ext.lookupVar fc u (lookupVar fc b (lookupVar fc a (newSmt none g.st).2).2).2
  have hs := ((Ext.lookupVar fc a (newSmt none g.st).2).trans (e2.trans e3)).get (newSmt_row g.st)
  have h622 := hva.partner (e2.trans e3) 622 fun _ _ => rfl
  have h623 := hvb.partner e3 623 fun _ _ => rfl
  have h624 := hvc.partner (Ext.refl _) 624 fun _ _ => rfl
  simp only [pb, accept_UnrelateUsingNode, hb, ha, hbn, hun, hr, hph, hs, h622, h623, h624, buildStmt, needVar_eq, lookupVar_ok,
    Bool.and_assoc, St.new]

end Relate

theorem return_value_eq (fc : FCtx) (nd : Node) (g g1 : G) (n v b : Nat) (acc : Acc) (d : List Row) (hb : BlkOK g.st)
    (hk : nd.kids.lookup "expression" = some acc)
    (ha : acc [] { g with st := ((newSmt none g.st).2.new (.ret 0 none)).2 } = (.inst v, g1))
    (hext : g1.st.pop = ((newSmt none g.st).2.new (.ret 0 none)).2.pop ++ d)
    (hv : g1.st.pop[v]? = some (.val b)) :
    callFn (mkEnv fc nd) (n + 20) accept_ReturnNode [.node] [] g
      = some (.inst (newSmt none g.st).1,
              { g1 with st := { g1.st with pop := g1.st.pop.set ((newSmt none g.st).1 + 1)
                                                  (.ret (newSmt none g.st).1 (some v)) } }) := by
  simp only [St.new] at ha hext
  have hlen : (newSmt none g.st).2.pop.length = (newSmt none g.st).1 + 1 := by simp [newSmt, St.new]
  -- ACT_RET is created BEFORE the value is accepted: R668 rewrites it in the middle of the population the oracle leaves (the
  -- row after the ACT_SMT), where `hext` (the oracle only appends) locates it
  have hs : g1.st.pop[(newSmt none g.st).1]? = some (.smt (curBlkD g.st.scopes) none) := by simp only [hext, pb]
  have hr : g1.st.pop[(newSmt none g.st).1 + 1]? = some (.ret 0 none) := by simp only [hext, ← hlen, pb]
  have hne : (newSmt none g.st).1 + 1 ≠ v := by
    intro h; rw [← h, hr] at hv; cases hv
  simp only [pb, accept_ReturnNode, hb, kid, hk, ha, hlen, hs, hr, hv, List.getElem?_set_self (getElem?_lt hr),
    List.getElem?_set_ne hne, List.set_set]

theorem else_eq (fc : FCtx) (nd : Node) (g g1 : G) (n k i si bi vi : Nat) (bb : Nat) (pp : Option Nat) (o : Bool) (accB : Acc)
    (hb : BlkOK g.st) (hkB : nd.kids.lookup "block" = some accB)
    (haB : accB [] { g with st := (newSmt none g.st).2 } = (.inst k, g1))
    (hs : g1.st.pop[(newSmt none g.st).1]? = some (.smt bb pp))
    (hk : g1.st.pop[k]? = some (.blk o)) (hi : g1.st.pop[i]? = some (.if_ si bi vi)) :
    callFn (mkEnv fc nd) (n + 20) accept_ElseNode [.node] [("act_if", .inst i)] g
      = some (.inst (newSmt none g.st).1, { g1 with st := (g1.st.new (.e (newSmt none g.st).1 k si)).2 }) := by
  simp only [pb, accept_ElseNode, hb, kid, hkB, haB, hs, hk, hi, St.new]

section Compound
variable (fc : FCtx) (nd : Node) (g g1 g2 : G) (n v k b i si bi vi bb : Nat) (pp : Option Nat) (o : Bool) (accE accB : Acc)
    (hb : BlkOK g.st)
    (hkE : nd.kids.lookup "expression" = some accE) (hkB : nd.kids.lookup "block" = some accB)
    (haE : accE [] { g with st := (newSmt none g.st).2 } = (.inst v, g1)) (haB : accB [] g1 = (.inst k, g2))
    (hs : g2.st.pop[(newSmt none g.st).1]? = some (.smt bb pp))
    (hv : g2.st.pop[v]? = some (.val b)) (hk : g2.st.pop[k]? = some (.blk o)) (hi : g2.st.pop[i]? = some (.if_ si bi vi))
include hb hkE hkB haE haB hs hv hk

theorem while_eq :
    callFn (mkEnv fc nd) (n + 20) accept_WhileNode [.node] [] g
      = some (.inst (newSmt none g.st).1, { g2 with st := (g2.st.new (.whl (newSmt none g.st).1 k v)).2 }) := by
  simp only [pb, accept_WhileNode, hb, kid, hkE, hkB, haE, haB, hs, hv, hk, St.new]

theorem if_eq :
    callFn (mkEnv fc nd) (n + 20) accept_IfNode [.node] [] g
      = some (.inst (newSmt none g.st).1,
              (kid nd "else_clause" [("act_if", .inst g2.st.pop.length)]
                (kid nd "elif_list" [("act_if", .inst g2.st.pop.length)]
                  { g2 with st := (g2.st.new (.if_ (newSmt none g.st).1 k v)).2 }).2).2) := by
  have hE : kid nd "expression" = accE := by simp only [kid, hkE]
  have hB : kid nd "block" = accB := by simp only [kid, hkB]
  simp only [pb, accept_IfNode, hb, hE, hB, haE, haB, hs, hv, hk, St.new]

include hi in
theorem elif_eq :
    callFn (mkEnv fc nd) (n + 20) accept_ElIfNode [.node] [("act_if", .inst i)] g
      = some (.inst (newSmt none g.st).1, { g2 with st := (g2.st.new (.el (newSmt none g.st).1 k v si)).2 }) := by
  simp only [pb, accept_ElIfNode, hb, kid, hkE, hkB, haE, haB, hs, hv, hk, hi, St.new]

end Compound

theorem selected_eq (fc : FCtx) (nd : Node) (g : G) (n : Nat) (hb : BlkOK g.st) :
    callFn (mkEnv fc nd) (n + 20) accept_SelectedAccessNode [.node] [] g
      = some (.inst (buildExpr fc .selected g.st).1,
              { g with st := (buildExpr fc .selected g.st).2,
                       tys := ((buildExpr fc .selected g.st).1, "inst_ref<Object>") :: g.tys }) := by
  simp only [pb, accept_SelectedAccessNode, hb, buildExpr, St.new]

def foldAcc (kw : Kw) : List Acc → G → G
  | [], g => g
  | a :: rest, g => foldAcc kw rest (a kw g).2

def elifListBody : List S := [ .expr (.accept (.loc "child") [("act_if", (.loc "act_if"))]) ]

theorem elif_loop (fc : FCtx) (nd : Node) (a : V) : ∀ (accs : List Acc) (s m : Nat) (g : G) (fr : Fr),
    fr.get "act_if" = a → nd.children.drop s = accs →
    ∃ fr', loop (mkEnv fc nd) (accs.length + m + 4) g fr "child" elifListBody (List.range' s accs.length)
        = some (.next fr', foldAcc [("act_if", a)] accs g)
  | [], s, m, g, fr, _, _ => ⟨fr, rfl⟩
  | acc :: accs, s, m, g, fr, hfr, hd => by
    -- the induction is on the rest of the children, with the offset `s`: `children.drop s = acc :: accs` makes `children[s]?`,
    -- which the loop body reads, the head
    have h0 : nd.children[s]? = some acc := by
      have h := List.getElem?_drop (xs := nd.children) (i := s) (j := 0)
      rwa [hd, Nat.add_zero, eq_comm] at h
    have hfr' : (fr.set "child" (.child s)).get "act_if" = a := by simp only [pb, hfr]
    obtain ⟨fr', hloop⟩ := elif_loop fc nd a accs (s + 1) m (acc [("act_if", a)] g).2 _ hfr'
      (by rw [← List.drop_drop, hd]; rfl)
    refine ⟨fr', ?_⟩
    have hx : exec (mkEnv fc nd) (accs.length + m + 4) g (fr.set "child" (.child s)) elifListBody
        = some (.next (fr.set "child" (.child s)), (acc [("act_if", a)] g).2) := by
      simp only [pb, elifListBody, h0, hfr']
    rw [List.length_cons, List.range'_succ, Nat.add_right_comm _ 1, Nat.add_right_comm _ 1, loop, hx]
    exact hloop

theorem elif_list_eq (fc : FCtx) (nd : Node) (g : G) (n : Nat) (a : V) :
    callFn (mkEnv fc nd) (nd.children.length + n + 5) accept_ElIfListNode [.node] [("act_if", a)] g
      = some (.none, foldAcc [("act_if", a)] nd.children g) := by
  obtain ⟨fr', hloop⟩ := elif_loop fc nd a nd.children 0 n g ((({} : Fr).set "act_if" a).set "node" .node)
    (by simp only [pb]) rfl
  simp only [elifListBody] at hloop
  simp only [pb, accept_ElIfListNode, List.range_eq_range', hloop]

def exprAcc (fc : FCtx) (e : Expr) : Acc := fun _ g => let r := buildExpr fc e g.st; (.inst r.1, { g with st := r.2 })
/-- the oracle of a block child: Flat.lean's `withBlock … (buildStmts fc none b)` (= accept_BlockNode, `block_eq`) -/
def blockAcc (fc : FCtx) (b : Block) : Acc :=
  fun _ g => let r := withBlock g.st (buildStmts fc none b); (.inst r.1, { g with st := r.2 })

/-- the state after the condition / after the block of `while e b`, `if e b …`, `elif e b` begun in `st` -/
def condOf (fc : FCtx) (e : Expr) (st : St) : Nat × St := buildExpr fc e (newSmt none st).2
def blockOf (fc : FCtx) (e : Expr) (b : Block) (st : St) : Nat × St := withBlock (condOf fc e st).2 (buildStmts fc none b)

theorem else_model_eq (fc : FCtx) (nd : Node) (g : G) (n i si bi vi : Nat) (b : Block) (bb : Nat) (pp : Option Nat)
    (o : Bool) (hb : BlkOK g.st) (hkB : nd.kids.lookup "block" = some (blockAcc fc b))
    (hs : (withBlock (newSmt none g.st).2 (buildStmts fc none b)).2.pop[(newSmt none g.st).1]? = some (.smt bb pp))
    (hk : (withBlock (newSmt none g.st).2 (buildStmts fc none b)).2.pop[(withBlock (newSmt none g.st).2 (buildStmts fc none b)).1]?
      = some (.blk o))
    (hi : (withBlock (newSmt none g.st).2 (buildStmts fc none b)).2.pop[i]? = some (.if_ si bi vi)) :
    callFn (mkEnv fc nd) (n + 20) accept_ElseNode [.node] [("act_if", .inst i)] g
      = some (.inst (newSmt none g.st).1, { g with st := buildElse fc si (.some b) g.st }) := by
  rw [else_eq fc nd g { g with st := (withBlock (newSmt none g.st).2 (buildStmts fc none b)).2 } n
    (withBlock (newSmt none g.st).2 (buildStmts fc none b)).1 i si bi vi bb pp o (blockAcc fc b) hb hkB rfl hs hk hi]
  simp [buildElse]

section Model
variable (fc : FCtx) (nd : Node) (g : G) (n i si bi vi : Nat) (e : Expr) (b : Block) (elifs : Elifs) (els : Else)
    (bb bv : Nat) (pp : Option Nat) (o : Bool) (hb : BlkOK g.st)
    (hkE : nd.kids.lookup "expression" = some (exprAcc fc e)) (hkB : nd.kids.lookup "block" = some (blockAcc fc b))
    (hs : (blockOf fc e b g.st).2.pop[(newSmt none g.st).1]? = some (.smt bb pp))
    (hv : (blockOf fc e b g.st).2.pop[(condOf fc e g.st).1]? = some (.val bv))
    (hk : (blockOf fc e b g.st).2.pop[(blockOf fc e b g.st).1]? = some (.blk o))
    (hi : (blockOf fc e b g.st).2.pop[i]? = some (.if_ si bi vi))
include hb hkE hkB hs hv hk

theorem while_model_eq :
    callFn (mkEnv fc nd) (n + 20) accept_WhileNode [.node] [] g
      = some (.inst (buildStmt fc none (.while_ e b) g.st).1, { g with st := (buildStmt fc none (.while_ e b) g.st).2 }) := by
  rw [while_eq fc nd g { g with st := (condOf fc e g.st).2 } { g with st := (blockOf fc e b g.st).2 } n (condOf fc e g.st).1
    (blockOf fc e b g.st).1 bv bb pp o (exprAcc fc e) (blockAcc fc b) hb hkE hkB rfl rfl hs hv hk]
  simp [buildStmt, condOf, blockOf]

include hi in
theorem elif_model_eq :
    callFn (mkEnv fc nd) (n + 20) accept_ElIfNode [.node] [("act_if", .inst i)] g
      = some (.inst (newSmt none g.st).1, { g with st := buildElifs fc si (.cons e b .nil) g.st }) := by
  rw [elif_eq fc nd g { g with st := (condOf fc e g.st).2 } { g with st := (blockOf fc e b g.st).2 } n (condOf fc e g.st).1
    (blockOf fc e b g.st).1 bv i si bi vi bb pp o (exprAcc fc e) (blockAcc fc b) hb hkE hkB rfl rfl hs hv hk hi]
  simp [buildElifs, condOf, blockOf]

theorem if_model_eq
    (hEl : ∀ st, (kid nd "elif_list" [("act_if", .inst (blockOf fc e b g.st).2.pop.length)] { g with st := st }).2
        = { g with st := buildElifs fc (newSmt none g.st).1 elifs st })
    (hE : ∀ st, (kid nd "else_clause" [("act_if", .inst (blockOf fc e b g.st).2.pop.length)] { g with st := st }).2
        = { g with st := buildElse fc (newSmt none g.st).1 els st }) :
    callFn (mkEnv fc nd) (n + 20) accept_IfNode [.node] [] g
      = some (.inst (buildStmt fc none (.if_ e b elifs els) g.st).1,
              { g with st := (buildStmt fc none (.if_ e b elifs els) g.st).2 }) := by
  rw [if_eq fc nd g { g with st := (condOf fc e g.st).2 } { g with st := (blockOf fc e b g.st).2 } n (condOf fc e g.st).1
    (blockOf fc e b g.st).1 bv bb pp o (exprAcc fc e) (blockAcc fc b) hb hkE hkB rfl rfl hs hv hk]
  simp only [hEl, hE]
  simp [buildStmt, condOf, blockOf]

end Model

end Pyx.PbShape
