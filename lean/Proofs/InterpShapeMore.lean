import Proofs.InterpShape

/-!
  C04 source tie, continued: the generator `accept_NavigationListNode`, `accept_RealNode`, and relate / unrelate (+ using) as
  EXACT equations (error text included) under `HoldsInst` hypotheses on the variables whose lookups the source and `Spec`
  do in different orders.
-/
namespace Pyx.IShape
open Pyx.Interp Pyx.Interp.M Pyx.Gen.InterpShape

/-- a generator handler run to exhaustion: the objects it yields, in order.  (Python runs the generator lazily, interleaved with
    the consumer's loop body; the equation below shows that it delivers `pure …`: it touches nothing, so the interleaving cannot
    be observed.) -/
def sigG (L : Locals) : Sig → M (List PV)
  | .next => pure (yielded L)
  | .exc _ => fail "a control exception left the generator"
  | _ => fail "return / break / continue at the top of a generator"

def handlerG (C : Ctx) (nd : Node) (body : List PyStmt) : M (List PV) := do
  let r ← iStmts C nd body []
  sigG r.1 r.2

def stepOf : PV → M NavStep
  | .step s => pure s
  | _ => fail "the handler of a navigation step did not return a step closure"

/-- a NavigationStepNode as the parser delivers it: key letter, rel id, phrase WITH its ticks -/
abbrev RawStep := String × String × String

def decodeStep (r : RawStep) : NavStep := ⟨r.1, r.2.1, stripTicks r.2.2⟩

/-- `self.accept(child)` for a child that is a NavigationStepNode: the interpreted accept_NavigationStepNode -/
def stepChild (C : Ctx) (r : RawStep) : M NavStep :=
  handlerP C (strNode [("key_letter", r.1), ("rel_id", r.2.1), ("phrase", r.2.2)]) accept_NavigationStepNode >>= stepOf

def navListNode (C : Ctx) (raws : List RawStep) : Node := { pchildren := raws.map (stepChild C) }
theorem stepChild_eq (C : Ctx) (r : RawStep) : stepChild C r = pure (decodeStep r) := by
  simp only [stepChild, navigationStep_eq, pure_bnd, stepOf, decodeStep]

theorem yield_loop (C : Ctx) (body : M NavStep → Locals → M (Locals × Sig))
    (hb : ∀ r L, body (stepChild C r) L =
      pure ((L.set "child" (.pchild (stepChild C r))).set "$yield" (.list (yielded L ++ [.step (decodeStep r)])), .next)) :
    ∀ (raws : List RawStep) (L : Locals),
    ∃ L', iLoop body (raws.map (stepChild C)) L = pure (L', .next) ∧
      yielded L' = yielded L ++ raws.map (fun r => PV.step (decodeStep r))
  | [], L => ⟨L, rfl, by simp⟩
  | r :: rest, L => by
    obtain ⟨L', h1, h2⟩ := yield_loop C body hb rest
      ((L.set "child" (.pchild (stepChild C r))).set "$yield" (.list (yielded L ++ [.step (decodeStep r)])))
    refine ⟨L', ?_, ?_⟩
    · rw [← h1]
      simp only [List.map, iLoop, hb, pure_bnd]
    · rw [h2]
      simp only [yielded, get_set_eq, List.map, List.append_assoc, List.singleton_append]

theorem navigationList_eq (C : Ctx) (raws : List RawStep) :
    handlerG C (navListNode C raws) accept_NavigationListNode = pure (raws.map (fun r => PV.step (decodeStep r))) := by
  -- `forChildren` reads `pchildren` only when it is not empty (else `children`): hence the split
  cases raws with
  | nil => rfl
  | cons r rest =>
    obtain ⟨L', h1, h2⟩ := yield_loop C
      (fun m L' => iStmts C (navListNode C (r :: rest)) [.yield_ (.acceptLocal "child")] (L'.set "child" (.pchild m)))
      (fun r L => by simp only [ishape, BEq.rfl, stepChild_eq, yielded, String.reduceBEq]) (r :: rest) []
    simp only [handlerG, accept_NavigationListNode, iStmts_cons, iStmt, navListNode, List.map] at h1 ⊢
    simp only [h1, pure_bnd, thenSig_next, iStmts_nil, sigG, h2]
    rfl

/-- accept_RealNode is `float(node.value)`: outside the modelled subset (no real values in `Val`); the interpretation says so -/
theorem real_eq (C : Ctx) (nd : Node) : handlerE C nd accept_RealNode = fail "reals are not modelled" := rfl

theorem relate_exact (C : Ctx) (rec : Oracle) (a b rel ph : String) (c : Cfg)
    (h : (∃ e, lookupVar C b c = some (.error e)) → HoldsInst C c a) :
    execStep C rec (.relate a b rel (stripTicks ph)) c = handlerS C (relNode a b rel ph "") accept_RelateNode c :=
  (relate_agree C rec a b rel ph c).eq fun hD => hD.1 (h hD.2)

theorem unrelate_exact (C : Ctx) (rec : Oracle) (a b rel ph : String) (c : Cfg)
    (h : (∃ e, lookupVar C b c = some (.error e)) → HoldsInst C c a) :
    execStep C rec (.unrelate a b rel (stripTicks ph)) c = handlerS C (relNode a b rel ph "") accept_UnrelateNode c :=
  (unrelate_agree C rec a b rel ph c).eq fun hD => hD.1 (h hD.2)

theorem relateUsing_exact (C : Ctx) (rec : Oracle) (a b rel ph u : String) (c : Cfg)
    (ha : ((∃ e, lookupVar C b c = some (.error e)) ∨ (∃ e, lookupVar C u c = some (.error e))) → HoldsInst C c a)
    (hb : HoldsInst C c b) :
    execStep C rec (.relateUsing a b rel (stripTicks ph) u) c = handlerS C (relNode a b rel ph u) accept_RelateUsingNode c :=
  (relateUsing_agree C rec a b rel ph u c).eq fun hD => hD.elim (fun h => h.1 (ha h.2)) fun h => h hb

theorem unrelateUsing_exact (C : Ctx) (rec : Oracle) (a b rel ph u : String) (c : Cfg)
    (ha : ((∃ e, lookupVar C b c = some (.error e)) ∨ (∃ e, lookupVar C u c = some (.error e))) → HoldsInst C c a)
    (hb : HoldsInst C c b) :
    execStep C rec (.unrelateUsing a b rel (stripTicks ph) u) c = handlerS C (relNode a b rel ph u) accept_UnrelateUsingNode c :=
  (unrelateUsing_agree C rec a b rel ph u c).eq fun hD => hD.elim (fun h => h.1 (ha h.2)) fun h => h hb

end Pyx.IShape
