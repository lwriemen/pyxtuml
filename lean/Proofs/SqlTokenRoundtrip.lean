import Proofs.SqlParserTotal
import Proofs.SqlParser
import PyxModel.Sql.Printer

/-! token level: parsing the token list of printed items gives back their statements -/
namespace Pyx.Sql
open Gen.SqlLex (Rule Kw)
open Gen.Persist (Ty)

def cardToks (u : UC) (many cond : Bool) : List Tok :=
  match many, cond with
  | false, false => [⟨.NUMBER, ['1']⟩]
  | false, true => [⟨.CARDINALITY, ['1', 'C']⟩]
  | true, false => [wordTok u ['M']]
  | true, true => [wordTok u ['M', 'C']]

def phraseToks (phrase : Text) : List Tok :=
  if phrase.isEmpty then [] else [kwTok .PHRASE, ⟨.STRING, strText phrase⟩]

def endToks (u : UC) (e : EndM) : List Tok :=
  cardToks u e.many e.cond ++ wordTok u e.kind :: lparenTok ::
    (sepToks (e.keys.map fun n => [wordTok u n]) ++ rparenTok :: phraseToks e.phrase)

/-- text and tokens of the cells of one row -/
def rowCells (u : UC) : List (Name × Name) → List (Option Val) → Option (List (Text × List Tok))
  | [], _ => some []
  | _ :: _, [] => none
  | (_, ty) :: attrs, v :: vs =>
    match cellToks u ty v, rowCells u attrs vs with
    | some c, some cs => some (c :: cs)
    | _, _ => none

/-- the token list a printed item is lexed to -/
def Item.toks (u : UC) : Item → Option (List Tok)
  | .cls kind attrs =>
    some (kwTok .CREATE :: kwTok .TABLE :: wordTok u kind :: lparenTok ::
      (sepToks (attrs.map fun a => [wordTok u a.1, wordTok u (u.upper a.2)]) ++ [rparenTok, semiTok]))
  | .assoc rel s t =>
    some (kwTok .CREATE :: kwTok .ROP :: kwTok .REF_ID :: ⟨.RELID, rel⟩ :: kwTok .FROM ::
      (endToks u s ++ kwTok .TO :: (endToks u t ++ [semiTok])))
  | .inst kind attrs vals =>
    match rowCells u attrs vals with
    | some cells =>
      some (kwTok .INSERT :: kwTok .INTO :: wordTok u kind :: kwTok .VALUES :: lparenTok ::
        (sepToks (cells.map fun c => c.2) ++ [rparenTok, semiTok]))
    | none => none
  | .index name kind attrs =>
    some (kwTok .CREATE :: kwTok .UNIQUE :: kwTok .INDEX :: wordTok u name :: kwTok .ON :: wordTok u kind :: lparenTok ::
      (sepToks (attrs.map fun n => [wordTok u n]) ++ [rparenTok, semiTok]))

theorem cellToks_text (u : UC) (ty : Name) (v : Option Val) (c : Text × List Tok) (h : cellToks u ty v = some c) :
    cellText u ty v = some c.1 := by
  unfold cellToks at h
  unfold cellText
  split at h
  · simp at h
  · rename_i t ht
    rw [ht]
    simp only [printValue_eq]
    split at h
    · simp at h
    · rename_i x hx
      rw [hx]
      split at h
      · rename_i txt ts hf hv
        simp only [Option.some.injEq] at h; subst h
        simpa using hf
      · simp at h

theorem rowCells_spec (u : UC) : ∀ (attrs : List (Name × Name)) (vals : List (Option Val)) (cells : List (Text × List Tok)),
    rowCells u attrs vals = some cells →
      cells.length = attrs.length ∧ rowTexts u attrs vals = some (cells.map fun c => c.1) ∧
      ∀ c ∈ cells, ∀ r, valueAt (c.2 ++ r) = some (c.1, r) := by
  intro attrs
  induction attrs with
  | nil => intro vals cells h; simp [rowCells] at h; subst h; simp [rowTexts]
  | cons a attrs ih =>
    intro vals cells h
    cases vals with
    | nil => simp [rowCells] at h
    | cons v vs =>
      obtain ⟨nm, ty⟩ := a
      simp only [rowCells] at h
      split at h
      · rename_i c cs hc hcs
        simp only [Option.some.injEq] at h; subst h
        obtain ⟨h1, h2, h3⟩ := ih vs cs hcs
        refine ⟨by simp [h1], by simp only [rowTexts, cellToks_text u ty v c hc, h2, List.map_cons], fun c' hc' r => ?_⟩
        rcases List.mem_cons.mp hc' with rfl | hc'
        · exact cellToks_valueAt u ty v c'.1 c'.2 hc r
        · exact h3 c' hc' r
      · simp at h

theorem rowCells_length (u : UC) : ∀ (attrs : List (Name × Name)) (vals : List (Option Val)) (cells : List (Text × List Tok)),
    rowCells u attrs vals = some cells → cells.length = attrs.length :=
  fun attrs vals cells h => (rowCells_spec u attrs vals cells h).1

theorem valueSeq_roundtrip (cells : List (Text × List Tok)) (hc : ∀ c ∈ cells, ∀ r, valueAt (c.2 ++ r) = some (c.1, r))
    (rest : List Tok) :
    seqP valueAt (sepToks (cells.map fun c => c.2) ++ rparenTok :: rest) = some (cells.map (fun c => c.1), rparenTok :: rest) :=
  seqP_roundtrip (α := Text × List Tok) valueAt (·.2) (·.1) valueAt_rparen cells hc rest

theorem cardAt_cardToks (u : UC) (many cond : Bool) (r : List Tok) :
    cardAt (cardToks u many cond ++ r) = some (cardText many cond, r) := by
  have hM : wordTok u ['M'] = ⟨.ID, ['M']⟩ := by rw [wordTok, mkTok_ID, u.upper_eq_self (by decide)]; rfl
  have hMC : wordTok u ['M', 'C'] = ⟨.ID, ['M', 'C']⟩ := by rw [wordTok, mkTok_ID, u.upper_eq_self (by decide)]; rfl
  cases many <;> cases cond <;> simp [cardToks, cardAt, cardText, hM, hMC]

theorem stripEnds_phrase (p : Text) : unescapeQ (stripEnds (strText p)) = p := by
  rw [strText, stripEnds_quoted, unescapeQ_escapeQ]

theorem endAt_roundtrip (u : UC) (e : EndM) (next : Tok) (rest : List Tok)
    (hnext : next.kind ≠ .kw .PHRASE) :
    endAt (endToks u e ++ next :: rest) = some (⟨e.kind, cardText e.many e.cond, e.keys, e.phrase⟩, next :: rest) := by
  unfold endAt endToks
  simp only [List.append_assoc, List.cons_append, cardAt_cardToks, Option.bind_eq_bind, Option.bind_some, identAt_word,
    expectK_lparen, identSeq_roundtrip u e.keys _, expectK_rparen]
  unfold phraseToks
  by_cases hp : e.phrase.isEmpty
  · have : e.phrase = [] := by simpa using hp
    simp only [hp, if_true, List.nil_append]
    -- no phrase was printed: the optional `PHRASE STRING` must not fire on what follows, a `TO` or a `;` (`hnext`)
    split
    · rename_i t s r' heq
      simp only [List.cons.injEq] at heq
      exact absurd (by rw [heq.1]) hnext
    · rw [this]
  · simp only [hp, Bool.false_eq_true, if_false, List.cons_append, List.nil_append, kwTok]
    simp only [stripEnds_phrase]

theorem kwTok_kind (k : Kw) : (kwTok k).kind = .kw k := rfl

/-! the alternatives of `statement` are told apart by their first two tokens -/

theorem pCreateTable_none (t1 t2 : Tok) (r : List Tok) (h : t1.kind ≠ .kw .CREATE ∨ t2.kind ≠ .kw .TABLE) :
    pCreateTable (t1 :: t2 :: r) = none := by
  by_cases h1 : t1.kind = .kw .CREATE
  · have h2 := h.resolve_left (not_not_intro h1)
    simp only [pCreateTable, expectK, if_pos h1, Option.bind_eq_bind, Option.bind_some, if_neg h2]; rfl
  · simp only [pCreateTable, expectK, if_neg h1]; rfl

theorem pCreateRop_none (t1 t2 : Tok) (r : List Tok) (h : t1.kind ≠ .kw .CREATE ∨ t2.kind ≠ .kw .ROP) :
    pCreateRop (t1 :: t2 :: r) = none := by
  by_cases h1 : t1.kind = .kw .CREATE
  · have h2 := h.resolve_left (not_not_intro h1)
    simp only [pCreateRop, expectK, if_pos h1, Option.bind_eq_bind, Option.bind_some, if_neg h2]; rfl
  · simp only [pCreateRop, expectK, if_neg h1]; rfl

theorem pCreateIndex_none (t1 t2 : Tok) (r : List Tok) (h : t1.kind ≠ .kw .CREATE ∨ t2.kind ≠ .kw .UNIQUE) :
    pCreateIndex (t1 :: t2 :: r) = none := by
  by_cases h1 : t1.kind = .kw .CREATE
  · have h2 := h.resolve_left (not_not_intro h1)
    simp only [pCreateIndex, expectK, if_pos h1, Option.bind_eq_bind, Option.bind_some, if_neg h2]; rfl
  · simp only [pCreateIndex, expectK, if_neg h1]; rfl

theorem stmtAt_item (u : UC) (it : Item) (toks : List Tok) (rest : List Tok)
    (ht : it.toks u = some toks) :
    ∃ st, it.stmt u = some st ∧ stmtAt (toks ++ rest) = some (st, rest) := by
  cases it with
  | cls kind attrs =>
    simp only [Item.toks, Option.some.injEq] at ht; subst ht
    refine ⟨_, rfl, ?_⟩
    have hseq := seqP_roundtrip attrAt (fun a : Name × Name => [wordTok u a.1, wordTok u (u.upper a.2)])
      (fun a => (a.1, u.upper a.2)) attrAt_rparen attrs
      (fun x _ r => by simp [attrAt, isIdentTok_wordTok, wordTok_text]) (semiTok :: rest)
    simp only [stmtAt, pCreateTable, List.cons_append, List.append_assoc, List.nil_append, expectK_kw, Option.bind_eq_bind,
      Option.bind_some, identAt_word, expectK_lparen, hseq, expectK_rparen, expectK_semi, Option.orElse_some]
  | assoc rel s t =>
    simp only [Item.toks, Option.some.injEq] at ht; subst ht
    refine ⟨_, rfl, ?_⟩
    have e1 := endAt_roundtrip u s (kwTok .TO) (endToks u t ++ semiTok :: rest) (by simp [kwTok])
    have e2 := endAt_roundtrip u t semiTok rest (by simp [semiTok])
    rw [stmtAt, List.cons_append, List.cons_append, pCreateTable_none _ _ _ (Or.inr (by decide))]
    simp only [pCreateRop, List.cons_append, List.append_assoc, List.nil_append, expectK_kw, Option.bind_eq_bind,
      Option.bind_some, relidAt, if_true, e1, e2, expectK_semi, Option.orElse_none, Option.orElse_some]
  | inst kind attrs vals =>
    simp only [Item.toks] at ht
    split at ht
    · rename_i cells hcells
      simp only [Option.some.injEq] at ht; subst ht
      obtain ⟨_, htexts, hvals⟩ := rowCells_spec u attrs vals cells hcells
      refine ⟨.insert kind (cells.map fun c => c.1) none, by simp [Item.stmt, htexts], ?_⟩
      rw [stmtAt, List.cons_append, List.cons_append, pCreateTable_none _ _ _ (Or.inl (by decide)),
        pCreateRop_none _ _ _ (Or.inl (by decide)), pCreateIndex_none _ _ _ (Or.inl (by decide))]
      simp only [pInsertOrdered, List.cons_append, List.append_assoc, List.nil_append, expectK_kw, Option.bind_eq_bind,
        Option.bind_some, identAt_word, expectK_lparen, valueSeq_roundtrip cells hvals _, expectK_rparen, expectK_semi,
        Option.orElse_none, Option.orElse_some]
    · simp at ht
  | index name kind attrs =>
    simp only [Item.toks, Option.some.injEq] at ht; subst ht
    refine ⟨_, rfl, ?_⟩
    rw [stmtAt, List.cons_append, List.cons_append, pCreateTable_none _ _ _ (Or.inr (by decide)),
      pCreateRop_none _ _ _ (Or.inr (by decide))]
    simp only [pCreateIndex, List.cons_append, List.append_assoc, List.nil_append, expectK_kw, Option.bind_eq_bind,
      Option.bind_some, identAt_word, expectK_lparen, identSeq_roundtrip u attrs _, expectK_rparen, expectK_semi,
      Option.orElse_none, Option.orElse_some]

def itemsToks (u : UC) : List Item → Option (List Tok)
  | [] => some []
  | it :: rest =>
    match it.toks u, itemsToks u rest with
    | some a, some b => some (a ++ b)
    | _, _ => none

def itemsStmts (u : UC) : List Item → Option (List Stmt)
  | [] => some []
  | it :: rest =>
    match it.stmt u, itemsStmts u rest with
    | some a, some b => some (a :: b)
    | _, _ => none

/-- TOKEN LEVEL ROUND TRIP: for every list of items, parsing the tokens of the printed items gives exactly their
    statements -/
theorem parse_items (u : UC) (items : List Item) (toks : List Tok) (h : itemsToks u items = some toks) :
    ∃ stmts, itemsStmts u items = some stmts ∧ parse toks = some stmts := by
  induction items generalizing toks with
  | nil => cases h; exact ⟨[], rfl, rfl⟩
  | cons it items ih =>
    simp only [itemsToks] at h
    split at h
    · rename_i a b ha hb
      cases h
      obtain ⟨st, hst, hparse⟩ := stmtAt_item u it a b ha
      obtain ⟨stmts, hss, hp⟩ := ih b hb
      exact ⟨st :: stmts, by simp only [itemsStmts, hst, hss], by rw [parse_of_stmtAt hparse, hp]; rfl⟩
    · cases h

end Pyx.Sql
