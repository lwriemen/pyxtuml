import PyxModel.Extract.Schema
import Proofs.Lib.Traverse

/-!
  C14 — the `define_association` calls of a relationship as a list of SIDES, one per call: (referring class id, referred class
  id, O_REF rows, the six Mult / Cond / phrase values).  `groupOf` and `resolvedRel` (PyxModel/Extract/Schema.lean) are
  characterised through `RelKind.sides` (`groupOf_eq`, `resolvedRel_sides`); what the other files need to know about a group or
  its associations follows from `groupOf_sides`, `groupOf_mem`, `resolved_items` without a case analysis on the shape of the
  relationship.
-/

namespace Pyx.Extract

/-- one `define_association` call in terms of the rows it is made from: the classes of R_RGO and R_RTO, the O_REF rows between
    them, and `source_many / _conditional / _phrase`, `target_many / _conditional / _phrase` -/
structure Side where
  rgo : Nat
  rto : Nat
  refs : List Ref
  sm : Bool
  sc : Bool
  sp : String
  tm : Bool
  tc : Bool
  tp : String

def Side.item (s : Side) (rc tc : Class) : SAssoc :=
  { src := { kind := rc.kl, keys := keyNames rc (s.refs.map (·.rattr)), many := s.sm, cond := s.sc, phrase := s.sp },
    tgt := { kind := tc.kl, keys := keyNames tc (s.refs.map (·.iattr)), many := s.tm, cond := s.tc, phrase := s.tp } }

/-- the association of a side, as `groupOf` builds it: both classes must exist -/
def sideItem (d : ClassDiagram) (s : Side) : Option SAssoc :=
  (findClass d s.rgo).bind fun rc => (findClass d s.rto).map fun tc => s.item rc tc

def RelKind.sides : RelKind → List Side
  | .simple f p refs =>
    [⟨f.cls, p.cls, refs, f.mult, f.cond, phraseIf (f.cls == p.cls) p.phrase, p.mult, p.cond, phraseIf (f.cls == p.cls) f.phrase⟩]
  | .linked o t l r1 r2 =>
    [⟨l, o.cls, r1, t.mult, t.cond, phraseIf (o.cls == t.cls) o.phrase, false, false, phraseIf (o.cls == t.cls) t.phrase⟩,
     ⟨l, t.cls, r2, o.mult, o.cond, phraseIf (o.cls == t.cls) t.phrase, false, false, phraseIf (o.cls == t.cls) o.phrase⟩]
  | .subsup s subs => subs.map fun x => ⟨x.1, s, x.2, false, true, "", false, false, ""⟩
  | .derived => []

/-- the classes `groupOf` asks for before it builds anything -/
def RelKind.needs : RelKind → List Nat
  | .simple f p _ => [f.cls, p.cls]
  | .linked o t l _ _ => [l, o.cls, t.cls]
  | .subsup s _ => [s]
  | .derived => []

theorem groupOf_eq (d : ClassDiagram) (r : Rel) : groupOf d r =
    if r.kind.needs.all (fun c => (findClass d c).isSome) then some ⟨r.numb, r.kind.sides.filterMap (sideItem d)⟩ else none := by
  unfold groupOf
  cases r.kind with
  | simple f p refs =>
    cases hf : findClass d f.cls <;> cases hp : findClass d p.cls <;> simp [RelKind.needs, RelKind.sides, sideItem, Side.item, hf, hp]
  | linked o t l r1 r2 =>
    cases hl : findClass d l <;> cases ho : findClass d o.cls <;> cases ht : findClass d t.cls <;>
      simp [RelKind.needs, RelKind.sides, sideItem, Side.item, hl, ho, ht]
  | subsup s subs =>
    cases hs : findClass d s <;> simp [RelKind.needs, RelKind.sides, sideItem, Side.item, hs, List.filterMap_map, Function.comp_def]
    congr 1
    funext x
    cases findClass d x.1 <;> rfl
  | derived => simp [RelKind.needs, RelKind.sides]

theorem groupOf_sides {d : ClassDiagram} {r : Rel} {g : SGroup} (h : groupOf d r = some g) :
    g = ⟨r.numb, r.kind.sides.filterMap (sideItem d)⟩ := by
  rw [groupOf_eq] at h
  split at h
  · exact (Option.some.inj h).symm
  · cases h

def Side.resolved (d : ClassDiagram) (s : Side) : Bool := pairResolved d s.rgo s.rto s.refs

theorem Side.resolved_iff {d : ClassDiagram} {s : Side} : s.resolved d = true ↔
    ∃ rc tc, findClass d s.rgo = some rc ∧ findClass d s.rto = some tc ∧ refsResolved rc tc s.refs = true ∧
      sideItem d s = some (s.item rc tc) := by
  unfold Side.resolved pairResolved sideItem
  cases findClass d s.rgo <;> cases findClass d s.rto <;> simp

theorem resolvedRel_sides {d : ClassDiagram} {r : Rel} :
    resolvedRel d r = true ↔ (groupOf d r).isSome = true ∧ ∀ s ∈ r.kind.sides, s.resolved d = true := by
  unfold resolvedRel groupOf Side.resolved
  cases r.kind with
  | simple f p refs =>
    simp only [RelKind.sides, List.mem_singleton, forall_eq, pairResolved]
    cases findClass d f.cls <;> cases findClass d p.cls <;> simp
  | linked o t l r1 r2 =>
    simp only [RelKind.sides, List.mem_cons, List.not_mem_nil, or_false, forall_eq_or_imp, forall_eq, pairResolved,
      Bool.and_eq_true]
    cases findClass d l <;> cases findClass d o.cls <;> cases findClass d t.cls <;> simp
  | subsup s subs =>
    simp only [RelKind.sides, List.mem_map, forall_exists_index, and_imp, forall_apply_eq_imp_iff₂, Bool.and_eq_true,
      List.all_eq_true]
    cases findClass d s <;> simp
  | derived => simp [RelKind.sides]

/-- for a resolved relationship nothing is dropped: one association per side, in order -/
theorem resolved_items {d : ClassDiagram} {r : Rel} (h : resolvedRel d r = true) :
    ∃ items, groupOf d r = some ⟨r.numb, items⟩ ∧ r.kind.sides.map (sideItem d) = items.map some := by
  obtain ⟨hg, hs⟩ := resolvedRel_sides.mp h
  obtain ⟨g, hg⟩ := Option.isSome_iff_exists.mp hg
  refine ⟨_, hg.trans (congrArg some (groupOf_sides hg)), ?_⟩
  refine Pyx.map_eq_filterMap_some fun s hm => ?_
  obtain ⟨rc, tc, _, _, _, hi⟩ := Side.resolved_iff.mp (hs s hm)
  rw [hi]
  rfl

theorem groupOf_mem {d : ClassDiagram} {r : Rel} {g : SGroup} (h : groupOf d r = some g) {a : SAssoc} (ha : a ∈ g.items) :
    ∃ s ∈ r.kind.sides, ∃ rc tc, findClass d s.rgo = some rc ∧ findClass d s.rto = some tc ∧ a = s.item rc tc := by
  rw [groupOf_sides h] at ha
  obtain ⟨s, hs, hi⟩ := List.mem_filterMap.mp ha
  refine ⟨s, hs, ?_⟩
  unfold sideItem at hi
  cases hrc : findClass d s.rgo <;> cases htc : findClass d s.rto <;> simp [hrc, htc] at hi
  exact ⟨_, _, rfl, rfl, hi.symm⟩

end Pyx.Extract
