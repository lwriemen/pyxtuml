import Proofs.ExtractShapeAssoc

/-!
  C14 — `mk_linked_association` of the generated IR (Gen/ExtractShape.lean) on ANY rows of a linked relationship: the two
  associations, or AttributeError (an end row R_AONE / R_AOTH / R_ASSR missing, a class or an attribute of an O_REF row that
  does not resolve), in the order in which the IR evaluates:

    r_rgo = one(r_assoc).R_ASSR[211].R_RGO[205]()          None without R_ASSR
    source_o_obj = one(r_rgo).R_OIR[203].O_OBJ[201]()      None without R_ASSR / link class
    _mk_assoc(r_aone, r_aoth); _mk_assoc(r_aoth, r_aone):
      r_rto = one(side1).R_RTO[204]()                      None without side1
      _get_related_attributes(r_rgo, r_rto)                ([], []) when r_rto is None; `r_rgo.OIR_ID` raises when r_rgo is None and
                                                           an O_REF hangs on r_rto; `o_attr.Name` raises on an unresolved O_REF
      side1.Obj_ID != side2.Obj_ID                         raises when side1 or side2 is None
      source_o_obj.Key_Lett, target_o_obj.Key_Lett         raise when the link class / side1's class is missing
-/

namespace Pyx.XShape
open Pyx.Extract Pyx.Gen.ExtractShape

variable (d : ClassDiagram) (numb : Nat) (w : RelRows)

/-! ### `_mk_assoc`, nested in `mk_linked_association` -/

/-- the `define_association` call `_mk_assoc(side1, side2)` makes (`refs`: the O_REF rows from the link class to side1);
    `none`: AttributeError before the call is reached -/
def sideCall (s1 s2 : EndId) (refs : List Ref) : Option (Call RI) :=
  (endOf w s1).bind fun e1 => (endOf w s2).bind fun e2 => (classOfEnd d w .assr).bind fun lc => (classOfEnd d w s1).bind fun c1 =>
    if resolvedAt d w .assr s1 refs then
      some (assocCall numb
        { src := { kind := lc.kl, keys := namesAt d w .assr (refs.map (·.rattr)), many := e2.mult, cond := e2.cond,
                   phrase := phraseIf (e1.cls == e2.cls) e1.phrase },
          tgt := { kind := c1.kl, keys := namesAt d w s1 (refs.map (·.iattr)), many := false, cond := false,
                   phrase := phraseIf (e1.cls == e2.cls) e2.phrase } })
    else none

section
attribute [local xsh] mk_linked_association_mk_assoc sideCall assocCall phraseIf bne

/-- the phrases of `_mk_assoc`: `side1.Txt_Phrs`, `side2.Txt_Phrs` on a reflexive relationship, empty otherwise -/
theorem mkAssoc_phrases (cf : CallF RI) (fuel : Nat) (s1 s2 : EndId) (e1 e2 : End) (he1 : endOf w s1 = some e1)
    (he2 : endOf w s2 = some e2) (L : Loc RI) (C : Calls RI) (g1 : L "side1" = .inst (some (.row s1)))
    (g2 : L "side2" = .inst (some (.row s2))) :
    iStmt (relWorld d numb w) cf fuel
        (.ite (.attrNe "side1" "Obj_ID" "side2" "Obj_ID") [.assignAll ["source_phrase", "target_phrase"] (.str "")]
          [.assign "source_phrase" (.attr "side1" "Txt_Phrs"), .assign "target_phrase" (.attr "side2" "Txt_Phrs")]) L C =
      .ok ((L.set "source_phrase" (.str (phraseIf (e1.cls == e2.cls) e1.phrase))).set "target_phrase"
        (.str (phraseIf (e1.cls == e2.cls) e2.phrase)), C, .next) := by
  cases hb : e1.cls == e2.cls <;> simp only [xsh, g1, g2, he1, he2, hb]

theorem mkAssoc_call (n : Nat) (s1 s2 : EndId) (refs : List Ref)
    (hrto : relHop d w (.row s1) ⟨"R_RTO", 204, ""⟩ = [.rto s1])
    (hrefs : refsOn w s1 = refs.map (fun r => (EndId.assr, r)))
    (Lc : Loc RI) (C : Calls RI) (h1 : Lc "r_rel" = .inst (some .rel))
    (h2 : Lc "r_rgo" = .inst (w.assr.map fun _ => RI.rgo .assr))
    (h3 : Lc "source_o_obj" = .inst ((classOfEnd d w .assr).map RI.obj)) :
    callAt (relWorld d numb w) defs (n + 2) "_mk_assoc"
        [.inst ((endOf w s1).map fun _ => RI.row s1), .inst ((endOf w s2).map fun _ => RI.row s2)] Lc C =
      match sideCall d numb w s1 s2 refs with
      | some k => .ok (.inst none, C ++ [k])
      | none => .error .attributeError := by
  have hr0 := fun xo Lc C => relattrs_none_rto d numb w n xo Lc C
  have hr1 := fun Lc C => relattrs_none_rgo d numb w n s1 Lc C
  have hrel := fun Lc C => relattrs d numb w n .assr s1 (.rgo .assr) rfl refs (by rw [hrefs]; exact filter_tagged _ _) Lc C
  rw [callAt_def _ _ _ _ _ _ _ lookup_mk_assoc rfl]
  cases he1 : endOf w s1 with
  | none => simp only [xsh, he1, hr0, h2]
  | some e1 =>
    cases hassr : w.assr with
    | none =>
      -- `r_rgo` is None: `r_rgo.OIR_ID` raises in the filter as soon as an O_REF hangs on side1; otherwise `source_o_obj.Key_Lett`
      have hlc : classOfEnd d w .assr = none := by simp only [classOfEnd, endOf, hassr, Option.map_none, Option.bind_none]
      cases refs with
      | cons r rs => simp only [xsh, he1, hassr, hlc, hrto, hr1, hrefs, h2]
      | nil =>
        cases he2 : endOf w s2 with
        | none => simp only [xsh, he1, he2, hassr, hlc, hrto, hr1, hrefs, h2]
        | some e2 =>
          simp only [xsh, ↓mkAssoc_phrases d numb w _ _ s1 s2 e1 e2 he1 he2, he1, he2, hassr, hlc, hrto, hr1, hrefs, h1, h2, h3]
    | some l =>
      cases hres : resolvedAt d w .assr s1 refs with
      | false => simp only [xsh, he1, hassr, hrto, hrel, hres, h2]
      | true =>
        cases he2 : endOf w s2 with
        | none => simp only [xsh, he1, he2, hassr, hrto, hrel, hres, h2]
        | some e2 =>
          -- `source_o_obj.Key_Lett` is read before `target_o_obj.Key_Lett`
          cases hlc : classOfEnd d w .assr with
          | none =>
            simp only [xsh, ↓mkAssoc_phrases d numb w _ _ s1 s2 e1 e2 he1 he2, he1, he2, hassr, hlc, hrto, hrel, hres, h1, h2, h3]
          | some lc =>
            cases hc1 : classOfEnd d w s1 <;>
              simp only [xsh, ↓mkAssoc_phrases d numb w _ _ s1 s2 e1 e2 he1 he2, he1, he2, hassr, hlc, hc1, hrto, hrel, hres, h1,
                h2, h3]

end

/-- `mk_linked_association` on ANY rows, whatever the R206 subtype row says: the two associations, or AttributeError -/
theorem linked_rows (Lc : Loc RI) :
    assocsOf (callAt (relWorld d numb w) defs 5 "mk_linked_association" [.opaque, .inst (some .assoc)] Lc []) =
      expected numb (match w.aone, w.aoth, w.assr with
        | some o, some t, some l => kindOutcome d (.linked o t l w.refsOne w.refsOth)
        | _, _, _ => .attributeError) := by
  have hA := mkAssoc_call d numb w 2 .aone .aoth w.refsOne (relHop_row d w).2.2.1 rfl
  have hB := mkAssoc_call d numb w 2 .aoth .aone w.refsOth (relHop_row d w).2.2.2.1 rfl
  simp only [Nat.reduceAdd, endOf] at hA hB
  rw [callAt_def _ _ _ _ _ _ _ lookup_mk_linked_association rfl]
  cases hassr : w.assr with
  | none =>
    have hlc : classOfEnd d w .assr = none := by simp only [classOfEnd, endOf, hassr, xsh]
    have hk : sideCall d numb w .aone .aoth w.refsOne = none := by simp only [sideCall, hlc, xsh]
    simp only [xsh, mk_linked_association, hassr, hlc, hA, hk]
    cases w.aone <;> cases w.aoth <;> rfl
  | some l =>
    simp only [xsh, mk_linked_association, hassr, hA]
    cases hone : w.aone with
    | none => simp only [sideCall, endOf, hone, xsh, assocsOf]; cases w.aoth <;> rfl
    | some o =>
      cases hoth : w.aoth with
      | none => simp only [sideCall, endOf, hone, hoth, xsh, assocsOf]; rfl
      | some t =>
        have hcl : classOfEnd d w .assr = findClass d l := by simp only [classOfEnd, endOf, hassr, plainEnd, xsh]
        have hco : classOfEnd d w .aone = findClass d o.cls := by simp only [classOfEnd, endOf, hone, xsh]
        have hct : classOfEnd d w .aoth = findClass d t.cls := by simp only [classOfEnd, endOf, hoth, xsh]
        cases hlc : findClass d l with
        | none => simp only [sideCall, hcl, hlc, xsh, assocsOf, kindOutcome, resolvedRel, RelKind.asRel, pairResolved]; rfl
        | some lc =>
          cases hoc : findClass d o.cls with
          | none =>
            simp only [sideCall, hcl, hco, hlc, hoc, xsh, assocsOf, kindOutcome, resolvedRel, RelKind.asRel, pairResolved]
            rfl
          | some oc =>
            rw [hlc] at hcl; rw [hoc] at hco
            simp only [sideCall, endOf, hone, hoth, hcl, hco, xsh, resolvedAt_eq hcl hco, namesAt_eq hcl, namesAt_eq hco]
            cases hr1 : refsResolved lc oc w.refsOne with
            | false =>
              simp only [xsh, assocsOf, kindOutcome, resolvedRel, RelKind.asRel, pairResolved, hlc, hoc, hr1]
              rfl
            | true =>
              -- the first `_mk_assoc` has recorded its call; the second runs only in this leaf, so `hB` enters here, its
              -- premises on `r_rgo` and `source_o_obj` brought to the form they have in this leaf
              simp only [hone, hoth, hassr, hcl, Option.map_some] at hB
              simp only [xsh, hB, sideCall, endOf, hone, hoth, hcl, hct]
              cases htc : findClass d t.cls with
              | none =>
                simp only [xsh, assocsOf, kindOutcome, resolvedRel, RelKind.asRel, pairResolved, hlc, htc]
                rfl
              | some tc =>
                rw [htc] at hct
                simp only [xsh, resolvedAt_eq hcl hct, namesAt_eq hcl, namesAt_eq hct]
                cases hr2 : refsResolved lc tc w.refsOth with
                | false =>
                  simp only [xsh, assocsOf, kindOutcome, resolvedRel, RelKind.asRel, pairResolved, hlc, hoc, htc, hr1, hr2]
                  rfl
                | true =>
                  simp only [xsh, assocsOf, List.cons_append, decodeAll, decodeAssoc_assocCall, kindOutcome, resolvedRel,
                    RelKind.asRel, pairResolved, groupOf, hlc, hoc, htc, hr1, hr2, expected, BEq.comm (a := t.cls)]

theorem linked_eq (hd : w.dispatch = .linked) (Lc : Loc RI) :
    assocsOf (callAt (relWorld d numb w) defs 5 "mk_linked_association" [.opaque, .inst (some .assoc)] Lc []) =
      expected numb (mkAssociation d w) := by
  simp only [mkAssociation, hd]
  exact linked_rows d numb w Lc

theorem linked_degenerate (d : ClassDiagram) (numb : Nat) (w : RelRows)
    (h : w.aone = none ∨ w.aoth = none ∨ w.assr = none) (Lc : Loc RI) :
    assocsOf (callAt (relWorld d numb w) defs 5 "mk_linked_association" [.opaque, .inst (some .assoc)] Lc []) =
      .error .attributeError := by
  rw [linked_rows]
  rcases h with h | h | h <;> rw [h]
  · rfl
  · cases w.aone <;> rfl
  · cases w.aone <;> cases w.aoth <;> rfl

theorem linked_unresolved (d : ClassDiagram) (numb : Nat) (w : RelRows) (o t : End) (l : Nat)
    (hone : w.aone = some o) (hoth : w.aoth = some t) (hassr : w.assr = some l)
    (hr : resolvedRel d (RelKind.linked o t l w.refsOne w.refsOth).asRel = false) (Lc : Loc RI) :
    assocsOf (callAt (relWorld d numb w) defs 5 "mk_linked_association" [.opaque, .inst (some .assoc)] Lc []) =
      .error .attributeError := by
  rw [linked_rows, hone, hoth, hassr]
  simp only [kindOutcome, hr, expected]
  rfl

end Pyx.XShape
