import Proofs.InterpEffects
import Proofs.InterpStateOps
import Proofs.Lib.ListExtra

/-!
  Well-formedness of the relational state: kept by every state operation, hence (`StateOps`, Proofs/InterpEffects.lean) by
  every program.
-/
namespace Pyx.Interp

/-- links only between live instances, no duplicate pairs; the live lists are duplicate-free and
    below the creation counter (so a new instance is new) -/
structure WF (st : State) : Prop where
  links_live : ∀ k s t, (s, t) ∈ st.links k → st.isLive s = true ∧ st.isLive t = true
  links_nodup : ∀ k, (st.links k).Nodup
  live_nodup : ∀ c, (st.live c).Nodup
  live_lt : ∀ c n, n ∈ st.live c → n < st.next c

theorem isLive_iff (st : State) (i : Inst) : st.isLive i = true ↔ i.idx ∈ st.live i.cls := by
  simp [State.isLive]

theorem upd_elim {α β : Type} [DecidableEq α] {f : α → β} {a : α} {b : β} (Q : β → Prop) (x : α)
    (hb : x = a → Q b) (hf : Q (f x)) : Q (upd f a b x) := by
  unfold upd
  split
  · exact hb ‹_›
  · exact hf

theorem newInst_wf {C : Ctx} {cls : String} {st st' : State} {i : Inst}
    (h : newInst C cls st = .ok (i, st')) (wf : WF st) : WF st' := by
  obtain ⟨c, _, _, rfl⟩ := newInst_inv h
  have mono : ∀ j : Inst, st.isLive j = true → j.idx ∈ upd st.live cls (st.live cls ++ [st.next cls]) j.cls :=
    fun j hj => upd_elim (fun l => j.idx ∈ l) j.cls (fun e => List.mem_append_left _ (e ▸ (isLive_iff st j).1 hj))
      ((isLive_iff st j).1 hj)
  refine ⟨fun k s t hm => ?_, wf.links_nodup, fun c' => upd_elim List.Nodup c' (fun _ => ?_) (wf.live_nodup c'),
    fun c' n => ?_⟩
  · have hl := wf.links_live k s t hm
    exact ⟨(isLive_iff _ s).2 (mono s hl.1), (isLive_iff _ t).2 (mono t hl.2)⟩
  · exact nodup_snoc (wf.live_nodup cls) fun h => Nat.lt_irrefl _ (wf.live_lt cls _ h)
  · show n ∈ upd st.live cls _ c' → n < upd st.next cls _ c'
    unfold upd
    split
    · intro hn
      rcases List.mem_append.1 hn with hn | hn
      · exact Nat.lt_succ_of_lt (wf.live_lt cls n hn)
      · rw [List.mem_singleton.1 hn]; exact Nat.lt_succ_self _
    · exact wf.live_lt c' n

theorem deleteInst_wf {i : Inst} {st st' : State} (h : deleteInst i st = .ok st') (wf : WF st) : WF st' := by
  obtain ⟨_, rfl⟩ := deleteInst_inv h
  have keep : ∀ j : Inst, j ≠ i → st.isLive j = true →
      j.idx ∈ upd st.live i.cls ((st.live i.cls).erase i.idx) j.cls := fun j hne hj =>
    upd_elim (fun l => j.idx ∈ l) j.cls
      (fun e => (List.mem_erase_of_ne fun hi => hne (by cases j; cases i; simp_all)).2 (e ▸ (isLive_iff st j).1 hj))
      ((isLive_iff st j).1 hj)
  refine ⟨fun k s t hm => ?_, fun k => (wf.links_nodup k).sublist List.filter_sublist,
    fun c => upd_elim List.Nodup c (fun _ => (wf.live_nodup _).erase _) (wf.live_nodup c),
    fun c n => upd_elim (fun l => n ∈ l → n < st.next c) c
      (fun e hn => e ▸ wf.live_lt _ n (List.mem_of_mem_erase hn)) (wf.live_lt c n)⟩
  obtain ⟨hm, hp⟩ := List.mem_filter.1 (show (s, t) ∈ (st.links k).filter _ from hm)
  rw [decide_eq_true_eq] at hp
  have hl := wf.links_live k s t hm
  exact ⟨(isLive_iff _ s).2 (keep s hp.1 hl.1), (isLive_iff _ t).2 (keep t hp.2 hl.2)⟩

theorem findLinkFrom_ends {rel phrase : String} {x y : Inst} :
    ∀ (k : Nat) (l : List Assoc) {k' : Nat} {a : Assoc} {s t : Inst},
      findLinkFrom rel phrase x y k l = some (k', a, s, t) → (s = y ∧ t = x) ∨ (s = x ∧ t = y)
  | _, [], _, _, _, _, h => by simp [findLinkFrom] at h
  | k, a0 :: rest, k', a, s, t, h => by
    unfold findLinkFrom at h
    split at h
    · split at h
      · simp only [Option.some.injEq, Prod.mk.injEq] at h
        exact Or.inl ⟨h.2.2.1.symm, h.2.2.2.symm⟩
      · split at h
        · simp only [Option.some.injEq, Prod.mk.injEq] at h
          exact Or.inr ⟨h.2.2.1.symm, h.2.2.2.symm⟩
        · exact findLinkFrom_ends (k + 1) rest h
    · exact findLinkFrom_ends (k + 1) rest h

theorem WF.upd_links {st : State} (wf : WF st) (k : Nat) {ps : List (Inst × Inst)}
    (hl : ∀ s t, (s, t) ∈ ps → st.isLive s = true ∧ st.isLive t = true) (hn : ps.Nodup) :
    WF { st with links := upd st.links k ps } :=
  ⟨fun k2 s t => upd_elim (fun l => (s, t) ∈ l → _) k2 (fun _ => hl s t) (wf.links_live k2 s t),
   fun k2 => upd_elim List.Nodup k2 (fun _ => hn) (wf.links_nodup k2), wf.live_nodup, wf.live_lt⟩

theorem relate_wf {C : Ctx} {x y : Inst} {rel phrase : String} {st st' : State}
    (h : relate C x y rel phrase st = .ok st') (wf : WF st) : WF st' := by
  obtain ⟨hx, hy, k, a, s, t, hfl, ⟨rfl, _⟩ | ⟨hnot, rfl⟩⟩ := relate_inv h
  · exact wf
  · refine WF.upd_links wf k (fun s2 t2 hm => ?_) (nodup_snoc (wf.links_nodup k) hnot)
    rcases List.mem_append.1 hm with hm | hm
    · exact wf.links_live k s2 t2 hm
    · cases List.mem_singleton.1 hm
      rcases findLinkFrom_ends 0 C.assocs hfl with ⟨rfl, rfl⟩ | ⟨rfl, rfl⟩
      · exact ⟨hy, hx⟩
      · exact ⟨hx, hy⟩

theorem unrelate_wf {C : Ctx} {x y : Inst} {rel phrase : String} {st st' : State}
    (h : unrelate C x y rel phrase st = .ok st') (wf : WF st) : WF st' := by
  obtain ⟨_, _, k, a, s, t, _, _, rfl⟩ := unrelate_inv h
  exact WF.upd_links wf k (fun s2 t2 hm => wf.links_live k s2 t2 (List.mem_of_mem_erase hm)) ((wf.links_nodup k).erase _)

theorem setAttr_wf {C : Ctx} {i : Inst} {name : String} {v : Val} {st st' : State}
    (h : setAttr C i name v st = .ok st') (wf : WF st) : WF st' := by
  obtain ⟨_, _, rfl⟩ := setAttr_inv h
  exact ⟨wf.links_live, wf.links_nodup, wf.live_nodup, wf.live_lt⟩

theorem wf_ops (C : Ctx) : StateOps C (fun _ => True) (fun st st' => WF st → WF st') where
  refl := fun _ h => h
  trans := fun _ _ _ h1 h2 h => h2 (h1 h)
  newInst := newInst_wf
  deleteInst := deleteInst_wf
  relate := relate_wf
  unrelate := unrelate_wf
  setAttr := fun _ => setAttr_wf

theorem rwf_run (C : Ctx) (n : Nat) :
    (∀ e, Pres (RS fun st st' => WF st → WF st') ((run C n).eval e)) ∧
    (∀ s, Pres (RS fun st st' => WF st → WF st') ((run C n).exec s)) :=
  ⟨(rs_run (wf_ops C) okTrue (fun _ _ _ _ => trivial) n).1, fun s => (rs_run (wf_ops C) okTrue (fun _ _ _ _ => trivial) n).2 s trivial⟩

end Pyx.Interp
