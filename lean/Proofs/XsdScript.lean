import Proofs.XsdEdits
import Proofs.ExtractScript

/-!
  C20 — all XSD edits together, preservation of well-formedness, scripts.
-/

namespace Pyx.Extract

/-- when an XSD edit is applicable:
    * rename: the new name is not the name of another attribute of the class
    * retype (of a base / derived attribute): the old and the new data type have a base type name
    * add attribute: Attr_ID and name are new in the class and nothing refers to the new Attr_ID
    * add type: DT_ID and name are new and nothing refers to the new DT_ID
    * permute enumerators: the positions are a permutation of 0 … n-1 -/
def XEditOk (d : ClassDiagram) : XEdit → Prop
  | .renameAttr c a new => ∀ kc, findClass d c = some kc → ∀ x ∈ kc.attrs, x.name = new → x.id = a
  | .retypeAttr c a dt => ∀ kc xa, findClass d c = some kc → kc.findAttr a = some xa →
      (∀ c' b, xa.kind ≠ .ref c' b) →
      (baseTypeName d.dts dt).isSome = true ∧ ((attrDt d xa).bind (baseTypeName d.dts)).isSome = true
  | .addAttr c x => FreshAttr d c x ∧
      ∀ kc, findClass d c = some kc → (∀ y ∈ kc.attrs, y.id ≠ x.id) ∧ (∀ y ∈ kc.attrs, y.name ≠ x.name)
  | .addType t => FreshType d t ∧ ∀ x ∈ d.dts, x.name ≠ t.name
  | .permEnums t perm => ∀ x es, findDt d.dts t = some x → x.kind = .enum es → perm.Perm (List.range es.length)
  | _ => True

theorem chain_enG {dts : List DataType} {t : Nat} {F : List String → List String} (chain : DtChainOk dts) :
    DtChainOk (dts.map (enG t F)) := by
  obtain ⟨depth, hdec, hb⟩ := chain.ex
  refine ⟨depth, ?_, by intro i; rw [List.length_map]; exact hb i⟩
  intro x' hx' b hk
  obtain ⟨x, hx, rfl⟩ := List.mem_map.mp hx'
  rw [enG_id]
  rcases enG_cases (t := t) (F := F) x with h | ⟨es, _, h⟩ <;> rw [h] at hk
  · exact hdec x hx b hk
  · cases hk

theorem chain_addType {d : ClassDiagram} {t : DataType} (chain : DtChainOk d.dts) (fr : FreshType d t) :
    DtChainOk (d.dts ++ [t]) := by
  obtain ⟨depth, hdec, hb⟩ := chain.ex
  -- the new type gets the depth of its base + 1; nothing is based on it (`noBase`), so no old depth has to grow
  refine ⟨fun i => if i = t.id then (match t.kind with | .user b => depth b + 1 | _ => 0) else depth i, ?_, ?_⟩
  · intro x hx b hk
    rcases List.mem_append.mp hx with hx | hx
    · have h1 : x.id ≠ t.id := fr.noDt x hx
      have h2 : b ≠ t.id := by intro e; exact fr.noBase x hx (by rw [hk, e])
      simp only [h1, h2, if_false]
      exact hdec x hx b hk
    · simp only [List.mem_singleton] at hx
      subst hx
      have h2 : b ≠ x.id := by intro e; exact fr.noSelf (by rw [hk, e])
      simp only [h2, if_false, if_true, hk]
      omega
  · intro i
    rw [List.length_append, List.length_singleton]
    by_cases hi : i = t.id
    · simp only [hi, if_true]
      cases t.kind with
      | user b => have := hb b; simp only; omega
      | _ => simp
    · simp only [hi, if_false]
      have := hb i; omega

theorem xedit_commutes_all {d : ClassDiagram} (xwf : XWF d) (e : XEdit) (ok : XEditOk d e) (comp : Nat) :
    xsdSpec (applyXEdit e d) comp = specEdit (xresolve d comp e) (xsdSpec d comp) := by
  rw [xsdSpec_chained xwf.noLoose, xsdSpec_chained (by rw [applyXEdit_loose]; exact xwf.noLoose)]
  cases e with
  | renameAttr c a new => exact xrename_commutes xwf.wf c a new comp
  | retypeAttr c a dt => exact xretype_commutes xwf.wf c a dt comp ok
  | addAttr c x => exact xaddAttr_commutes xwf.wf c x comp ok.1
  | addEnum t name => exact xaddEnum_commutes xwf t name comp
  | permEnums t perm => exact xpermEnums_commutes xwf t perm comp
  | addType t => exact xaddType_commutes xwf.chain ok.1 comp
  | moveClass c p => exact xmoveClass_commutes xwf.wf c p comp

theorem enG_xwf {d : ClassDiagram} (xwf : XWF d) (t : Nat) (F : List String → List String) :
    XWF { d with dts := d.dts.map (enG t F) } :=
  ⟨⟨xwf.wf.clsIds, xwf.wf.kls, xwf.wf.attrIds, xwf.wf.attrNames, xwf.wf.relIds, xwf.wf.relNumbs⟩,
   by rw [map_map_key enG_id]; exact xwf.dtIds, by rw [map_map_key enG_name]; exact xwf.dtNames,
   xwf.tree, chain_enG xwf.chain, xwf.noLoose⟩

theorem nodup_map_snoc {α β : Type} {key : α → β} {l : List α} {x : α} (nd : (l.map key).Nodup)
    (h : ∀ y ∈ l, key y ≠ key x) : ((l ++ [x]).map key).Nodup :=
  List.map_append ▸ nodup_snoc nd fun hm => by obtain ⟨y, hy, e⟩ := List.mem_map.mp hm; exact h y hy e

theorem applyXEdit_xwf {d : ClassDiagram} (xwf : XWF d) (e : XEdit) (ok : XEditOk d e) : XWF (applyXEdit e d) := by
  have wf := xwf.wf
  cases e with
  | renameAttr c a new =>
    exact ⟨applyEdit_wf wf (.renameAttr c a new) ok, xwf.dtIds, xwf.dtNames, xwf.tree, xwf.chain, xwf.noLoose⟩
  | retypeAttr c a dt => exact ⟨retype_wf wf c a dt, xwf.dtIds, xwf.dtNames, xwf.tree, xwf.chain, xwf.noLoose⟩
  | addAttr c x =>
    exact ⟨wf_point wf c (fun _ => rfl) (fun _ => rfl) (fun k hfc hk =>
      ⟨nodup_map_snoc (wf.attrIds k hk) (ok.2 k hfc).1, nodup_map_snoc (wf.attrNames k hk) (ok.2 k hfc).2⟩),
      xwf.dtIds, xwf.dtNames, xwf.tree, xwf.chain, xwf.noLoose⟩
  | addEnum t name => exact enG_xwf xwf t _
  | permEnums t perm => exact enG_xwf xwf t _
  | addType t =>
    exact ⟨⟨wf.clsIds, wf.kls, wf.attrIds, wf.attrNames, wf.relIds, wf.relNumbs⟩, nodup_map_snoc xwf.dtIds ok.1.noDt,
      nodup_map_snoc xwf.dtNames ok.2, xwf.tree, chain_addType xwf.chain ok.1, xwf.noLoose⟩
  | moveClass c p =>
    exact ⟨applyEdit_wf wf (.moveClass c p) trivial, xwf.dtIds, xwf.dtNames, xwf.tree, xwf.chain, xwf.noLoose⟩

def XScriptOk : ClassDiagram → List XEdit → Prop
  | _, [] => True
  | d, e :: es => XEditOk d e ∧ XScriptOk (applyXEdit e d) es

theorem xscript_commutes {d : ClassDiagram} (xwf : XWF d) (es : List XEdit) (ok : XScriptOk d es) (comp : Nat) :
    xsdSpec (applyXEdits es d) comp = specEdits (xresolveAll d comp es) (xsdSpec d comp) := by
  induction es generalizing d with
  | nil => rfl
  | cons e es ih =>
    show xsdSpec (applyXEdits es (applyXEdit e d)) comp =
      specEdits (xresolveAll (applyXEdit e d) comp es) (specEdit (xresolve d comp e) (xsdSpec d comp))
    rw [← xedit_commutes_all xwf e ok.1 comp]
    exact ih (applyXEdit_xwf xwf e ok.1) ok.2

end Pyx.Extract
