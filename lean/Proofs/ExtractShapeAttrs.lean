import Proofs.ExtractShapeTie
import Proofs.ExtractFuel

/-!
  C14 — the attribute loop of `mk_class` (`while o_attr: …` along R103 'precedes') of the generated IR against `sattr` / `classOf … .attrs`
  (PyxModel/Extract/Schema.lean).  Population (`attrWorld`): the attributes of the class by POSITION on the R103 chain (the model's
  `Class.attrs` is that chain), O_BATTR (R106) for base and derived attributes, O_DBATTR (R107) for derived ones.  The two type calls
  (`get_attribute_type`, `_get_data_type_name`) are read through an ORACLE hypothesis: they return the model's `attrTy`.
-/

namespace Pyx.XShape
open Pyx.Extract Pyx.Gen.ExtractShape

inductive AI where
  | obj
  | pos (k : Nat)
  | battr (k : Nat)
  | dbattr (k : Nat)
  deriving DecidableEq

def attrHop (c : Class) (x : AI) (h : Hop) : List AI :=
  match x with
  | .obj => if h = hp "O_ATTR" 102 then (List.range c.attrs.length).map AI.pos else []
  | .pos k =>
    if h = { cls := "O_ATTR", rel := 103, phrase := "precedes" } then (if k + 1 < c.attrs.length then [.pos (k + 1)] else [])
    else if h = { cls := "O_ATTR", rel := 103, phrase := "succeeds" } then (if 0 < k ∧ k < c.attrs.length then [.pos (k - 1)] else [])
    else if h = hp "O_BATTR" 106 then
      (match c.attrs[k]? with
       | some a => (match a.kind with | .ref _ _ => [] | _ => [.battr k])
       | none => [])
    else []
  | .battr k => if h = hp "O_DBATTR" 107 then (if (c.attrs[k]?).any Attr.isDerived then [.dbattr k] else []) else []
  | .dbattr _ => []

def attrAttr (c : Class) (x : AI) (f : String) : Val AI :=
  match x with
  | .obj => if f = "Key_Lett" then .str c.kl else .unset
  | .pos k => if f = "Name" then (match c.attrs[k]? with | some a => .str a.name | none => .unset) else .unset
  | _ => .unset

def attrWorld (c : Class) : World AI :=
  { hop := attrHop c, attr := attrAttr c, kind := fun _ => "", subtype := fun _ _ => none, select := fun _ => [] }

@[simp] theorem attrWorld_hop (c : Class) : (attrWorld c).hop = attrHop c := rfl
@[simp] theorem attrWorld_attr (c : Class) : (attrWorld c).attr = attrAttr c := rfl

/-- the body of `while o_attr:` -/
def attrBody : List Stmt :=
  [ .assign "s_dt" (.call "get_attribute_type" ["o_attr"]),
    .assign "ty" (.call "_get_data_type_name" ["s_dt"]),
    .ite (.and (.not (.truthy (.var "derived_attributes"))) (.truthy (.nav { card := .one, start := "o_attr", hops := [{ cls := "O_BATTR", rel := 106, phrase := "" }, { cls := "O_DBATTR", rel := 107, phrase := "" }], filter := .all }))) [
      .pass ] [
      .ite (.not (.truthy (.var "ty"))) [
        .log ] [
        .appendPair "attributes" (.attr "o_attr" "Name") (.var "ty") ] ],
    .assign "o_attr" (.nav { card := .one, start := "o_attr", hops := [{ cls := "O_ATTR", rel := 103, phrase := "precedes" }], filter := .all }) ]

/-- the attribute loop of the generated `mk_class` IS this (breaks when the source changes) -/
theorem mk_class_attrLoop : (match mk_class.body with
    | [_, _, s, _, _, _, _, _] => s
    | _ => .pass) = .whileVar "o_attr" attrBody := rfl

/-- the list `attributes` as the interpreter holds it: `list()` until the first append -/
def accVal : List (String × String) → Val AI
  | [] => .strs []
  | p :: ps => .pairs (p :: ps)

def tyVal : Option String → Val AI
  | none => .inst none
  | some s => .str s

/-- the oracle reading of the two type calls: a token for the S_DT, and the model's type name for it -/
structure TyOracle (d : ClassDiagram) (c : Class) (cf : CallF AI) where
  tok : Nat → Val AI
  h1 : ∀ k L C, cf "get_attribute_type" [.inst (some (AI.pos k))] L C = .ok (tok k, C)
  h2 : ∀ k L C, cf "_get_data_type_name" [tok k] L C = .ok (tyVal ((c.attrs[k]?).bind (attrTy d)), C)

def pairOf (s : SAttr) : String × String := (s.name, s.ty)

theorem attrTy_ne (d : ClassDiagram) (a : Attr) (s : String) (h : attrTy d a = some s) : s ≠ "" := by
  obtain ⟨_, m⟩ := attrTy_mapsTo h
  clear h
  induction m with
  | core _ _ _ _ hne => exact fun he => hne ((upper_eq_empty _).mp he)
  | enum _ _ => decide
  | user _ _ _ ih => exact ih

theorem attrWorld_pos (c : Class) (k : Nat) (a : Attr) (hk : c.attrs[k]? = some a) :
    evalHops (attrWorld c) [.pos k] [⟨"O_BATTR", 106, ""⟩, ⟨"O_DBATTR", 107, ""⟩] = (if a.isDerived then [.dbattr k] else []) ∧
    (attrWorld c).hop (.pos k) ⟨"O_ATTR", 103, "precedes"⟩ =
      (if k + 1 < c.attrs.length then some (AI.pos (k + 1)) else none).toList ∧
    (attrWorld c).attr (.pos k) "Name" = .str a.name := by
  refine ⟨?_, ?_, ?_⟩
  · cases hak : a.kind <;> simp [xsh, attrHop, hp, hk, hak, Attr.isDerived]
  · by_cases h : k + 1 < c.attrs.length <;> simp [attrHop, h]
  · simp [attrAttr, hk]

theorem attrStep (d : ClassDiagram) (c : Class) (cf : CallF AI) (fuel : Nat) (O : TyOracle d c cf) (drv : Bool)
    (pre : List Attr) (a : Attr) (rest : List Attr) (hc : c.attrs = pre ++ a :: rest) (L : Loc AI) (C : Calls AI)
    (acc : List (String × String))
    (h1 : L "o_attr" = .inst (some (AI.pos pre.length))) (h2 : L "derived_attributes" = .bool drv)
    (h3 : L "attributes" = accVal acc) :
    ∃ L', iStmts (attrWorld c) cf fuel attrBody L C = .ok (L', C, .next) ∧
      L' "o_attr" = .inst (if rest = [] then none else some (AI.pos (pre.length + 1))) ∧
      L' "derived_attributes" = .bool drv ∧
      L' "attributes" = accVal (acc ++ ((sattr d drv a).map pairOf).toList) := by
  have hk : c.attrs[pre.length]? = some a := by simp [hc]
  have hnext : (if pre.length + 1 < c.attrs.length then some (AI.pos (pre.length + 1)) else none) =
      (if rest = [] then none else some (AI.pos (pre.length + 1))) := by
    cases rest <;> simp [hc]
  have o1 := O.h1 pre.length
  have o2 := O.h2 pre.length
  simp only [hk, Option.bind_some] at o2
  have hw := attrWorld_pos c pre.length a hk
  rw [hnext] at hw
  -- `not derived_attributes and one(o_attr).O_BATTR[106].O_DBATTR[107]()`, whatever else the locals hold
  have hcond : ∀ L' : Loc AI, L' "o_attr" = .inst (some (AI.pos pre.length)) → L' "derived_attributes" = .bool drv →
      eCond (attrWorld c) cf L' (.and (.not (.truthy (.var "derived_attributes"))) (.truthy (.nav { card := .one, start := "o_attr", hops := [{ cls := "O_BATTR", rel := 106, phrase := "" }, { cls := "O_DBATTR", rel := 107, phrase := "" }], filter := .all }))) C =
        .ok (!drv && a.isDerived, C) := by
    intro L' g1 g2
    cases drv <;> cases hd : a.isDerived <;> simp only [xsh, ↓hw.1, g1, g2, hd]
  have hs : sattr d drv a = if (!drv && a.isDerived) then none else (attrTy d a).map (fun t => ⟨a.name, t⟩) := by
    unfold sattr; cases drv <;> cases a.isDerived <;> cases attrTy d a <;> rfl
  rw [hs]
  cases hb : (!drv && a.isDerived) with
  | true =>
    simp only [xsh, attrBody, ↓hcond, hw.2.1, o1, o2, h1, h2, hb]
    exact ⟨_, rfl, by simp only [xsh], by simp only [xsh, h2], by simp only [xsh, h3, List.append_nil]⟩
  | false =>
    cases hty : attrTy d a with
    | none =>
      simp only [xsh, attrBody, ↓hcond, hw.2.1, o1, o2, h1, h2, hb, hty, tyVal]
      exact ⟨_, rfl, by simp only [xsh], by simp only [xsh, h2], by simp only [xsh, h3, List.append_nil]⟩
    | some s =>
      have hne : (s != "") = true := bne_iff_ne.mpr (attrTy_ne d a s hty)
      cases acc <;> simp only [xsh, attrBody, ↓hcond, hw.2.1, hw.2.2, o1, o2, h1, h2, h3, hb, hty, tyVal, accVal, hne]
      all_goals exact ⟨_, rfl, by simp only [xsh], by simp only [xsh, h2], by simp only [xsh, pairOf, List.cons_append]⟩

/-- the attribute loop of `mk_class` from any position of the R103 chain on -/
theorem attrLoop (d : ClassDiagram) (c : Class) (cf : CallF AI) (fuel : Nat) (O : TyOracle d c cf) (drv : Bool) :
    ∀ (rest pre : List Attr) (L : Loc AI) (C : Calls AI) (acc : List (String × String)) (n : Nat),
      c.attrs = pre ++ rest → L "o_attr" = .inst (if rest = [] then none else some (AI.pos pre.length)) →
      L "derived_attributes" = .bool drv → L "attributes" = accVal acc → rest.length < n →
      ∃ L', whileLoop "o_attr" (fun L' C' => iStmts (attrWorld c) cf fuel attrBody L' C') n L C = .ok (L', C, .next) ∧
        L' "attributes" = accVal (acc ++ (rest.filterMap (sattr d drv)).map pairOf) := by
  intro rest
  induction rest with
  | nil =>
    intro pre L C acc n _ h1 _ h3 hn
    cases n with
    | zero => omega
    | succ n => exact ⟨L, by simp [whileLoop, h1, truthy], by simpa using h3⟩
  | cons a rest ih =>
    intro pre L C acc n hc h1 h2 h3 hn
    cases n with
    | zero => omega
    | succ n =>
      have h1' : L "o_attr" = .inst (some (AI.pos pre.length)) := by simpa using h1
      obtain ⟨L1, hrun, g1, g2, g3⟩ := attrStep d c cf fuel O drv pre a rest hc L C acc h1' h2 h3
      obtain ⟨L', hL, hacc⟩ := ih (pre ++ [a]) L1 C (acc ++ ((sattr d drv a).map pairOf).toList) n
        (by simp [hc]) (by simpa using g1) g2 g3 (by simp at hn; omega)
      refine ⟨L', ?_, ?_⟩
      · simp only [whileLoop, h1', truthy, Option.isSome_some, hrun]
        exact hL
      · rw [hacc]
        cases h : sattr d drv a <;> simp [h]

end Pyx.XShape
