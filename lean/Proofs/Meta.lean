import PyxModel.Meta
import Proofs.Lib.ListExtra

/-! C02, one association: the two directed link maps under `relateOn` / `unrelateOn`.  For a symmetric association
    both are given in closed form (`relateOn_of_sym`, `unrelateOn_of_sym`); everything else follows from those, except
    what holds of ANY link maps: a relate adds the one pair at most (`mem_relateOn_src`), an unrelate only erases, and
    no pair between other instances (`Erased`). -/
namespace Pyx.Meta

@[simp] theorem upd_same {α : Type} (f : Nat → α) (a : Nat) (v : α) : upd f a v a = v := by simp [upd]
theorem upd_other {α : Type} (f : Nat → α) {a z : Nat} (v : α) (h : z ≠ a) : upd f a v z = f z := by simp [upd, h]

theorem upd_id {α : Type} (f : Nat → α) (a : Nat) : upd f a (f a) = f := by
  funext z; by_cases h : z = a <;> simp [upd, h]

theorem upd_upd {α : Type} (f : Nat → α) (a : Nat) (v w : α) : upd (upd f a v) a w = upd f a w := by
  funext z; by_cases h : z = a <;> simp [upd, h]

theorem forall_upd {α : Type} {P : α → Prop} {f : Nat → α} {a : Nat} {v : α} (hf : ∀ z, P (f z)) (hv : P v) (z : Nat) :
    P (upd f a v z) := by
  unfold upd; split
  · exact hv
  · exact hf z

theorem mem_upd_append {m : Inst → List Inst} {x y z w : Inst} :
    w ∈ upd m x (m x ++ [y]) z ↔ w ∈ m z ∨ (z = x ∧ w = y) := by
  by_cases h : z = x
  · subst h; simp
  · simp [upd, h]

theorem mem_upd_erase {m : Inst → List Inst} {x y z w : Inst} (hn : (m x).Nodup) :
    w ∈ upd m x ((m x).erase y) z ↔ w ∈ m z ∧ ¬ (z = x ∧ w = y) := by
  by_cases h : z = x
  · subst h; simp [hn.mem_erase_iff, and_comm]
  · simp [upd, h]

def Sym (l : ALinks) : Prop := ∀ x y, y ∈ l.src x ↔ x ∈ l.tgt y
def NoDup (l : ALinks) : Prop := (∀ x, (l.src x).Nodup) ∧ (∀ y, (l.tgt y).Nodup)
def Bounded (a : AssocSpec) (l : ALinks) : Prop :=
  (a.srcMany = false → ∀ x, (l.src x).length ≤ 1) ∧ (a.tgtMany = false → ∀ y, (l.tgt y).length ≤ 1)
def AInv (a : AssocSpec) (l : ALinks) : Prop := Sym l ∧ NoDup l ∧ Bounded a l

theorem connect_of_mem {many : Bool} {m : Inst → List Inst} {x y : Inst} (h : y ∈ m x) :
    connect many m x y = some m := by simp [connect, h]

theorem connect_of_not_mem {many : Bool} {m : Inst → List Inst} {x y : Inst} (h : y ∉ m x) :
    connect many m x y = if m x ≠ [] ∧ many = false then none else some (upd m x (m x ++ [y])) := by
  simp [connect, h]

theorem mem_of_connect {many : Bool} {m m' : Inst → List Inst} {x y z w : Inst} (h : connect many m x y = some m')
    (hw : w ∈ m' z) : w ∈ m z ∨ (z = x ∧ w = y) := by
  by_cases hy : y ∈ m x
  · rw [connect_of_mem hy] at h; cases h; exact Or.inl hw
  · rw [connect_of_not_mem hy] at h
    split at h <;> cases h
    exact mem_upd_append.1 hw

def Erased (x : Inst) (m' m : Inst → List Inst) : Prop :=
  ∀ z, (m' z).Sublist (m z) ∧ ∀ w, z ≠ x → w ≠ x → w ∈ m z → w ∈ m' z

theorem Erased.refl (x : Inst) (m : Inst → List Inst) : Erased x m m := fun _ => ⟨.refl _, fun _ _ _ h => h⟩

theorem Erased.trans {x : Inst} {a b c : Inst → List Inst} (h1 : Erased x a b) (h2 : Erased x b c) : Erased x a c :=
  fun z => ⟨(h1 z).1.trans (h2 z).1, fun w hz hw h => (h1 z).2 w hz hw ((h2 z).2 w hz hw h)⟩

theorem erased_of_disconnect {m m' : Inst → List Inst} {a b x : Inst} (h : disconnect m a b = some m')
    (hx : a = x ∨ b = x) : Erased x m' m := by
  unfold disconnect at h
  split at h <;> cases h
  intro z
  unfold upd
  split
  · subst z
    exact ⟨List.erase_sublist, fun w hz hw hm => (List.mem_erase_of_ne fun e => hx.elim hz fun e' => hw (e.trans e')).2 hm⟩
  · exact Erased.refl x m z

theorem disconnect_upd_append {m : Inst → List Inst} {x y : Inst} (h : y ∉ m x) :
    disconnect (upd m x (m x ++ [y])) x y = some m := by
  simp [disconnect, List.erase_append_right _ h, upd_upd, upd_id]

theorem relateOn_ok {a : AssocSpec} {l l' : ALinks} {x y : Inst} (h : relateOn a l x y = (l', .ok)) :
    ∃ s' t', connect a.srcMany l.src x y = some s' ∧ connect a.tgtMany l.tgt y x = some t' ∧
      l' = { src := s', tgt := t' } := by
  unfold relateOn at h
  split at h
  · cases h
  · rename_i s' hs
    split at h
    · split at h <;> cases h
    · rename_i t' ht
      cases h; exact ⟨s', t', hs, ht, rfl⟩

theorem relateOn_out (a : AssocSpec) (l : ALinks) (x y : Inst) :
    (relateOn a l x y).2 = .ok ∨ (relateOn a l x y).2 = .relateExc := by
  unfold relateOn
  split
  · exact Or.inr rfl
  · split
    · split <;> exact Or.inr rfl
    · exact Or.inl rfl

theorem mem_relateOn_src {a : AssocSpec} {l : ALinks} {x y z w : Inst} (h : w ∈ (relateOn a l x y).1.src z) :
    w ∈ l.src z ∨ (z = x ∧ w = y) := by
  unfold relateOn at h
  split at h
  · exact Or.inl h
  · rename_i s' hs
    split at h
    · split at h
      · rename_i s'' hd
        exact mem_of_connect hs ((erased_of_disconnect hd (.inl rfl) z).1.subset h)
      · exact mem_of_connect hs h
    · exact mem_of_connect hs h

theorem relateOn_of_sym {a : AssocSpec} {l : ALinks} {x y : Inst} (hsym : Sym l) :
    relateOn a l x y =
      if y ∈ l.src x then (l, .ok)
      else if (l.src x ≠ [] ∧ a.srcMany = false) ∨ (l.tgt y ≠ [] ∧ a.tgtMany = false) then (l, .relateExc)
      else ({ src := upd l.src x (l.src x ++ [y]), tgt := upd l.tgt y (l.tgt y ++ [x]) }, .ok) := by
  by_cases h1 : y ∈ l.src x
  · unfold relateOn
    rw [if_pos h1, connect_of_mem h1, connect_of_mem ((hsym x y).1 h1)]
  · have h2 : x ∉ l.tgt y := fun h => h1 ((hsym x y).2 h)
    unfold relateOn
    rw [connect_of_not_mem h1, connect_of_not_mem h2, if_neg h1]
    by_cases c1 : l.src x ≠ [] ∧ a.srcMany = false
    · rw [if_pos c1, if_pos (Or.inl c1)]
    · by_cases c2 : l.tgt y ≠ [] ∧ a.tgtMany = false
      · rw [if_neg c1, if_pos c2, if_pos (Or.inr c2)]
        -- the target end refuses after the source end has connected: the undo restores the source map
        simp only [disconnect_upd_append h1]
      · rw [if_neg c1, if_neg c2, if_neg (fun c => c.elim c1 c2)]

theorem relateOn_reject_atomic {a : AssocSpec} {l : ALinks} {x y : Inst} (hsym : Sym l)
    (h : (relateOn a l x y).2 = .relateExc) : (relateOn a l x y).1 = l := by
  rw [relateOn_of_sym hsym] at h ⊢
  split
  · rfl
  · split
    · rfl
    · rename_i h1 h2; rw [if_neg h1, if_neg h2] at h; cases h

theorem relateOn_inv {a : AssocSpec} {l : ALinks} {x y : Inst} (hinv : AInv a l) : AInv a (relateOn a l x y).1 := by
  rw [relateOn_of_sym hinv.1]
  split
  · exact hinv
  · split
    · exact hinv
    · rename_i hy h2
      have hs : ¬ (l.src x ≠ [] ∧ a.srcMany = false) := fun c => h2 (Or.inl c)
      have ht : ¬ (l.tgt y ≠ [] ∧ a.tgtMany = false) := fun c => h2 (Or.inr c)
      obtain ⟨hsym, hnd, hb⟩ := hinv
      have hx : x ∉ l.tgt y := fun hx => hy ((hsym x y).2 hx)
      refine ⟨fun z w => ?_, ⟨forall_upd hnd.1 ?_, forall_upd hnd.2 ?_⟩,
        fun hm => forall_upd (P := fun r : List Inst => r.length ≤ 1) (hb.1 hm) ?_, fun hm => forall_upd (P := fun r : List Inst => r.length ≤ 1) (hb.2 hm) ?_⟩
      · show w ∈ upd l.src x _ z ↔ z ∈ upd l.tgt y _ w
        rw [mem_upd_append, mem_upd_append, hsym z w, and_comm]
      · exact nodup_snoc (hnd.1 x) hy
      · exact nodup_snoc (hnd.2 y) hx
      · have : l.src x = [] := Classical.byContradiction fun hne => hs ⟨hne, hm⟩
        simp [this]
      · have : l.tgt y = [] := Classical.byContradiction fun hne => ht ⟨hne, hm⟩
        simp [this]

theorem relateOn_idempotent {a : AssocSpec} {l : ALinks} {x y : Inst} (hsym : Sym l) (hr : y ∈ l.src x) :
    relateOn a l x y = (l, .ok) := by
  rw [relateOn_of_sym hsym, if_pos hr]

theorem relateOn_reject_iff {a : AssocSpec} {l : ALinks} {x y : Inst} (hsym : Sym l) :
    (relateOn a l x y).2 = .relateExc ↔
      (y ∉ l.src x ∧ ((l.src x ≠ [] ∧ a.srcMany = false) ∨ (l.tgt y ≠ [] ∧ a.tgtMany = false))) := by
  rw [relateOn_of_sym hsym]
  by_cases h1 : y ∈ l.src x
  · rw [if_pos h1]; exact ⟨nofun, fun h => absurd h1 h.1⟩
  · by_cases h2 : (l.src x ≠ [] ∧ a.srcMany = false) ∨ (l.tgt y ≠ [] ∧ a.tgtMany = false)
    · rw [if_neg h1, if_pos h2]; exact ⟨fun _ => ⟨h1, h2⟩, fun _ => rfl⟩
    · rw [if_neg h1, if_neg h2]; exact ⟨nofun, fun h => absurd h.2 h2⟩

theorem unrelateOn_out (l : ALinks) (x y : Inst) :
    (unrelateOn l x y).2 = .ok ∨ (unrelateOn l x y).2 = .unrelateExc := by
  unfold unrelateOn
  split
  · exact Or.inr rfl
  · split
    · exact Or.inr rfl
    · exact Or.inl rfl

theorem erased_unrelateOn (l : ALinks) {a b x : Inst} (hx : a = x ∨ b = x) :
    Erased x (unrelateOn l a b).1.src l.src ∧ Erased x (unrelateOn l a b).1.tgt l.tgt := by
  unfold unrelateOn
  split
  · exact ⟨.refl x _, .refl x _⟩
  · rename_i s' hs
    split
    · exact ⟨erased_of_disconnect hs hx, .refl x _⟩
    · rename_i t' ht
      exact ⟨erased_of_disconnect hs hx, erased_of_disconnect ht hx.symm⟩

theorem unrelateOn_of_sym {l : ALinks} {x y : Inst} (hsym : Sym l) :
    unrelateOn l x y =
      if y ∈ l.src x then
        ({ src := upd l.src x ((l.src x).erase y), tgt := upd l.tgt y ((l.tgt y).erase x) }, .ok)
      else (l, .unrelateExc) := by
  by_cases h : y ∈ l.src x
  · simp [unrelateOn, disconnect, h, (hsym x y).1 h]
  · simp [unrelateOn, disconnect, h]

theorem unrelateOn_reject_atomic {l : ALinks} {x y : Inst} (hsym : Sym l)
    (h : (unrelateOn l x y).2 = .unrelateExc) : (unrelateOn l x y).1 = l := by
  rw [unrelateOn_of_sym hsym] at h ⊢
  split
  · rename_i h1; rw [if_pos h1] at h; cases h
  · rfl

theorem unrelateOn_reject_iff {l : ALinks} {x y : Inst} (hsym : Sym l) :
    (unrelateOn l x y).2 = .unrelateExc ↔ y ∉ l.src x := by
  rw [unrelateOn_of_sym hsym]
  by_cases h : y ∈ l.src x
  · rw [if_pos h]; exact ⟨nofun, fun e => absurd h e⟩
  · rw [if_neg h]; exact ⟨fun _ => h, fun _ => rfl⟩

theorem unrelateOn_inv {a : AssocSpec} {l : ALinks} {x y : Inst} (hinv : AInv a l) : AInv a (unrelateOn l x y).1 := by
  rw [unrelateOn_of_sym hinv.1]
  split
  · obtain ⟨hsym, hnd, hb⟩ := hinv
    have hle : ∀ (r : List Inst) (v : Inst), r.length ≤ 1 → (r.erase v).length ≤ 1 :=
      fun r v hr => Nat.le_trans List.length_erase_le hr
    refine ⟨fun z w => ?_, ⟨forall_upd hnd.1 ((hnd.1 x).erase y), forall_upd hnd.2 ((hnd.2 y).erase x)⟩,
      fun hm => forall_upd (P := fun r : List Inst => r.length ≤ 1) (hb.1 hm) (hle _ _ (hb.1 hm x)),
      fun hm => forall_upd (P := fun r : List Inst => r.length ≤ 1) (hb.2 hm) (hle _ _ (hb.2 hm y))⟩
    show w ∈ upd l.src x _ z ↔ z ∈ upd l.tgt y _ w
    rw [mem_upd_erase (hnd.1 x), mem_upd_erase (hnd.2 y), hsym z w, and_comm (a := z = x)]
  · exact hinv

theorem unrelateOn_undoes_relateOn {a : AssocSpec} {l l' : ALinks} {x y : Inst} (hsym : Sym l)
    (hnew : y ∉ l.src x) (hr : relateOn a l x y = (l', .ok)) : unrelateOn l' x y = (l, .ok) := by
  have hx : x ∉ l.tgt y := fun h => hnew ((hsym x y).2 h)
  rw [relateOn_of_sym hsym, if_neg hnew] at hr
  split at hr <;> cases hr
  simp [unrelateOn, disconnect_upd_append hnew, disconnect_upd_append hx]

end Pyx.Meta
