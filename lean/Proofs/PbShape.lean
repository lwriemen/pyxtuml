import Proofs.PrebuildFlat
import Gen.PbShape
import Proofs.Lib.SimpSets

/-!
  C06 source tie, statement structure of bridgepoint/prebuild.py: a GENERIC interpreter of the first-order IR that
  translator/gen_pbshape.py extracts (`Pyx.Gen.PbShape`), over the builder state `St` of PyxModel/Prebuild/Flat.lean.

  The interpreter (`evalA`, `evalE`, `exec`, `callFn`) is defined once, for ANY IR value; the generated constants enter with
  `mkEnv` (the method table), `stmtListBody` and the lemmas about a helper or a handler further down, and in the
  `*_as_in_source` theorems of Props/C06.lean.  What it fixes, once, is the meaning of the ATOMS (the hand-modelled environment):

    an instance                  = `V.inst i`: the i-th row of the flat population; model elements are named the way Flat.lean
                                   names them (`V.obj kl`, `V.rrel r`, `V.dt name`); `V.ghost` = an instance of a class that
                                   Flat.lean leaves out (V_LOC) or an opaque value (positions, the character stream)
    `self.new('<CLS>', k=v…)`    = `blankRow`: a new row appended, every referential attribute still EMPTY (0 / none / ""),
                                   the printed attributes (Value, Operator, cardinality, relationship_phrase, Name) from the
                                   keywords; unknown class = stuck
    `relate(a, b, n[, 'ph'])`    = `relateV`: xtuml.relate is symmetric in (a, b) for a non-reflexive association: the row of
                                   the class that HOLDS the referential attribute of association n (`setRef`, `setElem`: THE
                                   TABLE, read off the ooaofooa schema the way Flat.lean stores each association) is rewritten
                                   in place, provided the partner has the class the association demands (`partnerOk`);
                                   R661 is reflexive: `relate(x, y, 661, 'precedes')` writes Previous_Statement_ID of y := x,
                                   with 'succeeds' the roles are swapped; R682 / R683 store the Statement_ID of the ACT_IF's
                                   supertype row; R820 goes to the side table `tys`; R601 / R848 / R835 are not stored.
                                   None on either side: the asserting `relate` fails (`ok := false`), `xtuml.relate` does nothing
    `self.symtab.<m>`            = `curBlk` / `curObj` / `findSym` / `install` / `pushScope` / `popScope` of Flat.lean
    `self.find_symbol(node, n)`  = `lookupVar` of Flat.lean (ActionPrebuilder.find_symbol + the self-declaring override)
    `self.o_obj(kl)`, `r_rel`    = the class if it is in scope (`fc.classes`), the association by its name
    `self.accept(node.<child>)`  = an ORACLE supplied with the node (`Node.kids`, `Node.children`): any function of the
                                   interpreter state — the theorems instantiate it with the Flat.lean function of the child
    fuel                         = one unit per statement, sub-expression, call and loop round; exhaustion = stuck (`none`).
                                   A list of m statements whose deepest expression or call needs d runs on m + d, a call on
                                   the callee's need + 1, a loop on one more unit per child.  The theorems are stated for
                                   `n + k`, i.e. for EVERY fuel ≥ k, with k a bound above the handler's need (the helpers
                                   act_smt / v_val 12, v_var 7, v_int / v_ins 11; statement and literal handlers 20, the
                                   two operation handlers 30 / 40; the elif list, a loop, `children.length + n + 5`); the
                                   `call_…` lemmas for every `f` ≥ the need of the helper + 1 (`Nat.reduceLeDiff`
                                   discharges that).  `handle` fixes 60: above every constant k, not above a loop.
-/
namespace Pyx.PbShape
open Pyx.Prebuild Pyx.Prebuild.Flat Pyx.Gen.PbShape

inductive V where
  | none
  | bool (b : Bool)
  | str (s : String)
  | nat (n : Nat)
  | inst (i : Nat)
  | obj (kl : String)
  | rrel (r : String)
  | dt (name : String)
  | actAct
  | ghost (what : String)
  | node
  | child (i : Nat)
  deriving DecidableEq, Repr, Inhabited

/-- interpreter state: the builder state, `self.is_lvalue`, and R820 (V_VAL ↦ S_DT name) which FlatPop does not store -/
structure G where
  st : St
  lval : Bool := false
  tys : List (Nat × String) := []
  deriving Repr, Inhabited

abbrev Kw := List (String × V)
abbrev Acc := Kw → G → V × G

/-- the node being accepted: its string fields, what accepting each child does, and `node.children` -/
structure Node where
  strs : List (String × String) := []
  kids : List (String × Acc) := []
  children : List Acc := []

structure Fr where
  loc : Kw := []
  kwargs : Kw := []

def truthy : V → Bool
  | .none => false
  | .bool b => b
  | .str s => s != ""
  | .nat n => n != 0
  | _ => true

def Fr.get (fr : Fr) (x : String) : V := (fr.loc.lookup x).getD .none
def Fr.set (fr : Fr) (x : String) (v : V) : Fr := { fr with loc := (x, v) :: fr.loc }

def kwStr (kw : Kw) (k : String) : String :=
  match kw.lookup k with
  | some (.str s) => s
  | _ => ""

@[simp] def blankRow2 (cls : String) (kw : Kw) : Option (Option Row) :=
  if cls = "V_IRF" then some (some (.irf 0 0))
  else if cls = "V_ISR" then some (some (.isr 0 0))
  else if cls = "V_TVL" then some (some (.tvl 0 0))
  else if cls = "ACT_CR" then some (some (.cr 0 0 ""))
  else if cls = "ACT_FIO" then some (some (.fio 0 0 "" (kwStr kw "cardinality")))
  else if cls = "ACT_FOR" then some (some (.for_ 0 0 0 0 ""))
  else none

/-- `self.new('<cls>', k=v…)`: `some (some row)` a row with empty referentials, `some none` a class left out of FlatPop -/
def blankRow (cls : String) (kw : Kw) : Option (Option Row) :=
  if cls = "ACT_BLK" then some (some (.blk false))
  else if cls = "ACT_SMT" then some (some (.smt 0 none))
  else if cls = "ACT_RET" then some (some (.ret 0 none))
  else if cls = "ACT_BRK" then some (some (.brk 0))
  else if cls = "ACT_CON" then some (some (.con 0))
  else if cls = "ACT_CTL" then some (some (.ctl 0))
  else if cls = "ACT_CNV" then some (some (.cnv 0 ""))
  else if cls = "ACT_DEL" then some (some (.del 0 0))
  else if cls = "ACT_REL" then some (some (.rel 0 0 0 "" (kwStr kw "relationship_phrase")))
  else if cls = "ACT_RU" then some (some (.ru 0 0 0 0 "" (kwStr kw "relationship_phrase")))
  else if cls = "ACT_UNR" then some (some (.unr 0 0 0 "" (kwStr kw "relationship_phrase")))
  else if cls = "ACT_URU" then some (some (.uru 0 0 0 0 "" (kwStr kw "relationship_phrase")))
  else if cls = "ACT_WHL" then some (some (.whl 0 0 0))
  else if cls = "ACT_IF" then some (some (.if_ 0 0 0))
  else if cls = "ACT_EL" then some (some (.el 0 0 0 0))
  else if cls = "ACT_E" then some (some (.e 0 0 0))
  else if cls = "V_VAL" then some (some (.val 0))
  else if cls = "V_LIN" then some (some (.lin 0 (kwStr kw "Value")))
  else if cls = "V_LRL" then some (some (.lrl 0 (kwStr kw "Value")))
  else if cls = "V_LST" then some (some (.lst 0 (kwStr kw "Value")))
  else if cls = "V_LBO" then some (some (.lbo 0 (kwStr kw "Value")))
  else if cls = "V_UNY" then some (some (.uny 0 (kwStr kw "Operator") 0))
  else if cls = "V_BIN" then some (some (.bin 0 (kwStr kw "Operator") 0 0))
  else if cls = "V_SLR" then some (some (.slr 0))
  else if cls = "V_VAR" then some (some (.var (kwStr kw "Name") 0))
  else if cls = "V_INT" then some (some (.vint 0 ""))
  else if cls = "V_INS" then some (some (.vins 0 ""))
  else if cls = "V_TRN" then some (some (.vtrn 0))
  else if cls = "V_LOC" then some none
  else blankRow2 cls kw

@[simp] def setRef2 (rel : Nat) (r : Row) (k : Nat) : Option Row :=
  match rel, r with
  | 603, .cr _ v kl => some (.cr k v kl)
  | 603, .fio _ v kl c => some (.fio k v kl c)
  | 603, .for_ _ b v sv kl => some (.for_ k b v sv kl)
  | 633, .cr s _ kl => some (.cr s k kl)
  | 639, .fio s _ kl c => some (.fio s k kl c)
  | 605, .for_ s _ v sv kl => some (.for_ s k v sv kl)
  | 614, .for_ s b _ sv kl => some (.for_ s b k sv kl)
  | 652, .for_ s b v _ kl => some (.for_ s b v k kl)
  | 801, .irf _ v => some (.irf k v)
  | 801, .isr _ v => some (.isr k v)
  | 801, .tvl _ v => some (.tvl k v)
  | 808, .irf v _ => some (.irf v k)
  | 809, .isr v _ => some (.isr v k)
  | 805, .tvl v _ => some (.tvl v k)
  | _, _ => none

/-- THE TABLE, instance partners: association `rel`, held by row `r`, partner = row number `k` -/
def setRef (rel : Nat) (r : Row) (k : Nat) : Option Row :=
  match rel, r with
  | 602, .smt _ p => some (.smt k p)
  | 603, .ret _ v => some (.ret k v)
  | 603, .brk _ => some (.brk k)
  | 603, .con _ => some (.con k)
  | 603, .ctl _ => some (.ctl k)
  | 603, .cnv _ kl => some (.cnv k kl)
  | 603, .del _ v => some (.del k v)
  | 603, .rel _ a b rr ph => some (.rel k a b rr ph)
  | 603, .ru _ a b u rr ph => some (.ru k a b u rr ph)
  | 603, .unr _ a b rr ph => some (.unr k a b rr ph)
  | 603, .uru _ a b u rr ph => some (.uru k a b u rr ph)
  | 603, .whl _ b v => some (.whl k b v)
  | 603, .if_ _ b v => some (.if_ k b v)
  | 603, .el _ b v i => some (.el k b v i)
  | 603, .e _ b i => some (.e k b i)
  | 668, .ret s _ => some (.ret s (some k))
  | 634, .del s _ => some (.del s k)
  | 615, .rel s _ b rr ph => some (.rel s k b rr ph)
  | 616, .rel s a _ rr ph => some (.rel s a k rr ph)
  | 617, .ru s _ b u rr ph => some (.ru s k b u rr ph)
  | 618, .ru s a _ u rr ph => some (.ru s a k u rr ph)
  | 619, .ru s a b _ rr ph => some (.ru s a b k rr ph)
  | 620, .unr s _ b rr ph => some (.unr s k b rr ph)
  | 621, .unr s a _ rr ph => some (.unr s a k rr ph)
  | 622, .uru s _ b u rr ph => some (.uru s k b u rr ph)
  | 623, .uru s a _ u rr ph => some (.uru s a k u rr ph)
  | 624, .uru s a b _ rr ph => some (.uru s a b k rr ph)
  | 608, .whl s _ v => some (.whl s k v)
  | 626, .whl s b _ => some (.whl s b k)
  | 607, .if_ s _ v => some (.if_ s k v)
  | 625, .if_ s b _ => some (.if_ s b k)
  | 658, .el s _ v i => some (.el s k v i)
  | 659, .el s b _ i => some (.el s b k i)
  | 682, .el s b v _ => some (.el s b v k)
  | 606, .e s _ i => some (.e s k i)
  | 683, .e s b _ => some (.e s b k)
  | 826, .val _ => some (.val k)
  | 801, .lin _ x => some (.lin k x)
  | 801, .lrl _ x => some (.lrl k x)
  | 801, .lst _ x => some (.lst k x)
  | 801, .lbo _ x => some (.lbo k x)
  | 801, .uny _ o x => some (.uny k o x)
  | 801, .bin _ o l rr => some (.bin k o l rr)
  | 801, .slr _ => some (.slr k)
  | 804, .uny v o _ => some (.uny v o k)
  | 802, .bin v o _ rr => some (.bin v o k rr)
  | 803, .bin v o l _ => some (.bin v o l k)
  | 823, .var n _ => some (.var n k)
  | 814, .vint _ kl => some (.vint k kl)
  | 814, .vins _ kl => some (.vins k kl)
  | 814, .vtrn _ => some (.vtrn k)
  | rel, r => setRef2 rel r k

@[simp] def partnerOk2 (rel : Nat) (y : Row) : Bool :=
  match rel, y with
  | 633, .var _ _ | 639, .var _ _ | 614, .var _ _ | 652, .var _ _ | 808, .var _ _ | 809, .var _ _ | 805, .var _ _ => true
  | _, _ => false

/-- THE TABLE, the class the partner of `rel` must have (the row at the other end) -/
def partnerOk (rel : Nat) (y : Row) : Bool :=
  match rel, y with
  | 602, .blk _ | 605, .blk _ | 606, .blk _ | 607, .blk _ | 608, .blk _ | 658, .blk _ | 826, .blk _ | 823, .blk _ => true
  | 603, .smt _ _ => true
  | 682, .if_ _ _ _ | 683, .if_ _ _ _ => true
  | 668, .val _ | 626, .val _ | 625, .val _ | 659, .val _ | 801, .val _ | 802, .val _ | 803, .val _ | 804, .val _ => true
  | 634, .var _ _ | 615, .var _ _ | 616, .var _ _ | 617, .var _ _ | 618, .var _ _ | 619, .var _ _ | 620, .var _ _
  | 621, .var _ _ | 622, .var _ _ | 623, .var _ _ | 624, .var _ _ | 814, .var _ _ => true
  | rel, y => partnerOk2 rel y

@[simp] def setElem2 (rel : Nat) (r : Row) (y : V) : Option Row :=
  match rel, r, y with
  | 671, .cr s v _, .obj kl => some (.cr s v kl)
  | 677, .fio s v _ c, .obj kl => some (.fio s v kl c)
  | 670, .for_ s b v sv _, .obj kl => some (.for_ s b v sv kl)
  | _, _, _ => none

/-- THE TABLE, partners that are model elements: O_OBJ (R672, R818, R819), R_REL (R653 – R656), the ACT_ACT (R666 marks the
    outer block, R601 is not stored) -/
def setElem (rel : Nat) (r : Row) (y : V) : Option Row :=
  match rel, r, y with
  | 672, .cnv s _, .obj kl => some (.cnv s kl)
  | 818, .vint v _, .obj kl => some (.vint v kl)
  | 819, .vins v _, .obj kl => some (.vins v kl)
  | 653, .rel s a b _ ph, .rrel rr => some (.rel s a b rr ph)
  | 654, .ru s a b u _ ph, .rrel rr => some (.ru s a b u rr ph)
  | 655, .unr s a b _ ph, .rrel rr => some (.unr s a b rr ph)
  | 656, .uru s a b u _ ph, .rrel rr => some (.uru s a b u rr ph)
  | 666, .blk _, .actAct => some (.blk true)
  | 601, .blk o, .actAct => some (.blk o)
  | rel, r, y => setElem2 rel r y

/-- the key a link to row `k` stores: R682 / R683 name the ACT_IF by the Statement_ID it shares with its supertype row -/
def linkKey (rel : Nat) (k : Nat) (y : Row) : Nat :=
  match rel, y with
  | 682, .if_ s _ _ => s
  | 683, .if_ s _ _ => s
  | _, _ => k

/-- one direction: x holds the referential attribute -/
def linkFrom (p : FlatPop) (rel : Nat) (x y : V) : Option FlatPop :=
  match x with
  | .inst i =>
    match p[i]? with
    | some r =>
      (match y with
       | .inst k =>
         (match p[k]? with
          | some yr => if partnerOk rel yr then (setRef rel r (linkKey rel k yr)).map (fun r' => p.set i r') else none
          | none => none)
       | _ => (setElem rel r y).map (fun r' => p.set i r'))
    | none => none
  | _ => none

/-- R661: Previous_Statement_ID of `later` := `earlier` -/
def link661 (p : FlatPop) (earlier later : V) : Option FlatPop :=
  match earlier, later with
  | .inst e, .inst l =>
    (match p[e]?, p[l]? with
     | some (.smt _ _), some (.smt b _) => some (p.set l (.smt b (some e)))
     | _, _ => none)
  | _, _ => none

/-- R820 to an S_DT the model does not name (the type of a variable, R848, is `V.ghost`): not stored -/
@[simp] def relate820g (g : G) : V → V → Option G
  | .inst _, .ghost _ => some g
  | .ghost _, .inst _ => some g
  | _, _ => none

/-- `xtuml.relate(a, b, rel, phrase)` on instances that exist; `none`: xtuml raises (unknown association / classes) -/
def relateV (g : G) (a b : V) (rel : Nat) (phrase : String) : Option G :=
  if rel = 661 then
    if phrase = "precedes" then (link661 g.st.pop a b).map (fun p => { g with st := { g.st with pop := p } })
    else if phrase = "succeeds" then (link661 g.st.pop b a).map (fun p => { g with st := { g.st with pop := p } })
    else none
  else if rel = 820 then
    match a, b with
    | .inst v, .dt t => some { g with tys := (v, t) :: g.tys }
    | .dt t, .inst v => some { g with tys := (v, t) :: g.tys }
    | a, b => relate820g g a b
  else if rel = 848 || rel = 835 then some g
  else
    match linkFrom g.st.pop rel a b with
    | some p => some { g with st := { g.st with pop := p } }
    | none => (linkFrom g.st.pop rel b a).map (fun p => { g with st := { g.st with pop := p } })

def gfail (g : G) : G := { g with st := g.st.fail }

def readAttr (p : FlatPop) (v : V) (f : String) : V :=
  match v with
  | .inst i =>
    (match p[i]? with
     | some (.var n _) => if f = "Name" then .str n else .ghost f
     | _ => .ghost f)
  | _ => .ghost f

/-- one step `.<cls>[<rel>]` from one value; `none` = a step the interpreter does not know (stuck) -/
def navStep (g : G) (v : V) (s : Gen.PbShape.Step) : Option V :=
  match v with
  | .none => some .none
  | .inst i =>
    if s = ⟨"S_DT", 820, ""⟩ then some (match g.tys.lookup i with | some t => .dt t | none => .none)
    else if s = ⟨"V_VAR", 814, ""⟩ then
      (match g.st.pop[i]? with
       | some r => (match r.varOf with | some k => some (.inst k) | none => none)
       | none => none)
    else if s = ⟨"S_DT", 848, ""⟩ then some (.ghost "S_DT")
    else none
  | .dt t =>
    -- the generic reference types belong to no class: `.S_IRDT[17].O_OBJ[123]…` reaches nothing
    if s.cls = "S_IRDT" && s.rel = 17 then
      (if t = "inst_ref<Object>" || t = "inst_ref_set<Object>" then some .none else none)
    else none
  | .obj _ => if s = ⟨"S_IRDT", 123, ""⟩ then some .none else none   -- class-specific reference types are not modelled
  | _ => none

def navSteps (g : G) : V → List Gen.PbShape.Step → Option V
  | v, [] => some v
  | v, s :: rest => match navStep g v s with
    | some v' => navSteps g v' rest
    | none => none

/-- `==` on values, spelled out (identity of instances, equality of strings) -/
def veq : V → V → Bool
  | .none, .none => true
  | .bool a, .bool b => a == b
  | .str a, .str b => a == b
  | .nat a, .nat b => a == b
  | .inst a, .inst b => a == b
  | .obj a, .obj b => a == b
  | .rrel a, .rrel b => a == b
  | .dt a, .dt b => a == b
  | .actAct, .actAct => true
  | .ghost a, .ghost b => a == b
  | .node, .node => true
  | .child a, .child b => a == b
  | _, _ => false

structure Env where
  fc : FCtx
  nd : Node
  fns : List Fn

set_option linter.unusedVariables false in
def evalA (E : Env) (g : G) (fr : Fr) : A → V
  | .loc x => fr.get x
  | .none => .none
  | .tt => .bool true
  | .ff => .bool false
  | .str s => .str s
  | .nat n => .nat n
  | .node [] => .node
  | .node [f] => (match E.nd.strs.lookup f with | some s => .str s | none => .ghost f)
  | .node (f :: _) => .ghost f
  | .selfField f =>
    if f = "act_act" then .actAct
    else if f = "is_lvalue" then .bool g.lval
    else if f = "_o_obj" then (match E.fc.selfKl with | some kl => .obj kl | none => .none)
    else .ghost f
  | .attr a f => readAttr g.st.pop (evalA E g fr a) f
  | .lower a => (match evalA E g fr a with | .str s => .str (lowerStr s) | v => v)
  | .strUpper a => (match evalA E g fr a with | .str s => .str (String.ofList (s.toList.map Char.toUpper)) | v => v)
  | .slice1m1 a => (match evalA E g fr a with | .str s => .str (unquote s) | v => v)
  | .className a => .ghost "__class__"

def evalKw (E : Env) (g : G) (fr : Fr) (kw : List (String × A)) : Kw := kw.map (fun p => (p.1, evalA E g fr p.2))

def symtabCall (g : G) (fn : String) (args : List V) (kw : Kw) : Option (V × G) :=
  if fn = "find_symbol" then
    (match args, kw with
     | [], [("kind", .str k)] =>
       if k = "ACT_BLK" then some ((match curBlk g.st.scopes with | some b => .inst b | none => .none), g)
       else if k = "O_OBJ" then some ((match curObj g.st.scopes with | some kl => .obj kl | none => .none), g)
       else none
     | [.str n], [] => some ((match findSym g.st.scopes n with | some v => .inst v | none => .none), g)
     | _, _ => none)
  else if fn = "enter_scope" then
    (match args with
     | [.inst b] => some (.inst b, { g with st := pushScope (.blk b) g.st })
     | [.obj kl] => some (.obj kl, { g with st := pushScope (.obj kl) g.st })
     | _ => none)
  else if fn = "leave_scope" then some (.none, { g with st := popScope g.st })
  else if fn = "install_symbol" then
    (match args with
     | [.str n, .inst v] => some (.none, { g with st := { g.st with scopes := install g.st.scopes n v } })
     | _ => none)
  else none

/-- helpers that are atoms: model-element lookups and the (overridable) `find_symbol` -/
def atomCall (E : Env) (g : G) (fn : String) (args : List V) : Option (V × G) :=
  if fn = "o_obj" then
    (match args with
     | [.str kl] => some ((if E.fc.classes.contains kl then .obj kl else .none), g)
     | _ => none)
  else if fn = "r_rel" then (match args with | [.str r] => some (.rrel r, g) | _ => none)
  else if fn = "find_symbol" then
    (match args with
     | [.node, .str n] => let r := lookupVar E.fc n g.st; some ((match r.1 with | some v => .inst v | none => .none), { g with st := r.2 })
     | _ => none)
  else none

def bindParams : List String → List V → Kw → Option Fr
  | [], [], kw => if kw.isEmpty then some {} else none
  | ["**kwargs"], [], kw => some { kwargs := kw }
  | p :: ps, v :: vs, kw => (bindParams ps vs kw).map (fun fr => fr.set p v)
  | p :: ps, [], kw =>
    if p = "**kwargs" then none else
    match kw.lookup p with
    | some v => (bindParams ps [] (kw.filter (fun q => q.1 != p))).map (fun fr => fr.set p v)
    | none => none
  | [], _ :: _, _ => none

/-- the result of a statement list: fell through (the locals) or returned -/
inductive Ctl where
  | next (fr : Fr)
  | ret (v : V)

set_option linter.unusedVariables false in
mutual
  def evalE (E : Env) : Nat → G → Fr → Gen.PbShape.E → Option (V × G)
    | 0, _, _, _ => none
    | f + 1, g, fr, e =>
      match e with
      | .atom a => some (evalA E g fr a, g)
      | .call fn args kw star =>
        let vs := args.map (evalA E g fr)
        let kws := evalKw E g fr kw ++ (if star then fr.kwargs else [])
        (match atomCall E g fn vs with
         | some r => some r
         | none =>
           match E.fns.find? (fun fn' => fn'.name == fn) with
           | some fn' =>
             (match bindParams fn'.params vs kws with
              | some fr' =>
                (match exec E f g fr' fn'.body with
                 | some (.ret v, g') => some (v, g')
                 | some (.next _, g') => some (.none, g')
                 | none => none)
              | none => none)
           | none => none)
      | .selectAny cls k a =>
        (match evalA E g fr a with
         | .str n => if cls = "S_DT" && k = "Name" then some (.dt n, g) else none
         | _ => none)
      | .symtab fn args kw => symtabCall g fn (args.map (evalA E g fr)) (evalKw E g fr kw)
      | .accept child kw =>
        (match child with
         | .node [c] =>
           (match E.nd.kids.lookup c with
            | some acc => some (acc (evalKw E g fr kw) g)
            | none => some (.none, g))
         | .node [a, c] =>
           (match E.nd.kids.lookup (a ++ "." ++ c) with
            | some acc => some (acc (evalKw E g fr kw) g)
            | none => some (.none, g))
         | .loc x =>
           (match fr.get x with
            | .child i => (match E.nd.children[i]? with | some acc => some (acc (evalKw E g fr kw) g) | none => none)
            | _ => none)
         | _ => none)
      | .new cls kw star =>
        (match blankRow cls (evalKw E g fr kw ++ (if star then fr.kwargs else [])) with
         | some (some row) => let r := g.st.new row; some (.inst r.1, { g with st := r.2 })
         | some none => some (.ghost cls, g)
         | none => none)
      | .nav _ start steps filter =>
        -- filters only occur on steps whose result the interpreter does not distinguish (S_IRDT, O_OBJ by key letters)
        (navSteps g (evalA E g fr start) steps).map (fun v => (v, g))
      | .subtype a rel =>
        (match evalA E g fr a with
         | .inst v => if rel = 801 then some ((match g.st.pop.findIdx? (fun r => r.valOf == some v) with | some i => .inst i | none => .none), g) else none
         | _ => none)
      | .memOf a l => some (.bool ((l.map (evalA E g fr)).contains (evalA E g fr a)), g)
      | .or_ a b =>
        (match evalE E f g fr a with
         | some (v, g') => if truthy v then some (v, g') else evalE E f g' fr b
         | none => none)
      | .and_ a b =>
        (match evalE E f g fr a with
         | some (v, g') => if truthy v then evalE E f g' fr b else some (v, g')
         | none => none)
      | .not_ a => (match evalE E f g fr a with | some (v, g') => some (.bool (!truthy v), g') | none => none)
      | .isNone a => (match evalE E f g fr a with | some (v, g') => some (.bool (v == .none), g') | none => none)
      | .eq a b =>
        (match evalE E f g fr a with
         | some (v, g') => (match evalE E f g' fr b with | some (w, g'') => some (.bool (veq v w), g'') | none => none)
         | none => none)
  def exec (E : Env) : Nat → G → Fr → List S → Option (Ctl × G)
    | 0, _, _, _ => none
    | _ + 1, g, fr, [] => some (.next fr, g)
    | f + 1, g, fr, s :: rest =>
      match s with
      | .assign x e => (match evalE E f g fr e with | some (v, g') => exec E f g' (fr.set x v) rest | none => none)
      | .setAttr _ _ _ => exec E f g fr rest      -- positions, Label, isLValue, Declared: not in FlatPop
      | .setSelf fld a =>
        if fld = "is_lvalue" then exec E f { g with lval := truthy (evalA E g fr a) } fr rest else none
      | .relate asserting a b rel ph =>
        let va := evalA E g fr a
        let vb := evalA E g fr b
        if va = .none || vb = .none then (if asserting then exec E f (gfail g) fr rest else exec E f g fr rest)
        else (match relateV g va vb rel ph with | some g' => exec E f g' fr rest | none => none)
      | .expr e => (match evalE E f g fr e with | some (_, g') => exec E f g' fr rest | none => none)
      | .ifThen c thn els =>
        (match evalE E f g fr c with
         | some (v, g') =>
           (match exec E f g' fr (if truthy v then thn else els) with
            | some (.next fr', g'') => exec E f g'' fr' rest
            | r => r)
         | none => none)
      | .whileDo c body =>
        (match evalE E f g fr c with
         | some (v, g') =>
           if truthy v then
             (match exec E f g' fr body with
              | some (.next fr', g'') => exec E f g'' fr' (.whileDo c body :: rest)
              | r => r)
           else exec E f g' fr rest
         | none => none)
      | .forChildren x rev body =>
        (match loop E f g fr x body (if rev then (List.range E.nd.children.length).reverse else List.range E.nd.children.length) with
         | some (.next fr', g') => exec E f g' fr' rest
         | r => r)
      | .ret e => (match evalE E f g fr e with | some (v, g') => some (.ret v, g') | none => none)
      | .raise => some (.ret .none, gfail g)
  def loop (E : Env) : Nat → G → Fr → String → List S → List Nat → Option (Ctl × G)
    | 0, _, _, _, _, _ => none
    | _ + 1, g, fr, _, _, [] => some (.next fr, g)
    | f + 1, g, fr, x, body, i :: is =>
      match exec E f g (fr.set x (.child i)) body with
      | some (.next fr', g') => loop E f g' fr' x body is
      | r => r
end

/-- `self.<fn>(node, args…)` of the generated method table -/
def callFn (E : Env) (fuel : Nat) (fn : Fn) (args : List V) (kw : Kw) (g : G) : Option (V × G) :=
  match bindParams fn.params args kw with
  | some fr =>
    (match exec E fuel g fr fn.body with
     | some (.ret v, g') => some (v, g')
     | some (.next _, g') => some (.none, g')
     | none => none)
  | none => none

def mkEnv (fc : FCtx) (nd : Node) : Env := { fc := fc, nd := nd, fns := methods }

def handle (fc : FCtx) (fn : Fn) (nd : Node) (kw : Kw) (g : G) : Option (V × G) :=
  callFn (mkEnv fc nd) 60 fn [.node] kw g

/-- the handle of the current block scope is an ACT_BLK row (the real code passes the instance itself) -/
def BlkOK (st : St) : Prop := ∀ b, curBlk st.scopes = some b → ∃ o, st.pop[b]? = some (.blk o)

def stmtListBody : List S :=
  match accept_StatementListNode.body with
  | [_, .forChildren _ _ body] => body
  | _ => []

/-- Flat.lean's deviation in form, made explicit: Previous_Statement_ID of the ACT_SMT row `s` := prev, written AFTER the
    child was accepted (Flat.lean writes it when it creates the row) -/
def linkPrev (prev : Option Nat) (s : Nat) (st : St) : St :=
  match prev, st.pop[s]? with
  | some e, some (.smt b _) => { st with pop := st.pop.set s (.smt b (some e)) }
  | _, _ => st

/-- an optional row number as a value: what `find_symbol` answers, what the loop variable `prev` holds -/
def prevV : Option Nat → V
  | none => .none
  | some e => .inst e

/-- the oracle for a statement child: Flat.lean's `buildStmt` with NO predecessor (the handler itself never writes R661) -/
def stmtAcc (fc : FCtx) (s : Stmt) : Acc := fun _ g => let r := buildStmt fc none s g.st; (.inst r.1, { g with st := r.2 })

/-- the generated loop body with the two instances of the R661 relate SWAPPED (a hand-made mutant, for non-vacuity) -/
def stmtListBodySwapped : List S :=
  [ .assign "act_smt" (.accept (.loc "child") []),
    .relate false (.loc "act_smt") (.loc "prev") 661 "precedes",
    .assign "prev" (.atom (.loc "act_smt")) ]

/-- … and with the other phrase, which relates in the other direction -/
def stmtListBodySucceeds : List S :=
  [ .assign "act_smt" (.accept (.loc "child") []),
    .relate false (.loc "prev") (.loc "act_smt") 661 "succeeds",
    .assign "prev" (.atom (.loc "act_smt")) ]

def demoG : G := { st := { pop := [.blk true, .smt 0 none, .brk 1], scopes := [⟨.blk 0, []⟩] } }
def demoNd : Node := { children := [stmtAcc { ees := [], classes := [] } .cont] }
def demoFr : Fr := (({} : Fr).set "prev" (.inst 1)).set "child" (.child 0)

/-- accepting an optional child (`self.accept(None)` answers None) -/
def kid (nd : Node) (c : String) : Acc := match nd.kids.lookup c with | some a => a | none => fun _ g => (.none, g)

/-- what a look-up answers is a V_VAR row of the population it leaves -/
def VarAns (r : Option Nat × St) : Prop := ∀ v, r.1 = some v → ∃ nm b, r.2.pop[v]? = some (.var nm b)

/-- `relate(a, b, n[, 'ph'])` / `xtuml.relate(…)` once its two atoms are evaluated -/
def relStep (asserting : Bool) (g : G) (va vb : V) (rel : Nat) (ph : String) : Option G :=
  if va = .none || vb = .none then some (if asserting then gfail g else g) else relateV g va vb rel ph

/-! ### the equations of the interpreter

  One per statement form and per expression form (simp set `pb`).  A sub-run is sequenced with `andThen` / `thenExec`, not with
  `match`: simp reduces a `match` on a constructor silently, and the kernel, asked to confirm that
  `match some r with | some r => exec … | none => none` is `exec …`, unfolds `exec` first (the taller definition) and so RUNS
  the rest of the handler.  With a combinator every step is a rewrite by a lemma, and the congruence lemmas keep simp out of
  a continuation until the step in front of it is a value.  An equation that holds by `rfl` is proved by `id rfl`: simp
  applies an `rfl`-lemma silently, which the kernel has to replay and a discharger or congruence hypothesis cannot use.
  Forms without an equation: `.whileDo` (accept_FieldAccessNode, accept_EnumOrNamedConstantNode), `.raise`
  (accept_VariableAccessNode, accept_EnumOrNamedConstantNode), `.subtype` (accept_FieldAccessNode) and `.not_`
  (accept_VariableAccessNode; `find_symbol`, `find_symbol_self`) occur only in handlers that are not tied and in the two
  look-up helpers, which are never run from the table (`atomCall` answers `find_symbol` first, with `lookupVar`); `.setSelf`
  and a reversed `forChildren` occur in no function of Gen/PbShape.lean.  The table rows below are those of the associations
  the tied handlers relate. -/

def andThen {α β} (o : Option α) (k : α → Option β) : Option β :=
  match o with
  | some a => k a
  | none => none
@[congr] theorem andThen_congr {α β} {o o' : Option α} (h : o = o') (k : α → Option β) : andThen o k = andThen o' k := by rw [h]
@[pb] theorem andThen_some {α β} (a : α) (k : α → Option β) : andThen (some a) k = k a := id rfl

def thenExec (r : Option (Ctl × G)) (k : Fr → G → Option (Ctl × G)) : Option (Ctl × G) :=
  match r with
  | some (.next fr, g) => k fr g
  | r => r
@[congr] theorem thenExec_congr {r r' : Option (Ctl × G)} (h : r = r') (k : Fr → G → Option (Ctl × G)) :
    thenExec r k = thenExec r' k := by rw [h]
@[pb] theorem thenExec_next (fr : Fr) (g : G) (k : Fr → G → Option (Ctl × G)) : thenExec (some (.next fr, g)) k = k fr g := id rfl

def retOf : Option (Ctl × G) → Option (V × G)
  | some (.ret v, g) => some (v, g)
  | some (.next _, g) => some (.none, g)
  | none => none
@[pb] theorem retOf_ret (v : V) (g : G) : retOf (some (.ret v, g)) = some (v, g) := id rfl
@[pb] theorem retOf_next (fr : Fr) (g : G) : retOf (some (.next fr, g)) = some (.none, g) := id rfl

def newInst (g : G) (cls : String) : Option Row → V × G
  | some row => (.inst g.st.pop.length, { g with st := { g.st with pop := g.st.pop ++ [row] } })
  | none => (.ghost cls, g)
@[pb] theorem newInst_some (g : G) (cls : String) (row : Row) :
    newInst g cls (some row) = (.inst g.st.pop.length, { g with st := { g.st with pop := g.st.pop ++ [row] } }) := id rfl
@[pb] theorem newInst_none (g : G) (cls : String) : newInst g cls none = (.ghost cls, g) := id rfl

@[pb] theorem Fr.get_set (fr : Fr) (x : String) (v : V) : (fr.set x v).get x = v := by
  simp [Fr.get, Fr.set]
/-- with `≠` (not `!=`) on the names: `ne_eq` and `String.reduceEq` give a proof term, `String.reduceBEq` leaves the comparison to the kernel -/
@[pb] theorem Fr.get_set_ne (fr : Fr) {x y : String} (v : V) (h : x ≠ y) : (fr.set y v).get x = fr.get x := by
  simp [Fr.get, Fr.set, List.lookup, beq_false_of_ne h]
@[pb] theorem Fr.kwargs_set (fr : Fr) (x : String) (v : V) : (fr.set x v).kwargs = fr.kwargs := id rfl
@[pb] theorem Fr.get_ite (c : Prop) [Decidable c] (a b : Fr) (x : String) :
    (if c then a else b).get x = if c then a.get x else b.get x := by
  split <;> rfl

@[pb] theorem bindParams_kw (p : String) (v : V) (h : p ≠ "**kwargs") :
    bindParams [p] [] [(p, v)] = some (({} : Fr).set p v) := by
  simp [bindParams, h]

@[pb] theorem lookup_cons_ne {β} {k a : String} (b : β) (es : List (String × β)) (h : k ≠ a) :
    List.lookup k ((a, b) :: es) = List.lookup k es := by
  simp [List.lookup, beq_false_of_ne h]

section
variable (E : Env) (f : Nat) (g : G) (fr : Fr) (rest : List S)

@[pb] theorem callFn_eq (fn : Fn) (args : List V) (kw : Kw) :
    callFn E f fn args kw g = andThen (bindParams fn.params args kw) (fun fr => retOf (exec E f g fr fn.body)) := by
  unfold callFn
  cases bindParams fn.params args kw <;> rfl

@[pb] theorem exec_nil : exec E (f + 1) g fr [] = some (.next fr, g) := id rfl
@[pb] theorem exec_assign (x : String) (e : Gen.PbShape.E) :
    exec E (f + 1) g fr (.assign x e :: rest) = andThen (evalE E f g fr e) (fun r => exec E f r.2 (fr.set x r.1) rest) := by
  simp only [exec]
  cases evalE E f g fr e <;> rfl
@[pb] theorem exec_setAttr (x a : String) (b : A) : exec E (f + 1) g fr (.setAttr x a b :: rest) = exec E f g fr rest :=
  id rfl
@[pb] theorem exec_relate (as : Bool) (a b : A) (rel : Nat) (ph : String) :
    exec E (f + 1) g fr (.relate as a b rel ph :: rest)
      = andThen (relStep as g (evalA E g fr a) (evalA E g fr b) rel ph) (fun g' => exec E f g' fr rest) := by
  simp only [exec, relStep]
  split
  · cases as <;> rfl
  · cases relateV g (evalA E g fr a) (evalA E g fr b) rel ph <;> rfl
@[pb] theorem exec_expr (e : Gen.PbShape.E) :
    exec E (f + 1) g fr (.expr e :: rest) = andThen (evalE E f g fr e) (fun r => exec E f r.2 fr rest) := by
  simp only [exec]
  cases evalE E f g fr e <;> rfl
@[pb] theorem exec_ifThen (c : Gen.PbShape.E) (thn els : List S) :
    exec E (f + 1) g fr (.ifThen c thn els :: rest)
      = andThen (evalE E f g fr c) (fun r =>
          thenExec (exec E f r.2 fr (if truthy r.1 then thn else els)) (fun fr' g' => exec E f g' fr' rest)) := by
  simp only [exec]
  cases evalE E f g fr c <;> rfl
@[pb] theorem exec_forChildren (x : String) (body : List S) :
    exec E (f + 1) g fr (.forChildren x false body :: rest)
      = thenExec (loop E f g fr x body (List.range E.nd.children.length)) (fun fr' g' => exec E f g' fr' rest) := id rfl
@[pb] theorem exec_ret (e : Gen.PbShape.E) :
    exec E (f + 1) g fr (.ret e :: rest) = andThen (evalE E f g fr e) (fun r => some (.ret r.1, r.2)) := by
  simp only [exec]
  cases evalE E f g fr e <;> rfl

@[pb] theorem evalE_atom (a : A) : evalE E (f + 1) g fr (.atom a) = some (evalA E g fr a, g) := id rfl
@[pb] theorem evalE_new (cls : String) (kw : List (String × A)) (star : Bool) :
    evalE E (f + 1) g fr (.new cls kw star)
      = (blankRow cls (evalKw E g fr kw ++ (if star then fr.kwargs else []))).map (newInst g cls) := by
  simp only [evalE]
  cases blankRow cls (evalKw E g fr kw ++ (if star then fr.kwargs else [])) with
  | none => rfl
  | some r => cases r <;> rfl
@[pb] theorem evalE_selectAny (cls k : String) (a : A) :
    evalE E (f + 1) g fr (.selectAny cls k a)
      = match evalA E g fr a with
        | .str n => if cls = "S_DT" && k = "Name" then some (.dt n, g) else none
        | _ => none := id rfl
@[pb] theorem evalE_symtab (fn : String) (args : List A) (kw : List (String × A)) :
    evalE E (f + 1) g fr (.symtab fn args kw) = symtabCall g fn (args.map (evalA E g fr)) (evalKw E g fr kw) := id rfl
@[pb] theorem evalE_accept (c : String) (kw : List (String × A)) :
    evalE E (f + 1) g fr (.accept (.node [c]) kw) = some (kid E.nd c (evalKw E g fr kw) g) := by
  simp only [evalE, kid]
  cases E.nd.kids.lookup c <;> rfl
@[pb] theorem evalE_accept2 (a c : String) (kw : List (String × A)) :
    evalE E (f + 1) g fr (.accept (.node [a, c]) kw) = some (kid E.nd (a ++ "." ++ c) (evalKw E g fr kw) g) := by
  simp only [evalE, kid]
  cases E.nd.kids.lookup (a ++ "." ++ c) <;> rfl
@[pb] theorem evalE_acceptChild (x : String) (kw : List (String × A)) :
    evalE E (f + 1) g fr (.accept (.loc x) kw)
      = match fr.get x with
        | .child i => (match E.nd.children[i]? with | some acc => some (acc (evalKw E g fr kw) g) | none => none)
        | _ => none := id rfl
@[pb] theorem evalE_nav (k : NavKind) (start : A) (steps : List Gen.PbShape.Step) (filter : Filter) :
    evalE E (f + 1) g fr (.nav k start steps filter) = (navSteps g (evalA E g fr start) steps).map (fun v => (v, g)) :=
  id rfl
@[pb] theorem evalE_memOf (a : A) (l : List A) :
    evalE E (f + 1) g fr (.memOf a l) = some (.bool ((l.map (evalA E g fr)).contains (evalA E g fr a)), g) := id rfl
@[pb] theorem evalE_or (a b : Gen.PbShape.E) :
    evalE E (f + 1) g fr (.or_ a b)
      = andThen (evalE E f g fr a) (fun r => if truthy r.1 then some r else evalE E f r.2 fr b) := by
  simp only [evalE]
  cases evalE E f g fr a <;> rfl
@[pb] theorem evalE_and (a b : Gen.PbShape.E) :
    evalE E (f + 1) g fr (.and_ a b)
      = andThen (evalE E f g fr a) (fun r => if truthy r.1 then evalE E f r.2 fr b else some r) := by
  simp only [evalE]
  cases evalE E f g fr a <;> rfl
@[pb] theorem evalE_isNone (a : Gen.PbShape.E) :
    evalE E (f + 1) g fr (.isNone a) = andThen (evalE E f g fr a) (fun r => some (.bool (r.1 == .none), r.2)) := by
  simp only [evalE]
  cases evalE E f g fr a <;> rfl
@[pb] theorem evalE_eq (a b : Gen.PbShape.E) :
    evalE E (f + 1) g fr (.eq a b)
      = andThen (evalE E f g fr a) (fun r =>
          andThen (evalE E f r.2 fr b) (fun r' => some (.bool (veq r.1 r'.1), r'.2))) := by
  simp only [evalE]
  cases evalE E f g fr a with
  | none => rfl
  | some r =>
    obtain ⟨v, g'⟩ := r
    simp only [andThen]
    cases evalE E f g' fr b <;> rfl

theorem evalE_call (fn : String) (args : List A) (kw : List (String × A)) (star : Bool)
    (fn' : Fn) (ha : atomCall E g fn (args.map (evalA E g fr)) = none) (hf : E.fns.find? (fun x => x.name == fn) = some fn') :
    evalE E (f + 1) g fr (.call fn args kw star)
      = callFn E f fn' (args.map (evalA E g fr)) (evalKw E g fr kw ++ (if star then fr.kwargs else [])) g := by
  simp [evalE, callFn, ha, hf]

/-- a call: an atom (`o_obj`, `r_rel`, `find_symbol`) if `atomCall` knows it, else a method of the generated table; the calls
    of `act_smt`, `v_val`, `s_dt` are rewritten before this equation is tried (`↓call_…`), those of the declaring helpers
    through it (Proofs/PbShapeDecl.lean) -/
@[pb] theorem evalE_call_atom (fn : String) (args : List A) (kw : List (String × A)) (star : Bool) :
    evalE E (f + 1) g fr (.call fn args kw star)
      = match atomCall E g fn (args.map (evalA E g fr)) with
        | some r => some r
        | none => (match E.fns.find? (fun x => x.name == fn) with
          | some fn' => callFn E f fn' (args.map (evalA E g fr)) (evalKw E g fr kw ++ (if star then fr.kwargs else [])) g
          | none => none) := by
  simp only [evalE, callFn]
@[pb] theorem atomCall_find_symbol (n : String) :
    atomCall E g "find_symbol" [.node, .str n]
      = some (prevV (lookupVar E.fc n g.st).1, { g with st := (lookupVar E.fc n g.st).2 }) := by
  simp only [atomCall, String.reduceEq, ↓reduceIte]
  cases (lookupVar E.fc n g.st).1 <;> rfl
@[pb] theorem atomCall_o_obj (kl : String) :
    atomCall E g "o_obj" [.str kl] = some (if E.fc.classes.contains kl then .obj kl else .none, g) := id rfl
@[pb] theorem atomCall_r_rel (r : String) : atomCall E g "r_rel" [.str r] = some (.rrel r, g) := id rfl
@[pb ↓] theorem evalE_cur_blk :
    evalE E (f + 1) g fr (.symtab "find_symbol" [] [("kind", .str "ACT_BLK")]) = some (prevV (curBlk g.st.scopes), g) := by
  simp only [evalE, symtabCall, evalKw, List.map, evalA]
  cases curBlk g.st.scopes <;> rfl
end

@[simp] theorem mkEnv_nd (fc : FCtx) (nd : Node) : (mkEnv fc nd).nd = nd := id rfl
@[simp] theorem mkEnv_fc (fc : FCtx) (nd : Node) : (mkEnv fc nd).fc = fc := id rfl

attribute [pb] evalA evalKw mkEnv_nd mkEnv_fc bindParams symtabCall blankRow blankRow2 kwStr truthy relateV curBlkD
  List.lookup_cons_self List.isEmpty_nil List.map_cons List.map_nil List.append_nil List.nil_append
  Option.map_some Option.getD_some Option.getD_none Option.isSome_some Option.isSome_none
  Bool.and_true Bool.or_false Bool.false_or Bool.or_self Bool.false_eq_true
  decide_true decide_false ne_eq not_false_eq_true not_true_eq_false implies_true ite_self
attribute [pb_proc ↓] reduceIte
attribute [pb_proc] String.reduceEq String.reduceAppend Nat.reduceEqDiff Nat.reduceLeDiff reduceCtorEq

theorem getElem?_lt {α} {l : List α} {i : Nat} {x : α} (h : l[i]? = some x) : i < l.length := getElem?_lt_of_some h

theorem getElem?_app {α} {l : List α} {i : Nat} {x : α} (h : l[i]? = some x) (d : List α) : (l ++ d)[i]? = some x := by
  rw [List.getElem?_append_left (getElem?_lt h)]; exact h

/-- the side condition is one simp can discharge from a known `P[k]? = some y` -/
@[pb] theorem getElem?_append_some {α} (P d : List α) (k : Nat) (h : (P[k]?).isSome) : (P ++ d)[k]? = P[k]? := by
  obtain ⟨y, hy⟩ := Option.isSome_iff_exists.mp h
  rw [getElem?_app hy, hy]

@[pb] theorem set_last {α} (P : List α) (r0 r' : α) : (P ++ [r0]).set P.length r' = P ++ [r'] := by simp

attribute [pb] List.getElem?_concat_length

attribute [pb] guard_true
theorem guard_pop (st : St) (c : Bool) : (st.guard c).pop = st.pop := Flat.guard_pop st c
theorem guard_scopes (st : St) (c : Bool) : (st.guard c).scopes = st.scopes := Flat.guard_scopes st c

@[pb] theorem newSmt_row (st : St) : (newSmt none st).2.pop[(newSmt none st).1]? = some (.smt (curBlkD st.scopes) none) := by
  simp [newSmt, St.new]
@[pb] theorem newVal_row (st : St) : (newVal st).2.pop[(newVal st).1]? = some (.val (curBlkD st.scopes)) := by
  simp [newVal, St.new]

/-- Previous_Statement_ID written after the subtype row `r` has been appended = written when the ACT_SMT row is created -/
theorem linkPrev_newSmt (prev : Option Nat) (st : St) (r : Row) :
    linkPrev prev (newSmt none st).1 ((newSmt none st).2.new r).2 = ((newSmt prev st).2.new r).2 := by
  cases prev <;> simp [linkPrev, newSmt, St.new, guard_eq]

/-! ### the link tables, row by row

  simp cannot reduce a `match` on numerals and would build the splitter of these fifty-way matches in every call. -/

section
variable (s a b u v i k : Nat) (p q : Option Nat) (w : Bool) (kl c r ph x o n : String)

@[pb] theorem setRef_602_smt : setRef 602 (.smt b p) k = some (.smt k p) := id rfl
@[pb] theorem setRef_603_ret : setRef 603 (.ret s q) k = some (.ret k q) := id rfl
@[pb] theorem setRef_603_brk : setRef 603 (.brk s) k = some (.brk k) := id rfl
@[pb] theorem setRef_603_con : setRef 603 (.con s) k = some (.con k) := id rfl
@[pb] theorem setRef_603_ctl : setRef 603 (.ctl s) k = some (.ctl k) := id rfl
@[pb] theorem setRef_603_cnv : setRef 603 (.cnv s kl) k = some (.cnv k kl) := id rfl
@[pb] theorem setRef_603_del : setRef 603 (.del s v) k = some (.del k v) := id rfl
@[pb] theorem setRef_603_rel : setRef 603 (.rel s a b r ph) k = some (.rel k a b r ph) := id rfl
@[pb] theorem setRef_603_ru : setRef 603 (.ru s a b u r ph) k = some (.ru k a b u r ph) := id rfl
@[pb] theorem setRef_603_unr : setRef 603 (.unr s a b r ph) k = some (.unr k a b r ph) := id rfl
@[pb] theorem setRef_603_uru : setRef 603 (.uru s a b u r ph) k = some (.uru k a b u r ph) := id rfl
@[pb] theorem setRef_603_whl : setRef 603 (.whl s b v) k = some (.whl k b v) := id rfl
@[pb] theorem setRef_603_if : setRef 603 (.if_ s b v) k = some (.if_ k b v) := id rfl
@[pb] theorem setRef_603_el : setRef 603 (.el s b v i) k = some (.el k b v i) := id rfl
@[pb] theorem setRef_603_e : setRef 603 (.e s b i) k = some (.e k b i) := id rfl
@[pb] theorem setRef_603_cr : setRef 603 (.cr s v kl) k = some (.cr k v kl) := id rfl
@[pb] theorem setRef_603_fio : setRef 603 (.fio s v kl c) k = some (.fio k v kl c) := id rfl
@[pb] theorem setRef_668_ret : setRef 668 (.ret s q) k = some (.ret s (some k)) := id rfl
@[pb] theorem setRef_634_del : setRef 634 (.del s v) k = some (.del s k) := id rfl
@[pb] theorem setRef_615_rel : setRef 615 (.rel s a b r ph) k = some (.rel s k b r ph) := id rfl
@[pb] theorem setRef_616_rel : setRef 616 (.rel s a b r ph) k = some (.rel s a k r ph) := id rfl
@[pb] theorem setRef_617_ru : setRef 617 (.ru s a b u r ph) k = some (.ru s k b u r ph) := id rfl
@[pb] theorem setRef_618_ru : setRef 618 (.ru s a b u r ph) k = some (.ru s a k u r ph) := id rfl
@[pb] theorem setRef_619_ru : setRef 619 (.ru s a b u r ph) k = some (.ru s a b k r ph) := id rfl
@[pb] theorem setRef_620_unr : setRef 620 (.unr s a b r ph) k = some (.unr s k b r ph) := id rfl
@[pb] theorem setRef_621_unr : setRef 621 (.unr s a b r ph) k = some (.unr s a k r ph) := id rfl
@[pb] theorem setRef_622_uru : setRef 622 (.uru s a b u r ph) k = some (.uru s k b u r ph) := id rfl
@[pb] theorem setRef_623_uru : setRef 623 (.uru s a b u r ph) k = some (.uru s a k u r ph) := id rfl
@[pb] theorem setRef_624_uru : setRef 624 (.uru s a b u r ph) k = some (.uru s a b k r ph) := id rfl
@[pb] theorem setRef_608_whl : setRef 608 (.whl s b v) k = some (.whl s k v) := id rfl
@[pb] theorem setRef_626_whl : setRef 626 (.whl s b v) k = some (.whl s b k) := id rfl
@[pb] theorem setRef_607_if : setRef 607 (.if_ s b v) k = some (.if_ s k v) := id rfl
@[pb] theorem setRef_625_if : setRef 625 (.if_ s b v) k = some (.if_ s b k) := id rfl
@[pb] theorem setRef_658_el : setRef 658 (.el s b v i) k = some (.el s k v i) := id rfl
@[pb] theorem setRef_659_el : setRef 659 (.el s b v i) k = some (.el s b k i) := id rfl
@[pb] theorem setRef_682_el : setRef 682 (.el s b v i) k = some (.el s b v k) := id rfl
@[pb] theorem setRef_606_e : setRef 606 (.e s b i) k = some (.e s k i) := id rfl
@[pb] theorem setRef_683_e : setRef 683 (.e s b i) k = some (.e s b k) := id rfl
@[pb] theorem setRef_826_val : setRef 826 (.val b) k = some (.val k) := id rfl
@[pb] theorem setRef_801_lin : setRef 801 (.lin v x) k = some (.lin k x) := id rfl
@[pb] theorem setRef_801_lrl : setRef 801 (.lrl v x) k = some (.lrl k x) := id rfl
@[pb] theorem setRef_801_lst : setRef 801 (.lst v x) k = some (.lst k x) := id rfl
@[pb] theorem setRef_801_lbo : setRef 801 (.lbo v x) k = some (.lbo k x) := id rfl
@[pb] theorem setRef_801_uny : setRef 801 (.uny v o a) k = some (.uny k o a) := id rfl
@[pb] theorem setRef_801_bin : setRef 801 (.bin v o a b) k = some (.bin k o a b) := id rfl
@[pb] theorem setRef_801_slr : setRef 801 (.slr v) k = some (.slr k) := id rfl
@[pb] theorem setRef_801_irf : setRef 801 (.irf v a) k = some (.irf k a) := id rfl
@[pb] theorem setRef_804_uny : setRef 804 (.uny v o a) k = some (.uny v o k) := id rfl
@[pb] theorem setRef_802_bin : setRef 802 (.bin v o a b) k = some (.bin v o k b) := id rfl
@[pb] theorem setRef_803_bin : setRef 803 (.bin v o a b) k = some (.bin v o a k) := id rfl
@[pb] theorem setRef_823_var : setRef 823 (.var n b) k = some (.var n k) := id rfl
@[pb] theorem setRef_814_vint : setRef 814 (.vint v kl) k = some (.vint k kl) := id rfl
@[pb] theorem setRef_814_vins : setRef 814 (.vins v kl) k = some (.vins k kl) := id rfl
@[pb] theorem setRef_633_cr : setRef 633 (.cr s v kl) k = some (.cr s k kl) := id rfl
@[pb] theorem setRef_639_fio : setRef 639 (.fio s v kl c) k = some (.fio s k kl c) := id rfl
@[pb] theorem setRef_808_irf : setRef 808 (.irf v a) k = some (.irf v k) := id rfl

@[pb] theorem partnerOk_606_blk : partnerOk 606 (.blk w) = true := id rfl
@[pb] theorem partnerOk_607_blk : partnerOk 607 (.blk w) = true := id rfl
@[pb] theorem partnerOk_608_blk : partnerOk 608 (.blk w) = true := id rfl
@[pb] theorem partnerOk_658_blk : partnerOk 658 (.blk w) = true := id rfl
@[pb] theorem partnerOk_603_smt : partnerOk 603 (.smt b p) = true := id rfl
@[pb] theorem partnerOk_682_if : partnerOk 682 (.if_ s b v) = true := id rfl
@[pb] theorem partnerOk_683_if : partnerOk 683 (.if_ s b v) = true := id rfl
@[pb] theorem partnerOk_668_val : partnerOk 668 (.val b) = true := id rfl
@[pb] theorem partnerOk_626_val : partnerOk 626 (.val b) = true := id rfl
@[pb] theorem partnerOk_625_val : partnerOk 625 (.val b) = true := id rfl
@[pb] theorem partnerOk_659_val : partnerOk 659 (.val b) = true := id rfl
@[pb] theorem partnerOk_801_val : partnerOk 801 (.val b) = true := id rfl
@[pb] theorem partnerOk_802_val : partnerOk 802 (.val b) = true := id rfl
@[pb] theorem partnerOk_803_val : partnerOk 803 (.val b) = true := id rfl
@[pb] theorem partnerOk_804_val : partnerOk 804 (.val b) = true := id rfl
@[pb] theorem partnerOk_814_var : partnerOk 814 (.var n b) = true := id rfl
@[pb] theorem partnerOk_633_var : partnerOk 633 (.var n b) = true := id rfl
@[pb] theorem partnerOk_639_var : partnerOk 639 (.var n b) = true := id rfl
@[pb] theorem partnerOk_602_smt : partnerOk 602 (.smt b p) = false := id rfl
@[pb] theorem partnerOk_801_slr : partnerOk 801 (.slr v) = false := id rfl
@[pb] theorem partnerOk_801_irf : partnerOk 801 (.irf v a) = false := id rfl
@[pb] theorem partnerOk_808_irf : partnerOk 808 (.irf v a) = false := id rfl
@[pb] theorem partnerOk_814_vint : partnerOk 814 (.vint v kl) = false := id rfl
@[pb] theorem partnerOk_814_vins : partnerOk 814 (.vins v kl) = false := id rfl

@[pb] theorem setElem_672 : setElem 672 (.cnv s kl) (.obj x) = some (.cnv s x) := id rfl
@[pb] theorem setElem_818 : setElem 818 (.vint v kl) (.obj x) = some (.vint v x) := id rfl
@[pb] theorem setElem_819 : setElem 819 (.vins v kl) (.obj x) = some (.vins v x) := id rfl
@[pb] theorem setElem_653 : setElem 653 (.rel s a b r ph) (.rrel x) = some (.rel s a b x ph) := id rfl
@[pb] theorem setElem_654 : setElem 654 (.ru s a b u r ph) (.rrel x) = some (.ru s a b u x ph) := id rfl
@[pb] theorem setElem_655 : setElem 655 (.unr s a b r ph) (.rrel x) = some (.unr s a b x ph) := id rfl
@[pb] theorem setElem_656 : setElem 656 (.uru s a b u r ph) (.rrel x) = some (.uru s a b u x ph) := id rfl
@[pb] theorem setElem_671 : setElem 671 (.cr s v kl) (.obj x) = some (.cr s v x) := id rfl
@[pb] theorem setElem_677 : setElem 677 (.fio s v kl c) (.obj x) = some (.fio s v x c) := id rfl
@[pb] theorem setElem_666 : setElem 666 (.blk w) .actAct = some (.blk true) := id rfl
@[pb] theorem setElem_601 : setElem 601 (.blk w) .actAct = some (.blk w) := id rfl
theorem linkKey_of_ne (rel : Nat) (y : Row) (h : ∀ s b v, y ≠ .if_ s b v) : linkKey rel k y = k := by
  unfold linkKey
  split
  · exact absurd rfl (h _ _ _)
  · exact absurd rfl (h _ _ _)
  · rfl
@[pb] theorem linkKey_blk (rel : Nat) : linkKey rel k (.blk w) = k := linkKey_of_ne _ _ _ (by simp)
@[pb] theorem linkKey_smt (rel : Nat) : linkKey rel k (.smt b p) = k := linkKey_of_ne _ _ _ (by simp)
@[pb] theorem linkKey_val (rel : Nat) : linkKey rel k (.val b) = k := linkKey_of_ne _ _ _ (by simp)
@[pb] theorem linkKey_var (rel : Nat) : linkKey rel k (.var n b) = k := linkKey_of_ne _ _ _ (by simp)
@[pb] theorem linkKey_682 : linkKey 682 k (.if_ s b v) = s := id rfl
@[pb] theorem linkKey_683 : linkKey 683 k (.if_ s b v) = s := id rfl
end

@[pb] theorem linkFrom_inst (p : FlatPop) (rel i k : Nat) :
    linkFrom p rel (.inst i) (.inst k)
      = match p[i]? with
        | some r =>
          (match p[k]? with
           | some yr => if partnerOk rel yr then (setRef rel r (linkKey rel k yr)).map (fun r' => p.set i r') else none
           | none => none)
        | none => none := id rfl
@[pb] theorem linkFrom_obj (p : FlatPop) (rel i : Nat) (kl : String) :
    linkFrom p rel (.inst i) (.obj kl)
      = match p[i]? with | some r => (setElem rel r (.obj kl)).map (fun r' => p.set i r') | none => none := id rfl
@[pb] theorem linkFrom_rrel (p : FlatPop) (rel i : Nat) (rr : String) :
    linkFrom p rel (.inst i) (.rrel rr)
      = match p[i]? with | some r => (setElem rel r (.rrel rr)).map (fun r' => p.set i r') | none => none := id rfl
@[pb] theorem linkFrom_actAct (p : FlatPop) (rel i : Nat) :
    linkFrom p rel (.inst i) .actAct
      = match p[i]? with | some r => (setElem rel r .actAct).map (fun r' => p.set i r') | none => none := id rfl
@[pb] theorem linkFrom_of_obj (p : FlatPop) (rel : Nat) (kl : String) (y : V) : linkFrom p rel (.obj kl) y = none := id rfl

@[pb] theorem relStep_some (as : Bool) (g : G) (va vb : V) (rel : Nat) (ph : String) (ha : va ≠ .none) (hb : vb ≠ .none) :
    relStep as g va vb rel ph = relateV g va vb rel ph := by
  simp [relStep, ha, hb]
@[pb] theorem relStep_none_left (as : Bool) (g : G) (vb : V) (rel : Nat) (ph : String) :
    relStep as g .none vb rel ph = some (if as then gfail g else g) := by
  simp [relStep]
@[pb] theorem relStep_none_right (as : Bool) (g : G) (va : V) (rel : Nat) (ph : String) :
    relStep as g va .none rel ph = some (if as then gfail g else g) := by
  simp [relStep]

/-- the optional row number `l` names a row of `P` that association `rel` takes as the partner -/
def Partner (rel : Nat) (P : FlatPop) (l : Option Nat) : Prop :=
  ∀ k, l = some k → ∃ y, P[k]? = some y ∧ partnerOk rel y = true ∧ linkKey rel k y = k

section
variable (P : FlatPop) (r0 : Row) (sc : List Scope) (ok lv : Bool) (ty : List (Nat × String)) (l : Option Nat) (rel : Nat)
    (ph : String) (hl : Partner rel P l) (hs : ∀ k, (setRef rel r0 k).isSome = true) (h0 : (setRef rel r0 0).getD r0 = r0)
    (h1 : rel ≠ 661) (h2 : rel ≠ 820) (h3 : rel ≠ 848) (h4 : rel ≠ 835)
include hl hs h0 h1 h2 h3 h4

/-- An asserting `relate` of the row under construction (the last row) to an optional partner: the referential attribute
    is written, or it stays 0 and the run is marked as failed — the closed form the model's `needVar` and
    `St.guard (curBlk …).isSome` have too, so that found / not found need no case split in a handler. -/
@[pb] theorem relStep_partner :
    relStep true ⟨⟨P ++ [r0], sc, ok⟩, lv, ty⟩ (.inst P.length) (prevV l) rel ph
      = some ⟨⟨P ++ [(setRef rel r0 (l.getD 0)).getD r0], sc, ok && l.isSome⟩, lv, ty⟩ := by
  cases l with
  | none => simp [relStep, prevV, gfail, St.fail, h0]
  | some k =>
    obtain ⟨y, hy, hp, hk⟩ := hl k rfl
    obtain ⟨r', hr'⟩ := Option.isSome_iff_exists.mp (hs k)
    simp [relStep, prevV, relateV, h1, h2, h3, h4, linkFrom, getElem?_append_some, hy, hp, hk, hr']

/-- the same with the partner named first: the first direction `relateV` tries fails at `partnerOk rel r0` -/
@[pb] theorem relStep_partner' (hn : partnerOk rel r0 = false) :
    relStep true ⟨⟨P ++ [r0], sc, ok⟩, lv, ty⟩ (prevV l) (.inst P.length) rel ph
      = some ⟨⟨P ++ [(setRef rel r0 (l.getD 0)).getD r0], sc, ok && l.isSome⟩, lv, ty⟩ := by
  cases l with
  | none => simp [relStep, prevV, gfail, St.fail, h0]
  | some k =>
    obtain ⟨y, hy, hp, hk⟩ := hl k rfl
    obtain ⟨r', hr'⟩ := Option.isSome_iff_exists.mp (hs k)
    simp [relStep, prevV, relateV, h1, h2, h3, h4, linkFrom, getElem?_append_some, hy, hp, hk, hr', hn]
end

theorem BlkOK.partner {st : St} (h : BlkOK st) (rel : Nat) (hr : ∀ o, partnerOk rel (.blk o) = true) :
    Partner rel st.pop (curBlk st.scopes) := by
  intro k hk
  obtain ⟨o, ho⟩ := h k hk
  exact ⟨_, ho, hr o, linkKey_blk _ _ _⟩

theorem BlkOK.of_top {pop : FlatPop} {b : Nat} {o ok : Bool} {syms : List (String × Nat)} {rest : List Scope}
    (h : pop[b]? = some (.blk o)) : BlkOK ⟨pop, ⟨.blk b, syms⟩ :: rest, ok⟩ := by
  intro k hk
  cases hk
  exact ⟨o, h⟩

/-! ### append-only: what a later state keeps of an earlier one (`Ext`, Proofs/PrebuildFlat.lean) -/

theorem Ext.get {a b : St} (e : Ext a b) {i : Nat} {r : Row} (h : a.pop[i]? = some r) : b.pop[i]? = some r := by
  obtain ⟨⟨d, hd⟩, _⟩ := e
  rw [hd]; exact getElem?_app h d

theorem curBlk_hs : ∀ (a b : List Scope), hsOf a = hsOf b → curBlk a = curBlk b
  | [], [], _ => rfl
  | [], _ :: _, h => by simp [hsOf] at h
  | _ :: _, [], h => by simp [hsOf] at h
  | ⟨ha, sa⟩ :: ra, ⟨hb, sb⟩ :: rb, h => by
    simp only [hsOf, List.map_cons, List.cons.injEq] at h
    obtain ⟨h1, h2⟩ := h
    subst h1
    cases ha with
    | blk i => simp [curBlk]
    | obj k => simpa [curBlk] using curBlk_hs ra rb h2

theorem Ext.blkOK {a b : St} (e : Ext a b) (h : BlkOK a) : BlkOK b := by
  intro k hk
  rw [curBlk_hs _ _ e.2] at hk
  obtain ⟨o, ho⟩ := h k hk
  exact ⟨o, e.get ho⟩

theorem Ext.lookupVar (fc : FCtx) (n : String) (st : St) : Ext st (lookupVar fc n st).2 := (Grows.lookupVar fc n st).1
theorem Ext.newVal (st : St) : Ext st (newVal st).2 := (Grows.newVal st).1
theorem Ext.newSmt (prev : Option Nat) (st : St) : Ext st (newSmt prev st).2 := (Grows.newSmt prev st).1

theorem VarAns.partner {r : Option Nat × St} {S : St} (h : VarAns r) (e : Ext r.2 S) (rel : Nat)
    (hr : ∀ nm b, partnerOk rel (.var nm b) = true) : Partner rel S.pop r.1 := by
  intro k hk
  obtain ⟨nm, b, hv⟩ := h k hk
  exact ⟨_, e.get hv, hr nm b, linkKey_var _ _ _ _⟩

theorem needVar_eq (fc : FCtx) (n : String) (st : St) :
    needVar fc n st = ((lookupVar fc n st).1.getD 0,
      { (lookupVar fc n st).2 with ok := (lookupVar fc n st).2.ok && (lookupVar fc n st).1.isSome }) := by
  unfold needVar
  generalize lookupVar fc n st = L
  obtain ⟨l, s⟩ := L
  cases l <;> simp [St.fail]

theorem act_smt_fuel (fc : FCtx) (nd : Node) (g : G) (n : Nat) (hb : BlkOK g.st) :
    callFn (mkEnv fc nd) (n + 12) act_smt [.node] [] g
      = some (.inst (newSmt none g.st).1, { g with st := (newSmt none g.st).2 }) := by
  have h602 := hb.partner 602 fun _ => rfl
  simp only [pb, act_smt, newSmt, guard_eq, St.new, h602]

theorem act_smt_eq (fc : FCtx) (nd : Node) (g : G) (hb : BlkOK g.st) :
    callFn (mkEnv fc nd) 12 act_smt [.node] [] g
      = some (.inst (newSmt none g.st).1, { g with st := (newSmt none g.st).2 }) :=
  act_smt_fuel fc nd g 0 hb

theorem v_val_fuel (fc : FCtx) (nd : Node) (g : G) (n : Nat) (hb : BlkOK g.st) :
    callFn (mkEnv fc nd) (n + 12) v_val [.node] [] g
      = some (.inst (newVal g.st).1, { g with st := (newVal g.st).2 }) := by
  have h826 := hb.partner 826 fun _ => rfl
  simp only [pb, v_val, newVal, guard_eq, St.new, h826]

/-! the calls as `simp` meets them in a handler (simp set `pb`), for any sufficient fuel -/

@[pb ↓] theorem call_act_smt (fc : FCtx) (nd : Node) (g : G) (fr : Fr) (f : Nat) (hf : 13 ≤ f) (hb : BlkOK g.st) :
    evalE (mkEnv fc nd) f g fr (.call "act_smt" [A.node []] [] false)
      = some (.inst (newSmt none g.st).1, { g with st := (newSmt none g.st).2 }) := by
  obtain ⟨n, rfl⟩ := Nat.exists_eq_add_of_le' hf
  rw [evalE_call _ _ _ _ _ _ _ _ act_smt (by simp [atomCall]) rfl]
  exact act_smt_fuel fc nd g n hb

@[pb ↓] theorem call_v_val (fc : FCtx) (nd : Node) (g : G) (fr : Fr) (f : Nat) (hf : 13 ≤ f) (hb : BlkOK g.st) :
    evalE (mkEnv fc nd) f g fr (.call "v_val" [A.node []] [] false)
      = some (.inst (newVal g.st).1, { g with st := (newVal g.st).2 }) := by
  obtain ⟨n, rfl⟩ := Nat.exists_eq_add_of_le' hf
  rw [evalE_call _ _ _ _ _ _ _ _ v_val (by simp [atomCall]) rfl]
  exact v_val_fuel fc nd g n hb

@[pb ↓] theorem call_s_dt (fc : FCtx) (nd : Node) (g : G) (fr : Fr) (f : Nat) (name : String) (hf : 4 ≤ f) :
    evalE (mkEnv fc nd) f g fr (.call "s_dt" [A.str name] [] false) = some (.dt name, g) := by
  obtain ⟨n, rfl⟩ := Nat.exists_eq_add_of_le' hf
  rw [evalE_call _ _ _ _ _ _ _ _ s_dt (by simp [atomCall]) rfl]
  simp only [pb, s_dt]

theorem stmt_list_step (fc : FCtx) (nd : Node) (g g1 : G) (fr : Fr) (i s b : Nat) (acc : Acc) (prev : Option Nat)
    (hp : fr.get "prev" = prevV prev) (hk : nd.children[i]? = some acc) (ha : acc [] g = (.inst s, g1))
    (hs : g1.st.pop[s]? = some (.smt b none))
    (he : ∀ e, prev = some e → ∃ b' p', g1.st.pop[e]? = some (.smt b' p')) :
    exec (mkEnv fc nd) 20 g (fr.set "child" (.child i)) stmtListBody
        = some (.next (((fr.set "child" (.child i)).set "act_smt" (.inst s)).set "prev" (.inst s)),
                { g1 with st := linkPrev prev s g1.st }) := by
  -- no predecessor: `xtuml.relate(None, …)` does nothing and `linkPrev none` is the identity; with one, R661 rewrites the NEW
  -- row `s`, whose slot is still `none` (`hs`), and needs the predecessor to be an ACT_SMT row (`he`)
  cases prev with
  | none => simp only [pb, stmtListBody, accept_StatementListNode, hk, ha, hp, prevV, linkPrev]
  | some e =>
    obtain ⟨b', p', hep⟩ := he e rfl
    simp only [pb, stmtListBody, accept_StatementListNode, hk, ha, hp, prevV, linkPrev, link661, hep, hs]

section
variable (fc : FCtx) (nd : Node) (g : G) (n : Nat) (hb : BlkOK g.st)
include hb

theorem break_eq :
    callFn (mkEnv fc nd) (n + 20) accept_BreakNode [.node] [] g
      = some (.inst (buildStmt fc none .brk g.st).1, { g with st := (buildStmt fc none .brk g.st).2 }) := by
  simp only [pb, accept_BreakNode, hb, buildStmt, St.new]

theorem continue_eq :
    callFn (mkEnv fc nd) (n + 20) accept_ContinueNode [.node] [] g
      = some (.inst (buildStmt fc none .cont g.st).1, { g with st := (buildStmt fc none .cont g.st).2 }) := by
  simp only [pb, accept_ContinueNode, hb, buildStmt, St.new]

theorem control_eq :
    callFn (mkEnv fc nd) (n + 20) accept_ControlNode [.node] [] g
      = some (.inst (buildStmt fc none .ctl g.st).1, { g with st := (buildStmt fc none .ctl g.st).2 }) := by
  simp only [pb, accept_ControlNode, hb, buildStmt, St.new]

/-- a bare `return;`: node.expression is None, `self.accept(None)` is None, `xtuml.relate(act_ret, None, 668)` does nothing -/
theorem return_bare_eq (hk : nd.kids.lookup "expression" = none) :
    callFn (mkEnv fc nd) (n + 20) accept_ReturnNode [.node] [] g
      = some (.inst (buildStmt fc none (.ret none) g.st).1, { g with st := (buildStmt fc none (.ret none) g.st).2 }) := by
  simp only [pb, accept_ReturnNode, hb, buildStmt, St.new, kid, hk]

end

theorem create_nv_eq (fc : FCtx) (nd : Node) (g : G) (n : Nat) (kl : String) (hb : BlkOK g.st)
    (hk : nd.strs.lookup "key_letter" = some kl) (hc : kl ∈ fc.classes) :
    callFn (mkEnv fc nd) (n + 20) accept_CreateObjectNoVariableNode [.node] [] g
      = some (.inst (buildStmt fc none (.createNV kl) g.st).1, { g with st := (buildStmt fc none (.createNV kl) g.st).2 }) := by
  have hc' : fc.classes.contains kl = true := by simpa using hc
  simp only [pb, accept_CreateObjectNoVariableNode, hb, buildStmt, St.new, hk, hc']

theorem integer_eq (fc : FCtx) (nd : Node) (g : G) (n : Nat) (v : String) (hb : BlkOK g.st)
    (hv : nd.strs.lookup "value" = some v) :
    callFn (mkEnv fc nd) (n + 20) accept_IntegerNode [.node] [] g
      = some (.inst (buildExpr fc (.int v) g.st).1,
              { g with st := (buildExpr fc (.int v) g.st).2, tys := ((buildExpr fc (.int v) g.st).1, "integer") :: g.tys }) := by
  simp only [pb, accept_IntegerNode, hb, hv, buildExpr, St.new]

theorem real_eq (fc : FCtx) (nd : Node) (g : G) (n : Nat) (v : String) (hb : BlkOK g.st)
    (hv : nd.strs.lookup "value" = some v) :
    callFn (mkEnv fc nd) (n + 20) accept_RealNode [.node] [] g
      = some (.inst (buildExpr fc (.real v) g.st).1,
              { g with st := (buildExpr fc (.real v) g.st).2, tys := ((buildExpr fc (.real v) g.st).1, "real") :: g.tys }) := by
  simp only [pb, accept_RealNode, hb, hv, buildExpr, St.new]

theorem string_eq (fc : FCtx) (nd : Node) (g : G) (n : Nat) (v : String) (hb : BlkOK g.st)
    (hv : nd.strs.lookup "value" = some v) :
    callFn (mkEnv fc nd) (n + 20) accept_StringNode [.node] [] g
      = some (.inst (buildExpr fc (.str v) g.st).1,
              { g with st := (buildExpr fc (.str v) g.st).2, tys := ((buildExpr fc (.str v) g.st).1, "string") :: g.tys }) := by
  simp only [pb, accept_StringNode, hb, hv, buildExpr, St.new]

theorem upper_true : String.ofList ("true".toList.map Char.toUpper) = "TRUE" := by decide
theorem upper_false : String.ofList ("false".toList.map Char.toUpper) = "FALSE" := by decide

theorem boolean_eq (fc : FCtx) (nd : Node) (g : G) (n : Nat) (v : String) (hb : BlkOK g.st)
    (hv : nd.strs.lookup "value" = some v) (hlit : v = "true" ∨ v = "false") :
    callFn (mkEnv fc nd) (n + 20) accept_BooleanNode [.node] [] g
      = some (.inst (buildExpr fc (.bool v) g.st).1,
              { g with st := (buildExpr fc (.bool v) g.st).2, tys := ((buildExpr fc (.bool v) g.st).1, "boolean") :: g.tys }) := by
  have hup : String.ofList (v.toList.map Char.toUpper) = boolValue v := by
    rcases hlit with rfl | rfl
    · exact upper_true
    · exact upper_false
  have hg : (v == "true" || v == "false") = true := by
    rcases hlit with rfl | rfl <;> rfl
  simp only [pb, accept_BooleanNode, hb, hv, buildExpr, St.new, hup, hg]

/-- the R820 type `accept_UnaryOperationNode` selects, as the model's `typeOf` states it -/
def unTy (op t : String) : String :=
  if Flat.boolUnOps.contains op then "boolean" else if op == "cardinality" then "integer" else t

theorem nav_type (g : G) (l : Nat) :
    navSteps g (.inst l) [⟨"S_DT", 820, ""⟩] = some (match g.tys.lookup l with | some t => .dt t | none => .none) := by
  simp [navSteps, navStep]

theorem contains_str (l : List String) (s : String) : (l.map V.str).contains (V.str s) = l.contains s := by
  simp

/-- the type selection of `accept_UnaryOperationNode` (its third statement), on any rest of a statement list -/
theorem unary_type (fc : FCtx) (nd : Node) (f : Nat) (g : G) (fr : Fr) (rest : List S) (op t : String) (o : Nat) (s : S)
    (hs : accept_UnaryOperationNode.body[2]? = some s)
    (hop : fr.get "operator" = .str op) (ho : fr.get "v_val_op" = .inst o) (ht : g.tys.lookup o = some t) :
    exec (mkEnv fc nd) (f + 7) g fr (s :: rest) = exec (mkEnv fc nd) (f + 6) g (fr.set "s_dt" (.dt (unTy op t))) rest := by
  -- `hs` names the statement by its place in the generated body, so that it is not restated here
  injection hs with hs
  subst hs
  -- the interpreter tests membership among `V.str` values; as `List.contains` on strings the test is the one `unTy` makes,
  -- and the case split is on the model's own conditions
  have h1 := contains_str Flat.boolUnOps op
  cases hb : Flat.boolUnOps.contains op <;> rw [hb] at h1 <;> simp only [Flat.boolUnOps, List.map] at h1
  · cases hc : op == "cardinality"
    · simp only [pb, hop, ho, ht, h1, hb, hc, unTy, veq, nav_type]
    · simp only [pb, hop, h1, hb, hc, unTy, veq]
  · simp only [pb, hop, h1, hb, unTy]
theorem unary_eq (fc : FCtx) (nd : Node) (g g1 : G) (n o b : Nat) (op t : String) (acc : Acc)
    (hop : nd.strs.lookup "operator" = some op) (hk : nd.kids.lookup "operand" = some acc)
    (ha : acc [] g = (.inst o, g1)) (hb : BlkOK g1.st) (ho : g1.st.pop[o]? = some (.val b))
    (ht : g1.tys.lookup o = some t) :
    callFn (mkEnv fc nd) (n + 30) accept_UnaryOperationNode [.node] [] g
      = some (.inst (newVal g1.st).1,
              { g1 with st := ((newVal g1.st).2.new (.uny (newVal g1.st).1 (lowerStr op) o)).2,
                        tys := ((newVal g1.st).1, unTy (lowerStr op) t) :: g1.tys }) := by
  have hty := fun f fr rest => unary_type fc nd f g1 fr rest (lowerStr op) t o _ rfl
  have ho' := (Ext.newVal g1.st).get ho
  -- `↓hty`: the type selection is replaced as a whole before `exec_ifThen` opens it, so its three cases stay out of this run
  simp only [pb, accept_UnaryOperationNode, ↓hty, hop, kid, hk, ha, hb, ht, ho', St.new]

/-- the R820 type `accept_BinaryOperationNode` selects, as the model's `typeOf` states it -/
def binTy (op t : String) : String :=
  if Flat.compareOps.contains op then "boolean"
  else if ["|", "+", "&", "^", "-"].contains op && ["inst_ref<Object>", "inst_ref_set<Object>"].contains t then "inst_ref_set<Object>"
  else t

theorem dt_beq (a b : String) : (V.dt a == V.dt b) = decide (a = b) := by
  by_cases h : a = b <;> simp [h]

theorem nav_generic (g : G) (t : String) (h : t = "inst_ref<Object>" ∨ t = "inst_ref_set<Object>") :
    navSteps g (.dt t) [⟨"S_IRDT", 17, ""⟩, ⟨"O_OBJ", 123, ""⟩, ⟨"S_IRDT", 123, ""⟩] = some .none := by
  rcases h with rfl | rfl <;> simp [navSteps, navStep]

theorem nav_none (g : G) (s : Pyx.Gen.PbShape.Step) : navSteps g .none [s] = some .none := by
  simp [navSteps, navStep]

/-- the type selection of `accept_BinaryOperationNode` (its fifth statement), on any rest of a statement list; on a generic
    reference type `s_irdt` is assigned too -/
theorem binary_type (fc : FCtx) (nd : Node) (f : Nat) (g : G) (fr : Fr) (rest : List S) (op t : String) (s : S)
    (hs : accept_BinaryOperationNode.body[4]? = some s)
    (hop : fr.get "operator" = .str op) (ht : fr.get "s_dt_l" = .dt t) :
    exec (mkEnv fc nd) (f + 9) g fr (s :: rest)
      = exec (mkEnv fc nd) (f + 8) g
          ((if !Flat.compareOps.contains op && ["|", "+", "&", "^", "-"].contains op &&
                ["inst_ref<Object>", "inst_ref_set<Object>"].contains t
            then fr.set "s_irdt" .none else fr).set "s_dt" (.dt (binTy op t))) rest := by
  -- as in `unary_type`: the statement by its place, the membership tests as `List.contains` on strings (those of `binTy`)
  injection hs with hs
  subst hs
  have h1 := contains_str Flat.compareOps op
  have h2 := contains_str ["|", "+", "&", "^", "-"] op
  cases hc : Flat.compareOps.contains op <;> rw [hc] at h1 <;> simp only [Flat.compareOps, List.map] at h1
  · cases hs : ["|", "+", "&", "^", "-"].contains op <;> rw [hs] at h2 <;> simp only [List.map] at h2
    · simp only [pb, hop, ht, h1, h2, hc, hs, binTy, Bool.not_false, Bool.true_and, Bool.false_and]
    · cases hA : t == "inst_ref<Object>"
      · cases hB : t == "inst_ref_set<Object>"
        · simp only [pb, hop, ht, h1, h2, hc, hs, hA, hB, binTy, veq, List.contains_cons, List.contains_nil, Bool.not_false,
            Bool.true_and, Bool.or_self]
        · have := eq_of_beq hB; subst this
          simp only [pb, hop, ht, h1, h2, hc, hs, hA, hB, binTy, veq, List.contains_cons, List.contains_nil, Bool.not_false,
            Bool.true_and, Bool.or_false, Bool.or_true, nav_generic g _ (Or.inr rfl), nav_none]
      · have := eq_of_beq hA; subst this
        simp only [pb, hop, ht, h1, h2, hc, hs, hA, binTy, veq, List.contains_cons, List.contains_nil, Bool.not_false,
          Bool.true_and, Bool.true_or, nav_generic g _ (Or.inl rfl), nav_none]
  · simp only [pb, hop, h1, hc, binTy, Bool.not_true, Bool.false_and]

def binRes (g2 : G) (op t : String) (l r : Nat) : Option (V × G) :=
  some (.inst (newVal g2.st).1,
        { g2 with st := ((newVal g2.st).2.new (.bin (newVal g2.st).1 (lowerStr op) l r)).2,
                  tys := ((newVal g2.st).1, binTy (lowerStr op) t) :: g2.tys })

/-- every operator: comparison / logical, set operators on generic references, set operators on other types, the rest -/
theorem binary_all (fc : FCtx) (nd : Node) (g g1 g2 : G) (n l r bl br : Nat) (op t : String) (accL accR : Acc)
    (hop : nd.strs.lookup "operator" = some op)
    (hkl : nd.kids.lookup "left" = some accL) (hkr : nd.kids.lookup "right" = some accR)
    (hal : accL [] g = (.inst l, g1)) (har : accR [] g1 = (.inst r, g2)) (hb : BlkOK g2.st)
    (hl : g2.st.pop[l]? = some (.val bl)) (hr : g2.st.pop[r]? = some (.val br))
    (ht : g2.tys.lookup l = some t) :
    callFn (mkEnv fc nd) (n + 40) accept_BinaryOperationNode [.node] [] g = binRes g2 op t l r := by
  have hty := fun f fr rest => binary_type fc nd f g2 fr rest (lowerStr op) t _ rfl
  have hl' := (Ext.newVal g2.st).get hl
  have hr' := (Ext.newVal g2.st).get hr
  -- `↓hty`: as in `unary_eq`, the five cases of the type selection stay out of this run
  simp only [pb, accept_BinaryOperationNode, ↓hty, hop, kid, hkl, hkr, hal, har, hb, ht, hl', hr', nav_type, binRes, St.new]

theorem binary_eq (fc : FCtx) (nd : Node) (g g1 g2 : G) (n l r bl br : Nat) (op t : String) (accL accR : Acc)
    (hop : nd.strs.lookup "operator" = some op)
    (hkl : nd.kids.lookup "left" = some accL) (hkr : nd.kids.lookup "right" = some accR)
    (hal : accL [] g = (.inst l, g1)) (har : accR [] g1 = (.inst r, g2)) (hb : BlkOK g2.st)
    (hl : g2.st.pop[l]? = some (.val bl)) (hr : g2.st.pop[r]? = some (.val br))
    (ht : g2.tys.lookup l = some t)
    (h2 : ¬ (lowerStr op = "|" ∨ lowerStr op = "+" ∨ lowerStr op = "&" ∨ lowerStr op = "^" ∨ lowerStr op = "-")) :
    callFn (mkEnv fc nd) (n + 40) accept_BinaryOperationNode [.node] [] g = binRes g2 op t l r :=
  binary_all fc nd g g1 g2 n l r bl br op t accL accR hop hkl hkr hal har hb hl hr ht

theorem block_eq (fc : FCtx) (nd : Node) (g : G) (n : Nat) (acc : Acc)
    (hk : nd.kids.lookup "statement_list" = some acc) :
    callFn (mkEnv fc nd) (n + 20) accept_BlockNode [.node] [] g
      = some (.inst (g.st.new (.blk false)).1,
              { (acc [] { g with st := pushScope (.blk (g.st.new (.blk false)).1) (g.st.new (.blk false)).2 }).2 with
                st := popScope (acc [] { g with st := pushScope (.blk (g.st.new (.blk false)).1) (g.st.new (.blk false)).2 }).2.st }) := by
  simp only [pb, accept_BlockNode, kid, hk, St.new, pushScope]

theorem body_eq (fc : FCtx) (nd : Node) (g : G) (n : Nat) (acc : Acc)
    (hk : nd.kids.lookup "block.statement_list" = some acc) :
    callFn (mkEnv fc nd) (n + 20) accept_BodyNode [.node] [] g
      = some (.actAct,
              { (acc [] { g with st := pushScope (.blk (g.st.new (.blk true)).1) (g.st.new (.blk true)).2 }).2 with
                st := popScope (acc [] { g with st := pushScope (.blk (g.st.new (.blk true)).1) (g.st.new (.blk true)).2 }).2.st }) := by
  simp only [pb, accept_BodyNode, kid, hk, St.new, pushScope]

theorem lookupVar_pop (fc : FCtx) (n : String) (st : St) : ∃ ext, (lookupVar fc n st).2.pop = st.pop ++ ext :=
  (Ext.lookupVar fc n st).1

theorem delete_eq (fc : FCtx) (nd : Node) (g : G) (n : Nat) (name : String) (hb : BlkOK g.st)
    (hn : nd.strs.lookup "variable_name" = some name)
    (hvar : ∀ v, (lookupVar fc name (newSmt none g.st).2).1 = some v →
      ∃ nm b, (lookupVar fc name (newSmt none g.st).2).2.pop[v]? = some (.var nm b)) :
    callFn (mkEnv fc nd) (n + 20) accept_DeleteNode [.node] [] g
      = some (.inst (buildStmt fc none (.delete name) g.st).1,
              { g with st := (buildStmt fc none (.delete name) g.st).2 }) := by
  have hs := (Ext.lookupVar fc name (newSmt none g.st).2).get (newSmt_row g.st)
  have h634 := VarAns.partner (r := lookupVar fc name (newSmt none g.st).2) hvar (Ext.refl _) 634 fun _ _ => rfl
  simp only [pb, accept_DeleteNode, hb, hn, hs, h634, buildStmt, needVar_eq, St.new]

end Pyx.PbShape
