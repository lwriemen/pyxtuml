import Proofs.InterpMono
import Proofs.Lib.Lookup

/-!
  The rules of the action language as theorems about `Spec`.

  Fuel-free judgements: `Evals C e c r` / `Execs C s c r` / `BlockExecs C b c r` / `ItemsExecs …` hold when SOME
  amount of fuel delivers the result `r`; by fuel monotonicity the result is unique (`Evals.det`, …).
  The big-step rules of `if / elif / else`, `while` (break / continue caught at the nearest loop),
  `for each` (sequential composition over the snapshot), abrupt completion (`return`, `control stop`)
  are derived for these judgements; `if` and `for each` as equivalences, the inversion of `while` in Proofs/InterpUnroll.lean.
-/
namespace Pyx.Interp
open M

def Evals (C : Ctx) (e : Expr) (c : Cfg) (r : Except Err (Val × Cfg)) : Prop :=
  ∃ n, (run C n).eval e c = some r

def Execs (C : Ctx) (s : Stmt) (c : Cfg) (r : Except Err (Out × Cfg)) : Prop :=
  ∃ n, (run C n).exec s c = some r

def Runs {α : Type} (C : Ctx) (F : Oracle → M α) (c : Cfg) (r : Except Err (α × Cfg)) : Prop :=
  ∃ n, F (run C n) c = some r

def BlockExecs (C : Ctx) (b : Block) := Runs C (fun rec => execBlock rec b)
def ListExecs (C : Ctx) (l : List Stmt) := Runs C (fun rec => execList rec l)
def ElifsExecs (C : Ctx) (l : List (Expr × Block)) (els : Option Block) := Runs C (fun rec => execElifs rec l els)
def ItemsExecs (C : Ctx) (v : String) (body : Block) (items : List Inst) := Runs C (fun rec => forItems rec v body items)

def MonoF {α : Type} (F : Oracle → M α) : Prop := ∀ r r', Oracle.le r r' → M.le (F r) (F r')

theorem Runs.lift {α : Type} {C : Ctx} {F : Oracle → M α} (hF : MonoF F) {c : Cfg} {r : Except Err (α × Cfg)}
    {n m : Nat} (h : F (run C n) c = some r) (hnm : n ≤ m) : F (run C m) c = some r :=
  hF _ _ (run_mono C hnm) c r h

theorem Runs.det {α : Type} {C : Ctx} {F : Oracle → M α} (hF : MonoF F) {c : Cfg} {r r' : Except Err (α × Cfg)}
    (h : Runs C F c r) (h' : Runs C F c r') : r = r' := by
  obtain ⟨n, hn⟩ := h
  obtain ⟨m, hm⟩ := h'
  have a := Runs.lift hF hn (Nat.le_max_left n m)
  have b := Runs.lift hF hm (Nat.le_max_right n m)
  rw [a] at b
  exact Option.some.inj b

theorem monoF_eval (e : Expr) : MonoF (fun rec => rec.eval e) := fun _ _ h => h.1 e
theorem monoF_exec (s : Stmt) : MonoF (fun rec => rec.exec s) := fun _ _ h => h.2 s
theorem monoF_block (b : Block) : MonoF (fun rec => execBlock rec b) := fun _ _ h => execBlock_le h b
theorem monoF_list (l : List Stmt) : MonoF (fun rec => execList rec l) := fun _ _ h => execList_le h l
theorem monoF_elifs (l : List (Expr × Block)) (els : Option Block) : MonoF (fun rec => execElifs rec l els) :=
  fun _ _ h => execElifs_le h l els
theorem monoF_items (v : String) (body : Block) (items : List Inst) : MonoF (fun rec => forItems rec v body items) :=
  fun _ _ h => forItems_le h v body items

theorem Evals.det {C : Ctx} {e : Expr} {c : Cfg} {r r' : Except Err (Val × Cfg)}
    (h : Evals C e c r) (h' : Evals C e c r') : r = r' := Runs.det (monoF_eval e) h h'

theorem Execs.det {C : Ctx} {s : Stmt} {c : Cfg} {r r' : Except Err (Out × Cfg)}
    (h : Execs C s c r) (h' : Execs C s c r') : r = r' := Runs.det (monoF_exec s) h h'

/-- a statement runs iff one level of the interpreter runs over some amount of fuel for its parts -/
theorem execs_iff_step {C : Ctx} {s : Stmt} {c : Cfg} {r : Except Err (Out × Cfg)} :
    Execs C s c r ↔ Runs C (fun rec => execStep C rec s) c r := by
  constructor
  · rintro ⟨n, hn⟩
    cases n with
    | zero => simp [run] at hn
    | succ n => exact ⟨n, hn⟩
  · rintro ⟨n, hn⟩; exact ⟨n + 1, hn⟩

theorem evals_iff_step {C : Ctx} {e : Expr} {c : Cfg} {r : Except Err (Val × Cfg)} :
    Evals C e c r ↔ Runs C (fun rec => evalStep C rec e) c r := by
  constructor
  · rintro ⟨n, hn⟩
    cases n with
    | zero => simp [run] at hn
    | succ n => exact ⟨n, hn⟩
  · rintro ⟨n, hn⟩; exact ⟨n + 1, hn⟩

theorem Runs.iff_of_eq {α : Type} {C : Ctx} {F G : Oracle → M α} (hF : MonoF F) (hG : MonoF G) {c c1 : Cfg}
    {r : Except Err (α × Cfg)} (k : Nat) (h : ∀ n, k ≤ n → F (run C n) c = G (run C n) c1) :
    Runs C F c r ↔ Runs C G c1 r := by
  constructor <;> rintro ⟨n, hn⟩ <;> refine ⟨max n k, ?_⟩
  · rw [← h _ (Nat.le_max_right n k)]; exact Runs.lift hF hn (Nat.le_max_left n k)
  · rw [h _ (Nat.le_max_right n k)]; exact Runs.lift hG hn (Nat.le_max_left n k)

theorem asBool_run (b : Bool) (c : Cfg) : asBool (.bool b) c = some (.ok (b, c)) := rfl

theorem ifS_true {C : Ctx} {c : Expr} {thn : Block} {elifs : List (Expr × Block)} {els : Option Block}
    {cfg c1 : Cfg} {r : Except Err (Out × Cfg)}
    (hc : Evals C c cfg (.ok (.bool true, c1))) :
    Execs C (.ifS c thn elifs els) cfg r ↔ BlockExecs C thn c1 r := by
  obtain ⟨m, hm⟩ := hc
  refine execs_iff_step.trans (Runs.iff_of_eq (fun _ _ h => execStep_le h C _) (monoF_block thn) m fun n hn => ?_)
  simp only [execStep]
  rw [bind_ok (Runs.lift (monoF_eval c) hm hn)]
  rfl

theorem ifS_false {C : Ctx} {c : Expr} {thn : Block} {elifs : List (Expr × Block)} {els : Option Block}
    {cfg c1 : Cfg} {r : Except Err (Out × Cfg)}
    (hc : Evals C c cfg (.ok (.bool false, c1))) :
    Execs C (.ifS c thn elifs els) cfg r ↔ ElifsExecs C elifs els c1 r := by
  obtain ⟨m, hm⟩ := hc
  refine execs_iff_step.trans (Runs.iff_of_eq (fun _ _ h => execStep_le h C _) (monoF_elifs elifs els) m fun n hn => ?_)
  simp only [execStep]
  rw [bind_ok (Runs.lift (monoF_eval c) hm hn)]
  rfl

/-- an elif chain is the nested if: `elif (c) B <rest> <else>` behaves as the statement
    `if (c) B <rest> <else> end if` -/
theorem elif_is_nested_if {C : Ctx} {c : Expr} {b : Block} {rest : List (Expr × Block)} {els : Option Block}
    {cfg : Cfg} {r : Except Err (Out × Cfg)} :
    ElifsExecs C ((c, b) :: rest) els cfg r ↔ Execs C (.ifS c b rest els) cfg r := by
  show Runs C (fun rec => execStep C rec (.ifS c b rest els)) cfg r ↔ _
  exact execs_iff_step.symm

theorem elifs_nil_none {C : Ctx} {cfg : Cfg} : ElifsExecs C [] none cfg (.ok (.normal, cfg)) := ⟨0, rfl⟩

theorem elifs_nil_else {C : Ctx} {b : Block} {cfg : Cfg} {r : Except Err (Out × Cfg)} :
    ElifsExecs C [] (some b) cfg r ↔ BlockExecs C b cfg r := Iff.rfl

/-- what one round of `while c body` does after the condition held and the body ended with outcome `o` in `c2` -/
def whileAfter (C : Ctx) (c : Expr) (body : Block) (o : Out) (c2 : Cfg) (r : Except Err (Out × Cfg)) : Prop :=
  match o with
  | .normal => Execs C (.whileS c body) c2 r
  | .cont => Execs C (.whileS c body) c2 r
  | .brk => r = .ok (.normal, c2)
  | o => r = .ok (o, c2)

theorem while_false {C : Ctx} {c : Expr} {body : Block} {cfg c1 : Cfg}
    (hc : Evals C c cfg (.ok (.bool false, c1))) : Execs C (.whileS c body) cfg (.ok (.normal, c1)) := by
  rw [execs_iff_step]
  obtain ⟨m, hm⟩ := hc
  refine ⟨m, ?_⟩
  simp only [execStep]
  rw [bind_ok hm]
  rfl

theorem while_round {C : Ctx} {rec : Oracle} {c : Expr} {body : Block} {cfg c1 c2 : Cfg} {o : Out}
    (hc : rec.eval c cfg = some (.ok (.bool true, c1))) (hb : execBlock rec body c1 = some (.ok (o, c2))) :
    execStep C rec (.whileS c body) cfg =
      (match o with
        | .normal => rec.exec (.whileS c body)
        | .cont => rec.exec (.whileS c body)
        | .brk => pure .normal
        | o => pure o) c2 := by
  simp only [execStep]
  rw [bind_ok hc, bind_ok (asBool_run true c1), if_pos rfl, bind_ok hb]
  rfl

/-- `while c B`: if `c` holds, run `B`; continue and normal completion go round again, break ends the loop
    normally, return / control stop end it abruptly -/
theorem while_true {C : Ctx} {c : Expr} {body : Block} {cfg c1 c2 : Cfg} {o : Out} {r : Except Err (Out × Cfg)}
    (hc : Evals C c cfg (.ok (.bool true, c1))) (hb : BlockExecs C body c1 (.ok (o, c2)))
    (hr : whileAfter C c body o c2 r) : Execs C (.whileS c body) cfg r := by
  rw [execs_iff_step]
  obtain ⟨m, hm⟩ := hc
  obtain ⟨k, hk⟩ := hb
  -- condition, body and (for normal / continue) the next round lifted to one fuel; there it is `while_round`
  have key := fun n (h1 : m ≤ n) (h2 : k ≤ n) =>
    while_round (C := C) (Runs.lift (monoF_eval c) hm h1) (Runs.lift (monoF_block body) hk h2)
  cases o <;> first
    | (obtain ⟨j, hj⟩ := hr
       exact ⟨max (max m k) j, (key _ (Nat.le_trans (Nat.le_max_left m k) (Nat.le_max_left _ j))
         (Nat.le_trans (Nat.le_max_right m k) (Nat.le_max_left _ j))).trans
         (Runs.lift (monoF_exec _) hj (Nat.le_max_right _ j))⟩)
    | (cases hr; exact ⟨max m k, key _ (Nat.le_max_left m k) (Nat.le_max_right m k)⟩)

theorem asBool_ok_inv {v : Val} {c c' : Cfg} {t : Bool} (h : asBool v c = some (.ok (t, c'))) :
    v = .bool t ∧ c' = c := by
  cases v with
  | bool b => exact ⟨by rw [(pure_ok_inv h).1], (pure_ok_inv h).2⟩
  | _ => cases h

def itemsAfter (C : Ctx) (v : String) (body : Block) (rest : List Inst) (o : Out) (c2 : Cfg)
    (r : Except Err (Out × Cfg)) : Prop :=
  match o with
  | .normal => ItemsExecs C v body rest c2 r
  | .cont => ItemsExecs C v body rest c2 r
  | .brk => r = .ok (.normal, c2)
  | o => r = .ok (o, c2)

theorem items_nil {C : Ctx} {v : String} {body : Block} {cfg : Cfg} :
    ItemsExecs C v body [] cfg (.ok (.normal, cfg)) := ⟨0, rfl⟩

theorem install_run (x : String) (v : Val) (c : Cfg) :
    install x v c = some (.ok ((), { c with fr := { c.fr with env := envInstall c.fr.env x v } })) := rfl

/-- one element: bind the loop variable (in the block that holds the loop), run the body in a fresh block, go on
    with the remaining elements of the snapshot — which is a fixed list: nothing the body does changes it -/
theorem items_cons {C : Ctx} {v : String} {body : Block} {i : Inst} {rest : List Inst} {cfg c2 : Cfg} {o : Out}
    {r : Except Err (Out × Cfg)}
    (hb : BlockExecs C body { cfg with fr := { cfg.fr with env := envInstall cfg.fr.env v (.inst i) } } (.ok (o, c2)))
    (hr : itemsAfter C v body rest o c2 r) : ItemsExecs C v body (i :: rest) cfg r := by
  obtain ⟨k, hk⟩ := hb
  have key := fun n (h : k ≤ n) => show forItems (run C n) v body (i :: rest) cfg = _ by
    simp only [forItems]
    rw [bind_ok (install_run v (.inst i) cfg), bind_ok (Runs.lift (monoF_block body) hk h)]
  cases o <;> first
    | (obtain ⟨j, hj⟩ := hr
       exact ⟨max k j, (key _ (Nat.le_max_left k j)).trans (Runs.lift (monoF_items v body rest) hj (Nat.le_max_right k j))⟩)
    | (cases hr; exact ⟨k, key k (Nat.le_refl k)⟩)

theorem lookupVar_env {C : Ctx} {x : String} {c : Cfg} {v : Val} (hself : selfHit c.fr x = false)
    (h : envLookup c.fr.env x = some v) : lookupVar C x c = some (.ok (v, c)) := by
  unfold lookupVar
  rw [bind_ok (getFr_run c), hself]
  simp only [Bool.false_eq_true, if_false, h]
  rfl

/-- in an operation or a derived attribute the NAME self (any letter case) denotes the receiving instance -/
theorem lookupVar_self {C : Ctx} {x : String} {c : Cfg} (hself : selfHit c.fr x = true) :
    lookupVar C x c = some (.ok (c.fr.self, c)) := by
  unfold lookupVar
  rw [bind_ok (getFr_run c), hself]
  rfl

/-- a name that is neither `self` nor a variable of the scope denotes the domain's constant of that name -/
theorem lookupVar_const {C : Ctx} {x : String} {c : Cfg} {v : Val} (hself : selfHit c.fr x = false)
    (henv : envLookup c.fr.env x = none) (h : C.consts.lookup x = some v) : lookupVar C x c = some (.ok (v, c)) := by
  unfold lookupVar
  rw [bind_ok (getFr_run c), hself]
  simp only [Bool.false_eq_true, if_false, henv, h]
  rfl

/-- `for each v in s`: the set variable is read ONCE; the loop runs over that list -/
theorem foreach_is_items {C : Ctx} {v setv : String} {body : Block} {items : List Inst} {cfg : Cfg}
    {r : Except Err (Out × Cfg)} (hself : selfHit cfg.fr setv = false)
    (hs : envLookup cfg.fr.env setv = some (.set items)) :
    Execs C (.forEach v setv body) cfg r ↔ ItemsExecs C v body items cfg r := by
  refine execs_iff_step.trans (Runs.iff_of_eq (fun _ _ h => execStep_le h C _) (monoF_items v body items) 0 fun n _ => ?_)
  simp only [execStep]
  rw [bind_ok (lookupVar_env hself hs)]

theorem list_nil {C : Ctx} {cfg : Cfg} : ListExecs C [] cfg (.ok (.normal, cfg)) := ⟨0, rfl⟩

theorem list_cons_normal {C : Ctx} {s : Stmt} {rest : List Stmt} {cfg c1 : Cfg} {r : Except Err (Out × Cfg)}
    (hs : Execs C s cfg (.ok (.normal, c1))) (hr : ListExecs C rest c1 r) : ListExecs C (s :: rest) cfg r := by
  obtain ⟨m, hm⟩ := hs
  obtain ⟨k, hk⟩ := hr
  have hm' := Runs.lift (monoF_exec s) hm (Nat.le_max_left m k)
  have hk' := Runs.lift (monoF_list rest) hk (Nat.le_max_right m k)
  refine ⟨max m k, ?_⟩
  simp only [execList]
  rw [bind_ok hm']
  exact hk'

/-- break, continue, return and control stop end the list at once: the statements after them do not run -/
theorem list_cons_abrupt {C : Ctx} {s : Stmt} {rest : List Stmt} {cfg c1 : Cfg} {o : Out}
    (hs : Execs C s cfg (.ok (o, c1))) (ho : o ≠ .normal) : ListExecs C (s :: rest) cfg (.ok (o, c1)) := by
  obtain ⟨m, hm⟩ := hs
  refine ⟨m, ?_⟩
  simp only [execList]
  rw [bind_ok hm]
  cases o <;> first | exact absurd rfl ho | rfl

theorem pushBlock_run (c : Cfg) :
    pushBlock c = some (.ok ((), { c with fr := { c.fr with env := [] :: c.fr.env } })) := rfl

theorem popBlock_run (c : Cfg) :
    popBlock c = some (.ok ((), { c with fr := { c.fr with env := c.fr.env.tail } })) := rfl

theorem exec_break {C : Ctx} {cfg : Cfg} : Execs C .brk cfg (.ok (.brk, cfg)) := ⟨1, rfl⟩
theorem exec_continue {C : Ctx} {cfg : Cfg} : Execs C .cont cfg (.ok (.cont, cfg)) := ⟨1, rfl⟩
theorem exec_stop {C : Ctx} {cfg : Cfg} : Execs C .stop cfg (.ok (.stop, cfg)) := ⟨1, rfl⟩
theorem exec_return_bare {C : Ctx} {cfg : Cfg} : Execs C (.ret none) cfg (.ok (.retBare, cfg)) := ⟨1, rfl⟩

theorem exec_return_value {C : Ctx} {e : Expr} {cfg c1 : Cfg} {v : Val}
    (he : Evals C e cfg (.ok (v, c1))) :
    Execs C (.ret (some e)) cfg (.ok (.ret, { c1 with fr := { c1.fr with ret := v } })) := by
  rw [execs_iff_step]
  obtain ⟨m, hm⟩ := he
  refine ⟨m, ?_⟩
  simp only [execStep]
  rw [bind_ok hm]
  rfl

theorem exec_assign {C : Ctx} {x : String} {e : Expr} {cfg c1 : Cfg} {v : Val}
    (he : Evals C e cfg (.ok (v, c1))) :
    Execs C (.assignVar x e) cfg (.ok (.normal, { c1 with fr := { c1.fr with env := envInstall c1.fr.env x v } })) := by
  rw [execs_iff_step]
  obtain ⟨m, hm⟩ := he
  refine ⟨m, ?_⟩
  simp only [execStep]
  rw [bind_ok hm]
  rfl

theorem lookup_blockSet (x y : String) (v : Val) : ∀ b : List (String × Val),
    (blockSet x v b).lookup y = if y = x then (b.lookup x).map fun _ => v else b.lookup y
  | [] => by split <;> rfl
  | (k, w) :: rest => by
    have ih := lookup_blockSet x y v rest
    unfold blockSet
    by_cases hk : k = x
    · subst hk
      by_cases hy : y = k <;> simp [lookup_cons, hy]
    · have hk' : ¬ x = k := fun h => hk h.symm
      by_cases hy : y = x
      · subst hy
        simp [lookup_cons, hk, hk', ih]
      · simp [lookup_cons, hk, hy, ih]

theorem envLookup_cons (b : List (String × Val)) (rest : Env) (x : String) :
    envLookup (b :: rest) x = match b.lookup x with | some v => some v | none => envLookup rest x := rfl

theorem envLookup_update (x y : String) (v : Val) : ∀ env : Env,
    envLookup (envUpdate x v env) y = if y = x then (envLookup env x).map fun _ => v else envLookup env y
  | [] => by split <;> rfl
  | b :: rest => by
    have ih := envLookup_update x y v rest
    unfold envUpdate
    cases hb : b.lookup x with
    | some w =>
      by_cases hy : y = x
      · subst hy
        simp [envLookup_cons, lookup_blockSet, hb]
      · simp [envLookup_cons, lookup_blockSet, hy]
    | none =>
      by_cases hy : y = x
      · subst hy
        simp [envLookup_cons, hb, ih]
      · simp [envLookup_cons, hy, ih]

/-- after an assignment the variable reads as the assigned value, and every other variable is untouched -/
theorem envLookup_install (env : Env) (x y : String) (v : Val) :
    envLookup (envInstall env x v) y = if y = x then some v else envLookup env y := by
  unfold envInstall
  cases h : envLookup env x with
  | some w => simp [envLookup_update, h]
  | none =>
    cases env with
    | nil => by_cases hy : y = x <;> simp [envLookup_cons, lookup_cons, hy, envLookup]
    | cons b rest => by_cases hy : y = x <;> simp [envLookup_cons, lookup_cons, hy]

end Pyx.Interp
