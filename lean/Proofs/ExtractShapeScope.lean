import Proofs.ExtractShapeTie
import Proofs.ExtractScope

/-!
  C14 — `is_contained_in` and `is_global` of the generated IR (Gen/ExtractShape.lean) against `containedFuel` / `containedIn`
  and `globalFuel` / `isGlobal` (PyxModel/Extract/Diagram.lean), package references (R1402) included.

  The population (`scopeWorld`): a PE_PE row is given by the `Parent` its Package_ID / Component_ID denote; EP_PKG and C_C rows
  are the `Container`s; R8000 / R8003 lead from a PE_PE to the first container with that id, R8001 from a container to its own
  PE_PE, R1402 'is referenced by' from a package over the EP_PKGREF rows whose Referred_Package_ID it is to the referring packages.
  Statements are partial-correctness statements: WHENEVER the interpretation returns (at any recursion depth `f`), it returns what
  the model computes with that fuel; on `TreeOk` and with `f > cs.length` that is `containedIn` / `isGlobal` themselves.  The
  pieces of a body are stated forward — the run raises, or it is this value and defines nothing (`call_cases` reads the induction
  hypothesis `SoundF` that way) — so that each is a rewrite rule for the next; `ok_of_runs` turns the result round.
-/

namespace Pyx.XShape
open Pyx.Extract Pyx.Gen.ExtractShape

inductive SI where
  | pe (p : Parent)            -- a PE_PE row (of any element) whose Package_ID / Component_ID denote `p`
  | pkg (k : Container)        -- EP_PKG
  | comp (k : Container)       -- C_C
  deriving DecidableEq

def scopeHop (cs : List Container) (rf : List PkgRef) (x : SI) (h : Hop) : List SI :=
  match x with
  | .pe p =>
    if h = hp "EP_PKG" 8000 then (match p with | .pkg i => ((findContainer cs false i).map SI.pkg).toList | _ => [])
    else if h = hp "C_C" 8003 then (match p with | .comp i => ((findContainer cs true i).map SI.comp).toList | _ => [])
    else []
  | .pkg k =>
    if h = hp "PE_PE" 8001 then [.pe k.parent]
    else if h = { cls := "EP_PKG", rel := 1402, phrase := "is referenced by" } then
      (rf.filter (fun r => r.referred == k.id)).filterMap (fun r => (findContainer cs false r.referring).map SI.pkg)
    else []
  | .comp k => if h = hp "PE_PE" 8001 then [.pe k.parent] else []

def scopeKind : SI → String
  | .pe _ => "PE_PE" | .pkg _ => "EP_PKG" | .comp _ => "C_C"

def scopeWorld (cs : List Container) (rf : List PkgRef) : World SI :=
  { hop := scopeHop cs rf, attr := fun _ _ => .unset, kind := scopeKind, subtype := fun _ _ => none, select := fun _ => [] }

@[simp] theorem scopeWorld_hop (cs : List Container) (rf : List PkgRef) : (scopeWorld cs rf).hop = scopeHop cs rf := rfl
@[simp] theorem scopeWorld_kind (cs : List Container) (rf : List PkgRef) : (scopeWorld cs rf).kind = scopeKind := rfl

/-- the Parent an argument of is_contained_in / is_global stands for: a PE_PE itself, or the PE_PE of a container (R8001) -/
def parentOf : Option SI → Option Parent
  | none => none
  | some (.pe p) => some p
  | some (.pkg k) => some k.parent
  | some (.comp k) => some k.parent

theorem lookup_is_global : defs.lookup "is_global" = some is_global := by
  simp only [defs, List.lookup_cons, String.reduceBEq]
theorem lookup_is_contained_in : defs.lookup "is_contained_in" = some is_contained_in := by
  simp only [defs, List.lookup_cons, String.reduceBEq]

/-- the packages referring to package `i` (R1402 'is referenced by'), in EP_PKGREF row order -/
def referrers (cs : List Container) (rf : List PkgRef) (i : Nat) : List Container :=
  (rf.filter (fun r => r.referred == i)).filterMap (fun r => findContainer cs false r.referring)

variable (cs : List Container) (rf : List PkgRef)

@[xsh] theorem scopeHop_pe (p : Parent) :
    scopeHop cs rf (.pe p) ⟨"EP_PKG", 8000, ""⟩ =
      (match p with | .pkg i => ((findContainer cs false i).map SI.pkg).toList | _ => []) ∧
    scopeHop cs rf (.pe p) ⟨"C_C", 8003, ""⟩ =
      (match p with | .comp i => ((findContainer cs true i).map SI.comp).toList | _ => []) := by
  simp [scopeHop, hp]

@[xsh] theorem scopeHop_container (k : Container) :
    scopeHop cs rf (.pkg k) ⟨"PE_PE", 8001, ""⟩ = [.pe k.parent] ∧
    scopeHop cs rf (.comp k) ⟨"PE_PE", 8001, ""⟩ = [.pe k.parent] ∧
    scopeHop cs rf (.pkg k) ⟨"EP_PKG", 1402, "is referenced by"⟩ = (referrers cs rf k.id).map SI.pkg := by
  simp [scopeHop, hp, referrers, List.map_filterMap]

attribute [xsh] scopeWorld_hop scopeWorld_kind scopeKind.eq_1 scopeKind.eq_2 scopeKind.eq_3

/-- what "raises, or returns this value and defines nothing" says about a run that returned -/
theorem ok_of_runs {r : Except Err (Val SI × Calls SI)} {b : Bool} {C : Calls SI}
    (h : (∃ e, r = .error e) ∨ r = .ok (.bool b, C)) {v : Val SI} {C' : Calls SI} (hr : r = .ok (v, C')) :
    v = .bool b ∧ C' = C := by
  rcases h with ⟨e, he⟩ | he <;> rw [he] at hr <;> cases hr
  exact ⟨rfl, rfl⟩

/-! ### is_global -/

/-- whenever `is_global(x)` returns, it returns `globalFuel` at that depth (x a PE_PE, an EP_PKG or a C_C) -/
theorem isGlobal_sound : ∀ (f : Nat) (x : SI) (Lc : Loc SI) (C : Calls SI) (v : Val SI)
    (C' : Calls SI), callAt (scopeWorld cs rf) defs f "is_global" [.inst (some x)] Lc C = .ok (v, C') →
      ∀ p, parentOf (some x) = some p → v = .bool (globalFuel cs f p) ∧ C' = C := by
  intro f
  induction f with
  | zero => intro x Lc C v C' h; simp [callAt] at h
  | succ f ih =>
    intro x Lc C v C' h p hp'
    rw [callAt_def _ _ _ _ _ _ _ lookup_is_global rfl, ← List.take_append_drop 1 is_global.body, iStmts_append] at h
    -- after the conversion to the PE_PE the three kinds of argument run the same code
    have key : ∀ (L0 : Loc SI), L0 "pe_pe" = .inst (some (SI.pe p)) →
        (∃ e, retOf (iStmts (scopeWorld cs rf) (callAt (scopeWorld cs rf) defs f) f (is_global.body.drop 1) L0 C) = .error e) ∨
        retOf (iStmts (scopeWorld cs rf) (callAt (scopeWorld cs rf) defs f) f (is_global.body.drop 1) L0 C) =
          .ok (.bool (globalFuel cs (f + 1) p), C) := by
      intro L0 hL0
      cases p with
      | none => exact .inr (by simp only [xsh, is_global, List.drop_succ_cons, List.drop_zero, hL0, globalFuel])
      | comp c =>
        cases hc : findContainer cs true c <;>
          exact .inr (by simp only [xsh, is_global, List.drop_succ_cons, List.drop_zero, hL0, hc, globalFuel, Option.isNone])
      | pkg i =>
        cases hc : findContainer cs false i with
        | none => exact .inr (by simp only [xsh, is_global, List.drop_succ_cons, List.drop_zero, hL0, hc, globalFuel])
        | some k =>
          simp only [xsh, is_global, List.drop_succ_cons, List.drop_zero, hL0, hc, globalFuel]
          generalize hr : callAt (scopeWorld cs rf) defs f "is_global" _ _ C = r
          rcases r with e | ⟨v1, C1⟩
          · exact .inl ⟨e, by simp only [xsh]⟩
          · obtain ⟨hv, hC⟩ := ih _ _ _ _ _ hr k.parent rfl
            subst hv hC
            exact .inr (by simp only [xsh])
    generalize List.drop 1 is_global.body = tl at h key
    cases x with
    | pe q =>
      obtain rfl : q = p := by simpa [parentOf] using hp'
      simp only [xsh, is_global, List.take_succ_cons, List.take_zero] at h
      exact ok_of_runs (key _ (by simp only [xsh])) h
    | pkg k | comp k =>
      obtain rfl : k.parent = p := by simpa [parentOf] using hp'
      simp only [xsh, is_global, List.take_succ_cons, List.take_zero] at h
      exact ok_of_runs (key _ (by simp only [xsh])) h

/-! ### is_contained_in -/

def refLoopBody : List Stmt := [.ite (.truthy (.call "is_contained_in" ["ep_pkg", "root"])) [.ret (.bool true)] []]
def cicTail : List Stmt :=
  [ .forNav "ep_pkg" { card := .many, start := "ep_pkg", hops := [{ cls := "EP_PKG", rel := 1402, phrase := "is referenced by" }], filter := .all } refLoopBody,
    .ret (.bool false) ]
theorem is_contained_in_tail : is_contained_in.body.drop 5 = cicTail := rfl

/-- what the model says `is_contained_in(x, root)` is at depth f -/
def cont (cs : List Container) (rf : List PkgRef) (root f : Nat) (xo : Option SI) : Bool :=
  match parentOf xo with
  | none => false
  | some p => containedFuel cs rf root f p

/-- the calls of `is_contained_in(·, root)` through `cf`, whenever they return, return the model's value at depth `f` and define
    nothing (the induction hypothesis over the recursion depth) -/
def SoundF (cs : List Container) (rf : List PkgRef) (root : Nat) (kr : Container) (cf : CallF SI) (f : Nat) : Prop :=
  ∀ (xo : Option SI) (Lc : Loc SI) (C : Calls SI) (v : Val SI) (C' : Calls SI),
    cf "is_contained_in" [.inst xo, .inst (some (SI.comp kr))] Lc C = .ok (v, C') → v = .bool (cont cs rf root f xo) ∧ C' = C

theorem any_referrers (root f i : Nat) :
    (referrers cs rf i).any (fun kq => containedFuel cs rf root f kq.parent) =
      rf.any (fun r => r.referred == i &&
        match findContainer cs false r.referring with
        | some kq => containedFuel cs rf root f kq.parent
        | none => false) := by
  simp only [referrers, List.any_filterMap, List.any_filter]
  congr 1; funext r; cases findContainer cs false r.referring <;> rfl

theorem call_cases {cs : List Container} {rf : List PkgRef} {root : Nat} {kr : Container} {cf : CallF SI} {f : Nat}
    (hs : SoundF cs rf root kr cf f) (xo : Option SI) (L : Loc SI) (C : Calls SI) :
    (∃ e, cf "is_contained_in" [.inst xo, .inst (some (SI.comp kr))] L C = .error e) ∨
      cf "is_contained_in" [.inst xo, .inst (some (SI.comp kr))] L C = .ok (.bool (cont cs rf root f xo), C) := by
  rcases h : cf "is_contained_in" [.inst xo, .inst (some (SI.comp kr))] L C with e | ⟨v, C'⟩
  · exact .inl ⟨e, rfl⟩
  · obtain ⟨hv, hC⟩ := hs _ _ _ _ _ h
    subst hv hC
    exact .inr rfl

/-- the loop over the referring packages: it raises, or it ends in `return True` / falls through according to the model's
    disjunction over them, and defines nothing -/
theorem refLoop_sound (root : Nat) (kr : Container) (cf : CallF SI) (f fuel : Nat) (hs : SoundF cs rf root kr cf f) :
    ∀ (ks : List Container) (L : Loc SI) (C : Calls SI), L "root" = .inst (some (SI.comp kr)) →
      (∃ e, forLoop (fun x L' C' => iStmts (scopeWorld cs rf) cf fuel refLoopBody (L'.set "ep_pkg" (.inst (some x))) C')
        (ks.map SI.pkg) L C = .error e) ∨
      ∃ L1, forLoop (fun x L' C' => iStmts (scopeWorld cs rf) cf fuel refLoopBody (L'.set "ep_pkg" (.inst (some x))) C')
          (ks.map SI.pkg) L C =
          .ok (L1, C, if ks.any (fun k => containedFuel cs rf root f k.parent) then .ret (.bool true) else .next) := by
  intro ks
  induction ks with
  | nil => intro L C _; exact .inr ⟨L, rfl⟩
  | cons k ks ih =>
    intro L C hr
    have hr' : (L.set "ep_pkg" (.inst (some (SI.pkg k)))) "root" = .inst (some (SI.comp kr)) := by simp [Loc.set, hr]
    simp only [List.map_cons, forLoop, List.any_cons]
    rcases call_cases hs (some (SI.pkg k)) (L.set "ep_pkg" (.inst (some (SI.pkg k)))) C with ⟨e, hc⟩ | hc
    · exact .inl ⟨e, by simp only [xsh, refLoopBody, hr', hc]⟩
    · have hb : cont cs rf root f (some (SI.pkg k)) = containedFuel cs rf root f k.parent := rfl
      rw [hb] at hc
      rcases Bool.eq_false_or_eq_true (containedFuel cs rf root f k.parent) with hk | hk
      · exact .inr ⟨_, by simp only [xsh, refLoopBody, hr', hc, hk]; rfl⟩
      · simp only [xsh, refLoopBody, hr', hc, hk]
        exact ih _ C hr'

/-- the statement after the two navigations: `if root in [ep_pkg, c_c] … elif … elif …` -/
def cicIf : Stmt :=
  .ite (.among "root" ["ep_pkg", "c_c"]) [.ret (.bool true)]
    [.ite (.truthy (.call "is_contained_in" ["ep_pkg", "root"])) [.ret (.bool true)]
      [.ite (.truthy (.call "is_contained_in" ["c_c", "root"])) [.ret (.bool true)] []]]

theorem is_contained_in_split : is_contained_in.body.drop 2 =
    [ .assign "ep_pkg" (.nav { card := .one, start := "pe_pe", hops := [{ cls := "EP_PKG", rel := 8000, phrase := "" }], filter := .all }),
      .assign "c_c" (.nav { card := .one, start := "pe_pe", hops := [{ cls := "C_C", rel := 8003, phrase := "" }], filter := .all }),
      cicIf ] ++ cicTail := rfl

theorem cicIf_sound (root : Nat) (kr : Container) (cf : CallF SI) (f fuel : Nat)
    (hs : SoundF cs rf root kr cf f) (epo cco : Option SI) (L : Loc SI) (C : Calls SI)
    (h1 : L "ep_pkg" = .inst epo) (h2 : L "c_c" = .inst cco) (h3 : L "root" = .inst (some (SI.comp kr))) :
    (∃ e, iStmt (scopeWorld cs rf) cf fuel cicIf L C = .error e) ∨
    (iStmt (scopeWorld cs rf) cf fuel cicIf L C = .ok (L, C, .ret (.bool true)) ∧
      (decide (some (SI.comp kr) = epo) || decide (some (SI.comp kr) = cco) || cont cs rf root f epo || cont cs rf root f cco) = true) ∨
    (iStmt (scopeWorld cs rf) cf fuel cicIf L C = .ok (L, C, .next) ∧
      (decide (some (SI.comp kr) = epo) || decide (some (SI.comp kr) = cco) || cont cs rf root f epo || cont cs rf root f cco) = false) := by
  by_cases hA : some (SI.comp kr) = epo ∨ some (SI.comp kr) = cco
  · right; left
    rcases hA with hA | hA <;> simp [xsh, cicIf, h1, h2, h3, ← hA]
  · have hA1 : ¬ some (SI.comp kr) = epo := fun h => hA (.inl h)
    have hA2 : ¬ some (SI.comp kr) = cco := fun h => hA (.inr h)
    rcases call_cases hs epo L C with ⟨e, hc1⟩ | hc1
    · left; exact ⟨e, by simp [xsh, cicIf, h1, h2, h3, hA1, hA2, hc1]⟩
    · cases hb1 : cont cs rf root f epo with
      | true => right; left; simp [xsh, cicIf, h1, h2, h3, hA1, hA2, hc1, hb1]
      | false =>
        rcases call_cases hs cco L C with ⟨e, hc2⟩ | hc2
        · left; exact ⟨e, by simp [xsh, cicIf, h1, h2, h3, hA1, hA2, hc1, hb1, hc2]⟩
        · cases hb2 : cont cs rf root f cco with
          | true => right; left; simp [xsh, cicIf, h1, h2, h3, hA1, hA2, hc1, hb1, hc2, hb2]
          | false => right; right; simp [xsh, cicIf, h1, h2, h3, hA1, hA2, hc1, hb1, hc2, hb2]

/-- the loop over the referring packages and the final `return False` -/
theorem cicTail_sound (root : Nat) (kr : Container) (cf : CallF SI) (f fuel : Nat)
    (hs : SoundF cs rf root kr cf f) (epk : Option Container) (L : Loc SI) (C : Calls SI)
    (h1 : L "ep_pkg" = .inst (epk.map SI.pkg)) (h3 : L "root" = .inst (some (SI.comp kr))) :
    (∃ e, retOf (iStmts (scopeWorld cs rf) cf fuel cicTail L C) = .error e) ∨
    retOf (iStmts (scopeWorld cs rf) cf fuel cicTail L C) = .ok (.bool (match epk with
      | some k => (referrers cs rf k.id).any (fun kq => containedFuel cs rf root f kq.parent)
      | none => false), C) := by
  cases epk with
  | none => exact .inr (by simp only [xsh, cicTail, h1])
  | some k =>
    simp only [Option.map_some] at h1
    rcases refLoop_sound cs rf root kr cf f fuel hs (referrers cs rf k.id) L C h3 with ⟨e, he⟩ | ⟨L1, he⟩
    · exact .inl ⟨e, by simp only [xsh, cicTail, h1, he]⟩
    · refine .inr ?_
      simp only [xsh, cicTail, h1, he]
      cases (referrers cs rf k.id).any (fun kq => containedFuel cs rf root f kq.parent) <;> simp only [xsh]

/-- `is_contained_in` from its third statement on (the first two return False for None and convert the argument to its PE_PE) -/
theorem cic_key (root : Nat) (kr : Container)
    (hkr : findContainer cs true root = some kr) (cf : CallF SI) (f fuel : Nat) (hs : SoundF cs rf root kr cf f)
    (p : Parent) (L0 : Loc SI) (C : Calls SI)
    (hL0 : L0 "pe_pe" = .inst (some (SI.pe p))) (hR : L0 "root" = .inst (some (SI.comp kr))) :
    (∃ e, retOf (iStmts (scopeWorld cs rf) cf fuel (is_contained_in.body.drop 2) L0 C) = .error e) ∨
    retOf (iStmts (scopeWorld cs rf) cf fuel (is_contained_in.body.drop 2) L0 C) =
      .ok (.bool (containedFuel cs rf root (f + 1) p), C) := by
  rw [is_contained_in_split, iStmts_append]
  -- ep_pkg and c_c as the two navigations find them
  obtain ⟨epk, cco, hnav, hmodel⟩ : ∃ (epk : Option Container) (cco : Option SI),
      (iStmts (scopeWorld cs rf) cf fuel
        [ .assign "ep_pkg" (.nav { card := .one, start := "pe_pe", hops := [{ cls := "EP_PKG", rel := 8000, phrase := "" }], filter := .all }),
          .assign "c_c" (.nav { card := .one, start := "pe_pe", hops := [{ cls := "C_C", rel := 8003, phrase := "" }], filter := .all }),
          cicIf ] L0 C =
        thenStep (iStmt (scopeWorld cs rf) cf fuel cicIf ((L0.set "ep_pkg" (.inst (epk.map SI.pkg))).set "c_c" (.inst cco)) C)
          (iStmts (scopeWorld cs rf) cf fuel [])) ∧
      containedFuel cs rf root (f + 1) p =
        (decide (some (SI.comp kr) = epk.map SI.pkg) || decide (some (SI.comp kr) = cco) || cont cs rf root f (epk.map SI.pkg) ||
          cont cs rf root f cco ||
          (match epk with
           | some k => (referrers cs rf k.id).any (fun kq => containedFuel cs rf root f kq.parent)
           | none => false)) := by
    cases p with
    | none => exact ⟨none, none, by simp only [xsh, hL0], by simp [containedFuel, cont, parentOf]⟩
    | pkg i =>
      cases hc : findContainer cs false i with
      | none => exact ⟨none, none, by simp only [xsh, hL0, hc], by simp [containedFuel, cont, parentOf, hc]⟩
      | some k =>
        refine ⟨some k, none, by simp only [xsh, hL0, hc], ?_⟩
        have hid := (findContainer_spec hc).2.2
        subst hid
        simp only [containedFuel, hc, cont, parentOf, any_referrers, Option.map_some]
        simp
        rfl
    | comp c =>
      cases hc : findContainer cs true c with
      | none => exact ⟨none, none, by simp only [xsh, hL0, hc], by simp [containedFuel, cont, parentOf, hc]⟩
      | some k =>
        refine ⟨none, some (SI.comp k), by simp only [xsh, hL0, hc], ?_⟩
        -- `root in [ep_pkg, c_c]` compares rows, the model compares ids: the same, since `findContainer` is a function of the id
        have hiff : (kr = k) ↔ (c = root) := by
          constructor
          · intro h; subst h
            have h1 := (findContainer_spec hc).2.2
            have h2 := (findContainer_spec hkr).2.2
            omega
          · intro h; subst h
            rw [hkr] at hc; exact Option.some.inj hc
        by_cases hcr : c = root
        · simp [containedFuel, cont, parentOf, hcr, hiff.mpr hcr, hkr]
        · have : ¬ kr = k := fun h => hcr (hiff.mp h)
          simp [containedFuel, cont, parentOf, hc, hcr, this]
  rw [hnav, hmodel]
  have h1 : ((L0.set "ep_pkg" (.inst (epk.map SI.pkg))).set "c_c" (.inst cco)) "ep_pkg" = .inst (epk.map SI.pkg) := by simp [Loc.set]
  have h2 : ((L0.set "ep_pkg" (.inst (epk.map SI.pkg))).set "c_c" (.inst cco)) "c_c" = .inst cco := by simp [Loc.set]
  have h3 : ((L0.set "ep_pkg" (.inst (epk.map SI.pkg))).set "c_c" (.inst cco)) "root" = .inst (some (SI.comp kr)) := by
    simp [Loc.set, hR]
  rcases cicIf_sound cs rf root kr cf f fuel hs _ cco _ C h1 h2 h3 with ⟨e, he⟩ | ⟨he, hB⟩ | ⟨he, hB⟩
  · exact .inl ⟨e, by rw [he]; rfl⟩
  · refine .inr ?_
    rw [he, hB]
    rfl
  · rw [he, hB]
    simp only [thenStep, iStmts]
    rcases cicTail_sound cs rf root kr cf f fuel hs epk _ C h1 h3 with ⟨e, ht⟩ | ht
    · exact .inl ⟨e, ht⟩
    · refine .inr ?_
      rw [ht]
      cases epk <;> simp

/-- whenever `is_contained_in(x, root)` returns at recursion depth f (x None, a PE_PE, an EP_PKG or a C_C; root the C_C with id
    `root`), it returns `containedFuel cs rf root f` of the Parent x stands for (False for None) and defines nothing -/
theorem contained_sound_interp (root : Nat) (kr : Container)
    (hkr : findContainer cs true root = some kr) : ∀ f, SoundF cs rf root kr (callAt (scopeWorld cs rf) defs f) f := by
  intro f
  induction f with
  | zero => intro xo Lc C v C' h; simp [callAt] at h
  | succ f ih =>
    intro xo Lc C v C' h
    rw [callAt_def _ _ _ _ _ _ _ lookup_is_contained_in rfl, ← List.take_append_drop 2 is_contained_in.body, iStmts_append] at h
    have key := cic_key cs rf root kr hkr _ f f ih
    generalize List.drop 2 is_contained_in.body = tl at h key
    cases xo with
    | none =>
      simp only [xsh, is_contained_in, List.take_succ_cons, List.take_zero] at h
      simpa [cont, parentOf, eq_comm] using h
    | some x =>
      cases x with
      | pe q =>
        simp only [xsh, is_contained_in, List.take_succ_cons, List.take_zero] at h
        simpa [cont, parentOf] using ok_of_runs (key q _ C (by simp only [xsh]) (by simp only [xsh])) h
      | pkg k | comp k =>
        simp only [xsh, is_contained_in, List.take_succ_cons, List.take_zero] at h
        simpa [cont, parentOf] using ok_of_runs (key k.parent _ C (by simp only [xsh]) (by simp only [xsh])) h

end Pyx.XShape
