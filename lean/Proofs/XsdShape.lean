import PyxModel.Extract.Xsd
import Gen.XsdShape
import Proofs.Lib.SimpSets
import Proofs.Extract

/-!
  C20 source tie, statement structure of bridgepoint/gen_xsd_schema.py: a GENERIC interpreter of the first-order IR that
  translator/gen_xsdshape.py extracts (`Pyx.Gen.XsdShape`), over class diagrams (`Pyx.Extract.ClassDiagram`), producing the
  model's XML tree type, and the lemmas showing that the hand-written model functions of PyxModel/Extract/Xsd.lean equal that
  interpretation of the IR generated from the current source.

  The interpreter (`evalG`, `iStmt`, `iStmts`, `run`) is defined once, for ANY IR value; only the `…_eq` / `…_run` / `…_body` lemmas
  here and the `*_as_in_source` theorems of Props/C20.lean mention the generated constants.  What it fixes, once, is the meaning
  of the ATOMS (the hand-modelled environment):

    an instance of the population     = `Ent`: a row of the diagram (S_DT and its R17 subtype row, the i-th S_ENUM of an
                                        enumeration, O_OBJ, O_ATTR and its R106 / R107 subtype rows, C_C)
    `.<KL>[<rel>, '<phrase>']`        = `navStep`: R17, R18, R27, R56 (both phrases), R102, R106, R107, R113, R114 read off
                                        the diagram; any other (class, number, phrase) reaches NOTHING (so a changed
                                        association number or phrase changes the result)
    navigate_any / navigate_one       = the first instance reached (after the filter), or None; navigating from None
                                        reaches nothing
    navigate_many, select_many        = the instances in MODELED order (`d.dts`, `d.classes`, for R102: the attributes off
                                        the R103 chain, then the chain) — the real QuerySets are ordered by row order,
                                        which the harness canonicalises; a `for` runs in that order
    `<x>.<attr>`                      = `fieldOf` (name, key_lett, core_typ)
    Python truthiness                 = `truthy`: None, '', 0, empty set are false; an ELEMENT has no truth value here
                                        (ElementTree's is "has children": a test `if datatype:` would be stuck)
    ET.Element / SubElement / append / set = one tree under construction per function; a local holds the PATH of its
                                        element in it; what a callee returned is a finished tree
    a call of a function of the module / of ooaofooa.is_global, is_contained_in
                                      = `oracle`: what the MODEL says that function returns (`xtypeOf`, `xclassAll`,
                                        `isGlobal`, `containedIn`, …).  Each `…_eq` lemma (Props/C20: `*_as_in_source`) shows
                                        that the body of a function, with its callees read that way, returns what the
                                        oracle says for the function itself: the usual modular (partial-correctness)
                                        argument; the one recursive function (get_refered_attribute) satisfies its own
                                        equation.
    while                             = `whileLoop` with fuel (one unit per test of the condition); exhaustion = stuck
-/
namespace Pyx.XShape
open Pyx.Extract Pyx.Gen.XsdShape

inductive Ent where
  | sdt (t : DataType)            -- S_DT
  | cdt (t : DataType)            -- the S_CDT row of t (exists iff t.kind = core _)
  | edt (t : DataType)            -- S_EDT
  | udt (t : DataType)            -- S_UDT
  | senum (t : DataType) (i : Nat)   -- the i-th S_ENUM (R56 order) of the enumeration t
  | obj (c : Class)               -- O_OBJ
  | attr (a : Attr)               -- O_ATTR
  | rattr (a : Attr)              -- its O_RATTR row (kind = ref)
  | battr (a : Attr)              -- its O_BATTR row (kind = base / derived)
  | dbattr (a : Attr)             -- its O_DBATTR row (kind = derived)
  | cc (k : Container)            -- C_C

inductive V where
  | none
  | str (s : String)
  | nat (n : Nat)
  | bool (b : Bool)
  | ent (e : Ent)
  | ents (l : List Ent)
  | elem (path : List Nat)        -- an element of the tree under construction
  | tree (t : XmlTree)            -- a finished tree (returned by a callee)
  | lam (param : String) (body : Expr)
  | model                         -- the metamodel `m`

abbrev Locals := List (String × V)

def truthy : V → Option Bool
  | .none => some false
  | .str s => some (s != "")
  | .nat n => some (n != 0)
  | .bool b => some b
  | .ent _ => some true
  | .ents l => some (!l.isEmpty)
  | _ => none

def optStr : Option String → V
  | some s => .str s
  | none => .none

def optTree : Option XmlTree → V
  | some t => .tree t
  | none => .none

def enumsOf (t : DataType) : List String :=
  match t.kind with
  | .enum es => es
  | _ => []

def fieldOf (e : Ent) (f : String) : Option V :=
  match e with
  | .sdt t => if f = "name" then some (.str t.name) else none
  | .cdt t => if f = "core_typ" then (match t.kind with | .core n => some (.nat n) | _ => none) else none
  | .senum t i => if f = "name" then (enumsOf t)[i]?.map V.str else none
  | .obj c => if f = "key_lett" then some (.str c.kl) else none
  | .attr a => if f = "name" then some (.str a.name) else none
  | .cc k => if f = "name" then some (.str k.name) else none
  | _ => none

def dtEnt (d : ClassDiagram) (id : Nat) : List Ent := (findDt d.dts id).toList.map Ent.sdt

/-- `.<cls>[<rel>, '<phrase>']` from one instance -/
def navStep (d : ClassDiagram) (e : Ent) (s : Step) : List Ent :=
  match e with
  | .sdt t =>
    if s = ⟨"S_CDT", 17, ""⟩ then (match t.kind with | .core _ => [.cdt t] | _ => [])
    else if s = ⟨"S_EDT", 17, ""⟩ then (match t.kind with | .enum _ => [.edt t] | _ => [])
    else if s = ⟨"S_UDT", 17, ""⟩ then (match t.kind with | .user _ => [.udt t] | _ => [])
    else []
  | .cdt t => if s = ⟨"S_DT", 17, ""⟩ then [.sdt t] else []
  | .edt t =>
    if s = ⟨"S_DT", 17, ""⟩ then [.sdt t]
    else if s = ⟨"S_ENUM", 27, ""⟩ then (List.range (enumsOf t).length).map (Ent.senum t)
    else []
  | .udt t =>
    if s = ⟨"S_DT", 17, ""⟩ then [.sdt t]
    else if s = ⟨"S_DT", 18, ""⟩ then (match t.kind with | .user b => dtEnt d b | _ => [])
    else []
  | .senum t i =>
    -- X 'succeeds' Y: Y is the one before X; X 'precedes' Y: Y is the one after X
    if s = ⟨"S_ENUM", 56, "succeeds"⟩ then (match i with | 0 => [] | j + 1 => [.senum t j])
    else if s = ⟨"S_ENUM", 56, "precedes"⟩ then (if i + 1 < (enumsOf t).length then [.senum t (i + 1)] else [])
    else []
  | .obj c => if s = ⟨"O_ATTR", 102, ""⟩ then (looseOf d c.id ++ c.attrs).map Ent.attr else []
  | .attr a =>
    if s = ⟨"O_RATTR", 106, ""⟩ then (match a.kind with | .ref _ _ => [.rattr a] | _ => [])
    else if s = ⟨"O_BATTR", 106, ""⟩ then (match a.kind with | .ref _ _ => [] | _ => [.battr a])
    else if s = ⟨"S_DT", 114, ""⟩ then
      -- the own type of a referential attribute is same_as<Base_Attribute> (core type 7): the model has no row for it
      (match a.kind with | .base dt => dtEnt d dt | .derived dt => dtEnt d dt | .ref _ _ => [])
    else []
  | .rattr a =>
    if s = ⟨"O_BATTR", 113, ""⟩ then
      (match a.kind with
       | .ref c b =>
         (match (findClass d c).bind (fun k => k.findAttr b) with
          | some ba => (match ba.kind with | .ref _ _ => [] | _ => [.battr ba])
          | none => [])
       | _ => [])
    else []
  | .battr a =>
    if s = ⟨"O_ATTR", 106, ""⟩ then [.attr a]
    else if s = ⟨"O_DBATTR", 107, ""⟩ then (match a.kind with | .derived _ => [.dbattr a] | _ => [])
    else []
  | .dbattr _ => []
  | .cc _ => []

def navSteps (d : ClassDiagram) : List Ent → List Step → List Ent
  | l, [] => l
  | l, s :: rest => navSteps d (l.flatMap (fun e => navStep d e s)) rest

def navResult (k : NavKind) (l : List Ent) : V :=
  match k with
  | .many => .ents l
  | _ => match l with
    | [] => .none
    | e :: _ => .ent e

def poolOf (d : ClassDiagram) (cls : String) : Option (List Ent) :=
  if cls = "S_DT" then some (d.dts.map Ent.sdt)
  else if cls = "O_OBJ" then some (d.classes.map Ent.obj)
  else none

def parentOf : Ent → Option Parent
  | .sdt t => some t.parent
  | .obj c => some c.parent
  | _ => none

def filterOpt (p : Ent → Option Bool) : List Ent → Option (List Ent)
  | [] => some []
  | e :: rest =>
    match p e, filterOpt p rest with
    | some b, some r => some (if b then e :: r else r)
    | _, _ => none

theorem filterOpt_map {β : Type} (p : Ent → Option Bool) (g : β → Ent) (q : β → Bool) :
    ∀ (rows : List β), (∀ x ∈ rows, p (g x) = some (q x)) → filterOpt p (rows.map g) = some ((rows.filter q).map g)
  | [], _ => rfl
  | x :: rest, h => by
    have ih := filterOpt_map p g q rest (fun y hy => h y (List.mem_cons_of_mem _ hy))
    simp only [List.map_cons, filterOpt, h x (List.mem_cons_self ..), ih, List.filter_cons]
    cases q x <;> rfl

def startOf : V → Option (List Ent)
  | .none => some []
  | .ent e => some [e]
  | .ents l => some l
  | _ => none

def lookupAll (L : Locals) : List String → Option (List V)
  | [] => some []
  | x :: rest =>
    match L.lookup x, lookupAll L rest with
    | some v, some vs => some (v :: vs)
    | _, _ => none

/-- filter of a navigation / selection: none, or a local holding a lambda -/
def filterBy (app : Locals → String → Expr → V → Option V) (L : Locals) (flt : Option String) (l : List Ent) :
    Option (List Ent) :=
  match flt with
  | none => some l
  | some f =>
    match L.lookup f with
    | some (.lam p body) => filterOpt (fun e => (app L p body (.ent e)).bind truthy) l
    | _ => none

def evalG (d : ClassDiagram) (calls : String → List V → Option V) (app : Locals → String → Expr → V → Option V)
    (L : Locals) : Expr → Option V
  | .var x => L.lookup x
  | .none => some .none
  | .str s => some (.str s)
  | .field x f =>
    match L.lookup x with
    | some (.ent e) => fieldOf e f
    | _ => none
  | .nav k start steps flt =>
    match (L.lookup start).bind startOf with
    | some cands =>
      match filterBy app L flt (navSteps d cands steps) with
      | some kept => some (navResult k kept)
      | none => none
    | none => none
  | .selectMany m cls flt =>
    match L.lookup m, poolOf d cls with
    | some .model, some pool =>
      match filterBy app L flt pool with
      | some kept => some (.ents kept)
      | none => none
    | _, _ => none
  | .call fn args =>
    match lookupAll L args with
    | some vs => calls fn vs
    | none => none
  | .inRange e lo hi =>
    match evalG d calls app L e with
    | some (.nat n) => some (.bool (decide (lo ≤ n) && decide (n < hi)))
    | _ => none
  | .eqStr e s =>
    match evalG d calls app L e with
    | some (.str t) => some (.bool (t == s))
    | _ => none
  | .and_ a b =>
    match evalG d calls app L a with
    | some va =>
      match truthy va with
      | some true => evalG d calls app L b
      | some false => some va
      | none => none
    | none => none
  | .not_ a =>
    match (evalG d calls app L a).bind truthy with
    | some t => some (.bool (!t))
    | none => none
  | .isNotNone e =>
    match evalG d calls app L e with
    | some .none => some (.bool false)
    | some _ => some (.bool true)
    | none => none

/-- the body of a lambda: no filter inside (a lambda of the source never applies another one) -/
def eval0 (d : ClassDiagram) (calls : String → List V → Option V) (L : Locals) (e : Expr) : Option V :=
  evalG d calls (fun _ _ _ _ => none) L e

def eval (d : ClassDiagram) (calls : String → List V → Option V) (L : Locals) (e : Expr) : Option V :=
  evalG d calls (fun L p body v => eval0 d calls ((p, v) :: L) body) L e

def modifyAt (f : XmlTree → XmlTree) : XmlTree → List Nat → Option XmlTree
  | t, [] => some (f t)
  | .node tg a ch, i :: p =>
    match ch[i]? with
    | some c =>
      match modifyAt f c p with
      | some c' => some (.node tg a (ch.set i c'))
      | none => none
    | none => none

def nodeAt : XmlTree → List Nat → Option XmlTree
  | t, [] => some t
  | .node _ _ ch, i :: p =>
    match ch[i]? with
    | some c => nodeAt c p
    | none => none

def addChild (x : XmlTree) : XmlTree → XmlTree
  | .node tg a ch => .node tg a (ch ++ [x])

/-- `Element.set(key, value)`: a dict assignment -/
def setKey (key value : String) : XmlTree → XmlTree
  | .node tg a ch =>
    .node tg (if a.any (fun p => p.1 == key) then a.map (fun p => if p.1 == key then (key, value) else p) else a ++ [(key, value)]) ch

def evalAttrs (ev : Expr → Option V) : List (String × Expr) → Option (List (String × String))
  | [] => some []
  | (k, e) :: rest =>
    match ev e, evalAttrs ev rest with
    | some (.str s), some r => some ((k, s) :: r)
    | _, _ => none

structure St where
  L : Locals
  root : Option XmlTree

inductive Sig where
  | next
  | ret (v : V)

def whileLoop (cond : St → Option Bool) (body : St → Option (St × Sig)) : Nat → St → Option (St × Sig)
  | 0, _ => none
  | n + 1, st =>
    match cond st with
    | some true =>
      match body st with
      | some (st', .next) => whileLoop cond body n st'
      | some (st', .ret v) => some (st', .ret v)
      | none => none
    | some false => some (st, .next)
    | none => none

def forLoop (body : Ent → St → Option (St × Sig)) : List Ent → St → Option (St × Sig)
  | [], st => some (st, .next)
  | e :: rest, st =>
    match body e st with
    | some (st', .next) => forLoop body rest st'
    | some (st', .ret v) => some (st', .ret v)
    | none => none

/-- `return <v>`: the element under construction is returned as the finished tree -/
def retVal (st : St) : V → Option V
  | .elem [] => st.root.map V.tree
  | .elem _ => none
  | v => some v

mutual
  def iStmt (d : ClassDiagram) (calls : String → List V → Option V) (fuel : Nat) (st : St) : Stmt → Option (St × Sig)
    | .assign dst e =>
      match eval d calls st.L e with
      | some v => some ({ st with L := (dst, v) :: st.L }, .next)
      | none => none
    | .lambda dst p body => some ({ st with L := (dst, .lam p body) :: st.L }, .next)
    | .element dst tag attrs =>
      match st.root, evalAttrs (eval d calls st.L) attrs with
      | none, some as => some ({ L := (dst, .elem []) :: st.L, root := some (.node tag as []) }, .next)
      | _, _ => none
    | .subElement dst parent tag attrs =>
      match st.L.lookup parent, st.root, evalAttrs (eval d calls st.L) attrs with
      | some (.elem p), some r, some as =>
        match nodeAt r p, modifyAt (addChild (.node tag as [])) r p with
        | some n, some r' =>
          some ({ L := (match dst with | some x => (x, .elem (p ++ [n.children.length])) :: st.L | none => st.L),
                  root := some r' }, .next)
        | _, _ => none
      | _, _, _ => none
    | .append parent e =>
      match st.L.lookup parent, st.root, eval d calls st.L e with
      | some (.elem p), some r, some (.tree t) =>
        match modifyAt (addChild t) r p with
        | some r' => some ({ st with root := some r' }, .next)
        | none => none
      | _, _, _ => none
    | .setAttr x key e =>
      match st.L.lookup x, st.root, eval d calls st.L e with
      | some (.elem p), some r, some (.str s) =>
        match modifyAt (setKey key s) r p with
        | some r' => some ({ st with root := some r' }, .next)
        | none => none
      | _, _, _ => none
    | .log _ => some (st, .next)
    | .ifThen c thn els =>
      match (eval d calls st.L c).bind truthy with
      | some true => iStmts d calls fuel st thn
      | some false => iStmts d calls fuel st els
      | none => none
    | .whileDo c body =>
      whileLoop (fun s => (eval d calls s.L c).bind truthy) (fun s => iStmts d calls fuel s body) fuel st
    | .forIn v e body =>
      match eval d calls st.L e with
      | some (.ents l) => forLoop (fun x s => iStmts d calls fuel { s with L := (v, .ent x) :: s.L } body) l st
      | _ => none
    | .ret e =>
      match (eval d calls st.L e).bind (retVal st) with
      | some v => some (st, .ret v)
      | none => none
  def iStmts (d : ClassDiagram) (calls : String → List V → Option V) (fuel : Nat) (st : St) : List Stmt → Option (St × Sig)
    | [] => some (st, .next)
    | s :: rest =>
      match iStmt d calls fuel st s with
      | some (st', .next) => iStmts d calls fuel st' rest
      | some (st', .ret v) => some (st', .ret v)
      | none => none
end

def bindParams : List String → List V → Option Locals
  | [], [] => some []
  | p :: ps, v :: vs => (bindParams ps vs).map (fun L => (p, v) :: L)
  | _, _ => none

/-- a call of `f` with the argument values `args`; falling off the end returns None -/
def run (d : ClassDiagram) (calls : String → List V → Option V) (fuel : Nat) (f : Fn) (args : List V) : Option V :=
  match bindParams f.params args with
  | some L =>
    match iStmts d calls fuel { L := L, root := none } f.body with
    | some (_, .ret v) => some v
    | some (_, .next) => some .none
    | none => none
  | none => none

/-- `get_type_name` on a row: what the code RETURNS (an empty name included; the callers test it for truthiness) -/
def rawTypeName (t : DataType) : Option String :=
  match t.kind with
  | .core n => if 1 ≤ n ∧ n ≤ 5 then some t.name else none
  | .enum _ => some t.name
  | .user _ => some t.name
  | .other => none

/-- `get_refered_attribute`: the base attribute a referential attribute refers to over R113 (itself when there is none) -/
def referred (d : ClassDiagram) (a : Attr) : Attr :=
  match a.kind with
  | .ref c b =>
    match (findClass d c).bind (fun k => k.findAttr b) with
    | some ba => (match ba.kind with | .ref _ _ => a | _ => ba)
    | none => a
  | _ => a

def classesOf (d : ClassDiagram) (comp : Nat) : List XClass :=
  (d.classes.filter (fun c => containedIn d.containers d.pkgrefs comp c.parent)).map (xclassAll d)

def typesOf (d : ClassDiagram) (comp : Nat) : List XType :=
  (d.dts.filter (fun t => isGlobal d.containers t.parent)).filterMap (xtypeOf d.dts) ++
  (d.dts.filter (fun t => containedIn d.containers d.pkgrefs comp t.parent && !isGlobal d.containers t.parent)).filterMap (xtypeOf d.dts)

def oracle (d : ClassDiagram) (fn : String) (args : List V) : Option V :=
  if fn = "get_type_name" then
    (match args with
     | [.ent (.sdt t)] => some (optStr (rawTypeName t))
     | [.none] => some .none
     | _ => none)
  else if fn = "get_refered_attribute" then
    (match args with
     | [.ent (.attr a)] => some (.ent (.attr (referred d a)))
     | _ => none)
  else if fn = "build_core_type" then
    (match args with
     | [.ent (.cdt t)] => some (optTree ((coreXs t.name).map (fun b => renderType (.restriction t.name b))))
     | _ => none)
  else if fn = "build_enum_type" then
    (match args with
     | [.ent (.edt t)] => some (.tree (renderType (.enumeration t.name (enumsOf t))))
     | _ => none)
  else if fn = "build_user_type" then
    (match args with
     | [.ent (.udt t)] =>
       (match t.kind with
        | .user b => some (optTree ((typeNameOf d.dts b).map (fun bn => renderType (.restriction t.name bn))))
        | _ => none)
     | _ => none)
  else if fn = "build_type" then
    (match args with
     | [.ent (.sdt t)] => some (optTree ((xtypeOf d.dts t).map renderType))
     | _ => none)
  else if fn = "build_class" then
    (match args with
     | [.ent (.obj c)] => some (.tree (renderClass (xclassAll d c)))
     | _ => none)
  else if fn = "build_component" then
    (match args with
     | [.model, .ent (.cc k)] => some (.tree (renderComp k.name (classesOf d k.id)))
     | _ => none)
  else if fn = "build_schema" then
    (match args with
     | [.model, .ent (.cc k)] => some (.tree (render { types := typesOf d k.id, comp := k.name, classes := classesOf d k.id }))
     | _ => none)
  else if fn = "ooaofooa.is_global" then
    (match args with
     | [.ent e] => (parentOf e).map (fun p => .bool (isGlobal d.containers p))
     | _ => none)
  else if fn = "ooaofooa.is_contained_in" then
    (match args with
     | [.ent e, .ent (.cc k)] => (parentOf e).map (fun p => .bool (containedIn d.containers d.pkgrefs k.id p))
     | _ => none)
  else none

/-- the interpretation of a function of the module, callees read by the model -/
def interp (d : ClassDiagram) (fuel : Nat) (f : Fn) (args : List V) : Option V := run d (oracle d) fuel f args

/-! ### the atoms as equations

  What a navigation step, a field and a callee mean, one equation per row of the tables `navStep`, `fieldOf`, `oracle`.
  A symbolic run meets the tables only at literal association names, field names and callee names: it rewrites with the
  row, the rest of the table never appears. -/

theorem nav_eqs (d : ClassDiagram) :
    (∀ t, navStep d (.sdt t) ⟨"S_CDT", 17, ""⟩ = (match t.kind with | .core _ => [.cdt t] | _ => [])) ∧
    (∀ t, navStep d (.sdt t) ⟨"S_EDT", 17, ""⟩ = (match t.kind with | .enum _ => [.edt t] | _ => [])) ∧
    (∀ t, navStep d (.sdt t) ⟨"S_UDT", 17, ""⟩ = (match t.kind with | .user _ => [.udt t] | _ => [])) ∧
    (∀ t, navStep d (.cdt t) ⟨"S_DT", 17, ""⟩ = [.sdt t]) ∧
    (∀ t, navStep d (.edt t) ⟨"S_DT", 17, ""⟩ = [.sdt t]) ∧
    (∀ t, navStep d (.edt t) ⟨"S_ENUM", 27, ""⟩ = (List.range (enumsOf t).length).map (Ent.senum t)) ∧
    (∀ t, navStep d (.udt t) ⟨"S_DT", 17, ""⟩ = [.sdt t]) ∧
    (∀ t, navStep d (.udt t) ⟨"S_DT", 18, ""⟩ = (match t.kind with | .user b => dtEnt d b | _ => [])) ∧
    (∀ t i, navStep d (.senum t i) ⟨"S_ENUM", 56, "succeeds"⟩ = (match i with | 0 => [] | j + 1 => [.senum t j])) ∧
    (∀ t i, navStep d (.senum t i) ⟨"S_ENUM", 56, "precedes"⟩ =
      (if i + 1 < (enumsOf t).length then [.senum t (i + 1)] else [])) ∧
    (∀ c, navStep d (.obj c) ⟨"O_ATTR", 102, ""⟩ = (looseOf d c.id ++ c.attrs).map Ent.attr) ∧
    (∀ a, navStep d (.attr a) ⟨"O_RATTR", 106, ""⟩ = (match a.kind with | .ref _ _ => [.rattr a] | _ => [])) ∧
    (∀ a, navStep d (.attr a) ⟨"O_BATTR", 106, ""⟩ = (match a.kind with | .ref _ _ => [] | _ => [.battr a])) ∧
    (∀ a, navStep d (.attr a) ⟨"S_DT", 114, ""⟩ =
      (match a.kind with | .base dt => dtEnt d dt | .derived dt => dtEnt d dt | .ref _ _ => [])) ∧
    (∀ a, navStep d (.rattr a) ⟨"O_BATTR", 113, ""⟩ =
      (match a.kind with
       | .ref c b =>
         (match (findClass d c).bind (fun k => k.findAttr b) with
          | some ba => (match ba.kind with | .ref _ _ => [] | _ => [.battr ba])
          | none => [])
       | _ => [])) ∧
    (∀ a, navStep d (.battr a) ⟨"O_ATTR", 106, ""⟩ = [.attr a]) ∧
    (∀ a, navStep d (.battr a) ⟨"O_DBATTR", 107, ""⟩ = (match a.kind with | .derived _ => [.dbattr a] | _ => [])) :=
  ⟨fun _ => rfl, fun _ => rfl, fun _ => rfl, fun _ => rfl, fun _ => rfl, fun _ => rfl, fun _ => rfl, fun _ => rfl,
   fun _ _ => rfl, fun _ _ => rfl, fun _ => rfl, fun _ => rfl, fun _ => rfl, fun _ => rfl, fun _ => rfl, fun _ => rfl,
   fun _ => rfl⟩

theorem fieldOf_eqs :
    (∀ t, fieldOf (.sdt t) "name" = some (.str t.name)) ∧
    (∀ t, fieldOf (.cdt t) "core_typ" = (match t.kind with | .core n => some (.nat n) | _ => none)) ∧
    (∀ t i, fieldOf (.senum t i) "name" = (enumsOf t)[i]?.map V.str) ∧
    (∀ c, fieldOf (.obj c) "key_lett" = some (.str c.kl)) ∧
    (∀ a, fieldOf (.attr a) "name" = some (.str a.name)) ∧
    (∀ k, fieldOf (.cc k) "name" = some (.str k.name)) :=
  ⟨fun _ => rfl, fun _ => rfl, fun _ _ => rfl, fun _ => rfl, fun _ => rfl, fun _ => rfl⟩

theorem oracle_eqs (d : ClassDiagram) :
    (∀ t, oracle d "get_type_name" [.ent (.sdt t)] = some (optStr (rawTypeName t))) ∧
    (oracle d "get_type_name" [.none] = some .none) ∧
    (∀ a, oracle d "get_refered_attribute" [.ent (.attr a)] = some (.ent (.attr (referred d a)))) ∧
    (∀ t, oracle d "build_core_type" [.ent (.cdt t)] =
      some (optTree ((coreXs t.name).map (fun b => renderType (.restriction t.name b))))) ∧
    (∀ t, oracle d "build_enum_type" [.ent (.edt t)] = some (.tree (renderType (.enumeration t.name (enumsOf t))))) ∧
    (∀ t, oracle d "build_user_type" [.ent (.udt t)] =
      (match t.kind with
       | .user b => some (optTree ((typeNameOf d.dts b).map (fun bn => renderType (.restriction t.name bn))))
       | _ => none)) ∧
    (∀ t, oracle d "build_type" [.ent (.sdt t)] = some (optTree ((xtypeOf d.dts t).map renderType))) ∧
    (∀ c, oracle d "build_class" [.ent (.obj c)] = some (.tree (renderClass (xclassAll d c)))) ∧
    (∀ k, oracle d "build_component" [.model, .ent (.cc k)] = some (.tree (renderComp k.name (classesOf d k.id)))) ∧
    (∀ e, oracle d "ooaofooa.is_global" [.ent e] = (parentOf e).map (fun p => .bool (isGlobal d.containers p))) ∧
    (∀ e k, oracle d "ooaofooa.is_contained_in" [.ent e, .ent (.cc k)] =
      (parentOf e).map (fun p => .bool (containedIn d.containers d.pkgrefs k.id p))) :=
  ⟨fun _ => rfl, rfl, fun _ => rfl, fun _ => rfl, fun _ => rfl, fun _ => rfl, fun _ => rfl, fun _ => rfl, fun _ => rfl,
   fun _ => rfl, fun _ _ => rfl⟩

@[simp] theorem optStr_some (s : String) : optStr (some s) = .str s := rfl
@[simp] theorem optStr_none : optStr none = .none := rfl
@[simp] theorem optTree_some (t : XmlTree) : optTree (some t) = .tree t := rfl
@[simp] theorem optTree_none : optTree none = .none := rfl

/-! ### the lemmas: one per function

  Where the lemma would be the property of Props/C20.lean word for word (build_core_type, build_enum_type, build_user_type,
  build_type, build_component) the proof stands there; what it needs beside the interpreter (`coreXs_none`, `comp_body`,
  `enum_body`, `first_enum`, …) is here.  One symbolic run is `simp only [xshape, <the IR constant>, <the facts about the
  input>]`.  The set `xshape` (registered in Proofs/Lib/SimpSets.lean) holds the equations of the interpreter, of its atoms
  (above) and of the list and option operations it uses.  It unfolds `navResult`, `retVal` and `truthy`: a lemma ABOUT one of
  them is given with `↓`. -/

attribute [xshape] interp run bindParams iStmts iStmt eval eval0 evalG filterBy lookupAll startOf navSteps
  nav_eqs fieldOf_eqs oracle_eqs navResult retVal truthy evalAttrs nodeAt modifyAt addChild setKey
  XmlTree.children optStr_some optStr_none optTree_some optTree_none List.lookup List.flatMap_cons List.flatMap_nil List.append_nil
  List.nil_append List.cons_append Option.map_some Option.map_none Option.bind_some Option.bind_none
  true_and and_false false_and and_self Option.some.injEq bne_self_eq_false Bool.not_true Bool.not_false
  Bool.false_eq_true List.getElem?_cons_zero List.set_cons_zero List.length_nil

attribute [xshape_proc ↓] reduceIte
attribute [xshape_proc] String.reduceBEq String.reduceBNe

theorem get_type_name_eq (d : ClassDiagram) (fuel : Nat) (t : DataType) :
    interp d fuel get_type_name [.ent (.sdt t)] = some (optStr (rawTypeName t)) := by
  cases hk : t.kind with
  | core n =>
    -- `s_cdt and s_cdt.Core_Typ in range(1, 6)`
    by_cases h : 1 ≤ n ∧ n ≤ 5
    · have h1 : decide (1 ≤ n) = true := decide_eq_true h.1
      have h2 : decide (n < 6) = true := decide_eq_true (by omega)
      simp only [xshape, get_type_name, rawTypeName, hk, h1, h2, if_pos h, Bool.and_self]
    · have h1 : (decide (1 ≤ n) && decide (n < 6)) = false := by
        rw [Bool.and_eq_false_iff, decide_eq_false_iff_not, decide_eq_false_iff_not]
        omega
      simp only [xshape, get_type_name, rawTypeName, hk, h1, if_neg h]
  | enum es => simp only [xshape, get_type_name, rawTypeName, hk]
  | user b => simp only [xshape, get_type_name, rawTypeName, hk]
  | other => simp only [xshape, get_type_name, rawTypeName, hk]

theorem get_type_name_none_eq (d : ClassDiagram) (fuel : Nat) :
    interp d fuel get_type_name [.none] = some .none := by
  simp only [xshape, get_type_name]

/-- R113 from a referential attribute: the base attribute it refers to.  `none`: the attribute is not referential, R113
    leads to no attribute, or to one that is referential itself (and so has no O_BATTR row) -/
def refBase (d : ClassDiagram) (a : Attr) : Option Attr :=
  match a.kind with
  | .ref c b =>
    match (findClass d c).bind (fun k => k.findAttr b) with
    | some ba => (match ba.kind with | .ref _ _ => none | _ => some ba)
    | none => none
  | _ => none

theorem referred_eq (d : ClassDiagram) (a : Attr) : referred d a = (refBase d a).getD a := by
  unfold referred refBase
  cases a.kind with
  | ref c b =>
    dsimp only
    cases (findClass d c).bind (fun k => k.findAttr b) with
    | none => rfl
    | some ba => dsimp only; cases ba.kind <;> rfl
  | _ => rfl

/-- a base attribute refers to nothing: chains over R113 have length one -/
theorem refBase_base {d : ClassDiagram} {a ba : Attr} (h : refBase d a = some ba) : refBase d ba = none := by
  unfold refBase at h
  cases hk : a.kind with
  | ref c b =>
    rw [hk] at h
    dsimp only at h
    cases hl : (findClass d c).bind (fun k => k.findAttr b) with
    | none => rw [hl] at h; cases h
    | some x =>
      rw [hl] at h
      dsimp only at h
      unfold refBase
      cases hx : x.kind <;> rw [hx] at h <;> cases h <;> rw [hx]
  | base dt => rw [hk] at h; cases h
  | derived dt => rw [hk] at h; cases h

theorem nav_refBase (d : ClassDiagram) (a : Attr) :
    navSteps d [.attr a] [⟨"O_RATTR", 106, ""⟩, ⟨"O_BATTR", 113, ""⟩, ⟨"O_ATTR", 106, ""⟩] = (refBase d a).toList.map Ent.attr := by
  unfold refBase
  cases hk : a.kind with
  | ref c b =>
    cases hl : (findClass d c).bind (fun k => k.findAttr b) with
    | none => simp only [navSteps, nav_eqs, hk, hl, List.flatMap_cons, List.flatMap_nil, List.append_nil]; rfl
    | some x => cases hx : x.kind <;> simp only [navSteps, nav_eqs, hk, hl, hx, List.flatMap_cons, List.flatMap_nil, List.append_nil] <;> rfl
  | _ => simp only [navSteps, nav_eqs, hk, List.flatMap_cons, List.flatMap_nil, List.append_nil]; rfl

/-- get_refered_attribute for ANY meaning `calls` of the call it makes (the oracle below, the executed recursion of
    `selfRec` in XsdClosed) -/
theorem get_refered_attribute_run (d : ClassDiagram) (calls : String → List V → Option V) (fuel : Nat) (a : Attr) :
    (refBase d a = none → run d calls fuel get_refered_attribute [.ent (.attr a)] = some (.ent (.attr a))) ∧
    (∀ ba e, refBase d a = some ba → calls "get_refered_attribute" [.ent (.attr ba)] = some (.ent e) →
      run d calls fuel get_refered_attribute [.ent (.attr a)] = some (.ent e)) :=
  ⟨fun h => by simp only [xshape, get_refered_attribute, ↓nav_refBase, h, Option.toList, List.map_nil],
   fun ba e h hc => by simp only [xshape, get_refered_attribute, ↓nav_refBase, h, hc, Option.toList, List.map_cons, List.map_nil]⟩

/-- the recursive call read by the oracle: `referred` satisfies the equation the source states -/
theorem get_refered_attribute_eq (d : ClassDiagram) (fuel : Nat) (a : Attr) :
    interp d fuel get_refered_attribute [.ent (.attr a)] = some (.ent (.attr (referred d a))) := by
  rw [referred_eq]
  cases h : refBase d a with
  | none => exact (get_refered_attribute_run d _ fuel a).1 h
  | some ba =>
    refine (get_refered_attribute_run d _ fuel a).2 ba _ h ?_
    rw [(oracle_eqs d).2.2.1, referred_eq, refBase_base h]
    rfl

theorem coreXs_none {n : String} (h : ∀ p ∈ Gen.XsdCore.table, p.1 ≠ n) : coreXs n = none := by
  unfold coreXs
  rw [List.find?_eq_none.mpr (fun p hp => by simpa using h p hp)]

/-- the model's `typeNameOf` is the returned name tested for truthiness (what every caller does) -/
theorem typeNameOf_raw (dts : List DataType) (b : Nat) :
    typeNameOf dts b = ((findDt dts b).bind rawTypeName).filter (fun s => s != "") := by
  unfold typeNameOf
  cases hf : findDt dts b with
  | none => rfl
  | some tb =>
    simp only [Option.bind_some, rawTypeName]
    cases hkb : tb.kind with
    | core n => by_cases h : 1 ≤ n ∧ n ≤ 5 <;> by_cases hn : tb.name = "" <;> simp [h, hn, Option.filter]
    | enum es => by_cases hn : tb.name = "" <;> simp [hn, Option.filter]
    | user b' => by_cases hn : tb.name = "" <;> simp [hn, Option.filter]
    | other => by_cases hn : tb.name = "" <;> simp [hn, Option.filter]

theorem retVal_optTree (st : St) (o : Option XmlTree) : retVal st (optTree o) = some (optTree o) := by
  cases o <;> rfl

def curV : Option DataType → V
  | some t => .ent (.sdt t)
  | none => .none

def isUser : Option DataType → Bool
  | some t => (match t.kind with | .user _ => true | _ => false)
  | none => false

/-- where the model's walk along R18 stops: the name `get_type_name` returns for the row, tested for truthiness -/
theorem baseTypeFuel_stop {dts : List DataType} {f id : Nat} {t : DataType} (hf : findDt dts id = some t)
    (hu : isUser (some t) = false) : baseTypeFuel dts (f + 1) id = (rawTypeName t).filter (fun s => s != "") := by
  unfold baseTypeFuel
  rw [hf]
  cases hk : t.kind with
  | user b => simp [isUser, hk] at hu
  | core n =>
    simp only [rawTypeName, hk]
    by_cases h : 1 ≤ n ∧ n ≤ 5 <;> by_cases hn : t.name = "" <;> simp [h, hn, Option.filter]
    all_goals
      intro h1 h2
      exact absurd ⟨h1, h2⟩ h
  | enum es =>
    simp only [rawTypeName, hk]
    by_cases hn : t.name = "" <;> simp [hn, Option.filter]
  | other => simp [rawTypeName, hk, Option.filter]

/-- the `while` of build_class, for a test `C` and a body `B` that read and move the local `s_dt` along R18, started on the
    row of the data type `o` with fuel above the depth of its chain: it ends with `s_dt` on a row `r` whose tested name is
    what the model's `baseTypeFuel` computes from `o`, and has touched nothing else -/
theorem walk_loop (d : ClassDiagram) (C : St → Option Bool) (B : St → Option (St × Sig)) (depth : Nat → Nat)
    (hdec : ∀ t ∈ d.dts, ∀ b, t.kind = .user b → depth b < depth t.id)
    (hC : ∀ s cur, s.L.lookup "s_dt" = some (curV cur) → C s = some (isUser cur))
    (hB : ∀ s t b, s.L.lookup "s_dt" = some (curV (some t)) → t.kind = .user b →
      B s = some ({ s with L := ("s_dt", curV (findDt d.dts b)) :: s.L }, .next)) :
    ∀ n (o : Option Nat) st, 0 < n → (∀ id ∈ o, depth id < n) → st.L.lookup "s_dt" = some (curV (o.bind (findDt d.dts))) →
      ∃ st' r, whileLoop C B n st = some (st', .next) ∧ st'.L.lookup "s_dt" = some (curV r) ∧
        o.bind (baseTypeFuel d.dts n) = (r.bind rawTypeName).filter (fun s => s != "") ∧ st'.root = st.root ∧
        ∀ x, (x == "s_dt") = false → st'.L.lookup x = st.L.lookup x
  | 0, _, _, h, _, _ => by omega
  | _ + 1, none, st, _, _, hl => ⟨st, none, by simp only [whileLoop, hC st none hl, isUser], hl, rfl, rfl, fun _ _ => rfl⟩
  | n + 1, some id, st, _, h, hl => by
    have h := h id rfl
    simp only [Option.bind_some] at hl ⊢
    cases hf : findDt d.dts id with
    | none =>
      rw [hf] at hl
      exact ⟨st, none, by simp only [whileLoop, hC st none hl, isUser], hl, by simp [baseTypeFuel, hf], rfl, fun _ _ => rfl⟩
    | some t =>
      rw [hf] at hl
      cases hu : isUser (some t) with
      | false => exact ⟨st, some t, by simp only [whileLoop, hC st _ hl, hu], hl, baseTypeFuel_stop hf hu, rfl, fun _ _ => rfl⟩
      | true =>
        obtain ⟨b, hk⟩ : ∃ b, t.kind = .user b := by
          cases hk : t.kind <;> simp [isUser, hk] at hu
          exact ⟨_, rfl⟩
        have hm := findDt_mem' hf
        have := hdec t hm.1 b hk
        rw [hm.2] at this
        obtain ⟨st', r, h1, h2, h3, h4, h5⟩ := walk_loop d C B depth hdec hC hB n (some b)
          { st with L := ("s_dt", curV (findDt d.dts b)) :: st.L } (by omega) (fun _ e => by cases e; omega)
          (by simp only [List.lookup, beq_self_eq_true, Option.bind_some])
        refine ⟨st', r, by simp only [whileLoop, hC st _ hl, hu, hB st t b hl hk, h1], h2, ?_, h4, fun x hx => ?_⟩
        · rw [← h3]
          simp [baseTypeFuel, hf, hk]
        · rw [h5 x hx]
          simp only [List.lookup, hx]

def dtOfAttr (d : ClassDiagram) (a : Attr) : Option DataType :=
  match a.kind with
  | .base dt => findDt d.dts dt
  | .derived dt => findDt d.dts dt
  | .ref _ _ => none

/-- where the `while S_UDT` walk of build_class starts: the R114 data type of the referred attribute -/
theorem cur0_eq (d : ClassDiagram) (a : Attr) : (attrDt d a).bind (findDt d.dts) = dtOfAttr d (referred d a) := by
  unfold attrDt referred dtOfAttr
  cases hk : a.kind with
  | base dt => simp [hk]
  | derived dt => simp [hk]
  | ref c b =>
    simp only
    cases hl : (findClass d c).bind (fun k => k.findAttr b) with
    | none => simp [hk]
    | some ba => cases hb : ba.kind <;> simp [hk, hb]

theorem navResult_dtEnt (d : ClassDiagram) (b : Nat) : navResult .any (dtEnt d b) = curV (findDt d.dts b) := by
  unfold dtEnt
  cases findDt d.dts b <;> rfl

theorem forLoop_inv {α β : Type} (Inv : List α → St → Prop) (g : β → Ent) (f : β → Option α)
    (body : Ent → St → Option (St × Sig)) :
    ∀ (l : List β), (∀ x ∈ l, ∀ acc st, Inv acc st → ∃ st', body (g x) st = some (st', .next) ∧ Inv (acc ++ (f x).toList) st') →
    ∀ acc st, Inv acc st → ∃ st', forLoop body (l.map g) st = some (st', .next) ∧ Inv (acc ++ l.filterMap f) st'
  | [], _, acc, st, hi => ⟨st, rfl, by simpa using hi⟩
  | x :: rest, h, acc, st, hi => by
    obtain ⟨st1, h1, hi1⟩ := h x (List.mem_cons_self ..) acc st hi
    obtain ⟨st2, h2, hi2⟩ := forLoop_inv Inv g f body rest (fun y hy => h y (List.mem_cons_of_mem _ hy)) _ st1 hi1
    refine ⟨st2, by simp only [List.map_cons, forLoop, h1, h2], ?_⟩
    cases hf : f x <;> simpa [hf, List.append_assoc] using hi2

theorem whileLoop_inv (Inv : Nat → St → Prop) (n : Nat) (C : St → Option Bool) (B : St → Option (St × Sig))
    (hC : ∀ i st, Inv i st → C st = some (decide (i < n)))
    (hB : ∀ i st, Inv i st → i < n → ∃ st', B st = some (st', .next) ∧ Inv (i + 1) st') :
    ∀ (fuel i : Nat) (st : St), i ≤ n → n - i < fuel → Inv i st → ∃ st', whileLoop C B fuel st = some (st', .next) ∧ Inv n st'
  | 0, i, st, _, hf, _ => by omega
  | fuel + 1, i, st, hle, hf, hi => by
    by_cases h : i < n
    · obtain ⟨st1, h1, hi1⟩ := hB i st hi h
      obtain ⟨st2, h2, hi2⟩ := whileLoop_inv Inv n C B hC hB fuel (i + 1) st1 (by omega) (by omega) hi1
      exact ⟨st2, by simp only [whileLoop, hC i st hi, h, decide_true, h1, h2], hi2⟩
    · have : i = n := by omega
      subst this
      exact ⟨st, by simp only [whileLoop, hC i st hi, h, decide_false], hi⟩

/-! ### running a body to its `return`

  `Ret st body v`: from the state `st` the statements `body` return `v`.  A proof follows the statements: `step` for one
  that neither loops nor returns (the next state is computed), `forIn` / `whileDo` with an invariant, `ret` at the end. -/

def Ret (d : ClassDiagram) (calls : String → List V → Option V) (fuel : Nat) (st : St) (body : List Stmt) (v : V) : Prop :=
  ∃ st', iStmts d calls fuel st body = some (st', .ret v)

section
variable {d : ClassDiagram} {calls : String → List V → Option V} {fuel : Nat} {st : St} {rest : List Stmt} {v : V}

theorem run_of_ret {f : Fn} {args : List V} {L : Locals} (hp : bindParams f.params args = some L)
    (h : Ret d calls fuel ⟨L, none⟩ f.body v) : run d calls fuel f args = some v := by
  obtain ⟨st', h⟩ := h
  simp only [run, hp, h]

/-- a statement that neither returns nor is stuck hands the rest the state it leaves.  An equation, so that it also serves in
    a loop body, which ends by falling through where `Ret` needs a `return`. -/
theorem iStmts_step {st' : St} {s : Stmt} (h : iStmt d calls fuel st s = some (st', .next)) :
    iStmts d calls fuel st (s :: rest) = iStmts d calls fuel st' rest := by
  simp only [iStmts, h]

theorem iStmt_assign {x : String} {e : Expr} {val : V} (h : eval d calls st.L e = some val) :
    iStmt d calls fuel st (.assign x e) = some ({ st with L := (x, val) :: st.L }, .next) := by
  simp only [iStmt, h]

theorem Ret.step {st' : St} {s : Stmt} (h : iStmt d calls fuel st s = some (st', .next))
    (k : Ret d calls fuel st' rest v) : Ret d calls fuel st (s :: rest) v := by
  rwa [Ret, iStmts_step h]

theorem Ret.assign {x : String} {e : Expr} {val : V} (h : eval d calls st.L e = some val)
    (k : Ret d calls fuel { st with L := (x, val) :: st.L } rest v) : Ret d calls fuel st (.assign x e :: rest) v :=
  .step (iStmt_assign h) k

theorem Ret.ret {e : Expr} (h : (eval d calls st.L e).bind (retVal st) = some v) : Ret d calls fuel st (.ret e :: rest) v :=
  ⟨st, by simp only [iStmts, iStmt, h]⟩

theorem Ret.forIn {α β : Type} (Inv : List α → St → Prop) (g : β → Ent) (f : β → Option α) (l : List β) {x : String}
    {e : Expr} {body : List Stmt} (he : eval d calls st.L e = some (.ents (l.map g))) (h0 : Inv [] st)
    (hstep : ∀ y ∈ l, ∀ acc s, Inv acc s →
      ∃ s', iStmts d calls fuel { s with L := (x, .ent (g y)) :: s.L } body = some (s', .next) ∧ Inv (acc ++ (f y).toList) s')
    (k : ∀ st', Inv (l.filterMap f) st' → Ret d calls fuel st' rest v) : Ret d calls fuel st (.forIn x e body :: rest) v := by
  obtain ⟨st', hrun, hinv⟩ :=
    forLoop_inv Inv g f (fun y s => iStmts d calls fuel { s with L := (x, .ent y) :: s.L } body) l hstep [] st h0
  obtain ⟨st2, k⟩ := k st' (by simpa using hinv)
  exact ⟨st2, by simp only [iStmts, iStmt, he, hrun, k]⟩

theorem Ret.whileDo (Inv : Nat → St → Prop) (n : Nat) {c : Expr} {body : List Stmt} (hn : n < fuel) (h0 : Inv 0 st)
    (hC : ∀ i s, Inv i s → (eval d calls s.L c).bind truthy = some (decide (i < n)))
    (hB : ∀ i s, Inv i s → i < n → ∃ s', iStmts d calls fuel s body = some (s', .next) ∧ Inv (i + 1) s')
    (k : ∀ st', Inv n st' → Ret d calls fuel st' rest v) : Ret d calls fuel st (.whileDo c body :: rest) v := by
  obtain ⟨st', hrun, hinv⟩ := whileLoop_inv Inv n _ _ hC hB fuel 0 st (Nat.zero_le _) (by omega) h0
  obtain ⟨st2, k⟩ := k st' hinv
  exact ⟨st2, by simp only [iStmts, iStmt, hrun, k]⟩

end

structure ClsInv (c : Class) (acc : List XAttr) (st : St) : Prop where
  attrs : st.L.lookup "attributes" = some (.elem [0])
  cls : st.L.lookup "cls" = some (.elem [])
  root : st.root = some (.node "xs:element" [("name", c.kl), ("minOccurs", "0"), ("maxOccurs", "unbounded")]
    [.node "xs:complexType" [] (acc.map renderAttr)])

theorem eval_referred (d : ClassDiagram) (L : Locals) (a : Attr) (hl : L.lookup "o_attr" = some (.ent (.attr a))) :
    eval d (oracle d) L (.call "get_refered_attribute" ["o_attr"]) = some (.ent (.attr (referred d a))) := by
  simp only [xshape, hl]

theorem eval_attr_dt (d : ClassDiagram) (L : Locals) (a' : Attr) (hl : L.lookup "o_attr_ref" = some (.ent (.attr a'))) :
    eval d (oracle d) L (.nav .any "o_attr_ref" [⟨"S_DT", 114, ""⟩] none) = some (curV (dtOfAttr d a')) := by
  cases hk : a'.kind <;> simp only [xshape, hl, hk, dtOfAttr, ↓navResult_dtEnt] <;> rfl

theorem eval_is_user (d : ClassDiagram) (L : Locals) (cur : Option DataType) (hl : L.lookup "s_dt" = some (curV cur)) :
    (eval d (oracle d) L (.nav .any "s_dt" [⟨"S_UDT", 17, ""⟩] none)).bind truthy = some (isUser cur) := by
  cases cur with
  | none => simp only [xshape, hl, curV, isUser]
  | some t => cases hk : t.kind <;> simp only [xshape, hl, curV, isUser, hk]

theorem step_base (d : ClassDiagram) (fuel : Nat) (s : St) (t : DataType) (b : Nat)
    (hl : s.L.lookup "s_dt" = some (curV (some t))) (hk : t.kind = .user b) :
    iStmts d (oracle d) fuel s [.assign "s_dt" (.nav .any "s_dt" [⟨"S_UDT", 17, ""⟩, ⟨"S_DT", 18, ""⟩] none)] =
      some ({ s with L := ("s_dt", curV (findDt d.dts b)) :: s.L }, .next) := by
  have hl' : s.L.lookup "s_dt" = some (.ent (.sdt t)) := hl
  simp only [xshape, hl', hk, ↓navResult_dtEnt]

theorem eval_type_name (d : ClassDiagram) (L : Locals) (r : Option DataType) (hl : L.lookup "s_dt" = some (curV r)) :
    eval d (oracle d) L (.call "get_type_name" ["s_dt"]) = some (optStr (r.bind rawTypeName)) := by
  cases r with
  | none => simp only [xshape, hl, curV]
  | some t => simp only [xshape, hl, curV]

theorem eval_declared (d : ClassDiagram) (L : Locals) (o : Option String) (a : Attr)
    (h1 : L.lookup "type_name" = some (optStr o)) (h2 : L.lookup "o_attr" = some (.ent (.attr a))) :
    (eval d (oracle d) L (.and_ (.var "type_name")
      (.not_ (.nav .any "o_attr" [⟨"O_BATTR", 106, ""⟩, ⟨"O_DBATTR", 107, ""⟩] none)))).bind truthy =
      some ((o.filter (fun s => s != "")).isSome && !a.isDerived) := by
  cases o with
  | none => simp only [xshape, h1, Option.filter, Option.isSome, Bool.false_and]
  | some s =>
    by_cases hs : s = ""
    · subst hs; simp only [xshape, h1, Option.filter, Option.isSome, Bool.false_and]
    · have hne : (s != "") = true := by simp [hs]
      cases hk : a.kind <;> simp only [xshape, h1, h2, hne, hk, Attr.isDerived, Option.filter, Option.isSome, Bool.true_and]

theorem iStmts_if {d : ClassDiagram} {calls : String → List V → Option V} {fuel : Nat} {st : St} {c : Expr} {b : Bool}
    {thn els : List Stmt} (h : (eval d calls st.L c).bind truthy = some b) :
    iStmts d calls fuel st [.ifThen c thn els] =
      (match iStmts d calls fuel st (if b then thn else els) with
       | some (st', .next) => some (st', .next)
       | some (st', .ret v) => some (st', .ret v)
       | none => none) := by
  cases b <;> simp only [iStmts, iStmt, h] <;> rfl

/-- the body of the attribute loop of build_class, as generated -/
def classBody : List Stmt :=
  match build_class.body with
  | [_, _, .forIn _ _ b, _] => b
  | _ => []

theorem class_body (d : ClassDiagram) (chain : DtChainOk d.dts) (c : Class) (a : Attr) (acc : List XAttr) (st : St)
    (hi : ClsInv c acc st) :
    ∃ st', iStmts d (oracle d) (d.dts.length + 1) { st with L := ("o_attr", .ent (.attr a)) :: st.L } classBody = some (st', .next) ∧
      ClsInv c (acc ++ (xattr d a).toList) st' := by
  obtain ⟨depth, hdec, hb⟩ := chain.ex
  -- `walk_loop` hands back the state `W` after the `while`, so the rest of the body is a straight run
  obtain ⟨W, r, hw, hsdt, hx, hroot, hoth⟩ := walk_loop d _ _ depth hdec (fun s cur h => eval_is_user d s.L cur h)
    (fun s t b h hk => step_base d (d.dts.length + 1) s t b h hk) (d.dts.length + 1) (attrDt d a)
    { L := ("s_dt", curV (dtOfAttr d (referred d a))) :: ("o_attr_ref", V.ent (Ent.attr (referred d a))) ::
        ("o_attr", V.ent (Ent.attr a)) :: st.L, root := st.root }
    (by omega) (fun dt _ => by have := hb dt; omega)
    (by simp only [List.lookup, beq_self_eq_true, cur0_eq])
  replace hx : xattr d a = if a.isDerived then none else
      ((r.bind rawTypeName).filter (fun s => s != "")).map (fun n => { name := a.name, ty := n }) := by
    unfold xattr baseTypeName
    rw [hx]
  have hA : W.L.lookup "attributes" = some (.elem [0]) := by
    rw [hoth _ (by decide)]; simpa only [List.lookup, String.reduceBEq] using hi.attrs
  have hC : W.L.lookup "cls" = some (.elem []) := by
    rw [hoth _ (by decide)]; simpa only [List.lookup, String.reduceBEq] using hi.cls
  have hO : W.L.lookup "o_attr" = some (.ent (.attr a)) := by
    rw [hoth _ (by decide)]; simp only [List.lookup, String.reduceBEq]
  simp only [classBody, build_class]
  rw [iStmts_step (iStmt_assign (eval_referred d _ a (by simp only [List.lookup, beq_self_eq_true]))),
    iStmts_step (iStmt_assign (eval_attr_dt d _ (referred d a) (by simp only [List.lookup, beq_self_eq_true]))),
    iStmts_step (by rw [iStmt]; exact hw), iStmts_step (iStmt_assign (eval_type_name d _ r hsdt)),
    iStmts_if (eval_declared d _ (r.bind rawTypeName) a (by simp only [List.lookup, beq_self_eq_true])
      (by simp only [List.lookup, String.reduceBEq]; exact hO))]
  generalize r.bind rawTypeName = o at hx ⊢
  have keep : ClsInv c acc { W with L := ("type_name", optStr o) :: W.L } :=
    ⟨by simp only [List.lookup, String.reduceBEq]; exact hA, by simp only [List.lookup, String.reduceBEq]; exact hC,
     by rw [← hi.root]; exact hroot⟩
  -- three endings: no tested name, derived (both fall into the `log` branch and keep the tree), declared
  cases hf : o.filter (fun s => s != "") with
  | none =>
    refine ⟨_, by simp only [Option.isSome_none, Bool.false_and, Bool.false_eq_true, ↓reduceIte, iStmts, iStmt]; rfl, ?_⟩
    rw [hx, hf]
    simpa only [Option.map_none, ite_self, Option.toList_none, List.append_nil] using keep
  | some s =>
    cases hd : a.isDerived with
    | true =>
      refine ⟨_, by simp only [Bool.not_true, Bool.and_false, Bool.false_eq_true, ↓reduceIte, iStmts, iStmt]; rfl, ?_⟩
      rw [hx, hd]
      simpa only [↓reduceIte, Option.toList_none, List.append_nil] using keep
    | false =>
      have ho : o = some s := by
        cases o with
        | none => simp [Option.filter] at hf
        | some s' => simp only [Option.filter] at hf; split at hf <;> simp at hf; rw [hf]
      subst ho
      refine ⟨_, by
        simp only [xshape, Option.isSome_some, Bool.and_self, hA, hroot, hi.root, hO]; rfl, ?_⟩
      rw [hx, hf, hd]
      exact ⟨keep.attrs, keep.cls, by simp [renderAttr, leaf]⟩

/-- build_class: element, complexType, one xs:attribute per attribute related across R102 that is not derived and whose
    (referred) base type has a truthy name -/
theorem build_class_eq (d : ClassDiagram) (chain : DtChainOk d.dts) (c : Class) :
    interp d (d.dts.length + 1) build_class [.ent (.obj c)] = some (.tree (renderClass (xclassAll d c))) := by
  refine run_of_ret (L := [("o_obj", .ent (.obj c))]) rfl ?_
  refine .step (by simp only [xshape]; rfl) ?_
  refine .step (by simp only [xshape]; rfl) ?_
  refine .forIn (ClsInv c) Ent.attr (xattr d) (looseOf d c.id ++ c.attrs) (by simp only [xshape])
    ⟨by simp [List.lookup], by simp [List.lookup], rfl⟩ (fun a _ acc st hi => class_body d chain c a acc st hi)
    (fun st' hinv => .ret ?_)
  simp only [xshape, hinv.cls, hinv.root, renderClass, xclassAll, xclassOf, List.filterMap_append]

/-- `<m>.select_many('<cls>', <f>)`: the rows of the class on which the lambda held by the local `f` is truthy -/
theorem eval_selectMany {β : Type} {d : ClassDiagram} {calls : String → List V → Option V} {L : Locals} {m cls f p : String}
    {body : Expr} (rows : List β) (g : β → Ent) (q : β → Bool) (hm : L.lookup m = some .model)
    (hp : poolOf d cls = some (rows.map g)) (hf : L.lookup f = some (.lam p body))
    (hq : ∀ x ∈ rows, (eval0 d calls ((p, .ent (g x)) :: L) body).bind truthy = some (q x)) :
    eval d calls L (.selectMany m cls (some f)) = some (.ents ((rows.filter q).map g)) := by
  simp only [eval, evalG, hm, hp, filterBy, hf]
  rw [filterOpt_map _ g q rows hq]

structure CompInv (k : Container) (acc : List XClass) (st : St) : Prop where
  classes : st.L.lookup "classes" = some (.elem [0, 0])
  component : st.L.lookup "component" = some (.elem [])
  root : st.root = some (.node "xs:element" [("name", k.name)]
    [.node "xs:complexType" [] [.node "xs:sequence" [] (acc.map renderClass)]])

def compBody : List Stmt :=
  match build_component.body with
  | [_, _, _, _, .forIn _ _ b, _] => b
  | _ => []

theorem comp_body (d : ClassDiagram) (fuel : Nat) (k : Container) (c : Class) (acc : List XClass) (st : St) (hi : CompInv k acc st) :
    ∃ st', iStmts d (oracle d) fuel { st with L := ("o_obj", .ent (.obj c)) :: st.L } compBody = some (st', .next) ∧
      CompInv k (acc ++ [xclassAll d c]) st' := by
  simp only [compBody, build_component]
  simp only [xshape, hi.classes, hi.root]
  refine ⟨_, rfl, ?_, ?_, ?_⟩
  · simp only [List.lookup, String.reduceBEq]; exact hi.classes
  · simp only [List.lookup, String.reduceBEq]; exact hi.component
  · simp

structure SchemaInv (k : Container) (acc : List XType) (st : St) : Prop where
  schema : st.L.lookup "schema" = some (.elem [])
  m : st.L.lookup "m" = some .model
  cc : st.L.lookup "c_c" = some (.ent (.cc k))
  root : st.root = some (.node "xs:schema" [("xmlns:xs", "http://www.w3.org/2001/XMLSchema")] (acc.map renderType))

/-- the body of the two data-type loops of build_schema (the same statements), as generated -/
def typeBody1 : List Stmt :=
  match build_schema.body with
  | [_, _, _, .forIn _ _ b, _, _, _, _, _] => b
  | _ => []

theorem type_body1 (d : ClassDiagram) (fuel : Nat) (k : Container) (t : DataType) (acc : List XType) (st : St)
    (hi : SchemaInv k acc st) :
    ∃ st', iStmts d (oracle d) fuel { st with L := ("s_dt", .ent (.sdt t)) :: st.L } typeBody1 = some (st', .next) ∧
      SchemaInv k (acc ++ (xtypeOf d.dts t).toList) st' := by
  simp only [typeBody1, build_schema]
  cases hx : xtypeOf d.dts t with
  | none =>
    simp only [xshape, hx]
    refine ⟨_, rfl, ?_, ?_, ?_, ?_⟩
    · simp only [List.lookup, String.reduceBEq]; exact hi.schema
    · simp only [List.lookup, String.reduceBEq]; exact hi.m
    · simp only [List.lookup, String.reduceBEq]; exact hi.cc
    · simpa using hi.root
  | some x =>
    simp only [xshape, hx, hi.schema, hi.root]
    refine ⟨_, rfl, ?_, ?_, ?_, ?_⟩
    · simp only [List.lookup, String.reduceBEq]; exact hi.schema
    · simp only [List.lookup, String.reduceBEq]; exact hi.m
    · simp only [List.lookup, String.reduceBEq]; exact hi.cc
    · simp

/-- build_schema: xs:schema with its namespace attribute; the global data types; then the data types contained in the
    component AND NOT global; then the component element -/
theorem build_schema_eq (d : ClassDiagram) (fuel : Nat) (k : Container) :
    interp d fuel build_schema [.model, .ent (.cc k)] =
      some (.tree (render { types := typesOf d k.id, comp := k.name, classes := classesOf d k.id })) := by
  refine run_of_ret (L := [("m", .model), ("c_c", .ent (.cc k))]) rfl ?_
  refine .step (by simp only [xshape]; rfl) ?_
  refine .step (by simp only [xshape]; rfl) ?_
  refine .step (by simp only [xshape]; rfl) ?_
  refine .forIn (SchemaInv k) Ent.sdt (xtypeOf d.dts) _
    (eval_selectMany d.dts Ent.sdt (fun t => isGlobal d.containers t.parent) (by simp [List.lookup]) rfl rfl
      (fun t _ => by simp only [xshape, parentOf]))
    ⟨by simp [List.lookup], by simp [List.lookup], by simp [List.lookup], rfl⟩
    (fun t _ acc st hi => type_body1 d fuel k t acc st hi) (fun st1 hinv1 => .step (by simp only [xshape]; rfl) ?_)
  -- the second loop keeps `SchemaInv` with the first loop's types as a fixed prefix
  refine .forIn (fun acc => SchemaInv k (_ ++ acc)) Ent.sdt (xtypeOf d.dts) _
    (eval_selectMany d.dts Ent.sdt (fun t => containedIn d.containers d.pkgrefs k.id t.parent && !isGlobal d.containers t.parent)
      (by simp only [List.lookup, String.reduceBEq]; exact hinv1.m) rfl rfl
      (fun t _ => by
        cases hb : containedIn d.containers d.pkgrefs k.id t.parent <;>
          simp only [xshape, parentOf, hinv1.cc, hb, Bool.true_and, Bool.false_and]))
    ⟨by simp only [List.lookup, String.reduceBEq]; exact hinv1.schema, by simp only [List.lookup, String.reduceBEq]; exact hinv1.m,
     by simp only [List.lookup, String.reduceBEq]; exact hinv1.cc, by simpa using hinv1.root⟩
    (fun t _ acc st hi => by rw [← List.append_assoc]; exact type_body1 d fuel k t _ st hi)
    (fun st2 hinv2 => .step (by simp only [xshape, hinv2.m, hinv2.cc]; rfl) (.step (by simp only [xshape, hinv2.schema, hinv2.root]; rfl) (.ret ?_)))
  simp only [xshape, hinv2.schema, render, typesOf, List.map_append]

def enumV (t : DataType) (i : Nat) : V := if i < (enumsOf t).length then .ent (.senum t i) else .none

structure EnumInv (t : DataType) (i : Nat) (st : St) : Prop where
  cur : st.L.lookup "s_enum" = some (enumV t i)
  list : st.L.lookup "enum_list" = some (.elem [0])
  enum : st.L.lookup "enum" = some (.elem [])
  root : st.root = some (.node "xs:simpleType" [("name", t.name)]
    [.node "xs:restriction" [("base", "xs:string")] (((enumsOf t).take i).map (fun v => leaf "xs:enumeration" [("value", v)]))])

def enumBody : List Stmt :=
  match build_enum_type.body with
  | [_, _, _, _, _, .whileDo _ b, _] => b
  | _ => []

theorem enum_body (d : ClassDiagram) (fuel : Nat) (t : DataType) (i : Nat) (st : St) (hi : EnumInv t i st)
    (h : i < (enumsOf t).length) :
    ∃ st', iStmts d (oracle d) fuel st enumBody = some (st', .next) ∧ EnumInv t (i + 1) st' := by
  have hcur : st.L.lookup "s_enum" = some (.ent (.senum t i)) := by rw [hi.cur, enumV, if_pos h]
  have hget : (enumsOf t)[i]? = some ((enumsOf t)[i]) := List.getElem?_eq_getElem h
  simp only [enumBody, build_enum_type]
  simp only [xshape, hcur, hi.list, hi.root, hget]
  refine ⟨_, rfl, ?_, ?_, ?_, ?_⟩
  · simp only [List.lookup, beq_self_eq_true, enumV]
    by_cases h2 : i + 1 < (enumsOf t).length <;> simp [h2]
  · simp only [List.lookup, String.reduceBEq]; exact hi.list
  · simp only [List.lookup, String.reduceBEq]; exact hi.enum
  · simp only [List.take_add_one, hget, Option.toList_some, List.map_append, List.map_cons, List.map_nil, leaf]

/-- the `first_filter` of build_enum_type (`not selected.S_ENUM[56, 'succeeds']`) keeps index 0 only of the R27 rows -/
theorem first_enum (t : DataType) :
    navResult .any (((List.range (enumsOf t).length).filter (fun i => i == 0)).map (Ent.senum t)) = enumV t 0 := by
  unfold enumV
  cases h : (enumsOf t).length with
  | zero => rfl
  | succ n => simp [List.range_succ_eq_map, navResult]

end Pyx.XShape
