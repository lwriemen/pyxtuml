import PyxModel.Sql.Chars

/-! helper lemmas: numerals and character classes of PyxModel/Sql/Chars.lean -/
namespace Pyx.Sql

theorem digitChar_isAsciiDigit (d : Nat) : isAsciiDigit (digitChar d) = true := by
  unfold digitChar; split <;> decide

theorem digitVal_digitChar {d : Nat} (h : d < 10) : digitVal (digitChar d) = d :=
  (by decide : ∀ d < 10, digitVal (digitChar d) = d) d h

theorem hexChar_isAsciiHex (d : Nat) : isAsciiHex (hexChar d) = true := by
  unfold hexChar; split <;> decide

theorem hexVal_hexChar {d : Nat} (h : d < 16) : hexVal (hexChar d) = d :=
  (by decide : ∀ d < 16, hexVal (hexChar d) = d) d h

/-- a hexadecimal digit differs from every character that is none (`-`, `u`, braces, quotes, … in `uuidParse`) -/
theorem ne_of_isAsciiHex {c x : Char} (hc : isAsciiHex c = true) (hx : isAsciiHex x = false) : c ≠ x := by
  intro h; subst h; rw [hc] at hx; exact Bool.noConfusion hx

theorem hexChar_ne_dash (d : Nat) : hexChar d ≠ '-' := ne_of_isAsciiHex (hexChar_isAsciiHex d) (by decide)

theorem hexChar_ne_u (d : Nat) : hexChar d ≠ 'u' := ne_of_isAsciiHex (hexChar_isAsciiHex d) (by decide)

theorem hexChar_not_brace (d : Nat) : (hexChar d = '{' || hexChar d = '}') = false := by
  rw [decide_eq_false (ne_of_isAsciiHex (hexChar_isAsciiHex d) (by decide)),
    decide_eq_false (ne_of_isAsciiHex (hexChar_isAsciiHex d) (by decide))]
  rfl

theorem hexChar_ne_dquote (d : Nat) : hexChar d ≠ '"' := ne_of_isAsciiHex (hexChar_isAsciiHex d) (by decide)

theorem hexChar_ne_backslash (d : Nat) : hexChar d ≠ '\\' := ne_of_isAsciiHex (hexChar_isAsciiHex d) (by decide)

theorem hexChar_ne_newline (d : Nat) : hexChar d ≠ '\n' := ne_of_isAsciiHex (hexChar_isAsciiHex d) (by decide)

theorem ne_of_isAsciiDigit {c x : Char} (hc : isAsciiDigit c = true) (hx : isAsciiDigit x = false) : c ≠ x := by
  intro h; subst h; rw [hc] at hx; exact Bool.noConfusion hx

theorem isAsciiDigit_lt_128 {c : Char} (hc : isAsciiDigit c = true) : c.toNat < 128 := by
  simp only [isAsciiDigit, Bool.and_eq_true, decide_eq_true_eq] at hc; omega

theorem UC.isDigit_of_ascii (u : UC) {c : Char} (hc : isAsciiDigit c = true) : u.isDigit c = true := by
  unfold UC.isDigit; rw [if_pos (isAsciiDigit_lt_128 hc)]; exact hc

theorem UC.isDigit_ascii_eq (u : UC) {c : Char} (h : c.toNat < 128) : u.isDigit c = isAsciiDigit c := by
  unfold UC.isDigit; rw [if_pos h]

theorem UC.isWord_ascii_eq (u : UC) {c : Char} (h : c.toNat < 128) : u.isWord c = isAsciiWord c := by
  unfold UC.isWord; rw [if_pos h]

theorem isAsciiWord_lt_128 {c : Char} (hc : isAsciiWord c = true) : c.toNat < 128 := by
  simp only [isAsciiWord, isAsciiAlpha, isAsciiUpper, isAsciiLower, isAsciiDigit, Bool.or_eq_true, Bool.and_eq_true,
    decide_eq_true_eq, beq_iff_eq] at hc
  rcases hc with ((⟨_, _⟩ | ⟨_, _⟩) | ⟨_, _⟩) | h
  · omega
  · omega
  · omega
  · subst h; decide

theorem UC.isWord_of_ascii (u : UC) {c : Char} (hc : isAsciiWord c = true) : u.isWord c = true := by
  rw [u.isWord_ascii_eq (isAsciiWord_lt_128 hc)]; exact hc

theorem isAsciiWord_of_digit {c : Char} (hc : isAsciiDigit c = true) : isAsciiWord c = true := by
  simp [isAsciiWord, hc]

theorem upper_cons_ascii (u : UC) (c : Char) (rest : Text) (h : c.toNat < 128) :
    u.upper (c :: rest) = asciiUpper c :: u.upper rest := by
  simp only [UC.upper, List.flatMap_cons, UC.up, h, if_true, List.singleton_append]

/-- `str.upper()` consults Python's tables only for non-ASCII characters and changes only lower-case letters: a text
    of other ASCII characters is its own upper-case form for every `u` (the hypothesis is a closed Boolean for a literal) -/
theorem UC.upper_eq_self (u : UC) {s : Text} (h : s.all (fun c => decide (c.toNat < 128) && !isAsciiLower c) = true) :
    u.upper s = s := by
  induction s with
  | nil => rfl
  | cons c s ih =>
    simp only [List.all_cons, Bool.and_eq_true, decide_eq_true_eq, Bool.not_eq_true'] at h
    rw [upper_cons_ascii u c s h.1.1, ih h.2, asciiUpper, h.1.2]; rfl

theorem digitsRev_lt (n : Nat) : ∀ d ∈ digitsRev n, d < 10 := by
  induction n using Nat.strongRecOn with
  | _ n ih =>
    intro d hd
    rw [digitsRev] at hd
    split at hd
    · simp at hd; omega
    · simp only [List.mem_cons] at hd
      rcases hd with h | h
      · omega
      · exact ih (n / 10) (by omega) d h

theorem digits_lt (n : Nat) : ∀ d ∈ digits n, d < 10 := by
  intro d hd; exact digitsRev_lt n d (by simpa [digits] using hd)

theorem digitsRev_ne_nil (n : Nat) : digitsRev n ≠ [] := by
  rw [digitsRev]; split <;> simp

theorem digits_ne_nil (n : Nat) : digits n ≠ [] := by
  simp [digits, digitsRev_ne_nil]

theorem ofDigitsB_append (b : Nat) (xs : List Nat) (d : Nat) : ofDigitsB b (xs ++ [d]) = b * ofDigitsB b xs + d := by
  simp [ofDigitsB, List.foldl_append]

theorem foldr_digitsRev (n : Nat) : (digitsRev n).foldr (fun d a => 10 * a + d) 0 = n := by
  induction n using Nat.strongRecOn with
  | _ n ih =>
    rw [digitsRev]
    split
    · simp
    · rw [List.foldr_cons, ih (n / 10) (by omega)]; omega

theorem ofDigits_digits (n : Nat) : ofDigits (digits n) = n := by
  rw [digits, ofDigits, ofDigitsB, List.foldl_reverse]; exact foldr_digitsRev n

theorem map_val_map_char {char : Nat → Char} {val : Char → Nat} {b : Nat} (hb : ∀ {d}, d < b → val (char d) = d)
    (ds : List Nat) (h : ∀ d ∈ ds, d < b) : (ds.map char).map val = ds :=
  List.map_map.trans ((List.map_congr_left fun d hd => hb (h d hd)).trans (List.map_id ds))

theorem map_digitVal_map_digitChar (ds : List Nat) (h : ∀ d ∈ ds, d < 10) : (ds.map digitChar).map digitVal = ds :=
  map_val_map_char digitVal_digitChar ds h

/-- reading back `'%d' % n` -/
theorem natOfText_natText (n : Nat) : natOfText (natText n) = n := by
  rw [natOfText, natText, map_digitVal_map_digitChar _ (digits_lt n), ofDigits_digits]

theorem natText_all_digit (n : Nat) : ∀ c ∈ natText n, isAsciiDigit c = true :=
  List.forall_mem_map.mpr fun d _ => digitChar_isAsciiDigit d

theorem natText_ne_nil (n : Nat) : natText n ≠ [] := by
  simp [natText, digits_ne_nil]

theorem fixedDigits_length (b w n : Nat) : (fixedDigits b w n).length = w := by
  induction w generalizing n with
  | zero => rfl
  | succ w ih => simp [fixedDigits, ih]

theorem fixedDigits_lt (b : Nat) (hb : 0 < b) (w n : Nat) : ∀ d ∈ fixedDigits b w n, d < b := by
  induction w generalizing n with
  | zero => intro d hd; simp [fixedDigits] at hd
  | succ w ih =>
    intro d hd
    simp only [fixedDigits, List.mem_append, List.mem_singleton] at hd
    rcases hd with h | h
    · exact ih _ d h
    · subst h; exact Nat.mod_lt _ hb

theorem ofDigitsB_fixedDigits (b : Nat) (hb : 0 < b) (w n : Nat) (h : n < b ^ w) :
    ofDigitsB b (fixedDigits b w n) = n := by
  induction w generalizing n with
  | zero => simp [fixedDigits, ofDigitsB] at *; omega
  | succ w ih =>
    rw [fixedDigits, ofDigitsB_append, ih (n / b)]
    · exact Nat.div_add_mod n b
    · rw [Nat.div_lt_iff_lt_mul hb]; rw [Nat.pow_succ] at h; exact h

theorem takeWhile_of_head_false {α : Type} (p : α → Bool) (ys : List α) (h : ∀ y, ys.head? = some y → p y = false) :
    ys.takeWhile p = [] := by
  cases ys with
  | nil => rfl
  | cons y ys => simp [h y rfl]

theorem dropWhile_of_head_false {α : Type} (p : α → Bool) (ys : List α) (h : ∀ y, ys.head? = some y → p y = false) :
    ys.dropWhile p = ys := by
  cases ys with
  | nil => rfl
  | cons y ys => simp [h y rfl]

theorem takeWhile_run {α : Type} (p : α → Bool) (xs ys : List α) (h : ∀ x ∈ xs, p x = true)
    (hy : ∀ y, ys.head? = some y → p y = false) : (xs ++ ys).takeWhile p = xs := by
  rw [List.takeWhile_append_of_pos h, takeWhile_of_head_false p ys hy, List.append_nil]

theorem dropWhile_run {α : Type} (p : α → Bool) (xs ys : List α) (h : ∀ x ∈ xs, p x = true)
    (hy : ∀ y, ys.head? = some y → p y = false) : (xs ++ ys).dropWhile p = ys := by
  rw [List.dropWhile_append_of_pos h, dropWhile_of_head_false p ys hy]

end Pyx.Sql
