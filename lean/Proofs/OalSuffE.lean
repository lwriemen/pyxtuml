import PyxModel.Oal.Expr

/-!
  Fuel of the expression parsers (for Proofs/OalFuel.lean, and for the fuel-free round trips of Proofs/OalExpr.lean).
  Each parser function is followed once: `fun_cases` gives one goal per path through it, with the sub-results of the
  path as hypotheses; a path that succeeds is rebuilt with the other amount of fuel from the sub-results carried over.
-/

namespace Pyx.Oal

theorem drop1_length {ts : List Tok} {k : Kind} (h : hk ts = some k) : (ts.drop 1).length + 1 = ts.length := by
  cases ts with
  | nil => simp at h
  | cons a r => simp

theorem of_succ_fuel {q : Nat → Prop} {a b : Nat} (hab : b ≤ a) (H : ∀ g', a ≤ g' + b → q (g' + 1)) :
    ∀ g, a + 1 ≤ g + b → q g := by
  intro g hg
  obtain ⟨g', rfl⟩ : ∃ g', g = g' + 1 := ⟨g - 1, by omega⟩
  exact H g' (by omega)

theorem lt_and_succ {q : Nat → Prop} {n r : Nat} (hl : r < n) (H : ∀ g', 2 * n ≤ g' + 2 * r → q (g' + 1)) :
    r < n ∧ ∀ g, 2 * n + 1 ≤ g + 2 * r → q g :=
  ⟨hl, of_succ_fuel (by omega) H⟩

theorem le_and_succ {q : Nat → Prop} {n r : Nat} (hl : r ≤ n) (H : ∀ g', 2 * n ≤ g' + 2 * r → q (g' + 1)) :
    r ≤ n ∧ ∀ g, 2 * n + 1 ≤ g + 2 * r → q g :=
  ⟨hl, of_succ_fuel (by omega) H⟩

section expr
variable (t : Tbl)

/-- Where the bound comes from: a callee gets one unit of fuel less, and at most two calls are nested on the SAME list
    before a token is consumed (`parseExpr` → `parsePrefix`), hence two units per token, and `parseExpr`'s constant
    is one more than `parsePrefix`'s. -/
structure SuffE (f : Nat) : Prop where
  params : ∀ ts ps rest, parseParams t f ts = some (ps, rest) →
    rest.length ≤ ts.length ∧ ∀ g, 2 * ts.length + 1 ≤ g + 2 * rest.length → parseParams t g ts = some (ps, rest)
  suffix : ∀ h ts e rest, parseSuffix t f h ts = some (e, rest) →
    rest.length ≤ ts.length ∧ ∀ g, 2 * ts.length + 1 ≤ g + 2 * rest.length → parseSuffix t g h ts = some (e, rest)
  pre : ∀ ts e rest, parsePrefix t f ts = some (e, rest) →
    rest.length < ts.length ∧ ∀ g, 2 * ts.length + 1 ≤ g + 2 * rest.length → parsePrefix t g ts = some (e, rest)
  expr : ∀ m ts e rest, parseExpr t f m ts = some (e, rest) →
    rest.length < ts.length ∧ ∀ g, 2 * ts.length + 2 ≤ g + 2 * rest.length → parseExpr t g m ts = some (e, rest)
  loop : ∀ m na lhs ts e rest, parseLoop t f m na lhs ts = some (e, rest) →
    rest.length ≤ ts.length ∧
      ∀ g, 2 * ts.length + 1 ≤ g + 2 * rest.length → parseLoop t g m na lhs ts = some (e, rest)

theorem suffE : ∀ f, SuffE t f
  | 0 =>
    { params := fun ts ps rest h => by simp [parseParams] at h
      suffix := fun h ts e rest hp => by simp [parseSuffix] at hp
      pre := fun ts e rest h => by simp [parsePrefix] at h
      expr := fun m ts e rest h => by simp [parseExpr] at h
      loop := fun m na lhs ts e rest h => by simp [parseLoop] at h }
  | f + 1 => by
    have ih := suffE f
    refine ⟨?_, ?_, ?_, ?_, ?_⟩
    · intro ts ps rest
      generalize hn : f + 1 = n
      fun_cases parseParams t n ts
      all_goals try (intro h; cases h; done)
      all_goals cases hn
      all_goals intro h
      all_goals cases h
      next nm col ts hc e ts' hcm ps' h1 h2 =>
        obtain ⟨hl1, hs1⟩ := ih.expr _ _ _ _ h1
        obtain ⟨hl2, hs2⟩ := ih.params _ _ _ h2
        have := drop1_length hcm
        simp only [List.length_cons]
        refine le_and_succ (by omega) fun g' hg => ?_
        simp only [parseParams, hc, and_self, ↓reduceIte, hs1 g' (by omega), hcm, hs2 g' (by omega)]
      next nm col ts hc e hcm h1 =>
        obtain ⟨hl1, hs1⟩ := ih.expr _ _ _ _ h1
        simp only [List.length_cons]
        refine le_and_succ (by omega) fun g' hg => ?_
        simp only [parseParams, hc, and_self, ↓reduceIte, hs1 g' (by omega), hcm]
      next nm col ts hc =>
        refine ⟨Nat.le_refl _, of_succ_fuel (Nat.le_refl _) fun g' _ => ?_⟩
        simp only [parseParams, hc, ↓reduceIte]
      next hts =>
        refine ⟨Nat.le_refl _, of_succ_fuel (Nat.le_refl _) fun g' _ => ?_⟩
        rw [parseParams]
        exact hts
    · intro h ts e rest
      generalize hn : f + 1 = n
      fun_cases parseSuffix t n h ts
      all_goals try (intro hp; cases hp; done)
      all_goals cases hn
      all_goals intro hp
      next tok hk' nm ts1 hid hlp ps ts2 hrp hs h1 =>
        cases hp
        obtain ⟨hl1, hs1⟩ := ih.params _ _ _ h1
        have := drop1_length hlp
        have := drop1_length hrp
        simp only [List.length_cons]
        refine le_and_succ (by omega) fun g' hg => ?_
        simp only [parseSuffix, hk', hid, ↓reduceIte, hlp, hs, hs1 g' (by omega), hrp]
      next tok hk' nm ts1 hid hlp hc =>
        obtain ⟨hl1, hs1⟩ := ih.suffix _ _ _ _ hp
        simp only [List.length_cons]
        refine le_and_succ (by omega) fun g' hg => ?_
        simp only [parseSuffix, hk', hid, ↓reduceIte, hlp, hc, hs1 g' (by omega)]
      next tok ts hk' i ts1 hr hi h1 =>
        obtain ⟨hl1, hs1⟩ := ih.expr _ _ _ _ h1
        obtain ⟨hl2, hs2⟩ := ih.suffix _ _ _ _ hp
        have := drop1_length hr
        simp only [List.length_cons]
        refine le_and_succ (by omega) fun g' hg => ?_
        simp only [parseSuffix, hk', hi, ↓reduceIte, hs1 g' (by omega), hr, hs2 g' (by omega)]
      next tok ts h1 h2 =>
        cases hp
        refine ⟨Nat.le_refl _, of_succ_fuel (Nat.le_refl _) fun g' _ => ?_⟩
        simp only [parseSuffix]
      next =>
        cases hp
        exact ⟨Nat.le_refl _, of_succ_fuel (Nat.le_refl _) fun g' _ => by rw [parseSuffix]⟩
    · intro ts e rest
      generalize hn : f + 1 = n
      fun_cases parsePrefix t n ts
      all_goals try (intro hp; cases hp; done)
      all_goals cases hn
      all_goals intro hp
      all_goals simp only [List.length_cons]
      next tok ts hu e1 ts' h1 =>
        cases hp
        obtain ⟨hl1, hs1⟩ := ih.expr _ _ _ _ h1
        refine lt_and_succ (by omega) fun g' hg => ?_
        simp only [parsePrefix, hu, ↓reduceIte, hs1 g' (by omega)]
      next tok ts hu hv =>
        obtain ⟨hl1, hs1⟩ := ih.suffix _ _ _ _ hp
        refine lt_and_succ (by omega) fun g' hg => ?_
        simp only [parsePrefix, hu, hv, Bool.false_eq_true, ↓reduceIte, hs1 g' (by omega)]
      -- a literal
      iterate 5
        next tok ts hu hv hk' =>
          cases hp
          refine lt_and_succ (by omega) fun g' hg => ?_
          simp only [parsePrefix, hu, hv, Bool.false_eq_true, ↓reduceIte]
          simp only [hk']
      -- `self`, `selected`
      iterate 2
        next tok ts hu hv hk' =>
          obtain ⟨hl1, hs1⟩ := ih.suffix _ _ _ _ hp
          refine lt_and_succ (by omega) fun g' hg => ?_
          simp only [parsePrefix, hu, hv, Bool.false_eq_true, ↓reduceIte]
          simp only [hk', hs1 g' (by omega)]
      -- `param.x`, `rcvd_evt.x`
      iterate 2
        next tok hu hv hk' d nm ts' hc =>
          obtain ⟨hl1, hs1⟩ := ih.suffix _ _ _ _ hp
          refine lt_and_succ (by omega) fun g' hg => ?_
          simp only [parsePrefix, hu, hv, Bool.false_eq_true, ↓reduceIte]
          simp only [hk', hc, and_self, ↓reduceIte, hs1 g' (by omega)]
      next tok hu hv hk' d nm ts' hc hlp ps ts2 hrp h1 =>
        cases hp
        obtain ⟨hl1, hs1⟩ := ih.params _ _ _ h1
        have := drop1_length hlp
        have := drop1_length hrp
        refine lt_and_succ (by omega) fun g' hg => ?_
        simp only [parsePrefix, hu, hv, Bool.false_eq_true, ↓reduceIte]
        simp only [hk', hc, and_self, ↓reduceIte, hlp, hs1 g' (by omega), hrp]
      next tok hu hv hk' d nm ts' hc hlp =>
        cases hp
        refine lt_and_succ (by omega) fun g' hg => ?_
        simp only [parsePrefix, hu, hv, Bool.false_eq_true, ↓reduceIte]
        simp only [hk', hc, and_self, ↓reduceIte, hlp]
      next tok hu hv hk' nm lp ts' hc ps ts2 hrp h1 =>
        cases hp
        obtain ⟨hl1, hs1⟩ := ih.params _ _ _ h1
        have := drop1_length hrp
        refine lt_and_succ (by omega) fun g' hg => ?_
        simp only [parsePrefix, hu, hv, Bool.false_eq_true, ↓reduceIte]
        simp only [hk', hc, and_self, ↓reduceIte, hs1 g' (by omega), hrp]
      next tok ts hu hv hk' e1 ts' hrp h1 =>
        cases hp
        obtain ⟨hl1, hs1⟩ := ih.expr _ _ _ _ h1
        have := drop1_length hrp
        refine lt_and_succ (by omega) fun g' hg => ?_
        simp only [parsePrefix, hu, hv, Bool.false_eq_true, ↓reduceIte]
        simp only [hk', hs1 g' (by omega), hrp, ↓reduceIte]
    · intro m ts e rest h
      simp only [parseExpr] at h
      split at h <;> try contradiction
      rename_i lhs ts' h1
      obtain ⟨hl1, hs1⟩ := ih.pre _ _ _ h1
      obtain ⟨hl2, hs2⟩ := ih.loop _ _ _ _ _ _ h
      refine ⟨by omega, of_succ_fuel (by omega) fun g' hg => ?_⟩
      simp only [parseExpr, hs1 g' (by omega), hs2 g' (by omega)]
    · intro m na lhs ts e rest
      generalize hn : f + 1 = n
      fun_cases parseLoop t n m na lhs ts
      all_goals try (intro h; cases h; done)
      all_goals cases hn
      all_goals intro h
      next =>
        cases h
        exact ⟨Nat.le_refl _, of_succ_fuel (Nat.le_refl _) fun g' _ => by rw [parseLoop]⟩
      next tok ts l a hb hlt =>
        cases h
        refine ⟨Nat.le_refl _, of_succ_fuel (Nat.le_refl _) fun g' _ => ?_⟩
        simp only [parseLoop, hb, hlt, ↓reduceIte]
      next tok ts l a hb rhs ts' hlt hna h1 =>
        obtain ⟨hl1, hs1⟩ := ih.expr _ _ _ _ h1
        obtain ⟨hl2, hs2⟩ := ih.loop _ _ _ _ _ _ h
        simp only [List.length_cons]
        refine le_and_succ (by omega) fun g' hg => ?_
        simp only [parseLoop, hb, hlt, hna, ↓reduceIte, hs1 g' (by omega), hs2 g' (by omega)]
      next tok ts hb =>
        cases h
        refine ⟨Nat.le_refl _, of_succ_fuel (Nat.le_refl _) fun g' _ => ?_⟩
        simp only [parseLoop, hb]

theorem parseExprTop_of_fuel {f m : Nat} {ts : List Tok} {r : Expr × List Tok} (h : parseExpr t f m ts = some r) :
    parseExpr t (fuelFor ts) m ts = some r := by
  obtain ⟨e, rest⟩ := r
  obtain ⟨hl, hs⟩ := (suffE t f).expr m ts e rest h
  exact hs _ (by simp only [fuelFor]; omega)

end expr

end Pyx.Oal
