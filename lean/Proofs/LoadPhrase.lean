import Proofs.LoadApi

/-! C03: for which associations the batch relate of `MetaClass.new` resolves its link to the association itself
    (the open finding `api-phrased-direction`, as a statement about `_find_link`). -/

namespace Pyx.Load

/-- no two links are filed under the same key of a class's `links` dict -/
def LinkKeysOk (as : List AssocStmt) : Prop := (as.flatMap linkKeys).Nodup

theorem flatMap_nodup_disjoint {α β : Type} (f : α → List β) (l : List α) (h : (l.flatMap f).Nodup)
    (m n : Nat) (a b : α) (hm : l[m]? = some b) (hn : l[n]? = some a) (hlt : m < n) :
    ∀ x ∈ f b, x ∉ f a := by
  obtain ⟨hm', rfl⟩ := List.getElem?_eq_some_iff.mp hm
  obtain ⟨hn', rfl⟩ := List.getElem?_eq_some_iff.mp hn
  exact fun x hx hxa => List.pairwise_iff_getElem.mp (List.pairwise_flatMap.mp h).2 m n hm' hn' hlt x hx x hxa rfl

theorem flatMap_nodup_self {α β : Type} (f : α → List β) (l : List α) (h : (l.flatMap f).Nodup)
    (n : Nat) (a : α) (hn : l[n]? = some a) : (f a).Nodup :=
  (List.pairwise_flatMap.mp h).1 a (List.mem_of_getElem? hn)

theorem findLinkFrom_some (k1 k2 rel phrase : String) (l : List AssocStmt) :
    ∀ (off m : Nat) (sw : Bool), findLinkFrom k1 k2 rel phrase off l = some (m, sw) →
      ∃ b, off ≤ m ∧ l[m - off]? = some b ∧ b.rel = rel ∧
        (sw = false → b.tgtKind = k1 ∧ b.srcKind = k2 ∧ b.tgtPhrase = phrase) ∧
        (sw = true → b.srcKind = k1 ∧ b.tgtKind = k2 ∧ b.srcPhrase = phrase) := by
  induction l with
  | nil => intro off m sw h; simp [findLinkFrom] at h
  | cons b rest ih =>
    intro off m sw h
    have step : findLinkFrom k1 k2 rel phrase (off + 1) rest = some (m, sw) →
        ∃ c, off ≤ m ∧ (b :: rest)[m - off]? = some c ∧ c.rel = rel ∧
          (sw = false → c.tgtKind = k1 ∧ c.srcKind = k2 ∧ c.tgtPhrase = phrase) ∧
          (sw = true → c.srcKind = k1 ∧ c.tgtKind = k2 ∧ c.srcPhrase = phrase) := by
      intro h'
      obtain ⟨c, hle, hc, hrest⟩ := ih (off + 1) m sw h'
      refine ⟨c, by omega, ?_, hrest⟩
      have : m - off = (m - (off + 1)) + 1 := by omega
      rw [this, List.getElem?_cons_succ]; exact hc
    unfold findLinkFrom at h
    by_cases hr : b.rel ≠ rel
    · rw [if_pos hr] at h; exact step h
    · have hr' : b.rel = rel := Classical.not_not.mp hr
      rw [if_neg hr] at h
      by_cases h1 : b.tgtKind = k1 ∧ b.srcKind = k2 ∧ b.tgtPhrase = phrase
      · rw [if_pos h1] at h
        simp only [Option.some.injEq, Prod.mk.injEq] at h
        obtain ⟨hm, hsw⟩ := h
        subst hm; subst hsw
        refine ⟨b, Nat.le_refl _, by simp, hr', fun _ => h1, fun hh => ?_⟩
        cases hh
      · rw [if_neg h1] at h
        by_cases h2 : b.srcKind = k1 ∧ b.tgtKind = k2 ∧ b.srcPhrase = phrase
        · rw [if_pos h2] at h
          simp only [Option.some.injEq, Prod.mk.injEq] at h
          obtain ⟨hm, hsw⟩ := h
          subst hm; subst hsw
          refine ⟨b, Nat.le_refl _, by simp, hr', fun hh => ?_, fun _ => h2⟩
          cases hh
        · rw [if_neg h2] at h; exact step h

/-- `_find_link` scans the associations in order: the first one with the relationship number that passes one of
    the two tests decides -/
theorem findLinkFrom_first (k1 k2 rel phrase : String) (l : List AssocStmt) (n : Nat) (a : AssocStmt)
    (hn : l[n]? = some a) (hrel : a.rel = rel)
    (hbefore : ∀ m b, m < n → l[m]? = some b → b.rel = rel →
      ¬ (b.tgtKind = k1 ∧ b.srcKind = k2 ∧ b.tgtPhrase = phrase) ∧ ¬ (b.srcKind = k1 ∧ b.tgtKind = k2 ∧ b.srcPhrase = phrase)) :
    ∀ off, findLinkFrom k1 k2 rel phrase off l =
      if a.tgtKind = k1 ∧ a.srcKind = k2 ∧ a.tgtPhrase = phrase then some (off + n, false)
      else if a.srcKind = k1 ∧ a.tgtKind = k2 ∧ a.srcPhrase = phrase then some (off + n, true)
      else findLinkFrom k1 k2 rel phrase (off + n + 1) (l.drop (n + 1)) := by
  induction l generalizing n with
  | nil => simp at hn
  | cons b rest ih =>
    intro off
    cases n with
    | zero =>
      simp only [List.getElem?_cons_zero, Option.some.injEq] at hn
      subst hn
      have : ¬ b.rel ≠ rel := fun h => h hrel
      rw [findLinkFrom, if_neg this]
      simp only [Nat.add_zero, List.drop_succ_cons, List.drop_zero]
    | succ n =>
      simp only [List.getElem?_cons_succ] at hn
      have hb := hbefore 0 b (by omega) rfl
      have hrec := ih n hn (fun m c hm hc => hbefore (m + 1) c (by omega) (by simpa using hc)) (off + 1)
      have e1 : off + 1 + n = off + (n + 1) := by omega
      rw [e1] at hrec
      rw [findLinkFrom, List.drop_succ_cons]
      by_cases hr : b.rel ≠ rel
      · rw [if_pos hr]; exact hrec
      · have hr' : b.rel = rel := Classical.not_not.mp hr
        obtain ⟨hb1, hb2⟩ := hb hr'
        rw [if_neg hr, if_neg hb1, if_neg hb2]
        exact hrec

/-- **the finding, exactly**: with link keys that do not clash, the link `new` asks `_find_link` for — the referred
    instance first, the new instance second, the phrase of the link that starts at the NEW instance's class — is
    resolved to the association itself in the right orientation if and only if the association's two ends carry
    the same phrase. -/
theorem resolves_iff_same_phrase (as : List AssocStmt) (hk : LinkKeysOk as) (n : Nat) (a : AssocStmt)
    (hn : as[n]? = some a) : ResolvesAt as n a ↔ a.srcPhrase = a.tgtPhrase := by
  constructor
  · intro h
    unfold ResolvesAt findLink at h
    obtain ⟨b, _, hb, _, h1, _⟩ := findLinkFrom_some _ _ _ _ as 0 n false h
    simp only [Nat.sub_zero] at hb
    rw [hn] at hb
    cases hb
    exact ((h1 rfl).2.2).symm
  · intro hph
    unfold ResolvesAt findLink
    rw [findLinkFrom_first a.tgtKind a.srcKind a.rel a.srcPhrase as n a hn rfl ?_ 0]
    · simp [hph]
    · -- an earlier association passing one of the tests would be filed under one of `a`'s link keys
      intro m b hm hb hrel
      have hdis := flatMap_nodup_disjoint linkKeys as hk m n a b hb hn hm
      constructor
      · rintro ⟨h1, h2, h3⟩
        apply hdis (b.tgtKind, b.srcKind, b.rel, b.tgtPhrase) (by simp [linkKeys])
        simp [linkKeys, h1, h2, h3, hrel, hph]
      · rintro ⟨h1, h2, h3⟩
        apply hdis (b.srcKind, b.tgtKind, b.rel, b.srcPhrase) (by simp [linkKeys])
        simp [linkKeys, h1, h2, h3, hrel, hph]

/-- a reflexive association never resolves (its two ends must carry different phrases) -/
theorem reflexive_not_resolved (as : List AssocStmt) (hk : LinkKeysOk as) (n : Nat) (a : AssocStmt)
    (hn : as[n]? = some a) (hrefl : a.srcKind = a.tgtKind) : ¬ ResolvesAt as n a := by
  rw [resolves_iff_same_phrase as hk n a hn]
  intro hph
  have := flatMap_nodup_self linkKeys as hk n a hn
  simp [linkKeys, hrefl, hph] at this

theorem linkKeysOk_of_inDomain (ss : List Stmt) (h : inDomain ss = true) : LinkKeysOk (popAssocs ss) := by
  unfold inDomain at h
  simp only [Bool.and_eq_true, decide_eq_true_eq] at h
  exact h.1.1.2

end Pyx.Load
