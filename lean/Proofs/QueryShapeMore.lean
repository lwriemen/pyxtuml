import Proofs.QueryShape
import Proofs.RelateShape

/-!
  The source tie of the QUERY side (C09, C16; Proofs/QueryShape) for the two models that also rest on the `add_link` calls
  extracted into Gen/RelateShape.lean:

  * the `links` dict of a class (`linkEntriesFrom` / `linkDict`, what `MetaClass.navigate`, `_find_assoc_links`,
    `navigate_subtype` and `sort_reflexive` iterate) as the generic interpretation of the `add_link` calls of
    `define_association` (Gen/RelateShape.lean `linkDefs`: which class a link starts at, which class it leads to,
    which phrase it is stored under, in which order the two links are added);
  * `sort_reflexive` on a metamodel state as a whole (`sortReflexiveSt`): empty-set guard, the other-phrase search,
    the first-instance filter whose navigation raises on an unknown key, the two partner functions read through
    the interpreted `MetaClass.navigate` and the `navigate_one` result form, the generator.
-/
namespace Pyx.QShape
open Pyx.Meta Pyx.Query Pyx.Reflexive

/-- `metaclass.links` of class `k` before dict semantics: every association contributes, in the order of its
    `add_link` calls, the links that start at `k`, stored under the key (class led to, rel id, phrase) -/
def iLinkEntriesFrom (defs : List Pyx.Gen.RelateShape.LinkDef) (k : Kind) : Nat → Schema → List LinkEntry
  | _, [] => []
  | i, a :: rest =>
    defs.flatMap (fun d =>
      if Pyx.Shape.endKind a d.fromCls = k then
        [{ toKind := Pyx.Shape.endKind a d.toCls, rel := a.rel, phrase := Pyx.Shape.endPhrase a d.phrase,
           assoc := i, isSrc := d.isSourceLink }]
      else []) ++ iLinkEntriesFrom defs k (i + 1) rest

def iLinkDict (defs : List Pyx.Gen.RelateShape.LinkDef) (sch : Schema) (k : Kind) : List LinkEntry :=
  (iLinkEntriesFrom defs k 0 sch).foldl dictInsert []

theorem linkEntriesFrom_eq (k : Kind) (sch : Schema) (i : Nat) :
    linkEntriesFrom k i sch = iLinkEntriesFrom Pyx.Gen.RelateShape.linkDefs k i sch := by
  induction sch generalizing i with
  | nil => rfl
  | cons a rest ih =>
    rw [linkEntriesFrom, iLinkEntriesFrom, ih]
    simp only [Pyx.Gen.RelateShape.linkDefs, List.flatMap_cons, List.flatMap_nil, Pyx.Shape.endKind, Pyx.Shape.endPhrase,
      List.append_nil]
    rfl

theorem linkDict_eq (sch : Schema) (k : Kind) : linkDict sch k = iLinkDict Pyx.Gen.RelateShape.linkDefs sch k := by
  unfold linkDict iLinkDict
  rw [linkEntriesFrom_eq]

open Pyx.Gen.QueryShape

/-- `navigate_one(x).nav(kind, rel_id, phrase)()`: the interpreted `MetaClass.navigate`, then the result form of the
    `navigate_one` chain; an UnknownLinkException inside the generator is seen as "no partner" by the walk -/
def iPartner (skip : BExp AssocAtom) (one : ResultForm) (sch : Schema) (s : State) (k : Kind) (rel phrase : String)
    (x : Inst) : Option Inst :=
  match iNavigate skip sch s x k rel phrase with
  | some l => iOne one l
  | none => none

/-- `sort_reflexive(set, rel_id, phrase)`: `if not set.first: return QuerySet()`; the class is that of the first
    member; the other-phrase search (`none` = its `else: raise UnknownLinkException`); the first-instance filter
    navigates across the GIVEN phrase (raising when the class has no such key); then the generator -/
def iSortSt (skips : List (BExp OtherAtom)) (skip : BExp AssocAtom) (one : ResultForm) (neg : Bool) (p : PhraseSel)
    (body : List WStmt) (sch : Schema) (s : State) (set : List Inst) (rel phrase : String) : Option (List Inst) :=
  match set.head? with
  | none => some []
  | some f =>
    let k := s.kindOf f
    match iOtherPhrase skips sch k rel phrase with
    | none => none
    | some other =>
      match iNavigate skip sch s f k rel phrase with
      | none => none
      | some _ =>
        some (iSort neg p body (iPartner skip one sch s k rel phrase) (iPartner skip one sch s k rel other) set
          (s.count + 1))

theorem partner_eq (sch : Schema) (s : State) (k : Kind) (rel phrase : String) :
    partner sch s k rel phrase = iPartner assocSkip navOneResult sch s k rel phrase := by
  funext x
  unfold partner iPartner
  rw [navigate_eq]
  rfl

theorem sortReflexiveSt_eq (sch : Schema) (s : State) (set : List Inst) (rel phrase : String) :
    sortReflexiveSt sch s set rel phrase =
      iSortSt otherSkips assocSkip navOneResult firstFiltNegated firstFiltPhrase walkBody sch s set rel phrase := by
  simp only [sortReflexiveSt, iSortSt, otherPhrase_eq, navigate_eq, sortReflexive_eq, partner_eq]
  -- every component is rewritten by its own tie under the matches; the two sides now differ in whose `match` it is only
  rfl

end Pyx.QShape
