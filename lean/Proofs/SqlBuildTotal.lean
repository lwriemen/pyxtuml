import Proofs.SqlBuildOk

/-!
  The places of `build` where Python could raise a built-in exception (`BuildErr.builtinErr`, PyxModel/Sql/Build.lean)
  cannot be reached.  This file: the fifth phase, and `stmt.values[idx]` of a named INSERT (`namedCells_outcome`);
  `None.upper()` (`guessOk`) is excluded under `ValuesGuessable`, in SqlBuildCause.
  Every state that phases 1–4 reach keeps two invariants (`Inv`) — class names distinct after upper-casing, and every
  stored value of an attribute whose type is STRING is a string (it was produced by `deserialize_value` for that type) —
  and under them `_is_null` never calls `len` on a non-string.  So `build` is `buildCore`, its first four phases.
-/
namespace Pyx.Sql

/-- what `_is_null` needs of a stored cell: under an attribute of type STRING a value is a string.  (Only STRING is
    constrained here; full typing of a printed row against every type is `typedB` / `rowTypedM` in SqlLoadBridge.) -/
def cellTyped (u : UC) (ty : Name) : Cell → Bool
  | .val x => !(tyOfName u ty == some .STRING) || x.isStr
  | _ => true

def rowTyped (u : UC) : List (Name × Name) → List Cell → Bool
  | a :: as, c :: cs => cellTyped u a.2 c && rowTyped u as cs
  | _, _ => true

theorem deserialize_str (u : UC) (ty v : Text) (x : Val) (h : deserialize u ty v = some x)
    (ht : tyOfName u ty = some .STRING) : x.isStr = true := by
  unfold deserialize at h
  rw [ht] at h
  simp only [Option.some.injEq] at h
  subst h; rfl

theorem cellTyped_of_deserialize (u : UC) (ty v : Text) (x : Val) (h : deserialize u ty v = some x) :
    cellTyped u ty (.val x) = true := by
  unfold cellTyped
  cases ht : tyOfName u ty == some .STRING with
  | false => rfl
  | true => simp [deserialize_str u ty v x h (by simpa using ht)]

theorem rowTyped_initial (u : UC) (c : ClassB) : ∀ (attrs : List (Name × Name)),
    rowTyped u attrs (attrs.map (fun a => initialCell c a.1)) = true := by
  intro attrs
  induction attrs with
  | nil => rfl
  | cons a as ih =>
    simp only [List.map_cons, rowTyped, ih, Bool.and_true]
    unfold initialCell
    split <;> rfl

theorem indexOfUpper_lt (u : UC) (x : Text) : ∀ (names : List Name) (i idx : Nat),
    indexOfUpper u x names i = some idx → idx < i + names.length := by
  intro names
  induction names with
  | nil => intro i idx h; simp [indexOfUpper] at h
  | cons n ns ih =>
    intro i idx h
    simp only [indexOfUpper] at h
    split at h
    · simp only [Option.some.injEq] at h; subst h; simp
    · have := ih (i + 1) idx h; simp; omega

theorem positionalCells_outcome (u : UC) (c : ClassB) : ∀ (attrs : List (Name × Name)) (values : List Text),
    match positionalCells u c attrs values with
    | .ok cells => CellsOk u attrs values ∧ rowTyped u attrs cells = true
    | .error e => e = .parseErr ∧ ¬ CellsOk u attrs values ∧ ∃ a ∈ attrs, ∃ v ∈ values, deserialize u a.2 v = none := by
  intro attrs
  induction attrs with
  | nil => intro values; exact ⟨trivial, rfl⟩
  | cons a as ih =>
    intro values
    obtain ⟨nm, ty⟩ := a
    cases values with
    | nil => exact ⟨trivial, rowTyped_initial u c _⟩
    | cons v vs =>
      simp only [positionalCells]
      cases hd : deserialize u ty v with
      | none => exact ⟨rfl, fun h => by simp [CellsOk, hd] at h, (nm, ty), by simp, v, by simp, hd⟩
      | some x =>
        have := ih vs
        cases hr : positionalCells u c as vs with
        | ok cells =>
          rw [hr] at this
          exact ⟨⟨by simp [hd], this.1⟩, by simp only [rowTyped, cellTyped_of_deserialize u ty v x hd, this.2, Bool.and_self]⟩
        | error e =>
          rw [hr] at this
          obtain ⟨he, hno, a', ha', v', hv', hd'⟩ := this
          exact ⟨he, fun h => hno h.2, a', by simp [ha'], v', by simp [hv'], hd'⟩

theorem positionalCells_error (u : UC) (c : ClassB) : ∀ (attrs : List (Name × Name)) (values : List Text) (e : BuildErr),
    positionalCells u c attrs values = .error e →
      e = .parseErr ∧ ∃ a ∈ attrs, ∃ v ∈ values, deserialize u a.2 v = none := by
  intro attrs values e h
  have := positionalCells_outcome u c attrs values
  rw [h] at this
  exact ⟨this.1, this.2.2⟩

theorem positionalCells_bad (u : UC) (c : ClassB) (attrs : List (Name × Name)) (values : List Text)
    (h : ¬ CellsOk u attrs values) : positionalCells u c attrs values = .error .parseErr := by
  have := positionalCells_outcome u c attrs values
  cases hr : positionalCells u c attrs values with
  | ok cells => rw [hr] at this; exact absurd this.1 h
  | error e => rw [hr] at this; rw [this.1]

theorem namedCells_outcome (u : UC) (names : List Name) (values : List Text) : ∀ (attrs : List (Name × Name)),
    match namedCells u names values attrs with
    | .ok cells => rowTyped u attrs cells = true
    | .error e => names.length = values.length →
        e = .parseErr ∧ ∃ a ∈ attrs, ∃ v ∈ values, deserialize u a.2 v = none := by
  intro attrs
  induction attrs with
  | nil => rfl
  | cons a as ih =>
    obtain ⟨nm, ty⟩ := a
    -- both recursive arms of `namedCells` cons one typed cell onto the recursive result
    have tail : ∀ (cell : Cell), cellTyped u ty cell = true →
        match (match namedCells u names values as with
          | .ok cells => Except.ok (cell :: cells)
          | .error e => .error e) with
        | .ok cells => rowTyped u ((nm, ty) :: as) cells = true
        | .error e => names.length = values.length →
            e = .parseErr ∧ ∃ a ∈ (nm, ty) :: as, ∃ v ∈ values, deserialize u a.2 v = none := by
      intro cell hcell
      cases hr : namedCells u names values as with
      | ok cells => rw [hr] at ih; simp only [rowTyped, hcell, ih, Bool.and_self]
      | error e =>
        rw [hr] at ih
        intro hlen
        obtain ⟨he, a', ha', hv'⟩ := ih hlen
        exact ⟨he, a', by simp [ha'], hv'⟩
    simp only [namedCells]
    cases hi : indexOfUpper u (u.upper nm) names 0 with
    | none => exact tail .unset rfl
    | some idx =>
      dsimp only
      cases hv : values[idx]? with
      | none =>
        -- the IndexError of Build.lean's head: `indexOfUpper` answers below `names.length`, which is `values.length`
        intro hlen
        have := indexOfUpper_lt u _ names 0 idx hi
        rw [List.getElem?_eq_none_iff] at hv
        omega
      | some v =>
        dsimp only
        cases hd : deserialize u ty v with
        | none => exact fun _ => ⟨rfl, (nm, ty), by simp, v, List.mem_of_getElem? hv, hd⟩
        | some x => exact tail (.val x) (cellTyped_of_deserialize u ty v x hd)

theorem namedCells_error (u : UC) (names : List Name) (values : List Text) (hlen : names.length = values.length) :
    ∀ (attrs : List (Name × Name)) (e : BuildErr), namedCells u names values attrs = .error e →
      e = .parseErr ∧ ∃ a ∈ attrs, ∃ v ∈ values, deserialize u a.2 v = none := by
  intro attrs e h
  have := namedCells_outcome u names values attrs
  rw [h] at this
  exact this hlen

theorem rowTyped_tail (u : UC) (a : Name × Name) (as : List (Name × Name)) (row : List Cell)
    (h : rowTyped u (a :: as) row = true) : rowTyped u as row.tail = true := by
  cases row with
  | nil => cases as <;> rfl
  | cons c cs => simp only [rowTyped, Bool.and_eq_true] at h; exact h.2

theorem nullCell_typed (u : UC) (uname : Text) : ∀ (attrs : List (Name × Name)) (row : List Cell) (ty : Name) (x : Val),
    rowTyped u attrs row = true → nullCell u uname attrs row = some (ty, some (.val x)) →
    tyOfName u ty = some .STRING → x.isStr = true := by
  intro attrs
  induction attrs with
  | nil => intro row ty x _ h; simp [nullCell] at h
  | cons a as ih =>
    intro row ty x hr h ht
    obtain ⟨nm, ty'⟩ := a
    simp only [nullCell] at h
    by_cases hn : u.upper nm = uname
    · simp only [hn, if_true, Option.some.injEq, Prod.mk.injEq] at h
      obtain ⟨rfl, hh⟩ := h
      cases row with
      | nil => simp at hh
      | cons c cs =>
        simp only [List.head?_cons, Option.some.injEq] at hh; subst hh
        simp only [rowTyped, cellTyped, Bool.and_eq_true, nor_iff_imp, beq_iff_eq] at hr
        exact hr.1 ht
    · simp only [hn, if_false] at h
      exact ih row.tail ty x (rowTyped_tail u _ as row hr) h ht

theorem isNullRaises_typed (u : UC) (c : ClassB) (row : List Cell) (key : Name) (hr : rowTyped u c.attrs row = true) :
    isNullRaises u c row key = false := by
  unfold isNullRaises
  split
  · rename_i ty x hk
    cases ht : tyOfName u ty == some .STRING with
    | false => simp
    | true =>
      have := nullCell_typed u _ c.attrs row ty x hr hk (by simpa using ht)
      simp [this]
  · rfl

/-- the invariant of the states that phases 1–4 reach (`buildCore_inv`) -/
structure Inv (u : UC) (s : BState) : Prop where
  distinct : KindsDistinct u s.classes
  typed : ∀ c ∈ s.classes, ∀ row ∈ c.rows, rowTyped u c.attrs row = true

theorem inv_empty (u : UC) : Inv u BState.empty := ⟨by simp [KindsDistinct, BState.empty], by simp [BState.empty]⟩

theorem inv_snoc (u : UC) (s : BState) (c : ClassB) (h : Inv u s) (hf : s.find? u c.kind = none) (hr : c.rows = []) :
    Inv u { s with classes := s.classes ++ [c] } := by
  refine ⟨kindsDistinct_snoc u s c h.distinct hf, ?_⟩
  intro d hd row hrow
  simp only [List.mem_append, List.mem_singleton] at hd
  rcases hd with hd | rfl
  · exact h.typed d hd row hrow
  · rw [hr] at hrow; simp at hrow

theorem inv_map (u : UC) (s : BState) (g : ClassB → ClassB) (as : List AssocB) (h : Inv u s) (hk : ∀ c, (g c).kind = c.kind)
    (ha : ∀ c, (g c).attrs = c.attrs) (hr : ∀ c, (g c).rows = c.rows) : Inv u ⟨s.classes.map g, as⟩ := by
  refine ⟨h.distinct.map g hk, fun c' hc' row hrow => ?_⟩
  obtain ⟨c, hc, rfl⟩ := List.mem_map.mp hc'
  rw [hr] at hrow; rw [ha]
  exact h.typed c hc row hrow

theorem newTables_rows : ∀ (stmts : List Stmt), ∀ c ∈ newTables stmts, c.rows = [] := by
  intro stmts
  induction stmts with
  | nil => intro c hc; cases hc
  | cons st rest ih =>
    cases st with
    | createTable kind attrs =>
      intro c hc
      rcases List.mem_cons.mp hc with rfl | hc
      · rfl
      · exact ih c hc
    | createRop _ _ _ _ _ _ _ _ _ | createIndex _ _ _ | insert _ _ _ => exact ih

theorem popClasses_inv (u : UC) (stmts : List Stmt) (s s' : BState) (h : Inv u s) (he : popClasses u stmts s = .ok s') :
    Inv u s' := by
  rcases popClasses_cases u stmts s h.distinct with ⟨hok, hr⟩ | ⟨_, hr⟩
  case inr => rw [hr] at he; cases he
  rw [hr] at he
  cases he
  refine ⟨hok.1, fun c hc row hrow => ?_⟩
  rcases List.mem_append.mp hc with hc | hc
  · exact h.typed c hc row hrow
  · rw [newTables_rows stmts c hc] at hrow; cases hrow

theorem popIdents_inv (u : UC) (stmts : List Stmt) (s s' : BState) (h : Inv u s) (he : popIdents u stmts s = .ok s') :
    Inv u s' := by
  rcases popIdents_cases u stmts s with ⟨_, hr⟩ | ⟨_, hr⟩
  case inr => rw [hr] at he; cases he
  rw [hr] at he
  cases he
  exact inv_map u s _ _ h (foldl_proj (·.kind) _ (identsStep_kind u) stmts) (foldl_proj (·.attrs) _ (identsStep_attrs u) stmts)
    (foldl_proj (·.rows) _ (identsStep_rows u) stmts)

theorem popAssocs_inv (u : UC) (stmts : List Stmt) (s s' : BState) (h : Inv u s) (he : popAssocs u stmts s = .ok s') :
    Inv u s' := by
  rcases popAssocs_cases u stmts s h.distinct with ⟨_, hr⟩ | ⟨_, hr⟩
  case inr => rw [hr] at he; cases he
  rw [hr] at he
  cases he
  exact inv_map u s _ _ h (foldl_proj (·.kind) _ (assocStep_kind u) stmts) (foldl_proj (·.attrs) _ (assocStep_attrs u) stmts)
    (foldl_proj (·.rows) _ (assocStep_rows u) stmts)

theorem ensureClass_inv (u : UC) (s : BState) (kind : Name) (named : Bool) (ns : List Name) (values : List Text) (h : Inv u s) :
    Inv u (ensureClass u s kind named ns values) := by
  unfold ensureClass
  cases hf : s.find? u kind with
  | some c => exact h
  | none => exact inv_snoc u s ⟨kind, inferredFor u named ns values, [], [], []⟩ h hf rfl

theorem cellsOf_typed (u : UC) (c : ClassB) (named : Bool) (ns : List Name) (values : List Text) (cells : List Cell)
    (h : cellsOf u c named ns values = .ok cells) : rowTyped u c.attrs cells = true := by
  unfold cellsOf at h
  cases named with
  | true =>
    have := namedCells_outcome u ns values c.attrs
    rw [show namedCells u ns values c.attrs = .ok cells by simpa using h] at this
    exact this
  | false =>
    have := positionalCells_outcome u c c.attrs values
    rw [show positionalCells u c c.attrs values = .ok cells by simpa using h] at this
    exact this.2

theorem popInstance_inv (u : UC) (s s' : BState) (kind : Name) (values : List Text) (names : Option (List Name))
    (h : Inv u s) (he : popInstance u s kind values names = .ok s') : Inv u s' := by
  unfold popInstance at he
  split at he
  · cases he
  split at he
  · cases he
  split at he
  · cases he
  have h1 := ensureClass_inv u s kind (isNamed names) (names.getD []) values h
  generalize ensureClass u s kind (isNamed names) (names.getD []) values = s1 at he h1
  cases hf : s1.find? u kind with
  | none => rw [hf] at he; cases he
  | some c =>
    rw [hf] at he; simp only at he
    split at he
    · cases he
    cases hc : cellsOf u c (isNamed names) (names.getD []) values with
    | error e => rw [hc] at he; cases he
    | ok cells =>
      rw [hc] at he
      simp only [Except.ok.injEq] at he; subst he
      obtain ⟨hcm, hck⟩ := of_find?_some hf
      refine ⟨?_, ?_⟩
      · rw [update_eq_map]
        exact h1.distinct.map _ (fun d => by split <;> rfl)
      · intro d' hd' row hrow
        rw [update_eq_map] at hd'
        obtain ⟨d, hd, rfl⟩ := List.mem_map.mp hd'
        by_cases hk : sameKind u d.kind kind = true
        · -- kinds are distinct, so the class `update` changes is the class the cells were computed for
          have : d = c := eq_of_sameKind u h1.distinct hd hcm hk hck
          subst this
          simp only [hk, if_true, List.mem_append, List.mem_singleton] at hrow ⊢
          rcases hrow with hrow | rfl
          · exact h1.typed d hd row hrow
          · exact cellsOf_typed u d _ _ values row hc
        · simp only [hk, Bool.false_eq_true, if_false] at hrow ⊢
          exact h1.typed d hd row hrow

theorem popInstances_inv (u : UC) : ∀ (stmts : List Stmt) (s s' : BState), Inv u s → popInstances u stmts s = .ok s' → Inv u s' := by
  intro stmts
  induction stmts with
  | nil => intro s s' h he; simp only [popInstances, Except.ok.injEq] at he; subst he; exact h
  | cons st rest ih =>
    intro s s' h he
    cases st with
    | insert kind values names =>
      simp only [popInstances] at he
      cases hp : popInstance u s kind values names with
      | error e => rw [hp] at he; cases he
      | ok s1 => rw [hp] at he; exact ih s1 s' (popInstance_inv u s s1 kind values names h hp) he
    | createTable _ _ => exact ih s s' h (by simpa [popInstances] using he)
    | createIndex _ _ _ => exact ih s s' h (by simpa [popInstances] using he)
    | createRop _ _ _ _ _ _ _ _ _ => exact ih s s' h (by simpa [popInstances] using he)

theorem buildCore_inv (u : UC) (stmts : List Stmt) (s : BState) (h : buildCore u stmts = .ok s) : Inv u s := by
  unfold buildCore at h
  cases h1 : popClasses u stmts BState.empty with
  | error e => rw [h1] at h; cases h
  | ok s1 =>
    rw [h1] at h; simp only at h
    cases h2 : popIdents u stmts s1 with
    | error e => rw [h2] at h; cases h
    | ok s2 =>
      rw [h2] at h; simp only at h
      cases h3 : popAssocs u stmts s2 with
      | error e => rw [h3] at h; cases h
      | ok s3 =>
        rw [h3] at h; simp only at h
        exact popInstances_inv u stmts s3 s
          (popAssocs_inv u stmts s2 s3 (popIdents_inv u stmts s1 s2 (popClasses_inv u stmts _ s1 (inv_empty u) h1) h2) h3) h

theorem connRaises_of_inv (u : UC) (s : BState) (h : Inv u s) : connRaises u s = false := by
  have hk : ∀ kind keys, classKeysRaise u s kind keys = false := by
    intro kind keys
    unfold classKeysRaise
    cases hf : s.find? u kind with
    | none => rfl
    | some c =>
      simp only
      rw [List.any_eq_false]
      intro row hrow
      rw [Bool.not_eq_true, List.any_eq_false]
      intro k _
      rw [Bool.not_eq_true]
      exact isNullRaises_typed u c row k (h.typed c (List.mem_of_find?_eq_some hf) row hrow)
  unfold connRaises
  rw [List.any_eq_false]
  intro a _
  simp [hk]

/-- `populate_connections` never raises after phases 1–4: `_is_null` calls `len` on strings only -/
theorem popConnections_ok (u : UC) (stmts : List Stmt) (s : BState) (h : buildCore u stmts = .ok s) :
    popConnections u s = .ok s := by
  simp [popConnections, connRaises_of_inv u s (buildCore_inv u stmts s h)]

theorem buildPhases_eq_core (u : UC) (stmts : List Stmt) : buildPhases u stmts = buildCore u stmts := by
  unfold buildPhases
  cases h : buildCore u stmts with
  | error e => rfl
  | ok s => exact popConnections_ok u stmts s h

theorem build_eq_core (u : UC) (stmts : List Stmt) : build u stmts = buildCore u stmts := by
  simp [build, buildPhases_eq_core]

/-- BUILD SUCCESS: a well-formed statement list builds, and the built state holds exactly the declared classes in
    statement order (attributes as declared), each with the identifiers, referential attributes and rows its statements
    give it in statement order, and the associations in statement order -/
theorem build_ok (u : UC) (stmts : List Stmt) (h : BuildOk u stmts) :
    build u stmts = .ok { classes := (newTables stmts).map (builtClass u stmts), assocs := ropsOf stmts } := by
  rw [build_eq_core u stmts]; exact buildCore_ok u stmts h

end Pyx.Sql
