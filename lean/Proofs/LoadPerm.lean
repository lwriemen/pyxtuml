import Proofs.LoadBuild
import Proofs.Load

/-! C03: the classes built from permuted statement lists agree up to the order of identifiers and rows (`ClsEquiv`,
    `clsSpec_perm`) under the guards `UniqNamesOk` and `InferAgree`; where the INSERTs of a kind keep their order the rows
    are equal (`rowsOf_eq_of_order`). -/

namespace Pyx.Load

/-- two metaclasses (or their absence) agree up to the order of identifiers and instances -/
def ClsEquiv : Option Cls → Option Cls → Prop
  | none, none => True
  | some c1, some c2 =>
    c1.kind = c2.kind ∧ c1.attrs = c2.attrs ∧ c1.indices.Perm c2.indices ∧ c1.rows.Perm c2.rows
  | _, _ => False

/-- identifier names are not reused inside a class (otherwise `indices[name] = …` keeps the last definition) -/
def UniqNamesOk (ss : List Stmt) : Prop := ∀ k, ((uniqOf ss k).map (·.1)).Nodup

/-- the inferred-schema guard: all INSERTs of a kind without CREATE TABLE infer the same class -/
def InferAgree (ss : List Stmt) : Prop :=
  ∀ k, findCls (popClasses ss) k = none →
    ∀ x ∈ insOf ss k, ∀ y ∈ insOf ss k, inferAttrs x.1 x.2 = inferAttrs y.1 y.2

theorem uniqNamesOk_perm {s1 s2 : List Stmt} (h : s1.Perm s2) (h1 : UniqNamesOk s1) : UniqNamesOk s2 :=
  fun k => (((uniqOf_perm h k).map _).nodup_iff).mp (h1 k)

theorem applyUniqs_indices (c : Cls) (hc : c.indices = []) (us : List (String × List String))
    (hn : (us.map (·.1)).Nodup) : (applyUniqs c us).indices = us := by
  unfold applyUniqs
  simp only [hc]
  exact dictOfPairs_eq_self us hn

theorem clsSpec_perm {s1 s2 : List Stmt} (h : s1.Perm s2) (hacc : accepted s1 = true)
    (hu : UniqNamesOk s1) (hi : InferAgree s1) (k : String) :
    ClsEquiv (clsSpec s1 k) (clsSpec s2 k) := by
  have hn := kinds_nodup_of_accepted hacc
  have hf := findCls_perm (popClasses_perm h) hn k
  have hins := insOf_perm h k
  unfold clsSpec
  rw [← hf]
  cases hc : findCls (popClasses s1) k with
  | some c =>
    have hr := popClasses_rows_nil s1 c (List.mem_of_find?_eq_some hc)
    simp only [ClsEquiv]
    refine ⟨rfl, rfl, ?_, hins.map _⟩
    show (applyUniqs c (uniqOf s1 k)).indices.Perm (applyUniqs c (uniqOf s2 k)).indices
    rw [applyUniqs_indices c hr.2 _ (hu k), applyUniqs_indices c hr.2 _ (uniqNamesOk_perm h hu k)]
    exact uniqOf_perm h k
  | none =>
    simp only
    cases h1 : insOf s1 k with
    | nil =>
      rw [h1] at hins
      rw [List.nil_perm.mp hins]
      trivial
    | cons x xs =>
      cases h2 : insOf s2 k with
      | nil =>
        rw [h2] at hins
        have := List.perm_nil.mp hins
        rw [h1] at this
        cases this
      | cons y ys =>
        -- inferred class: `InferAgree` makes the heads of the two INSERT lists infer the same attributes
        simp only [ClsEquiv]
        have hy : y ∈ insOf s1 k := by
          rw [hins.mem_iff, h2]; exact List.mem_cons_self
        have hx : x ∈ insOf s1 k := by rw [h1]; exact List.mem_cons_self
        have he : inferAttrs x.1 x.2 = inferAttrs y.1 y.2 := hi k hc x hx y hy
        refine ⟨trivial, he, List.Perm.refl _, ?_⟩
        rw [← he, ← h1, ← h2]
        exact hins.map _

theorem rowsOf_perm {s1 s2 : List Stmt} (h : s1.Perm s2) (hacc : accepted s1 = true)
    (hu : UniqNamesOk s1) (hi : InferAgree s1) (k : String) :
    (rowsOf (buildCore s1).classes k).Perm (rowsOf (buildCore s2).classes k) := by
  rw [rowsOf_buildCore, rowsOf_buildCore]
  have := clsSpec_perm h hacc hu hi k
  cases h1 : clsSpec s1 k <;> cases h2 : clsSpec s2 k <;> simp only [h1, h2, ClsEquiv] at this
  · exact List.Perm.refl _
  · exact this.2.2.2

theorem rowsOf_eq_of_order {s1 s2 : List Stmt} (h : s1.Perm s2) (hacc : accepted s1 = true) (k : String)
    (hord : insOf s1 k = insOf s2 k) :
    rowsOf (buildCore s1).classes k = rowsOf (buildCore s2).classes k := by
  rw [rowsOf_buildCore, rowsOf_buildCore]
  unfold clsSpec
  rw [← findCls_perm (popClasses_perm h) (kinds_nodup_of_accepted hacc) k, ← hord]
  cases findCls (popClasses s1) k with
  | some c => rfl
  | none => cases insOf s1 k <;> rfl

end Pyx.Load
