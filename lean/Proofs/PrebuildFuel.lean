import Proofs.PrebuildStmtRT

/-
  C05: the fuel `parseGen` derives from the token count (`fuelFor ts = 3 * ts.length + 3`) is enough for any supported tree.
  The factor 3 comes from the smallest expressions: a variable, `self` or `selected` has size 2 (a postfix may follow it) and
  prints ONE token, and `szE_le` bounds the size plus the unit of the node above: 2 + 1 ≤ 3 · 1.
-/
namespace Pyx.Prebuild

mutual
  theorem szE_le (ctx : Ctx) (e : Expr) (hw : wfExpr ctx e = true) : szE e + 1 ≤ 3 * (genExpr e).length := by
    cases e <;> (try simp only [wfExpr, Bool.and_eq_true] at hw) <;>
      simp only [szE, genExpr, List.length_append, List.length_cons, List.length_nil]
    case field h _ => have := szE_le ctx h hw.2; omega
    case index h i =>
      have := szE_le ctx h hw.1.2
      have := szE_le ctx i hw.2
      omega
    case un op e => have := szE_le ctx e hw.2; omega
    case bin l op r =>
      have := szE_le ctx l hw.1.2
      have := szE_le ctx r hw.2
      omega
    case call k nsp n ps =>
      cases k <;> simp only [wfExpr, Bool.and_eq_true, Bool.false_eq_true] at hw
      all_goals
        have := szP_le ctx ps hw.2
        simp only [genExpr, List.length_append, List.length_cons, List.length_nil]
        omega
    case icall h n ps =>
      have := szP_le ctx ps hw.2
      cases h <;> simp [isVarOrSelf] at hw <;> simp only [szE, genExpr, List.length_cons, List.length_nil] <;> omega
    all_goals omega
  theorem szP_le (ctx : Ctx) (ps : Params) (hw : wfParams ctx ps = true) : szP ps ≤ 3 * (genParams ps).length + 1 := by
    cases ps with
    | nil => simp [szP, genParams]
    | cons n e rest =>
      simp only [wfParams, Bool.and_eq_true] at hw
      have := szE_le ctx e hw.1
      have := szP_le ctx rest hw.2
      cases rest <;> simp only [szP, genParams, List.length_append, List.length_cons, List.length_nil] at * <;> omega
end

theorem chain_len : ∀ chain : List Step, chain.length ≤ (genChain chain).length
  | [] => by simp [genChain]
  | s :: more => by
      have := chain_len more
      simp only [genChain, genStep, List.length_append, List.length_cons, List.length_nil]; omega

mutual
  theorem szS_le (ctx : Ctx) : ∀ s : Stmt, wfStmt ctx s = true → szS s ≤ 3 * (genStmt s).length := by
    intro s hw
    cases s
    case ret v =>
      cases v with
      | none => simp [szS, genStmt]
      | some e =>
        have := szE_le ctx e (by simpa [wfStmt] using hw)
        simp only [szS, genStmt, List.length_append, List.length_cons, List.length_nil]; omega
    case invoke e =>
      simp only [wfStmt, Bool.and_eq_true] at hw
      have he := szE_le ctx e hw.2
      cases e <;> simp only [isInvocation, Bool.false_eq_true, false_and] at hw
      case icall h n ps => rw [genStmt]; simp only [szS, List.length_cons]; omega
      case call k a b c =>
        cases k <;> simp only [Bool.false_eq_true, false_and] at hw
        case func => rw [genStmt_invoke_func]; simp only [szS]; omega
        case bridge => rw [genStmt]; simp only [szS, List.length_cons]; omega
        case classop => rw [genStmt_invoke_classop]; simp only [szS]; omega
    case genPre e => cases e <;> simp [wfStmt] at hw; simp [szS, szE, genStmt, genExpr]
    all_goals try simp only [wfStmt, Bool.and_eq_true] at hw
    all_goals simp only [szS, genStmt, genEvtSpec, List.length_append, List.length_cons, List.length_nil]
    case assign l r =>
      have := szE_le ctx l hw.1
      have := szE_le ctx r hw.2
      omega
    case selFromW card _ _ w => have := szE_le ctx w hw.2; omega
    case selRel card _ h chain =>
      have := szE_le ctx h hw.1.2
      have := chain_len chain
      omega
    case selRelW card _ h chain w =>
      have := szE_le ctx h hw.1.1.2
      have := szE_le ctx w hw.2
      have := chain_len chain
      omega
    case forEach _ _ b => have := szB_le ctx b hw; omega
    case while_ e b =>
      have := szE_le ctx e hw.1
      have := szB_le ctx b hw.2
      omega
    case if_ e b el els =>
      have := szE_le ctx e hw.1.1.1
      have := szB_le ctx b hw.1.1.2
      have := szEl_le ctx el hw.1.2
      have := szElse_le ctx els hw.2
      omega
    case genEvt _ m d tgt =>
      obtain ⟨mm, rfl⟩ := Option.isSome_iff_exists.mp hw.1.1
      have := szP_le ctx d hw.1.2
      simp only [List.length_append, List.length_cons, List.length_nil]; omega
    case createEvt _ _ m d tgt =>
      obtain ⟨mm, rfl⟩ := Option.isSome_iff_exists.mp hw.1.1
      have := szP_le ctx d hw.1.2
      simp only [List.length_append, List.length_cons, List.length_nil]; omega
    all_goals omega
  theorem szB_le (ctx : Ctx) (b : Block) (hw : wfBlock ctx b = true) : szB b ≤ 3 * (genBlock b).length + 1 := by
    cases b with
    | nil => simp [szB, genBlock]
    | cons s more =>
      simp only [wfBlock, Bool.and_eq_true] at hw
      have := szS_le ctx s hw.1
      have := szB_le ctx more hw.2
      simp only [szB, genBlock, List.length_append, List.length_cons, List.length_nil]; omega
  theorem szEl_le (ctx : Ctx) : ∀ el : Elifs, wfElifs ctx el = true → szEl el ≤ 3 * (genElifs el).length + 1 := by
    intro el hw
    cases el with
    | nil => simp [szEl, genElifs]
    | cons e b more =>
      simp only [wfElifs, Bool.and_eq_true] at hw
      have := szE_le ctx e hw.1.1
      have := szB_le ctx b hw.1.2
      have := szEl_le ctx more hw.2
      simp only [szEl, genElifs, List.length_append, List.length_cons, List.length_nil]; omega
  theorem szElse_le (ctx : Ctx) : ∀ els : Else, wfElse ctx els = true → szElse els ≤ 3 * (genElse els).length + 1 := by
    intro els hw
    cases els with
    | none => simp [szElse, genElse]
    | some b =>
      have := szB_le ctx b (by simpa [wfElse] using hw)
      simp only [szElse, genElse, List.length_append, List.length_cons, List.length_nil]; omega
end

theorem fuel_enough (ctx : Ctx) (b : Block) (hw : wfBlock ctx b = true) : szB b ≤ fuelFor (genBlock b) := by
  have := szB_le ctx b hw
  unfold fuelFor; omega

theorem parseGen_genTokens (ctx : Ctx) (b : Block) (hw : supported ctx b = true) :
    parseGen ctx (genTokens b) = some b := by
  unfold parseGen genTokens
  have h := blockRT ctx b hw [] (fuelFor (genBlock b)) rfl (fuel_enough ctx b hw)
  rw [List.append_nil] at h
  rw [h]

end Pyx.Prebuild
