import Proofs.SqlBuildProj
import Proofs.SqlFixedPoint
import Proofs.SqlBuildTotal
import Proofs.SqlRoutes

/-! model level: an item list PRESENTS a metamodel when what `build` reads of it -- tables, associations, and per kind the
    identifiers and the rows, each statement form on its own -- is what the metamodel holds; such a list builds to the
    canonical form of the metamodel (everything but links), in whatever order blocks of different forms stand -/
namespace Pyx.Sql
open Gen.Persist (Ty)

def tablesI (u : UC) : List Item → List ClassB
  | [] => []
  | .cls kind attrs :: rest => ⟨kind, attrs.map (fun a => (a.1, u.upper a.2)), [], [], []⟩ :: tablesI u rest
  | _ :: rest => tablesI u rest

def idxI (u : UC) (k : Name) : List Item → List (Name × List Name)
  | [] => []
  | .index name kind attrs :: rest =>
    if !attrs.isEmpty && sameKind u k kind then (name, attrs) :: idxI u k rest else idxI u k rest
  | _ :: rest => idxI u k rest

def refsI (u : UC) (k : Name) : List Item → List Name
  | [] => []
  | .assoc _ s _ :: rest => if sameKind u k s.kind then s.keys ++ refsI u k rest else refsI u k rest
  | _ :: rest => refsI u k rest

def insI (u : UC) (k : Name) : List Item → List (List (Name × Name) × List (Option Val))
  | [] => []
  | .inst kind attrs vals :: rest => if sameKind u k kind then (attrs, vals) :: insI u k rest else insI u k rest
  | _ :: rest => insI u k rest

def ropsI : List Item → List AssocB
  | [] => []
  | .assoc rel s t :: rest =>
    ⟨rel, s.kind, cardText s.many s.cond, s.keys, s.phrase, t.kind, cardText t.many t.cond, t.keys, t.phrase⟩ :: ropsI rest
  | _ :: rest => ropsI rest

theorem proj_items (u : UC) : ∀ (items : List Item) (stmts : List Stmt), itemsStmts u items = some stmts →
    newTables stmts = tablesI u items ∧ ropsOf stmts = ropsI items ∧
    (∀ k, idxOf u k stmts = idxI u k items) ∧
    (∀ k, (insOf u k stmts).map some = (insI u k items).map (fun av => rowTexts u av.1 av.2)) := by
  intro items
  induction items with
  | nil =>
    intro stmts h
    simp only [itemsStmts, Option.some.injEq] at h; subst h
    exact ⟨rfl, rfl, fun _ => rfl, fun _ => rfl⟩
  | cons it items ih =>
    intro stmts h
    obtain ⟨st, rest, hst, hrest, rfl⟩ := itemsStmts_cons u it items stmts h
    obtain ⟨i1, i2, i3, i5⟩ := ih rest hrest
    cases it with
    | inst kind attrs vals =>
      -- only an INSERT item can fail to denote a statement: hence conjunct four compares under `map some`
      simp only [Item.stmt] at hst
      split at hst <;> cases hst
      rename_i texts hr
      refine ⟨by simp only [newTables, tablesI, i1], by simp only [ropsOf, ropsI, i2], fun k => by simp only [idxOf, idxI, i3],
        fun k => ?_⟩
      simp only [insOf, insI]
      cases sameKind u k kind <;> simp only [if_true, if_false, Bool.false_eq_true, List.map_cons, hr, i5]
    | _ =>
      cases hst
      exact ⟨by simp only [newTables, tablesI, i1], by simp only [ropsOf, ropsI, i2], fun k => by simp only [idxOf, idxI, i3],
        fun k => by simp only [insOf, insI, i5]⟩

theorem tablesI_append (u : UC) (a b : List Item) : tablesI u (a ++ b) = tablesI u a ++ tablesI u b := by
  induction a with
  | nil => rfl
  | cons x xs ih => cases x <;> simp [tablesI, ih]

theorem ropsI_append (a b : List Item) : ropsI (a ++ b) = ropsI a ++ ropsI b := by
  induction a with
  | nil => rfl
  | cons x xs ih => cases x <;> simp [ropsI, ih]

theorem idxI_append (u : UC) (k : Name) (a b : List Item) : idxI u k (a ++ b) = idxI u k a ++ idxI u k b := by
  induction a with
  | nil => rfl
  | cons x xs ih =>
    cases x <;> simp only [List.cons_append, idxI, ih]
    split <;> simp

theorem refsI_append (u : UC) (k : Name) (a b : List Item) : refsI u k (a ++ b) = refsI u k a ++ refsI u k b := by
  induction a with
  | nil => rfl
  | cons x xs ih =>
    cases x <;> simp only [List.cons_append, refsI, ih]
    split <;> simp

theorem insI_append (u : UC) (k : Name) (a b : List Item) : insI u k (a ++ b) = insI u k a ++ insI u k b := by
  induction a with
  | nil => rfl
  | cons x xs ih =>
    cases x <;> simp only [List.cons_append, insI, ih]
    split <;> simp

theorem proj_flatten {β : Type} (P : List Item → List β) (hnil : P [] = []) (happ : ∀ a b, P (a ++ b) = P a ++ P b) :
    ∀ (bs : List (List Item)), P bs.flatten = (bs.map P).flatten
  | [] => hnil
  | b :: bs => by rw [List.flatten_cons, happ, proj_flatten P hnil happ bs, List.map_cons, List.flatten_cons]

theorem flatMap_eq_of_unique {α β : Type} {g : α → List β} {a : α} {l : List α} (ha : a ∈ l) (hn : l.Nodup)
    (h : ∀ b ∈ l, b ≠ a → g b = []) : l.flatMap g = g a := by
  obtain ⟨s, t, rfl⟩ := List.append_of_mem ha
  obtain ⟨_, hat, hs⟩ := List.nodup_append.mp hn
  rw [List.flatMap_append, List.flatMap_cons,
    List.flatMap_eq_nil_iff.mpr fun b hb => h b (List.mem_append_left _ hb) (hs b hb a List.mem_cons_self),
    List.flatMap_eq_nil_iff.mpr fun b hb => h b (List.mem_append_right _ (List.mem_cons_of_mem _ hb)) fun e =>
      (List.nodup_cons.mp hat).1 (e ▸ hb),
    List.nil_append, List.append_nil]

theorem proj_flatMap {β : Type} (P : List Item → List β) (hnil : P [] = []) (happ : ∀ a b, P (a ++ b) = P a ++ P b)
    (f : ClassM → List Item) (L : List ClassM) (c0 : ClassM) (hc0 : c0 ∈ L) (hn : L.Nodup)
    (h : ∀ c ∈ L, c ≠ c0 → P (f c) = []) : P (L.flatMap f) = P (f c0) := by
  rw [List.flatMap_def, proj_flatten P hnil happ, List.map_map, ← List.flatMap_def]
  exact flatMap_eq_of_unique hc0 hn h

theorem proj_flatMap_nil {β : Type} (P : List Item → List β) (hnil : P [] = []) (happ : ∀ a b, P (a ++ b) = P a ++ P b)
    (f : ClassM → List Item) : ∀ (L : List ClassM), (∀ c ∈ L, P (f c) = []) → P (L.flatMap f) = [] := by
  intro L h
  rw [List.flatMap_def, proj_flatten P hnil happ, List.map_map, ← List.flatMap_def]
  exact List.flatMap_eq_nil_iff.mpr h

inductive Form where
  | cls | assoc | inst | index
  deriving DecidableEq

def Item.form : Item → Form
  | .cls .. => .cls
  | .assoc .. => .assoc
  | .inst .. => .inst
  | .index .. => .index

theorem tablesI_eq_nil (u : UC) {l : List Item} (h : ∀ it ∈ l, it.form ≠ .cls) : tablesI u l = [] := by
  induction l with
  | nil => rfl
  | cons x xs ih =>
    have hx := h x List.mem_cons_self
    have ih := ih fun it hit => h it (List.mem_cons_of_mem _ hit)
    cases x with
    | cls _ _ => exact absurd rfl hx
    | _ => exact ih

theorem ropsI_eq_nil {l : List Item} (h : ∀ it ∈ l, it.form ≠ .assoc) : ropsI l = [] := by
  induction l with
  | nil => rfl
  | cons x xs ih =>
    have hx := h x List.mem_cons_self
    have ih := ih fun it hit => h it (List.mem_cons_of_mem _ hit)
    cases x with
    | assoc _ _ _ => exact absurd rfl hx
    | _ => exact ih

theorem idxI_eq_nil (u : UC) (k : Name) {l : List Item} (h : ∀ it ∈ l, it.form ≠ .index) : idxI u k l = [] := by
  induction l with
  | nil => rfl
  | cons x xs ih =>
    have hx := h x List.mem_cons_self
    have ih := ih fun it hit => h it (List.mem_cons_of_mem _ hit)
    cases x with
    | index _ _ _ => exact absurd rfl hx
    | _ => exact ih

theorem insI_eq_nil (u : UC) (k : Name) {l : List Item} (h : ∀ it ∈ l, it.form ≠ .inst) : insI u k l = [] := by
  induction l with
  | nil => rfl
  | cons x xs ih =>
    have hx := h x List.mem_cons_self
    have ih := ih fun it hit => h it (List.mem_cons_of_mem _ hit)
    cases x with
    | inst _ _ _ => exact absurd rfl hx
    | _ => exact ih

def Apart (a b : List Item) : Prop := ∀ x ∈ a, ∀ y ∈ b, x.form ≠ y.form

/-- a projection that reads one form yields nothing on one of two lists that are apart -/
theorem Apart.comm {β : Type} {P : List Item → List β} {f : Form} (hP : ∀ {l}, (∀ it ∈ l, it.form ≠ f) → P l = [])
    {a b : List Item} (h : Apart a b) : P a ++ P b = P b ++ P a := by
  by_cases ha : ∃ x ∈ a, x.form = f
  · obtain ⟨x, hx, rfl⟩ := ha
    rw [hP (l := b) fun y hy e => h x hx y hy e.symm, List.append_nil, List.nil_append]
  · rw [hP (l := a) fun x hx e => ha ⟨x, hx, e⟩, List.append_nil, List.nil_append]

theorem flatten_eq_of_perm {α : Type} {l l' : List (List α)} (hp : l.Perm l')
    (hc : l.Pairwise fun x y => x ++ y = y ++ x) : l.flatten = l'.flatten := by
  induction hp with
  | nil => rfl
  | cons x _ ih => rw [List.flatten_cons, List.flatten_cons, ih (List.pairwise_cons.mp hc).2]
  | swap x y l =>
    rw [List.flatten_cons, List.flatten_cons, List.flatten_cons, List.flatten_cons, ← List.append_assoc, ← List.append_assoc,
      (List.pairwise_cons.mp hc).1 x List.mem_cons_self]
  -- the pairwise hypothesis is carried along the first permutation (the relation is symmetric)
  | trans h₁ _ ih₁ ih₂ => exact (ih₁ hc).trans (ih₂ ((h₁.pairwise_iff Eq.symm).mp hc))

theorem deserialize_fmt (u : UC) (t : Ty) (v : Val) (txt : Text) (ty : Text) (hty : tyOfName u ty = some t)
    (h : fmtValue t v = some txt) : deserialize u ty txt = some v := by
  cases printed_of_fmt h with
  | bool b => exact deserialize_boolean u ty hty b
  | int z => exact deserialize_integer u ty hty z
  | real neg micro => exact deserialize_real u ty hty neg micro
  | str s => exact deserialize_string u ty hty s
  | id n hn => exact deserialize_unique_id u ty hty n hn

theorem upper_of_tyOfName (u : UC) (ty : Name) (t : Ty) (h : tyOfName u ty = some t) : u.upper ty = t.chars := by
  have := List.find?_some h
  have h2 : t.chars = u.upper ty := by simpa using this
  exact h2.symm

theorem tyOfName_upper_of_some (u : UC) (ty : Name) (t : Ty) (h : tyOfName u ty = some t) : tyOfName u (u.upper ty) = some t := by
  rw [upper_of_tyOfName u ty t h]
  exact tyOfName_chars u t

theorem core_upper (u : UC) {ty : Name} (h : (tyOfName u ty).isSome = true) : (tyOfName u (u.upper ty)).isSome = true :=
  let ⟨t, ht⟩ := Option.isSome_iff_exists.mp h
  Option.isSome_iff_exists.mpr ⟨t, tyOfName_upper_of_some u ty t ht⟩

theorem deserialize_cellText (u : UC) (ty : Name) (v : Option Val) (txt : Text) (h : cellText u ty v = some txt) :
    ∃ x, deserialize u (u.upper ty) txt = some x ∧ canonVal u ty v = some x := by
  obtain ⟨t, x, ht, hx, hf⟩ := cellText_inv h
  exact ⟨x, deserialize_fmt u t x txt _ (tyOfName_upper_of_some u ty t ht) hf, by simp only [canonVal, ht, hx]⟩

theorem attrNamesOk_upAttrs (u : UC) (attrs : List (Name × Name)) : attrNamesOk u (upAttrs u attrs) = attrNamesOk u attrs := by
  simp only [attrNamesOk, upAttrs, List.map_map, List.all_map]; rfl

theorem specCells_row (u : UC) (c : ClassB) (attrs : List (Name × Name)) (vals : List (Option Val)) (texts : List Text)
    (h : rowTexts u attrs vals = some texts) (hl : vals.length = attrs.length) :
    CellsOk u (upAttrs u attrs) texts ∧ (specCells u c (upAttrs u attrs) texts).map cellVal = canonVals u attrs vals := by
  induction attrs generalizing vals texts with
  | nil =>
    cases h
    cases vals with
    | nil => exact ⟨trivial, rfl⟩
    | cons _ _ => cases hl
  | cons a attrs ih =>
    cases vals with
    | nil => cases hl
    | cons v vs =>
      obtain ⟨txt, rest, hc, hr, rfl⟩ := rowTexts_cons h
      obtain ⟨x, hd, hcv⟩ := deserialize_cellText u a.2 v txt hc
      obtain ⟨ih1, ih2⟩ := ih vs rest hr (Nat.succ.inj hl)
      refine ⟨⟨by rw [hd]; rfl, ih1⟩, ?_⟩
      simp only [upAttrs, List.map_cons, specCells, hd, cellVal, canonVals, hcv]
      exact congrArg _ ih2

theorem mem_itemsStmts (u : UC) : ∀ (items : List Item) (stmts : List Stmt), itemsStmts u items = some stmts →
    ∀ st ∈ stmts, ∃ it ∈ items, it.stmt u = some st := fun _ _ h _ hst =>
  List.mem_map.mp (itemsStmts_eq_some.mp h ▸ List.mem_map_of_mem hst)

def classB0 (u : UC) (c : ClassM) : ClassB := ⟨c.kind, upAttrs u c.attrs, [], [], []⟩

def assocB0 (a : AssocM) : AssocB :=
  ⟨a.relId, a.src.kind, cardText a.src.many a.src.cond, a.src.keys, a.src.phrase,
   a.tgt.kind, cardText a.tgt.many a.tgt.cond, a.tgt.keys, a.tgt.phrase⟩

/-- the class as the reloaded metamodel holds it: type names upper-cased, unset values replaced by null values -/
def canonClass (u : UC) (c : ClassM) : ClassM := ⟨c.kind, upAttrs u c.attrs, c.indices, c.rows.map (canonVals u c.attrs)⟩

theorem canonClass_idem (u : UC) (c : ClassM) (h : ∀ a ∈ c.attrs, u.upper (u.upper a.2) = u.upper a.2) :
    canonClass u (canonClass u c) = canonClass u c := by
  simp only [canonClass, upAttrs_idem u c.attrs h, List.map_map, ClassM.mk.injEq, true_and]
  exact List.map_congr_left fun r _ => canonVals_canon u c.attrs r h

/-- the model-level part of the persistable domain that `build` checks -/
structure MM.Closed (u : UC) (m : MM) : Prop where
  distinct : (m.classes.map fun c => u.upper c.kind).Nodup
  types : ∀ c ∈ m.classes, ∀ a ∈ c.attrs, (tyOfName u a.2).isSome = true
  idents : ∀ c ∈ m.classes, (c.indices.map fun e => e.1).Nodup ∧ ∀ e ∈ c.indices, e.2 ≠ []
  ends : ∀ a ∈ m.assocs, (∃ c ∈ m.classes, c.kind = a.src.kind) ∧ a.src.keys.length = a.tgt.keys.length ∧
    ∃ c ∈ m.classes, c.kind = a.tgt.kind ∧ ∀ k ∈ a.tgt.keys, (c.attrs.map fun x => u.upper x.1).contains (u.upper k) = true
  rows : ∀ c ∈ m.classes, ∀ r ∈ c.rows, r.length = c.attrs.length
  /-- within a class no two attribute names coincide after upper-casing and none has the form `__x__` (`define_class`
      accepts no other class) -/
  attrNames : ∀ c ∈ m.classes, attrNamesOk u c.attrs = true
  /-- no attribute name and no association key has the form `__x__`: `define_class` / `define_association` raise
      MetaModelException for such names (`_is_reserved`), so no metamodel has them; for attribute names this follows from
      `attrNames` -/
  plainAttrs : ∀ c ∈ m.classes, ∀ a ∈ c.attrs, isDunder a.1 = false
  plainKeys : ∀ a ∈ m.assocs, ∀ k ∈ a.src.keys ++ a.tgt.keys, isDunder k = false

/-- `items` writes every class of `m` once (in the order `S`), its associations (in the order `A`), and for each class
    its identifiers and rows in their own order -/
structure Presents (u : UC) (m : MM) (items : List Item) (S : List ClassM) (A : List AssocM) : Prop where
  permS : S.Perm m.classes
  fromModel : ∀ it ∈ items, ItemOf m it
  tables : tablesI u items = S.map (classB0 u)
  rops : ropsI items = A.map assocB0
  memA : ∀ a ∈ A, a ∈ m.assocs
  idx : ∀ c ∈ m.classes, idxI u c.kind items = c.indices
  ins : ∀ c ∈ m.classes, insI u c.kind items = c.rows.map (fun r => (c.attrs, r))

theorem Presents.perm_blocks {u : UC} {m : MM} {S : List ClassM} {A : List AssocM} {bs bs' : List (List Item)}
    (h : Presents u m bs.flatten S A) (hp : bs.Perm bs') (ha : bs.Pairwise Apart) : Presents u m bs'.flatten S A := by
  have key : ∀ {β : Type} (P : List Item → List β) (f : Form), P [] = [] → (∀ a b, P (a ++ b) = P a ++ P b) →
      (∀ {l}, (∀ it ∈ l, it.form ≠ f) → P l = []) → P bs'.flatten = P bs.flatten := by
    intro β P f hnil happ hP
    rw [proj_flatten P hnil happ, proj_flatten P hnil happ]
    exact (flatten_eq_of_perm (hp.map P) (List.pairwise_map.mpr (ha.imp fun hab => hab.comm hP))).symm
  exact ⟨h.permS, fun it hit => h.fromModel it (hp.flatten.mem_iff.mpr hit),
    (key (tablesI u) .cls rfl (tablesI_append u) (tablesI_eq_nil u)).trans h.tables,
    (key ropsI .assoc rfl ropsI_append ropsI_eq_nil).trans h.rops, h.memA,
    fun c hc => (key (idxI u c.kind) .index rfl (idxI_append u c.kind) (idxI_eq_nil u c.kind)).trans (h.idx c hc),
    fun c hc => (key (insI u c.kind) .inst rfl (insI_append u c.kind) (insI_eq_nil u c.kind)).trans (h.ins c hc)⟩

theorem sameKind_refl (u : UC) (k : Name) : sameKind u k k = true := by simp [sameKind]

theorem class_unique (u : UC) {L : List ClassM} (hd : (L.map fun c => u.upper c.kind).Nodup) {c d : ClassM}
    (hc : c ∈ L) (hdm : d ∈ L) (h : sameKind u c.kind d.kind = true) : c = d :=
  eq_of_nodup_map (fun c : ClassM => u.upper c.kind) L hd c hc d hdm (beq_iff_eq.mp h)

section
variable {u : UC} {m : MM} {items : List Item} {S : List ClassM} {A : List AssocM} {stmts : List Stmt}
  (hp : Presents u m items S A) (hs : itemsStmts u items = some stmts)
include hp hs

theorem Presents.declared {c : ClassM} (hc : c ∈ m.classes) : classB0 u c ∈ newTables stmts := by
  rw [(proj_items u items stmts hs).1, hp.tables]
  exact List.mem_map.mpr ⟨c, hp.permS.mem_iff.mpr hc, rfl⟩

theorem Presents.of_declared {b : ClassB} (hb : b ∈ newTables stmts) : ∃ c ∈ m.classes, b = classB0 u c := by
  rw [(proj_items u items stmts hs).1, hp.tables] at hb
  obtain ⟨c, hc, rfl⟩ := List.mem_map.mp hb
  exact ⟨c, hp.permS.mem_iff.mp hc, rfl⟩

theorem Presents.stmt_of {st : Stmt} (hst : st ∈ stmts) : ∃ it, ItemOf m it ∧ it.stmt u = some st :=
  let ⟨it, hit, h⟩ := mem_itemsStmts u items stmts hs st hst
  ⟨it, hp.fromModel it hit, h⟩

theorem buildOk_of_presents (hm : m.Closed u) : BuildOk u stmts := by
  have hkind : ∀ {c : ClassM}, c ∈ m.classes → ∃ b ∈ newTables stmts, sameKind u b.kind c.kind = true :=
    fun hc => ⟨classB0 u _, hp.declared hs hc, sameKind_refl u _⟩
  refine ⟨?_, ?_, ?_, ?_, ?_⟩
  · unfold KindsDistinct
    rw [(proj_items u items stmts hs).1, hp.tables, List.map_map]
    exact ((hp.permS.map _).nodup_iff (l₂ := m.classes.map fun c => u.upper c.kind)).mpr hm.distinct
  · intro b hb
    obtain ⟨c, hc, rfl⟩ := hp.of_declared hs hb
    exact (attrNamesOk_upAttrs u c.attrs).trans (hm.attrNames c hc)
  · intro kind name attrs hmem _
    obtain ⟨it, hof, hst⟩ := hp.stmt_of hs hmem
    cases it with
    | index n k a =>
      cases hst
      obtain ⟨c, hc, rfl, _⟩ := hof
      exact hkind hc
    | inst k a v => simp only [Item.stmt] at hst; split at hst <;> cases hst
    | _ => cases hst
  · intro rel sk sc skeys sp tk tc tkeys tp hmem
    obtain ⟨it, hof, hst⟩ := hp.stmt_of hs hmem
    cases it with
    | assoc r s t =>
      cases hst
      obtain ⟨a, ha, _, rfl, rfl⟩ := hof
      obtain ⟨⟨c1, hc1, hk1⟩, hlen, c2, hc2, hk2, hkeys⟩ := hm.ends a ha
      refine ⟨hk1 ▸ hkind hc1, hk2 ▸ hkind hc2, ?_, hlen, ?_⟩
      · rw [List.any_eq_false]
        exact fun k hk => Bool.not_eq_true _ ▸ hm.plainKeys a ha k (List.mem_append_left _ hk)
      · intro b hb hsame k hk
        obtain ⟨c, hc, rfl⟩ := hp.of_declared hs hb
        -- distinct upper-cased kinds make the declared table found by `sameKind` the item's own class (here and for INSERT)
        cases class_unique u hm.distinct hc hc2 (hk2 ▸ hsame)
        simpa only [classB0, upAttrs, List.map_map, Function.comp_def] using hkeys k hk
    | inst k a v => simp only [Item.stmt] at hst; split at hst <;> cases hst
    | _ => cases hst
  · intro kind values names hmem
    obtain ⟨it, hof, hst⟩ := hp.stmt_of hs hmem
    cases it with
    | inst k a v =>
      simp only [Item.stmt] at hst
      split at hst <;> cases hst
      rename_i hr
      obtain ⟨c, hc, rfl, rfl, hrow⟩ := hof
      refine ⟨rfl, hkind hc, ?_⟩
      intro b hb hsame
      obtain ⟨c', hc', rfl⟩ := hp.of_declared hs hb
      cases class_unique u hm.distinct hc' hc hsame
      refine ⟨?_, (specCells_row u (classB0 u c) c.attrs v values hr (hm.rows c hc v hrow)).1⟩
      intro x hx
      obtain ⟨a0, ha0, rfl⟩ := List.mem_map.mp hx
      exact core_upper u (hm.types c hc a0 ha0)
    | _ => cases hst

theorem built_class_canon (hm : m.Closed u) {c : ClassM} (hc : c ∈ m.classes) :
    (builtClass u stmts (classB0 u c)).toM = canonClass u c := by
  obtain ⟨_, _, pidx, pins⟩ := proj_items u items stmts hs
  unfold classB0
  rw [builtClass_eq]
  simp only [ClassB.toM, canonClass, ClassM.mk.injEq, true_and]
  refine ⟨?_, ?_⟩
  · rw [pidx, hp.idx c hc]
    -- distinct identifier names: the dict fold is the list
    simpa using foldl_dictSet_nodup c.indices [] (by simpa using (hm.idents c hc).1)
  · rw [List.map_map]
    have hL := pins c.kind
    rw [hp.ins c hc, List.map_map] at hL
    -- each printed cell deserialises to `canonVal`
    exact map_of_map_some hL.symm fun r hr t ht => (specCells_row u _ c.attrs r t ht (hm.rows c hc r hr)).2

theorem kindOf_built (hm : m.Closed u) {c : ClassM} (hc : c ∈ m.classes) (as : List AssocB) :
    BState.kindOf u ⟨(newTables stmts).map (builtClass u stmts), as⟩ c.kind = c.kind := by
  unfold BState.kindOf
  rw [find?_map u _ (builtClass_kind u stmts)]
  obtain ⟨b, hf, hb, hk⟩ := find?_some_of_mem u ⟨newTables stmts, as⟩ c.kind ⟨classB0 u c, hp.declared hs hc, sameKind_refl u _⟩
  rw [hf]
  obtain ⟨c', hc', rfl⟩ := hp.of_declared hs hb
  cases class_unique u hm.distinct hc' hc hk
  exact builtClass_kind u stmts _

end

/-- MODEL LEVEL: an item list that presents a closed metamodel builds, and the built state, seen as the writers see
    it, is the canonical metamodel: the classes in the order written (type names upper-cased, identifiers as they are,
    rows in order with unset values replaced by null values) and the associations in the order written -/
theorem reload_of_presents (u : UC) (m : MM) (hm : m.Closed u) (items : List Item) (S : List ClassM) (A : List AssocM)
    (stmts : List Stmt) (hp : Presents u m items S A) (hs : itemsStmts u items = some stmts) :
    ∃ bs, build u stmts = .ok bs ∧ bs.toMM u = ⟨S.map (canonClass u), A⟩ := by
  refine ⟨_, build_ok u stmts (buildOk_of_presents hp hs hm), ?_⟩
  obtain ⟨ptab, prop, _, _⟩ := proj_items u items stmts hs
  simp only [BState.toMM, MM.mk.injEq]
  refine ⟨?_, ?_⟩
  · rw [ptab, hp.tables, List.map_map, List.map_map]
    exact List.map_congr_left fun c hc => built_class_canon hp hs hm (hp.permS.mem_iff.mp hc)
  · rw [prop, hp.rops, List.map_map]
    conv => rhs; rw [← List.map_id A]
    apply List.map_congr_left
    intro a ha
    obtain ⟨⟨c1, hc1, hk1⟩, _, c2, hc2, hk2, _⟩ := hm.ends a (hp.memA a ha)
    -- `kindOf` returns the exact-case kind because the end's class exists and kinds are distinct
    have e1 := kindOf_built hp hs hm hc1 (A.map assocB0)
    have e2 := kindOf_built hp hs hm hc2 (A.map assocB0)
    rw [hk1] at e1; rw [hk2] at e2
    simp only [Function.comp, assocB0, AssocB.toM, cardText_M, cardText_C, e1, e2, id]

end Pyx.Sql
