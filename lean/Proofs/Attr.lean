import PyxModel.Attr
import Proofs.Lib.ListExtra
import Proofs.Lib.Lookup

/-! C10: the attribute store (`__dict__` behind the case-insensitive hooks) behaves as one cell per case-folded declared name.
    For a well-formed class and a good dictionary (`WF`, `Good`), any history of reads, writes and deletes leaves in each cell
    the last value given, and every spelling reads it (`run_read`); the constructor loops are such a history
    (`assignAll_resolved`).  At the end, the class table: which definition `defineAll` keeps under a folded kind. -/
namespace Pyx.Attr

theorem dget_eq_lookup (d : Dict) (n : Name) : dget d n = d.lookup n := by
  induction d with
  | nil => rfl
  | cons kv r ih => obtain ⟨k, v⟩ := kv; simp only [dget, ih, lookup_cons, eq_comm (a := n)]

theorem dget_dset (d : Dict) (k n : Name) (v : Val) :
    dget (dset d k v) n = if n = k then some v else dget d n := by
  induction d with
  | nil =>
    by_cases h : n = k
    · subst h; simp [dset, dget]
    · have h' : ¬ k = n := fun e => h e.symm
      simp [dset, dget, h, h']
  | cons kv r ih =>
    obtain ⟨k0, w⟩ := kv
    by_cases h0 : k0 = k
    · subst h0
      by_cases h : n = k0
      · subst h; simp [dset, dget]
      · have h' : ¬ k0 = n := fun e => h e.symm
        simp [dset, dget, h, h']
    · by_cases h : n = k
      · subst h; simp [dset, dget, h0, ih]
      · simp only [dset, h0, ↓reduceIte, dget, ih, h]

theorem dget_ddel (d : Dict) (k n : Name) :
    dget (ddel d k) n = if n = k then none else dget d n := by
  rw [dget_eq_lookup, dget_eq_lookup, ddel, lookup_filter_fst d (fun a => decide (a ≠ k))]
  by_cases h : n = k <;> simp [h]

theorem mem_keys_dset (d : Dict) (k n : Name) (v : Val) :
    n ∈ keys (dset d k v) ↔ n ∈ keys d ∨ n = k := by
  induction d with
  | nil => simp [dset, keys]
  | cons kv r ih =>
    unfold keys at ih ⊢
    simp only [dset]
    split
    · rename_i h; subst h
      simp only [List.map_cons, List.mem_cons]
      exact ⟨Or.inl, fun h => h.elim id Or.inl⟩
    · simp only [List.map_cons, List.mem_cons, ih, or_assoc]

theorem mem_keys_ddel (d : Dict) (k n : Name) : n ∈ keys (ddel d k) ↔ n ∈ keys d ∧ n ≠ k := by
  unfold keys ddel
  simp only [List.mem_map, List.mem_filter, decide_eq_true_eq]
  constructor
  · rintro ⟨kv, ⟨hm, hne⟩, rfl⟩; exact ⟨⟨kv, hm, rfl⟩, hne⟩
  · rintro ⟨⟨kv, hm, rfl⟩, hne⟩; exact ⟨kv, ⟨hm, hne⟩, rfl⟩

theorem dget_none_iff (d : Dict) (n : Name) : dget d n = none ↔ n ∉ keys d :=
  dget_eq_lookup d n ▸ lookup_none_iff d n

theorem dget_some_mem {d : Dict} {n : Name} {v : Val} (h : dget d n = some v) : n ∈ keys d :=
  List.mem_map_of_mem (f := (·.1)) (mem_of_lookup (dget_eq_lookup d n ▸ h))

def WF (c : Cls) : Prop := (c.names.map fold).Nodup ∧ ∀ r ∈ c.refs, r ∈ c.names

/-- `__dict__` holds no key that folds to a declared name other than that declared name itself, and no
    referential attribute is stored -/
def Good (c : Cls) (d : Dict) : Prop :=
  (∀ k ∈ keys d, ∀ a ∈ c.names, fold k = fold a → k = a) ∧ (∀ k ∈ keys d, k ∉ c.refs)

theorem WF.inj {c : Cls} (hwf : WF c) {a b : Name} (ha : a ∈ c.names) (hb : b ∈ c.names)
    (h : fold a = fold b) : a = b :=
  inj_of_nodup_map fold hwf.1 ha hb h

theorem declMatch_eq {c : Cls} (hwf : WF c) {a sp : Name} (ha : a ∈ c.names) (h : fold sp = fold a) :
    declMatch c sp = some a :=
  find?_unique ha (by simp [h]) fun x hx hp => hwf.inj hx ha ((by simpa using hp : fold x = fold sp).trans h)

def cellRead : Option Val → Read
  | some v => .val v
  | none => .attrError

theorem getattr_plain {c : Cls} (hwf : WF c) {d : Dict} (hg : Good c d) {a sp : Name}
    (ha : a ∈ c.names) (hr : a ∉ c.refs) (h : fold sp = fold a) :
    getattr c d sp = cellRead (dget d a) := by
  have hsp : sp ∉ c.refs := by
    intro hs
    have := hwf.inj (hwf.2 sp hs) ha h
    exact hr (this ▸ hs)
  unfold getattr
  rw [if_neg hsp]
  cases hd : dget d sp with
  | some v =>
    have : sp = a := hg.1 sp (dget_some_mem hd) a ha h
    subst this
    rw [hd]; rfl
  | none =>
    simp only [declMatch_eq hwf ha h, hr, ↓reduceIte]
    cases hda : dget d a with
    | some v => rfl
    | none => rfl

theorem setattr_plain {c : Cls} (hwf : WF c) (d : Dict) {a sp : Name} (v : Val)
    (ha : a ∈ c.names) (hr : a ∉ c.refs) (h : fold sp = fold a) :
    setattr c d sp v = (dset d a v, .ok) := by
  unfold setattr
  simp only [declMatch_eq hwf ha h, hr, ↓reduceIte]

/-- `__dict__` holds no key that folds to a declared name other than that declared name itself (the first half of
    `Good`): what an instance created BEFORE `formalize` still satisfies, although it stores the referential value -/
def NoStray (c : Cls) (d : Dict) : Prop := ∀ k ∈ keys d, ∀ a ∈ c.names, fold k = fold a → k = a

theorem getattr_ref_shadow {c : Cls} (hwf : WF c) {d : Dict} (hn : NoStray c d) {a sp : Name}
    (hr : a ∈ c.refs) (h : fold sp = fold a) : getattr c d sp = .prop a := by
  have ha : a ∈ c.names := hwf.2 a hr
  unfold getattr
  by_cases hsp : sp ∈ c.refs
  · rw [if_pos hsp, hwf.inj (hwf.2 sp hsp) ha h]
  · rw [if_neg hsp]
    cases hd : dget d sp with
    | some v =>
      exfalso
      have : sp = a := hn sp (dget_some_mem hd) a ha h
      exact hsp (this ▸ hr)
    | none => simp only [declMatch_eq hwf ha h, hr, ↓reduceIte]

theorem setattr_ref_any {c : Cls} (hwf : WF c) (d : Dict) {a sp : Name} (v : Val)
    (hr : a ∈ c.refs) (h : fold sp = fold a) : setattr c d sp v = (d, .metaExc) := by
  unfold setattr
  simp only [declMatch_eq hwf (hwf.2 a hr) h, hr, ↓reduceIte]

theorem declMatch_some {c : Cls} {sp a : Name} (h : declMatch c sp = some a) : a ∈ c.names ∧ fold a = fold sp := by
  unfold declMatch at h
  have hx := List.find?_some h
  simp only [decide_eq_true_eq] at hx
  exact ⟨List.mem_of_find?_eq_some h, hx⟩

theorem declMatch_none {c : Cls} {sp : Name} (h : declMatch c sp = none) : ∀ a ∈ c.names, fold a ≠ fold sp := by
  intro a ha hf
  unfold declMatch at h
  have := List.find?_eq_none.mp h a ha
  simp [hf] at this

theorem setattr_undeclared (c : Cls) (d : Dict) {sp : Name} (v : Val) (h : declMatch c sp = none) :
    setattr c d sp v = (dset d sp v, .ok) := by
  unfold setattr; rw [h]

/-- deleting under any spelling of a declared attribute: its key goes if it holds a value, else AttributeError -/
theorem delattr_good {c : Cls} {d : Dict} (hg : Good c d) {a sp : Name} (ha : a ∈ c.names) (h : fold sp = fold a) :
    delattr d sp = if dget d a = none then (d, .attrError) else (ddel d a, .ok) := by
  unfold delattr
  cases hf : d.find? (fun kv => decide (fold kv.1 = fold sp)) with
  | none =>
    rw [if_pos]
    refine (dget_none_iff d a).mpr fun hk => ?_
    obtain ⟨kv, hm, rfl⟩ := List.mem_map.mp hk
    simpa [h] using List.find?_eq_none.mp hf kv hm
  | some kv =>
    have hx : fold kv.1 = fold sp := by simpa using List.find?_some hf
    have hkey : kv.1 ∈ keys d := List.mem_map_of_mem (List.mem_of_find?_eq_some hf)
    obtain rfl : kv.1 = a := hg.1 kv.1 hkey a ha (hx.trans h)
    rw [if_neg fun hn => (dget_none_iff d kv.1).mp hn hkey]

theorem good_dset {c : Cls} {d : Dict} (hg : Good c d) {k : Name} (v : Val)
    (hown : ∀ b ∈ c.names, fold k = fold b → k = b) (hr : k ∉ c.refs) : Good c (dset d k v) := by
  constructor
  · intro k' hk b hb hf
    rcases (mem_keys_dset d k k' v).mp hk with hk | rfl
    · exact hg.1 k' hk b hb hf
    · exact hown b hb hf
  · intro k' hk
    rcases (mem_keys_dset d k k' v).mp hk with hk | rfl
    · exact hg.2 k' hk
    · exact hr

theorem good_ddel {c : Cls} {d : Dict} (hg : Good c d) (a : Name) : Good c (ddel d a) :=
  ⟨fun k hk => hg.1 k ((mem_keys_ddel d a k).mp hk).1, fun k hk => hg.2 k ((mem_keys_ddel d a k).mp hk).1⟩

theorem good_nil (c : Cls) : Good c [] := ⟨fun k hk => by simp [keys] at hk, fun k hk => by simp [keys] at hk⟩

/-! ### abstract cells: one optional value per case-folded name

  `absStep` / `absRun` replay a history on cells indexed by folded names; `Sim c d m` says the dictionary `d` holds, under every
  declared name, what the cells `m` hold under its folded name (`absOf c d` are the cells of `d`).  Route: `step_sim` (one
  operation keeps `Good` and `Sim`) → `run_sim` (any history) → `absRun_eq_lastValue` (the cells hold the last value given) →
  `run_read` (so does the dictionary, and every spelling reads it). -/

abbrev Cells := Name → Option Val

def cupd (m : Cells) (u : Name) (x : Option Val) : Cells := fun z => if z = u then x else m z

/-- `sp` is a spelling of a referential attribute -/
def isRefSp (c : Cls) (sp : Name) : Bool := c.refs.any (fun r => decide (fold r = fold sp))

def Declared (c : Cls) (sp : Name) : Prop := ∃ a ∈ c.names, fold sp = fold a

def Plain (c : Cls) (sp : Name) : Prop := ∃ a ∈ c.names, a ∉ c.refs ∧ fold sp = fold a

def absStep (c : Cls) (m : Cells) : Op → Cells
  | .write sp v => if isRefSp c sp then m else cupd m (fold sp) (some v)
  | .read _ => m
  | .delete sp => cupd m (fold sp) none

def absRun (c : Cls) (m : Cells) (h : List Op) : Cells := h.foldl (absStep c) m

def absOf (c : Cls) (d : Dict) : Cells := fun u =>
  match c.names.find? (fun a => decide (fold a = u)) with
  | some a => dget d a
  | none => none

def Sim (c : Cls) (d : Dict) (m : Cells) : Prop := ∀ a ∈ c.names, dget d a = m (fold a)

theorem sim_absOf {c : Cls} (hwf : WF c) (d : Dict) : Sim c d (absOf c d) := by
  intro a ha
  unfold absOf
  have := declMatch_eq hwf ha (rfl : fold a = fold a)
  unfold declMatch at this
  rw [this]

theorem isRefSp_iff {c : Cls} (hwf : WF c) {a sp : Name} (ha : a ∈ c.names) (h : fold sp = fold a) :
    isRefSp c sp = true ↔ a ∈ c.refs := by
  unfold isRefSp
  simp only [List.any_eq_true, decide_eq_true_eq]
  constructor
  · rintro ⟨r, hr, hf⟩
    have := hwf.inj (hwf.2 r hr) ha (hf.trans h)
    exact this ▸ hr
  · intro hr; exact ⟨a, hr, h.symm⟩

theorem sim_point {c : Cls} {d d' : Dict} {m : Cells} {k : Name} {x : Option Val}
    (hown : ∀ b ∈ c.names, fold b = fold k → b = k) (hs : Sim c d m)
    (hd : ∀ n, dget d' n = if n = k then x else dget d n) : Sim c d' (cupd m (fold k) x) := by
  intro b hb
  rw [hd, cupd]
  by_cases h : b = k
  · subst h; simp
  · have : ¬ fold b = fold k := fun hf => h (hown b hb hf)
    simp [h, this, hs b hb]

theorem sim_ddel {c : Cls} (hwf : WF c) {d : Dict} {m : Cells} (hs : Sim c d m) {a : Name}
    (ha : a ∈ c.names) : Sim c (ddel d a) (cupd m (fold a) none) :=
  sim_point (fun _ hb hf => hwf.inj hb ha hf) hs (dget_ddel d a)

theorem isRefSp_undeclared {c : Cls} (hwf : WF c) {sp : Name} (h : declMatch c sp = none) : isRefSp c sp = false := by
  cases hr : isRefSp c sp with
  | false => rfl
  | true =>
    exfalso
    unfold isRefSp at hr
    simp only [List.any_eq_true, decide_eq_true_eq] at hr
    obtain ⟨r, hrm, hf⟩ := hr
    exact declMatch_none h r (hwf.2 r hrm) hf

theorem step_sim {c : Cls} (hwf : WF c) {d : Dict} {m : Cells} (hg : Good c d) (hs : Sim c d m)
    (op : Op) : Good c (step c d op) ∧ Sim c (step c d op) (absStep c m op) := by
  cases op with
  | read sp => exact ⟨hg, hs⟩
  | write sp v =>
    simp only [step, absStep]
    cases hdm : declMatch c sp with
    | some a =>
      obtain ⟨ha, hfa⟩ := declMatch_some hdm
      by_cases hr : a ∈ c.refs
      · rw [setattr_ref_any hwf d v hr hfa.symm, if_pos ((isRefSp_iff hwf ha hfa.symm).mpr hr)]
        exact ⟨hg, hs⟩
      · rw [setattr_plain hwf d v ha hr hfa.symm, if_neg (fun h => hr ((isRefSp_iff hwf ha hfa.symm).mp h)), ← hfa]
        exact ⟨good_dset hg v (fun b hb hf => hwf.inj ha hb hf) hr,
          sim_point (fun b hb hf => hwf.inj hb ha hf) hs (fun n => dget_dset d a n v)⟩
    | none =>
      have hnd := declMatch_none hdm
      rw [setattr_undeclared c d v hdm, isRefSp_undeclared hwf hdm]
      exact ⟨good_dset hg v (fun b hb hf => absurd hf.symm (hnd b hb)) (fun hr => hnd sp (hwf.2 sp hr) rfl),
        sim_point (fun b hb hf => absurd hf (hnd b hb)) hs (fun n => dget_dset d sp n v)⟩
  | delete sp =>
    simp only [step, absStep, delattr]
    cases hf : d.find? (fun kv => decide (fold kv.1 = fold sp)) with
    | none =>
      -- no key folds like `sp`: the cell is empty already
      refine ⟨hg, fun b hb => ?_⟩
      show dget d b = if fold b = fold sp then none else m (fold b)
      split
      · rename_i hfb
        refine (dget_none_iff d b).mpr fun hk => ?_
        obtain ⟨kv, hm, rfl⟩ := List.mem_map.mp hk
        simpa [hfb] using List.find?_eq_none.mp hf kv hm
      · exact hs b hb
    | some kv =>
      have hx : fold kv.1 = fold sp := by simpa using List.find?_some hf
      have hkey : kv.1 ∈ keys d := List.mem_map_of_mem (List.mem_of_find?_eq_some hf)
      exact ⟨good_ddel hg kv.1, hx ▸ sim_point (fun b hb hfb => (hg.1 kv.1 hkey b hb hfb.symm).symm) hs (dget_ddel d kv.1)⟩

theorem run_sim {c : Cls} (hwf : WF c) : ∀ (h : List Op) (d : Dict) (m : Cells), Good c d → Sim c d m →
    Good c (run c d h) ∧ Sim c (run c d h) (absRun c m h) :=
  fun _ _ _ hg hs => List.foldl_rel (r := fun d m => Good c d ∧ Sim c d m) ⟨hg, hs⟩ fun op _ _ _ h => step_sim hwf h.1 h.2 op


/-- the last event on the case-folded name `u`: a write (to a non-referential spelling) sets the value,
    a delete empties the cell; `cur` is what the cell held before the history -/
def lastValue (c : Cls) (u : Name) : Option Val → List Op → Option Val
  | cur, [] => cur
  | cur, .write sp v :: h => lastValue c u (if fold sp = u ∧ isRefSp c sp = false then some v else cur) h
  | cur, .read _ :: h => lastValue c u cur h
  | cur, .delete sp :: h => lastValue c u (if fold sp = u then none else cur) h

theorem absRun_eq_lastValue (c : Cls) (u : Name) : ∀ (h : List Op) (m : Cells),
    absRun c m h u = lastValue c u (m u) h
  | [], _ => rfl
  | op :: h, m => by
    show absRun c (absStep c m op) h u = _
    rw [absRun_eq_lastValue c u h]
    cases op with
    | read sp => rfl
    | write sp v =>
      simp only [absStep, lastValue]
      by_cases hr : isRefSp c sp = true
      · simp [hr]
      · by_cases hu : fold sp = u
        · subst hu; simp [hr, cupd]
        · have hu' : ¬ u = fold sp := fun e => hu e.symm
          simp [hr, hu, hu', cupd]
    | delete sp =>
      simp only [absStep, lastValue]
      by_cases hu : fold sp = u
      · subst hu; simp [cupd]
      · have hu' : ¬ u = fold sp := fun e => hu e.symm
        simp [hu, hu', cupd]

theorem run_read {c : Cls} (hwf : WF c) (d0 : Dict) (hg : Good c d0) (h : List Op) :
    Good c (run c d0 h) ∧ ∀ a ∈ c.names,
      dget (run c d0 h) a = lastValue c (fold a) (dget d0 a) h ∧
      (a ∉ c.refs → ∀ sp, fold sp = fold a →
        getattr c (run c d0 h) sp = cellRead (lastValue c (fold a) (dget d0 a) h)) := by
  obtain ⟨hg', hs'⟩ := run_sim hwf h d0 (absOf c d0) hg (sim_absOf hwf d0)
  refine ⟨hg', ?_⟩
  intro a ha
  have hcell : dget (run c d0 h) a = lastValue c (fold a) (dget d0 a) h := by
    rw [hs' a ha, absRun_eq_lastValue, ← sim_absOf hwf d0 a ha]
  refine ⟨hcell, ?_⟩
  intro hr sp hf
  rw [getattr_plain hwf hg' ha hr hf, hcell]

/-! ### constructor loops = a history of writes -/

/-- an item name as the constructor loops see it: a declared name in its declared spelling, or no spelling of
    any declared attribute (keyword names are resolved first, `resolveKw`) -/
def Resolved (c : Cls) (n : Name) : Prop := n ∈ c.names ∨ declMatch c n = none

theorem resolved_resolveKw (c : Cls) (kw : Name × Val) : Resolved c (resolveKw c kw).1 := by
  unfold resolveKw
  cases h : declMatch c kw.1 with
  | some a => exact Or.inl (declMatch_some h).1
  | none => exact Or.inr (by simpa using h)

theorem fold_resolveKw (c : Cls) (kw : Name × Val) : fold (resolveKw c kw).1 = fold kw.1 := by
  unfold resolveKw
  cases h : declMatch c kw.1 with
  | some a => exact (declMatch_some h).2
  | none => rfl

theorem resolved_not_refSp {c : Cls} (hwf : WF c) {n : Name} (hr : Resolved c n) (hn : n ∉ c.refs) :
    isRefSp c n = false := by
  rcases hr with h | h
  · cases hi : isRefSp c n with
    | false => rfl
    | true => exact absurd ((isRefSp_iff hwf h rfl).mp hi) hn
  · exact isRefSp_undeclared hwf h

/-- the items of a constructor call have resolved names: defaults and positional values go under declared names, keyword
    names are resolved first -/
theorem newItems_resolved (c : Cls) {defaults : List (Name × Val)} (args : List Val) (kwargs : List (Name × Val))
    (hd : ∀ it ∈ defaults, it.1 ∈ c.names) : ∀ it ∈ newItems c defaults args kwargs, Resolved c it.1 := by
  intro it hi
  simp only [newItems, List.mem_append, List.mem_map] at hi
  rcases hi with (hi | hi) | ⟨kw, _, rfl⟩
  · exact Or.inl (hd it hi)
  · exact Or.inl (List.of_mem_zip hi).1
  · exact resolved_resolveKw c kw

/-- the writes an item list amounts to: items whose name is (exactly) referential go to the local dict -/
def writesOf (c : Cls) (items : List (Name × Val)) : List Op :=
  (items.filter fun it => !(decide (it.1 ∈ c.refs))).map fun it => Op.write it.1 it.2

theorem assignAll_resolved {c : Cls} (hwf : WF c) : ∀ (items : List (Name × Val)) (acc : NewAcc),
    (∀ it ∈ items, Resolved c it.1) →
    ∃ rd, assignAll c acc items = (⟨run c acc.dict (writesOf c items), rd⟩, .ok)
  | [], acc, _ => ⟨acc.refd, rfl⟩
  | (n, v) :: r, acc, hp => by
    by_cases hn : n ∈ c.refs
    · obtain ⟨rd, ih⟩ := assignAll_resolved hwf r ⟨acc.dict, dset acc.refd n v⟩ (fun it hi => hp it (by simp [hi]))
      refine ⟨rd, ?_⟩
      simp only [assignAll, assignArg, hn, ↓reduceIte, ih, writesOf, List.filter_cons, decide_true, Bool.not_true,
        Bool.false_eq_true]
    · have hset : setattr c acc.dict n v = (dset acc.dict n v, .ok) := by
        rcases hp (n, v) (by simp) with h | h
        · exact setattr_plain hwf acc.dict v h hn rfl
        · exact setattr_undeclared c acc.dict v h
      obtain ⟨rd, ih⟩ := assignAll_resolved hwf r ⟨dset acc.dict n v, acc.refd⟩ (fun it hi => hp it (by simp [hi]))
      refine ⟨rd, ?_⟩
      simp only [assignAll, assignArg, hn, ↓reduceIte, hset, ih, writesOf,
        List.filter_cons, decide_false, Bool.not_false, List.map_cons, run, List.foldl_cons, step]


theorem clsGet_eq_lookup (cs : Classes) (n : Name) : clsGet cs n = cs.lookup n := by
  induction cs with
  | nil => rfl
  | cons kc r ih => obtain ⟨k, c⟩ := kc; simp only [clsGet, ih, lookup_cons, eq_comm (a := n)]

theorem clsGet_append (cs : Classes) (k n : Name) (c : Cls) :
    clsGet (cs ++ [(k, c)]) n = (clsGet cs n).or (if n = k then some c else none) := by
  simp only [clsGet_eq_lookup, List.lookup_append, lookup_cons, List.lookup_nil]

theorem clsGet_append_ne (cs : Classes) (k n : Name) (c : Cls) (h : k ≠ n) :
    clsGet (cs ++ [(k, c)]) n = clsGet cs n := by
  rw [clsGet_append, if_neg (Ne.symm h), Option.or_none]

theorem clsGet_append_some (cs : Classes) (k n : Name) (c x : Cls) (h : clsGet cs n = some x) :
    clsGet (cs ++ [(k, c)]) n = some x := by
  rw [clsGet_append, h]; rfl

theorem clsGet_append_self (cs : Classes) (k : Name) (c : Cls) (h : clsGet cs k = none) :
    clsGet (cs ++ [(k, c)]) k = some c := by
  rw [clsGet_append, h, if_pos rfl]; rfl

/-- the first definition in the sequence whose kind folds to `u` and whose attribute names are acceptable (a
    definition with reserved or colliding attribute names is rejected and defines nothing) -/
def firstDef (u : Name) : List (Name × List (Name × Name)) → Option Cls
  | [] => none
  | (k, as) :: r =>
    if fold k = u ∧ badNames (as.map (·.1)) = false then some { kind := k, attrs := as, refs := [] } else firstDef u r

theorem defineAll_get (u : Name) : ∀ (defs : List (Name × List (Name × Name))) (cs : Classes),
    clsGet (defineAll cs defs) u = match clsGet cs u with
      | some c => some c
      | none => firstDef u defs
  | [], cs => by simp only [defineAll]; cases clsGet cs u <;> rfl
  | (k, as) :: r, cs => by
    unfold defineAll defineClass
    cases hk : clsGet cs (fold k) with
    | some c0 =>
      simp only [defineAll_get u r cs]
      cases hu : clsGet cs u with
      | some c => rfl
      | none =>
        have : ¬ fold k = u := by intro e; rw [e] at hk; rw [hk] at hu; cases hu
        simp [firstDef, this]
    | none =>
      cases hd : badNames (as.map (·.1)) with
      | true =>
        simp only [↓reduceIte, defineAll_get u r cs]
        cases hu : clsGet cs u with
        | some c => rfl
        | none => simp [firstDef, hd]
      | false =>
        simp only [Bool.false_eq_true, ↓reduceIte, defineAll_get u r]
        by_cases e : fold k = u
        · subst e
          rw [clsGet_append_self cs _ _ hk, hk]
          simp [firstDef, hd]
        · rw [clsGet_append_ne cs _ _ _ e]
          cases hu : clsGet cs u with
          | some c => rfl
          | none => simp [firstDef, e]

theorem nodup_of_not_dupFold : ∀ (l : List Name), dupFold l = false → (l.map fold).Nodup
  | [], _ => by simp
  | n :: r, h => by
    simp only [dupFold, Bool.or_eq_false_iff] at h
    simp only [List.map_cons, List.nodup_cons, List.mem_map, not_exists, not_and]
    refine ⟨?_, nodup_of_not_dupFold r h.2⟩
    intro m hm hf
    have := List.any_eq_false.mp h.1 m hm
    simp [hf] at this

end Pyx.Attr
