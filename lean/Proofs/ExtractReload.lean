import Proofs.ExtractSql
import Proofs.SqlAttrNames
import Proofs.SqlReload

/-!
  C14, last clause at build level — the metamodel of an extracted component satisfies `Pyx.Sql.MM.Closed`, hence
  (`Pyx.Sql.reload_persistDatabase`) the text gen_sql_schema writes is accepted, builds, and the built metamodel is the extracted
  schema in canonical form.
-/

namespace Pyx.Extract
open Pyx.Sql

/-- the two classes of one referential relation (referring `rgo`, referred `rto`) are in scope, every O_REF names
    an attribute of the referring class and a KEPT attribute of the referred class -/
def EndPairOk (d : ClassDiagram) (comp : Option Nat) (drv : Bool) (rgo rto : Nat) (refs : List Ref) : Prop :=
  ∃ rc tc, findClass d rgo = some rc ∧ findClass d rto = some tc ∧
    inScope d.containers d.pkgrefs comp rc.parent = true ∧ inScope d.containers d.pkgrefs comp tc.parent = true ∧
    ∀ ref ∈ refs, (rc.findAttr ref.rattr).isSome = true ∧ ∃ x, tc.findAttr ref.iattr = some x ∧ x.kept d drv = true

/-- what `define_association` checks for the association(s) of one relationship -/
def RelClosed (d : ClassDiagram) (comp : Option Nat) (drv : Bool) (r : Rel) : Prop :=
  match r.kind with
  | .simple form part refs => EndPairOk d comp drv form.cls part.cls refs
  | .linked one oth link r1 r2 => EndPairOk d comp drv link one.cls r1 ∧ EndPairOk d comp drv link oth.cls r2
  | .subsup sup subs => ∀ s ∈ subs, EndPairOk d comp drv s.1 sup s.2
  | .derived => True

/-- the conditions under which the written schema BUILDS again (all of them are checked by `define_class` /
    `define_association` when the component itself is built, or are conventions of BridgePoint):
    * key letters stay distinct when upper-cased (`define_class` keys its dict by `kind.upper()`)
    * the names of the core types 1..5 are pyxtuml type names
    * the identifiers of a class have different numbers
    * the kept attributes of a class have names that stay distinct when upper-cased (`define_class` raises
      MetaModelException otherwise)
    * no attribute name and no association key of the extracted metamodel has the form `__x__` (`define_class` /
      `define_association` raise MetaModelException for such names: `_is_reserved`)
    * every relationship in scope has its classes in scope, its O_REFs resolve, and the referred attributes
      are kept attributes (`define_association` raises otherwise) -/
structure ReloadOk (u : UC) (d : ClassDiagram) (comp : Option Nat) (drv : Bool) : Prop where
  upperKls : (d.classes.map (fun c => u.upper c.kl.toList)).Nodup
  coreTypes : ∀ t ∈ d.dts, ∀ n, t.kind = .core n → 1 ≤ n → n ≤ 5 → (tyOfName u (upper t.name).toList).isSome = true
  identNums : ∀ c ∈ d.classes, (c.idents.map (·.num)).Nodup
  rels : ∀ r ∈ d.rels, inScope d.containers d.pkgrefs comp r.parent = true → RelClosed d comp drv r
  attrNames : ∀ c ∈ d.classes, attrNamesOk u ((classOf d drv c).toM.attrs) = true
  plainAttrs : ∀ c ∈ ((extract d comp drv).toMM).classes, ∀ a ∈ c.attrs, isDunder a.1 = false
  plainKeys : ∀ a ∈ ((extract d comp drv).toMM).assocs, ∀ k ∈ a.src.keys ++ a.tgt.keys, isDunder k = false

theorem tyOfName_INTEGER (u : UC) : (tyOfName u "INTEGER".toList).isSome = true := by
  have : "INTEGER".toList = Gen.Persist.Ty.INTEGER.chars := by decide
  rw [this, tyOfName_chars]; rfl

theorem typeKnown_of_attrTy {u : UC} {d : ClassDiagram} {comp : Option Nat} {drv : Bool} (ok : ReloadOk u d comp drv)
    {a : Attr} {ty : String} (h : attrTy d a = some ty) : (tyOfName u ty.toList).isSome = true := by
  obtain ⟨_, m⟩ := attrTy_mapsTo h
  rcases m.origin with rfl | ⟨t, ht, n, hk, h1, h5, rfl⟩
  · exact tyOfName_INTEGER u
  · exact ok.coreTypes t ht n hk h1 h5

theorem toMM_class_mem {d : ClassDiagram} {comp : Option Nat} {drv : Bool} {c : Class} (hc : c ∈ d.classes)
    (hs : inScope d.containers d.pkgrefs comp c.parent = true) : (classOf d drv c).toM ∈ ((extract d comp drv).toMM).classes := by
  simp only [Schema.toMM, extract, List.mem_map]
  exact ⟨classOf d drv c, ⟨c, List.mem_filter.mpr ⟨hc, hs⟩, rfl⟩, rfl⟩

/-- one association built from an `EndPairOk` pair satisfies the `ends` clause of `MM.Closed` -/
theorem endPair_closed {u : UC} {d : ClassDiagram} {comp : Option Nat} {drv : Bool} {rgo rto : Nat} {refs : List Ref}
    {rc tc : Class} (hrc : findClass d rgo = some rc) (htc : findClass d rto = some tc)
    (h : EndPairOk d comp drv rgo rto refs) (rel : Name) (m1 c1 m2 c2 : Bool) (p1 p2 : String) :
    let a : AssocM := ⟨rel,
      SEnd.toM { kind := rc.kl, keys := keyNames rc (refs.map (·.rattr)), many := m1, cond := c1, phrase := p1 },
      SEnd.toM { kind := tc.kl, keys := keyNames tc (refs.map (·.iattr)), many := m2, cond := c2, phrase := p2 }⟩
    (∃ c ∈ ((extract d comp drv).toMM).classes, c.kind = a.src.kind) ∧ a.src.keys.length = a.tgt.keys.length ∧
    ∃ c ∈ ((extract d comp drv).toMM).classes, c.kind = a.tgt.kind ∧
      ∀ k ∈ a.tgt.keys, (c.attrs.map fun x => u.upper x.1).contains (u.upper k) = true := by
  obtain ⟨rc', tc', h1, h2, hs1, hs2, hrefs⟩ := h
  rw [hrc] at h1; rw [htc] at h2
  cases h1; cases h2
  intro a
  refine ⟨⟨_, toMM_class_mem (findClass_mem hrc) hs1, rfl⟩, ?_, ⟨_, toMM_class_mem (findClass_mem htc) hs2, rfl, ?_⟩⟩
  · show ((keyNames rc (refs.map (·.rattr))).map String.toList).length = ((keyNames tc (refs.map (·.iattr))).map String.toList).length
    rw [List.length_map, List.length_map, keyNames_length', keyNames_length', List.length_map, List.length_map]
    · intro i hi
      obtain ⟨ref, hr, rfl⟩ := List.mem_map.mp hi
      obtain ⟨x, hx, _⟩ := (hrefs ref hr).2
      rw [hx]; rfl
    · intro i hi
      obtain ⟨ref, hr, rfl⟩ := List.mem_map.mp hi
      exact (hrefs ref hr).1
  · intro k hk
    have hk' : k ∈ (keyNames tc (refs.map (·.iattr))).map String.toList := hk
    obtain ⟨nm, hnm, rfl⟩ := List.mem_map.mp hk'
    simp only [keyNames] at hnm
    obtain ⟨i, hi, hfi⟩ := List.mem_filterMap.mp hnm
    obtain ⟨ref, hr, rfl⟩ := List.mem_map.mp hi
    obtain ⟨x, hx, hkept⟩ := (hrefs ref hr).2
    rw [hx] at hfi
    simp only [Option.map_some, Option.some.injEq] at hfi
    subst hfi
    have hname : x.name ∈ (classOf d drv tc).attrs.map (·.name) := by
      rw [classOf_attr_names]
      exact List.mem_map.mpr ⟨x, List.mem_filter.mpr ⟨findAttr_mem hx, hkept⟩, rfl⟩
    obtain ⟨sa, hsa, hsn⟩ := List.mem_map.mp hname
    simp only [List.contains_eq_mem, decide_eq_true_eq]
    apply List.mem_map.mpr
    refine ⟨(sa.name.toList, sa.ty.toList), ?_, by simp only [hsn]⟩
    simp only [SClass.toM]
    exact List.mem_map.mpr ⟨sa, hsa, rfl⟩

theorem relClosed_sides {d : ClassDiagram} {comp : Option Nat} {drv : Bool} {r : Rel} :
    RelClosed d comp drv r ↔ ∀ s ∈ r.kind.sides, EndPairOk d comp drv s.rgo s.rto s.refs := by
  unfold RelClosed
  cases r.kind with
  | subsup s subs =>
    simp only [RelKind.sides, List.mem_map]
    exact ⟨fun h _ ⟨x, hx, e⟩ => e ▸ h x hx, fun h x hx => h _ ⟨x, hx, rfl⟩⟩
  | _ => simp [RelKind.sides]

theorem toMM_closed {u : UC} {d : ClassDiagram} {comp : Option Nat} {drv : Bool} (ok : ReloadOk u d comp drv) :
    ((extract d comp drv).toMM).Closed u := by
  refine ⟨?_, ?_, ?_, ?_, ?_, ?_, ok.plainAttrs, ok.plainKeys⟩
  · -- distinct upper-cased kinds: a sublist of the diagram's
    have : ((extract d comp drv).toMM).classes.map (fun c => u.upper c.kind) =
        (d.classes.filter (fun c => inScope d.containers d.pkgrefs comp c.parent)).map (fun c => u.upper c.kl.toList) := by
      simp only [Schema.toMM, extract, List.map_map]
      rfl
    rw [this]
    exact List.Nodup.sublist (List.Sublist.map _ List.filter_sublist) ok.upperKls
  · intro cm hcm p hp
    obtain ⟨c, _, _, rfl⟩ := mem_toMM_classes hcm
    simp only [SClass.toM, List.mem_map] at hp
    obtain ⟨s, hs, rfl⟩ := hp
    obtain ⟨a, _, _, _, hty⟩ := classOf_attr_mem.mp hs
    exact typeKnown_of_attrTy ok hty
  · intro cm hcm
    obtain ⟨c, hc, _, rfl⟩ := mem_toMM_classes hcm
    constructor
    · simp only [SClass.toM, List.map_map]
      have hsub : ((classOf d drv c).idents.map (·.num)).Sublist (c.idents.map (fun i => i.num + 1)) :=
        filterMap_map_sublist (fun i si hi => by
          unfold identOf at hi
          simp only at hi
          split at hi
          · cases hi
          · cases hi; rfl) c.idents
      have hnd : (c.idents.map (fun i => i.num + 1)).Nodup := by
        have := ok.identNums c hc
        have h2 : c.idents.map (fun i => i.num + 1) = (c.idents.map (·.num)).map (· + 1) := by
          simp [List.map_map, Function.comp]
        rw [h2]
        exact nodup_map_of_inj_on this (fun x _ y _ h => by omega)
      have hnd2 := List.Nodup.sublist hsub hnd
      have : ((classOf d drv c).idents.map ((fun (e : Name × List Name) => e.1) ∘ fun i => (indexName i.num, i.names.map String.toList))) =
          ((classOf d drv c).idents.map (·.num)).map indexName := by
        simp [List.map_map, Function.comp]
      rw [this]
      exact nodup_map_of_inj_on hnd2 (fun x _ y _ h => by
        simp only [indexName, List.cons.injEq, true_and] at h
        exact natText_injective h)
    · intro e he
      simp only [SClass.toM, List.mem_map] at he
      obtain ⟨si, hsi, rfl⟩ := he
      obtain ⟨i, _, _, hnames, hne, _⟩ := classOf_ident_mem.mp hsi
      simp only
      rw [hnames]
      intro hnil
      apply hne
      simpa using hnil
  · intro am ham
    simp only [Schema.toMM, extract, List.mem_flatMap] at ham
    obtain ⟨g, hg, hag⟩ := ham
    obtain ⟨r, hr, hgr⟩ := List.mem_filterMap.mp hg
    simp only [SGroup.toM, List.mem_map] at hag
    obtain ⟨a, ha, rfl⟩ := hag
    obtain ⟨s, hs, rc, tc, h1, h2, rfl⟩ := groupOf_mem hgr ha
    exact endPair_closed h1 h2
      (relClosed_sides.mp (ok.rels r (List.mem_filter.mp hr).1 (List.mem_filter.mp hr).2) s hs) _ _ _ _ _ _ _
  · intro cm hcm r hr
    obtain ⟨c, _, _, rfl⟩ := mem_toMM_classes hcm
    simp [SClass.toM] at hr
  · intro cm hcm
    obtain ⟨c, hc, _, rfl⟩ := mem_toMM_classes hcm
    exact ok.attrNames c hc

theorem toMM_no_rows (s : Schema) : (s.toMM).classes.flatMap ClassM.instItems = [] := by
  simp only [Schema.toMM, List.flatMap_map]
  induction s.classes with
  | nil => rfl
  | cons c t ih => simp [List.flatMap_cons, ClassM.instItems, SClass.toM]

end Pyx.Extract
