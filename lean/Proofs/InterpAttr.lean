import Proofs.InterpStore
import Proofs.InterpStateOps
import Proofs.Lib.ListExtra

/-!
  Attribute values in the store refinement.

  The mechanism side: `Pyx.Meta.State` carries the value of an instance's own id attribute (`idOf`) and resolves
  referential attributes through the links (`Pyx.Meta.getAttr` / `readLayers`, lemmas `getAttr_own`, `getAttr_single`
  in Proofs/MetaState.lean); the plain attributes live in the instances' `__dict__`,
  modelled here as `MDict` (a valuation keyed by the GLOBAL instance index).  `mGet` / `mSet` / `mNewDict` are
  `getattr` / `setattr` / the defaults of `MetaClass.new` on that pair.
  The Spec side: `getAttr` / `setAttr` / `newInst` of PyxModel/Interp/State.lean over its own valuation keyed by
  (class, index in class), a referential attribute reading as the referred identifier of the related instance.

  `RefinesA` extends `Refines` by: equal plain values, id attribute = `idOf`, equal id generators.  Theorems: reads
  (plain, id, referential with one formalisation) agree; a write of a plain attribute corresponds and a write of a
  referential attribute is rejected on both sides; new / relate / unrelate / delete keep the correspondence; hence
  every history of these operations AND attribute writes refines (`attr_refines`).
-/
namespace Pyx.Interp

/-! ### the relation `Refines` only looks at pools, counters and links -/

theorem refines_store_congr {kname : Nat → String} {ι : Nat → Inst} {s : MState} {st st' : State}
    (R : Refines kname ι s st) (h1 : st'.live = st.live) (h2 : st'.next = st.next) (h3 : st'.links = st.links) :
    Refines kname ι s st' := by
  refine ⟨R.cls, ?_, R.inj, ?_, ?_, ?_, ?_, ?_⟩
  · intro x hx; rw [h2]; exact R.below x hx
  · intro k; rw [h1]; exact R.pool k
  · intro i p; rw [h3]; exact R.pairs i p
  · intro i; rw [h3]; exact R.nodup i
  · intro i x hx; rw [h3]; exact R.srcOrd i x hx
  · intro i y hy; rw [h3]; exact R.tgtOrd i y hy

def ctxOfA (kname : Nat → String) (decl : Nat → List AttrDecl) (kinds : List Nat) (sch : MSchema) : Ctx :=
  { classes := kinds.map (fun k => ⟨kname k, decl k⟩), assocs := sch.map (toAssoc kname) }

theorem relate_assocs {C C' : Ctx} (h : C.assocs = C'.assocs) (x y : Inst) (r p : String) (st : State) :
    relate C x y r p st = relate C' x y r p st := by
  unfold relate findLink; rw [h]

theorem unrelate_assocs {C C' : Ctx} (h : C.assocs = C'.assocs) (x y : Inst) (r p : String) (st : State) :
    unrelate C x y r p st = unrelate C' x y r p st := by
  unfold unrelate findLink; rw [h]

theorem navStep_assocs {C C' : Ctx} (h : C.assocs = C'.assocs) (st : State) (i : Inst) (stp : NavStep) :
    navStep C st i stp = navStep C' st i stp := by
  unfold navStep viaProbe linksOf; rw [h]

theorem findClass_ctxOfA {kname : Nat → String} (hk : Function.Injective kname) (decl : Nat → List AttrDecl)
    (sch : MSchema) (k : Nat) (kinds : List Nat) (h : k ∈ kinds) :
    findClass (ctxOfA kname decl kinds sch) (kname k) = some ⟨kname k, decl k⟩ := by
  unfold findClass ctxOfA
  rw [List.find?_map, find?_unique h (by simp) fun x _ hx => hk (by simpa using hx)]
  rfl

theorem findAttr_ctxOfA {kname : Nat → String} (hk : Function.Injective kname) (decl : Nat → List AttrDecl)
    (sch : MSchema) (k : Nat) (kinds : List Nat) (hkin : k ∈ kinds) (n : String) :
    findAttr (ctxOfA kname decl kinds sch) (kname k) n = (decl k).find? (fun a => a.name = n) := by
  unfold findAttr
  rw [findClass_ctxOfA hk decl sch k kinds hkin]

/-- the `__dict__` entries of the plain attributes, keyed by the global instance index -/
structure MDict where
  vals : Nat → String → Val

def ofOpt : Option Nat → Val
  | some n => .int n
  | none => .none

/-- is `name` neither formalised by an association nor the class's own id attribute: a plain `__dict__` attribute -/
def isPlain (sch : MSchema) (at_ : Pyx.Meta.Attrs) (k : Nat) (name : String) : Prop :=
  Pyx.Meta.formalFrom k name 0 sch = [] ∧ at_.idName k ≠ some name

instance (sch : MSchema) (at_ : Pyx.Meta.Attrs) (k : Nat) (name : String) : Decidable (isPlain sch at_ k name) := by
  unfold isPlain; exact inferInstance

/-- `getattr(inst, name)`: a plain attribute from the dict, the id attribute and the referential attributes through
    `Pyx.Meta.getAttr` -/
def mGet (sch : MSchema) (at_ : Pyx.Meta.Attrs) (s : MState) (d : MDict) (fuel : Nat) (x : Nat) (name : String) : Val :=
  if isPlain sch at_ (s.kindOf x) name then d.vals x name
  else ofOpt (Pyx.Meta.getAttr sch at_ s fuel x name)

/-- `setattr(inst, name, value)`: `none` = MetaException (a referential attribute cannot be assigned); the id attribute
    is kept in `idOf` (the model holds non-negative ids only) -/
def mSet (sch : MSchema) (at_ : Pyx.Meta.Attrs) (s : MState) (d : MDict) (x : Nat) (name : String) (v : Val) :
    Option (MState × MDict) :=
  if Pyx.Meta.formalFrom (s.kindOf x) name 0 sch ≠ [] then none
  else if at_.idName (s.kindOf x) = some name then
    match v with
    | .int i => if 0 ≤ i then some ({ s with idOf := Pyx.Meta.upd s.idOf x i.toNat }, d) else none
    | _ => none
  else some (s, { vals := fun y n => if y = x ∧ n = name then v else d.vals y n })

/-- the defaults `MetaClass.new` puts into the new instance's dict (the id attribute is `Pyx.Meta.new`'s business) -/
def mNewDict (x : Nat) (idn : Option String) : List AttrDecl → (Nat → String → Val) → (Nat → String → Val)
  | [], g => g
  | a :: rest, g =>
    if a.referential = true ∨ idn = some a.name then mNewDict x idn rest g
    else mNewDict x idn rest (fun y n => if y = x ∧ n = a.name then (defaultOf a.ty 0).1 else g y n)

/-- the declarations of kind `k` are consistent with the mechanism's schema: distinct names; an attribute is declared
    referential iff an association formalises it; the class's own id attribute is declared as a stored unique_id and is
    the only stored unique_id -/
structure DeclOk (decl : Nat → List AttrDecl) (at_ : Pyx.Meta.Attrs) (sch : MSchema) (k : Nat) : Prop where
  nodup : ((decl k).map (fun a => a.name)).Nodup
  refs : ∀ a ∈ decl k, (a.referential = true ↔ Pyx.Meta.formalFrom k a.name 0 sch ≠ [])
  idDecl : ∀ n, at_.idName k = some n → ∃ a ∈ decl k, a.name = n ∧ a.ty = .uniqueId ∧ a.referential = false
  oneId : ∀ a ∈ decl k, a.referential = false → a.ty = .uniqueId → at_.idName k = some a.name
  idCount : ((decl k).filter (fun a => !a.referential && decide (a.ty = .uniqueId))).length =
    if (at_.idName k).isSome then 1 else 0

structure RefinesA (kname : Nat → String) (decl : Nat → List AttrDecl) (at_ : Pyx.Meta.Attrs) (sch : MSchema)
    (ι : Nat → Inst) (s : MState) (d : MDict) (st : State) : Prop where
  store : Refines kname ι s st
  idv : ∀ x, x < s.count → ∀ n, at_.idName (s.kindOf x) = some n → st.attr (ι x) n = .int (s.idOf x)
  plain : ∀ x, x < s.count → ∀ n, isPlain sch at_ (s.kindOf x) n → (∃ a ∈ decl (s.kindOf x), a.name = n) →
    st.attr (ι x) n = d.vals x n
  nextId : st.nextId = (s.nextId : Int)

theorem refinesA_init (kname : Nat → String) (decl : Nat → List AttrDecl) (at_ : Pyx.Meta.Attrs) (sch : MSchema)
    (ι : Nat → Inst) (d : MDict) : RefinesA kname decl at_ sch ι Pyx.Meta.init d initState :=
  ⟨refines_init kname ι, fun x h => by simp [Pyx.Meta.init] at h, fun x h => by simp [Pyx.Meta.init] at h, rfl⟩

section
variable {kname : Nat → String} {decl : Nat → List AttrDecl} {at_ : Pyx.Meta.Attrs} {sch : MSchema}
variable {ι : Nat → Inst} {s : MState} {d : MDict} {st : State}

theorem formalsFrom_corr (hk : Function.Injective kname) (k : Nat) (name : String) : ∀ (sch : MSchema) (n : Nat),
    formalsFrom (kname k) name n (sch.map (toAssoc kname)) = Pyx.Meta.formalFrom k name n sch
  | [], _ => rfl
  | a :: rest, n => by
    simp only [List.map_cons, formalsFrom, Pyx.Meta.formalFrom, Pyx.Meta.keyPairs]
    rw [formalsFrom_corr hk k name rest (n + 1)]
    by_cases h : a.srcKind = k
    · simp [toAssoc, h]
    · simp [toAssoc, h, hk.eq_iff]

theorem DeclOk.id_find {k : Nat} (D : DeclOk decl at_ sch k) {n : String} (hid : at_.idName k = some n) :
    ∃ a, (decl k).find? (fun a => a.name = n) = some a ∧ a.referential = false ∧ Pyx.Meta.formalFrom k n 0 sch = [] := by
  obtain ⟨a, ha, han, _, hanr⟩ := D.idDecl n hid
  refine ⟨a, find?_unique ha (by simp [han]) fun b hb hbn =>
    inj_of_nodup_map _ D.nodup hb ha ((of_decide_eq_true hbn).trans han.symm), hanr, Classical.byContradiction fun hne => ?_⟩
  have := (D.refs a ha).2 (han ▸ hne)
  rw [hanr] at this; cases this

theorem read_plain (hk : Function.Injective kname) (kinds : List Nat)
    (R : RefinesA kname decl at_ sch ι s d st) (A : Pyx.Meta.AllInv sch s) {x : Nat} (hx : Pyx.Meta.live s x)
    (hkin : s.kindOf x ∈ kinds) {name : String} {a : AttrDecl}
    (hfa : (decl (s.kindOf x)).find? (fun a => a.name = name) = some a) (hnr : a.referential = false)
    (hpl : isPlain sch at_ (s.kindOf x) name) (fuel : Nat) :
    getAttr (ctxOfA kname decl kinds sch) (ι x) name st = .ok (mGet sch at_ s d fuel x name) := by
  unfold getAttr
  rw [(live_iff R.store A.pool hx.1).2 hx]
  simp only [if_true]
  rw [R.store.cls x hx.1, findAttr_ctxOfA hk decl sch _ kinds hkin, hfa]
  simp only [hnr, Bool.false_eq_true, if_false]
  unfold mGet
  have hmem : ∃ b ∈ decl (s.kindOf x), b.name = name :=
    ⟨a, List.mem_of_find?_eq_some hfa, by simpa using List.find?_some hfa⟩
  rw [if_pos hpl, R.plain x hx.1 name hpl hmem]

theorem read_id (hk : Function.Injective kname) (kinds : List Nat)
    (R : RefinesA kname decl at_ sch ι s d st) (A : Pyx.Meta.AllInv sch s) {x : Nat} (hx : Pyx.Meta.live s x)
    (hkin : s.kindOf x ∈ kinds) (D : DeclOk decl at_ sch (s.kindOf x)) {name : String}
    (hid : at_.idName (s.kindOf x) = some name) (fuel : Nat) :
    getAttr (ctxOfA kname decl kinds sch) (ι x) name st = .ok (mGet sch at_ s d (fuel + 1) x name) ∧
    mGet sch at_ s d (fuel + 1) x name = .int (s.idOf x) := by
  obtain ⟨a, hfa, hanr, hform⟩ := D.id_find hid
  have hm : mGet sch at_ s d (fuel + 1) x name = .int (s.idOf x) := by
    unfold mGet
    rw [if_neg (fun h : isPlain sch at_ (s.kindOf x) name => h.2 hid), Pyx.Meta.getAttr_own sch at_ s fuel x name hform]
    simp [hid, ofOpt]
  refine ⟨?_, hm⟩
  rw [hm]
  unfold getAttr
  rw [(live_iff R.store A.pool hx.1).2 hx]
  simp only [if_true]
  rw [R.store.cls x hx.1, findAttr_ctxOfA hk decl sch _ kinds hkin, hfa]
  simp only [hanr, Bool.false_eq_true, if_false]
  rw [R.idv x hx.1 name hid]

/-- a referential attribute formalised by exactly one association reads, on both sides, as the identifier of the
    instance related across it (`Pyx.Meta.getAttr_single`, `getAttr_own`), and as nothing when there is none.
    Guard: the referred attribute `pk` is the own id attribute of the related instance's class. -/
theorem read_ref (hk : Function.Injective kname) (kinds : List Nat)
    (R : RefinesA kname decl at_ sch ι s d st) (A : Pyx.Meta.AllInv sch s) {x : Nat} (hx : Pyx.Meta.live s x)
    (hkin : s.kindOf x ∈ kinds) {name pk : String} {i : Nat} {a : AttrDecl}
    (hfa : (decl (s.kindOf x)).find? (fun a => a.name = name) = some a) (hr : a.referential = true)
    (hform : Pyx.Meta.formalFrom (s.kindOf x) name 0 sch = [(i, pk)])
    (hpk : ∀ o, o ∈ (s.links i).tgt x → s.kindOf o ∈ kinds ∧ DeclOk decl at_ sch (s.kindOf o) ∧
        at_.idName (s.kindOf o) = some pk) (fuel : Nat) :
    getAttr (ctxOfA kname decl kinds sch) (ι x) name st = .ok (mGet sch at_ s d (fuel + 3) x name) := by
  have hnp : ¬ isPlain sch at_ (s.kindOf x) name := fun h => by rw [h.1] at hform; cases hform
  unfold mGet
  -- `fuel + 3`: `getAttr_single` spends two on `x` and leaves `fuel + 1`, the one `getAttr_own` needs for the partner's id
  rw [if_neg hnp, Pyx.Meta.getAttr_single sch at_ s (fuel + 1) x name pk i hform]
  unfold getAttr
  rw [(live_iff R.store A.pool hx.1).2 hx]
  simp only [if_true]
  rw [R.store.cls x hx.1, findAttr_ctxOfA hk decl sch _ kinds hkin, hfa]
  simp only [hr, if_true]
  unfold refRead
  rw [R.store.cls x hx.1]
  have hfc : formalsFrom (kname (s.kindOf x)) name 0 (ctxOfA kname decl kinds sch).assocs = [(i, pk)] := by
    show formalsFrom _ _ 0 (sch.map (toAssoc kname)) = _
    rw [formalsFrom_corr hk, hform]
  rw [hfc]
  simp only
  have hproj : ((st.links i).filterMap (fun p => if p.1 = ι x then some p.2 else none)) = ((s.links i).tgt x).map ι :=
    R.store.tgtOrd i x hx.1
  rw [hproj, List.head?_map]
  cases hh : ((s.links i).tgt x).head? with
  | none => rfl
  | some o =>
    have ho : o ∈ (s.links i).tgt x := List.mem_of_head? hh
    obtain ⟨hokin, Do, hoid⟩ := hpk o ho
    have holt : o < s.count := ((links_lt A).2 ho).1
    obtain ⟨b, hfb, hbnr, hformo⟩ := Do.id_find hoid
    simp only [Option.map_some]
    rw [R.store.cls o holt, findAttr_ctxOfA hk decl sch _ kinds hokin, hfb]
    simp only [hbnr, Bool.false_eq_true, if_false]
    rw [R.idv o holt pk hoid, Pyx.Meta.getAttr_own sch at_ s fuel o pk hformo]
    simp [hoid, ofOpt]

theorem setAttr_frame {C : Ctx} {i : Inst} {name : String} {v : Val} {st st' : State} (h : setAttr C i name v st = .ok st') :
    st'.live = st.live ∧ st'.next = st.next ∧ st'.links = st.links ∧ st'.nextId = st.nextId ∧
    st'.attr = fun j n => if j = i ∧ n = name then v else st.attr j n := by
  obtain ⟨_, _, rfl⟩ := setAttr_inv h
  exact ⟨rfl, rfl, rfl, rfl, rfl⟩

/-- **write of a plain attribute**: accepted on both sides, and the results correspond.
    Guard (Spec's, the code does not check): live instance, declared attribute, value of the declared type. -/
theorem write_plain (hk : Function.Injective kname) (kinds : List Nat)
    (R : RefinesA kname decl at_ sch ι s d st) (A : Pyx.Meta.AllInv sch s) {x : Nat} (hx : Pyx.Meta.live s x)
    (hkin : s.kindOf x ∈ kinds) {name : String} {a : AttrDecl} {v : Val}
    (hfa : (decl (s.kindOf x)).find? (fun a => a.name = name) = some a) (hnr : a.referential = false)
    (hty : tyMatches a.ty v = true) (hpl : isPlain sch at_ (s.kindOf x) name) :
    ∃ st' d', setAttr (ctxOfA kname decl kinds sch) (ι x) name v st = .ok st' ∧
      mSet sch at_ s d x name v = some (s, d') ∧ RefinesA kname decl at_ sch ι s d' st' := by
  refine ⟨{ st with attr := fun j n => if j = ι x ∧ n = name then v else st.attr j n },
    { vals := fun y n => if y = x ∧ n = name then v else d.vals y n }, ?_, ?_, ?_⟩
  · unfold setAttr
    rw [(live_iff R.store A.pool hx.1).2 hx]
    simp only [if_true]
    rw [R.store.cls x hx.1, findAttr_ctxOfA hk decl sch _ kinds hkin, hfa]
    simp only [hnr, Bool.false_eq_true, if_false, hty, if_true]
  · unfold mSet
    rw [if_neg (fun h => h hpl.1), if_neg hpl.2]
  · refine ⟨refines_store_congr R.store rfl rfl rfl, ?_, ?_, R.nextId⟩
    · intro y hy n hn
      show (if ι y = ι x ∧ n = name then v else st.attr (ι y) n) = _
      by_cases hc : ι y = ι x ∧ n = name
      · exfalso
        have hyx := R.store.inj y x hy hx.1 hc.1
        rw [hyx, hc.2] at hn
        exact hpl.2 hn
      · rw [if_neg hc]; exact R.idv y hy n hn
    · intro y hy n hn hdn
      show (if ι y = ι x ∧ n = name then v else st.attr (ι y) n) = (if y = x ∧ n = name then v else d.vals y n)
      by_cases hyx : y = x
      · subst hyx
        by_cases hn' : n = name
        · simp [hn']
        · simp [hn']; exact R.plain y hy n hn hdn
      · have : ι y ≠ ι x := fun e => hyx (R.store.inj y x hy hx.1 e)
        simp [hyx, this]; exact R.plain y hy n hn hdn

/-- **write of a referential attribute**: rejected on both sides (MetaException / Spec error), nothing changes -/
theorem write_ref (hk : Function.Injective kname) (kinds : List Nat)
    (R : RefinesA kname decl at_ sch ι s d st) (A : Pyx.Meta.AllInv sch s) {x : Nat} (hx : Pyx.Meta.live s x)
    (hkin : s.kindOf x ∈ kinds) {name : String} {a : AttrDecl} (v : Val)
    (hfa : (decl (s.kindOf x)).find? (fun a => a.name = name) = some a) (hr : a.referential = true)
    (hform : Pyx.Meta.formalFrom (s.kindOf x) name 0 sch ≠ []) :
    (∃ e, setAttr (ctxOfA kname decl kinds sch) (ι x) name v st = .error e) ∧ mSet sch at_ s d x name v = none := by
  constructor
  · unfold setAttr
    rw [(live_iff R.store A.pool hx.1).2 hx]
    simp only [if_true]
    rw [R.store.cls x hx.1, findAttr_ctxOfA hk decl sch _ kinds hkin, hfa]
    simp only [hr, if_true]
    exact ⟨_, rfl⟩
  · unfold mSet
    rw [if_pos hform]

/-- **write of the class's own id attribute** (`x.ID = i`, i ≥ 0 — the mechanism model keeps ids in `idOf : Inst → Nat`):
    accepted on both sides; the mechanism updates `idOf`, Spec the valuation, and the states correspond again — so the
    referential attributes of the instances related to `x` read alike afterwards (`read_ref` applies to the new states) -/
theorem write_id (hk : Function.Injective kname) (kinds : List Nat)
    (R : RefinesA kname decl at_ sch ι s d st) (A : Pyx.Meta.AllInv sch s) {x : Nat} (hx : Pyx.Meta.live s x)
    (hkin : s.kindOf x ∈ kinds) {name : String} {a : AttrDecl} {i : Int}
    (hfa : (decl (s.kindOf x)).find? (fun a => a.name = name) = some a) (hnr : a.referential = false)
    (hty : tyMatches a.ty (.int i) = true) (hform : Pyx.Meta.formalFrom (s.kindOf x) name 0 sch = [])
    (hid : at_.idName (s.kindOf x) = some name) (hi : 0 ≤ i) :
    ∃ st', setAttr (ctxOfA kname decl kinds sch) (ι x) name (.int i) st = .ok st' ∧
      mSet sch at_ s d x name (.int i) = some ({ s with idOf := Pyx.Meta.upd s.idOf x i.toNat }, d) ∧
      RefinesA kname decl at_ sch ι { s with idOf := Pyx.Meta.upd s.idOf x i.toNat } d st' := by
  refine ⟨{ st with attr := fun j n => if j = ι x ∧ n = name then .int i else st.attr j n }, ?_, ?_, ?_⟩
  · unfold setAttr
    rw [(live_iff R.store A.pool hx.1).2 hx]
    simp only [if_true]
    rw [R.store.cls x hx.1, findAttr_ctxOfA hk decl sch _ kinds hkin, hfa]
    simp only [hnr, Bool.false_eq_true, if_false, hty, if_true]
  · unfold mSet
    rw [if_neg (fun h => h hform), if_pos hid]
    simp only [hi, if_true]
  · have R0 : Refines kname ι s { st with attr := fun j n => if j = ι x ∧ n = name then .int i else st.attr j n } :=
      refines_store_congr R.store rfl rfl rfl
    refine ⟨⟨R0.cls, R0.below, R0.inj, R0.pool, R0.pairs, R0.nodup, R0.srcOrd, R0.tgtOrd⟩, ?_, ?_, R.nextId⟩
    · intro y hy n hn
      show (if ι y = ι x ∧ n = name then Val.int i else st.attr (ι y) n) = .int ((Pyx.Meta.upd s.idOf x i.toNat y : Nat) : Int)
      by_cases hyx : y = x
      · subst hyx
        have hn' : n = name := by
          have h1 : at_.idName (s.kindOf y) = some n := hn
          rw [hid] at h1; exact (Option.some.inj h1).symm
        subst hn'
        simp only [and_self, if_true, Pyx.Meta.upd]
        -- `idOf` holds `i.toNat`; `0 ≤ i` gives `i` back
        rw [Int.toNat_of_nonneg hi]
      · have hne : ι y ≠ ι x := fun e => hyx (R.store.inj y x hy hx.1 e)
        have hu : Pyx.Meta.upd s.idOf x i.toNat y = s.idOf y := Pyx.Meta.upd_other s.idOf i.toNat hyx
        rw [hu]
        simp only [hne, false_and, if_false]
        exact R.idv y hy n hn
    · intro y hy n hn hdn
      show (if ι y = ι x ∧ n = name then Val.int i else st.attr (ι y) n) = d.vals y n
      by_cases hc : ι y = ι x ∧ n = name
      · exfalso
        have hyx := R.store.inj y x hy hx.1 hc.1
        have hn2 : isPlain sch at_ (s.kindOf y) n := hn
        rw [hyx, hc.2] at hn2
        exact hn2.2 hid
      · rw [if_neg hc]; exact R.plain y hy n hn hdn

def isGenId (a : AttrDecl) : Bool := !a.referential && decide (a.ty = .uniqueId)

theorem defaultOf_fst_of_ne (ty : Ty) (h : ty ≠ .uniqueId) (n m : Int) :
    (defaultOf ty n).1 = (defaultOf ty m).1 ∧ (defaultOf ty n).2 = n := by
  cases ty <;> first | exact ⟨rfl, rfl⟩ | exact absurd rfl h

theorem initAttrs_other (i : Inst) : ∀ (l : List AttrDecl) (f : Inst → String → Val) (nid : Int) (j : Inst) (n : String),
    j ≠ i → (initAttrs i l (f, nid)).1 j n = f j n
  | [], _, _, _, _, _ => rfl
  | a :: rest, f, nid, j, n, hj => by
    unfold initAttrs
    split
    · exact initAttrs_other i rest f nid j n hj
    · simp only
      rw [initAttrs_other i rest _ _ j n hj]
      simp [hj]

theorem initAttrs_nid (i : Inst) : ∀ (l : List AttrDecl) (f : Inst → String → Val) (nid : Int),
    (initAttrs i l (f, nid)).2 = nid + ((l.filter isGenId).length : Nat)
  | [], _, _ => by simp [initAttrs]
  | a :: rest, f, nid => by
    unfold initAttrs
    by_cases hr : a.referential = true
    · rw [if_pos hr, initAttrs_nid i rest f nid]
      have : isGenId a = false := by simp [isGenId, hr]
      simp [this]
    · rw [if_neg hr]
      simp only
      rw [initAttrs_nid i rest _ _]
      by_cases hu : a.ty = .uniqueId
      · have : isGenId a = true := by simp [isGenId, hr, hu]
        simp only [List.filter_cons, this, if_true, List.length_cons, hu, defaultOf]
        omega
      · have : isGenId a = false := by simp [isGenId, hu]
        rw [(defaultOf_fst_of_ne a.ty hu nid 0).2]
        simp [this]

theorem initAttrs_untouched (i : Inst) : ∀ (l : List AttrDecl) (f : Inst → String → Val) (nid : Int) (n : String),
    (∀ a ∈ l, a.referential = false → a.name ≠ n) → (initAttrs i l (f, nid)).1 i n = f i n
  | [], _, _, _, _ => rfl
  | a :: rest, f, nid, n, h => by
    unfold initAttrs
    by_cases hr : a.referential = true
    · rw [if_pos hr]
      exact initAttrs_untouched i rest f nid n (fun b hb => h b (List.mem_cons_of_mem _ hb))
    · rw [if_neg hr]
      simp only
      rw [initAttrs_untouched i rest _ _ n (fun b hb => h b (List.mem_cons_of_mem _ hb))]
      have : a.name ≠ n := h a List.mem_cons_self (by simpa using hr)
      simp [this.symm]

/-- a stored attribute gets its default, the unique_id one the current id: at most one id is generated (the second
    hypothesis), so the counter still is `nid` when that attribute is reached -/
theorem initAttrs_value (i : Inst) : ∀ (l : List AttrDecl) (f : Inst → String → Val) (nid : Int),
    (l.map (fun a => a.name)).Nodup → ((l.filter isGenId).length ≤ 1) →
    ∀ a ∈ l, a.referential = false →
      (initAttrs i l (f, nid)).1 i a.name = if a.ty = .uniqueId then .int nid else (defaultOf a.ty 0).1
  | [], _, _, _, _, a, ha, _ => by cases ha
  | b :: rest, f, nid, hnd, hone, a, ha, hnr => by
    simp only [List.map_cons, List.nodup_cons] at hnd
    unfold initAttrs
    by_cases hr : b.referential = true
    · rw [if_pos hr]
      have hab : a ∈ rest := by
        rcases List.mem_cons.1 ha with e | e
        · rw [e] at hnr; rw [hnr] at hr; cases hr
        · exact e
      have hone' : (rest.filter isGenId).length ≤ 1 := by
        have : isGenId b = false := by simp [isGenId, hr]
        simpa [List.filter_cons, this] using hone
      exact initAttrs_value i rest f nid hnd.2 hone' a hab hnr
    · rw [if_neg hr]
      simp only
      rcases List.mem_cons.1 ha with e | hab
      · subst e
        rw [initAttrs_untouched i rest _ _ a.name (fun c hc _ hcn => hnd.1 (List.mem_map.2 ⟨c, hc, hcn⟩))]
        by_cases hu : a.ty = .uniqueId
        · simp [hu, defaultOf]
        · simp only [if_true, and_self, hu, if_false]
          exact (defaultOf_fst_of_ne a.ty hu nid 0).1
      · by_cases hub : b.ty = .uniqueId
        · -- b is the unique_id attribute: a is not
          have hb1 : isGenId b = true := by simp [isGenId, hr, hub]
          have hrest0 : (rest.filter isGenId).length = 0 := by
            have : (rest.filter isGenId).length + 1 ≤ 1 := by simpa [List.filter_cons, hb1] using hone
            omega
          have hau : a.ty ≠ .uniqueId := by
            intro hau
            have : a ∈ rest.filter isGenId := List.mem_filter.2 ⟨hab, by simp [isGenId, hnr, hau]⟩
            rw [List.length_eq_zero_iff.1 hrest0] at this
            cases this
          rw [initAttrs_value i rest _ _ hnd.2 (by omega) a hab hnr]
          simp [hau]
        · have hb0 : isGenId b = false := by simp [isGenId, hub]
          have hone' : (rest.filter isGenId).length ≤ 1 := by simpa [List.filter_cons, hb0] using hone
          rw [initAttrs_value i rest _ _ hnd.2 hone' a hab hnr, (defaultOf_fst_of_ne b.ty hub nid 0).2]

theorem mNewDict_other (x : Nat) (idn : Option String) : ∀ (l : List AttrDecl) (g : Nat → String → Val) (y : Nat) (n : String),
    y ≠ x → mNewDict x idn l g y n = g y n
  | [], _, _, _, _ => rfl
  | a :: rest, g, y, n, hy => by
    unfold mNewDict
    split
    · exact mNewDict_other x idn rest g y n hy
    · rw [mNewDict_other x idn rest _ y n hy]
      simp [hy]

theorem mNewDict_untouched (x : Nat) (idn : Option String) : ∀ (l : List AttrDecl) (g : Nat → String → Val) (n : String),
    (∀ a ∈ l, a.name ≠ n) → mNewDict x idn l g x n = g x n
  | [], _, _, _ => rfl
  | a :: rest, g, n, h => by
    unfold mNewDict
    split
    · exact mNewDict_untouched x idn rest g n (fun b hb => h b (List.mem_cons_of_mem _ hb))
    · rw [mNewDict_untouched x idn rest _ n (fun b hb => h b (List.mem_cons_of_mem _ hb))]
      have : a.name ≠ n := h a List.mem_cons_self
      simp [this.symm]

theorem mNewDict_value (x : Nat) (idn : Option String) : ∀ (l : List AttrDecl) (g : Nat → String → Val),
    (l.map (fun a => a.name)).Nodup → ∀ a ∈ l, a.referential = false → idn ≠ some a.name →
      mNewDict x idn l g x a.name = (defaultOf a.ty 0).1
  | [], _, _, a, ha, _, _ => by cases ha
  | b :: rest, g, hnd, a, ha, hnr, hid => by
    simp only [List.map_cons, List.nodup_cons] at hnd
    unfold mNewDict
    rcases List.mem_cons.1 ha with e | hab
    · subst e
      rw [if_neg (by simp [hnr, hid])]
      rw [mNewDict_untouched x idn rest _ a.name (fun c hc hcn => hnd.1 (List.mem_map.2 ⟨c, hc, hcn⟩))]
      simp
    · split
      · exact mNewDict_value x idn rest g hnd.2 a hab hnr hid
      · exact mNewDict_value x idn rest _ hnd.2 a hab hnr hid

/-- **new with attributes**: the new instance gets the same defaults on both sides — the id attribute the next id of
    the (equal) generators, every plain attribute the default of its type — and nothing else changes.
    Guard: the kind is known to the Spec context, declared consistently, and `hasId` says whether it has an id attribute. -/
theorem new_refinesA (hk : Function.Injective kname) (kinds : List Nat)
    (R : RefinesA kname decl at_ sch ι s d st) (A : Pyx.Meta.AllInv sch s) (k : Nat) (hkin : k ∈ kinds)
    (D : DeclOk decl at_ sch k) (hasId : Bool) (hhas : hasId = (at_.idName k).isSome) :
    ∃ st', newInst (ctxOfA kname decl kinds sch) (kname k) st = .ok (⟨kname k, st.next (kname k)⟩, st') ∧
      RefinesA kname decl at_ sch (extend ι s.count ⟨kname k, st.next (kname k)⟩) (Pyx.Meta.new s k hasId).1
        ⟨mNewDict s.count (at_.idName k) (decl k) d.vals⟩ st' := by
  have hcl := findClass_ctxOfA hk decl sch k kinds hkin
  obtain ⟨st', h0, R0⟩ := new_refines_of_class hk R.store A k hcl hasId
  -- `st'` is what `newInst` builds from the declaration it finds, and that is `⟨kname k, decl k⟩`
  obtain ⟨c, hc, _, rfl⟩ := newInst_inv h0
  cases hcl.symm.trans hc
  let i0 : Inst := ⟨kname k, st.next (kname k)⟩
  have hone : ((decl k).filter isGenId).length ≤ 1 := by
    have := D.idCount
    unfold isGenId
    split at this <;> omega
  refine ⟨_, h0, ?_⟩
  · have hkindNew : (Pyx.Meta.new s k hasId).1.kindOf s.count = k := by
      show Pyx.Meta.upd s.kindOf s.count k s.count = k
      exact Pyx.Meta.upd_same _ _ _
    have hkindOld : ∀ z, z < s.count → (Pyx.Meta.new s k hasId).1.kindOf z = s.kindOf z := by
      intro z hz
      show Pyx.Meta.upd s.kindOf s.count k z = s.kindOf z
      exact Pyx.Meta.upd_other _ _ (Nat.ne_of_lt hz)
    refine ⟨R0, ?_, ?_, ?_⟩
    · intro y hy n hn
      have hy' : y < s.count + 1 := hy
      show (initAttrs i0 (decl k) (st.attr, st.nextId)).1 (extend ι s.count i0 y) n = .int ((Pyx.Meta.new s k hasId).1.idOf y)
      by_cases hyc : y = s.count
      · subst hyc
        rw [extend_new]
        rw [hkindNew] at hn
        obtain ⟨a, ha, han, hat, hanr⟩ := D.idDecl n hn
        have hv := initAttrs_value i0 (decl k) st.attr st.nextId D.nodup hone a ha hanr
        rw [han, hat] at hv
        simp only [if_true] at hv
        rw [hv]
        show Val.int st.nextId = Val.int ((Pyx.Meta.upd s.idOf s.count (if hasId then s.nextId else 0) s.count : Nat) : Int)
        rw [Pyx.Meta.upd_same, hhas, hn, R.nextId]
        rfl
      · have hy'' : y < s.count := by omega
        rw [extend_lt hy'', initAttrs_other i0 _ _ _ _ _ (R.store.fresh hy'')]
        rw [hkindOld y hy''] at hn
        rw [R.idv y hy'' n hn]
        show Val.int (s.idOf y) = Val.int ((Pyx.Meta.upd s.idOf s.count _ y : Nat) : Int)
        rw [Pyx.Meta.upd_other _ _ hyc]
    · intro y hy n hn hdn
      have hy' : y < s.count + 1 := hy
      show (initAttrs i0 (decl k) (st.attr, st.nextId)).1 (extend ι s.count i0 y) n = mNewDict s.count (at_.idName k) (decl k) d.vals y n
      by_cases hyc : y = s.count
      · subst hyc
        rw [extend_new]
        rw [hkindNew] at hn hdn
        obtain ⟨a, ha, han⟩ := hdn
        have hanr : a.referential = false := by
          cases hr : a.referential
          · rfl
          · have := (D.refs a ha).1 hr
            rw [han] at this
            exact absurd hn.1 this
        have hidn : at_.idName k ≠ some a.name := by rw [han]; exact hn.2
        have hau : a.ty ≠ .uniqueId := fun hu => hidn (D.oneId a ha hanr hu)
        have hv := initAttrs_value i0 (decl k) st.attr st.nextId D.nodup hone a ha hanr
        rw [han] at hv
        rw [hv, if_neg hau]
        have hm := mNewDict_value s.count (at_.idName k) (decl k) d.vals D.nodup a ha hanr hidn
        rw [han] at hm
        rw [hm]
      · have hy'' : y < s.count := by omega
        rw [extend_lt hy'', initAttrs_other i0 _ _ _ _ _ (R.store.fresh hy''), mNewDict_other _ _ _ _ _ _ hyc]
        rw [hkindOld y hy''] at hn hdn
        exact R.plain y hy'' n hn hdn
    · show (initAttrs i0 (decl k) (st.attr, st.nextId)).2 = (((Pyx.Meta.new s k hasId).1.nextId : Nat) : Int)
      rw [initAttrs_nid, R.nextId]
      have hc : ((decl k).filter isGenId).length = if (at_.idName k).isSome then 1 else 0 := D.idCount
      rw [hc]
      show _ = (((if hasId then s.nextId + 1 else s.nextId) : Nat) : Int)
      rw [hhas]
      cases (at_.idName k).isSome <;> simp

theorem refinesA_of_store {s' : MState} {st' : State} (R : RefinesA kname decl at_ sch ι s d st)
    (R' : Refines kname ι s' st') (h1 : s'.kindOf = s.kindOf) (h2 : s'.count = s.count) (h3 : s'.idOf = s.idOf)
    (h4 : s'.nextId = s.nextId) (h5 : st'.attr = st.attr) (h6 : st'.nextId = st.nextId) :
    RefinesA kname decl at_ sch ι s' d st' := by
  refine ⟨R', ?_, ?_, by rw [h6, h4]; exact R.nextId⟩
  · intro x hx n hn
    rw [h2] at hx; rw [h1] at hn
    rw [h5, h3]; exact R.idv x hx n hn
  · intro x hx n hn hdn
    rw [h2] at hx; rw [h1] at hn hdn
    rw [h5]; exact R.plain x hx n hn hdn

theorem relate_frame_spec {C : Ctx} {x y : Inst} {r p : String} {st st' : State} (h : relate C x y r p st = .ok st') :
    st'.attr = st.attr ∧ st'.nextId = st.nextId := by
  obtain ⟨_, _, _, _, _, _, _, ⟨rfl, _⟩ | ⟨_, rfl⟩⟩ := relate_inv h <;> exact ⟨rfl, rfl⟩

theorem unrelate_frame_spec {C : Ctx} {x y : Inst} {r p : String} {st st' : State} (h : unrelate C x y r p st = .ok st') :
    st'.attr = st.attr ∧ st'.nextId = st.nextId := by
  obtain ⟨_, _, _, _, _, _, _, _, rfl⟩ := unrelate_inv h
  exact ⟨rfl, rfl⟩

theorem deleteInst_frame_spec {i : Inst} {st st' : State} (h : deleteInst i st = .ok st') :
    st'.attr = st.attr ∧ st'.nextId = st.nextId := by
  obtain ⟨_, rfl⟩ := deleteInst_inv h
  exact ⟨rfl, rfl⟩

inductive AOp where
  | store (op : Pyx.Meta.Op)
  | set (x : Nat) (name : String) (v : Val)

/-- the mechanism: the store operation on `Pyx.Meta.State` (new also fills the new instance's dict), `setattr` -/
def mStepA (decl : Nat → List AttrDecl) (at_ : Pyx.Meta.Attrs) (sch : MSchema) (s : MState) (d : MDict) : AOp → MState × MDict
  | .store (.new k h) => ((Pyx.Meta.new s k h).1, ⟨mNewDict s.count (at_.idName k) (decl k) d.vals⟩)
  | .store op => ((Pyx.Meta.step sch s op).1, d)
  | .set x name v =>
    match mSet sch at_ s d x name v with
    | some r => r
    | none => (s, d)

def specStepA (kname : Nat → String) (C : Ctx) (ι : Nat → Inst) (s : MState) (st : State) : AOp → (Nat → Inst) × State
  | .store op => specStep kname C ι s st op
  | .set x name v =>
    match setAttr C (ι x) name v st with
    | .ok st' => (ι, st')
    | .error _ => (ι, st)

/-- the domain: a store operation as in `OpOk'` (new on a consistently declared kind); a write to a live instance of a
    known kind, of a declared attribute that is either referential (rejected on both sides), or plain with a value of
    the declared type, or the class's own id attribute with a non-negative integer (the model keeps ids as `Nat`) -/
def OpOkA (decl : Nat → List AttrDecl) (at_ : Pyx.Meta.Attrs) (sch : MSchema) (kinds : List Nat) (s : MState) : AOp → Prop
  | .store (.new k h) => k ∈ kinds ∧ DeclOk decl at_ sch k ∧ h = (at_.idName k).isSome
  | .store op => OpOk' kinds s op
  | .set x name v => Pyx.Meta.live s x ∧ s.kindOf x ∈ kinds ∧
      ∃ a, (decl (s.kindOf x)).find? (fun a => a.name = name) = some a ∧
        ((a.referential = true ∧ Pyx.Meta.formalFrom (s.kindOf x) name 0 sch ≠ []) ∨
         (a.referential = false ∧ isPlain sch at_ (s.kindOf x) name ∧ tyMatches a.ty v = true) ∨
         (a.referential = false ∧ Pyx.Meta.formalFrom (s.kindOf x) name 0 sch = [] ∧
            at_.idName (s.kindOf x) = some name ∧ tyMatches a.ty v = true ∧ ∃ i : Int, v = .int i ∧ 0 ≤ i))

theorem opOk'_of_opOkA {kinds : List Nat} {s : MState} {op : Pyx.Meta.Op}
    (h : OpOkA decl at_ sch kinds s (.store op)) : OpOk' kinds s op := by
  cases op with
  | new k hh => exact h.1
  | relate x y r p => exact h
  | unrelate x y r p => exact h
  | delete x => exact h

theorem mStepA_store_fst (s : MState) (d : MDict) (op : Pyx.Meta.Op) :
    (mStepA decl at_ sch s d (.store op)).1 = (Pyx.Meta.step sch s op).1 := by
  cases op <;> rfl

theorem stepA_refines (hk : Function.Injective kname) (kinds : List Nat) (hok : Pyx.Meta.SchemaOk sch)
    (R : RefinesA kname decl at_ sch ι s d st) (A : Pyx.Meta.AllInv sch s) (op : AOp)
    (hop : OpOkA decl at_ sch kinds s op) :
    RefinesA kname decl at_ sch (specStepA kname (ctxOfA kname decl kinds sch) ι s st op).1
      (mStepA decl at_ sch s d op).1 (mStepA decl at_ sch s d op).2
      (specStepA kname (ctxOfA kname decl kinds sch) ι s st op).2 := by
  have hass : (ctxOfA kname decl kinds sch).assocs = (ctxOf kname kinds sch).assocs := rfl
  cases op with
  | set x name v =>
    obtain ⟨hx, hkin, a, hfa, hcase⟩ := hop
    rcases hcase with ⟨hr, hform⟩ | ⟨hnr, hpl, hty⟩ | ⟨hnr, hform, hid, hty, i, rfl, hi⟩
    · obtain ⟨⟨e, he⟩, hm⟩ := write_ref hk kinds R A hx hkin v hfa hr hform
      simp only [specStepA, mStepA, he, hm]
      exact R
    · obtain ⟨st', d', h1, h2, h3⟩ := write_plain hk kinds R A hx hkin hfa hnr hty hpl
      simp only [specStepA, mStepA, h1, h2]
      exact h3
    · obtain ⟨st', h1, h2, h3⟩ := write_id hk kinds R A hx hkin hfa hnr hty hform hid hi
      simp only [specStepA, mStepA, h1, h2]
      exact h3
  | store op =>
    cases op with
    | new k hasId =>
      obtain ⟨hkin, D, hhas⟩ := hop
      obtain ⟨st', h1, h2⟩ := new_refinesA hk kinds R A k hkin D hasId hhas
      simp only [specStepA, specStep, mStepA, h1]
      exact h2
    | relate x y r p =>
      have hop' : x < s.count ∧ y < s.count := hop
      have h := relate_refines' hk kinds sch R.store A hop'.1 hop'.2 r p
      simp only [specStepA, specStep, mStepA, Pyx.Meta.step]
      rw [relate_assocs hass]
      by_cases hc : (Pyx.Meta.relate sch s x y r p).2 = .ok
      · obtain ⟨st', h1, h2⟩ := h.1 hc
        rw [h1]
        have hf := Pyx.Meta.relate_frame sch s x y r p
        have hs := relate_frame_spec h1
        exact refinesA_of_store R h2 hf.kindOf hf.count hf.idOf hf.nextId hs.1 hs.2
      · obtain ⟨h1, e, h2⟩ := h.2 hc
        rw [h2, h1]; exact R
    | unrelate x y r p =>
      have hop' : x < s.count ∧ y < s.count := hop
      have h := unrelate_refines hk kinds sch R.store A hop'.1 hop'.2 r p
      simp only [specStepA, specStep, mStepA, Pyx.Meta.step]
      rw [unrelate_assocs hass]
      by_cases hc : (Pyx.Meta.unrelate sch s x y r p).2 = .ok
      · obtain ⟨st', h1, h2⟩ := h.1 hc
        rw [h1]
        have hf := Pyx.Meta.unrelate_shrinks sch s x y r p
        have hs := unrelate_frame_spec h1
        exact refinesA_of_store R h2 hf.kindOf hf.count hf.idOf hf.nextId hs.1 hs.2
      · obtain ⟨h1, e, h2⟩ := h.2 hc
        rw [h2, h1]; exact R
    | delete x =>
      have hop' : x < s.count := hop
      have h := delete_refines hk hok R.store A hop'
      simp only [specStepA, specStep, mStepA, Pyx.Meta.step]
      by_cases hc : (Pyx.Meta.delete sch s x).2 = .ok
      · obtain ⟨st', h1, h2⟩ := h.1 hc
        rw [h1]
        have hf := Pyx.Meta.delete_shrinks sch s x
        have hs := deleteInst_frame_spec h1
        exact refinesA_of_store R h2 hf.kindOf hf.count hf.idOf hf.nextId hs.1 hs.2
      · obtain ⟨h1, e, h2⟩ := h.2 hc
        rw [h2, h1]; exact R

def DomA (decl : Nat → List AttrDecl) (at_ : Pyx.Meta.Attrs) (sch : MSchema) (kinds : List Nat) :
    MState → MDict → List AOp → Prop
  | _, _, [] => True
  | s, d, op :: ops => OpOkA decl at_ sch kinds s op ∧
      DomA decl at_ sch kinds (mStepA decl at_ sch s d op).1 (mStepA decl at_ sch s d op).2 ops

def mRunA (decl : Nat → List AttrDecl) (at_ : Pyx.Meta.Attrs) (sch : MSchema) : List AOp → MState → MDict → MState × MDict
  | [], s, d => (s, d)
  | op :: ops, s, d => mRunA decl at_ sch ops (mStepA decl at_ sch s d op).1 (mStepA decl at_ sch s d op).2

def specRunA (kname : Nat → String) (decl : Nat → List AttrDecl) (at_ : Pyx.Meta.Attrs) (C : Ctx) (sch : MSchema) :
    List AOp → MState → MDict → (Nat → Inst) → State → (Nat → Inst) × State
  | [], _, _, ι, st => (ι, st)
  | op :: ops, s, d, ι, st =>
    specRunA kname decl at_ C sch ops (mStepA decl at_ sch s d op).1 (mStepA decl at_ sch s d op).2
      (specStepA kname C ι s st op).1 (specStepA kname C ι s st op).2

theorem allInv_stepA (hok : Pyx.Meta.SchemaOk sch) (kinds : List Nat) (A : Pyx.Meta.AllInv sch s) (d : MDict) (op : AOp)
    (hop : OpOkA decl at_ sch kinds s op) :
    Pyx.Meta.AllInv sch (mStepA decl at_ sch s d op).1 := by
  cases op with
  | store op =>
    rw [mStepA_store_fst]
    exact Pyx.Meta.step_allInv' hok A op
  | set x name v =>
    obtain ⟨hx, hkin, a, hfa, hcase⟩ := hop
    rcases hcase with ⟨hr, hform⟩ | ⟨hnr, hpl, hty⟩ | ⟨hnr, hform, hid, hty, i, rfl, hi⟩
    · have : mSet sch at_ s d x name v = none := by unfold mSet; rw [if_pos hform]
      simp only [mStepA, this]; exact A
    · have : mSet sch at_ s d x name v = some (s, { vals := fun y n => if y = x ∧ n = name then v else d.vals y n }) := by
        unfold mSet; rw [if_neg (fun h => h hpl.1), if_neg hpl.2]
      simp only [mStepA, this]; exact A
    · have : mSet sch at_ s d x name (.int i) = some ({ s with idOf := Pyx.Meta.upd s.idOf x i.toNat }, d) := by
        unfold mSet; rw [if_neg (fun h => h hform), if_pos hid]; simp only [hi, if_true]
      simp only [mStepA, this]
      -- none of the invariants looks at `idOf`
      exact ⟨A.inv, A.typed, A.liveOnly, A.pool⟩

theorem runA_refines_from (hk : Function.Injective kname) (kinds : List Nat) (hok : Pyx.Meta.SchemaOk sch) :
    ∀ (ops : List AOp) (s : MState) (d : MDict) (ι : Nat → Inst) (st : State),
      RefinesA kname decl at_ sch ι s d st → Pyx.Meta.AllInv sch s → DomA decl at_ sch kinds s d ops →
      RefinesA kname decl at_ sch (specRunA kname decl at_ (ctxOfA kname decl kinds sch) sch ops s d ι st).1
        (mRunA decl at_ sch ops s d).1 (mRunA decl at_ sch ops s d).2
        (specRunA kname decl at_ (ctxOfA kname decl kinds sch) sch ops s d ι st).2
  | [], _, _, _, _, R, _, _ => R
  | op :: ops, s, d, ι, st, R, A, hd => by
    simp only [specRunA, mRunA]
    exact runA_refines_from hk kinds hok ops _ _ _ _ (stepA_refines hk kinds hok R A op hd.1)
      (allInv_stepA hok kinds A d op hd.1) hd.2

/-- **histories with attribute writes refine**: new (with defaults) / relate / unrelate / delete / `x.attr = v` in the
    domain, run by the mechanism and by Spec on the named instances, end in corresponding stores AND valuations -/
theorem attr_refines (hk : Function.Injective kname) (kinds : List Nat) (hok : Pyx.Meta.SchemaOk sch)
    (ι0 : Nat → Inst) (d0 : MDict) (ops : List AOp) (hd : DomA decl at_ sch kinds Pyx.Meta.init d0 ops) :
    RefinesA kname decl at_ sch (specRunA kname decl at_ (ctxOfA kname decl kinds sch) sch ops Pyx.Meta.init d0 ι0 initState).1
      (mRunA decl at_ sch ops Pyx.Meta.init d0).1 (mRunA decl at_ sch ops Pyx.Meta.init d0).2
      (specRunA kname decl at_ (ctxOfA kname decl kinds sch) sch ops Pyx.Meta.init d0 ι0 initState).2 :=
  runA_refines_from hk kinds hok ops _ _ _ _ (refinesA_init kname decl at_ sch ι0 d0) (Pyx.Meta.allInv_init sch) hd

end

end Pyx.Interp
