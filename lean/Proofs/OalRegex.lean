import Proofs.OalLex
import Proofs.Regex
import PyxModel.Oal.LexRx

/-!
  The hand-written scanners of the OAL lexer model ARE the regexes of the rule docstrings.

  `Pyx.Regex.Regex.matchPrefix` is a generic backtracking matcher with Python's semantics; `Gen.OalLex.rx` holds, for
  every rule, the AST Python's own regex parser gives for the rule's SOURCE regex.  This file proves, rule by rule,
  that the deterministic pattern (`Pat`) the proved lexer model uses for the rule returns on EVERY input what
  `matchPrefix` returns on the generated AST (`scanner_is_regex_*` in Props/C13.lean).

  Method: `toPat` reads a regex as a deterministic pattern (ordered choice without backtracking into a finished
  alternative, greedy class repetition without giving characters back).  `peg_eq`: the backtracking matcher agrees
  with that reading whenever the continuation is `Safe` - after a greedy class repetition the continuation either
  never fails or cannot start with a character of the class (so giving characters back cannot help), and after an
  alternative that matched, a failing continuation also fails after the later alternatives.
-/
namespace Pyx.OalLex
open Pyx.Regex Pyx.Regex.Regex

theorem drop_spanLen (p : Char → Bool) (cs : List Char) : cs.drop (spanLen p cs) = cs.dropWhile p := by
  induction cs with
  | nil => rfl
  | cons c cs ih => cases h : p c <;> simp [spanLen, h, ih]

def asCls : Regex → Option CSet
  | .cls s => some s
  | .group r => asCls r
  | _ => none

/-- the literal string a regex spells (sequence of one-character positive classes), if it is one -/
def litOf : Regex → Option (List Char)
  | .eps => some []
  | .cls s => match s.neg, s.items with
    | false, [.ch c] => some [c]
    | _, _ => none
  | .seq a b => match litOf a, litOf b with
    | some x, some y => some (x ++ y)
    | _, _ => none
  | .group r => litOf r
  | _ => none

def toPat : Regex → Pat
  | .eps => .eps
  | .cls s => .ch s.mem
  | .seq a b => .seq (toPat a) (toPat b)
  | .alt a b => .alt (toPat a) (toPat b)
  | .star _ r => match asCls r with
    | some s => .many s.mem
    | none => .eps
  | .group r => toPat r
  | .look r => .look ((litOf r).getD [])
  | .nlook _ => .eps

theorem matchK_asCls (r : Regex) (s : CSet) (h : asCls r = some s) : matchK r = matchK (.cls s) := by
  induction r with
  | cls s' => simp only [asCls, Option.some.injEq] at h; rw [h]
  | group r ih =>
    simp only [asCls] at h
    funext cs k
    have hg : matchK (.group r) cs k = matchK r cs k := by simp only [matchK]
    rw [hg, ih h]
  | _ => simp [asCls] at h

theorem hasPrefix_append (a b cs : List Char) :
    hasPrefix (a ++ b) cs = (hasPrefix a cs && hasPrefix b (cs.drop a.length)) := by
  induction a generalizing cs with
  | nil => simp [hasPrefix]
  | cons x a ih =>
    cases cs with
    | nil => simp [hasPrefix]
    | cons c cs => simp only [List.cons_append, hasPrefix, List.length_cons, List.drop_succ_cons, ih, Bool.and_assoc]

theorem matchK_lit (r : Regex) : ∀ (l : List Char), litOf r = some l → ∀ (cs : List Char) (k : List Char → Option Nat),
    matchK r cs k = if hasPrefix l cs then k (cs.drop l.length) else none := by
  induction r with
  | eps =>
    intro l h cs k
    simp only [litOf, Option.some.injEq] at h
    subst h
    simp [matchK, hasPrefix]
  | cls s =>
    intro l h cs k
    obtain ⟨neg, items⟩ := s
    simp only [litOf] at h
    split at h
    · next c hneg hitems =>
      simp only [Option.some.injEq] at h; subst h
      cases cs with
      | nil => simp [matchK, hasPrefix]
      | cons x cs => simp [matchK, hasPrefix, CSet.mem, CItem.mem]
    · simp at h
  | seq a b iha ihb =>
    intro l h cs k
    simp only [litOf] at h
    cases ha : litOf a with
    | none => simp [ha] at h
    | some x =>
      cases hb : litOf b with
      | none => simp [ha, hb] at h
      | some y =>
        simp only [ha, hb, Option.some.injEq] at h; subst h
        simp only [matchK, iha x ha, hasPrefix_append]
        by_cases hx : hasPrefix x cs = true
        · simp only [hx, if_true, Bool.true_and, ihb y hb, List.length_append, List.drop_drop]
        · have : hasPrefix x cs = false := by simpa using hx
          simp [this]
  | group r ih =>
    intro l h cs k
    simp only [litOf] at h
    simp only [matchK]
    exact ih l h cs k
  | _ => intro l h; simp [litOf] at h

def contAt (k : List Char → Option Nat) (cs : List Char) : Option Nat → Option Nat
  | some n => k (cs.drop n)
  | none => none

/-- the continuation `k` is harmless after `r`: no point of `r` where backtracking could find something the
    deterministic reading misses -/
def Safe : Regex → (List Char → Option Nat) → Prop
  | .eps, _ => True
  | .cls _, _ => True
  | .seq a b, k => Safe b k ∧ Safe a (fun cs => matchK b cs k)
  | .alt a b, k => Safe a k ∧ Safe b k ∧
      ∀ cs n, (toPat a).run cs = some n → k (cs.drop n) = none → contAt k cs ((toPat b).run cs) = none
  | .star g r, k => g = true ∧ ∃ s, asCls r = some s ∧ (RejectsCls s k ∨ NeverFails k)
  | .group r, k => Safe r k
  | .look r, _ => (litOf r).isSome = true
  | .nlook _, _ => False

/-- peg_eq: under `Safe`, Python's backtracking matcher computes the deterministic reading -/
theorem peg_eq (r : Regex) : ∀ (cs : List Char) (k : List Char → Option Nat), Safe r k →
    matchK r cs k = contAt k cs ((toPat r).run cs) := by
  induction r with
  | eps => intro cs k _; simp [matchK, toPat, Pat.run, contAt]
  | cls s =>
    intro cs k _
    cases cs with
    | nil => simp [matchK, toPat, Pat.run, contAt]
    | cons x cs => by_cases hx : s.mem x = true <;> simp [matchK, toPat, Pat.run, contAt, hx]
  | seq a b iha ihb =>
    intro cs k h
    simp only [Safe] at h
    simp only [matchK, toPat, Pat.run]
    rw [iha cs _ h.2]
    cases ha : (toPat a).run cs with
    | none => simp [contAt]
    | some n =>
      simp only [contAt]
      rw [ihb _ k h.1]
      cases hb : (toPat b).run (cs.drop n) with
      | none => simp [contAt]
      | some m => simp [contAt, List.drop_drop]
  | alt a b iha ihb =>
    intro cs k h
    simp only [Safe] at h
    obtain ⟨h1, h2, h3⟩ := h
    simp only [matchK, toPat, Pat.run]
    rw [iha cs k h1, ihb cs k h2]
    cases ha : (toPat a).run cs with
    | none => simp [contAt]
    | some n =>
      simp only [contAt]
      cases hk : k (cs.drop n) with
      | some v => rfl
      -- Python enters `b` only after `k` failed behind `a`; the third clause of `Safe` says `b`'s reading fails then too
      | none => simp only; exact h3 cs n ha hk
  | star g r _ =>
    intro cs k h
    simp only [Safe] at h
    obtain ⟨rfl, s, hs, hk⟩ := h
    simp only [toPat, hs, Pat.run, contAt]
    -- from the right: a grouped class is a class (`matchK_asCls`), the engine's loop on a class is `dropWhile`
    -- (`matchK_star_cls`, where `Safe` enters), and the pattern's `spanLen` is the length of what `dropWhile` drops
    rw [drop_spanLen, ← matchK_star_cls s k hk, matchK_star, matchK_star, matchK_asCls r s hs]
  | group r ih =>
    intro cs k h
    simp only [Safe] at h
    simp only [matchK, toPat]
    exact ih cs k h
  | look r _ =>
    intro cs k h
    simp only [Safe] at h
    obtain ⟨l, hl⟩ := Option.isSome_iff_exists.mp h
    simp only [matchK, toPat, hl, Option.getD_some, Pat.run]
    rw [matchK_lit r l hl]
    by_cases hp : hasPrefix l cs = true <;> simp [hp, contAt]
  | nlook r _ => intro cs k h; simp [Safe] at h

/-- the final continuation of `matchPrefix` -/
def kFin (cs : List Char) : List Char → Option Nat := fun rest => some (cs.length - rest.length)

theorem kFin_isSome (cs cs' : List Char) : (kFin cs cs').isSome = true := rfl

theorem matchPrefix_eq_run (r : Regex) (cs : List Char) (h : Safe r (kFin cs)) :
    matchPrefix r cs = (toPat r).run cs := by
  unfold matchPrefix
  have := peg_eq r cs (kFin cs) h
  unfold kFin at this
  rw [this]
  cases hr : (toPat r).run cs with
  | none => rfl
  | some n =>
    have hn := Pat.run_le _ cs n hr
    simp only [contAt, List.length_drop, Option.some.injEq]
    omega

/-! ## character classes of the generated ASTs against the predicates of the scanners

  Stated as equalities of functions: rewriting with them turns the deterministic reading of a generated AST into the
  pattern of the lexer model, class by class. -/

theorem mem_ch2 (x y : Char) : CSet.mem { neg := false, items := [.ch x, .ch y] } = fun c => c == x || c == y := by
  funext c; simp [CSet.mem, CItem.mem]

theorem mem_digit : CSet.mem { neg := false, items := [.cat .digit] } = isDigit := by
  funext c; simp [CSet.mem, CItem.mem, Cat.mem]; rfl

theorem mem_space : CSet.mem { neg := false, items := [.cat .space] } = isSpace := by
  funext c; simp [CSet.mem, CItem.mem, Cat.mem]; rfl

theorem beq_iff_toNat (a b : Char) : (a == b) = true ↔ a.toNat = b.toNat := by
  simp [Char.toNat_inj]

theorem mem_ci (X x : Char) (hx : 97 ≤ x.toNat ∧ x.toNat ≤ 122) (hX : X.toNat + 32 = x.toNat) :
    CSet.mem { neg := false, items := [.ch X, .ch x] } = fun c => lowerAscii c == x := by
  funext c
  rw [mem_ch2, Bool.eq_iff_iff, Bool.or_eq_true, beq_iff_toNat, beq_iff_toNat, beq_iff_toNat]
  rcases lower_cases c with ⟨h, e⟩ | ⟨h, e⟩
  · omega
  · rw [e]; omega

theorem mem_ci' (X x : Char) (hx : 97 ≤ x.toNat ∧ x.toNat ≤ 122) (hX : X.toNat + 32 = x.toNat) :
    CSet.mem { neg := false, items := [.ch x, .ch X] } = fun c => lowerAscii c == x := by
  rw [← mem_ci X x hx hX, mem_ch2, mem_ch2]
  funext c
  exact Bool.or_comm _ _

theorem mem_idStart : CSet.mem { neg := false, items := [.range 'a' 'z', .range 'A' 'Z', .ch '_'] } = isIdStart := by
  funext c
  have hu : c = '_' ↔ c.toNat = 95 := ⟨fun h => by rw [h]; rfl, fun h => Char.toNat_inj.mp (by rw [h]; rfl)⟩
  rw [Bool.eq_iff_iff]
  simp only [CSet.mem, CItem.mem, List.any_cons, List.any_nil, isIdStart, isLetterA, isUpperA, isLowerA,
    show ('a' : Char).toNat = 97 from rfl, show ('z' : Char).toNat = 122 from rfl, show ('A' : Char).toNat = 65 from rfl,
    show ('Z' : Char).toNat = 90 from rfl, Bool.or_false, bne_iff_ne, ne_eq, Bool.or_eq_true, Bool.and_eq_true,
    decide_eq_true_eq, Bool.not_eq_false, beq_iff_eq, hu]
  omega

theorem mem_word :
    CSet.mem { neg := false, items := [.range '0' '9', .range 'a' 'z', .range 'A' 'Z', .ch '_'] } = isWord := by
  rw [mem_pos_cons, mem_idStart]
  funext c
  simp only [CItem.mem, isWord, isIdStart, Bool.or_assoc]
  rfl

theorem safe_star (r : Regex) (s : CSet) (k : List Char → Option Nat) (hs : asCls r = some s)
    (h : RejectsCls s k ∨ NeverFails k) : Safe (.star true r) k := ⟨rfl, s, hs, h⟩

theorem safe_alt_nf (a b : Regex) (k : List Char → Option Nat) (ha : Safe a k) (hb : Safe b k) (h : NeverFails k) :
    Safe (.alt a b) k := by
  refine ⟨ha, hb, ?_⟩
  intro cs n _ hk
  have := h (cs.drop n)
  rw [hk] at this
  simp at this

def simple : Regex → Bool
  | .eps => true
  | .cls _ => true
  | .seq a b => simple a && simple b
  | .group r => simple r
  | _ => false

theorem safe_simple (r : Regex) : ∀ k, simple r = true → Safe r k := by
  induction r with
  | eps => intro _ _; trivial
  | cls _ => intro _ _; trivial
  | seq a b iha ihb =>
    intro k h
    simp only [simple, Bool.and_eq_true] at h
    exact ⟨ihb _ h.2, iha _ h.1⟩
  | group r ih => intro k h; exact ih k h
  | _ => intro _ h; simp [simple] at h

theorem safe_seq_cls (s : CSet) (b : Regex) (k : List Char → Option Nat) (h : Safe b k) : Safe (.seq (.cls s) b) k :=
  ⟨h, trivial⟩

theorem safe_plus (s : CSet) (k : List Char → Option Nat) (h : RejectsCls s k ∨ NeverFails k) :
    Safe (.seq (.cls s) (.star true (.cls s))) k := ⟨safe_star _ _ _ rfl h, trivial⟩

open Gen.OalLex

/-- a rule whose regex spells a literal: the scanner compares with that literal -/
theorem matchPrefix_lit (r : Regex) (l : List Char) (h : litOf r = some l) (hne : l.isEmpty = false) (cs : List Char) :
    matchPrefix r cs = scanLit l cs := by
  unfold matchPrefix scanLit
  rw [matchK_lit r l h, hne]
  by_cases hp : hasPrefix l cs = true
  · have := congrArg List.length (hasPrefix_take l cs hp)
    simp only [List.length_take] at this
    simp only [hp, if_true, Bool.false_eq_true, if_false, List.length_drop, Option.some.injEq]
    omega
  · simp [hp]

theorem ne_of_class (p : Char → Bool) {x y : Char} (hy : p y = false) (hx : p x = true) : (x == y) = false := by
  cases h : x == y with
  | false => rfl
  | true => rw [beq_iff_eq.mp h, hy] at hx; cases hx

/-- `[Ee][Nn][Dd][\s]+[Xx]…`: the deterministic reading is `patEnd`, and white space (the repeated class) cannot
    start the word that follows -/
theorem scanner_end (rx : Regex) (w : List Char) (X x : Char) (b : Regex) (hx : isSpace X = false ∧ isSpace x = false)
    (hrx : rx = .seq (.cls { neg := false, items := [.ch 'E', .ch 'e'] }) (.seq (.cls { neg := false, items := [.ch 'N', .ch 'n'] })
      (.seq (.cls { neg := false, items := [.ch 'D', .ch 'd'] })
        (.seq (.seq (.cls { neg := false, items := [.cat .space] }) (.star true (.cls { neg := false, items := [.cat .space] })))
          (.seq (.cls { neg := false, items := [.ch X, .ch x] }) b)))))
    (hb : simple b = true) (hp : ∀ cs, (toPat rx).run cs = (patEnd w).run cs) (cs : List Char) :
    matchPrefix rx cs = (patEnd w).run cs := by
  rw [matchPrefix_eq_run, hp]
  subst hrx
  refine safe_seq_cls _ _ _ (safe_seq_cls _ _ _ (safe_seq_cls _ _ _ ⟨safe_seq_cls _ _ _ (safe_simple _ _ hb),
    safe_plus _ _ (Or.inl (rejects_seq_cls _ _ _ _ ?_))⟩))
  intro y hy
  simp only [mem_space, mem_ch2] at hy ⊢
  rw [ne_of_class isSpace hx.1 hy, ne_of_class isSpace hx.2 hy]
  rfl

/-- `[a-zA-Z_][0-9a-zA-Z_]*|[a-zA-Z][0-9a-zA-Z_]*[0-9a-zA-Z_]+`: the second alternative never gets a chance - when
    the first one fails, the input does not start with `[a-zA-Z_]` -/
theorem scanner_id (cs : List Char) : matchPrefix rx_ID cs = patId.run cs := by
  unfold rx_ID
  rw [matchPrefix_alt, matchPrefix_eq_run _ _ (safe_seq_cls _ _ _ (safe_star _ _ _ rfl (Or.inr (kFin_isSome cs))))]
  simp only [toPat, asCls, mem_idStart, mem_word]
  change (match patId.run cs with | some v => some v | none => _) = _
  cases hr : patId.run cs with
  | some n => rfl
  | none =>
    simp only
    cases cs with
    | nil => simp [matchPrefix, matchK]
    | cons c rest =>
      have hc : isIdStart c = false := by
        cases h : isIdStart c with
        | false => rfl
        | true => simp [patId, Pat.run, h] at hr
      have hl : CSet.mem { neg := false, items := [.range 'a' 'z', .range 'A' 'Z'] } c = false := by
        rw [← mem_idStart] at hc
        simp only [CSet.mem, List.any_cons, List.any_nil, Bool.or_false, bne_eq_false_iff_eq, Bool.or_eq_false_iff]
          at hc ⊢
        exact ⟨hc.1, hc.2.1⟩
      simp [matchPrefix, matchK, hl]

theorem run_seq_congr {a a' b b' : Pat} (ha : a.run = a'.run) (hb : b.run = b'.run) :
    (Pat.seq a b).run = (Pat.seq a' b').run := by
  funext cs; simp only [Pat.run, ha, hb]

theorem run_alt_congr {a a' b b' : Pat} (ha : a.run = a'.run) (hb : b.run = b'.run) :
    (Pat.alt a b).run = (Pat.alt a' b').run := by
  funext cs; simp only [Pat.run, ha, hb]

theorem run_seq_assoc (a b c : Pat) : (Pat.seq (.seq a b) c).run = (Pat.seq a (.seq b c)).run := by
  funext cs
  simp only [Pat.run]
  cases a.run cs with
  | none => rfl
  | some n =>
    simp only
    cases b.run (cs.drop n) with
    | none => rfl
    | some m =>
      simp only [Option.map_some, List.drop_drop]
      cases c.run (cs.drop (n + m)) with
      | none => rfl
      | some l => simp [Nat.add_assoc]

theorem run_alt_assoc (a b c : Pat) : (Pat.alt (.alt a b) c).run = (Pat.alt a (.alt b c)).run := by
  funext cs
  simp only [Pat.run]
  cases a.run cs <;> rfl

/-- `[-+]?\d+`: giving the sign back does not help, a sign is not a digit -/
theorem run_optSign (s d : Char → Bool) (h : ∀ x, s x = true → d x = false) :
    (Pat.seq (.alt (.ch s) .eps) (Pat.many1 d)).run = (Pat.alt (.seq (.ch s) (Pat.many1 d)) (Pat.many1 d)).run := by
  funext cs
  cases cs with
  | nil => simp [Pat.run, Pat.many1]
  | cons x r =>
    by_cases hs : s x = true
    · have hM : (Pat.many1 d).run (x :: r) = none := by simp [Pat.many1, Pat.run, h x hs]
      simp only [Pat.run, hs, if_true, List.drop_succ_cons, List.drop_zero, hM]
      cases (Pat.many1 d).run r <;> rfl
    · have hs' : s x = false := by simpa using hs
      by_cases hd : d x = true <;> simp [Pat.run, Pat.many1, hs', hd]

theorem mem_fl : CSet.mem { neg := false, items := [.ch 'F', .ch 'f', .ch 'L', .ch 'l'] } =
    fun c => lowerAscii c == 'f' || lowerAscii c == 'l' := by
  funext c
  rw [← congrFun (mem_ci 'F' 'f' (by decide) (by decide)) c, ← congrFun (mem_ci 'L' 'l' (by decide) (by decide)) c]
  simp [CSet.mem, Bool.or_assoc]

theorem sign_not_digit (x : Char) (hx : (x == '-' || x == '+') = true) : isDigit x = false := by
  rw [Bool.or_eq_true, beq_iff_eq, beq_iff_eq] at hx
  rcases hx with h | h <;> subst h <;> decide

/-- the exponent `[eE][-+]?\d+` is safe before a continuation that never fails -/
theorem safe_exp (k : List Char → Option Nat) (nf : NeverFails k) :
    Safe (.seq (.cls { neg := false, items := [.ch 'e', .ch 'E'] })
      (.seq (.alt (.cls { neg := false, items := [.ch '-', .ch '+'] }) .eps)
        (.seq (.cls { neg := false, items := [.cat .digit] }) (.star true (.cls { neg := false, items := [.cat .digit] })))))
      k := by
  refine safe_seq_cls _ _ _ ⟨safe_plus _ _ (Or.inr nf), trivial, trivial, ?_⟩
  intro cs n hr _
  cases cs with
  | nil => simp [toPat, Pat.run] at hr
  | cons x r =>
    cases hx : CSet.mem { neg := false, items := [.ch '-', .ch '+'] } x with
    | false => simp [toPat, Pat.run, hx] at hr
    | true =>
      rw [mem_ch2] at hx
      simp [toPat, Pat.run, contAt, matchK, mem_digit, sign_not_digit x hx]

theorem digit_not_dot (x : Char) (hx : CSet.mem { neg := false, items := [.cat .digit] } x = true) :
    CSet.mem { neg := false, items := [.ch '.'] } x = false := by
  simp only [mem_digit, mem_ch] at hx ⊢
  exact ne_of_class isDigit (by decide) hx

/-- `(((\d*\.\d+)|(\d+\.)([eE][-+]?\d+)?)|(\d+([eE][-+]?\d+)))[FfLl]?` -/
theorem scanner_fraction (cs : List Char) : matchPrefix rx_FRACTION cs = patFraction.run cs := by
  rw [matchPrefix_eq_run]
  · -- with the classes rewritten, the deterministic reading of the AST is `patFraction` bracketed differently
    simp only [rx_FRACTION, toPat, asCls, mem_digit, mem_ch, mem_ch2, mem_fl,
      mem_ci' 'E' 'e' (by decide) (by decide)]
    have hX : (Pat.seq (.ch fun c => lowerAscii c == 'e')
        (.seq (.alt (.ch fun c => c == '-' || c == '+') .eps) (Pat.many1 isDigit))).run = patExp.run :=
      run_seq_congr rfl (run_optSign _ _ sign_not_digit)
    exact congrFun (run_seq_congr ((run_alt_assoc _ _ _).trans (run_alt_congr rfl (run_alt_congr
      ((run_seq_assoc _ _ _).trans (run_seq_congr rfl (run_seq_congr rfl (run_alt_congr hX rfl))))
      (run_seq_congr rfl hX)))) rfl) cs
  · have nf1 := nf_opt (.cls { neg := false, items := [.ch 'F', .ch 'f', .ch 'L', .ch 'l'] }) _ (kFin_isSome cs)
    refine ⟨safe_alt_nf _ _ _ trivial trivial (kFin_isSome cs), safe_alt_nf _ _ _ (safe_alt_nf _ _ _ ?_ ?_ nf1) ?_ nf1⟩
    · -- \d*\.\d+
      exact ⟨safe_seq_cls _ _ _ (safe_plus _ _ (Or.inr nf1)),
        safe_star _ _ _ rfl (Or.inl (rejects_seq_cls _ _ _ _ digit_not_dot))⟩
    · -- (\d+\.)([eE][-+]?\d+)?
      exact ⟨safe_alt_nf _ _ _ (safe_exp _ nf1) trivial nf1,
        trivial, safe_plus _ _ (Or.inl (rejects_cls _ _ _ digit_not_dot))⟩
    · -- \d+([eE][-+]?\d+)
      refine ⟨safe_exp _ nf1, safe_plus _ _ (Or.inl (rejects_seq_cls _ _ _ _ fun x hx => ?_))⟩
      simp only [mem_digit, mem_ch2] at hx ⊢
      rw [ne_of_class isDigit (y := 'e') (by decide) hx, ne_of_class isDigit (y := 'E') (by decide) hx]; rfl


/-! ### COMMENT: a repetition of an alternation, against the hand automaton `commentBody` -/

theorem contAt_shift (k : List Char → Option Nat) (cs : List Char) (j : Nat) (o : Option Nat) :
    contAt k cs (o.map (· + j)) = contAt k (cs.drop j) o := by
  cases o with
  | none => rfl
  | some n => simp [contAt, List.drop_drop, Nat.add_comm]

/-- the automaton after a run of '*' -/
theorem commentBody_stars (k : List Char → Option Nat) (r : List Char) :
    contAt k r (commentBody r true) = match r.dropWhile (· == '*') with
      | [] => none
      | d :: r' => if (d == '/') = true then k r' else contAt k r' (commentBody r' false) := by
  induction r with
  | nil => simp [commentBody, contAt]
  | cons x r ih =>
    cases hx : x == '*' with
    | true =>
      simp only [commentBody, List.dropWhile_cons, hx, if_true]
      rw [contAt_shift, List.drop_succ_cons, List.drop_zero]
      exact ih
    | false =>
      simp only [commentBody, List.dropWhile_cons, hx, Bool.false_eq_true, if_false, Bool.and_true]
      cases hs : x == '/' with
      | true => simp [contAt]
      | false =>
        simp only [Bool.false_eq_true, if_false]
        rw [contAt_shift, List.drop_succ_cons, List.drop_zero]

/-- the repeated part `[^*]|(\*+[^*/])` -/
def rxCommentAlt : Regex :=
  .group (.alt (.cls { neg := true, items := [.ch '*'] })
    (.group (.seq (.seq (.cls { neg := false, items := [.ch '*'] }) (.star true (.cls { neg := false, items := [.ch '*'] })))
      (.cls { neg := true, items := [.ch '*', .ch '/'] }))))

/-- the closing `\*+/` -/
def rxCommentClose : Regex :=
  .seq (.seq (.cls { neg := false, items := [.ch '*'] }) (.star true (.cls { neg := false, items := [.ch '*'] })))
    (.cls { neg := false, items := [.ch '/'] })

/-- one round of the loop `([^*]|(\*+[^*/]))*` (`G`: the further rounds) before the closing `\*+/`: a character that
    is no '*' is passed; a run of '*' is passed with the character after it, unless that is the '/' that closes -/
theorem comment_step (k G : List Char → Option Nat) (cs : List Char) :
    (match matchK rxCommentAlt cs G with
      | some v => some v
      | none => matchK rxCommentClose cs k) =
    match cs with
    | [] => none
    | c :: r =>
      if (c == '*') = true then
        match r.dropWhile (· == '*') with
        | [] => none
        | d :: r' => if (d == '/') = true then k r' else G r'
      else G r := by
  have hA : RejectsCls { neg := false, items := [.ch '*'] }
      (fun cs' => matchK (.cls { neg := true, items := [.ch '*', .ch '/'] }) cs' G) :=
    rejects_cls _ _ _ (fun x hx => by simp only [mem_ch, mem_nch2] at hx ⊢; rw [hx]; rfl)
  have hC : RejectsCls { neg := false, items := [.ch '*'] }
      (fun cs' => matchK (.cls { neg := false, items := [.ch '/'] }) cs' k) :=
    rejects_cls _ _ _ (fun x hx => by simp only [mem_ch, beq_iff_eq] at hx ⊢; subst hx; rfl)
  unfold rxCommentAlt rxCommentClose
  rw [matchK_group, matchK_alt, matchK_group, matchK_seq, matchK_plus_cls _ _ (Or.inl hA), matchK_seq,
    matchK_plus_cls _ _ (Or.inl hC), mem_ch]
  cases cs with
  | nil => rfl
  | cons c r =>
    rw [matchK_cls_cons, mem_nch]
    cases hc : c == '*' with
    | true =>
      simp only [List.takeWhile_cons, List.dropWhile_cons, hc, Bool.not_true, Bool.false_eq_true, if_false, if_true,
        List.isEmpty_cons]
      cases hd : r.dropWhile (· == '*') with
      | nil => rfl
      | cons d r' =>
        have hds : (d == '*') = false := by have := List.head?_dropWhile_not (· == '*') r; rwa [hd] at this
        simp only [matchK_cls_cons, mem_nch2, mem_ch, hds, Bool.not_false, Bool.true_and]
        cases d == '/'
        · simp only [Bool.not_false, if_true, Bool.false_eq_true, if_false]; cases G r' <;> rfl
        · rfl
    | false =>
      simp only [List.takeWhile_cons, hc, Bool.not_false, if_true, Bool.false_eq_true, if_false, List.isEmpty_nil]
      cases G r <;> rfl

/-- the loop `([^*]|(\*+[^*/]))*` followed by the closing `\*+/` is the automaton -/
theorem comment_loop (k : List Char → Option Nat) : ∀ (fuel : Nat) (cs : List Char), cs.length < fuel →
    starLoop (matchK rxCommentAlt) true fuel cs (fun cs' => matchK rxCommentClose cs' k) =
      contAt k cs (commentBody cs false) := by
  intro fuel
  induction fuel with
  | zero => intro cs hf; simp at hf
  | succ f ih =>
    intro cs hf
    rw [starLoop_greedy_succ]
    refine (comment_step k _ cs).trans ?_
    cases cs with
    | nil => rfl
    | cons c r =>
      simp only [List.length_cons, Nat.add_lt_add_iff_right] at hf
      cases hc : c == '*' with
      | true =>
        simp only [hc, if_true, commentBody]
        rw [contAt_shift, List.drop_succ_cons, List.drop_zero, commentBody_stars]
        cases hd : r.dropWhile (· == '*') with
        | nil => rfl
        | cons d r' =>
          -- the rest behind the run of '*' is a suffix of `r`, so the fuel suffices for it
          have hlen := (List.dropWhile_suffix (l := r) (· == '*')).length_le
          rw [hd, List.length_cons] at hlen
          simp only [ih r' (by omega)]
      | false =>
        simp only [hc, Bool.false_eq_true, if_false, commentBody, Bool.and_false]
        rw [contAt_shift, List.drop_succ_cons, List.drop_zero, ih r hf]

/-- `/\*([^*]|(\*+[^*/]))*\*+/` -/
theorem scanner_comment (cs : List Char) : matchPrefix rx_COMMENT cs = scanComment cs := by
  have h : ∀ k, matchK rx_COMMENT cs k = match cs with
      | c1 :: c2 :: r => if (c1 == '/' && c2 == '*') = true then
          starLoop (matchK rxCommentAlt) true (r.length + 1) r (fun cs' => matchK rxCommentClose cs' k) else none
      | _ => none := by
    intro k
    match cs with
    | [] => simp [rx_COMMENT, matchK]
    | [c1] => by_cases h1 : (c1 == '/') = true <;> simp [rx_COMMENT, matchK, mem_ch, h1]
    | c1 :: c2 :: r =>
      by_cases h1 : (c1 == '/') = true <;> by_cases h2 : (c2 == '*') = true <;>
        simp [rx_COMMENT, matchK, mem_ch, h1, h2, rxCommentAlt, rxCommentClose]
  unfold matchPrefix
  rw [h]
  match cs with
  | [] => rfl
  | [c1] => rfl
  | c1 :: c2 :: r =>
    simp only [scanComment]
    by_cases hc : (c1 == '/' && c2 == '*') = true
    · simp only [hc, if_true]
      rw [comment_loop _ _ r (Nat.lt_succ_self _)]
      cases hb : commentBody r false with
      | none => rfl
      | some n =>
        have := (commentBody_reads hb).1
        simp only [contAt, List.length_cons, List.length_drop, Option.map_some, Option.some.injEq]
        omega
    · simp [hc]


/-- the generated AST the hand scanner of a modelled regex is proved against -/
def rxOf : RegexId → Option Regex
  | .comment => some rx_COMMENT
  | .slString => some rx_SL_STRING
  | .ticked => some rx_TICKED_PHRASE
  | .string => some rx_STRING
  | .endFor => some rx_END_FOR
  | .endIf => some rx_END_IF
  | .endWhile => some rx_END_WHILE
  | .namespace_ => some rx_NAMESPACE
  | .id => some rx_ID
  | .fraction => some rx_FRACTION
  | .number => some rx_NUMBER
  | .newline => some rx_newline
  | .unknown => none

/-- every modelled scanner is the generic matcher on the AST generated for its regex: for the rules below the
    deterministic reading of the AST is the scanner's pattern once the classes are rewritten, and the continuation
    after each repeated class starts outside that class (or never fails) -/
theorem scanById_is_regex (rid : RegexId) (x : Regex) (h : rxOf rid = some x) (cs : List Char) :
    scanById rid cs = matchPrefix x cs := by
  cases rid <;> simp only [rxOf, Option.some.injEq, reduceCtorEq] at h <;> subst h <;> simp only [scanById]
  · exact (scanner_comment cs).symm
  · -- `\/\/.*\n`
    rw [matchPrefix_eq_run]
    · simp only [rx_SL_STRING, toPat, asCls, patSlString, Pat.seqs, Pat.lit, mem_ch, mem_nch]
    · refine ⟨⟨⟨trivial, safe_star _ _ _ rfl (Or.inl (rejects_cls _ _ _ ?_))⟩, trivial⟩, trivial⟩
      intro x hx
      simp only [mem_nch, mem_ch, Bool.not_eq_true'] at hx ⊢
      exact hx
  · -- `\'[^\']*\'`
    rw [matchPrefix_eq_run]
    · simp only [rx_TICKED_PHRASE, toPat, asCls, patTicked, Pat.seqs, Pat.lit, mem_ch, mem_nch]
    · refine ⟨⟨trivial, safe_star _ _ _ rfl (Or.inl (rejects_cls _ _ _ ?_))⟩, trivial⟩
      intro x hx
      simp only [mem_nch, mem_ch, Bool.not_eq_true'] at hx ⊢
      exact hx
  · -- `"[^"\n]*"`
    rw [matchPrefix_eq_run]
    · simp only [rx_STRING, toPat, asCls, patString, Pat.seqs, Pat.lit, mem_ch, mem_nch2]
    · refine ⟨⟨trivial, safe_star _ _ _ rfl (Or.inl (rejects_cls _ _ _ ?_))⟩, trivial⟩
      intro x hx
      simp only [mem_nch2, mem_ch, Bool.and_eq_true, Bool.not_eq_true'] at hx ⊢
      exact hx.1
  · exact (scanner_end _ _ 'F' 'f' _ (by decide) rfl rfl (fun cs => by
      simp +decide only [toPat, asCls, patEnd, Pat.seqs, Pat.ci, Pat.many1, List.map, List.cons_append,
        List.nil_append, mem_ci, mem_space]) cs).symm
  · exact (scanner_end _ _ 'I' 'i' _ (by decide) rfl rfl (fun cs => by
      simp +decide only [toPat, asCls, patEnd, Pat.seqs, Pat.ci, Pat.many1, List.map, List.cons_append,
        List.nil_append, mem_ci, mem_space]) cs).symm
  · exact (scanner_end _ _ 'W' 'w' _ (by decide) rfl rfl (fun cs => by
      simp +decide only [toPat, asCls, patEnd, Pat.seqs, Pat.ci, Pat.many1, List.map, List.cons_append,
        List.nil_append, mem_ci, mem_space]) cs).symm
  · -- `([0-9a-zA-Z_])+(?=::)`
    rw [matchPrefix_eq_run]
    · simp only [rx_NAMESPACE, toPat, asCls, litOf, patNamespace, Pat.many1, Option.getD_some, List.cons_append,
        List.nil_append, mem_word]
    · refine ⟨rfl, safe_star _ _ _ rfl (Or.inl ?_), trivial⟩
      intro x rest hx
      simp only [mem_word] at hx
      simp [matchK, mem_ch, ne_of_class isWord (y := ':') (by decide) hx]
  · exact (scanner_id cs).symm
  · exact (scanner_fraction cs).symm
  · -- `\d+`
    rw [matchPrefix_eq_run]
    · simp only [rx_NUMBER, toPat, asCls, patNumber, Pat.many1, mem_digit]
    · exact ⟨safe_star _ _ _ rfl (Or.inr (kFin_isSome cs)), trivial⟩
  · -- `\n+`
    rw [matchPrefix_eq_run]
    · simp only [rx_newline, toPat, asCls, patNewline, Pat.many1, mem_ch]
    · exact ⟨safe_star _ _ _ rfl (Or.inr (kFin_isSome cs)), trivial⟩

/-- a rule and the AST generated for its regex fit: a literal rule's AST spells that literal, any other rule's regex
    text is one of the modelled ones and the AST is the one its scanner is proved against -/
def tiedOk (p : Rule × Regex) : Bool :=
  match p.1.lit with
  | some s => litOf p.2 == some s && !s.isEmpty
  | none => rxOf (regexId p.1.regex) == some p.2

theorem table_tied : (List.zip Gen.OalLex.rules Gen.OalLex.rx).all tiedOk = true ∧
    Gen.OalLex.rules.length = Gen.OalLex.rx.length := by decide

/-- on EVERY input, the scanner the lexer model uses for a rule of the table returns what the generic regex matcher
    returns on the AST Python's regex parser gives for the rule's source regex -/
theorem scanner_is_regex (p : Rule × Regex) (hp : p ∈ List.zip Gen.OalLex.rules Gen.OalLex.rx) (cs : List Char) :
    scanOf p.1 cs = matchPrefix p.2 cs := by
  have h := List.all_eq_true.mp table_tied.1 p hp
  unfold tiedOk at h
  unfold scanOf
  cases hl : p.1.lit with
  | some s =>
    rw [hl] at h
    simp only [Bool.and_eq_true, beq_iff_eq, Bool.not_eq_true'] at h
    exact (matchPrefix_lit _ _ h.1 h.2 cs).symm
  | none =>
    rw [hl] at h
    simp only [beq_iff_eq] at h
    exact scanById_is_regex _ _ h cs

theorem firstMatchF_eq : ∀ (rs : List Rule) (xs : List Regex),
    (∀ p ∈ List.zip rs xs, ∀ cs, scanOf p.1 cs = matchPrefix p.2 cs) → rs.length = xs.length → ∀ cs,
    firstMatchF (List.zipWith (fun r x => (r, matchPrefix x)) rs xs) cs = firstMatch rs cs := by
  intro rs
  induction rs with
  | nil => intro xs _ _ cs; simp [firstMatchF, firstMatch]
  | cons r rs ih =>
    intro xs h hlen cs
    cases xs with
    | nil => simp at hlen
    | cons x xs =>
      have h0 := h (r, x) (by simp) cs
      have ih' := ih xs (fun p hp => h p (by simp only [List.zip_cons_cons, List.mem_cons]; exact Or.inr hp))
        (by simpa using hlen) cs
      simp only [List.zipWith_cons_cons, firstMatchF, firstMatch, ← h0, ih']
      cases scanOf r cs <;> rfl

theorem lexRunF_eq (cfg : LexCfg) (fs : List (Rule × (List Char → Option Nat)))
    (h : ∀ cs, firstMatchF fs cs = firstMatch cfg.rules cs) : ∀ (fuel : Nat) (cs : List Char) (off line : Nat),
    lexRunF cfg fs fuel cs off line = lexRun cfg fuel cs off line := by
  intro fuel
  induction fuel with
  | zero => intro cs off line; rfl
  | succ fuel ih =>
    intro cs off line
    cases cs with
    | nil => rfl
    | cons c cs =>
      simp only [lexRunF, lexRun, h, ih]
      cases firstMatch cfg.rules (c :: cs) with
      | none => rfl
      | some p => obtain ⟨r, n⟩ := p; rfl

/-- the lexer model that takes its lexemes from the generic regex matcher on the generated ASTs IS the proved lexer
    model, on every text -/
theorem lexRx_eq_lex (text : List Char) : lexRx text = lex text := by
  unfold lexRx lex lexWith
  rw [lexRunF_eq]
  exact firstMatchF_eq _ _ scanner_is_regex table_tied.2


/-- the rule called `n` in the generated table, with the generated AST of its regex -/
def ruleRx (n : String) : Option (Rule × Regex) :=
  (List.zip Gen.OalLex.rules Gen.OalLex.rx).find? (fun p => p.1.name == n.toList)

/-- the table has a rule called `n`, and on EVERY input the scanner the lexer model uses for it returns what the
    generic regex matcher returns on the AST generated from the rule's source regex -/
def ScannerIsRegex (n : String) : Prop :=
  ∃ p, ruleRx n = some p ∧ ∀ cs, scanOf p.1 cs = matchPrefix p.2 cs

theorem scannerIsRegex_of (n : String) (h : (ruleRx n).isSome = true) : ScannerIsRegex n := by
  obtain ⟨p, hp⟩ := Option.isSome_iff_exists.mp h
  exact ⟨p, hp, scanner_is_regex p (List.mem_of_find?_eq_some hp)⟩

end Pyx.OalLex
