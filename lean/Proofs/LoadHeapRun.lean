import Proofs.LoadHeap

/-! C18: projection of a history onto one built metamodel, and the invariant that carries non-interference. -/

namespace Pyx.Heap
open Pyx.Load

/-- the history as far as the k-th built metamodel is concerned: the inputs accepted before its build, its
    build, and the mutations applied to it (renumbered to metamodel 0); `n` = builds seen so far -/
def project (k : Nat) : Nat → List Op → List Op
  | _, [] => []
  | n, .input ss :: rest => if n ≤ k then .input ss :: project k n rest else project k n rest
  | n, .build :: rest => if n = k then .build :: project k (n + 1) rest else project k (n + 1) rest
  | n, .mutate j μ :: rest => if j = k then .mutate 0 μ :: project k n rest else project k n rest

def runFrom (sh : Sharing) (w : World) (ops : List Op) : World := ops.foldl (step sh) w

/-- every built metamodel owns its attribute lists and its key pointers designate existing statements -/
def Good (w : World) : Prop :=
  ∀ (j : Nat) (o : HMeta), w.metas[j]? = some (some o) → AllOwn o ∧ KeysBound o w.stmts.length

/-- how the full world `w` and the projected world `w'` correspond after `n` builds -/
def Rel (k n : Nat) (w w' : World) : Prop :=
  w.metas.length = n ∧ Good w ∧
  (n ≤ k → w'.metas = [] ∧ w'.stmts = w.stmts) ∧
  (k < n → ∃ x more, w'.metas = [x] ∧ w.metas[k]? = some x ∧ w.stmts = w'.stmts ++ more ∧
      ∀ o, x = some o → KeysBound o w'.stmts.length)

theorem keysBound_mono {o : HMeta} {n m : Nat} (h : KeysBound o n) (hnm : n ≤ m) : KeysBound o m :=
  fun a ha idx hidx => Nat.lt_of_lt_of_le (h a ha idx hidx) hnm

theorem step_mutate_good (sh : Sharing) (w : World) (j : Nat) (μ : Mut) (hg : Good w) :
    (step sh w (.mutate j μ)).stmts = w.stmts ∧ Good (step sh w (.mutate j μ)) ∧
    (step sh w (.mutate j μ)).metas.length = w.metas.length ∧
    ∀ i, i ≠ j → (step sh w (.mutate j μ)).metas[i]? = w.metas[i]? := by
  simp only [step]
  cases hj : w.metas[j]? with
  | none => exact ⟨rfl, hg, rfl, fun _ _ => rfl⟩
  | some x =>
    cases x with
    | none => exact ⟨rfl, hg, rfl, fun _ _ => rfl⟩
    | some o =>
      obtain ⟨ho, hk⟩ := hg j o hj
      obtain ⟨h1, _, h4⟩ := applyMut_allOwn w.stmts w.stmts o μ ho
      simp only
      refine ⟨h1, ?_, by simp, ?_⟩
      · intro i o' hi
        simp only at hi
        rw [h1]
        by_cases hij : i = j
        · subst hij
          have hlt : i < w.metas.length := by
            have := List.getElem?_eq_some_iff.mp hj
            exact this.1
          rw [List.getElem?_set_self hlt] at hi
          simp only [Option.some.injEq] at hi
          subst hi
          exact ⟨h4, applyMut_keysBound _ _ _ _ hk⟩
        · rw [List.getElem?_set_ne (fun e => hij e.symm)] at hi
          exact hg i o' hi
      · intro i hij
        rw [List.getElem?_set_ne (fun e => hij e.symm)]

theorem good_step (sh : Sharing) (hs : sh.classAttrsByRef = false) (w : World) (op : Op) (hg : Good w) :
    Good (step sh w op) := by
  cases op with
  | input ss =>
    intro j o hj
    obtain ⟨ho, hk⟩ := hg j o hj
    exact ⟨ho, keysBound_mono hk (by simp [step])⟩
  | build =>
    intro j o hj
    simp only [step] at hj ⊢
    by_cases hjl : j < w.metas.length
    · rw [List.getElem?_append_left hjl] at hj
      exact hg j o hj
    · have : j = w.metas.length := by
        have := (List.getElem?_eq_some_iff.mp hj).1
        simp at this; omega
      subst this
      simp only [List.getElem?_concat_length, Option.some.injEq] at hj
      exact hbuild_allOwn sh hs w.stmts o hj
  | mutate j μ => exact (step_mutate_good sh w j μ hg).2.1

theorem rel_step (sh : Sharing) (hs : sh.classAttrsByRef = false) (k n : Nat) (w w' : World) (op : Op)
    (rest : List Op) (h : Rel k n w w') :
    ∃ n' w1', Rel k n' (step sh w op) w1' ∧
      runFrom sh w' (project k n (op :: rest)) = runFrom sh w1' (project k n' rest) := by
  obtain ⟨hlen, hg, hle, hgt⟩ := h
  cases op with
  | input ss =>
    have hg1 := good_step sh hs w (.input ss) hg
    by_cases hnk : n ≤ k
    · obtain ⟨hm, hst⟩ := hle hnk
      refine ⟨n, step sh w' (.input ss), ⟨hlen, hg1, ?_, ?_⟩, ?_⟩
      · intro _; exact ⟨hm, by simp [step, hst]⟩
      · intro hkn; omega
      · simp [project, hnk, runFrom]
    · have hkn : k < n := by omega
      obtain ⟨x, more, hm, hx, hst, hkb⟩ := hgt hkn
      refine ⟨n, w', ⟨hlen, hg1, ?_, ?_⟩, ?_⟩
      · intro h'; omega
      · intro _
        exact ⟨x, more ++ ss, hm, hx, by simp [step, hst], hkb⟩
      · simp [project, hnk]
  | build =>
    have hg1 := good_step sh hs w .build hg
    have hlen1 : (step sh w .build).metas.length = n + 1 := by simp [step, hlen]
    by_cases hnk : n = k
    · subst hnk
      obtain ⟨hm, hst⟩ := hle (Nat.le_refl _)
      refine ⟨n + 1, step sh w' .build, ⟨hlen1, hg1, ?_, ?_⟩, ?_⟩
      · intro h'; omega
      · intro _
        refine ⟨hbuild sh w.stmts, [], ?_, ?_, ?_, ?_⟩
        · simp [step, hm, hst]
        · simp only [step]
          rw [← hlen, List.getElem?_concat_length]
        · simp [step, hst]
        · intro o ho
          simp only [step, hst]
          exact (hbuild_allOwn sh hs w.stmts o ho).2
      · simp [project, runFrom]
    · by_cases hlt : n < k
      · obtain ⟨hm, hst⟩ := hle (by omega)
        refine ⟨n + 1, w', ⟨hlen1, hg1, ?_, ?_⟩, ?_⟩
        · intro _; exact ⟨hm, by simp [step, hst]⟩
        · intro h'; omega
        · simp [project, hnk]
      · have hkn : k < n := by omega
        obtain ⟨x, more, hm, hx, hst, hkb⟩ := hgt hkn
        refine ⟨n + 1, w', ⟨hlen1, hg1, ?_, ?_⟩, ?_⟩
        · intro h'; omega
        · intro _
          refine ⟨x, more, hm, ?_, by simp [step, hst], hkb⟩
          simp only [step]
          rw [List.getElem?_append_left (by omega)]
          exact hx
        · simp [project, hnk]
  | mutate j μ =>
    obtain ⟨hst1, hg1, hlen1, hother⟩ := step_mutate_good sh w j μ hg
    by_cases hjk : j = k
    · subst hjk
      by_cases hnk : n ≤ j
      · obtain ⟨hm, hst⟩ := hle hnk
        have hnone : w.metas[j]? = none := by
          rw [List.getElem?_eq_none_iff]; omega
        have hw : step sh w (.mutate j μ) = w := by simp [step, hnone]
        have hw' : step sh w' (.mutate 0 μ) = w' := by simp [step, hm]
        refine ⟨n, w', ?_, ?_⟩
        · rw [hw]; exact ⟨hlen, hg, hle, hgt⟩
        · simp only [project, if_true, runFrom, List.foldl_cons, hw']
      · have hkn : j < n := by omega
        obtain ⟨x, more, hm, hx, hst, hkb⟩ := hgt hkn
        refine ⟨n, step sh w' (.mutate 0 μ), ⟨by rw [hlen1, hlen], hg1, ?_, ?_⟩, ?_⟩
        · intro h'; omega
        · intro _
          cases x with
          | none =>
            have hw : step sh w (.mutate j μ) = w := by simp [step, hx]
            have hw' : step sh w' (.mutate 0 μ) = w' := by simp [step, hm]
            rw [hw, hw']
            exact ⟨none, more, hm, hx, hst, hkb⟩
          | some o =>
            -- the one idea: under `AllOwn` the mutator gives the same metamodel over `w.stmts` and over `w'.stmts`, and leaves
            -- either statement list as it is (`applyMut_allOwn`, both ways)
            obtain ⟨ho, _⟩ := hg j o hx
            obtain ⟨h1, h2, _⟩ := applyMut_allOwn w.stmts w'.stmts o μ ho
            obtain ⟨h1', _, _⟩ := applyMut_allOwn w'.stmts w.stmts o μ ho
            refine ⟨some (applyMut w'.stmts o μ).1, more, ?_, ?_, ?_, ?_⟩
            · simp [step, hm, h1']
            · simp only [step, hx]
              have hlt : j < w.metas.length := by omega
              rw [List.getElem?_set_self hlt, h2]
            · simp only [step, hx, hm, List.getElem?_cons_zero, h1, h1']
              exact hst
            · intro o' ho'
              simp only [Option.some.injEq] at ho'
              subst ho'
              simp only [step, hm, List.getElem?_cons_zero, h1']
              exact applyMut_keysBound _ _ _ _ (hkb o rfl)
        · simp [project, runFrom]
    · refine ⟨n, w', ⟨by rw [hlen1, hlen], hg1, ?_, ?_⟩, ?_⟩
      · intro hnk
        obtain ⟨hm, hst⟩ := hle hnk
        exact ⟨hm, by rw [hst1, hst]⟩
      · intro hkn
        obtain ⟨x, more, hm, hx, hst, hkb⟩ := hgt hkn
        exact ⟨x, more, hm, by rw [hother k (fun e => hjk e.symm)]; exact hx, by rw [hst1]; exact hst, hkb⟩
      · simp [project, hjk]

theorem rel_run (sh : Sharing) (hs : sh.classAttrsByRef = false) (k : Nat) (ops : List Op) :
    ∀ n w w', Rel k n w w' →
      ∃ n', Rel k n' (runFrom sh w ops) (runFrom sh w' (project k n ops)) := by
  induction ops with
  | nil => intro n w w' h; exact ⟨n, by simpa [runFrom, project] using h⟩
  | cons op rest ih =>
    intro n w w' h
    obtain ⟨n', w1', hrel, heq⟩ := rel_step sh hs k n w w' op rest h
    obtain ⟨n'', hfin⟩ := ih n' (step sh w op) w1' hrel
    refine ⟨n'', ?_⟩
    rw [heq]
    simpa [runFrom] using hfin

theorem good_init : Good World.init := fun j o hj => by simp [World.init] at hj

theorem rel_init (k : Nat) : Rel k 0 World.init World.init := by
  refine ⟨rfl, good_init, ?_, ?_⟩
  · intro _; exact ⟨rfl, rfl⟩
  · intro h; omega

theorem observe_of_rel {k n : Nat} {w w' : World} (h : Rel k n w w') : observe w k = observe w' 0 := by
  obtain ⟨hlen, hg, hle, hgt⟩ := h
  unfold observe
  by_cases hnk : n ≤ k
  · obtain ⟨hm, _⟩ := hle hnk
    have : w.metas[k]? = none := by rw [List.getElem?_eq_none_iff]; omega
    simp [this, hm]
  · obtain ⟨x, more, hm, hx, hst, hkb⟩ := hgt (by omega)
    simp only [hx, hm, List.getElem?_cons_zero]
    cases x with
    | none => rfl
    | some o =>
      simp only
      obtain ⟨ho, _⟩ := hg k o hx
      rw [hst, observeMeta_append _ _ _ ho (hkb o rfl)]

/-- the statements a loader holds are the inputs in order, whatever was built and mutated in between -/
def inputsOf : List Op → List Stmt
  | [] => []
  | .input ss :: rest => ss ++ inputsOf rest
  | _ :: rest => inputsOf rest

theorem stmts_runFrom (sh : Sharing) (hs : sh.classAttrsByRef = false) : ∀ (ops : List Op) (w : World), Good w →
    (runFrom sh w ops).stmts = w.stmts ++ inputsOf ops
  | [], w, _ => (List.append_nil _).symm
  | op :: rest, w, hg => by
    show (runFrom sh (step sh w op) rest).stmts = _
    rw [stmts_runFrom sh hs rest _ (good_step sh hs w op hg)]
    cases op with
    | input ss => simp [step, inputsOf]
    | build => simp [step, inputsOf]
    | mutate j μ => simp [(step_mutate_good sh w j μ hg).1, inputsOf]

theorem runC_from (sh : Sharing) (ops : List OpC) :
    ∀ w, ops.foldl (stepC sh) w = runFrom sh w (resolveAll sh w ops) := by
  induction ops with
  | nil => intro w; rfl
  | cons oc rest ih =>
    intro w
    simp only [List.foldl_cons, resolveAll, runFrom]
    rw [ih]
    rfl

/-- a history with clones is the history in which every clone is replaced by the `new` it amounts to -/
theorem runC_eq_run (sh : Sharing) (ops : List OpC) : runC sh ops = run sh (resolveAll sh World.init ops) :=
  runC_from sh ops World.init

theorem resolveOp_clone (w : World) (k j : Nat) (kind : String) (id : Nat) :
    resolveOp w (.cloneInto k j kind id) = .input [] ∨
    ∃ args, resolveOp w (.cloneInto k j kind id) = .mutate k (.newArgs kind args) := by
  simp only [resolveOp]
  split
  · split
    · split
      · exact Or.inr ⟨_, rfl⟩
      · exact Or.inl rfl
    · exact Or.inl rfl
  · exact Or.inl rfl

/-- cloning an instance of metamodel `j` into metamodel `k` leaves the loader's statements and every metamodel
    other than `k` — in particular the source `j ≠ k` — as they were -/
theorem clone_writes_target_only (sh : Sharing) (w : World) (hg : Good w) (k j : Nat) (kind : String) (id : Nat) :
    (stepC sh w (.cloneInto k j kind id)).stmts = w.stmts ∧
    ∀ i, i ≠ k → (stepC sh w (.cloneInto k j kind id)).metas[i]? = w.metas[i]? := by
  unfold stepC
  rcases resolveOp_clone w k j kind id with h | ⟨args, h⟩
  · rw [h]
    exact ⟨by simp [step], fun _ _ => rfl⟩
  · rw [h]
    obtain ⟨h1, _, _, h4⟩ := step_mutate_good sh w k (.newArgs kind args) hg
    exact ⟨h1, h4⟩

theorem good_runC (sh : Sharing) (hs : sh.classAttrsByRef = false) (ops : List OpC) : Good (runC sh ops) :=
  List.foldlRecOn ops _ good_init fun w hg _ _ => good_step sh hs w _ hg

end Pyx.Heap
