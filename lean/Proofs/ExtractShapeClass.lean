import Proofs.ExtractShapeTie

/-!
  C14 — the identifier loop of `mk_class` of the generated IR (Gen/ExtractShape.lean) against `identOf` (PyxModel/Extract/Schema.lean).
  Population (`classWorld`): the O_ID rows of a class (R104) in modeled order, their O_OIDA rows (R105) in modeled order, each
  leading (R105) to the attribute of the class with that id if there is one, O_BATTR (R106) for base and derived attributes,
  O_DBATTR (R107) for derived ones.  Hand-written like the other worlds.
-/

namespace Pyx.XShape
open Pyx.Extract Pyx.Gen.ExtractShape

inductive CI where
  | obj
  | oid (i : Ident)
  | oida (n : Nat)
  | attr (a : Attr)
  | battr (a : Attr)
  | dbattr (a : Attr)
  deriving DecidableEq

def classHop (c : Class) (x : CI) (h : Hop) : List CI :=
  match x with
  | .obj => if h = hp "O_ID" 104 then c.idents.map CI.oid else []
  | .oid i => if h = hp "O_OIDA" 105 then i.attrs.map CI.oida else []
  | .oida n => if h = hp "O_ATTR" 105 then ((c.findAttr n).map CI.attr).toList else []
  | .attr a =>
    if h = hp "O_BATTR" 106 then (match a.kind with | .ref _ _ => [] | _ => [.battr a]) else []
  | .battr a => if h = hp "O_DBATTR" 107 then (if a.isDerived then [.dbattr a] else []) else []
  | .dbattr _ => []

def classAttr (c : Class) (x : CI) (f : String) : Val CI :=
  match x with
  | .obj => if f = "Key_Lett" then .str c.kl else .unset
  | .oid i => if f = "Oid_ID" then .nat i.num else .unset
  | .attr a => if f = "Name" then .str a.name else .unset
  | _ => .unset

def classWorld (c : Class) : World CI :=
  { hop := classHop c, attr := classAttr c, kind := fun _ => "", subtype := fun _ _ => none, select := fun _ => [] }

@[simp] theorem classWorld_hop (c : Class) : (classWorld c).hop = classHop c := rfl
@[simp] theorem classWorld_attr (c : Class) : (classWorld c).attr = classAttr c := rfl

/-- the body of `for o_id in many(o_obj).O_ID[104]():` -/
def idBody : List Stmt :=
  [ .assign "o_oida" (.nav { card := .many, start := "o_id", hops := [{ cls := "O_OIDA", rel := 105, phrase := "" }], filter := .all }),
    .assign "o_attrs" (.nav { card := .many, start := "o_oida", hops := [{ cls := "O_ATTR", rel := 105, phrase := "" }], filter := .all }),
    .ite (.and (.not (.truthy (.var "derived_attributes"))) (.truthy (.nav { card := .one, start := "o_attrs", hops := [{ cls := "O_BATTR", rel := 106, phrase := "" }, { cls := "O_DBATTR", rel := 107, phrase := "" }], filter := .all }))) [
      .log,
      .continue ] [],
    .assign "names" (.namesOf "Name" "o_attrs"),
    .define "define_unique_identifier" [("0", (.attr "o_obj" "Key_Lett")), ("1", (.attrSucc "o_id" "Oid_ID"))] (some "names") none ]

def idNav : Nav := { card := .many, start := "o_obj", hops := [{ cls := "O_ID", rel := 104, phrase := "" }], filter := .all }

/-- the identifier loop of the generated `mk_class` IS this (breaks when the source changes) -/
theorem mk_class_idLoop : (match mk_class.body with
    | [_, _, _, _, s, _, _, _] => s
    | _ => .pass) = .forNav "o_id" idNav idBody := rfl

def idAttrs (c : Class) (i : Ident) : List Attr := i.attrs.filterMap c.findAttr

@[xsh] theorem classWorld_obj (c : Class) :
    (classWorld c).hop .obj ⟨"O_ID", 104, ""⟩ = c.idents.map CI.oid ∧ (classWorld c).attr .obj "Key_Lett" = .str c.kl := by
  simp [classHop, hp, classAttr]

@[xsh] theorem classWorld_oid (c : Class) (i : Ident) :
    (classWorld c).hop (.oid i) ⟨"O_OIDA", 105, ""⟩ = i.attrs.map CI.oida ∧ (classWorld c).attr (.oid i) "Oid_ID" = .nat i.num := by
  simp [classHop, hp, classAttr]

@[xsh] theorem classWorld_oida (c : Class) (n : Nat) :
    (classWorld c).hop (.oida n) ⟨"O_ATTR", 105, ""⟩ = ((c.findAttr n).map CI.attr).toList := by
  simp [classHop, hp]

theorem classWorld_attrRow (c : Class) (a : Attr) :
    evalHops (classWorld c) [.attr a] [⟨"O_BATTR", 106, ""⟩, ⟨"O_DBATTR", 107, ""⟩] = (if a.isDerived then [.dbattr a] else []) := by
  cases hk : a.kind <;> simp [xsh, classHop, hp, Attr.isDerived, hk]

theorem hops_oida (c : Class) (ns : List Nat) :
    evalHops (classWorld c) (ns.map CI.oida) [{ cls := "O_ATTR", rel := 105, phrase := "" }] =
      (ns.filterMap c.findAttr).map CI.attr := by
  induction ns with
  | nil => rfl
  | cons n ns ih =>
    rw [List.map_cons, ← List.singleton_append, evalHops_append, ih]
    cases h : c.findAttr n <;> simp only [xsh, h, List.filterMap_cons, List.nil_append, List.singleton_append]

theorem hops_derived (c : Class) (as : List Attr) :
    evalHops (classWorld c) (as.map CI.attr) [{ cls := "O_BATTR", rel := 106, phrase := "" }, { cls := "O_DBATTR", rel := 107, phrase := "" }] =
      (as.filter Attr.isDerived).map CI.dbattr := by
  induction as with
  | nil => rfl
  | cons a as ih =>
    rw [List.map_cons, ← List.singleton_append, evalHops_append, ih, classWorld_attrRow c a]
    cases h : a.isDerived <;> simp [h]

theorem names_attrs (c : Class) (as : List Attr) : namesE (classWorld c) "Name" (as.map CI.attr) = .ok (as.map (·.name)) := by
  induction as with
  | nil => rfl
  | cons a as ih => simp [namesE, classAttr, ih]

theorem head_filter_isSome (as : List Attr) : ((as.filter Attr.isDerived).map CI.dbattr).head?.isSome = as.any Attr.isDerived := by
  induction as with
  | nil => rfl
  | cons a as ih => cases h : a.isDerived <;> simp_all

/-- the `define_unique_identifier` call `mk_class` makes for an identifier, if any -/
def idCall (drv : Bool) (c : Class) (i : Ident) : Option (Call CI) :=
  if !drv && (idAttrs c i).any Attr.isDerived then none
  else some { fn := "define_unique_identifier", args := [("0", .str c.kl), ("1", .nat (i.num + 1))],
              star := (idAttrs c i).map (·.name) }

theorem idStep (c : Class) (cf : CallF CI) (fuel : Nat) (drv : Bool) (i : Ident) (L : Loc CI) (C : Calls CI)
    (h1 : L "o_obj" = .inst (some CI.obj)) (h2 : L "derived_attributes" = .bool drv) :
    ∃ L' s, iStmts (classWorld c) cf fuel idBody (L.set "o_id" (.inst (some (CI.oid i)))) C =
        .ok (L', C ++ (idCall drv c i).toList, s) ∧ (∀ r, s ≠ .ret r) ∧
      L' "o_obj" = .inst (some CI.obj) ∧ L' "derived_attributes" = .bool drv := by
  cases drv with
  | true =>
    simp only [xsh, idBody, hops_oida, names_attrs, h1, h2, idCall, idAttrs]
    exact ⟨_, _, rfl, nofun, by simp only [xsh, h1], by simp only [xsh, h2]⟩
  | false =>
    cases hd : (i.attrs.filterMap c.findAttr).any Attr.isDerived <;>
      simp only [xsh, idBody, hops_oida, hops_derived, head_filter_isSome, names_attrs, h1, h2, idCall, idAttrs, hd,
        List.append_nil] <;>
      exact ⟨_, _, rfl, nofun, by simp only [xsh, h1], by simp only [xsh, h2]⟩

/-- the identifier loop of `mk_class` over any list of O_ID rows: one `define_unique_identifier` call per identifier that holds no
    left-out derived attribute, in row order, nothing else -/
theorem idLoop (c : Class) (cf : CallF CI) (fuel : Nat) (drv : Bool) :
    ∀ (ids : List Ident) (L : Loc CI) (C : Calls CI), L "o_obj" = .inst (some CI.obj) → L "derived_attributes" = .bool drv →
      ∃ L', forLoop (fun x L' C' => iStmts (classWorld c) cf fuel idBody (L'.set "o_id" (.inst (some x))) C')
          (ids.map CI.oid) L C = .ok (L', C ++ ids.filterMap (idCall drv c), .next) := by
  intro ids
  induction ids with
  | nil => intro L C _ _; exact ⟨L, by simp [forLoop]⟩
  | cons i ids ih =>
    intro L C h1 h2
    obtain ⟨L1, s, hrun, hs, g1, g2⟩ := idStep c cf fuel drv i L C h1 h2
    obtain ⟨L', hL⟩ := ih L1 (C ++ (idCall drv c i).toList) g1 g2
    refine ⟨L', ?_⟩
    -- `hs` is used here without being named: the last case of `forLoop`'s `match` overlaps the `.ret` case, so its equation has
    -- the side condition that `s` is no `.ret`, which simp's discharger closes from `hs` (clear `hs` and the `match` stays)
    simp only [List.map_cons, forLoop, hrun]
    have hC : C ++ (idCall drv c i).toList ++ ids.filterMap (idCall drv c) = C ++ (i :: ids).filterMap (idCall drv c) := by
      cases h : idCall drv c i <;> simp [h]
    rw [← hC, ← hL]

/-- a recorded `define_unique_identifier(kl, n, *names)` as the identifier the metamodel keeps: one without attributes is ignored
    by `define_unique_identifier` itself (xtuml/meta.py) -/
def decodeIdent (k : Call CI) : Option SIdent :=
  match k.args.lookup "1" with
  | some (.nat n) => if k.star = [] then none else some { num := n, names := k.star }
  | _ => none

theorem idCall_identOf (drv : Bool) (c : Class) (i : Ident) : (idCall drv c i).bind decodeIdent = identOf drv c i := by
  unfold idCall identOf idAttrs
  generalize i.attrs.filterMap c.findAttr = as
  cases drv <;> cases hd : as.any Attr.isDerived <;> cases as <;> simp_all [decodeIdent, List.lookup]

theorem idCalls_identOf (drv : Bool) (c : Class) (ids : List Ident) :
    (ids.filterMap (idCall drv c)).filterMap decodeIdent = ids.filterMap (identOf drv c) := by
  rw [List.filterMap_filterMap]
  congr 1
  funext i
  exact idCall_identOf drv c i

end Pyx.XShape
