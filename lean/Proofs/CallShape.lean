import PyxModel.Interp.Model
import Proofs.InterpNoMsg
import Gen.CallShape
import Proofs.Lib.SimpSets
import Proofs.InterpPres
import Proofs.Lib.Lookup

/-!
  C15 source tie, statement structure of everything between an OAL invocation and the body it runs: a GENERIC interpreter of the
  first-order IR that translator/gen_callshape.py extracts from bridgepoint/interpret.py and bridgepoint/ooaofooa.py, over the
  configurations of the reference semantics (`Pyx.Interp.Cfg`, monad `M`), and the lemmas showing that the clauses of `Spec` /
  `Model` equal that interpretation of the IR generated from the current source.

  The interpreter is defined once, for ANY IR value (`Parts` bundles the pieces); what each generated handler computes is stated
  for any `Parts` and `Dom` (`…_handler`), and only the lemmas about `gen` mention the other generated constants.  What the
  interpreter fixes, once, is the meaning of the ATOMS (hand-modelled environment):

    a Python dict of actual parameters     = the association list in insertion order (`paramsOf`: the last binding of a key wins)
    self.accept(<expression child>)        = what the `CNode` says the child evaluates to (the oracle's `rec.eval`)
    the domain's dictionaries              = `Dom`: kind-qualified, untyped, classes; `domOf C u` reads them off the context `C`
                                             (`u` = the untyped dictionary: ARBITRARY, the theorems hold for every `u`)
    getattr(<external entity>, n)          = the bridge `n` of that entity, made by mk_bridge
    getattr(<class>, n)                    = the class-based operation `n` (classmethod: bound to the class), else the
                                             instance-based operation `n` (a plain function)
    getattr(<enumeration>, n)              = the value of field `n` of the namedtuple (`Numbering.rangeLen`: its position)
    calling what mk_* made                 = binding the lambda's parameters (classmethod: the first one to the class), evaluating
                                             its argument list, running the `run_*` function's IR
    <Walker>(args…)                        = running the `__init__` IRs (base constructors in source order) and reading the frame
                                             off the attributes they stored (`frameOf`)
    oal.parse(action, label)               = the body of the model element (trusted parser)
    w.accept(root)                         = `runBody` in the walker's frame (the body handlers: Props/C04.lean, `body_as_in_source`)
    self.kwargs[k] / self.instance / self.return_value = the frame's params / self / ret
-/
namespace Pyx.CShape
open Pyx.Interp Pyx.Interp.M Pyx.Gen.CallShape
open Pyx.IShape (bind_run fail_run)

/-- what `Domain.find_symbol` delivers -/
inductive Sym where
  | fn (f : Callable)            -- what mk_function made
  | ee (ns : String)             -- an external entity: the namedtuple of its bridges
  | cls (kl : String)            -- a class
  | enum (d : EnumDecl)          -- what mk_enum made
  | const (v : Val)              -- what mk_constant made

structure Dom where
  byKind : String → String → Option Sym       -- symbols_by_kind[(kind, name)]
  untyped : String → Option Sym               -- symbols[name]
  isMetaclass : String → Bool                 -- name.upper() in self.metaclasses
  findClass : String → Option Sym             -- find_class(name)

def hasBridges (C : Ctx) (ns : String) : Bool := C.callables.any (fun f => decide (f.kind = .bridge ns))

/-- the dictionaries as mk_component fills them from the model elements of `C`; `u` is the untyped dictionary -/
def domOf (C : Ctx) (u : String → Option Sym) : Dom :=
  { byKind := fun k n =>
      if k = "function" then (findCallable C (fun f => f.kind = .function ∧ f.name = n)).map Sym.fn
      else if k = "external entity" then (if hasBridges C n then some (.ee n) else none)
      else if k = "enumeration" then (C.enums.find? (fun d => d.name = n)).map Sym.enum
      else if k = "constant" then (C.consts.lookup n).map Sym.const
      else none
    untyped := u
    isMetaclass := fun n => (findClass C n).isSome
    findClass := fun n => if (findClass C n).isSome then some (.cls n) else none }

def probe (D : Dom) (name : String) (k : Option String) : Probe → Option Sym
  | .byKind => match k with
    | some k => D.byKind k name
    | none => none
  | .classWhenKind k0 => match k with
    | some k => if k = k0 ∧ D.isMetaclass name = true then D.findClass name else none
    | none => none
  | .untyped => D.untyped name
  | .findClass => D.findClass name

/-- `Domain.find_symbol(name, kinds)`: for every kind in order the probes `perKind` in order, then `afterKinds`; `none` = the
    exception -/
def iFind (sh : DomainShape) (D : Dom) (name : String) (kinds : List String) : Option Sym :=
  match (kinds.flatMap (fun k => sh.perKind.map (fun p => (k, p)))).findSome? (fun kp => probe D name (some kp.1) kp.2) with
  | some s => some s
  | none => sh.afterKinds.findSome? (probe D name none)

/-- a callable made by a `mk_*` constructor: its lambda, the model element, the class it was fetched from (classmethod) -/
structure Callee where
  shape : LambdaShape
  f : Callable
  viaClass : Option String

/-- what a Python local / an attribute holds -/
inductive PV where
  | val (v : Val)                               -- a value, or a property whose getter returns it
  | kwargs (kw : List (String × Val))           -- a dict of actual parameters, in insertion order
  | dom | label
  | str (s : String)
  | body (b : Block)                            -- the action of a model element / its parsed root
  | sym (s : Sym)
  | callee (k : Callee)
  | symtab (inst : Option Val)                  -- SymbolTable / InstanceSymbolTable(instance)
  | walker (cls : String) (fr : Option Frame)   -- a walker and the frame read off its attributes
  | param (name : String) (e : M Val)           -- a ParameterNode child
  | lval (i : Inst) (name : String)             -- property over an attribute of an instance
  | reg                                         -- property over the walker's return_value
  | unset

abbrev Locals := List (String × PV)
def Locals.get (L : Locals) (x : String) : PV := (L.lookup x).getD .unset
def Locals.set (L : Locals) (x : String) (v : PV) : Locals := (x, v) :: L

structure Parts where
  inits : List (String × Def)
  runs : List (String × Def)
  function : LambdaShape
  bridge : LambdaShape
  opInst : LambdaShape
  opCls : LambdaShape
  derived : LambdaShape
  domain : DomainShape
  enumNumbering : Numbering

def argVal (L : Locals) : Arg → Option PV
  | .name v => L.lookup v
  | .attr v a => match L.lookup v with
    | some .dom => if a = "metamodel" then some .dom else none
    | _ => none
  | .none => some (.val .none)

def argVals (L : Locals) : List Arg → Option (List PV)
  | [] => some []
  | a :: rest => match argVal L a, argVals L rest with
    | some v, some r => some (v :: r)
    | _, _ => none

def bindParams (ps : List String) (as : List PV) : Option Locals :=
  if ps.length = as.length then some (ps.zip as) else none

abbrev Attrs := List (String × PV)

/-- the object a constructor call yields, from the attributes its `__init__` chain stored -/
def objOf (cls : String) (A : Attrs) : Option PV :=
  if cls = "SymbolTable" then some (.symtab none)
  else if cls = "InstanceSymbolTable" then
    match A.lookup "instance" with
    | some (.val v) => some (.symtab (some v))
    | _ => none
  else none

def initStmt (k : String → List PV → Attrs → Option Attrs) (L : Locals) : CStmt → Attrs → Option Attrs
  | .setSelf a (.local v), A => some ((a, L.get v) :: A)
  | .setSelf a (.construct c args), A =>
    match argVals L args with
    | some as =>
      match k c as [] with
      | some A' => match objOf c A' with
        | some o => some ((a, o) :: A)
        | none => none
      | none => none
    | none => none
  | .expr (.baseCall b m args), A => if m = "__init__" then k b (args.map L.get) A else none
  | _, _ => none

def initStmts (k : String → List PV → Attrs → Option Attrs) (L : Locals) : List CStmt → Attrs → Option Attrs
  | [], A => some A
  | s :: rest, A => match initStmt k L s A with
    | some A' => initStmts k L rest A'
    | none => none

/-- `<cls>.__init__(self, args…)` on an object with the attributes `A` (fuel = depth of the constructor chain) -/
def iInit (inits : List (String × Def)) : Nat → String → List PV → Attrs → Option Attrs
  | 0 => fun _ _ _ => none
  | n + 1 => fun cls args A =>
    match inits.lookup cls with
    | none => if cls = "SymbolTable" ∨ cls = "xtuml.Walker" then some A else none     -- constructors that store nothing modelled
    | some d =>
      match bindParams d.params args with
      | some L => initStmts (iInit inits n) L d.body A
      | none => none

/-- the frame of the reference semantics a walker object stands for: its class (= which accept_* methods it has), `kwargs`,
    `instance`, `attribute_name`, and the symbol table it ENDED UP with (the last assignment of `self.symtab`) -/
def frameOf (cls : String) (A : Attrs) : Option Frame :=
  match cls, A.lookup "symtab" with
  | "FunctionWalker", some (.symtab none) =>
    match A.lookup "kwargs" with
    | some (.kwargs kw) => some (mkFrame .function kw .none)
    | _ => none
  | "OperationWalker", some (.symtab (some s)) =>
    match A.lookup "kwargs", A.lookup "instance" with
    | some (.kwargs kw), some (.val v) => if s = v then some (mkFrame .operation kw v) else none
    | _, _ => none
  | "DerivedAttributeWalker", some (.symtab (some s)) =>
    match A.lookup "attribute_name", A.lookup "instance" with
    | some (.str a), some (.val (.inst i)) => if s = .inst i then some (mkFrame (.derived i a) [] (.inst i)) else none
    | _, _ => none
  | _, _ => none

def newWalker (P : Parts) (cls : String) (args : List PV) : Option Frame :=
  -- fuel 4: walker class → ActionWalker / InstanceSymbolTable → SymbolTable / xtuml.Walker is three constructors deep
  match iInit P.inits 4 cls args [] with
  | some A => frameOf cls A
  | none => none

/-! ### `run_function` / `run_operation` / `run_derived_attribute` -/

/-- `w.accept(root)`: the body runs in the walker's frame on the shared state; the caller's frame is untouched -/
def acceptOn (rec : Oracle) (fr : Frame) (b : Block) : M Frame := fun c =>
  match runBody rec b { fr := fr, st := c.st } with
  | none => none
  | some (.error e) => some (.error e)
  | some (.ok (_, c')) => some (.ok (c'.fr, { fr := c.fr, st := c'.st }))

def runStmts (P : Parts) (rec : Oracle) : List CStmt → Locals → M Val
  | [], _ => pure .none                                   -- falling off the end: None
  | .assign dst (.construct cls args) :: rest, L =>
    match argVals L args with
    | some as => runStmts P rec rest (L.set dst (.walker cls (newWalker P cls as)))
    | none => fail "constructor arguments"
  | .assign dst (.parse a _) :: rest, L =>
    match L.get a with
    | .body b => runStmts P rec rest (L.set dst (.body b))
    | _ => fail "parse of something that is not an action"
  | .expr (.acceptOn w r) :: rest, L =>
    match L.get w, L.get r with
    | .walker cls (some fr), .body b => do
      let fr' ← acceptOn rec fr b
      runStmts P rec rest (L.set w (.walker cls (some fr')))
    | _, _ => fail "accept"
  | .ret (.localAttr w a) :: _, L =>
    match L.get w with
    | .walker _ (some fr) => if a = "return_value" then pure fr.ret else fail "attribute of a walker"
    | _ => fail "not a walker"
  | .ret .none :: _, _ => pure .none
  | _ :: _, _ => fail "statement outside the run functions"

def iRun (P : Parts) (rec : Oracle) (d : Def) (args : List PV) : M Val :=
  match bindParams d.params args with
  | some L => runStmts P rec d.body L
  | none => fail "arguments of a run function"

/-! ### calling what `mk_*` made -/

/-- the free variables of the lambda: the enclosing `mk_*`'s parameters and bindings -/
def closureOf (f : Callable) : Locals :=
  [("metamodel", .dom), ("metaclass", .dom), ("label", .label), ("action", .body f.body), ("o_attr.Name", .str f.name)]

def callCallee (P : Parts) (rec : Oracle) (k : Callee) (pos : List PV) (kw : Option (List (String × Val))) : M Val :=
  let bound : Option (List String × Locals) :=
    if k.shape.wrap = some "classmethod" then
      match k.shape.params, k.viaClass with
      | p :: ps, some kl => some (ps, [(p, .sym (.cls kl))])
      | _, _ => none
    else some (k.shape.params, [])
  match bound with
  | none => fail "classmethod"
  | some (ps, L0) =>
    match bindParams ps pos, (match k.shape.kw, kw with
        | some n, some kws => some [(n, PV.kwargs kws)]
        | none, none => some []
        | _, _ => none) with
    | some L1, some L2 =>
      match argVals (L2 ++ L1 ++ L0 ++ closureOf k.f) k.shape.args, P.runs.lookup k.shape.callee with
      | some as, some d => iRun P rec d as
      | _, _ => fail "lambda body"
    | _, _ => fail "arguments of the call"

structure CNode where
  str : String → String := fun _ => ""
  acceptE : String → Option (M Val) := fun _ => none                        -- expression children
  acceptK : String → Option (M (List (String × Val))) := fun _ => none      -- the parameter list child
  children : List (String × M Val) := []                                    -- ParameterNode children: name, `.expression`

inductive Sig where
  | next
  | ret (v : PV)

def strOf (nd : CNode) (L : Locals) : Str → M String
  | .field f => pure (nd.str f)
  | .lit s => pure s
  | .localField v f => match L.get v with
    | .param n _ => if f = "name" then pure n else fail "field of a parameter node"
    | _ => fail "field of a local"

def classAttr (C : Ctx) (P : Parts) (kl name : String) : M PV :=
  match findCallable C (fun f => f.kind = .classOp kl ∧ f.name = name) with
  | some f => pure (.callee ⟨P.opCls, f, some kl⟩)
  | none =>
    match findCallable C (fun f => f.kind = .instOp kl ∧ f.name = name) with
    | some f => pure (.callee ⟨P.opInst, f, some kl⟩)
    | none => fail ("unknown operation " ++ name)

def getattrSym (C : Ctx) (P : Parts) (s : Sym) (name : String) : M PV :=
  match s with
  | .ee ns =>
    match findCallable C (fun f => f.kind = .bridge ns ∧ f.name = name) with
    | some f => pure (.callee ⟨P.bridge, f, none⟩)
    | none => fail ("unknown " ++ ns ++ "::" ++ name)
  | .cls kl => classAttr C P kl name
  | .enum d =>
    match P.enumNumbering, posOf name d.enumerators with
    | .rangeLen, some k => pure (.val (.int k))
    | .rangeLen, none => fail ("unknown enumerator " ++ name)
  | _ => fail "getattr"

def iExpr (C : Ctx) (P : Parts) (D : Dom) (rec : Oracle) (nd : CNode) (L : Locals) : CExpr → M PV
  | .local v => pure (L.get v)
  | .none => pure (.val .none)
  | .newDict => pure (.kwargs [])
  | .accept child =>
    match nd.acceptK child with
    | some m => do
      let kw ← m
      pure (.kwargs kw)
    | none =>
      match nd.acceptE child with
      | some m => do
        let v ← m
        pure (.val v)
      | none => fail "accept"
  | .acceptFget child =>
    match nd.acceptE child with
    | some m => do
      let v ← m
      pure (.val v)
    | none => fail "fget of something that is not an expression"
  | .acceptOfFget v f =>
    match L.get v with
    | .param _ e => if f = "expression" then do
        let x ← e
        pure (.val x)
      else fail "field of a parameter node"
    | _ => fail "not a parameter node"
  | .domainFind name kinds _ => do
    let n ← strOf nd L name
    match iFind P.domain D n kinds with
    | some s => pure (.sym s)
    | none => fail ("Unknown symbol " ++ n)
  | .getattr obj name => do
    let n ← strOf nd L name
    match L.get obj with
    | .sym s => getattrSym C P s n
    | _ => fail "getattr"
  | .getattrClass obj name => do
    let n ← strOf nd L name
    match L.get obj with
    | .val v => do
      let i ← asInst v
      classAttr C P i.cls n
    | _ => fail "getattr"
  | .callKw fn pos kw =>
    match L.get kw with
    | .kwargs kws =>
      match L.get fn with
      | .callee k => do
        let v ← callCallee P rec k (pos.map L.get) (some kws)
        pure (.val v)
      | .sym (.fn f) => do
        let v ← callCallee P rec ⟨P.function, f, none⟩ (pos.map L.get) (some kws)
        pure (.val v)
      | .sym (.cls kl) =>
        -- Python instantiates the class (`A()` delivers a detached instance, `A(x: 1)` a TypeError): no counterpart in the
        -- reference semantics; flagged, never equated
        fail ("OUTSIDE THE MODEL: the class " ++ kl ++ " is called")
      | _ => fail "call of something that is not callable"
    | _ => fail "** of something that is not a dict"
  | .property v =>
    match L.get v with
    | .val x => pure (.val x)
    | _ => fail "property of something that is not a value"
  | .propertySelf a => do
    let fr ← getFr
    if a = "instance" then pure (.val fr.self) else fail "walker attribute"
  | .selfAttr a => do
    let fr ← getFr
    if a = "instance" then pure (.val fr.self) else if a = "return_value" then pure (.val fr.ret) else fail "walker attribute"
  | .selfAttrAt a key => do
    let k ← strOf nd L key
    let fr ← getFr
    if a = "kwargs" then
      match fr.params k with
      | some v => pure (.val v)
      | none => fail ("missing parameter " ++ k)
    else fail "walker attribute"
  | .propertyAttr obj name => do
    let n ← strOf nd L name
    if obj = "self" then (if n = "return_value" then pure .reg else fail "walker attribute")
    else match L.get obj with
      | .val v => do
        let i ← asInst v
        pure (.lval i n)
      | _ => fail "attribute of something that is not a value"
  | _ => fail "expression outside the handlers"

/-- `node.<f> == self.<attr>` / `<v> == self.<attr>` in a derived attribute walker -/
def iCond (nd : CNode) (L : Locals) (fr : Frame) : Cond → Bool
  | .fieldEqSelf f a => match fr.kind with
    | .derived _ attr => a = "attribute_name" && nd.str f == attr
    | _ => false
  | .localEqSelf v a => match L.get v with
    | .val x => a = "instance" && decide (x = fr.self)
    | _ => false
  | .both a b => iCond nd L fr a && iCond nd L fr b
  | .lowerEq _ _ => false

def cLoop (body : (String × M Val) → Locals → M (Locals × Sig)) : List (String × M Val) → Locals → M (Locals × Sig)
  | [], L => pure (L, .next)
  | x :: rest, L => do
    let r ← body x L
    match r.2 with
    | .next => cLoop body rest r.1
    | s => pure (r.1, s)

def thenSig (r : Locals × Sig) (k : Locals → M (Locals × Sig)) : M (Locals × Sig) :=
  match r.2 with
  | .next => k r.1
  | s => pure (r.1, s)

mutual
  def iStmt (C : Ctx) (P : Parts) (D : Dom) (rec : Oracle) (nd : CNode) : CStmt → Locals → M (Locals × Sig)
    | .assign dst e, L => do
      let v ← iExpr C P D rec nd L e
      pure (L.set dst v, .next)
    | .setItem dict key v, L => do
      let k ← strOf nd L key
      match L.get dict, L.get v with
      | .kwargs kw, .val x => pure (L.set dict (.kwargs (kw ++ [(k, x)])), .next)
      | _, _ => fail "item assignment"
    | .setSelf _ _, _ => fail "a handler stores into the walker"
    | .setSelfItem _ _ _, _ => fail "a handler stores into the walker"
    | .expr e, L => do
      let _ ← iExpr C P D rec nd L e
      pure (L, .next)
    | .ret e, L => do
      let v ← iExpr C P D rec nd L e
      pure (L, .ret v)
    | .forChildren var body, L =>
      cLoop (fun ch L' => iStmts C P D rec nd body (L'.set var (.param ch.1 ch.2))) nd.children L
    | .ifCond c thn els, L => do
      let fr ← getFr
      if iCond nd L fr c then iStmts C P D rec nd thn L else iStmts C P D rec nd els L
  def iStmts (C : Ctx) (P : Parts) (D : Dom) (rec : Oracle) (nd : CNode) : List CStmt → Locals → M (Locals × Sig)
    | [], L => pure (L, .next)
    | s :: rest, L => do
      let r ← iStmt C P D rec nd s L
      thenSig r (iStmts C P D rec nd rest)
end

theorem thenSig_next (L : Locals) (k : Locals → M (Locals × Sig)) : thenSig (L, .next) k = k L := rfl
theorem thenSig_ret (L : Locals) (v : PV) (k : Locals → M (Locals × Sig)) : thenSig (L, .ret v) k = pure (L, .ret v) := rfl
theorem thenSig_pure (r : Locals × Sig) : thenSig r (fun L => pure (L, .next)) = pure r := by
  cases r with | mk a b => cases b <;> rfl

/-- an expression handler: the value of the property it returns -/
def sigE : Sig → M Val
  | .ret (.val v) => pure v
  | _ => fail "the handler did not return a property"

def handlerE (C : Ctx) (P : Parts) (D : Dom) (rec : Oracle) (nd : CNode) (body : List CStmt) : M Val := do
  let r ← iStmts C P D rec nd body []
  sigE r.2

/-- `accept_ParameterListNode`: the dict it returns -/
def sigK : Sig → M (List (String × Val))
  | .ret (.kwargs kw) => pure kw
  | _ => fail "the handler did not return a dict"

def handlerK (C : Ctx) (P : Parts) (D : Dom) (rec : Oracle) (nd : CNode) (body : List CStmt) : M (List (String × Val)) := do
  let r ← iStmts C P D rec nd body []
  sigK r.2

/-! ### `InstanceSymbolTable.find_symbol` -/

/-- `SymbolTable.find_symbol` (its IR: Gen/InterpShape.lean `symtab`): the scope, then the domain's constants -/
def plainFind (C : Ctx) (x : String) : M Val := do
  let fr ← getFr
  match envLookup fr.env x with
  | some v => pure v
  | none =>
    match C.consts.lookup x with
    | some v => pure v
    | none => fail ("variable " ++ x ++ " is not set")

def symFindRet (C : Ctx) (x : String) : CStmt → Option (M Val)
  | .ret (.selfAttr a) => some (do
    let fr ← getFr
    if a = "instance" then pure fr.self else fail "attribute")
  | .ret (.baseCall b m args) =>
    some (if b = "SymbolTable" ∧ m = "find_symbol" ∧ args = ["name", "default"] then plainFind C x else fail "base call")
  | _ => none

/-- a branch without nesting: its first statement returns, or it is empty (falls through) -/
def symFindFlat (C : Ctx) (x : String) : List CStmt → Option (M Val)
  | [] => none
  | s :: _ => some ((symFindRet C x s).getD (fail "statement outside find_symbol"))

/-- `find_symbol(self, name, default)` with `name` = x -/
def symFindStmts (C : Ctx) (x : String) : List CStmt → M Val
  | [] => pure .none
  | .ifCond (.lowerEq v lit) thn els :: rest =>
    match (if v = "name" ∧ x.map Char.toLower == lit then symFindFlat C x thn else symFindFlat C x els) with
    | some m => m
    | none => symFindStmts C x rest
  | s :: _ => (symFindRet C x s).getD (fail "statement outside find_symbol")

/-- `one(r).S_ENUM[56, phrase]()` on the S_ENUM rows: 'succeeds' = the row `r` comes after, 'precedes' = the row that comes
    after `r` (the phrases of R56 in the ooaofooa schema) -/
def navEnum (rows : List EnumRow) (phrase : String) (r : EnumRow) : Option EnumRow :=
  if phrase = "succeeds" then rows.find? (fun r' => r'.id = r.prev)
  else if phrase = "precedes" then rows.find? (fun r' => r'.prev = r.id)
  else none

def iChain (rows : List EnumRow) (phrase : String) : Nat → Option EnumRow → List String
  | 0, _ => []
  | _, none => []
  | n + 1, some r => r.name :: iChain rows phrase n (navEnum rows phrase r)

/-- `mk_enum` on rows whose names are no Python keywords: the fields of the namedtuple in order -/
def iEnumOrder (sh : EnumShape) (rows : List EnumRow) : List String :=
  iChain rows sh.stepPhrase rows.length
    (rows.find? (fun r => (navEnum rows sh.firstPhrase r).isSome != sh.firstNegated))

def convOf (text : String) : Conv → Option Val
  | .lowerIsTrue => some (.bool (text.map Char.toLower == "true"))
  | .int => (parseInt text).map Val.int
  | .float => none                  -- reals are outside the value domain of the reference semantics
  | .str => some (.str text)

/-- `mk_constant`: the first `if s_dt.Name == <type>` that holds; falling off the end returns None (no constant) -/
def iConst : List (String × Conv) → String → String → Option Val
  | [], _, _ => none
  | (ty, c) :: rest, tyName, text => if tyName = ty then convOf text c else iConst rest tyName text

def enumNode (ns name : String) : CNode := { str := fun f => ([("namespace", ns), ("name", name)].lookup f).getD "" }

def gen : Parts :=
  { inits := inits, runs := runs, function := mk_function, bridge := mk_bridge, opInst := mk_operation_instance_based,
    opCls := mk_operation_class_based, derived := mk_derived_attribute, domain := domain, enumNumbering := mk_enum.numbering }

/-! ### the interpreter's equations (simp set `cshape`)

  A statement with its continuation under the bind and the locals consed, so that `simp only [cshape, <handler>]` runs a handler
  in one pass; what a handler computes is stated with the three functions below. -/

/-- `self.domain.find_symbol(<n>, <kinds>)` -/
def findSym (P : Parts) (D : Dom) (n : String) (kinds : List String) : M Sym :=
  match iFind P.domain D n kinds with
  | some s => pure s
  | none => fail ("Unknown symbol " ++ n)

/-- `<fn>(<pos…>, **<kw>)` by what `<fn>` holds -/
def callPV (P : Parts) (rec : Oracle) (pos : List PV) (kws : List (String × Val)) : PV → M Val
  | .callee k => callCallee P rec k pos (some kws)
  | .sym (.fn f) => callCallee P rec ⟨P.function, f, none⟩ pos (some kws)
  | .sym (.cls kl) => fail ("OUTSIDE THE MODEL: the class " ++ kl ++ " is called")
  | _ => fail "call of something that is not callable"

/-- the value an expression handler delivers when it returns `property(lambda: <v>)` -/
def propertyOf : PV → M Val
  | .val x => pure x
  | _ => fail "property of something that is not a value"

attribute [cshape_proc, csym_proc] String.reduceEq String.reduceBEq reduceCtorEq
attribute [cshape_proc ↓, csym_proc ↓] reduceIte
attribute [cshape] handlerE handlerK iExpr strOf bind_assoc pure_bind bind_pure thenSig_next thenSig_ret Locals.set bindParams
  argVals argVal initStmts initStmt objOf frameOf closureOf List.map List.lookup
  List.length List.zip List.zipWith List.cons_append List.nil_append Option.getD_some Option.some.injEq

@[cshape] theorem get_cons (x y : String) (v : PV) (L : Locals) :
    Locals.get ((y, v) :: L) x = if x = y then v else Locals.get L x := by
  rw [Locals.get, Pyx.lookup_cons]
  split <;> rfl

@[cshape] theorem sigE_val (v : Val) : sigE (.ret (.val v)) = pure v := rfl
@[cshape] theorem sigK_kwargs (kw : List (String × Val)) : sigK (.ret (.kwargs kw)) = pure kw := rfl
@[cshape] theorem propertyOf_val (v : Val) : propertyOf (.val v) = pure v := rfl
attribute [csym] Pyx.IShape.fail_bnd

section
variable (C : Ctx) (P : Parts) (D : Dom) (rec : Oracle) (nd : CNode) (L : Locals)

@[cshape] theorem iStmts_nil : iStmts C P D rec nd [] L = pure (L, .next) := by simp only [iStmts]

@[cshape] theorem thenSig_nil (r : Locals × Sig) : thenSig r (iStmts C P D rec nd []) = pure r := by
  rw [show iStmts C P D rec nd [] = fun L => pure (L, .next) from funext fun L => iStmts_nil C P D rec nd L, thenSig_pure]

@[cshape] theorem iStmts_assign (dst : String) (e : CExpr) (rest : List CStmt) :
    iStmts C P D rec nd (.assign dst e :: rest) L =
      iExpr C P D rec nd L e >>= fun v => iStmts C P D rec nd rest ((dst, v) :: L) := by
  simp only [iStmts, iStmt, bind_assoc, pure_bind, thenSig_next, Locals.set]

@[cshape] theorem iStmts_ret (e : CExpr) (rest : List CStmt) :
    iStmts C P D rec nd (.ret e :: rest) L = iExpr C P D rec nd L e >>= fun v => pure (L, .ret v) := by
  simp only [iStmts, iStmt, bind_assoc, pure_bind, thenSig_ret]

@[cshape] theorem iStmts_setItem (dict v : String) (key : Str) (rest : List CStmt) :
    iStmts C P D rec nd (.setItem dict key v :: rest) L =
      strOf nd L key >>= fun k => match L.get dict, L.get v with
        | .kwargs kw, .val x => iStmts C P D rec nd rest ((dict, .kwargs (kw ++ [(k, x)])) :: L)
        | _, _ => fail "item assignment" := by
  simp only [iStmts, iStmt, bind_assoc]
  apply bind_congr; intro k
  split <;> simp only [pure_bind, thenSig_next, Locals.set, Pyx.IShape.fail_bnd]

@[cshape] theorem iStmts_forChildren (var : String) (body rest : List CStmt) :
    iStmts C P D rec nd (.forChildren var body :: rest) L =
      cLoop (fun ch L' => iStmts C P D rec nd body ((var, .param ch.1 ch.2) :: L')) nd.children L >>= fun r =>
        thenSig r (iStmts C P D rec nd rest) := by
  simp only [iStmts, iStmt, Locals.set]

@[cshape] theorem iStmts_ifCond (c : Cond) (thn els rest : List CStmt) :
    iStmts C P D rec nd (.ifCond c thn els :: rest) L =
      getFr >>= fun fr => (if iCond nd L fr c then iStmts C P D rec nd thn L else iStmts C P D rec nd els L) >>= fun r =>
        thenSig r (iStmts C P D rec nd rest) := by
  simp only [iStmts, iStmt, bind_assoc]

/-! three expression forms are stated with `findSym`, `callPV`, `propertyOf` and must win over `iExpr`'s own equations (`↓ high`) -/

@[cshape ↓ high] theorem iExpr_domainFind (name : Str) (kinds : List String) (b : Bool) :
    iExpr C P D rec nd L (.domainFind name kinds b) =
      strOf nd L name >>= fun n => findSym P D n kinds >>= fun s => pure (.sym s) := by
  simp only [iExpr, findSym]
  apply bind_congr; intro n
  cases iFind P.domain D n kinds <;> rfl

@[cshape ↓ high] theorem iExpr_callKw (fn kw : String) (pos : List String) :
    iExpr C P D rec nd L (.callKw fn pos kw) =
      match L.get kw with
      | .kwargs kws => callPV P rec (pos.map L.get) kws (L.get fn) >>= fun v => pure (.val v)
      | _ => fail "** of something that is not a dict" := by
  simp only [iExpr]
  generalize L.get kw = a
  generalize L.get fn = b
  cases a <;> try rfl
  cases b <;> try rfl
  rename_i s
  cases s <;> rfl

@[cshape ↓ high] theorem iExpr_property (v : String) :
    iExpr C P D rec nd L (.property v) = propertyOf (L.get v) >>= fun x => pure (.val x) := by
  simp only [iExpr]
  cases L.get v <;> rfl
end

theorem newWalker_function (kw : List (String × Val)) :
    newWalker gen "FunctionWalker" [.dom, .kwargs kw] = some (mkFrame .function kw .none) := by
  simp only [cshape, newWalker, iInit, gen, inits, FunctionWalker_init, ActionWalker_init, or_true, true_or]

theorem newWalker_operation (kw : List (String × Val)) (v : Val) :
    newWalker gen "OperationWalker" [.dom, .kwargs kw, .val v] = some (mkFrame .operation kw v) := by
  simp only [cshape, newWalker, iInit, gen, inits, OperationWalker_init, ActionWalker_init, InstanceSymbolTable_init, or_true, true_or]

theorem newWalker_derived (a : String) (i : Inst) :
    newWalker gen "DerivedAttributeWalker" [.dom, .str a, .val (.inst i)] = some (mkFrame (.derived i a) [] (.inst i)) := by
  simp only [cshape, newWalker, iInit, gen, inits, DerivedAttributeWalker_init, ActionWalker_init, InstanceSymbolTable_init, or_true, true_or]

/-- `w.accept(root); return w.return_value` = `invoke` -/
theorem acceptOn_ret (rec : Oracle) (kind : WalkerKind) (body : Block) (kw : List (String × Val)) (self : Val) :
    (do let fr' ← acceptOn rec (mkFrame kind kw self) body
        pure fr'.ret) = invoke rec kind body kw self := by
  funext c
  simp only [bind_run, acceptOn, invoke]
  cases runBody rec body { fr := mkFrame kind kw self, st := c.st } with
  | none => rfl
  | some r => cases r with
    | error e => rfl
    | ok p => rfl

theorem run_function_eq (rec : Oracle) (body : Block) (kw : List (String × Val)) :
    iRun gen rec run_function [.dom, .label, .body body, .kwargs kw] = invoke rec .function body kw .none := by
  simp only [cshape, iRun, runStmts, run_function, newWalker_function]
  exact acceptOn_ret rec .function body kw .none

theorem run_operation_eq (rec : Oracle) (body : Block) (kw : List (String × Val)) (v : Val) :
    iRun gen rec run_operation [.dom, .label, .body body, .kwargs kw, .val v] = invoke rec .operation body kw v := by
  simp only [cshape, iRun, runStmts, run_operation, newWalker_operation]
  exact acceptOn_ret rec .operation body kw v

theorem run_derived_eq (rec : Oracle) (body : Block) (a : String) (i : Inst) :
    iRun gen rec run_derived_attribute [.dom, .label, .body body, .str a, .val (.inst i)] =
      invoke rec (.derived i a) body [] (.inst i) := by
  simp only [cshape, iRun, runStmts, run_derived_attribute, newWalker_derived]
  exact acceptOn_ret rec (.derived i a) body [] (.inst i)

/-- the callee shapes `callPV`, `getattrSym` and `classAttr` leave on `gen` are the generated constructors -/
@[csym] theorem gen_function : gen.function = mk_function := rfl
@[csym] theorem gen_bridge : gen.bridge = mk_bridge := rfl
@[csym] theorem gen_opInst : gen.opInst = mk_operation_instance_based := rfl
@[csym] theorem gen_opCls : gen.opCls = mk_operation_class_based := rfl
theorem gen_derived : gen.derived = mk_derived_attribute := rfl

@[csym] theorem call_function_eq (rec : Oracle) (f : Callable) (kw : List (String × Val)) :
    callCallee gen rec ⟨mk_function, f, none⟩ [] (some kw) = invoke rec .function f.body kw .none := by
  simp only [cshape, callCallee, mk_function, gen, runs]
  exact run_function_eq rec f.body kw

@[csym] theorem call_bridge_eq (rec : Oracle) (f : Callable) (kw : List (String × Val)) :
    callCallee gen rec ⟨mk_bridge, f, none⟩ [] (some kw) = invoke rec .function f.body kw .none :=
  call_function_eq rec f kw

@[csym] theorem call_opInst_eq (rec : Oracle) (f : Callable) (kl : Option String) (v : Val) (kw : List (String × Val)) :
    callCallee gen rec ⟨mk_operation_instance_based, f, kl⟩ [.val v] (some kw) = invoke rec .operation f.body kw v := by
  simp only [cshape, callCallee, mk_operation_instance_based, gen, runs]
  exact run_operation_eq rec f.body kw v

/-- an instance-based operation fetched from the class and called WITHOUT an instance (`KL::op()` on an instance-based `op`):
    the lambda's `self` is not supplied -/
@[csym] theorem call_opInst_noinst (rec : Oracle) (f : Callable) (kl : Option String) (kw : List (String × Val)) :
    callCallee gen rec ⟨mk_operation_instance_based, f, kl⟩ [] (some kw) = fail "arguments of the call" := rfl

@[csym] theorem call_opCls_eq (rec : Oracle) (f : Callable) (kl : String) (kw : List (String × Val)) :
    callCallee gen rec ⟨mk_operation_class_based, f, some kl⟩ [] (some kw) = invoke rec .operation f.body kw .none := by
  simp only [cshape, callCallee, mk_operation_class_based, gen, runs]
  exact run_operation_eq rec f.body kw .none

theorem call_derived_eq (rec : Oracle) (f : Callable) (kl : Option String) (i : Inst) :
    callCallee gen rec ⟨mk_derived_attribute, f, kl⟩ [.val (.inst i)] none =
      invoke rec (.derived i f.name) f.body [] (.inst i) := by
  simp only [cshape, callCallee, mk_derived_attribute, gen, runs]
  exact run_derived_eq rec f.body f.name i

def paramNodes (rec : Oracle) (args : List (String × Expr)) : List (String × M Val) :=
  args.map (fun a => (a.1, rec.eval a.2))

/-- the locals after one round of the loop of accept_ParameterListNode -/
def pstep (x : String × M Val) (v : Val) (L : Locals) (acc : List (String × Val)) : Locals :=
  ("kwargs", .kwargs (acc ++ [(x.1, v)])) :: ("value", .val v) :: ("child", .param x.1 x.2) :: L

theorem evalArgs_loop (rec : Oracle) (body : (String × M Val) → Locals → M (Locals × Sig))
    (K : Locals × Sig → M (List (String × Val)))
    (hb : ∀ x L acc, L.get "kwargs" = .kwargs acc → body x L = do let v ← x.2; pure (pstep x v L acc, .next))
    (hK : ∀ L acc, L.get "kwargs" = .kwargs acc → K (L, .next) = pure acc) :
    ∀ (args : List (String × Expr)) (L : Locals) (acc : List (String × Val)), L.get "kwargs" = .kwargs acc →
      (do let r ← cLoop body (paramNodes rec args) L
          K r) = (do let r ← evalArgs rec args; pure (acc ++ r))
  | [], L, acc, h => by
    simp only [paramNodes, List.map, cLoop, pure_bind, hK L acc h, evalArgs, List.append_nil]
  | (n, e) :: rest, L, acc, h => by
    -- the dict is an accumulator, hence any `acc`: `pstep`'s "kwargs" entry restores the invariant for `acc ++ [(n, v)]` by `rfl`
    have ih := fun v => evalArgs_loop rec body K hb hK rest (pstep (n, rec.eval e) v L acc) (acc ++ [(n, v)]) rfl
    simp only [paramNodes] at ih
    simp only [paramNodes, List.map, cLoop, hb _ L acc h, bind_assoc, pure_bind, evalArgs, ih, List.append_assoc,
      List.cons_append, List.nil_append]

theorem paramList_eq (C : Ctx) (P : Parts) (D : Dom) (rec : Oracle) (args : List (String × Expr)) :
    evalArgs rec args = handlerK C P D rec { children := paramNodes rec args } accept_ParameterListNode := by
  simp only [cshape, accept_ParameterListNode]
  symm
  refine (evalArgs_loop rec _ _ ?_ ?_ args [("kwargs", .kwargs [])] [] rfl).trans ?_
  · intro x L acc hacc
    simp only [cshape, hacc, pstep]
  · intro L acc hacc
    simp only [cshape, hacc]
  · simp only [List.nil_append, bind_pure]

/-- the node of an invocation: its names, its handle, and its parameter list — accepted by the INTERPRETED
    accept_ParameterListNode -/
def invNode (C : Ctx) (P : Parts) (D : Dom) (rec : Oracle) (fields : List (String × String)) (h : Option (M Val))
    (args : List (String × Expr)) : CNode :=
  { str := fun f => (fields.lookup f).getD ""
    acceptE := fun f => if f = "handle" then h else none
    acceptK := fun f => if f = "parameter_list"
      then some (handlerK C P D rec { children := paramNodes rec args } accept_ParameterListNode) else none }

def paramNode (x : String) : CNode := { str := fun f => if f = "variable_name" then x else "" }

section
variable (C : Ctx) (P : Parts) (D : Dom) (rec : Oracle) (fields : List (String × String)) (h : Option (M Val))
  (args : List (String × Expr)) (L : Locals)

@[cshape] theorem invNode_params :
    (invNode C P D rec fields h args).acceptK "parameter_list" = some (evalArgs rec args) := by
  simp only [invNode, ↓reduceIte, paramList_eq C P D rec args]

@[cshape] theorem invNode_handle : (invNode C P D rec fields h args).acceptE "handle" = h := rfl

@[cshape] theorem invNode_str (f : String) : (invNode C P D rec fields h args).str f = (fields.lookup f).getD "" := rfl
end

section
variable (C : Ctx) (P : Parts) (D : Dom) (rec : Oracle) (ns name : String) (args : List (String × Expr))

theorem function_handler :
    handlerE C P D rec (invNode C P D rec [("action_name", name)] none args) accept_FunctionInvocationNode =
      (do let kw ← evalArgs rec args
          let s ← findSym P D name ["function"]
          callPV P rec [] kw (.sym s)) := by
  simp only [cshape, accept_FunctionInvocationNode]

theorem bridge_handler :
    handlerE C P D rec (invNode C P D rec [("namespace", ns), ("action_name", name)] none args) accept_BridgeInvocationNode =
      (do let kw ← evalArgs rec args
          let s ← findSym P D ns ["external entity"]
          let fn ← getattrSym C P s name
          callPV P rec [] kw fn) := by
  simp only [cshape, accept_BridgeInvocationNode]

theorem implicit_handler :
    handlerE C P D rec (invNode C P D rec [("namespace", ns), ("action_name", name)] none args) accept_ImplicitInvocationNode =
      (do let kw ← evalArgs rec args
          let s ← findSym P D ns ["external entity", "class"]
          let fn ← getattrSym C P s name
          callPV P rec [] kw fn) := by
  simp only [cshape, accept_ImplicitInvocationNode]

/-- the operation is fetched BEFORE the parameters are evaluated -/
theorem class_handler :
    handlerE C P D rec (invNode C P D rec [("key_letter", ns), ("action_name", name)] none args) accept_ClassInvocationNode =
      (do let s ← findSym P D ns ["class"]
          let op ← getattrSym C P s name
          let kw ← evalArgs rec args
          callPV P rec [] kw op) := by
  simp only [cshape, accept_ClassInvocationNode]

theorem instance_handler (h : M Val) :
    handlerE C P D rec (invNode C P D rec [("action_name", name)] (some h) args) accept_InstanceInvocationNode =
      (do let v ← h
          let i ← asInst v
          let op ← classAttr C P i.cls name
          let kw ← evalArgs rec args
          callPV P rec [.val v] kw op) := by
  simp only [cshape, accept_InstanceInvocationNode]

theorem enum_handler :
    handlerE C P D rec (enumNode ns name) accept_EnumOrNamedConstantNode =
      (do let s ← findSym P D ns ["enumeration"]
          let x ← getattrSym C P s name
          propertyOf x) := by
  simp only [cshape, accept_EnumOrNamedConstantNode, enumNode]

/-- `self.kwargs[variable_name]`: the handler FunctionWalker and OperationWalker each define -/
theorem param_handler (x : String) (body : List CStmt)
    (hb : body = [.assign "value" (.selfAttrAt "kwargs" (.field "variable_name")), .ret (.property "value")]) :
    handlerE C P D rec (paramNode x) body =
      (do let fr ← getFr
          match fr.params x with
          | some v => pure v
          | none => fail ("missing parameter " ++ x)) := by
  subst hb
  simp only [cshape, paramNode]
  apply bind_congr; intro fr
  cases fr.params x <;> rfl

/-- `self.instance`: the handler OperationWalker and DerivedAttributeWalker each define -/
theorem self_handler (body : List CStmt) (hb : body = [.ret (.propertySelf "instance")]) :
    handlerE C P D rec {} body = (do let fr ← getFr; pure fr.self) := by
  subst hb
  simp only [cshape]
end

/-! ### `Domain.find_symbol` as generated -/

def kindProbe (D : Dom) (name k : String) : Option Sym :=
  (D.byKind k name).or (if k = "class" ∧ D.isMetaclass name = true then D.findClass name else none)

theorem iFind_domain (D : Dom) (name : String) (ks : List String) :
    iFind domain D name ks = (ks.findSome? (kindProbe D name)).or ((D.untyped name).or (D.findClass name)) := by
  -- the source's two nested loops (the kinds, the probes of a kind) are one search over the kinds, the probes of a kind fused
  have h : ∀ ks : List String, (ks.flatMap (fun k => domain.perKind.map (fun p => (k, p)))).findSome?
      (fun kp => probe D name (some kp.1) kp.2) = ks.findSome? (kindProbe D name) := by
    intro ks
    induction ks with
    | nil => rfl
    | cons k ks ih =>
      simp only [List.flatMap_cons, List.findSome?_append, ih, List.findSome?_cons]
      simp only [domain, List.map, List.findSome?, probe, kindProbe]
      generalize D.byKind k name = a
      generalize (if k = "class" ∧ D.isMetaclass name = true then D.findClass name else none) = b
      cases a <;> cases b <;> rfl
  simp only [iFind, h]
  cases ks.findSome? (kindProbe D name) with
  | some s => rfl
  | none =>
    simp only [domain, List.findSome?, probe, Option.none_or]
    cases D.untyped name <;> cases D.findClass name <;> rfl

theorem iFind_hit (D : Dom) (name k : String) (ks : List String) (s : Sym) (h : D.byKind k name = some s) :
    iFind domain D name (k :: ks) = some s := by
  rw [iFind_domain, List.findSome?_cons, kindProbe, h]
  rfl

theorem iFind_skip (D : Dom) (name k : String) (ks : List String) (h : D.byKind k name = none)
    (hk : k ≠ "class" ∨ D.isMetaclass name = false) : iFind domain D name (k :: ks) = iFind domain D name ks := by
  have hp : kindProbe D name k = none := by
    rcases hk with hk | hk <;> simp [kindProbe, h, hk]
  rw [iFind_domain, iFind_domain, List.findSome?_cons, hp]

theorem iFind_class (D : Dom) (name : String) (ks : List String) (s : Sym) (h : D.byKind "class" name = none)
    (hm : D.isMetaclass name = true) (hc : D.findClass name = some s) : iFind domain D name ("class" :: ks) = some s := by
  rw [iFind_domain, List.findSome?_cons, kindProbe, h, hm, hc]
  rfl

theorem findCallable_some {C : Ctx} {p : Callable → Bool} {f : Callable} (h : findCallable C p = some f) :
    p f = true ∧ f ∈ C.callables := ⟨List.find?_some h, List.mem_of_find?_eq_some h⟩

theorem hasBridges_of_found {C : Ctx} {ns name : String} {f : Callable}
    (h : findCallable C (fun f => f.kind = .bridge ns ∧ f.name = name) = some f) : hasBridges C ns = true ∧ f.kind = .bridge ns := by
  obtain ⟨hp, hm⟩ := findCallable_some h
  simp only [decide_eq_true_eq] at hp
  exact ⟨List.any_eq_true.mpr ⟨f, hm, by simp [hp.1]⟩, hp.1⟩

theorem no_bridge_of_none {C : Ctx} {ns : String} (h : hasBridges C ns = false) (name : String) :
    findCallable C (fun f => f.kind = .bridge ns ∧ f.name = name) = none := by
  apply List.find?_eq_none.mpr
  intro f hf
  have := (List.any_eq_false.mp h) f hf
  simp only [decide_eq_true_eq] at this
  simp [this]

theorem classOp_kind {C : Ctx} {ns name : String} {f : Callable}
    (h : findCallable C (fun f => f.kind = .classOp ns ∧ f.name = name) = some f) : f.kind = .classOp ns := by
  have := (findCallable_some h).1
  simp only [decide_eq_true_eq] at this
  exact this.1

/-- `find_class(n)` on the classes of `C`: the field `findClass` of `domOf C u`, which does not depend on `u` -/
def classSym (C : Ctx) (n : String) : Option Sym := if (findClass C n).isSome then some (.cls n) else none

attribute [csym] evalStep resolveNs findSym getattrSym classAttr callPV classSym pure_bind Option.some_or Option.none_or
  Option.or_none Bool.false_eq_true

/-! what `find_symbol` delivers for the kinds the handlers ask for, on the dictionaries of `C` with ANY untyped dictionary `u` -/
section
variable (C : Ctx) (u : String → Option Sym) (n : String)

theorem iFind_gen_function :
    iFind gen.domain (domOf C u) n ["function"] =
      (match findCallable C (fun f => f.kind = .function ∧ f.name = n) with
       | some f => some (.fn f)
       | none => (u n).or (classSym C n)) := by
  show iFind domain _ _ _ = _
  rw [iFind_domain]
  simp only [List.findSome?, kindProbe, domOf, String.reduceEq, ↓reduceIte, false_and, Option.or_none]
  cases findCallable C (fun f => f.kind = .function ∧ f.name = n) <;> rfl

theorem iFind_gen_ee :
    iFind gen.domain (domOf C u) n ["external entity"] =
      if hasBridges C n then some (.ee n) else (u n).or (classSym C n) := by
  show iFind domain _ _ _ = _
  rw [iFind_domain]
  simp only [List.findSome?, kindProbe, domOf, String.reduceEq, ↓reduceIte, false_and, Option.or_none]
  cases hasBridges C n <;> rfl

theorem iFind_gen_ee_class :
    iFind gen.domain (domOf C u) n ["external entity", "class"] =
      if hasBridges C n then some (.ee n) else (classSym C n).or (u n) := by
  show iFind domain _ _ _ = _
  rw [iFind_domain]
  simp only [List.findSome?, kindProbe, domOf, String.reduceEq, ↓reduceIte, false_and, true_and, Option.or_none,
    Option.none_or, classSym]
  cases hasBridges C n <;> cases (findClass C n).isSome <;> cases u n <;> rfl

theorem iFind_gen_class : iFind gen.domain (domOf C u) n ["class"] = (classSym C n).or (u n) := by
  show iFind domain _ _ _ = _
  rw [iFind_domain]
  simp only [List.findSome?, kindProbe, domOf, String.reduceEq, ↓reduceIte, true_and, Option.none_or, classSym]
  cases (findClass C n).isSome <;> cases u n <;> rfl

theorem iFind_gen_enum :
    iFind gen.domain (domOf C u) n ["enumeration"] =
      (match C.enums.find? (fun d => d.name = n) with
       | some d => some (.enum d)
       | none => (u n).or (classSym C n)) := by
  show iFind domain _ _ _ = _
  rw [iFind_domain]
  simp only [List.findSome?, kindProbe, domOf, String.reduceEq, ↓reduceIte, false_and, Option.or_none]
  cases C.enums.find? (fun d => d.name = n) <;> rfl
end

theorem function_call_eq (C : Ctx) (u : String → Option Sym) (rec : Oracle) (name : String) (args : List (String × Expr))
    (f : Callable) (hf : findCallable C (fun f => f.kind = .function ∧ f.name = name) = some f) :
    evalStep C rec (.call .function name args) =
      handlerE C gen (domOf C u) rec (invNode C gen (domOf C u) rec [("action_name", name)] none args)
        accept_FunctionInvocationNode := by
  rw [function_handler]
  simp only [csym, iFind_gen_function, hf]

theorem bridge_call_eq (C : Ctx) (u : String → Option Sym) (rec : Oracle) (ns name : String) (args : List (String × Expr))
    (f : Callable) (hb : findCallable C (fun f => f.kind = .bridge ns ∧ f.name = name) = some f) :
    evalStep C rec (.call (.bridge ns) name args) =
      handlerE C gen (domOf C u) rec (invNode C gen (domOf C u) rec [("namespace", ns), ("action_name", name)] none args)
        accept_BridgeInvocationNode := by
  obtain ⟨hee, hk⟩ := hasBridges_of_found hb
  simp only [bridge_handler, csym, iFind_gen_ee, hee, hb, hk]

theorem implicit_bridge_call_eq (C : Ctx) (u : String → Option Sym) (rec : Oracle) (ns name : String)
    (args : List (String × Expr)) (f : Callable)
    (hb : findCallable C (fun f => f.kind = .bridge ns ∧ f.name = name) = some f) :
    evalStep C rec (.call (.implicit ns) name args) =
      handlerE C gen (domOf C u) rec (invNode C gen (domOf C u) rec [("namespace", ns), ("action_name", name)] none args)
        accept_ImplicitInvocationNode := by
  obtain ⟨hee, hk⟩ := hasBridges_of_found hb
  simp only [implicit_handler, csym, iFind_gen_ee_class, hee, hb, hk]

theorem implicit_classOp_call_eq (C : Ctx) (u : String → Option Sym) (rec : Oracle) (ns name : String)
    (args : List (String × Expr)) (f : Callable) (hne : hasBridges C ns = false) (hcls : (findClass C ns).isSome = true)
    (hc : findCallable C (fun f => f.kind = .classOp ns ∧ f.name = name) = some f) :
    evalStep C rec (.call (.implicit ns) name args) =
      handlerE C gen (domOf C u) rec (invNode C gen (domOf C u) rec [("namespace", ns), ("action_name", name)] none args)
        accept_ImplicitInvocationNode := by
  simp only [implicit_handler, csym, no_bridge_of_none hne, iFind_gen_ee_class, hne, hcls, hc, classOp_kind hc]

theorem class_call_eq (C : Ctx) (u : String → Option Sym) (rec : Oracle) (ns name : String)
    (args : List (String × Expr)) (f : Callable)
    (hcls : (findClass C ns).isSome = true)
    (hc : findCallable C (fun f => f.kind = .classOp ns ∧ f.name = name) = some f) :
    evalStep C rec (.call (.classOp ns) name args) =
      handlerE C gen (domOf C u) rec (invNode C gen (domOf C u) rec [("key_letter", ns), ("action_name", name)] none args)
        accept_ClassInvocationNode := by
  simp only [class_handler, csym, iFind_gen_class, hcls, hc]

theorem instance_call_eq (C : Ctx) (u : String → Option Sym) (rec : Oracle) (h : Expr) (name : String)
    (args : List (String × Expr))
    (hnc : ∀ kl, findCallable C (fun f => f.kind = .classOp kl ∧ f.name = name) = none) :
    evalStep C rec (.callInst h name args) =
      handlerE C gen (domOf C u) rec (invNode C gen (domOf C u) rec [("action_name", name)] (some (rec.eval h)) args)
        accept_InstanceInvocationNode := by
  rw [instance_handler]
  -- `classAttr` (getattr on the class) tries a class-based operation first; without one (`hnc`) it is `evalStep`'s look-up
  simp only [evalStep, classAttr, hnc]
  apply bind_congr; intro v
  cases v with
  | inst i =>
    simp only [asInst, pure_bind]
    cases findCallable C (fun f => f.kind = .instOp i.cls ∧ f.name = name) with
    | none => rfl
    | some f => simp only [csym]
  | _ => rfl

theorem enumerator_eq (C : Ctx) (u : String → Option Sym) (rec : Oracle) (ns name : String) (d : EnumDecl)
    (hd : C.enums.find? (fun d => d.name = ns) = some d) :
    evalStep C rec (.enumOrConst ns name) =
      handlerE C gen (domOf C u) rec { str := fun f => ([("namespace", ns), ("name", name)].lookup f).getD "" }
        accept_EnumOrNamedConstantNode := by
  rw [← enumNode, enum_handler]
  simp only [csym, iFind_gen_enum, hd]
  cases posOf name d.enumerators <;> rfl

theorem param_function_eq (C : Ctx) (P : Parts) (D : Dom) (rec : Oracle) (x : String) (c : Cfg)
    (hk : c.fr.kind = .function) :
    evalStep C rec (.param x) c = handlerE C P D rec (paramNode x) FunctionWalker_accept_ParamAccessNode c := by
  rw [param_handler C P D rec x FunctionWalker_accept_ParamAccessNode rfl]
  simp only [evalStep, bind_run, getFr_run, hk]
  rfl

theorem param_operation_eq (C : Ctx) (P : Parts) (D : Dom) (rec : Oracle) (x : String) (c : Cfg)
    (hk : c.fr.kind = .operation) :
    evalStep C rec (.param x) c = handlerE C P D rec (paramNode x) OperationWalker_accept_ParamAccessNode c := by
  rw [param_handler C P D rec x OperationWalker_accept_ParamAccessNode rfl]
  simp only [evalStep, bind_run, getFr_run, hk]
  rfl

theorem self_operation_eq (C : Ctx) (P : Parts) (D : Dom) (rec : Oracle) (c : Cfg) (hk : c.fr.kind ≠ .function) :
    evalStep C rec .self c = handlerE C P D rec {} OperationWalker_accept_SelfAccessNode c ∧
    evalStep C rec .self c = handlerE C P D rec {} DerivedAttributeWalker_accept_SelfAccessNode c := by
  rw [self_handler C P D rec OperationWalker_accept_SelfAccessNode rfl,
    self_handler C P D rec DerivedAttributeWalker_accept_SelfAccessNode rfl]
  simp only [evalStep, bind_run, getFr_run, and_self]

theorem selfHit_eq {fr : Frame} (x : String) (h : fr.kind ≠ .function) : selfHit fr x = (x.map Char.toLower == "self") := by
  unfold selfHit
  cases hk : fr.kind with
  | function => exact absurd hk h
  | _ => rfl

/-- `InstanceSymbolTable.find_symbol` in operations and derived attributes, the plain table in functions -/
theorem self_name_eq (C : Ctx) (x : String) (c : Cfg) :
    (c.fr.kind ≠ .function → lookupVar C x c = symFindStmts C x InstanceSymbolTable_find_symbol c) ∧
    (c.fr.kind = .function → lookupVar C x c = plainFind C x c) := by
  refine ⟨fun hk => ?_, fun hk => ?_⟩
  · simp only [lookupVar, InstanceSymbolTable_find_symbol, symFindStmts, symFindFlat, symFindRet, bind_run, getFr_run,
      selfHit_eq x hk, true_and, Option.getD_some]
    cases x.map Char.toLower == "self" <;> simp only [Bool.false_eq_true, ↓reduceIte, plainFind, bind_run, getFr_run] <;> rfl
  · have hs : selfHit c.fr x = false := by
      unfold selfHit
      rw [hk]
    simp only [lookupVar, plainFind, bind_run, getFr_run, hs, Bool.false_eq_true, ↓reduceIte]
    rfl

theorem enumChain_eq (rows : List EnumRow) : ∀ n r, enumChain rows n r = iChain rows mk_enum.stepPhrase n r
  | 0, _ => rfl
  | n + 1, none => rfl
  | n + 1, some r => by
    simp only [enumChain, iChain, enumChain_eq rows n]
    rfl

theorem enumOrder_eq (rows : List EnumRow) : enumOrder rows = iEnumOrder mk_enum rows := by
  simp only [enumOrder, iEnumOrder, enumChain_eq]
  congr 2
  funext r
  simp only [EnumRow.isFirst, mk_enum, navEnum, ↓reduceIte, Bool.not_eq_eq_eq_not]
  rw [Bool.eq_iff_iff]
  simp [List.find?_isSome, List.any_eq_true]

theorem constVal_eq (tyName text : String) : constVal tyName text = iConst mk_constant tyName text := by
  simp only [constVal, iConst, mk_constant, convOf]
  by_cases h1 : tyName = "boolean"
  · simp [h1]
  · by_cases h2 : tyName = "integer"
    · simp [h2]
    · by_cases h3 : tyName = "real"
      · simp [h3]
      · simp [h1, h2, h3]

end Pyx.CShape
