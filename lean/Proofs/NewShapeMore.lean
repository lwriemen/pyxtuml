import Proofs.NewShape

/-!
  C19 source tie, second part:

  * the GENERIC id generator of the model (`IdGen`: `_current = stream pos`, the k-th `readfunc()` call returns
    `stream k`, whatever the stream is) against the statement lists of `IdGenerator.__init__ / peek / next`
    (Proofs/NewShape.lean has the integer generator, whose `readfunc` is a function of `_current`);
  * SEQUENCES: any interleaving of `peek` / `next` on a generator (`IntGen.run`, `IdGen.run`), any sequence of
    constructor calls on one metamodel (`newMany`), any history of creations interleaved with the user's own
    `next` / `peek` (`runHist`) — each is the interpretation of the generated statement lists, call after call.
-/
namespace Pyx.NShape
open Pyx.Attr Pyx.NewInst Pyx.Gen.NewShape

/-! ### a generator whose `readfunc` is the k-th value of a stream -/

structure SRegs where
  calls : Nat                        -- number of `readfunc()` calls made so far
  current : Int                      -- self._current
  saved : Option Int                 -- the local `val`
  ret : Option Int
  done : Bool

def iSStmt (stream : Nat → Int) (r : SRegs) : GStmt → SRegs
  | .drawCurrent => { r with current := stream r.calls, calls := r.calls + 1 }
  | .saveCurrent => { r with saved := some r.current }
  | .returnCurrent => { r with ret := some r.current, done := true }
  | .returnSaved => { r with ret := r.saved, done := true }

def iSSteps (stream : Nat → Int) : List GStmt → SRegs → SRegs
  | [], r => r
  | s :: rest, r =>
    let r' := iSStmt stream r s
    if r'.done then r' else iSSteps stream rest r'

def iSRun (stream : Nat → Int) (body : List GStmt) (calls : Nat) (current : Int) : SRegs :=
  iSSteps stream body { calls := calls, current := current, saved := none, ret := none, done := false }

theorem idGen_eq (g : IdGen) (c0 : Int) :
    (iSRun g.stream genInit 0 c0).current = IdGen.peek { g with pos := 0 } ∧
    (iSRun g.stream genInit 0 c0).calls = 1 ∧
    (iSRun g.stream genPeek (g.pos + 1) g.peek).ret = some g.peek ∧
    (iSRun g.stream genPeek (g.pos + 1) g.peek).current = g.peek ∧
    (iSRun g.stream genPeek (g.pos + 1) g.peek).calls = g.pos + 1 ∧
    (iSRun g.stream genNext (g.pos + 1) g.peek).ret = some g.next.1 ∧
    (iSRun g.stream genNext (g.pos + 1) g.peek).current = g.next.2.peek ∧
    (iSRun g.stream genNext (g.pos + 1) g.peek).calls = g.next.2.pos + 1 ∧
    g.next.2.stream = g.stream :=
  ⟨rfl, rfl, rfl, rfl, rfl, rfl, rfl, rfl, rfl⟩

def opBody (peekB nextB : List GStmt) : GOp → List GStmt
  | .peek => peekB
  | .next => nextB

/-- the values returned by the calls (`none` = a call returned no value) and the final `_current` -/
def iGOps (readfunc : Int → Int) (peekB nextB : List GStmt) : List GOp → Int → List (Option Int) × Int
  | [], c => ([], c)
  | op :: r, c =>
    let regs := iGRun readfunc (opBody peekB nextB op) c
    let rest := iGOps readfunc peekB nextB r regs.current
    (regs.ret :: rest.1, rest.2)

theorem intGen_run_eq : ∀ (ops : List GOp) (g : IntGen),
    (IntGen.run ops g).1.map some = (iGOps (fun cur => cur + intIncrement) genPeek genNext ops g.current).1 ∧
    (IntGen.run ops g).2.current = (iGOps (fun cur => cur + intIncrement) genPeek genNext ops g.current).2
  | [], _ => ⟨rfl, rfl⟩
  | .peek :: r, g => by
    obtain ⟨h1, h2⟩ := intGen_run_eq r g
    refine ⟨?_, ?_⟩
    · simp only [IntGen.run, List.map_cons, iGOps]
      rw [h1]; rfl
    · simp only [IntGen.run, iGOps]
      rw [h2]; rfl
  | .next :: r, g => by
    obtain ⟨h1, h2⟩ := intGen_run_eq r (IntGen.next g).2
    refine ⟨?_, ?_⟩
    · simp only [IntGen.run, List.map_cons, iGOps]
      rw [h1]; rfl
    · simp only [IntGen.run, iGOps]
      rw [h2]; rfl

/-- the values returned and the final position (= calls made − 1) -/
def iSOps (stream : Nat → Int) (peekB nextB : List GStmt) : List GOp → Nat → List (Option Int) × Nat
  | [], pos => ([], pos)
  | op :: r, pos =>
    let regs := iSRun stream (opBody peekB nextB op) (pos + 1) (stream pos)
    let rest := iSOps stream peekB nextB r (regs.calls - 1)
    (regs.ret :: rest.1, rest.2)

theorem idGen_run_eq (stream : Nat → Int) : ∀ (ops : List GOp) (pos : Nat),
    (IdGen.run ops ⟨stream, pos⟩).1.map some = (iSOps stream genPeek genNext ops pos).1 ∧
    (IdGen.run ops ⟨stream, pos⟩).2.pos = (iSOps stream genPeek genNext ops pos).2 ∧
    (IdGen.run ops ⟨stream, pos⟩).2.stream = stream
  | [], _ => ⟨rfl, rfl, rfl⟩
  | .peek :: r, pos => by
    obtain ⟨h1, h2, h3⟩ := idGen_run_eq stream r pos
    refine ⟨?_, ?_, ?_⟩
    · simp only [IdGen.run, List.map_cons, iSOps]
      rw [h1]; rfl
    · simp only [IdGen.run, iSOps]
      rw [h2]; rfl
    · simp only [IdGen.run]; exact h3
  | .next :: r, pos => by
    obtain ⟨h1, h2, h3⟩ := idGen_run_eq stream r (pos + 1)
    refine ⟨?_, ?_, ?_⟩
    · simp only [IdGen.run, IdGen.next, List.map_cons, iSOps]
      rw [h1]; rfl
    · simp only [IdGen.run, IdGen.next, iSOps]
      rw [h2]; rfl
    · simp only [IdGen.run, IdGen.next]; exact h3

def iNewMany (loops : List AssignLoop) (stream : Nat → Int) : List Call → Nat → List Made × Nat
  | [], pos => ([], pos)
  | call :: r, pos =>
    let m := iNewOne loops stream call pos
    let ms := iNewMany loops stream r m.2
    (m.1 :: ms.1, ms.2)

theorem newMany_eq (stream : Nat → Int) : ∀ (calls : List Call) (pos : Nat), (∀ call ∈ calls, WF call.cls) →
    newMany stream calls pos = iNewMany newLoops stream calls pos
  | [], _, _ => rfl
  | call :: r, pos, h => by
    have hc : WF call.cls := h call (by simp)
    have hr : ∀ c ∈ r, WF c.cls := fun c hc' => h c (by simp [hc'])
    simp only [newMany, iNewMany]
    rw [newOne_eq stream call pos hc, newMany_eq stream r _ hr]

/-- a creation runs the interpreted loops at the current position; the user's own `next()` / `peek()` run the
    interpreted method bodies on the generator (`pos + 1` calls of `readfunc` made, `_current = stream pos`) -/
def iRunHist (loops : List AssignLoop) (peekB nextB : List GStmt) (stream : Nat → Int) :
    List HOp → Nat → List (Call × Made) × Nat
  | [], pos => ([], pos)
  | .create c :: r, pos =>
    let m := iNewOne loops stream c pos
    let ms := iRunHist loops peekB nextB stream r m.2
    ((c, m.1) :: ms.1, ms.2)
  | .next :: r, pos => iRunHist loops peekB nextB stream r ((iSRun stream nextB (pos + 1) (stream pos)).calls - 1)
  | .peek :: r, pos => iRunHist loops peekB nextB stream r ((iSRun stream peekB (pos + 1) (stream pos)).calls - 1)

theorem runHist_eq (stream : Nat → Int) : ∀ (h : List HOp) (pos : Nat), (∀ c, HOp.create c ∈ h → WF c.cls) →
    runHist stream h pos = iRunHist newLoops genPeek genNext stream h pos
  | [], _, _ => rfl
  | .create c :: r, pos, hw => by
    have hc : WF c.cls := hw c (by simp)
    have hr : ∀ c', HOp.create c' ∈ r → WF c'.cls := fun c' h' => hw c' (by simp [h'])
    simp only [runHist, iRunHist]
    rw [newOne_eq stream c pos hc, runHist_eq stream r _ hr]
  | .next :: r, pos, hw => by
    have hr : ∀ c', HOp.create c' ∈ r → WF c'.cls := fun c' h' => hw c' (by simp [h'])
    simp only [runHist, iRunHist]
    rw [runHist_eq stream r _ hr]; rfl
  | .peek :: r, pos, hw => by
    have hr : ∀ c', HOp.create c' ∈ r → WF c'.cls := fun c' h' => hw c' (by simp [h'])
    simp only [runHist, iRunHist]
    rw [runHist_eq stream r _ hr]; rfl

end Pyx.NShape
