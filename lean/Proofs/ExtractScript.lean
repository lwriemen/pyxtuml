import Proofs.ExtractRelEdits
import Proofs.ExtractAttrEdits

/-!
  C14 — the edit theorems joined: an edit that is applicable (`EditOk`) commutes with extraction (`edit_commutes_all`) and
  keeps the diagram well-formed (`applyEdit_wf`), which is what the next edit of a script needs (`script_commutes`).
-/

namespace Pyx.Extract

/-- when an edit is applicable (the sites the harness generates):
    * rename: the new name is not the name of another attribute of the class
    * retype (of a base / derived attribute): the old and the new data type are supported ones
    * reorder: the new order is a permutation of the class's attributes -/
def EditOk (d : ClassDiagram) : Edit → Prop
  | .renameAttr c a new => ∀ kc, findClass d c = some kc → ∀ x ∈ kc.attrs, x.name = new → x.id = a
  | .retypeAttr c a dt => ∀ kc xa, findClass d c = some kc → kc.findAttr a = some xa →
      (∀ c' b, xa.kind ≠ .ref c' b) → (dtTypeName d.dts dt).isSome = true ∧ (attrTy d xa).isSome = true
  | .reorderAttrs c perm => ∀ kc, findClass d c = some kc → perm.Perm (kc.attrs.map (·.id))
  | _ => True

theorem edit_commutes_all {d : ClassDiagram} (wf : WF d) (e : Edit) (ok : EditOk d e)
    (comp : Option Nat) (drv : Bool) :
    extract (applyEdit e d) comp drv = schemaEdit (resolve d comp drv e) (extract d comp drv) := by
  cases e with
  | renameAttr c a new => exact rename_commutes wf c a new comp drv
  | retypeAttr c a dt => exact retype_commutes wf c a dt comp drv ok
  | reorderAttrs c perm => exact reorder_commutes wf c perm comp drv ok
  | setMult r sel v => exact setMult_commutes wf r sel v comp drv
  | setCond r sel v => exact setCond_commutes wf r sel v comp drv
  | setPhrase r sel v => exact setPhrase_commutes wf r sel v comp drv
  | moveClass c p => exact moveClass_commutes wf c p comp drv
  | moveRel r p => exact moveRel_commutes wf r p comp drv

theorem wf_mapClasses {d : ClassDiagram} (wf : WF d) {g : Class → Class}
    (hid : ∀ k, (g k).id = k.id) (hkl : ∀ k, (g k).kl = k.kl)
    (hai : ∀ k ∈ d.classes, ((g k).attrs.map (·.id)).Nodup)
    (han : ∀ k ∈ d.classes, ((g k).attrs.map (·.name)).Nodup) :
    WF { d with classes := d.classes.map g } where
  clsIds := by rw [map_map_key hid]; exact wf.clsIds
  kls := by rw [map_map_key hkl]; exact wf.kls
  attrIds := by
    intro c hc
    obtain ⟨k, hk, rfl⟩ := List.mem_map.mp hc
    exact hai k hk
  attrNames := by
    intro c hc
    obtain ⟨k, hk, rfl⟩ := List.mem_map.mp hc
    exact han k hk
  relIds := wf.relIds
  relNumbs := wf.relNumbs

theorem wf_mapRels {d : ClassDiagram} (wf : WF d) {g : Rel → Rel}
    (hid : ∀ k, (g k).id = k.id) (hnumb : ∀ k, (g k).numb = k.numb) :
    WF { d with rels := d.rels.map g } where
  clsIds := wf.clsIds
  kls := wf.kls
  attrIds := wf.attrIds
  attrNames := wf.attrNames
  relIds := by rw [map_map_key hid]; exact wf.relIds
  relNumbs := by rw [map_map_key hnumb]; exact wf.relNumbs

theorem wf_point {d : ClassDiagram} (wf : WF d) (c : Nat) {upd : Class → Class}
    (hid : ∀ k, (upd k).id = k.id) (hkl : ∀ k, (upd k).kl = k.kl)
    (h : ∀ kc, findClass d c = some kc → kc ∈ d.classes →
      ((upd kc).attrs.map (·.id)).Nodup ∧ ((upd kc).attrs.map (·.name)).Nodup) :
    WF (mapClass d c upd) := by
  have hat : ∀ k ∈ d.classes, (((if k.id == c then upd k else k).attrs.map (·.id)).Nodup) ∧
      ((if k.id == c then upd k else k).attrs.map (·.name)).Nodup := by
    intro k hk
    split
    · rename_i hkc
      exact h k (by rw [← (by simpa using hkc : k.id = c)]; exact findClass_of_mem wf hk) hk
    · exact ⟨wf.attrIds k hk, wf.attrNames k hk⟩
  exact wf_mapClasses wf (fun k => by split <;> simp [hid]) (fun k => by split <;> simp [hkl])
    (fun k hk => (hat k hk).1) (fun k hk => (hat k hk).2)

theorem retype_wf {d : ClassDiagram} (wf : WF d) (c a dt : Nat) : WF (applyEdit (.retypeAttr c a dt) d) := by
  rw [retype_rows]
  exact wf_mapClasses wf (fun _ => rfl) (fun _ => rfl)
    (fun k hk => by show ((k.attrs.map _).map _).Nodup; rw [map_map_key (rtA_id k)]; exact wf.attrIds k hk)
    (fun k hk => by show ((k.attrs.map _).map _).Nodup; rw [map_map_key (rtA_name k)]; exact wf.attrNames k hk)

theorem applyEdit_wf {d : ClassDiagram} (wf : WF d) (e : Edit) (ok : EditOk d e) : WF (applyEdit e d) := by
  cases e with
  | renameAttr c a new =>
    refine wf_point wf c (fun _ => rfl) (fun _ => rfl) (fun k hfc hk => ⟨?_, ?_⟩)
    · show ((k.attrs.map (rnH a new)).map _).Nodup
      rw [map_map_key rnH_id]; exact wf.attrIds k hk
    · show ((k.attrs.map (rnH a new)).map _).Nodup
      simp only [List.map_map]
      apply nodup_map_of_inj_on ((wf.attrIds k hk).of_map _ fun _ _ h e => h (e ▸ rfl))
      intro x hx y hy hxy
      simp only [Function.comp, rnH] at hxy
      -- names stay distinct: `ok` says that no OTHER attribute of the class has the new name
      by_cases hxa : x.id = a <;> by_cases hya : y.id = a
      · exact inj_of_nodup_map (fun (z : Attr) => z.id) (wf.attrIds k hk) hx hy (by rw [hxa, hya])
      · simp [hxa, hya] at hxy
        exact absurd (ok k hfc y hy hxy.symm) hya
      · simp [hxa, hya] at hxy
        exact absurd (ok k hfc x hx hxy) hxa
      · simp [hxa, hya] at hxy
        exact inj_of_nodup_map (fun (z : Attr) => z.name) (wf.attrNames k hk) hx hy hxy
  | retypeAttr c a dt => exact retype_wf wf c a dt
  | reorderAttrs c perm =>
    refine wf_point wf c (fun _ => rfl) (fun _ => rfl) (fun k hfc hk => ?_)
    have hp := reorder_perm (wf.attrIds k hk) (ok k hfc)
    exact ⟨(hp.map _).nodup_iff.mpr (wf.attrIds k hk), (hp.map _).nodup_iff.mpr (wf.attrNames k hk)⟩
  | setMult r sel v => exact wf_mapRels wf (fun k => by split <;> rfl) (fun k => by split <;> rfl)
  | setCond r sel v => exact wf_mapRels wf (fun k => by split <;> rfl) (fun k => by split <;> rfl)
  | setPhrase r sel v => exact wf_mapRels wf (fun k => by split <;> rfl) (fun k => by split <;> rfl)
  | moveClass c p =>
    exact wf_point wf c (fun _ => rfl) (fun _ => rfl) (fun k _ hk => ⟨wf.attrIds k hk, wf.attrNames k hk⟩)
  | moveRel r p => exact wf_mapRels wf (fun k => by split <;> rfl) (fun k => by split <;> rfl)

/-- every edit of the script is applicable to the diagram it is applied to -/
def ScriptOk : ClassDiagram → List Edit → Prop
  | _, [] => True
  | d, e :: es => EditOk d e ∧ ScriptOk (applyEdit e d) es

theorem applyEdits_cons (e : Edit) (es : List Edit) (d : ClassDiagram) :
    applyEdits (e :: es) d = applyEdits es (applyEdit e d) := rfl

theorem schemaEdits_cons (e : SEdit) (es : List SEdit) (s : Schema) :
    schemaEdits (e :: es) s = schemaEdits es (schemaEdit e s) := rfl

theorem script_commutes {d : ClassDiagram} (wf : WF d) (es : List Edit) (ok : ScriptOk d es)
    (comp : Option Nat) (drv : Bool) :
    extract (applyEdits es d) comp drv = schemaEdits (resolveAll d comp drv es) (extract d comp drv) := by
  induction es generalizing d with
  | nil => rfl
  | cons e es ih =>
    rw [applyEdits_cons]
    show _ = schemaEdits (resolve d comp drv e :: resolveAll (applyEdit e d) comp drv es) _
    rw [schemaEdits_cons, ← edit_commutes_all wf e ok.1 comp drv]
    exact ih (applyEdit_wf wf e ok.1) ok.2

theorem script_wf {d : ClassDiagram} (wf : WF d) (es : List Edit) (ok : ScriptOk d es) : WF (applyEdits es d) := by
  induction es generalizing d with
  | nil => exact wf
  | cons e es ih =>
    rw [applyEdits_cons]
    exact ih (applyEdit_wf wf e ok.1) ok.2

end Pyx.Extract
