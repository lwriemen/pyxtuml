import PyxModel.Prebuild.Flat

/-
  C05 / C06 — the builder of the flat population model (PyxModel/Prebuild/Flat.lean): its primitives, what every
  builder function keeps (`Grows`: rows only appended, scope stack, `ok` never set back), and the value level.

  Every arm of `buildExpr` that does not fail runs the operands and then `mkLeaf S sub`: a V_VAL and its R801 subtype row
  on the state `S` the operands left.  The equations `buildExpr_<constructor>` state this arm by arm; what `buildExpr` keeps
  (`ExprSpec`) is proved from them by one node step (`ExprSpec.node`) under the invariants `TSv` and `SymOK`.
  (`buildExpr_grows` unfolds `buildExpr` itself: it covers the failing arms too.)
-/
namespace Pyx.Prebuild.Flat
open Pyx.Prebuild

@[simp] theorem new_fst (st : St) (r : Row) : (st.new r).1 = st.pop.length := rfl
@[simp] theorem new_pop (st : St) (r : Row) : (st.new r).2.pop = st.pop ++ [r] := rfl
@[simp] theorem new_scopes (st : St) (r : Row) : (st.new r).2.scopes = st.scopes := rfl
@[simp] theorem new_ok (st : St) (r : Row) : (st.new r).2.ok = st.ok := rfl
@[simp] theorem fail_pop (st : St) : st.fail.pop = st.pop := rfl
@[simp] theorem fail_scopes (st : St) : st.fail.scopes = st.scopes := rfl
@[simp] theorem fail_ok (st : St) : st.fail.ok = false := rfl
theorem guard_eq (st : St) (c : Bool) : st.guard c = { st with ok := st.ok && c } := by
  cases c <;> simp [St.guard, St.fail]
@[simp] theorem guard_pop (st : St) (c : Bool) : (st.guard c).pop = st.pop := by rw [guard_eq]
@[simp] theorem guard_scopes (st : St) (c : Bool) : (st.guard c).scopes = st.scopes := by rw [guard_eq]
@[simp] theorem guard_ok (st : St) (c : Bool) : (st.guard c).ok = (st.ok && c) := by rw [guard_eq]
theorem guard_true (st : St) : st.guard true = st := rfl
@[simp] theorem newVal_fst (st : St) : (newVal st).1 = st.pop.length := by simp [newVal]
@[simp] theorem newVal_pop (st : St) : (newVal st).2.pop = st.pop ++ [.val (curBlkD st.scopes)] := by simp [newVal]
@[simp] theorem newVal_scopes (st : St) : (newVal st).2.scopes = st.scopes := by simp [newVal]
@[simp] theorem newVal_ok (st : St) : (newVal st).2.ok = (st.ok && (curBlk st.scopes).isSome) := by simp [newVal]
@[simp] theorem pushScope_pop (h : Handle) (st : St) : (pushScope h st).pop = st.pop := rfl
@[simp] theorem pushScope_ok (h : Handle) (st : St) : (pushScope h st).ok = st.ok := rfl
@[simp] theorem pushScope_scopes (h : Handle) (st : St) : (pushScope h st).scopes = ⟨h, []⟩ :: st.scopes := rfl
@[simp] theorem popScope_pop (st : St) : (popScope st).pop = st.pop := rfl
@[simp] theorem popScope_ok (st : St) : (popScope st).ok = st.ok := rfl
@[simp] theorem popScope_scopes (st : St) : (popScope st).scopes = st.scopes.tail := rfl
@[simp] theorem newVar_fst (n : String) (sub : Nat → Row) (m : St) : (newVar n sub m).1 = m.pop.length := by
  simp [newVar]
@[simp] theorem newVar_pop (n : String) (sub : Nat → Row) (m : St) :
    (newVar n sub m).2.pop = m.pop ++ [.var n (curBlkD m.scopes), sub m.pop.length] := by simp [newVar]
@[simp] theorem newVar_scopes (n : String) (sub : Nat → Row) (m : St) :
    (newVar n sub m).2.scopes = install m.scopes n m.pop.length := by simp [newVar]
@[simp] theorem newVar_ok (n : String) (sub : Nat → Row) (st : St) :
    (newVar n sub st).2.ok = (st.ok && (curBlk st.scopes).isSome) := by simp [newVar]

@[simp] theorem newSmt_fst (prev : Option Nat) (st : St) : (newSmt prev st).1 = st.pop.length := by simp [newSmt]
@[simp] theorem newSmt_pop (prev : Option Nat) (st : St) :
    (newSmt prev st).2.pop = st.pop ++ [.smt (curBlkD st.scopes) prev] := by simp [newSmt]
@[simp] theorem newSmt_scopes (prev : Option Nat) (st : St) : (newSmt prev st).2.scopes = st.scopes := by simp [newSmt]
@[simp] theorem newSmt_ok (prev : Option Nat) (st : St) :
    (newSmt prev st).2.ok = (st.ok && (curBlk st.scopes).isSome) := by simp [newSmt]

/-- `v_val(node)` followed by the instantiation of the R801 subtype -/
def mkLeaf (S : St) (sub : Nat → Row) : Nat × St := let r := newVal S; (r.1, (r.2.new (sub r.1)).2)

@[simp] theorem mkLeaf_fst (S : St) (sub : Nat → Row) : (mkLeaf S sub).1 = S.pop.length := by simp [mkLeaf]
@[simp] theorem mkLeaf_pop (S : St) (sub : Nat → Row) :
    (mkLeaf S sub).2.pop = S.pop ++ [.val (curBlkD S.scopes), sub S.pop.length] := by simp [mkLeaf]
@[simp] theorem mkLeaf_scopes (S : St) (sub : Nat → Row) : (mkLeaf S sub).2.scopes = S.scopes := by simp [mkLeaf]
@[simp] theorem mkLeaf_ok (S : St) (sub : Nat → Row) : (mkLeaf S sub).2.ok = (S.ok && (curBlk S.scopes).isSome) := by
  simp [mkLeaf]

theorem buildExpr_int (fc : FCtx) (v : String) (st : St) : buildExpr fc (.int v) st = mkLeaf st (.lin · v) := rfl
theorem buildExpr_real (fc : FCtx) (v : String) (st : St) : buildExpr fc (.real v) st = mkLeaf st (.lrl · v) := rfl
theorem buildExpr_str (fc : FCtx) (v : String) (st : St) :
    buildExpr fc (.str v) st = mkLeaf st (.lst · (unquote v)) := rfl
theorem buildExpr_bool (fc : FCtx) (v : String) (st : St) :
    buildExpr fc (.bool v) st = mkLeaf (st.guard (v == "true" || v == "false")) (.lbo · (boolValue v)) := rfl
theorem buildExpr_selected (fc : FCtx) (st : St) : buildExpr fc .selected st = mkLeaf st .slr := rfl
theorem buildExpr_param (fc : FCtx) (n : String) (st : St) : buildExpr fc (.param n) st = mkLeaf st (.pvl · n) := rfl
theorem buildExpr_self (fc : FCtx) (st : St) :
    buildExpr fc .self st = mkLeaf (needVar fc "self" st).2 (.irf · (needVar fc "self" st).1) := rfl
theorem buildExpr_un (fc : FCtx) (op : String) (e : Expr) (st : St) :
    buildExpr fc (.un op e) st = mkLeaf (buildExpr fc e st).2 (.uny · (lowerStr op) (buildExpr fc e st).1) := rfl
theorem buildExpr_bin (fc : FCtx) (l : Expr) (op : String) (r : Expr) (st : St) :
    buildExpr fc (.bin l op r) st = mkLeaf (buildExpr fc r (buildExpr fc l st).2).2
      (.bin · (lowerStr op) (buildExpr fc l st).1 (buildExpr fc r (buildExpr fc l st).2).1) := rfl

/-- a V_LEN or a V_SCV: both print `NS::name` -/
theorem buildExpr_enum (fc : FCtx) (nsp n : String) (st : St) :
    buildExpr fc (.enum nsp n) st = mkLeaf st (.len · nsp n) ∨ buildExpr fc (.enum nsp n) st = mkLeaf st (.scv · nsp n) := by
  simp only [buildExpr]
  split
  · split
    · exact .inl rfl
    · exact .inr rfl
  · exact .inr rfl

/-- V_IRF / V_ISR / V_TVL by the R814 subtype of the variable, or a failure -/
theorem buildExpr_var (fc : FCtx) (n : String) (st : St) :
    (∃ mk : Nat → Nat → Row, (mk = .irf ∨ mk = .isr ∨ mk = .tvl) ∧ buildExpr fc (.var n) st =
      mkLeaf (needVar fc n (st.guard (n != "self"))).2 (mk · (needVar fc n (st.guard (n != "self"))).1)) ∨
    (buildExpr fc (.var n) st).2.ok = false := by
  simp only [buildExpr]
  split
  · exact .inl ⟨.irf, .inl rfl, rfl⟩
  · exact .inl ⟨.isr, .inr (.inl rfl), rfl⟩
  · exact .inl ⟨.tvl, .inr (.inr rfl), rfl⟩
  · exact .inr rfl

/-- the guard: the root is an instance handle, or `selected` inside a where clause -/
theorem buildExpr_field (fc : FCtx) (h : Expr) (a : String) (st : St) :
    ∃ g : Bool, buildExpr fc (.field h a) st =
      mkLeaf ((buildExpr fc h st).2.guard g) (.avl · (buildExpr fc h st).1 a) := ⟨_, rfl⟩

theorem lookupVar_eq {fc : FCtx} {n : String} {st : St}
    (hc : (canonName n != n || lowerStr n == "sender") = false) :
    lookupVar fc n st = match findSym st.scopes n with
      | some v => (some v, st)
      | none =>
        if n == "self" then
          match fc.selfKl with
          | some kl => let r := newVar "self" (fun v => .vint v kl) st; (some r.1, r.2)
          | none => (none, st)
        else (none, st) := by
  unfold lookupVar
  rw [hc]; rfl

theorem lookupVar_ne_self {fc : FCtx} {n : String} {M : St} (hn : n ≠ "self") (hok : (lookupVar fc n M).2.ok = true) :
    lookupVar fc n M = (findSym M.scopes n, M) := by
  unfold lookupVar at hok ⊢
  split
  · rename_i hc
    rw [if_pos hc] at hok; cases hok
  · cases findSym M.scopes n with
    | some v => rfl
    | none => simp [hn]

/-! ### what every builder function keeps

  A builder function only appends rows, keeps the handles of the scope stack, leaves the enclosing scopes as they are (a
  symbol is installed into the innermost one) and never sets `ok` back: `Grows`, proved for every function of Flat.lean by
  ONE walk through `buildStmt`.  The append-only half is `Pyx.PbShape.Ext`, which the handler proofs of Proofs/PbShape*.lean
  use; that `ok` is never set back is what the specifications of Proofs/PrebuildFlatStmt.lean chain along an arm
  (the `…_ok_mono` lemmas, one for each builder step an arm goes through; the three that hold by `rfl` are stated all the
  same: left to bridge `(pushScope h S).ok` and `S.ok` itself, the unifier unfolds the look-ups). -/

theorem new_ok_mono {st : St} {r : Row} (h : (st.new r).2.ok = true) : st.ok = true := h
theorem pushScope_ok_mono {k : Handle} {st : St} (h : (pushScope k st).ok = true) : st.ok = true := h
theorem popScope_ok_mono {st : St} (h : (popScope st).ok = true) : st.ok = true := h

theorem guard_ok_mono {st : St} {c : Bool} (h : (st.guard c).ok = true) : st.ok = true := by
  rw [guard_ok, Bool.and_eq_true] at h; exact h.1

theorem mkLeaf_ok_mono {S : St} {sub : Nat → Row} (h : (mkLeaf S sub).2.ok = true) : S.ok = true := by
  rw [mkLeaf_ok, Bool.and_eq_true] at h; exact h.1

theorem newVar_ok_mono {n : String} {sub : Nat → Row} {st : St} (h : (newVar n sub st).2.ok = true) : st.ok = true := by
  rw [newVar_ok, Bool.and_eq_true] at h; exact h.1

end Pyx.Prebuild.Flat

namespace Pyx.PbShape
open Pyx.Prebuild Pyx.Prebuild.Flat

def hsOf (ss : List Scope) : List Handle := ss.map (·.handle)

/-- the handles of the scope stack and not the scopes: a builder step may install a symbol into a scope -/
def Ext (a b : St) : Prop := (∃ d, b.pop = a.pop ++ d) ∧ hsOf b.scopes = hsOf a.scopes

theorem Ext.refl (a : St) : Ext a a := ⟨⟨[], by simp⟩, rfl⟩

theorem Ext.trans {a b c : St} (h1 : Ext a b) (h2 : Ext b c) : Ext a c := by
  obtain ⟨⟨d1, e1⟩, s1⟩ := h1
  obtain ⟨⟨d2, e2⟩, s2⟩ := h2
  exact ⟨⟨d1 ++ d2, by rw [e2, e1, List.append_assoc]⟩, s2.trans s1⟩

theorem Ext.new (a : St) (r : Row) : Ext a (a.new r).2 := ⟨⟨[r], rfl⟩, rfl⟩
theorem Ext.fail (a : St) : Ext a a.fail := ⟨⟨[], by simp [St.fail]⟩, rfl⟩
theorem Ext.guard (a : St) (c : Bool) : Ext a (a.guard c) := by
  cases c
  · exact Ext.fail a
  · exact Ext.refl a

theorem hsOf_install (ss : List Scope) (n : String) (v : Nat) : hsOf (install ss n v) = hsOf ss := by
  cases ss <;> simp [install, hsOf]

theorem Ext.newVar (n : String) (sub : Nat → Row) (st : St) : Ext st (newVar n sub st).2 := by
  refine ⟨⟨[.var n (curBlkD st.scopes), sub st.pop.length], ?_⟩, ?_⟩
  · simp [Flat.newVar, St.new]
  · simp [Flat.newVar, St.new, hsOf_install]

end Pyx.PbShape

namespace Pyx.Prebuild.Flat
open Pyx.Prebuild

def Grows (a b : St) : Prop := PbShape.Ext a b ∧ b.scopes.tail = a.scopes.tail ∧ (b.ok = true → a.ok = true)

theorem Grows.refl (a : St) : Grows a a := ⟨.refl a, rfl, id⟩
theorem Grows.trans {a b c : St} (h1 : Grows a b) (h2 : Grows b c) : Grows a c :=
  ⟨h1.1.trans h2.1, h2.2.1.trans h1.2.1, h1.2.2 ∘ h2.2.2⟩
theorem Grows.new (a : St) (r : Row) : Grows a (a.new r).2 := ⟨.new a r, rfl, id⟩
theorem Grows.fail (a : St) : Grows a a.fail := ⟨.fail a, rfl, fun h => by cases h⟩
theorem Grows.guard (a : St) (c : Bool) : Grows a (a.guard c) := ⟨.guard a c, by rw [guard_scopes], guard_ok_mono⟩
theorem Grows.newVar (n : String) (sub : Nat → Row) (st : St) : Grows st (newVar n sub st).2 :=
  ⟨.newVar n sub st, by cases h : st.scopes <;> simp [install, h], newVar_ok_mono⟩
theorem Grows.newVal (st : St) : Grows st (newVal st).2 := (Grows.guard _ _).trans (Grows.new _ _)
theorem Grows.newSmt (prev : Option Nat) (st : St) : Grows st (newSmt prev st).2 := (Grows.guard _ _).trans (Grows.new _ _)

theorem Grows.lookupVar (fc : FCtx) (n : String) (st : St) : Grows st (lookupVar fc n st).2 := by
  unfold Flat.lookupVar
  split
  · exact Grows.fail st
  · split
    · exact Grows.refl st
    · split
      · split
        · dsimp only; exact Grows.newVar _ _ st
        · exact Grows.refl st
      · exact Grows.refl st

theorem Grows.needVar (fc : FCtx) (n : String) (st : St) : Grows st (needVar fc n st).2 := by
  have h := Grows.lookupVar fc n st
  unfold Flat.needVar
  generalize Flat.lookupVar fc n st = L at h
  obtain ⟨l, s⟩ := L
  cases l with
  | none => exact h.trans (Grows.fail _)
  | some v => exact h

theorem Grows.declVar (fc : FCtx) (n : String) (many : Bool) (kl : String) (st : St) : Grows st (declVar fc n many kl st).2 := by
  have h := Grows.lookupVar fc n st
  unfold Flat.declVar
  generalize Flat.lookupVar fc n st = L at h
  obtain ⟨l, s⟩ := L
  cases l with
  | some v => exact h
  | none =>
    dsimp only
    split
    · exact h.trans ((Grows.guard s _).trans (Grows.newVar _ _ _))
    · exact h.trans ((Grows.guard s _).trans (Grows.newVar _ _ _))

theorem Grows.valNew {a : St} (s : St) (x : Row) (h : Grows a s) : Grows a ((Flat.newVal s).2.new x).2 :=
  h.trans ((Grows.newVal s).trans (Grows.new _ _))

theorem Grows.scoped {a b : St} {h : Handle} (e : Grows (pushScope h a) b) : Grows a (popScope b) := by
  obtain ⟨⟨⟨d, hd⟩, _⟩, ht, hok⟩ := e
  have hs : (popScope b).scopes = a.scopes := ht
  exact ⟨⟨⟨d, hd⟩, by rw [hs]⟩, by rw [hs], hok⟩

theorem Grows.withBlock (st : St) (body : St → St) (h : ∀ s, Grows s (body s)) : Grows st (withBlock st body).2 :=
  (Grows.new st (.blk false)).trans (Grows.scoped (h _))

theorem buildExpr_grows (fc : FCtx) : ∀ (e : Expr) (st : St), Grows st (buildExpr fc e st).2
  | .int _, st | .real _, st | .str _, st | .selected, st | .param _, st => by
    simp only [buildExpr]; exact Grows.valNew _ _ (Grows.refl st)
  | .bool _, st => by
    simp only [buildExpr]; exact Grows.valNew _ _ (Grows.guard st _)
  | .enum nsp n, st => by
    simp only [buildExpr]
    split
    · split <;> exact Grows.valNew _ _ (Grows.refl st)
    · exact Grows.valNew _ _ (Grows.refl st)
  | .var n, st => by
    simp only [buildExpr]
    have h := (Grows.guard st (n != "self")).trans (Grows.needVar fc n _)
    generalize needVar fc n (st.guard (n != "self")) = l at h
    obtain ⟨l1, l2⟩ := l
    dsimp only at h ⊢
    split
    · exact Grows.valNew l2 _ h
    · exact Grows.valNew l2 _ h
    · exact Grows.valNew l2 _ h
    · exact h.trans ((Grows.newVal l2).trans (Grows.fail _))
  | .self, st => by
    simp only [buildExpr]; exact Grows.valNew _ _ (Grows.needVar fc _ st)
  | .field h a, st => by
    simp only [buildExpr]
    exact Grows.valNew _ _ ((buildExpr_grows fc h st).trans (Grows.guard _ _))
  | .un op e, st => by
    simp only [buildExpr]
    exact Grows.valNew _ _ (buildExpr_grows fc e st)
  | .bin l op r, st => by
    simp only [buildExpr]
    exact Grows.valNew _ _ ((buildExpr_grows fc l st).trans (buildExpr_grows fc r _))
  | .index _ _, st | .call _ _ _ _, st | .icall _ _ _, st => by simp only [buildExpr]; exact Grows.fail st

theorem buildLval_grows (fc : FCtx) : ∀ (e : Expr) (st : St), Grows st (buildLval fc e st).2
  | .var n, st => by
    simp only [buildLval]
    have h := (Grows.guard st (n != "self")).trans (Grows.lookupVar fc n _)
    generalize lookupVar fc n (st.guard (n != "self")) = L at h
    obtain ⟨l, s⟩ := L
    cases l with
    | some v => exact buildExpr_grows fc _ st
    | none => exact Grows.valNew _ _ (h.trans (Grows.newVar _ _ s))
  | .field h a, st => by simp only [buildLval]; exact buildExpr_grows fc _ st
  | .int _, st | .real _, st | .str _, st | .selected, st | .param _, st | .bool _, st | .enum _ _, st | .self, st
  | .un _ _, st | .bin _ _ _, st | .index _ _, st | .call _ _ _ _, st | .icall _ _ _, st => by
    simp only [buildLval]; exact Grows.fail st

mutual
theorem buildStmt_grows (fc : FCtx) : ∀ (s : Stmt) (prev : Option Nat) (st : St), Grows st (buildStmt fc prev s st).2
  | .assign l r, prev, st => by
    simp only [buildStmt]
    exact (Grows.newSmt _ _).trans ((Grows.guard _ _).trans ((buildExpr_grows fc r _).trans ((buildLval_grows fc l _).trans (Grows.new _ _))))
  | .ret none, prev, st => by simp only [buildStmt]; exact (Grows.newSmt _ _).trans (Grows.new _ _)
  | .ret (some e), prev, st => by
    simp only [buildStmt]; exact (Grows.newSmt _ _).trans ((buildExpr_grows fc e _).trans (Grows.new _ _))
  | .brk, prev, st | .cont, prev, st | .ctl, prev, st => by simp only [buildStmt]; exact (Grows.newSmt _ _).trans (Grows.new _ _)
  | .create v kl, prev, st => by
    simp only [buildStmt]
    exact (Grows.newSmt _ _).trans ((Grows.guard _ _).trans ((Grows.declVar fc _ _ _ _).trans (Grows.new _ _)))
  | .createNV kl, prev, st => by
    simp only [buildStmt]; exact (Grows.guard _ _).trans ((Grows.newSmt _ _).trans (Grows.new _ _))
  | .delete v, prev, st => by
    simp only [buildStmt]; exact (Grows.newSmt _ _).trans ((Grows.needVar fc _ _).trans (Grows.new _ _))
  | .relate a b r ph, prev, st | .unrelate a b r ph, prev, st => by
    simp only [buildStmt]
    exact (Grows.newSmt _ _).trans ((Grows.needVar fc _ _).trans ((Grows.needVar fc _ _).trans (Grows.new _ _)))
  | .relateU a b r ph u, prev, st | .unrelateU a b r ph u, prev, st => by
    simp only [buildStmt]
    exact (Grows.newSmt _ _).trans ((Grows.needVar fc _ _).trans ((Grows.needVar fc _ _).trans ((Grows.needVar fc _ _).trans (Grows.new _ _))))
  | .selFrom card v kl, prev, st => by
    simp only [buildStmt]
    exact (Grows.newSmt _ _).trans ((Grows.guard _ _).trans ((Grows.declVar fc _ _ _ _).trans (Grows.new _ _)))
  | .selFromW card v kl w, prev, st => by
    simp only [buildStmt]
    have h1 := (Grows.newSmt prev st).trans ((Grows.guard _ (v != "self" && fc.classes.contains kl)).trans (Grows.lookupVar fc v _))
    have h2 := h1.trans (Grows.scoped (buildExpr_grows fc w (pushScope (.obj kl) _)))
    split
    · exact h2.trans (Grows.new _ _)
    · split
      · exact h2.trans ((Grows.newVar _ _ _).trans (Grows.new _ _))
      · exact h2.trans ((Grows.newVar _ _ _).trans (Grows.new _ _))
  | .forEach v sv b, prev, st => by
    simp only [buildStmt]
    have h1 := (Grows.newSmt prev st).trans ((Grows.guard _ (v != "self")).trans ((Grows.lookupVar fc v _).trans (Grows.needVar fc sv _)))
    split
    · dsimp only
      exact h1.trans ((Grows.guard _ _).trans ((Grows.withBlock _ _ (buildStmts_grows fc b none)).trans (Grows.new _ _)))
    · exact h1.trans ((Grows.guard _ _).trans ((Grows.newVar _ _ _).trans ((Grows.withBlock _ _ (buildStmts_grows fc b none)).trans (Grows.new _ _))))
  | .while_ e b, prev, st => by
    simp only [buildStmt]
    exact (Grows.newSmt _ _).trans ((buildExpr_grows fc e _).trans ((Grows.withBlock _ _ (buildStmts_grows fc b none)).trans (Grows.new _ _)))
  | .if_ e b elifs els, prev, st => by
    simp only [buildStmt]
    exact (Grows.newSmt _ _).trans ((buildExpr_grows fc e _).trans ((Grows.withBlock _ _ (buildStmts_grows fc b none)).trans
      ((Grows.new _ _).trans ((buildElifs_grows fc elifs _ _).trans (buildElse_grows fc els _ _)))))
  | .selRel _ _ _ _, prev, st | .selRelW _ _ _ _ _, prev, st | .invoke _, prev, st | .genEvt _ _ _ _, prev, st
  | .createEvt _ _ _ _ _, prev, st | .genPre _, prev, st => by simp only [buildStmt]; exact Grows.fail st
theorem buildStmts_grows (fc : FCtx) : ∀ (ss : Block) (prev : Option Nat) (st : St), Grows st (buildStmts fc prev ss st)
  | .nil, _, st => by simp only [buildStmts]; exact Grows.refl st
  | .cons s rest, prev, st => by
    simp only [buildStmts]; exact (buildStmt_grows fc s prev st).trans (buildStmts_grows fc rest _ _)
theorem buildElifs_grows (fc : FCtx) : ∀ (el : Elifs) (ifS : Nat) (st : St), Grows st (buildElifs fc ifS el st)
  | .nil, _, st => by simp only [buildElifs]; exact Grows.refl st
  | .cons e b rest, ifS, st => by
    simp only [buildElifs]
    exact (Grows.newSmt _ _).trans ((buildExpr_grows fc e _).trans ((Grows.withBlock _ _ (buildStmts_grows fc b none)).trans
      ((Grows.new _ _).trans (buildElifs_grows fc rest ifS _))))
theorem buildElse_grows (fc : FCtx) : ∀ (els : Else) (ifS : Nat) (st : St), Grows st (buildElse fc ifS els st)
  | .none, _, st => by simp only [buildElse]; exact Grows.refl st
  | .some b, ifS, st => by
    simp only [buildElse]
    exact (Grows.newSmt _ _).trans ((Grows.withBlock _ _ (buildStmts_grows fc b none)).trans (Grows.new _ _))
end

theorem needVar_ok_mono {fc : FCtx} {n : String} {st : St} (h : (needVar fc n st).2.ok = true) : st.ok = true :=
  (Grows.needVar fc n st).2.2 h

theorem buildLval_ok_mono {fc : FCtx} {l : Expr} {m : St} (h : (buildLval fc l m).2.ok = true) : m.ok = true :=
  (buildLval_grows fc l m).2.2 h

theorem withBlock_ok_mono {st : St} {body : St → St} (hbody : ∀ s, (body s).ok = true → s.ok = true)
    (h : (withBlock st body).2.ok = true) : st.ok = true :=
  new_ok_mono (pushScope_ok_mono (hbody _ (popScope_ok_mono h)))

theorem buildExpr_ok_mono (fc : FCtx) : ∀ (e : Expr) (st : St), (buildExpr fc e st).2.ok = true → st.ok = true :=
  fun e st => (buildExpr_grows fc e st).2.2

theorem buildStmt_ok_mono (fc : FCtx) : ∀ (s : Stmt) (prev : Option Nat) (st : St),
    (buildStmt fc prev s st).2.ok = true → st.ok = true :=
  fun s prev st => (buildStmt_grows fc s prev st).2.2
theorem buildStmts_ok_mono (fc : FCtx) : ∀ (ss : Block) (prev : Option Nat) (st : St),
    (buildStmts fc prev ss st).ok = true → st.ok = true :=
  fun ss prev st => (buildStmts_grows fc ss prev st).2.2
theorem buildElifs_ok_mono (fc : FCtx) : ∀ (el : Elifs) (ifS : Nat) (st : St),
    (buildElifs fc ifS el st).ok = true → st.ok = true :=
  fun el ifS st => (buildElifs_grows fc el ifS st).2.2
theorem buildElse_ok_mono (fc : FCtx) : ∀ (els : Else) (ifS : Nat) (st : St),
    (buildElse fc ifS els st).ok = true → st.ok = true :=
  fun els ifS st => (buildElse_grows fc els ifS st).2.2

/-- `v_int` / `v_ins` of class `kl` for a variable a statement declares -/
def declare (n : String) (many : Bool) (kl : String) (S : St) : Nat × St :=
  if many then newVar n (fun v => .vins v kl) S else newVar n (fun v => .vint v kl) S

/-- the variable a look-up found (the builder goes on from `S`), or the one declared now -/
def foundOr (found : Option Nat) (S : St) (decl : Nat × St) : Nat × St :=
  match found with
  | some v => (v, S)
  | none => decl

/- In the three equations below the look-up's result is generalised before the two sides are compared: `rfl` on the
   terms as they stand has to decide a `match` on `(lookupVar …).1` and unfolds the look-up down to the string functions. -/
theorem declVar_eq (fc : FCtx) (n : String) (many : Bool) (kl : String) (st : St) :
    declVar fc n many kl st = foundOr (lookupVar fc n st).1 (lookupVar fc n st).2
      (declare n many kl ((lookupVar fc n st).2.guard (n != "self" && fc.classes.contains kl))) := by
  unfold declVar
  generalize lookupVar fc n st = r
  obtain ⟨_ | x, S⟩ := r <;> rfl

theorem buildStmt_selFromW (fc : FCtx) (prev : Option Nat) (card v kl : String) (w : Expr) (st : St) :
    buildStmt fc prev (.selFromW card v kl w) st =
      let s := newSmt prev st
      let found := lookupVar fc v (s.2.guard (v != "self" && fc.classes.contains kl))
      let wv := buildExpr fc w (pushScope (.obj kl) found.2)
      let x := foundOr found.1 (popScope wv.2) (declare v (isMany card) kl (popScope wv.2))
      (s.1, (x.2.new (.fiw s.1 x.1 kl (lowerStr card) wv.1)).2) := by
  simp only [buildStmt]
  generalize lookupVar fc v _ = found
  obtain ⟨_ | x, S⟩ := found <;> rfl

theorem buildStmt_forEach (fc : FCtx) (prev : Option Nat) (v sv : String) (b : Block) (st : St) :
    buildStmt fc prev (.forEach v sv b) st =
      let s := newSmt prev st
      let found := lookupVar fc v (s.2.guard (v != "self"))
      let set := needVar fc sv found.2
      let kl := (setClass set.2.pop set.1).getD ""
      let x := foundOr found.1 (set.2.guard (setClass set.2.pop set.1).isSome)
        (declare v false kl (set.2.guard (setClass set.2.pop set.1).isSome))
      let blk := withBlock x.2 (buildStmts fc none b)
      (s.1, (blk.2.new (.for_ s.1 blk.1 x.1 set.1 kl)).2) := by
  simp only [buildStmt]
  generalize lookupVar fc v _ = found
  obtain ⟨_ | x, S⟩ := found <;> rfl

theorem declare_ok_mono {n : String} {many : Bool} {kl : String} {S : St} (h : (declare n many kl S).2.ok = true) :
    S.ok = true := by
  unfold declare at h
  split at h <;> exact newVar_ok_mono h

theorem foundOr_ok_mono {found : Option Nat} {S : St} {decl : Nat × St} (hd : decl.2.ok = true → S.ok = true)
    (h : (foundOr found S decl).2.ok = true) : S.ok = true := by
  cases found
  · exact hd h
  · exact h

theorem find?_at {α : Type} {P : α → Bool} {l : List α} {n : Nat} {r : α}
    (hlt : ∀ i x, i < n → l[i]? = some x → P x = false) (hn : l[n]? = some r) (hP : P r = true) : l.find? P = some r := by
  obtain ⟨h, rfl⟩ := List.getElem?_eq_some_iff.1 hn
  exact List.find?_eq_some_iff_getElem.2 ⟨hP, n, h, rfl, fun j hj => by rw [hlt j _ hj (List.getElem?_eq_getElem _)]; rfl⟩

theorem getElem?_lt_of_some {α} {l : List α} {i : Nat} {x : α} (h : l[i]? = some x) : i < l.length :=
  (List.getElem?_eq_some_iff.mp h).1

/-- a row that is the R801 subtype of value `k` lies after row `k` -/
def TSv (p : FlatPop) : Prop := ∀ (i : Nat) (r : Row) (k : Nat), p[i]? = some r → r.valOf = some k → k < i

theorem TSv.append {p : FlatPop} (h : TSv p) {d : List Row}
    (hd : ∀ (j : Nat) (r : Row) (k : Nat), d[j]? = some r → r.valOf = some k → k < p.length + j) : TSv (p ++ d) := by
  intro i r k hi hk
  by_cases hlt : i < p.length
  · rw [List.getElem?_append_left hlt] at hi; exact h i r k hi hk
  · rw [List.getElem?_append_right (by omega)] at hi
    have := hd (i - p.length) r k hi hk
    omega

theorem TSv.append2 {p : FlatPop} (hts : TSv p) (b : Nat) (sub : Row) (hsub : sub.valOf = some p.length) :
    TSv (p ++ [.val b, sub]) := by
  apply hts.append
  intro j r k hj hr
  match j, hj with
  | 0, hj => simp at hj; subst hj; cases hr
  | 1, hj => simp at hj; subst hj; rw [hsub] at hr; cases hr; omega
  | j + 2, hj => simp at hj

/-- every symbol names a V_VAR row of that name -/
def SymOK (st : St) : Prop := ∀ n v, findSym st.scopes n = some v → ∃ b, st.pop[v]? = some (.var n b)

theorem SymOK.mono {st st' : St} (h : SymOK st) (hs : st'.scopes = st.scopes) {d : List Row}
    (hp : st'.pop = st.pop ++ d) : SymOK st' := by
  intro n v hf
  rw [hs] at hf
  obtain ⟨b, hb⟩ := h n v hf
  exact ⟨b, by rw [hp, List.getElem?_append_left (getElem?_lt_of_some hb)]; exact hb⟩

/-- `subtype(x, R)` for any of the supertype keys (`valOf` / `smtOf` / `varOf`; `valSub`, `smtSub`, `varSub` are this search):
    a key names an EARLIER row, so the search finds row `j` as soon as no row between `s` and `j` names `s` -/
theorem sub_at {key : Row → Option Nat} {p : FlatPop} {s j : Nat} {sub : Row}
    (hts : ∀ i x k, p[i]? = some x → key x = some k → k < i) (hsub : p[j]? = some sub) (hv : key sub = some s)
    (hmid : ∀ i x, s < i → i < j → p[i]? = some x → key x ≠ some s) (ext : List Row) :
    (p ++ ext).find? (fun r => key r == some s) = some sub := by
  have hlt := getElem?_lt_of_some hsub
  apply find?_at (n := j)
  · intro i x hi hx
    rw [List.getElem?_append_left (by omega)] at hx
    cases hxv : key x with
    | none => simp
    | some k =>
      have hk := hts i x k hx hxv
      have := fun h : k = s => hmid i x (h ▸ hk) hi hx (h ▸ hxv)
      simpa using this
  · rw [List.getElem?_append_left hlt]; exact hsub
  · simp [hv]

/-- value `p.length` (a V_VAL) has its R801 subtype row right behind it, and nothing earlier claims it -/
theorem leaf_spec {p : FlatPop} (hts : TSv p) (b : Nat) (sub : Row) (hsub : sub.valOf = some p.length)
    (ext : List Row) : valSub (p ++ (.val b :: sub :: ext)) p.length = some sub := by
  have h := sub_at (p := p ++ [.val b, sub]) (j := p.length + 1) (hts.append2 b sub hsub) (by simp) hsub
    (fun _ _ h1 h2 => by omega) ext
  rwa [List.append_assoc] at h

theorem Row.of_valOf {r : Row} {k : Nat} (h : r.valOf = some k) :
    r.smtOf = none ∧ r.varOf = none ∧ (∀ b q, r ≠ .smt b q) ∧ (∀ o, r ≠ .blk o) := by
  cases r with
  | lin | lrl | lst | lbo | tvl | irf | isr | uny | bin | slr | avl | pvl | len | scv =>
    exact ⟨rfl, rfl, fun _ _ h => Row.noConfusion h, fun _ h => Row.noConfusion h⟩
  | _ => cases h

/-! ### expressions: `regenVal` reads back what `buildExpr` wrote -/

/-- the expressions the value-level theorem covers: literals, enumerators / qualified constants, variable reads,
    `selected`, parameter reads, attribute reads, unary and binary operations (operators in the normal form) -/
def coreE : Expr → Bool
  | .int _ | .real _ | .str _ | .bool _ | .enum _ _ | .var _ | .selected | .param _ => true
  | .field h _ => coreE h
  | .un op e => lowerStr op == op && coreE e
  | .bin l op r => lowerStr op == op && coreE l && coreE r
  | _ => false

/-- the fuel that suffices for `regenVal`: one per value the expression creates -/
def szV : Expr → Nat
  | .field h _ => szV h + 1
  | .un _ e => szV e + 1
  | .bin l _ r => szV l + szV r + 1
  | _ => 1

theorem one_le_szV (e : Expr) : 1 ≤ szV e := by cases e <;> simp [szV]

/-- what one `accept_<expression node>` call does to the builder state -/
structure ExprSpec (fc : FCtx) (e : Expr) (st : St) : Prop where
  ok0 : st.ok = true
  blk : (curBlk st.scopes).isSome = true
  scopes : (buildExpr fc e st).2.scopes = st.scopes
  grows : ∃ d : List Row, (buildExpr fc e st).2.pop = st.pop ++ d ∧ szV e + 1 ≤ d.length ∧
    (∀ r ∈ d, ∀ k, r.valOf = some k → st.pop.length ≤ k) ∧
    (∀ r ∈ d, r.smtOf = none ∧ r.varOf = none ∧ (∀ b q, r ≠ .smt b q) ∧ (∀ o, r ≠ .blk o))
  tsv : TSv (buildExpr fc e st).2.pop
  isVal : ∃ b, (buildExpr fc e st).2.pop[(buildExpr fc e st).1]? = some (.val b)
  inRange : st.pop.length ≤ (buildExpr fc e st).1
  regen : ∀ (ext : List Row) (fuel : Nat), szV e ≤ fuel →
    regenVal ((buildExpr fc e st).2.pop ++ ext) fuel (buildExpr fc e st).1 = genExpr e

theorem ExprSpec.symOK {fc : FCtx} {e : Expr} {st : St} (h : ExprSpec fc e st) (hs : SymOK st) :
    SymOK (buildExpr fc e st).2 := by
  obtain ⟨d, hd, _⟩ := h.grows
  exact hs.mono h.scopes hd

/-- `S` is `st` after the operands of an expression: value rows `d` appended, scopes untouched -/
structure ValExt (st S : St) (d : List Row) : Prop where
  pop : S.pop = st.pop ++ d
  scopes : S.scopes = st.scopes
  tsv : TSv S.pop
  keys : ∀ r ∈ d, ∀ k, r.valOf = some k → st.pop.length ≤ k
  other : ∀ r ∈ d, r.smtOf = none ∧ r.varOf = none ∧ (∀ b q, r ≠ .smt b q) ∧ (∀ o, r ≠ .blk o)

theorem ValExt.refl {st : St} (hts : TSv st.pop) : ValExt st st [] :=
  ⟨(List.append_nil _).symm, rfl, hts, (fun _ h => nomatch h), (fun _ h => nomatch h)⟩

theorem ValExt.guard {st S : St} {d : List Row} (X : ValExt st S d) (c : Bool) : ValExt st (S.guard c) d :=
  ⟨by rw [guard_pop, X.pop], by rw [guard_scopes, X.scopes], by rw [guard_pop]; exact X.tsv, X.keys, X.other⟩

theorem ValExt.trans {st S T : St} {d d' : List Row} (X : ValExt st S d) (Y : ValExt S T d') :
    ValExt st T (d ++ d') := by
  refine ⟨by rw [Y.pop, X.pop, List.append_assoc], Y.scopes.trans X.scopes, Y.tsv, ?_, ?_⟩
  · intro r hr k hk
    rcases List.mem_append.1 hr with h | h
    · exact X.keys r h k hk
    · have := Y.keys r h k hk
      rw [X.pop, List.length_append] at this; omega
  · intro r hr
    rcases List.mem_append.1 hr with h | h
    · exact X.other r h
    · exact Y.other r h

theorem ExprSpec.ext {fc : FCtx} {e : Expr} {st : St} (h : ExprSpec fc e st) :
    ∃ d, ValExt st (buildExpr fc e st).2 d ∧ szV e + 1 ≤ d.length := by
  obtain ⟨d, hd, hl, hk, ho⟩ := h.grows
  exact ⟨d, ⟨hd, h.scopes, h.tsv, hk, ho⟩, hl⟩

/-- the node step: on the state `S` the operands left, `mkLeaf` appends the V_VAL and its subtype row `sub`, and `regenVal`
    finds that row (`hregen`: what it then prints) -/
theorem ExprSpec.node {fc : FCtx} {e : Expr} {st S : St} {d : List Row} {sub : Nat → Row}
    (hb : buildExpr fc e st = mkLeaf S sub) (X : ValExt st S d) (hsz : szV e ≤ d.length + 1)
    (hsub : ∀ i, (sub i).valOf = some i) (hok : (mkLeaf S sub).2.ok = true)
    (hregen : ∀ (ext : List Row) (f : Nat), szV e ≤ f + 1 →
      valSub (S.pop ++ (.val (curBlkD S.scopes) :: sub S.pop.length :: ext)) S.pop.length = some (sub S.pop.length) →
      regenVal (S.pop ++ (.val (curBlkD S.scopes) :: sub S.pop.length :: ext)) (f + 1) S.pop.length = genExpr e) :
    ExprSpec fc e st := by
  have hok0 := buildExpr_ok_mono fc e st (hb ▸ hok)
  rw [mkLeaf_ok, Bool.and_eq_true, X.scopes] at hok
  have hlen : st.pop.length ≤ S.pop.length := by rw [X.pop, List.length_append]; omega
  refine ⟨hok0, hok.2, ?_, ⟨d ++ [.val (curBlkD S.scopes), sub S.pop.length], ?_, ?_, ?_, ?_⟩, ?_, ?_, ?_, ?_⟩
  · rw [hb, mkLeaf_scopes, X.scopes]
  · rw [hb, mkLeaf_pop, X.pop, List.append_assoc]
  · rw [List.length_append]; simp; omega
  · intro r hr k hk
    rcases List.mem_append.1 hr with h | h
    · exact X.keys r h k hk
    · simp only [List.mem_cons, List.not_mem_nil, or_false] at h
      rcases h with rfl | rfl
      · cases hk
      · rw [hsub] at hk; cases hk; exact hlen
  · intro r hr
    rcases List.mem_append.1 hr with h | h
    · exact X.other r h
    · simp only [List.mem_cons, List.not_mem_nil, or_false] at h
      rcases h with rfl | rfl
      · exact ⟨rfl, rfl, fun _ _ h => Row.noConfusion h, fun _ h => Row.noConfusion h⟩
      · exact Row.of_valOf (hsub _)
  · rw [hb, mkLeaf_pop]; exact X.tsv.append2 _ _ (hsub _)
  · exact ⟨curBlkD S.scopes, by rw [hb, mkLeaf_pop, mkLeaf_fst]; simp⟩
  · rw [hb, mkLeaf_fst]; exact hlen
  · intro ext fuel hf
    obtain ⟨f, rfl⟩ : ∃ f, fuel = f + 1 := ⟨fuel - 1, by have := one_le_szV e; omega⟩
    rw [hb, mkLeaf_pop, mkLeaf_fst, List.append_assoc]
    exact hregen ext f hf (leaf_spec X.tsv _ _ (hsub _) ext)

/-- `needVar` under `ok`: the visible variable, or — for the name `self`, not visible, in a home that has a `self` —
    a fresh V_VAR + V_INT of the home's class -/
theorem needVar_cases {fc : FCtx} {n : String} {m : St} (hok : (needVar fc n m).2.ok = true) :
    (∃ v, findSym m.scopes n = some v ∧ needVar fc n m = (v, m)) ∨
    (n = "self" ∧ ∃ kl, needVar fc n m = newVar "self" (fun v => .vint v kl) m) := by
  unfold needVar at hok ⊢
  cases hc : (canonName n != n || lowerStr n == "sender") with
  | true => simp [lookupVar, hc] at hok
  | false =>
    rw [lookupVar_eq hc] at hok ⊢
    cases hf : findSym m.scopes n with
    | some v => left; exact ⟨v, rfl, by simp⟩
    | none =>
      cases hs : n == "self" with
      | false => simp [hf, hs] at hok
      | true =>
        cases hk : fc.selfKl with
        | none => simp [hf, hs, hk] at hok
        | some kl =>
          right
          refine ⟨by simpa using hs, kl, ?_⟩
          simp only [if_true]

theorem needVar_ok {fc : FCtx} {n : String} {st : St} (h : (needVar fc n st).2.ok = true) (hn : n ≠ "self") :
    ∃ v, findSym st.scopes n = some v ∧ needVar fc n st = (v, st) :=
  (needVar_cases h).resolve_right fun hs => hn hs.1

theorem bool_regen (v : String) (h : v = "true" ∨ v = "false") : boolTok (lowerStr (boolValue v)) = boolTok v := by
  rcases h with rfl | rfl <;> rfl

theorem regenVar_name {q : FlatPop} {v : Nat} {n : String} {b : Nat} (h : q[v]? = some (.var n b)) :
    regenVar q v = [nameTok n] := by simp [regenVar, h]

theorem regenVar_of {q : FlatPop} {v : Nat} {n : String} {b : Nat} (h : q[v]? = some (.var n b)) (hn : n ≠ "self") :
    regenVar q v = [Tok.ident n] := by
  rw [regenVar_name h, nameTok, if_neg hn]

/-- `regenVal` on the population `buildExpr` leaves (extended by anything) prints `genExpr e`; and what the
    builder does to the state on the way -/
theorem buildExpr_spec (fc : FCtx) : ∀ (e : Expr) (st : St), coreE e = true → SymOK st → TSv st.pop →
    (buildExpr fc e st).2.ok = true → ExprSpec fc e st
  | .int v, st => fun _ _ hts hok =>
    .node (buildExpr_int fc v st) (.refl hts) (Nat.le_refl _) (fun _ => rfl) (buildExpr_int fc v st ▸ hok)
      (fun _ _ _ hv => by simp only [regenVal, hv, genExpr])
  | .real v, st => fun _ _ hts hok =>
    .node (buildExpr_real fc v st) (.refl hts) (Nat.le_refl _) (fun _ => rfl) (buildExpr_real fc v st ▸ hok)
      (fun _ _ _ hv => by simp only [regenVal, hv, genExpr])
  | .str v, st => fun _ _ hts hok =>
    .node (buildExpr_str fc v st) (.refl hts) (Nat.le_refl _) (fun _ => rfl) (buildExpr_str fc v st ▸ hok)
      (fun _ _ _ hv => by simp only [regenVal, hv, genExpr]; rfl)
  | .bool v, st => fun _ _ hts hok => by
    rw [buildExpr_bool] at hok
    have hv : v = "true" ∨ v = "false" := by
      have := mkLeaf_ok_mono hok
      rw [guard_ok, Bool.and_eq_true] at this
      simpa using this.2
    exact .node (buildExpr_bool fc v st) ((ValExt.refl hts).guard _) (Nat.le_refl _) (fun _ => rfl) hok
      (fun _ _ _ hq => by simp only [regenVal, hq, genExpr, bool_regen v hv])
  | .selected, st => fun _ _ hts hok =>
    .node (buildExpr_selected fc st) (.refl hts) (Nat.le_refl _) (fun _ => rfl) (buildExpr_selected fc st ▸ hok)
      (fun _ _ _ hv => by simp only [regenVal, hv, genExpr])
  | .param n, st => fun _ _ hts hok =>
    .node (buildExpr_param fc n st) (.refl hts) (Nat.le_refl _) (fun _ => rfl) (buildExpr_param fc n st ▸ hok)
      (fun _ _ _ hv => by simp only [regenVal, hv, genExpr])
  | .enum nsp n, st => fun _ _ hts hok => by
    rcases buildExpr_enum fc nsp n st with hb | hb <;> rw [hb] at hok
    · exact .node hb (.refl hts) (Nat.le_refl _) (fun _ => rfl) hok (fun _ _ _ hv => by simp only [regenVal, hv, genExpr])
    · exact .node hb (.refl hts) (Nat.le_refl _) (fun _ => rfl) hok (fun _ _ _ hv => by simp only [regenVal, hv, genExpr])
  | .var n, st => fun _ hsym hts hok => by
    rcases buildExpr_var fc n st with ⟨mk, hmk, hb⟩ | hf
    · rw [hb] at hok
      have hl := mkLeaf_ok_mono hok
      have hn : n ≠ "self" := by
        have := needVar_ok_mono hl
        rw [guard_ok, Bool.and_eq_true] at this
        simpa using this.2
      have hg : st.guard (n != "self") = st := by simp [St.guard, hn]
      obtain ⟨v, hf, hnv⟩ := needVar_ok hl hn
      rw [hg] at hf hnv
      rw [hg, hnv] at hb hok
      obtain ⟨b, hvar⟩ := hsym n v hf
      refine .node hb (.refl hts) (Nat.le_refl _) (fun i => by rcases hmk with rfl | rfl | rfl <;> rfl) hok ?_
      intro ext f _ hv
      have hq : (st.pop ++ (.val (curBlkD st.scopes) :: mk st.pop.length v :: ext))[v]? = some (.var n b) := by
        rw [List.getElem?_append_left (getElem?_lt_of_some hvar)]; exact hvar
      rcases hmk with rfl | rfl | rfl <;> simp only [regenVal, hv, genExpr, regenVar_of hq hn]
    · rw [hf] at hok; cases hok
  | .un op e, st => fun hc hsym hts hok => by
    simp only [coreE, Bool.and_eq_true, beq_iff_eq] at hc
    rw [buildExpr_un] at hok
    have ih := buildExpr_spec fc e st hc.2 hsym hts (mkLeaf_ok_mono hok)
    obtain ⟨d, X, hl⟩ := ih.ext
    refine .node (buildExpr_un fc op e st) X (by simp only [szV]; omega) (fun _ => rfl) hok ?_
    intro ext f hf hv
    simp only [szV] at hf
    simp only [regenVal, hv, genExpr, ih.regen _ f (by omega)]
    rw [hc.1]
  | .field h a, st => fun hc hsym hts hok => by
    simp only [coreE] at hc
    obtain ⟨g, hb⟩ := buildExpr_field fc h a st
    rw [hb] at hok
    have ih := buildExpr_spec fc h st hc hsym hts (guard_ok_mono (mkLeaf_ok_mono hok))
    obtain ⟨d, X, hl⟩ := ih.ext
    refine .node hb (X.guard g) (by simp only [szV]; omega) (fun _ => rfl) hok ?_
    intro ext f hf hv
    simp only [szV] at hf
    simp only [guard_pop, guard_scopes] at hv ⊢
    simp only [regenVal, hv, genExpr, ih.regen _ f (by omega)]
  | .bin l op r, st => fun hc hsym hts hok => by
    simp only [coreE, Bool.and_eq_true, beq_iff_eq] at hc
    rw [buildExpr_bin] at hok
    have hokB := mkLeaf_ok_mono hok
    have A := buildExpr_spec fc l st hc.1.2 hsym hts (buildExpr_ok_mono fc r _ hokB)
    have B := buildExpr_spec fc r _ hc.2 (A.symOK hsym) A.tsv hokB
    obtain ⟨dA, XA, hlA⟩ := A.ext
    obtain ⟨dB, XB, hlB⟩ := B.ext
    refine .node (buildExpr_bin fc l op r st) (XA.trans XB) (by simp only [szV, List.length_append]; omega)
      (fun _ => rfl) hok ?_
    intro ext f hf hv
    simp only [szV] at hf
    -- the left operand is read back through all that was appended after it: the right operand's rows, the node's two, `ext`
    have hA := A.regen (dB ++ (.val (curBlkD (buildExpr fc r (buildExpr fc l st).2).2.scopes) ::
      .bin (buildExpr fc r (buildExpr fc l st).2).2.pop.length (lowerStr op) (buildExpr fc l st).1
        (buildExpr fc r (buildExpr fc l st).2).1 :: ext)) f (by omega)
    rw [← List.append_assoc, ← XB.pop] at hA
    simp only [regenVal, hv, genExpr, hA, B.regen _ f (by omega)]
    rw [hc.1.1]
  | .self, _ | .index _ _, _ | .call _ _ _ _, _ | .icall _ _ _, _ => fun hc => by cases hc

end Pyx.Prebuild.Flat
