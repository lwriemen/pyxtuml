import Proofs.SqlCharRoundtrip
import Proofs.Lib.Traverse

/-! the writer routes of xtuml/persist.py are lists of items printed from the metamodel; the two walks over an item list,
    `itemsStmts` and `printItems`, are `mapM` in `Option` (`itemsStmts_eq_some`, `printItems_eq_some`, by `mapM_eq_some` of
    Proofs/Lib/Traverse.lean) -/
namespace Pyx.Sql
open Gen.SqlLex (Rule Kw)
open Gen.Persist (Ty)

theorem insertBy_perm {α : Type} (le : α → α → Bool) (x : α) : ∀ (l : List α), (insertBy le x l).Perm (x :: l) := by
  intro l
  induction l with
  | nil => exact List.Perm.refl _
  | cons y ys ih =>
    simp only [insertBy]
    split
    · exact (List.Perm.cons y ih).trans (List.Perm.swap x y ys)
    · exact List.Perm.refl _

theorem mem_insertBy {α : Type} (le : α → α → Bool) (x y : α) (l : List α) : y ∈ insertBy le x l ↔ y = x ∨ y ∈ l :=
  (insertBy_perm le x l).mem_iff.trans List.mem_cons

theorem sortBy_perm {α : Type} (le : α → α → Bool) (xs : List α) : (sortBy le xs).Perm xs := by
  -- step by step a permutation of the fold that conses, which is `reverse`
  have h := List.foldl_rel (r := List.Perm) (f := fun acc x => insertBy le x acc) (g := fun acc x => x :: acc) (l := xs) .nil
    fun x _ c _ h => (insertBy_perm le x c).trans (h.cons x)
  rw [List.foldl_flip_cons_eq_append', List.append_nil] at h
  exact h.trans (List.reverse_perm xs)

theorem mem_sortBy {α : Type} (le : α → α → Bool) (y : α) (xs : List α) : y ∈ sortBy le xs ↔ y ∈ xs :=
  (sortBy_perm le xs).mem_iff

def ItemOf (m : MM) : Item → Prop
  | .cls kind attrs => ∃ c ∈ m.classes, c.kind = kind ∧ c.attrs = attrs
  | .index name kind attrs => ∃ c ∈ m.classes, c.kind = kind ∧ (name, attrs) ∈ c.indices
  | .inst kind attrs vals => ∃ c ∈ m.classes, c.kind = kind ∧ c.attrs = attrs ∧ vals ∈ c.rows
  | .assoc rel s t => ∃ a ∈ m.assocs, a.relId = rel ∧ a.src = s ∧ a.tgt = t

theorem itemOf_classItems (m : MM) {L : List ClassM} (h : ∀ c ∈ L, c ∈ m.classes) : ∀ it ∈ L.map ClassM.item, ItemOf m it := by
  intro it hit
  obtain ⟨c, hc, rfl⟩ := List.mem_map.mp hit
  exact ⟨c, h c hc, rfl, rfl⟩

theorem itemOf_assocItems (m : MM) {A : List AssocM} (h : ∀ a ∈ A, a ∈ m.assocs) : ∀ it ∈ A.map AssocM.item, ItemOf m it := by
  intro it hit
  obtain ⟨a, ha, rfl⟩ := List.mem_map.mp hit
  exact ⟨a, h a ha, rfl, rfl, rfl⟩

theorem itemOf_indexItems (m : MM) {L : List ClassM} (h : ∀ c ∈ L, c ∈ m.classes) :
    ∀ it ∈ L.flatMap ClassM.indexItems, ItemOf m it := by
  intro it hit
  obtain ⟨c, hc, hin⟩ := List.mem_flatMap.mp hit
  obtain ⟨e, he, rfl⟩ := List.mem_map.mp hin
  exact ⟨c, h c hc, rfl, he⟩

theorem itemOf_instItems (m : MM) {L : List ClassM} (h : ∀ c ∈ L, c ∈ m.classes) :
    ∀ it ∈ L.flatMap ClassM.instItems, ItemOf m it := by
  intro it hit
  obtain ⟨c, hc, hin⟩ := List.mem_flatMap.mp hit
  obtain ⟨r, hr, rfl⟩ := List.mem_map.mp hin
  exact ⟨c, h c hc, rfl, rfl, hr⟩

def MM.routes (u : UC) (m : MM) : List (List Item) :=
  [m.serializeDatabase u, m.serializeSchema u, m.serializeInstances, m.serializeUniqueIdentifiers u,
   m.persistDatabase u, m.persistSchema u, m.persistInstances, m.persistUniqueIdentifiers]

theorem itemOf_route (u : UC) (m : MM) : ∀ r ∈ m.routes u, ∀ it ∈ r, ItemOf m it := by
  have hS : ∀ c ∈ m.sortedClasses u, c ∈ m.classes := fun c => (mem_sortBy _ _ _).mp
  have cls := itemOf_classItems m hS
  have as1 := itemOf_assocItems m (A := m.assocsByIdKind) fun a => (mem_sortBy _ _ _).mp
  have as2 := itemOf_assocItems m (A := m.assocsById) fun a => (mem_sortBy _ _ _).mp
  have ins := itemOf_instItems m (L := m.classes) fun _ h => h
  have ix1 := itemOf_indexItems m hS
  have ix2 := itemOf_indexItems m (L := m.classes) fun _ h => h
  have cx : ∀ it ∈ (m.sortedClasses u).flatMap (fun c => c.item :: c.indexItems), ItemOf m it := by
    intro it hit
    obtain ⟨c, hc, hin⟩ := List.mem_flatMap.mp hit
    rcases List.mem_cons.mp hin with rfl | hin
    · exact cls _ (List.mem_map.mpr ⟨c, hc, rfl⟩)
    · exact ix1 _ (List.mem_flatMap.mpr ⟨c, hc, hin⟩)
  have app : ∀ {a b : List Item}, (∀ it ∈ a, ItemOf m it) → (∀ it ∈ b, ItemOf m it) → ∀ it ∈ a ++ b, ItemOf m it :=
    fun ha hb => List.forall_mem_append.mpr ⟨ha, hb⟩
  simp only [MM.routes, List.forall_mem_cons]
  refine ⟨?serializeDatabase, ?serializeSchema, ins, ix1, ?persistDatabase, ?persistSchema, ins, ix2, nofun⟩
  case serializeDatabase => exact app (app (app cls as1) ins) ix1
  case serializeSchema => exact app cls as1
  case persistDatabase => exact app (app cx as2) ins
  case persistSchema => exact app cls as2

/-- the persistable domain: every class, identifier, row and association of the metamodel prints as a well-formed item -/
structure MM.WF (u : UC) (m : MM) : Prop where
  classes : ∀ c ∈ m.classes, c.item.WF u
  indices : ∀ c ∈ m.classes, ∀ it ∈ c.indexItems, it.WF u
  rows : ∀ c ∈ m.classes, ∀ it ∈ c.instItems, it.WF u
  assocs : ∀ a ∈ m.assocs, a.item.WF u

theorem MM.WF.item {u : UC} {m : MM} (hw : m.WF u) : ∀ {it : Item}, ItemOf m it → it.WF u
  | .cls _ _, ⟨c, hc, rfl, rfl⟩ => hw.classes c hc
  | .index _ _ _, ⟨c, hc, rfl, he⟩ => hw.indices c hc _ (List.mem_map.mpr ⟨_, he, rfl⟩)
  | .inst _ _ _, ⟨c, hc, rfl, rfl, hr⟩ => hw.rows c hc _ (List.mem_map.mpr ⟨_, hr, rfl⟩)
  | .assoc _ _ _, ⟨a, ha, rfl, rfl, rfl⟩ => hw.assocs a ha

theorem MM.route_items_wf (u : UC) (m : MM) (hw : m.WF u) : ∀ r ∈ m.routes u, ∀ it ∈ r, it.WF u :=
  fun r hr it hit => hw.item (itemOf_route u m r hr it hit)

/-- every writer route of a well-formed metamodel produces a text the loader accepts, and the statements it parses are
    exactly the statements of the route's items, in the route's order -/
theorem route_roundtrip (u : UC) (m : MM) (hw : m.WF u) (r : List Item) (hr : r ∈ m.routes u) (text : Text)
    (hp : printItems u r = some text) : ∃ stmts, itemsStmts u r = some stmts ∧ classify u text = .accepted stmts :=
  classify_items u r text (m.route_items_wf u hw r hr) hp

theorem itemsStmts_eq (u : UC) : ∀ items : List Item, itemsStmts u items = items.mapM (Item.stmt u)
  | [] => rfl
  | it :: items => by
    rw [List.mapM_cons, itemsStmts, itemsStmts_eq u items]
    cases it.stmt u <;> cases items.mapM (Item.stmt u) <;> rfl

theorem printItems_eq (u : UC) : ∀ items : List Item, printItems u items = (items.mapM (Item.print u)).map List.flatten
  | [] => rfl
  | it :: items => by
    rw [List.mapM_cons, printItems, printItems_eq u items]
    cases it.print u <;> cases items.mapM (Item.print u) <;> rfl

theorem itemsStmts_eq_some {u : UC} {items : List Item} {stmts : List Stmt} :
    itemsStmts u items = some stmts ↔ items.map (Item.stmt u) = stmts.map some := by
  rw [itemsStmts_eq, mapM_eq_some]

theorem printItems_eq_some {u : UC} {items : List Item} {text : Text} :
    printItems u items = some text ↔ ∃ ts : List Text, items.map (Item.print u) = ts.map some ∧ ts.flatten = text := by
  simp only [printItems_eq, Option.map_eq_some_iff, mapM_eq_some]

theorem printItems_some_of_all (u : UC) : ∀ (items : List Item), (∀ it ∈ items, (it.print u).isSome = true) →
    ∃ text, printItems u items = some text := fun items h =>
  let ⟨r, hr⟩ := mapM_isSome h
  ⟨r.flatten, by rw [printItems_eq, hr]; rfl⟩

theorem printItems_append (u : UC) (a b : List Item) (ta tb : Text) (ha : printItems u a = some ta) (hb : printItems u b = some tb) :
    printItems u (a ++ b) = some (ta ++ tb) := by
  obtain ⟨tsa, ha', rfl⟩ := printItems_eq_some.mp ha
  obtain ⟨tsb, hb', rfl⟩ := printItems_eq_some.mp hb
  exact printItems_eq_some.mpr ⟨tsa ++ tsb, by rw [List.map_append, ha', hb', List.map_append], List.flatten_append⟩

theorem itemsStmts_cons (u : UC) (it : Item) (items : List Item) (stmts : List Stmt) (h : itemsStmts u (it :: items) = some stmts) :
    ∃ st rest, it.stmt u = some st ∧ itemsStmts u items = some rest ∧ stmts = st :: rest := by
  obtain ⟨st, rest, rfl, h1, h2⟩ := List.map_eq_cons_iff.mp (itemsStmts_eq_some.mp h).symm
  exact ⟨st, rest, h1.symm, itemsStmts_eq_some.mpr h2.symm, rfl⟩

theorem itemsStmts_append_inv (u : UC) (a b : List Item) (s : List Stmt) (h : itemsStmts u (a ++ b) = some s) :
    ∃ sa sb, itemsStmts u a = some sa ∧ itemsStmts u b = some sb ∧ s = sa ++ sb := by
  rw [itemsStmts_eq_some, List.map_append] at h
  obtain ⟨sa, sb, rfl, ha, hb⟩ := List.map_eq_append_iff.mp h.symm
  exact ⟨sa, sb, itemsStmts_eq_some.mpr ha.symm, itemsStmts_eq_some.mpr hb.symm, rfl⟩

theorem cardText_M (many cond : Bool) : (cardText many cond).contains 'M' = many := by
  cases many <;> cases cond <;> decide
theorem cardText_C (many cond : Bool) : (cardText many cond).contains 'C' = cond := by
  cases many <;> cases cond <;> decide

theorem classify_concat (u : UC) (a b : List Item) (ta tb : Text) (ha : ∀ it ∈ a, it.WF u) (hb : ∀ it ∈ b, it.WF u)
    (hpa : printItems u a = some ta) (hpb : printItems u b = some tb) :
    ∃ sa sb, itemsStmts u a = some sa ∧ itemsStmts u b = some sb ∧ classify u (ta ++ tb) = .accepted (sa ++ sb) := by
  obtain ⟨s, hs, hc⟩ := classify_items u (a ++ b) (ta ++ tb) (List.forall_mem_append.mpr ⟨ha, hb⟩)
    (printItems_append u a b ta tb hpa hpb)
  obtain ⟨sa, sb, hsa, hsb, rfl⟩ := itemsStmts_append_inv u a b s hs
  exact ⟨sa, sb, hsa, hsb, hc⟩

end Pyx.Sql
