import Proofs.InterpCalls
import Proofs.InterpEffects
import Proofs.InterpMono

/-!
  The value of the executed return, through any nesting — with the witness TIED to the body.

  `RetInv`: whenever a statement — however deeply the `return` sits in blocks, ifs, elifs, loops — completes with the
  outcome `ret`, there is a statement `return e` that OCCURS in it (`Occ`, the sub-statement relation), whose
  expression `e` was evaluated in a configuration `c0` that is LINKED to the configuration the statement started in
  (`Rlink`: same walker kind, same parameters, same `self` — the same frame identity — and a state reached from the
  start state by a history of successful state operations), to the value `v` that is in the register at the end; and
  after that evaluation only unwinding happened (the final state is the state right after the evaluation).

  `RetInv` is an invariant of runs in the sense of Proofs/InterpStep.lean except for one rule: the context-free `retv` (any value
  may be written to the register) is exactly what it denies.  The witness must occur in the statement being executed, which
  looks like a relation that changes at every step of the recursion; it does not: the set `In` of admissible `return e`
  statements is held FIXED and the walk is restricted (`Ok`) to the statements all of whose sub-statements `In` admits.
-/
namespace Pyx.Interp
open M

inductive Occ (t : Stmt) : Stmt → Prop
  | self : Occ t t
  | ifThen {c : Expr} {thn : Block} {elifs : List (Expr × Block)} {els : Option Block} {s : Stmt} :
      s ∈ thn → Occ t s → Occ t (.ifS c thn elifs els)
  | ifElif {c : Expr} {thn : Block} {elifs : List (Expr × Block)} {els : Option Block} {p : Expr × Block} {s : Stmt} :
      p ∈ elifs → s ∈ p.2 → Occ t s → Occ t (.ifS c thn elifs els)
  | ifElse {c : Expr} {thn : Block} {elifs : List (Expr × Block)} {b : Block} {s : Stmt} :
      s ∈ b → Occ t s → Occ t (.ifS c thn elifs (some b))
  | whileB {c : Expr} {body : Block} {s : Stmt} : s ∈ body → Occ t s → Occ t (.whileS c body)
  | forB {v setv : String} {body : Block} {s : Stmt} : s ∈ body → Occ t s → Occ t (.forEach v setv body)

def OccB (t : Stmt) (b : Block) : Prop := ∃ s ∈ b, Occ t s

/-- the frame identity: walker kind, parameters, self (variables and the return register may differ) -/
def Rid (c c' : Cfg) : Prop := c'.fr.kind = c.fr.kind ∧ c'.fr.params = c.fr.params ∧ c'.fr.self = c.fr.self

def Rlink (C : Ctx) (c c' : Cfg) : Prop := Rid c c' ∧ Reach C c.st c'.st

theorem Rlink_po (C : Ctx) : PreOrder (Rlink C) :=
  ⟨fun _ => ⟨⟨rfl, rfl, rfl⟩, (reach_ops C).refl _⟩,
   fun _ _ _ h1 h2 => ⟨⟨h2.1.1.trans h1.1.1, h2.1.2.1.trans h1.1.2.1, h2.1.2.2.trans h1.1.2.2⟩,
     (reach_ops C).trans _ _ _ h1.2 h2.2⟩⟩

/-- evaluation keeps the whole frame (`rfr_run`) and reaches its final state by state operations (`reach_run`) -/
theorem rlink_eval (C : Ctx) (n : Nat) (e : Expr) : Pres (Rlink C) ((run C n).eval e) := fun c v c' h =>
  ⟨by rw [Rid, rfr_run C n e c v c' h]; exact ⟨rfl, rfl, rfl⟩, (reach_run C n).1 e c v c' h⟩

/-- the event behind an outcome `ret`: a statement `return e` that `In` admits, evaluated in a configuration linked to the start,
    to the value now in the register, in the state now current -/
def Ev (C : Ctx) (rec : Oracle) (In : Stmt → Prop) (c c' : Cfg) : Prop :=
  ∃ e c0 v cE, In (.ret (some e)) ∧ Rlink C c c0 ∧ rec.eval e c0 = some (.ok (v, cE)) ∧ c'.st = cE.st ∧ c'.fr.ret = v

def TRet (C : Ctx) (rec : Oracle) (In : Stmt → Prop) (o : Out) (c c' : Cfg) : Prop :=
  Rlink C c c' ∧ (o = .ret → Ev C rec In c c')

/-- `In t`: the statements that count as "occurring" in what `m` executes -/
abbrev RetInv (C : Ctx) (rec : Oracle) (In : Stmt → Prop) (m : M Out) : Prop := PresO (TRet C rec In) m

section
variable {C : Ctx} {rec : Oracle} {In : Stmt → Prop}

theorem TRet.normal {a b : Cfg} (h : Rlink C a b) : TRet C rec In .normal a b := ⟨h, nofun⟩

/-- for a FIXED set `In` the relation obeys every rule but the context-free `retv` -/
theorem tret_base : StepBase C (fun _ => True) (Rlink C) (TRet C rec In) where
  po := Rlink_po C
  ofRe := .normal
  refl := fun c ho => ⟨(Rlink_po C).refl c, fun h => absurd h ho⟩
  seq := fun _ h1 h2 => ⟨(Rlink_po C).trans _ _ _ h1.1 h2.1, fun ho =>
    let ⟨e, c0, v, cE, hin, hl, hev⟩ := h2.2 ho
    ⟨e, c0, v, cE, hin, (Rlink_po C).trans _ _ _ h1.1 hl, hev⟩⟩
  install := fun _ _ c => .normal ((Rlink_po C).refl c)
  bracket := id
  reg := fun _ _ => .normal ((Rlink_po C).refl _)
  op := fun _ _ h => .normal ⟨⟨rfl, rfl, rfl⟩, reach_one h⟩
  invoke := fun h => ⟨⟨rfl, rfl, rfl⟩, h.1.2⟩

/-- `return e` itself: the event is this statement -/
theorem tret_ret {r : Oracle} (he : ∀ e, Pres (Rlink C) (r.eval e)) {e : Expr} (hin : In (.ret (some e))) {c c1 : Cfg} {v : Val}
    (h : r.eval e c = some (.ok (v, c1))) : TRet C r In .ret c (c1.withRet v) :=
  ⟨he e c v c1 h, fun _ => ⟨e, c, v, c1, hin, (Rlink_po C).refl _, h, rfl, rfl⟩⟩

end

/-- the statements all of whose sub-statements `In` admits: closed under sub-statements, so the ONE set `In` serves the whole
    walk of Proofs/InterpStep.lean -/
theorem occ_closed (In : Stmt → Prop) : OkClosed (fun _ => True) (fun s => ∀ t, Occ t s → In t) :=
  ⟨fun _ => trivial, fun h _ hs t ht => h t (.ifThen hs ht), fun h _ hp _ hs t ht => h t (.ifElif hp hs ht),
   fun h _ hs t ht => h t (.ifElse hs ht), fun h _ hs t ht => h t (.whileB hs ht), fun h _ hs t ht => h t (.forB hs ht)⟩

theorem tret_mono {C : Ctx} {r r' : Oracle} (h : Oracle.le r r') {In : Stmt → Prop} {m : M Out}
    (hm : RetInv C r In m) : RetInv C r' In m := fun c o c' hc =>
  let ⟨hl, hev⟩ := hm c o c' hc
  ⟨hl, fun ho => let ⟨e, c0, v, cE, hin, h1, h2, h3⟩ := hev ho; ⟨e, c0, v, cE, hin, h1, h.1 e c0 _ h2, h3⟩⟩

theorem retInv_in (C : Ctx) : ∀ n (In : Stmt → Prop) s, (∀ t, Occ t s → In t) → RetInv C (run C n) In ((run C n).exec s)
  | 0 => fun _ _ _ _ _ _ h => by simp [run] at h
  | n + 1 => fun In s hok =>
    have he := rlink_eval C n
    -- the step gives the invariant about the oracle at `n`; `tret_mono` moves the recorded evaluation to `n + 1`
    tret_mono (run_le_succ C n)
      (step_execStep tret_base he (retInv_in C n In) (occ_closed In) (fun _ h _ _ _ => tret_ret he (h _ .self)) s hok)

theorem retInv_run (C : Ctx) (n : Nat) (s : Stmt) : RetInv C (run C n) (fun t => Occ t s) ((run C n).exec s) :=
  retInv_in C n _ s fun _ h => h

theorem retInv_body (C : Ctx) (n : Nat) (b : Block) : RetInv C (run C n) (fun t => OccB t b) (execBlock (run C n) b) :=
  step_execBlock tret_base (retInv_in C n _) b fun s hs _ ht => ⟨s, hs, ht⟩

/-- **the result of an invocation is the value of a `return <expr>` of ITS body, evaluated in ITS activation**:
    either the body completed without a value return and the invocation delivers nothing, or there is a statement
    `return e` occurring in the body (at any depth: blocks, if / elif / else, while, for each) whose expression was
    evaluated — in a configuration `c0` of the callee's own activation (its walker kind, its parameters bound by
    name, its self) whose state is reached from the state at the call by a history of state operations — to exactly
    the delivered value; after that evaluation nothing but unwinding happened: the state handed back to the caller
    is the state right after the evaluation. -/
theorem invoke_delivers_executed_return {C : Ctx} {n : Nat} {kind : WalkerKind} {body : Block}
    {kw : List (String × Val)} {self : Val} {c c2 : Cfg} {v : Val} (hk : NotDerived kind)
    (h : invoke (run C n) kind body kw self c = some (.ok (v, c2))) :
    (v = .none ∧ ∃ o c', execBlock (run C n) body { fr := mkFrame kind kw self, st := c.st } = some (.ok (o, c')) ∧ o ≠ .ret) ∨
    (∃ e c0 cE c', OccB (.ret (some e)) body ∧
        c0.fr.kind = kind ∧ c0.fr.params = paramsOf kw ∧ c0.fr.self = self ∧ Reach C c.st c0.st ∧
        (run C n).eval e c0 = some (.ok (v, cE)) ∧
        execBlock (run C n) body { fr := mkFrame kind kw self, st := c.st } = some (.ok (.ret, c')) ∧
        c'.st = cE.st ∧ c2.st = cE.st) := by
  obtain ⟨c', hrb, hv', hc2⟩ := invoke_ok_inv h
  obtain ⟨o, hb⟩ := runBody_inv hrb
  by_cases ho : o = .ret
  · subst ho
    right
    obtain ⟨_, hev⟩ := retInv_body C n body _ .ret c' hb
    obtain ⟨e, c0, w, cE, hin, hl, hev', hs1, hs2⟩ := hev rfl
    have hvw : v = w := by rw [hv', hs2]
    subst hvw
    exact ⟨e, c0, cE, c', hin, hl.1.1, hl.1.2.1, hl.1.2.2, hl.2, hev', hb, hs1, by rw [hc2]; exact hs1⟩
  · left
    have hp := presRet_execBlock (presRet_run C n) body _ o c' hb hk
    exact ⟨by rw [hv', hp.2 ho]; rfl, o, c', hb, ho⟩

/-! ### for the non-vacuity examples of Props/C15.lean -/

def valOfR {α : Type} (r : Res α) : Option α := match r with | some (.ok (v, _)) => some v | _ => none

theorem ok_of_valOfR {α : Type} {r : Res α} {v : α} (h : valOfR r = some v) : ∃ c', r = some (.ok (v, c')) := by
  unfold valOfR at h
  split at h
  · rename_i w c; cases h; exact ⟨c, rfl⟩
  · cases h

end Pyx.Interp
