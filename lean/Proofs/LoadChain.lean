import Proofs.LoadApi
import Proofs.LoadBuild
import Proofs.Lib.Lookup

/-! C03: reading attributes through chains of referential properties (`readAttr`).
    A read is the iteration of a deterministic step on states (class, instance, attribute); more fuel never changes a
    read that ended; a read that ends never visits a state twice, and every state after the first one is (referred
    class, linked row, identifying attribute) — of which there are at most `fuelOf m - 1` in a metamodel with
    well-formed links: the fuel `fuelOf` that the model gives a read is enough for every read that ends at all.
    On a metamodel that carries the joins (`Joined`) a referential read is `None` or the read of an identifying attribute
    of a referred row that the row matches (`readAttr_joined`). -/

namespace Pyx.Load

theorem lookup_isSome_of_mem_fst {α β : Type} [BEq α] [LawfulBEq α] {l : List (α × β)} {x : α}
    (h : x ∈ l.map (·.1)) : ∃ y, l.lookup x = some y :=
  Option.ne_none_iff_exists'.mp fun hn => (lookup_none_iff l x).mp hn h

section iter
variable {σ : Type} (next : σ → Val ⊕ σ)

def runSteps : Nat → σ → Option Val
  | 0, _ => none
  | n + 1, s =>
    match next s with
    | .inl v => some v
    | .inr s' => runSteps n s'

/-- `p` lists the states visited after `s` until the step answers `v` -/
inductive Path (v : Val) : σ → List σ → Prop where
  | stop {s : σ} : next s = .inl v → Path v s []
  | step {s s' : σ} {p : List σ} : next s = .inr s' → Path v s' p → Path v s (s' :: p)

theorem runSteps_of_path {v : Val} {s : σ} {p : List σ} (h : Path next v s p) :
    runSteps next (p.length + 1) s = some v := by
  induction h with
  | stop h => simp [runSteps, h]
  | step h _ ih => simp only [runSteps, h, List.length_cons]; exact ih

theorem runSteps_succ {v : Val} : ∀ (n : Nat) (s : σ), runSteps next n s = some v → runSteps next (n + 1) s = some v := by
  intro n
  induction n with
  | zero => intro s h; simp [runSteps] at h
  | succ n ih =>
    intro s h
    simp only [runSteps] at h ⊢
    cases hn : next s with
    | inl w => simp only [hn] at h ⊢; exact h
    | inr s' => simp only [hn] at h ⊢; exact ih s' h

theorem runSteps_mono {v : Val} {n n' : Nat} (hle : n ≤ n') (s : σ) (h : runSteps next n s = some v) :
    runSteps next n' s = some v := by
  induction hle with
  | refl => exact h
  | step _ ih => exact runSteps_succ next _ s ih

theorem runSteps_congr (next' : σ → Val ⊕ σ) (P : σ → Prop)
    (h : ∀ s, P s → next' s = next s ∧ ∀ s', next s = .inr s' → P s') :
    ∀ (n : Nat) (s : σ), P s → runSteps next' n s = runSteps next n s := by
  intro n
  induction n with
  | zero => intro _ _; rfl
  | succ n ih =>
    intro s hs
    obtain ⟨he, hcl⟩ := h s hs
    simp only [runSteps, he]
    cases hn : next s with
    | inl v => rfl
    | inr s' => exact ih s' (hcl s' hn)

theorem path_suffix {v : Val} {s : σ} {p : List σ} (h : Path next v s p) :
    ∀ u ∈ p, ∃ a q, p = a ++ u :: q ∧ Path next v u q := by
  induction h with
  | stop _ => intro u hu; cases hu
  | @step s s' p hn hp ih =>
    intro u hu
    rcases List.mem_cons.mp hu with rfl | hu
    · exact ⟨[], p, rfl, hp⟩
    · obtain ⟨a, q, hpq, hq⟩ := ih u hu
      exact ⟨s' :: a, q, by rw [hpq]; rfl, hq⟩

theorem path_mem_next {v : Val} {s : σ} {p : List σ} (h : Path next v s p) :
    ∀ u ∈ p, ∃ w, next w = .inr u := by
  induction h with
  | stop _ => intro u hu; cases hu
  | @step s s' p hn _ ih =>
    intro u hu
    rcases List.mem_cons.mp hu with rfl | hu
    · exact ⟨s, hn⟩
    · exact ih u hu

theorem path_of_run {v : Val} : ∀ (n : Nat) (s : σ), runSteps next n s = some v →
    ∃ p, Path next v s p ∧ p.Nodup ∧ s ∉ p := by
  intro n
  induction n with
  | zero => intro s h; simp [runSteps] at h
  | succ n ih =>
    intro s h
    simp only [runSteps] at h
    cases hn : next s with
    | inl w =>
      simp only [hn, Option.some.injEq] at h
      subst h
      exact ⟨[], .stop hn, List.nodup_nil, List.not_mem_nil⟩
    | inr s' =>
      simp only [hn] at h
      obtain ⟨p', hp', hnd, hs'⟩ := ih s' h
      have hfull : Path next v s (s' :: p') := .step hn hp'
      have hndf : (s' :: p').Nodup := List.nodup_cons.mpr ⟨hs', hnd⟩
      classical
      by_cases hin : s ∈ s' :: p'
      · -- the path comes back to `s`: what follows that visit is a shorter path from `s`
        obtain ⟨a, q, hpq, hq⟩ := path_suffix next hfull s hin
        rw [hpq] at hndf
        have h2 := (List.nodup_append.mp hndf).2.1
        exact ⟨q, hq, (List.nodup_cons.mp h2).2, (List.nodup_cons.mp h2).1⟩
      · exact ⟨s' :: p', hfull, hndf, hin⟩

theorem runSteps_bounded (all : List σ) (hall : ∀ w u, next w = .inr u → u ∈ all) {v : Val} (n : Nat) (s : σ)
    (h : runSteps next n s = some v) : runSteps next (all.length + 1) s = some v := by
  obtain ⟨p, hp, hnd, _⟩ := path_of_run next n s h
  have hsub : p ⊆ all := by
    intro u hu
    obtain ⟨w, hw⟩ := path_mem_next next hp u hu
    exact hall w u hw
  have hlen := hnd.length_le_of_subset hsub
  exact runSteps_mono next (by omega) s (runSteps_of_path next hp)

end iter

abbrev RState := String × Nat × String

/-- all the chain of row `i` of class `kind` sees of an association: its statement and, when it refers from `kind`, the
    first row linked with `i` -/
def chainView (kind : String) (i : Nat) (p : AssocStmt × Links) : AssocStmt × Option Nat :=
  (p.1, if p.1.srcKind = kind then (p.2.tgt i).head? else none)

/-- where the chain of `x` goes at one association seen through `chainView`: to the first linked row and the
    identifying attribute, if the association uses `x` as a referential attribute and links the row -/
def chainHop (x : String) (v : AssocStmt × Option Nat) : Option RState :=
  v.2.bind fun j => ((v.1.srcKeys.zip v.1.tgtKeys).lookup x).map fun tkey => (v.1.tgtKind, j, tkey)

/-- where the chain of `x` at instance `(kind, i)` goes: the first association of the list that uses `x` as a
    referential attribute of `kind` and links the instance, with the first linked row and the identifying attribute -/
def chainNext (kind : String) (i : Nat) (x : String) (L : List (AssocStmt × Links)) : Option RState :=
  (L.map (chainView kind i)).findSome? (chainHop x)

theorem readChain_eq_next (rec : String → Nat → String → Option Val) (kind : String) (i : Nat) (x : String)
    (L : List (AssocStmt × Links)) :
    readChain rec kind i x L =
      match chainNext kind i x L with
      | none => some .none
      | some s => rec s.1 s.2.1 s.2.2 := by
  induction L with
  | nil => rfl
  | cons p rest ih =>
    obtain ⟨a, La⟩ := p
    simp only [readChain, chainNext, List.map_cons, List.findSome?_cons, chainView, chainHop]
    by_cases hk : a.srcKind = kind
    · simp only [hk, if_true]
      cases (a.srcKeys.zip a.tgtKeys).lookup x with
      | none => cases (La.tgt i).head? <;> exact ih
      | some tk =>
        cases (La.tgt i).head? with
        | none => exact ih
        | some j => rfl
    · simp only [hk, if_false]
      exact ih

theorem chainNext_some {kind : String} {i : Nat} {x : String} {L : List (AssocStmt × Links)} {s : RState}
    (h : chainNext kind i x L = some s) :
    ∃ p ∈ L, p.1.srcKind = kind ∧ s.1 = p.1.tgtKind ∧ (p.2.tgt i).head? = some s.2.1 ∧
      (x, s.2.2) ∈ p.1.srcKeys.zip p.1.tgtKeys := by
  obtain ⟨v, hv, hs⟩ := List.exists_of_findSome?_eq_some h
  obtain ⟨p, hp, rfl⟩ := List.mem_map.mp hv
  obtain ⟨j, hj, hs⟩ := Option.bind_eq_some_iff.mp hs
  obtain ⟨tk, htk, rfl⟩ := Option.map_eq_some_iff.mp hs
  by_cases hk : p.1.srcKind = kind
  · simp only [chainView, hk, if_true] at hj
    exact ⟨p, hp, hk, rfl, hj, mem_of_lookup htk⟩
  · simp [chainView, hk] at hj

theorem chainNext_none {kind : String} {i : Nat} {x : String} {L : List (AssocStmt × Links)}
    (h : chainNext kind i x L = none) :
    ∀ p ∈ L, p.1.srcKind = kind → x ∈ (p.1.srcKeys.zip p.1.tgtKeys).map (·.1) → p.2.tgt i = [] := by
  intro p hp hk hx
  have := List.findSome?_eq_none_iff.mp h _ (List.mem_map.mpr ⟨p, hp, rfl⟩)
  obtain ⟨y, hy⟩ := lookup_isSome_of_mem_fst hx
  simp only [chainHop, chainView, hk, if_true, hy, Option.map_some] at this
  cases hh : (p.2.tgt i).head? with
  | none => exact List.head?_eq_none_iff.mp hh
  | some j => simp [hh] at this

theorem chainNext_congr (kind : String) (i : Nat) (x : String) (L L' : List (AssocStmt × Links))
    (h : L.map (chainView kind i) = L'.map (chainView kind i)) : chainNext kind i x L = chainNext kind i x L' :=
  congrArg (List.findSome? (chainHop x)) h

def readNext (m : Model) (s : RState) : Val ⊕ RState :=
  if (referential (m.assocs.map (·.1)) s.1).contains s.2.2 then
    match chainNext s.1 s.2.1 s.2.2 m.assocs.reverse with
    | none => .inl .none
    | some s' => .inr s'
  else .inl (((rowsOf m.classes s.1)[s.2.1]?.getD []).get s.2.2)

theorem readAttr_eq_run (m : Model) : ∀ (n : Nat) (k : String) (i : Nat) (x : String),
    readAttr m n k i x = runSteps (readNext m) n (k, i, x) := by
  intro n
  induction n with
  | zero => intro k i x; rfl
  | succ n ih =>
    intro k i x
    simp only [readAttr, runSteps, readNext]
    by_cases hr : (referential (m.assocs.map (·.1)) k).contains x
    · simp only [hr, if_true]
      rw [readChain_eq_next]
      cases chainNext k i x m.assocs.reverse with
      | none => rfl
      | some s => simp only; exact ih s.1 s.2.1 s.2.2
    · simp only [hr, Bool.false_eq_true, if_false]

theorem readAttr_mono (m : Model) {f f' : Nat} (hle : f ≤ f') (kind : String) (i : Nat) (x : String) (v : Val)
    (h : readAttr m f kind i x = some v) : readAttr m f' kind i x = some v := by
  rw [readAttr_eq_run] at h ⊢
  exact runSteps_mono _ hle _ h

/-- the states a read can be led to: (class, row, attribute) of the classes of the metamodel -/
def allStates (cs : List Cls) : List RState :=
  cs.flatMap (fun c => (List.range c.rows.length).flatMap (fun j => c.attrs.map (fun p => (c.kind, j, p.1))))

theorem length_allStates (cs : List Cls) :
    (allStates cs).length = (cs.map (fun c => c.rows.length * c.attrs.length)).sum := by
  unfold allStates
  induction cs with
  | nil => rfl
  | cons c cs ih =>
    simp only [List.flatMap_cons, List.length_append, List.map_cons, List.sum_cons, ih]
    congr 1
    generalize c.rows.length = n
    induction n with
    | zero => simp
    | succ n ihn =>
      rw [List.range_succ, List.flatMap_append, List.length_append, ihn]
      simp [Nat.succ_mul]

theorem allStates_lt_fuelOf (m : Model) : (allStates m.classes).length + 1 ≤ fuelOf m := by
  rw [length_allStates]
  have := sum_map_le m.classes (fun c => c.rows.length * c.attrs.length) (fun c => (c.rows.length + 1) * (c.attrs.length + 1))
    fun c _ => Nat.mul_le_mul (Nat.le_succ _) (Nat.le_succ _)
  unfold fuelOf
  omega

/-- well-formed links: a linked row is a row of the referred class, whose identifying attributes are declared -/
def LinksWf (m : Model) : Prop :=
  ∀ p ∈ m.assocs, ∀ i j, (p.2.tgt i).head? = some j →
    ∃ c ∈ m.classes, c.kind = p.1.tgtKind ∧ j < c.rows.length ∧ ∀ tk ∈ p.1.tgtKeys, tk ∈ c.attrs.map (·.1)

theorem readNext_mem_allStates (m : Model) (hwf : LinksWf m) (w u : RState) (h : readNext m w = .inr u) :
    u ∈ allStates m.classes := by
  unfold readNext at h
  by_cases hr : (referential (m.assocs.map (·.1)) w.1).contains w.2.2
  · simp only [hr, if_true] at h
    cases hc : chainNext w.1 w.2.1 w.2.2 m.assocs.reverse with
    | none => simp [hc] at h
    | some s =>
      simp only [hc, Sum.inr.injEq] at h
      subst h
      obtain ⟨p, hp, _, h1, h2, h3⟩ := chainNext_some hc
      obtain ⟨c, hcm, hck, hj, hattrs⟩ := hwf p (List.mem_reverse.mp hp) _ _ h2
      obtain ⟨q, hq, hq1⟩ := List.mem_map.mp (hattrs _ (List.of_mem_zip h3).2)
      unfold allStates
      refine List.mem_flatMap.mpr ⟨c, hcm, List.mem_flatMap.mpr ⟨s.2.1, List.mem_range.mpr hj, List.mem_map.mpr ⟨q, hq, ?_⟩⟩⟩
      obtain ⟨s1, s2, s3⟩ := s
      simp only at h1 hq1 ⊢
      rw [hck, ← h1, hq1]
  · simp only [hr, Bool.false_eq_true, if_false] at h
    cases h

/-- **the fuel suffices**: on a metamodel with well-formed links, an attribute read that ends with some fuel ends
    with the fuel `fuelOf m` the model runs with — so the model answers "recursion error" only for a read that
    never ends (a cyclic chain of referential attributes) -/
theorem fuelOf_sufficient (m : Model) (hwf : LinksWf m) (n : Nat) (k : String) (i : Nat) (x : String) (v : Val)
    (h : readAttr m n k i x = some v) : readAttr m (fuelOf m) k i x = some v := by
  rw [readAttr_eq_run] at h ⊢
  have hb := runSteps_bounded (readNext m) (allStates m.classes) (readNext_mem_allStates m hwf) n _ h
  exact runSteps_mono _ (allStates_lt_fuelOf m) _ hb

theorem fuelOf_exhausted (m : Model) (hwf : LinksWf m) (k : String) (i : Nat) (x : String)
    (h : readAttr m (fuelOf m) k i x = none) (n : Nat) : readAttr m n k i x = none := by
  cases hn : readAttr m n k i x with
  | none => rfl
  | some v => rw [fuelOf_sufficient m hwf n k i x v hn] at h; cases h

theorem linksWf_buildCore (ss : List Stmt) (hacc : accepted ss = true) (hk : ∀ a ∈ popAssocs ss, KeysOk a) :
    LinksWf (buildCore ss) := by
  intro p hp i j hhead
  rw [buildCore_assocs ss hk] at hp
  obtain ⟨a, ha, rfl⟩ := List.mem_map.mp hp
  simp only at hhead ⊢
  -- a linked `j` is a member of the nested join, so the row `j` of the referred class exists; the attributes of that class
  -- are the declared ones (`clsSpec`), and `accepted` has checked the identifying attributes against those
  have hj := List.mem_of_mem_head? hhead
  obtain ⟨_, t, _, ht, _⟩ := (mem_nestedJoin_tgt a _ _ i j).mp hj
  have hjlt := (List.getElem?_eq_some_iff.mp ht).1
  unfold rowsOf at hjlt
  cases hc : findCls (buildCore ss).classes a.tgtKind with
  | none => rw [hc] at hjlt; simp at hjlt
  | some c =>
    rw [hc] at hjlt
    refine ⟨c, List.mem_of_find?_eq_some hc, findCls_some_kind hc, hjlt, ?_⟩
    intro tk htk
    have hdecl := (assoc_declared ss hacc a ha).2.2 tk htk
    rw [findCls_buildCore] at hc
    unfold clsSpec at hc
    unfold attrsOf at hdecl
    cases h0 : findCls (popClasses ss) a.tgtKind with
    | none => rw [h0] at hdecl; simp at hdecl
    | some c0 =>
      rw [h0] at hc hdecl
      simp only [Option.some.injEq] at hc
      subst hc
      exact hdecl

/-- the metamodel carries, for every association, the join of its classes' rows (as every loaded metamodel does:
    `buildCore_assocs`) -/
def Joined (m : Model) (as : List AssocStmt) : Prop :=
  m.assocs = as.map (fun a => (a, nestedJoin a (rowsOf m.classes a.srcKind) (rowsOf m.classes a.tgtKind)))

theorem joined_fst {m : Model} {as : List AssocStmt} (h : Joined m as) : m.assocs.map (·.1) = as := by
  rw [h, List.map_map]
  exact List.map_id' _ |>.symm ▸ (by
    induction as with
    | nil => rfl
    | cons a as ih => simp)

/-- where the read of a referential attribute goes on a metamodel that carries the joins: either no association that
    uses the attribute links the row, and the read is `None`; or it is the read of the corresponding identifying
    attribute of a referred row that the row matches -/
theorem readAttr_joined {m : Model} {as : List AssocStmt} (hj : Joined m as) (f : Nat) (K : String) (i : Nat) (x : String)
    (hx : x ∈ referential as K) :
    (readAttr m (f + 1) K i x = some .none ∧ ∀ b ∈ as, b.srcKind = K → x ∈ (keyPairs b).map (·.1) →
        (nestedJoin b (rowsOf m.classes b.srcKind) (rowsOf m.classes b.tgtKind)).tgt i = []) ∨
    ∃ b ∈ as, b.srcKind = K ∧ ∃ tk j s t, (x, tk) ∈ keyPairs b ∧ (rowsOf m.classes K)[i]? = some s ∧
      (rowsOf m.classes b.tgtKind)[j]? = some t ∧ matchesB b s t = true ∧
      readAttr m (f + 1) K i x = readAttr m f b.tgtKind j tk := by
  have hr : (referential (m.assocs.map (·.1)) K).contains x = true := by
    rw [joined_fst hj]; simpa using hx
  simp only [readAttr, hr, if_true]
  rw [readChain_eq_next]
  cases h : chainNext K i x m.assocs.reverse with
  | none =>
    refine Or.inl ⟨rfl, fun b hb hbk hbx => chainNext_none h (b, _) ?_ hbk hbx⟩
    rw [List.mem_reverse, hj]
    exact List.mem_map.mpr ⟨b, hb, rfl⟩
  | some st =>
    obtain ⟨p, hp, hpk, hst, hhead, hmem⟩ := chainNext_some h
    rw [List.mem_reverse, hj] at hp
    obtain ⟨b, hb, rfl⟩ := List.mem_map.mp hp
    obtain ⟨s, t, hs, ht, hm⟩ := (mem_nestedJoin_tgt b _ _ i st.2.1).mp (List.mem_of_mem_head? hhead)
    exact Or.inr ⟨b, hb, hpk, st.2.2, st.2.1, s, t, hmem, hpk ▸ hs, ht, hm, by simp only [hst]⟩

end Pyx.Load
