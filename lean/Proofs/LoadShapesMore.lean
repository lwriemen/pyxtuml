import Proofs.LoadShapes

/-!
  C03, the source tie of the API route (`MetaClass.new` with referential values) for all inputs:

  * `relate` of the API model AS A WHOLE (the arguments handed to `_find_link`, the orientation of the pair it returns,
    the guarded link calls, the outcome) as the interpretation of `findBody`, `linkDefs`, `relateProg`;
  * the query loop of the batch relate (`relateQuery`): each instance of the other class tested by the translated
    `WhereEqual` loop, each hit related with the argument order `newRelateArgs` read from the source;
  * the links the batch relate iterates (`linksOfKind`) from the `add_link` calls `linkDefs`;
  * the tail of `new` (`apiNew`): the early return when no referential value was given BEFORE the batch relate, as
    the phases `newPhases` say.
-/
namespace Pyx.Load
open Pyx.Gen.RelateShape

/-- an argument of the program before `_find_link` has answered: the caller's pair -/
def callerKind (k1 k2 : String) : Arg → String
  | .inst1 => k1 | .fromInst => k1
  | .inst2 => k2 | .toInst => k2

def callerIdx (i1 i2 : Nat) : Arg → Nat
  | .inst1 => i1 | .fromInst => i1
  | .inst2 => i2 | .toInst => i2

/-- `relate(from_instance, to_instance, rel_id, phrase)`: `_find_link(<findArgs>)`, the pair as returned (swapped or
    not), then the guarded calls; the program's guards on `deleted` are vacuous here: this model has no `delete` -/
def iRelateApi (body : List (BExp FindAtom × FindAct)) (sd td : LinkDef) (prog : PairProg) (m : Model)
    (k1 : String) (i1 : Nat) (k2 : String) (i2 : Nat) (rel phrase : String) : Model × Outcome :=
  let ka := callerKind k1 k2 prog.findArgs.1
  let kb := callerKind k1 k2 prog.findArgs.2
  let ia := callerIdx i1 i2 prog.findArgs.1
  let ib := callerIdx i1 i2 prog.findArgs.2
  match findLinkBy body sd td ka kb rel phrase 0 (m.assocs.map (·.1)) with
  | none => (m, .unknownLink)
  | some (n, swapped) =>
    match m.assocs[n]? with
    | none => (m, .unknownLink)
    | some (a, L) =>
      let r := runSteps' a sd td prog.steps L (if swapped then ib else ia) (if swapped then ia else ib)
      ({ m with assocs := updateAt m.assocs n (fun p => (p.1, r.1)) }, if r.2 then .ok else .relateError)

theorem relate_eq_generated (m : Model) (k1 : String) (i1 : Nat) (k2 : String) (i2 : Nat) (rel phrase : String)
    (sd td : LinkDef) (hd : linkDefs = [sd, td]) :
    relate m k1 i1 k2 i2 rel phrase = iRelateApi findBody sd td relateProg m k1 i1 k2 i2 rel phrase := by
  unfold relate iRelateApi findLink
  rw [findLinkFrom_eq_generated k1 k2 rel phrase sd td hd]
  simp only [relateProg, callerKind, callerIdx]
  cases findLinkBy findBody sd td k1 k2 rel phrase 0 (m.assocs.map (·.1)) with
  | none => rfl
  | some r =>
    obtain ⟨n, sw⟩ := r
    simp only
    cases m.assocs[n]? with
    | none => rfl
    | some p =>
      obtain ⟨a, L⟩ := p
      have h := fun t s => relateAt_eq_generated a L t s sd td hd
      simp only [relateProg] at h
      cases sw <;> simp [h]

def newArgKind (okind kind : String) : NewArg → String
  | .other => okind
  | .newInst => kind

def newArgIdx (j i : Nat) : NewArg → Nat
  | .other => j
  | .newInst => i

/-- `for other_inst in to_metaclass.query(kwargs): relate(<args.1>, <args.2>, link.rel_id, link.phrase)`; `rel8` is
    the `relate` that is called -/
def iRelateQuery (w : Pyx.Gen.QueryShape.WhereShape) (args : NewArg × NewArg)
    (rel8 : Model → String → Nat → String → Nat → String → String → Model × Outcome)
    (fuel : Nat) (kwargs : List (String × Val)) (okind kind : String) (i : Nat) (rel phrase : String) :
    List Nat → Model → Model × Outcome
  | [], m => (m, .ok)
  | j :: js, m =>
    match rowMatchesBy w m fuel okind j kwargs with
    | none => (m, .recursionError)
    | some false => iRelateQuery w args rel8 fuel kwargs okind kind i rel phrase js m
    | some true =>
      match rel8 m (newArgKind okind kind args.1) (newArgIdx j i args.1) (newArgKind okind kind args.2)
          (newArgIdx j i args.2) rel phrase with
      | (m', .ok) => iRelateQuery w args rel8 fuel kwargs okind kind i rel phrase js m'
      | r => r

theorem relateQuery_eq_generated (sd td : LinkDef) (hd : linkDefs = [sd, td]) (fuel : Nat)
    (kwargs : List (String × Val)) (okind kind : String) (i : Nat) (rel phrase : String) :
    ∀ (js : List Nat) (m : Model),
      relateQuery fuel kwargs okind kind i rel phrase js m =
        iRelateQuery Pyx.Gen.QueryShape.whereShape newRelateArgs (iRelateApi findBody sd td relateProg)
          fuel kwargs okind kind i rel phrase js m
  | [], _ => rfl
  | j :: js, m => by
    unfold relateQuery iRelateQuery
    rw [rowMatches_eq_generated]
    cases rowMatchesBy Pyx.Gen.QueryShape.whereShape m fuel okind j kwargs with
    | none => rfl
    | some b =>
      cases b with
      | false => exact relateQuery_eq_generated sd td hd fuel kwargs okind kind i rel phrase js m
      | true =>
        simp only [newRelateArgs, newArgKind, newArgIdx]
        rw [← relate_eq_generated m okind j kind i rel phrase sd td hd]
        cases hr : relate m okind j kind i rel phrase with
        | mk m' o =>
          cases o <;> simp only
          exact relateQuery_eq_generated sd td hd fuel kwargs okind kind i rel phrase js m'

def endKeys (a : AssocStmt) : End → List String
  | .source => a.srcKeys
  | .target => a.tgtKeys

/-- `self.links.values()` of class `kind`: per association the links that start at the class, in the order of the
    `add_link` calls; each with its key map (`source_keys ↦ target_keys` on the source link, the reverse on the target
    link), the class it leads to, the rel id and the phrase it is stored under -/
def iLinksOfKind (defs : List LinkDef) (all : List AssocStmt) (kind : String) :
    List (List (String × String) × String × String × String) :=
  all.flatMap (fun a => defs.flatMap (fun d =>
    if endKind a d.fromCls = kind then
      [(dictOfPairs ((endKeys a d.toCls).zip (endKeys a d.fromCls)), endKind a d.toCls, a.rel, endPhrase a d.phrase)]
    else []))

theorem linksOfKind_eq_generated (all : List AssocStmt) (kind : String) :
    linksOfKind all kind = iLinksOfKind linkDefs all kind := by
  unfold linksOfKind iLinksOfKind
  congr 1
  funext a
  by_cases h1 : a.tgtKind = kind <;> by_cases h2 : a.srcKind = kind <;>
    simp [linkDefs, endKind, endPhrase, endKeys, keyMap, revKeyMap, h1, h2]

/-- the phases of `MetaClass.new` after the instance exists and the given values are stored: return at once when no
    referential value was given, the batch relate (an exception ends the call), return the instance; the other phases
    do not touch links -/
def iNewTail (refsEmpty : Bool) (batch : Model → Model × Outcome) : List NewPhase → Model → Model × Outcome
  | [], m => (m, .ok)
  | .returnIfNoReferentials :: rest, m => if refsEmpty then (m, .ok) else iNewTail refsEmpty batch rest m
  | .batchRelate :: rest, m =>
    match batch m with
    | (m', .ok) => iNewTail refsEmpty batch rest m'
    | r => r
  | .returnInst :: _, m => (m, .ok)
  | _ :: rest, m => iNewTail refsEmpty batch rest m

theorem apiNew_eq_generated (m : Model) (kind : String) (args : List Val) :
    apiNew m kind args =
      match findCls m.classes kind with
      | none => (m, .unmodelled)
      | some c =>
        let all := m.assocs.map (·.1)
        let refNames := referential all kind
        let given : Row := (c.attrs.zip args).map (fun p => (p.1.1, p.2))
        let refs := given.filter (fun p => refNames.contains p.1)
        iNewTail refs.isEmpty (relateLinks refs kind c.rows.length (iLinksOfKind linkDefs all kind)) newPhases
          { m with classes := addRow m.classes kind (stripRow refNames given) } := by
  unfold apiNew
  cases findCls m.classes kind with
  | none => rfl
  | some c =>
    simp only [newPhases, iNewTail, linksOfKind_eq_generated]
    split
    · rfl
    · generalize relateLinks _ kind c.rows.length _ _ = r
      obtain ⟨m', o⟩ := r
      cases o <;> rfl

end Pyx.Load
