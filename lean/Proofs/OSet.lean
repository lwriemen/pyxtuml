import PyxModel.OSet
import Proofs.Lib.Dedup

/-! C17, list level: membership, duplicate-freeness and order for the operations of PyxModel/OSet.lean.  The folds are put in
    closed form first (`fromIter_eq_dedupFirst` and `ior_eq`, both instances of the fold of Proofs/Lib/Dedup.lean, and
    `foldl_discard_eq_filter`); what they contain and that they are duplicate-free is read off the closed forms. -/
namespace Pyx.OSet

theorem mem_add {k x : Nat} {l : T} : x ∈ add k l ↔ x ∈ l ∨ x = k := by
  unfold add; split
  · constructor
    · exact Or.inl
    · rintro (h | rfl) <;> assumption
  · simp

theorem nodup_add {k : Nat} {l : T} (h : l.Nodup) : (add k l).Nodup := by
  unfold add; split
  · exact h
  · exact nodup_snoc h ‹_›

theorem mem_discard {k x : Nat} {l : T} (h : l.Nodup) : x ∈ discard k l ↔ x ∈ l ∧ x ≠ k := by
  unfold discard
  rw [h.mem_erase_iff]; exact And.comm

theorem nodup_discard {k : Nat} {l : T} (h : l.Nodup) : (discard k l).Nodup := h.erase k

theorem discard_eq_filter {k : Nat} {l : T} (h : l.Nodup) : discard k l = l.filter (fun x => x != k) := by
  unfold discard
  rw [h.erase_eq_filter]

theorem fromIter_eq_dedupFirst (it : List Nat) : fromIter it = dedupFirst it := by
  induction it with
  | nil => rfl
  | cons a it ih => exact (Dedup.foldl_step_cons a it).trans (by rw [dedupFirst, ← ih]; rfl)

theorem mem_dedupFirst {x : Nat} {it : List Nat} : x ∈ dedupFirst it ↔ x ∈ it :=
  fromIter_eq_dedupFirst it ▸ Dedup.mem_foldl_step it x

theorem nodup_dedupFirst (it : List Nat) : (dedupFirst it).Nodup :=
  fromIter_eq_dedupFirst it ▸ Dedup.nodup_foldl_step it

theorem dedupFirst_of_nodup {l : List Nat} (h : l.Nodup) : dedupFirst l = l :=
  (fromIter_eq_dedupFirst l).symm.trans (Dedup.foldl_step_of_nodup l h)

theorem ior_eq (it : List Nat) (l : T) : ior l it = l ++ (dedupFirst it).filter (fun x => !(decide (x ∈ l))) :=
  fromIter_eq_dedupFirst it ▸ Dedup.foldl_step it l

theorem mem_ior {l : T} {it : List Nat} {x : Nat} : x ∈ ior l it ↔ x ∈ l ∨ x ∈ it := by
  rw [ior_eq, List.mem_append, List.mem_filter, mem_dedupFirst]
  by_cases hx : x ∈ l <;> simp [hx]

theorem nodup_ior {l : T} {it : List Nat} (h : l.Nodup) : (ior l it).Nodup := by
  rw [ior_eq]
  exact List.nodup_append.mpr ⟨h, (nodup_dedupFirst it).filter _, fun a ha b hb e => by
    simp [← e, ha] at hb⟩

theorem mem_fromIter {it : List Nat} {x : Nat} : x ∈ fromIter it ↔ x ∈ it := by
  rw [fromIter_eq_dedupFirst, mem_dedupFirst]

theorem nodup_fromIter (it : List Nat) : (fromIter it).Nodup := fromIter_eq_dedupFirst it ▸ nodup_dedupFirst it

theorem fromIter_of_nodup {it : List Nat} (h : it.Nodup) : fromIter it = it :=
  (fromIter_eq_dedupFirst it).trans (dedupFirst_of_nodup h)

theorem foldl_discard_eq_filter (it : List Nat) : ∀ (l : T), l.Nodup →
    it.foldl (fun acc v => discard v acc) l = l.filter (fun x => !(decide (x ∈ it))) := by
  induction it with
  | nil => intro l _; exact (List.filter_eq_self.mpr (fun _ _ => by simp)).symm
  | cons a it ih =>
    intro l h
    simp only [List.foldl_cons]
    rw [ih _ (nodup_discard h), discard_eq_filter h, List.filter_filter]
    congr 1
    funext x
    by_cases hx : x = a <;> simp [hx]

theorem mem_foldl_discard (it : List Nat) (l : T) (h : l.Nodup) (x : Nat) :
    x ∈ it.foldl (fun acc v => discard v acc) l ↔ x ∈ l ∧ x ∉ it := by
  simp [foldl_discard_eq_filter it l h]

theorem nodup_foldl_discard (it : List Nat) (l : T) (h : l.Nodup) : (it.foldl (fun acc v => discard v acc) l).Nodup :=
  foldl_discard_eq_filter it l h ▸ h.filter _


theorem mem_sub {l t : T} {x : Nat} : x ∈ sub l t ↔ x ∈ l ∧ x ∉ t := by
  unfold sub; rw [mem_fromIter]; simp

theorem mem_and {l t : T} {x : Nat} : x ∈ OSet.and l t ↔ x ∈ l ∧ x ∈ t := by
  unfold OSet.and; rw [mem_fromIter]; simp [And.comm]

theorem mem_or {l t : T} {x : Nat} : x ∈ OSet.or l t ↔ x ∈ l ∨ x ∈ t := by
  unfold OSet.or; rw [mem_fromIter]; simp

theorem mem_xor {l t : T} {x : Nat} : x ∈ xor l t ↔ (x ∈ l ∧ x ∉ t) ∨ (x ∈ t ∧ x ∉ l) := by
  unfold xor; rw [mem_or, mem_sub, mem_sub]

theorem sub_eq_filter {l t : T} (h : l.Nodup) : sub l t = l.filter (fun v => !(decide (v ∈ t))) := by
  unfold sub; exact fromIter_of_nodup (h.filter _)

theorem mem_iand {l t : T} (h : l.Nodup) {x : Nat} : x ∈ iand l t ↔ x ∈ l ∧ x ∈ t := by
  unfold iand
  rw [mem_foldl_discard _ _ h, mem_sub]
  constructor
  · rintro ⟨h1, h2⟩
    refine ⟨h1, ?_⟩
    apply Classical.byContradiction
    intro h3; exact h2 ⟨h1, h3⟩
  · rintro ⟨h1, h2⟩; exact ⟨h1, fun h3 => h3.2 h2⟩

theorem nodup_toggle (t : List Nat) (l : T) (h : l.Nodup) :
    (t.foldl (fun acc v => if v ∈ acc then discard v acc else add v acc) l).Nodup :=
  List.foldlRecOn t _ h fun _ h _ _ => by
    split
    · exact nodup_discard h
    · exact nodup_add h

theorem mem_toggle (t : List Nat) : ∀ (l : T), l.Nodup → t.Nodup → ∀ x,
    (x ∈ t.foldl (fun acc v => if v ∈ acc then discard v acc else add v acc) l ↔
      (x ∈ l ∧ x ∉ t) ∨ (x ∉ l ∧ x ∈ t)) := by
  induction t with
  | nil => intro l _ _ x; simp
  | cons a t ih =>
    intro l h ht x
    have hat : a ∉ t := (List.nodup_cons.mp ht).1
    have ht' : t.Nodup := (List.nodup_cons.mp ht).2
    simp only [List.foldl_cons]
    by_cases ha : a ∈ l
    · simp only [ha, ↓reduceIte]
      rw [ih _ (nodup_discard h) ht', mem_discard h]
      by_cases hx : x = a
      · subst hx; simp [ha, hat]
      · simp [hx]
    · simp only [ha, ↓reduceIte]
      rw [ih _ (nodup_add h) ht', mem_add]
      by_cases hx : x = a
      · subst hx; simp [ha, hat]
      · simp [hx]

theorem mem_ixor {l : T} {it : List Nat} (h : l.Nodup) {x : Nat} :
    x ∈ ixor l it ↔ (x ∈ l ∧ x ∉ it) ∨ (x ∉ l ∧ x ∈ it) := by
  unfold ixor
  rw [mem_toggle _ _ h (nodup_fromIter it), mem_fromIter]

theorem nodup_ixor {l : T} {it : List Nat} (h : l.Nodup) : (ixor l it).Nodup := nodup_toggle _ _ h

theorem nodup_apply (op : Op) {l : T} (h : l.Nodup) : (apply op l).Nodup := by
  cases op with
  | add k => exact nodup_add h
  | discard k => exact nodup_discard h
  | remove k =>
    simp only [apply, remove]; split
    · exact nodup_discard h
    · exact h
  | popLast =>
    simp only [apply, popLast]
    cases l.getLast? with
    | none => exact h
    | some k => exact nodup_discard h
  | popFirst =>
    simp only [apply, popFirst]
    cases l.head? with
    | none => exact h
    | some k => exact nodup_discard h
  | clear => exact List.nodup_nil
  | ior it => exact nodup_ior h
  | iand it => exact nodup_foldl_discard _ _ h
  | isub it => exact nodup_foldl_discard _ _ h
  | ixor it => exact nodup_ixor h
  | iterRm ks => exact h.filter _

theorem nodup_run_from (ops : List Op) (l : T) (h : l.Nodup) : (ops.foldl (fun l op => apply op l) l).Nodup :=
  List.foldlRecOn ops _ h fun _ h op _ => nodup_apply op h

end Pyx.OSet
