import Proofs.InterpStep

/-!
  Frames and scopes:
    * evaluating ANY expression — including calls of functions, bridges, operations and derived
      attributes, nested, self-recursive or mutually recursive — leaves the evaluating frame
      (variables, parameters, self, return register) exactly as it was (`rfr_run`);
    * executing any statement keeps the variable NAMES of every enclosing block and keeps the block stack non-empty
      (`rsh_run`); executing a block keeps the names of ALL blocks: what a block declares
      vanishes at its end, outer variables survive (possibly updated) (`rblk_execBlock`).
  An invariant of the FRAME alone (`FrameRules`: six rules) is an invariant of runs (`FrameRules.step`): evaluations and the
  state operations do not touch the frame.  An invariant of the ENVIRONMENT given as a preorder that the frame primitives
  respect (`EnvRel`) is kept by every statement (`inv_run`); Proofs/InterpShape.lean instantiates it with "the names of the
  scope stay unique across its blocks" (`ruq_rel`).
-/
namespace Pyx.Interp
open M

def Rfr (c c' : Cfg) : Prop := c'.fr = c.fr

theorem Rfr_po : PreOrder Rfr := ⟨fun _ => rfl, fun _ _ _ h1 h2 => h2.trans h1⟩

def StateOnly {α : Type} (m : M α) : Prop := ∀ c a c', m c = some (.ok (a, c')) → c'.fr = c.fr

structure FrameRules (TF : Out → Frame → Frame → Prop) : Prop where
  refl : ∀ {o} fr, o ≠ .ret → TF o fr fr
  seq : ∀ {o1 o a b c}, o1 ≠ .ret → TF o1 a b → TF o b c → TF o a c
  install : ∀ x v fr, TF .normal fr { fr with env := envInstall fr.env x v }
  bracket : ∀ {o fr fr1}, TF o { fr with env := [] :: fr.env } fr1 → TF o fr { fr1 with env := fr1.env.tail }
  retv : ∀ v fr, TF .ret fr { fr with ret := v }
  reg : ∀ {fr i name} v, regHit fr i name = true → TF .normal fr { fr with ret := v }

theorem FrameRules.step {TF : Out → Frame → Frame → Prop} (F : FrameRules TF) (C : Ctx) :
    StepRules C (fun _ => True) Rfr (fun o c c' => TF o c.fr c'.fr) where
  po := Rfr_po
  ofRe := fun {a b} h => by
    have h' : b.fr = a.fr := h
    rw [h']; exact F.refl _ (by decide)
  refl := fun c ho => F.refl c.fr ho
  seq := F.seq
  install := fun x v c => F.install x v c.fr
  bracket := F.bracket
  retv := fun v c => F.retv v c.fr
  reg := F.reg
  op := fun _ _ _ => F.refl _ (by decide)
  invoke := fun _ => rfl

theorem rfr_run (C : Ctx) (n : Nat) (e : Expr) : Pres Rfr ((run C n).eval e) :=
  (step_run (FrameRules.step (TF := fun _ _ _ => True)
    ⟨fun _ _ => trivial, fun _ _ _ => trivial, fun _ _ _ => trivial, fun _ => trivial, fun _ _ => trivial, fun _ _ => trivial⟩ C)
    okTrue (fun _ _ _ _ => trivial) n).1 e

def envNames (env : Env) : List (List String) := env.map (fun b => b.map Prod.fst)

theorem blockSet_names (x : String) (v : Val) : ∀ b, (blockSet x v b).map Prod.fst = b.map Prod.fst
  | [] => rfl
  | p :: rest => by
    unfold blockSet
    split
    · rename_i hp; simp [hp]
    · simp [blockSet_names x v rest]

theorem envUpdate_names (x : String) (v : Val) : ∀ env, envNames (envUpdate x v env) = envNames env
  | [] => rfl
  | b :: rest => by
    unfold envUpdate
    split
    · simp [envNames, blockSet_names]
    · have ih := envUpdate_names x v rest
      simp only [envNames] at ih
      simp [envNames, ih]

theorem envInstall_shape (env : Env) (x : String) (v : Val) (hne : env ≠ []) :
    envInstall env x v ≠ [] ∧ envNames (envInstall env x v).tail = envNames env.tail := by
  cases env with
  | nil => exact absurd rfl hne
  | cons b rest =>
    unfold envInstall
    split
    · unfold envUpdate
      split
      · exact ⟨by simp, rfl⟩
      · exact ⟨by simp, envUpdate_names x v rest⟩
    · exact ⟨by simp, rfl⟩

def Rsh (fr fr' : Frame) : Prop := fr.env ≠ [] → fr'.env ≠ [] ∧ envNames fr'.env.tail = envNames fr.env.tail

theorem rsh_rules : FrameRules (fun _ => Rsh) where
  refl := fun _ _ h => ⟨h, rfl⟩
  seq := fun _ h1 h2 h => ⟨(h2 (h1 h).1).1, (h2 (h1 h).1).2.trans (h1 h).2⟩
  install := fun x v fr h => envInstall_shape fr.env x v h
  bracket := fun {o fr fr1} h hne => by
    -- inside the block the tail IS the outer scope: "the names of the tail are kept" inside gives all names outside
    have h2 : envNames fr1.env.tail = envNames fr.env := (h (by simp)).2
    refine ⟨fun h0 => hne ?_, ?_⟩
    · have h0' : fr1.env.tail = [] := h0
      rw [h0'] at h2
      exact List.map_eq_nil_iff.1 h2.symm
    · have := congrArg List.tail h2
      simpa only [envNames, List.map_tail] using this
  retv := fun _ _ h => ⟨h, rfl⟩
  reg := fun _ _ h => ⟨h, rfl⟩

theorem rsh_run (C : Ctx) (n : Nat) (s : Stmt) : PresO (fun _ c c' => Rsh c.fr c'.fr) ((run C n).exec s) :=
  (step_run (rsh_rules.step C) okTrue (fun _ _ _ _ => trivial) n).2 s trivial

theorem rblk_execBlock (C : Ctx) (n : Nat) (b : Block) (c c' : Cfg) (o : Out)
    (h : execBlock (run C n) b c = some (.ok (o, c'))) : envNames c'.fr.env = envNames c.fr.env := by
  obtain ⟨c1, h1, rfl⟩ := bracket_inv h
  have ih := step_run (rsh_rules.step C) okTrue (fun _ _ _ _ => trivial) n
  exact (step_execList (rsh_rules.step C).toStepBase ih.2 b (fun _ _ => trivial) _ _ _ h1
    (by simp [Cfg.withEnv])).2

structure EnvRel (R : Cfg → Cfg → Prop) : Prop where
  po : PreOrder R
  ofRfr : ∀ {c c' : Cfg}, Rfr c c' → R c c'
  install : ∀ (x : String) (v : Val), Pres R (install x v)
  stateOnly : ∀ {α : Type} {m : M α}, StateOnly m → Pres R m
  setRet : ∀ (v : Val), Pres R (setRet v)
  push : Pres R pushBlock
  pop : Pres R popBlock

theorem EnvRel.step {R : Cfg → Cfg → Prop} (H : EnvRel R) (C : Ctx) : StepRules C (fun _ => True) Rfr (fun _ => R) where
  po := Rfr_po
  ofRe := H.ofRfr
  refl := fun c _ => H.po.refl c
  seq := fun _ h1 h2 => H.po.trans _ _ _ h1 h2
  install := fun x v c => H.install x v c () _ rfl
  bracket := fun {_ c c1} h => H.po.trans _ _ _ (H.po.trans _ _ _ (H.push c () _ rfl) h) (H.pop c1 () _ rfl)
  retv := fun v c => H.setRet v c () _ rfl
  reg := fun {c _ _} v _ => H.setRet v c () _ rfl
  op := fun _ _ _ => H.ofRfr rfl
  invoke := fun _ => rfl

theorem inv_run {R : Cfg → Cfg → Prop} (H : EnvRel R) (C : Ctx) (n : Nat) (s : Stmt) : Pres R ((run C n).exec s) :=
  (step_run (H.step C) okTrue (fun _ _ _ _ => trivial) n).2 s trivial

end Pyx.Interp
