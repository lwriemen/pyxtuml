import Proofs.ExtractScope

/-!
  C14 — the extracted schema does not depend on the order of the rows: permuting the class, relationship,
  data type, container and package-reference rows permutes the defined classes and association groups and changes nothing else.
-/

namespace Pyx.Extract

/-- the same rows in another order -/
structure RowPerm (d d' : ClassDiagram) : Prop where
  containers : d.containers.Perm d'.containers
  dts : d.dts.Perm d'.dts
  classes : d.classes.Perm d'.classes
  rels : d.rels.Perm d'.rels
  pkgrefs : d.pkgrefs.Perm d'.pkgrefs

/-- identifiers identify rows: Obj_ID, DT_ID, and Package_ID / Id per kind of container -/
structure RowWF (d : ClassDiagram) : Prop where
  clsIds : (d.classes.map (·.id)).Nodup
  dtIds : (d.dts.map (·.id)).Nodup
  contIds : ∀ k₁ ∈ d.containers, ∀ k₂ ∈ d.containers, k₁.isComp = k₂.isComp → k₁.id = k₂.id → k₁ = k₂

section perm
variable {d d' : ClassDiagram} (hp : RowPerm d d') (wf : RowWF d)

include hp wf in
theorem perm_findClass (i : Nat) : findClass d' i = findClass d i :=
  (find?_perm_key (fun (k : Class) => k.id) hp.classes wf.clsIds i).symm

include hp wf in
theorem perm_findDt (i : Nat) : findDt d'.dts i = findDt d.dts i :=
  (find?_perm_key (fun (k : DataType) => k.id) hp.dts wf.dtIds i).symm

include hp wf in
theorem perm_findContainer (b : Bool) (i : Nat) :
    findContainer d'.containers b i = findContainer d.containers b i := by
  unfold findContainer
  symm
  apply find?_perm_unique hp.containers
  intro x hx y hy px py
  simp only [Bool.and_eq_true, beq_iff_eq] at px py
  exact wf.contIds x hx y hy (by rw [px.1, py.1]) (by rw [px.2, py.2])

/-- `containedFuel` reads the containers through `findContainer` only -/
theorem containedFuel_congr {cs cs' : List Container} (h : ∀ b i, findContainer cs' b i = findContainer cs b i)
    (rf : List PkgRef) (root f : Nat) (p : Parent) : containedFuel cs' rf root f p = containedFuel cs rf root f p := by
  induction f generalizing p with
  | zero => rfl
  | succ f ih => cases p <;> simp only [containedFuel, h, ih]

include hp wf in
theorem perm_inScope (comp : Option Nat) (p : Parent) :
    inScope d'.containers d'.pkgrefs comp p = inScope d.containers d.pkgrefs comp p := by
  unfold inScope
  cases comp with
  | none => rfl
  | some c =>
    unfold containedIn
    rw [hp.containers.length_eq.symm]
    -- the containers are read through `findContainer` only, the EP_PKGREF rows through membership only
    exact (containedFuel_congr (perm_findContainer hp wf) ..).trans
      (containedFuel_rows_congr _ c (fun r => by rw [hp.pkgrefs.mem_iff]) _ p).symm

theorem dtTypeFuel_congr {dts dts' : List DataType} (h : ∀ i, findDt dts' i = findDt dts i) (f i : Nat) :
    dtTypeFuel dts' f i = dtTypeFuel dts f i := by
  induction f generalizing i with
  | zero => rfl
  | succ f ih => simp only [dtTypeFuel, h, ih]

include hp wf in
theorem perm_attrTy (a : Attr) : attrTy d' a = attrTy d a := by
  unfold attrTy
  have h1 : attrDt d' a = attrDt d a := by
    apply attrDt_congr rfl
    intro c b
    unfold attrKindAt
    rw [perm_findClass hp wf]
  rw [h1]
  congr 1
  funext i
  unfold dtTypeName
  rw [hp.dts.length_eq.symm]
  exact dtTypeFuel_congr (perm_findDt hp wf) _ i

include hp wf in
theorem perm_classOf (drv : Bool) (c : Class) : classOf d' drv c = classOf d drv c :=
  classOf_congr rfl rfl rfl (perm_attrTy hp wf)

include hp wf in
theorem perm_groupOf (r : Rel) : groupOf d' r = groupOf d r := by
  unfold groupOf
  simp only [perm_findClass hp wf]

end perm
end Pyx.Extract
