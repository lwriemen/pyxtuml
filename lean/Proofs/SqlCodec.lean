import Proofs.SqlStep

/-! value codecs: what `serialize_value` prints is lexed as one value and `deserialize_value` reads it back -/
namespace Pyx.Sql
open Gen.SqlLex (Rule Kw)
open Gen.Persist (Ty)

theorem tyOfName_chars (u : UC) (t : Ty) : tyOfName u t.chars = some t := by
  have hup : t.chars.all (fun c => decide (c.toNat < 128) && !isAsciiLower c) = true := by cases t <;> decide
  rw [tyOfName, u.upper_eq_self hup]
  cases t <;> decide

theorem unescapeQ_cons_ne (c : Char) (t : Text) (h : c ≠ '\'') : unescapeQ (c :: t) = c :: unescapeQ t := by
  cases t with
  | nil => simp [unescapeQ]
  | cons d r => simp [unescapeQ, h]

theorem unescapeQ_escapeQ (s : Text) : unescapeQ (escapeQ s) = s := by
  induction s with
  | nil => simp [escapeQ, unescapeQ]
  | cons c s ih =>
    have hcons : escapeQ (c :: s) = (if c = '\'' then ['\'', '\''] else [c]) ++ escapeQ s := by
      simp [escapeQ, List.flatMap_cons]
    rw [hcons]
    by_cases hc : c = '\''
    · subst hc; simp only [if_true, List.cons_append, List.nil_append]
      rw [unescapeQ]; simp [ih]
    · simp only [hc, if_false, List.cons_append, List.nil_append]
      rw [unescapeQ_cons_ne c _ hc, ih]

theorem stripEnds_quoted (q : Char) (body : Text) : stripEnds (q :: (body ++ [q])) = body := by
  simp [stripEnds]

theorem deserialize_string (u : UC) (ty : Text) (hty : tyOfName u ty = some .STRING) (s : Text) :
    deserialize u ty (strText s) = some (.str s) := by
  simp only [deserialize, hty, strText, stripEnds_quoted, unescapeQ_escapeQ]

theorem isDigitText_natText (n : Nat) : isDigitText (natText n) = true := by
  simp only [isDigitText, Bool.and_eq_true, Bool.not_eq_true', List.all_eq_true]
  exact ⟨by cases h : natText n with
    | nil => exact absurd h (natText_ne_nil n)
    | cons _ _ => rfl, natText_all_digit n⟩

theorem natText_cons (n : Nat) : ∃ d ds, natText n = d :: ds := List.exists_cons_of_ne_nil (natText_ne_nil n)

theorem natText_head_ne_dash (n : Nat) (rest : Text) : ∀ c, (natText n ++ rest).head? = some c → c ≠ '-' := by
  intro c hc
  obtain ⟨d, ds, h⟩ := natText_cons n
  rw [h] at hc; simp at hc; subst hc
  exact ne_of_isAsciiDigit (natText_all_digit n d (by rw [h]; simp)) (by decide)

theorem pyInt_natText (n : Nat) : pyInt (natText n) = some (Int.ofNat n) := by
  obtain ⟨d, ds, h⟩ := natText_cons n
  have hd : d ≠ '-' := natText_head_ne_dash n [] d (by rw [h]; rfl)
  have h1 := isDigitText_natText n
  have h2 := natOfText_natText n
  rw [h] at h1 h2 ⊢
  unfold pyInt
  split
  · rename_i heq; simp at heq; exact absurd heq.1 hd
  · simp [h1, h2]

theorem pyInt_neg_natText (n : Nat) : pyInt ('-' :: natText n) = some (- Int.ofNat n) := by
  simp [pyInt, isDigitText_natText, natOfText_natText]

theorem natText_not_mem_dquote (n : Nat) : '"' ∉ natText n := by
  intro hc
  exact ne_of_isAsciiDigit (natText_all_digit n _ hc) (x := '"') (by decide) rfl

theorem intText_no_dquote (z : Int) : (intText z).contains '"' = false := by
  cases z with
  | ofNat n => simpa [intText] using natText_not_mem_dquote n
  | negSucc n => simpa [intText] using natText_not_mem_dquote (n + 1)

theorem deserialize_integer (u : UC) (ty : Text) (hty : tyOfName u ty = some .INTEGER) (z : Int) :
    deserialize u ty (intText z) = some (.int z) := by
  simp only [deserialize, hty, intText_no_dquote z]
  cases z with
  | ofNat n => simp [intText, pyInt_natText]
  | negSucc n => simp [intText, pyInt_neg_natText, Int.negSucc_eq]

def intToks (z : Int) : List Tok :=
  match z with
  | .ofNat n => [⟨.NUMBER, natText n⟩]
  | .negSucc n => [⟨.MINUS, ['-']⟩, ⟨.NUMBER, natText (n + 1)⟩]

theorem lex_natText (u : UC) (n : Nat) (rest : Text) (hr : NumFollow u rest) :
    lex u (natText n ++ rest) = (lex u rest).map (fun ts => ⟨.NUMBER, natText n⟩ :: ts) := by
  obtain ⟨d, ds, h⟩ := natText_cons n
  have hd : ∀ c ∈ d :: ds, isAsciiDigit c = true := by rw [← h]; exact natText_all_digit n
  rw [h]
  exact lex_of_emit u _ _ _ (step_number u d ds rest hd hr)

theorem lex_intText (u : UC) (z : Int) (rest : Text) (hr : NumFollow u rest) :
    lex u (intText z ++ rest) = (lex u rest).map (fun ts => intToks z ++ ts) := by
  cases z with
  | ofNat n => simpa [intText, intToks] using lex_natText u n rest hr
  | negSucc n =>
    simp only [intText, intToks, List.cons_append]
    rw [lex_of_emit u _ _ _ (step_minus u _ (natText_head_ne_dash (n + 1) rest)), lex_natText u (n + 1) rest hr]
    cases lex u rest <;> simp

theorem valueAt_intToks (z : Int) (ts : List Tok) : valueAt (intToks z ++ ts) = some (intText z, ts) := by
  cases z with
  | ofNat n => simp [intToks, valueAt, isPlainValueTok, intText]
  | negSucc n => simp [intToks, valueAt, isPlainValueTok, isNumTok, intText]

def hex32 (n : Nat) : Text := (fixedDigits 16 32 n).map hexChar

theorem hex32_length (n : Nat) : (hex32 n).length = 32 := by simp [hex32, fixedDigits_length]

theorem hex32_mem (n : Nat) : ∀ c ∈ hex32 n, isAsciiHex c = true :=
  List.forall_mem_map.mpr fun d _ => hexChar_isAsciiHex d

theorem guidBody_eq (n : Nat) :
    guidBody n = (hex32 n).take 8 ++ '-' :: (((hex32 n).drop 8).take 4 ++ '-' :: (((hex32 n).drop 12).take 4 ++
      '-' :: (((hex32 n).drop 16).take 4 ++ '-' :: (hex32 n).drop 20))) := rfl

theorem filter_dash_of_hex (l : Text) (h : ∀ c ∈ l, isAsciiHex c = true) : l.filter (fun c => c != '-') = l := by
  rw [List.filter_eq_self]
  intro c hc
  simpa using ne_of_isAsciiHex (h c hc) (x := '-') (by decide)

theorem take_drop_chain (l : Text) :
    l.take 8 ++ ((l.drop 8).take 4 ++ ((l.drop 12).take 4 ++ ((l.drop 16).take 4 ++ l.drop 20))) = l := by
  have e1 : (l.drop 16).take 4 ++ l.drop 20 = l.drop 16 := by
    have := List.take_append_drop 4 (l.drop 16); rwa [List.drop_drop] at this
  have e2 : (l.drop 12).take 4 ++ l.drop 16 = l.drop 12 := by
    have := List.take_append_drop 4 (l.drop 12); rwa [List.drop_drop] at this
  have e3 : (l.drop 8).take 4 ++ l.drop 12 = l.drop 8 := by
    have := List.take_append_drop 4 (l.drop 8); rwa [List.drop_drop] at this
  rw [e1, e2, e3, List.take_append_drop]

theorem filter_dash_guidBody (n : Nat) : (guidBody n).filter (fun c => c != '-') = hex32 n := by
  have hx : ∀ l : Text, (∀ x ∈ l, x ∈ hex32 n) → l.filter (fun c => c != '-') = l :=
    fun l hl => filter_dash_of_hex l (fun c hc => hex32_mem n c (hl c hc))
  rw [guidBody_eq]
  simp only [List.filter_append, List.filter_cons]
  rw [hx _ (fun x hx => List.mem_of_mem_take hx), hx _ (fun x hx => List.mem_of_mem_drop (List.mem_of_mem_take hx)),
    hx _ (fun x hx => List.mem_of_mem_drop (List.mem_of_mem_take hx)),
    hx _ (fun x hx => List.mem_of_mem_drop (List.mem_of_mem_take hx)), hx _ (fun x hx => List.mem_of_mem_drop hx)]
  simp only [show ('-' != '-') = false by decide, Bool.false_eq_true, if_false]
  exact take_drop_chain (hex32 n)

/-- every character of the printed id is a hex digit or a dash: without the dashes it is the 32 digits -/
theorem guidBody_mem (n : Nat) (c : Char) (h : c ∈ guidBody n) : c = '-' ∨ isAsciiHex c = true := by
  by_cases hc : c = '-'
  · exact .inl hc
  · exact .inr (hex32_mem n c (by rw [← filter_dash_guidBody]; exact List.mem_filter.mpr ⟨h, by simpa using hc⟩))

/-- … hence none of the characters `x` that are neither (quotes, backslash, newline, `u`, braces) -/
theorem guidBody_ne (n : Nat) {c x : Char} (h : c ∈ guidBody n) (hx : x ≠ '-') (hh : isAsciiHex x = false) : c ≠ x := by
  rcases guidBody_mem n c h with rfl | hc
  · exact hx.symm
  · exact ne_of_isAsciiHex hc hh

theorem guidBody_plain (n : Nat) : ∀ c ∈ guidBody n, c ≠ '"' ∧ c ≠ '\n' ∧ c ≠ '\\' :=
  fun _ hc => ⟨guidBody_ne n hc (by decide) (by decide), guidBody_ne n hc (by decide) (by decide),
    guidBody_ne n hc (by decide) (by decide)⟩

theorem step_guidText (u : UC) (n : Nat) (rest : Text) :
    step u (guidText n ++ rest) = .emit ⟨.GUID, guidText n⟩ rest := by
  have := step_guid_plain u (guidBody n) rest (guidBody_plain n)
  simpa [guidText] using this

theorem stripPrefix_none_of_head (p : Char) (ps : Text) (c : Char) (cs : Text) (h : p ≠ c) :
    stripPrefix? (p :: ps) (c :: cs) = none := by
  simp [stripPrefix?, h]

theorem replaceAllF_of_not_mem (p : Char) (ps rep : Text) : ∀ (f : Nat) (s : Text), p ∉ s → s.length ≤ f →
    replaceAllF (p :: ps) rep f s = s := by
  intro f
  induction f with
  | zero => intro s _ hl; cases s with
    | nil => rfl
    | cons c cs => simp at hl
  | succ f ih =>
    intro s hp hl
    cases s with
    | nil => rfl
    | cons c cs =>
      have hpc : p ≠ c := fun e => hp (by simp [e])
      simp only [replaceAllF, stripPrefix_none_of_head p ps c cs hpc]
      rw [ih cs (fun hm => hp (by simp [hm])) (by simp at hl; omega)]

theorem replaceAll_of_not_mem (p : Char) (ps rep s : Text) (h : p ∉ s) : replaceAll (p :: ps) rep s = s := by
  simp only [replaceAll, List.isEmpty_cons, Bool.false_eq_true, if_false]
  exact replaceAllF_of_not_mem p ps rep _ s h (Nat.le_refl _)

theorem dropWhile_of_all_false {α : Type} (p : α → Bool) (l : List α) (h : ∀ x ∈ l, p x = false) : l.dropWhile p = l :=
  dropWhile_of_head_false p l fun y hy => h y (List.mem_of_mem_head? hy)

theorem stripChars_of_all_false (p : Char → Bool) (l : Text) (h : ∀ x ∈ l, p x = false) : stripChars p l = l := by
  unfold stripChars
  rw [dropWhile_of_all_false p l h, dropWhile_of_all_false p l.reverse (fun x hx => h x (by simpa using hx)), List.reverse_reverse]

theorem hexOfText_hex32 (n : Nat) (h : n < 2 ^ 128) : hexOfText (hex32 n) = n := by
  rw [hexOfText, hex32, map_val_map_char hexVal_hexChar _ (fixedDigits_lt 16 (by decide) 32 n)]
  exact ofDigitsB_fixedDigits 16 (by decide) 32 n (by
    have : (16 : Nat) ^ 32 = 2 ^ 128 := by decide
    omega)

/-- `uuid.UUID(text).int` of a printed id -/
theorem uuidParse_guidBody (n : Nat) (h : n < 2 ^ 128) : uuidParse (guidBody n) = some n := by
  have hu : 'u' ∉ guidBody n := fun hm => guidBody_ne n hm (by decide) (by decide) rfl
  unfold uuidParse
  rw [replaceAll_of_not_mem 'u' _ _ _ hu, replaceAll_of_not_mem 'u' _ _ _ hu]
  have hs : stripChars (fun c => c = '{' || c = '}') (guidBody n) = guidBody n :=
    stripChars_of_all_false _ _ (fun x hx => by
      simpa using ⟨guidBody_ne n hx (x := '{') (by decide) (by decide), guidBody_ne n hx (x := '}') (by decide) (by decide)⟩)
  have hall : (hex32 n).all isAsciiHex = true := List.all_eq_true.mpr (hex32_mem n)
  simp only [hs, filter_dash_guidBody, hex32_length, true_and, hall, if_true, hexOfText_hex32 n h]

theorem guidText_contains_dquote (n : Nat) : (guidText n).contains '"' = true := by
  simp [guidText]

theorem deserialize_unique_id (u : UC) (ty : Text) (hty : tyOfName u ty = some .UNIQUE_ID) (n : Nat) (h : n < 2 ^ 128) :
    deserialize u ty (guidText n) = some (.id n) := by
  simp only [deserialize, hty, guidText_contains_dquote, if_true]
  rw [show stripEnds (guidText n) = guidBody n from stripEnds_quoted '"' (guidBody n), uuidParse_guidBody n h]; rfl

theorem deserialize_boolean (u : UC) (ty : Text) (hty : tyOfName u ty = some .BOOLEAN) (b : Bool) :
    deserialize u ty (natText (if b then 1 else 0)) = some (.bool b) := by
  simp only [deserialize, hty, isDigitText_natText, if_true, natOfText_natText]
  cases b <;> simp

def fracText (micro : Nat) : Text := (fixedDigits 10 6 (micro % 1000000)).map digitChar

theorem fracText_length (micro : Nat) : (fracText micro).length = 6 := by simp [fracText, fixedDigits_length]

theorem fracText_all_digit (micro : Nat) : ∀ c ∈ fracText micro, isAsciiDigit c = true :=
  List.forall_mem_map.mpr fun d _ => digitChar_isAsciiDigit d

theorem fracText_cons (micro : Nat) : ∃ e es, fracText micro = e :: es := by
  cases h : fracText micro with
  | nil => have := fracText_length micro; rw [h] at this; simp at this
  | cons e es => exact ⟨e, es, rfl⟩

theorem realText_eq (neg : Bool) (micro : Nat) :
    realText neg micro = (if neg then ['-'] else []) ++ (natText (micro / 1000000) ++ '.' :: fracText micro) := by
  simp [realText, fracText]

def realToks (neg : Bool) (micro : Nat) : List Tok :=
  if neg then [⟨.MINUS, ['-']⟩, ⟨.FRACTION, natText (micro / 1000000) ++ '.' :: fracText micro⟩]
  else [⟨.FRACTION, natText (micro / 1000000) ++ '.' :: fracText micro⟩]

theorem lex_unsignedReal (u : UC) (micro : Nat) (rest : Text) (hr : ∀ c, rest.head? = some c → u.isDigit c = false) :
    lex u ((natText (micro / 1000000) ++ '.' :: fracText micro) ++ rest) =
      (lex u rest).map (fun ts => ⟨.FRACTION, natText (micro / 1000000) ++ '.' :: fracText micro⟩ :: ts) := by
  obtain ⟨d, ds, h⟩ := natText_cons (micro / 1000000)
  obtain ⟨e, es, h'⟩ := fracText_cons micro
  have hd : ∀ c ∈ d :: ds, isAsciiDigit c = true := by rw [← h]; exact natText_all_digit _
  have he : ∀ c ∈ e :: es, isAsciiDigit c = true := by rw [← h']; exact fracText_all_digit micro
  have := lex_of_emit u _ _ _ (step_fraction u d ds e es rest hd he hr)
  rw [h, h']
  simpa using this

theorem lex_realText (u : UC) (neg : Bool) (micro : Nat) (rest : Text)
    (hr : ∀ c, rest.head? = some c → u.isDigit c = false) :
    lex u (realText neg micro ++ rest) = (lex u rest).map (fun ts => realToks neg micro ++ ts) := by
  rw [realText_eq]
  cases neg with
  | false => simpa [realToks] using lex_unsignedReal u micro rest hr
  | true =>
    simp only [if_true, realToks, List.cons_append, List.nil_append]
    rw [lex_of_emit u _ _ _ (step_minus u _ (by rw [List.append_assoc]; exact natText_head_ne_dash _ _)),
      lex_unsignedReal u micro rest hr]
    cases lex u rest <;> simp

theorem valueAt_realToks (neg : Bool) (micro : Nat) (ts : List Tok) :
    valueAt (realToks neg micro ++ ts) = some (realText neg micro, ts) := by
  rw [realText_eq]
  cases neg <;> simp [realToks, valueAt, isPlainValueTok, isNumTok]

theorem frac6_fixed (r : Nat) (h : r < 1000000) : frac6 (((fixedDigits 10 6 r).map digitChar).map digitVal) = r := by
  rw [map_digitVal_map_digitChar _ (fixedDigits_lt 10 (by decide) 6 r)]
  unfold frac6
  have hl := fixedDigits_length 10 6 r
  rw [List.take_append_of_le_length (by omega), List.take_of_length_le (by omega)]
  exact ofDigitsB_fixedDigits 10 (by decide) 6 r (by simpa using h)

theorem dval_ascii (u : UC) (c : Char) (h : isAsciiDigit c = true) : u.dval c = digitVal c := by
  simp [UC.dval, isAsciiDigit_lt_128 h]

theorem map_dval_ascii (u : UC) (t : Text) (h : ∀ c ∈ t, isAsciiDigit c = true) : t.map u.dval = t.map digitVal :=
  List.map_congr_left (fun c hc => dval_ascii u c (h c hc))

theorem natOf_ascii (u : UC) (t : Text) (h : ∀ c ∈ t, isAsciiDigit c = true) : u.natOf t = natOfText t := by
  simp only [UC.natOf, natOfText, map_dval_ascii u t h]

/-- `float()` on an optional minus sign, ASCII digits, a point and ASCII digits -/
theorem parseReal_point (u : UC) (neg : Bool) (d1 d2 : Text) (h1 : d1 ≠ []) (h2 : d2 ≠ [])
    (hd1 : ∀ c ∈ d1, isAsciiDigit c = true) (hd2 : ∀ c ∈ d2, isAsciiDigit c = true) :
    parseReal u ((if neg then ['-'] else []) ++ (d1 ++ '.' :: d2)) =
      some (.real neg (natOfText d1 * 1000000 + frac6 (d2.map digitVal))) := by
  have hdot : ∀ c, ('.' :: d2).head? = some c → u.isDigit c = false := by
    intro c hc; simp at hc; subst hc; rfl
  obtain ⟨t1, t2⟩ := takeWhile_digits_run u d1 ('.' :: d2) hd1 hdot
  obtain ⟨s1, s2⟩ := takeWhile_digits_run u d2 [] hd2 (by simp)
  rw [List.append_nil] at s1 s2
  have e1 : d1.isEmpty = false := by simpa using h1
  have e2 : d2.isEmpty = false := by simpa using h2
  unfold parseReal
  cases neg with
  | true =>
    simp only [if_true, List.cons_append, List.nil_append, t1, t2, s1, s2, e1, e2, Bool.false_eq_true, if_false,
      List.isEmpty_nil, natOf_ascii u d1 hd1, map_dval_ascii u d2 hd2]
  | false =>
    simp only [Bool.false_eq_true, if_false, List.nil_append]
    split
    · -- a text of digits does not begin with the sign
      rename_i r heq
      obtain ⟨c, cs, rfl⟩ := List.exists_cons_of_ne_nil h1
      simp only [List.cons_append, List.cons.injEq] at heq
      exact absurd heq.1 (ne_of_isAsciiDigit (hd1 c (by simp)) (by decide))
    · simp only [t1, t2, s1, s2, e1, e2, Bool.false_eq_true, if_false, List.isEmpty_nil, if_true, natOf_ascii u d1 hd1,
        map_dval_ascii u d2 hd2]

theorem parseReal_realText (u : UC) (neg : Bool) (micro : Nat) : parseReal u (realText neg micro) = some (.real neg micro) := by
  have hf : fracText micro ≠ [] := by obtain ⟨e, es, h⟩ := fracText_cons micro; simp [h]
  rw [realText_eq, parseReal_point u neg _ _ (natText_ne_nil _) hf (natText_all_digit _) (fracText_all_digit _),
    natOfText_natText, fracText, frac6_fixed _ (Nat.mod_lt _ (by decide)), Nat.div_add_mod' micro 1000000]

theorem deserialize_real (u : UC) (ty : Text) (hty : tyOfName u ty = some .REAL) (neg : Bool) (micro : Nat) :
    deserialize u ty (realText neg micro) = some (.real neg micro) := by
  simp only [deserialize, hty, parseReal_realText]

end Pyx.Sql
