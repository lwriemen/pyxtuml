import Proofs.ExtractShapeTie
import Proofs.Extract

/-!
  C14 — `_get_related_attributes` and `mk_simple_association` of the generated IR (Gen/ExtractShape.lean) on ANY rows of a
  relationship, every ending included (Proofs/ExtractShapeTie.lean has the interpreter and the population `relWorld` a
  relationship's rows denote).  `relStepT` / `relLoopT`: the loop of `_get_related_attributes`, total (both endings).
  `mk_simple_association` (`simple_eq`), by the rows found:

    R_FORM, R_PART p :: _     `simple_tail` with the referring end R_FORM
    no R_FORM, p :: q :: _    the second R_PART refers: `simple_tail` with the referring end `part 1`
    R_FORM, no R_PART         `target_o_obj.Obj_ID` raises (`_get_related_attributes(r_rgo, None)` has returned two empty lists)
    no R_FORM, no R_PART      `source_o_obj.Obj_ID` raises
    no R_FORM, one R_PART     `r_rgo.OIR_ID` raises in the filter when an O_REF hangs on the R_PART, else `source_o_obj.Obj_ID`
  `simple_tail`: AttributeError on an unresolved O_REF (`o_attr.Name`), a missing class (`source_o_obj.Obj_ID` /
  `target_o_obj.Obj_ID`), else the one `define_association` (`simpleCall`).
-/

namespace Pyx.XShape
open Pyx.Extract Pyx.Gen.ExtractShape

/-! ### `_get_related_attributes` -/

/-- the loop body of `_get_related_attributes` (named, so that symbolic evaluation does not enter it) -/
def relBody : List Stmt :=
  [ .assign "o_attr" (.nav { card := .one, start := "o_ref", hops := [{ cls := "O_RATTR", rel := 108, phrase := "" }, { cls := "O_ATTR", rel := 106, phrase := "" }], filter := .all }),
    .append "l1" (.attr "o_attr" "Name"),
    .assign "o_attr" (.nav { card := .one, start := "o_ref", hops := [{ cls := "O_RTIDA", rel := 111, phrase := "" }, { cls := "O_OIDA", rel := 110, phrase := "" }, { cls := "O_ATTR", rel := 105, phrase := "" }], filter := .all }),
    .append "l2" (.attr "o_attr" "Name") ]

def relNav : Nav :=
  { card := .many, start := "r_rto", hops := [{ cls := "O_RTIDA", rel := 110, phrase := "" }, { cls := "O_REF", rel := 111, phrase := "" }], filter := (.attrEqAttr "OIR_ID" "r_rgo" "OIR_ID") }

theorem get_related_attributes_eq : get_related_attributes =
    { params := ["r_rgo", "r_rto"], nested := false,
      body := [.assign "l1" .emptyList, .assign "l2" .emptyList, .forNav "o_ref" relNav relBody, .ret (.pair "l1" "l2")] } := rfl

def resolvedAt (d : ClassDiagram) (w : RelRows) (g t : EndId) (refs : List Ref) : Bool :=
  refs.all (fun r => (attrAt d w g r.rattr).isSome && (attrAt d w t r.iattr).isSome)
def namesAt (d : ClassDiagram) (w : RelRows) (e : EndId) (ids : List Nat) : List String :=
  ids.filterMap (fun i => (attrAt d w e i).map (fun a => a.name))

variable (d : ClassDiagram) (numb : Nat) (w : RelRows)

theorem relStepT (callF : CallF RI) (fuel : Nat) (g t : EndId) (r : Ref)
    (L : Loc RI) (C : Calls RI) (a b : List String) (h1 : L "l1" = .strs a) (h2 : L "l2" = .strs b) :
    iStmts (relWorld d numb w) callF fuel relBody (L.set "o_ref" (.inst (some (RI.ref g t r)))) C =
      match attrAt d w g r.rattr, attrAt d w t r.iattr with
      | some ra, some ia =>
        .ok (((((L.set "o_ref" (.inst (some (RI.ref g t r)))).set "o_attr" (.inst (some (RI.attr ra)))).set "l1" (.strs (a ++ [ra.name]))).set
          "o_attr" (.inst (some (RI.attr ia)))).set "l2" (.strs (b ++ [ia.name])), C, .next)
      | _, _ => .error .attributeError := by
  cases hra : attrAt d w g r.rattr <;> cases hia : attrAt d w t r.iattr <;> simp only [xsh, relBody, hra, hia, h1, h2]

theorem relLoopT (callF : CallF RI) (fuel : Nat) (g t : EndId) :
    ∀ (refs : List Ref) (L : Loc RI) (C : Calls RI) (a b : List String), L "l1" = .strs a → L "l2" = .strs b →
      (resolvedAt d w g t refs = true →
        ∃ L', forLoop (fun x L' C' => iStmts (relWorld d numb w) callF fuel relBody (L'.set "o_ref" (.inst (some x))) C')
            (refs.map (RI.ref g t)) L C = .ok (L', C, .next) ∧
          L' "l1" = .strs (a ++ namesAt d w g (refs.map (·.rattr))) ∧
          L' "l2" = .strs (b ++ namesAt d w t (refs.map (·.iattr)))) ∧
      (resolvedAt d w g t refs = false →
        forLoop (fun x L' C' => iStmts (relWorld d numb w) callF fuel relBody (L'.set "o_ref" (.inst (some x))) C')
            (refs.map (RI.ref g t)) L C = .error .attributeError) := by
  intro refs
  induction refs with
  | nil =>
    intro L C a b h1 h2
    exact ⟨fun _ => ⟨L, rfl, by simp [namesAt, h1], by simp [namesAt, h2]⟩, fun h => by simp [resolvedAt] at h⟩
  | cons r rest ih =>
    intro L C a b h1 h2
    have hstep := relStepT d numb w callF fuel g t r L C a b h1 h2
    simp only [List.map_cons, forLoop, hstep]
    cases hra : attrAt d w g r.rattr with
    | none => simp [resolvedAt, hra]
    | some ra =>
      cases hia : attrAt d w t r.iattr with
      | none => simp [resolvedAt, hia]
      | some ia =>
        obtain ⟨ihT, ihF⟩ := ih
          (((((L.set "o_ref" (.inst (some (RI.ref g t r)))).set "o_attr" (.inst (some (RI.attr ra)))).set "l1" (.strs (a ++ [ra.name]))).set
            "o_attr" (.inst (some (RI.attr ia)))).set "l2" (.strs (b ++ [ia.name]))) C (a ++ [ra.name]) (b ++ [ia.name])
          (by simp [Loc.set]) (by simp [Loc.set])
        have hres : resolvedAt d w g t (r :: rest) =
            resolvedAt d w g t rest := by simp [resolvedAt, hra, hia]
        rw [hres]
        refine ⟨fun h => ?_, fun h => ihF h⟩
        obtain ⟨L', hL, hl1, hl2⟩ := ihT h
        exact ⟨L', hL, by simp [hl1, namesAt, hra], by simp [hl2, namesAt, hia]⟩

/-! the candidates of the navigation `many(r_rto).O_RTIDA[110].O_REF[111](ref_filter)` -/

theorem hops_rel (t : EndId) :
    evalHops (relWorld d numb w) [RI.rto t] relNav.hops = (refsOn w t).map (fun p => RI.ref p.1 t p.2) := by
  simp only [relNav, xsh]
  induction refsOn w t with
  | nil => rfl
  | cons p l ih =>
    simp only [evalHops, List.map_cons, List.flatMap_cons, xsh, List.cons_append] at ih ⊢
    rw [ih]

/-- the filter `lambda x: x.OIR_ID == r_rgo.OIR_ID` keeps the O_REF rows of the referring end `g` -/
theorem filterE_refs (g t : EndId) (L : Loc RI) (x : RI)
    (hx : relAttr numb w x "OIR_ID" = .nat (oirId g)) (h1 : L "r_rgo" = .inst (some x)) (l : List (EndId × Ref)) :
    filterE (passes (relWorld d numb w) L (.attrEqAttr "OIR_ID" "r_rgo" "OIR_ID")) (l.map (fun p => RI.ref p.1 t p.2)) =
      .ok ((l.filter (fun p => oirId p.1 == oirId g)).map (fun p => RI.ref p.1 t p.2)) := by
  induction l with
  | nil => rfl
  | cons p l ih =>
    simp only [xsh, h1, hx, ih, List.filter_cons]
    cases oirId p.1 == oirId g <;> rfl

theorem eNav_rel (g t : EndId) (L : Loc RI) (x : RI)
    (hx : relAttr numb w x "OIR_ID" = .nat (oirId g)) (h1 : L "r_rgo" = .inst (some x))
    (h2 : L "r_rto" = .inst (some (RI.rto t))) :
    eNav (relWorld d numb w) L relNav =
      .ok (.insts (((refsOn w t).filter (fun p => oirId p.1 == oirId g)).map (fun p => RI.ref p.1 t p.2))) := by
  simp only [eNav, show relNav.start = "r_rto" from rfl, h2, startSet, Option.toList_some, hops_rel,
    show relNav.filter = .attrEqAttr "OIR_ID" "r_rgo" "OIR_ID" from rfl, filterE_refs d numb w g t L x hx h1,
    show relNav.card = .many from rfl]

theorem eNav_rel_none_rto (L : Loc RI) (h2 : L "r_rto" = .inst none) :
    eNav (relWorld d numb w) L relNav = .ok (.insts []) := by
  simp only [relNav, xsh, h2]

theorem eNav_rel_none_rgo (t : EndId) (L : Loc RI)
    (h1 : L "r_rgo" = .inst none) (h2 : L "r_rto" = .inst (some (RI.rto t))) :
    eNav (relWorld d numb w) L relNav = if (refsOn w t).isEmpty then .ok (.insts []) else .error .attributeError := by
  simp only [eNav, show relNav.start = "r_rto" from rfl, h2, startSet, Option.toList_some, hops_rel,
    show relNav.filter = .attrEqAttr "OIR_ID" "r_rgo" "OIR_ID" from rfl]
  cases refsOn w t with
  | nil => rfl
  | cons p l => simp only [xsh, h1]

/-- `_get_related_attributes(r_rgo, r_rto)` for the pair (g, t) with the O_REF rows `refs`: the two name lists, or
    AttributeError when one of the rows does not lead to an attribute -/
theorem relattrs (n : Nat) (g t : EndId) (x : RI)
    (hx : relAttr numb w x "OIR_ID" = .nat (oirId g)) (refs : List Ref)
    (hrefs : (refsOn w t).filter (fun p => oirId p.1 == oirId g) = refs.map (fun r => (g, r))) (Lc : Loc RI) (C : Calls RI) :
    callAt (relWorld d numb w) defs (n + 1) "_get_related_attributes" [.inst (some x), .inst (some (RI.rto t))] Lc C =
      if resolvedAt d w g t refs then
        .ok (.tup (.strs (namesAt d w g (refs.map (·.rattr)))) (.strs (namesAt d w t (refs.map (·.iattr)))), C)
      else .error .attributeError := by
  rw [callAt_def _ _ _ _ _ _ _ lookup_get_related_attributes rfl, get_related_attributes_eq]
  have hnav := eNav_rel d numb w g t
    ((((Loc.empty.set "r_rgo" (.inst (some x))).set "r_rto" (.inst (some (RI.rto t)))).set "l1" (.strs [])).set "l2" (.strs [])) x hx
    rfl rfl
  -- the candidates as `refs.map (RI.ref g t)`, the list `relLoopT` walks (up to `Function.comp_def`, below)
  rw [hrefs, List.map_map] at hnav
  obtain ⟨hT, hF⟩ := relLoopT d numb w (callAt (relWorld d numb w) defs n) n g t refs
    ((((Loc.empty.set "r_rgo" (.inst (some x))).set "r_rto" (.inst (some (RI.rto t)))).set "l1" (.strs [])).set "l2" (.strs []))
    C [] [] rfl rfl
  simp only [xsh, hnav]
  cases hr : resolvedAt d w g t refs with
  | false =>
    have := hF hr
    simp only [Function.comp_def] at this ⊢
    rw [this]; rfl
  | true =>
    obtain ⟨L', hL, hl1, hl2⟩ := hT hr
    simp only [Function.comp_def] at hL ⊢
    rw [hL]
    simp only [xsh, hl1, hl2]

theorem relattrs_none_rto (n : Nat) (xo : Option RI) (Lc : Loc RI) (C : Calls RI) :
    callAt (relWorld d numb w) defs (n + 1) "_get_related_attributes" [.inst xo, .inst none] Lc C =
      .ok (.tup (.strs []) (.strs []), C) := by
  rw [callAt_def _ _ _ _ _ _ _ lookup_get_related_attributes rfl, get_related_attributes_eq]
  have hnav := eNav_rel_none_rto d numb w
    ((((Loc.empty.set "r_rgo" (.inst xo)).set "r_rto" (.inst none)).set "l1" (.strs [])).set "l2" (.strs [])) rfl
  simp only [xsh, hnav]

theorem relattrs_none_rgo (n : Nat) (t : EndId) (Lc : Loc RI) (C : Calls RI) :
    callAt (relWorld d numb w) defs (n + 1) "_get_related_attributes" [.inst none, .inst (some (RI.rto t))] Lc C =
      if (refsOn w t).isEmpty then .ok (.tup (.strs []) (.strs []), C) else .error .attributeError := by
  rw [callAt_def _ _ _ _ _ _ _ lookup_get_related_attributes rfl, get_related_attributes_eq]
  have hnav := eNav_rel_none_rgo d numb w t
    ((((Loc.empty.set "r_rgo" (.inst none)).set "r_rto" (.inst (some (RI.rto t)))).set "l1" (.strs [])).set "l2" (.strs []))
    rfl rfl
  simp only [xsh, hnav]
  cases refsOn w t with
  | nil => simp only [xsh]
  | cons p l => simp only [xsh]

theorem filter_tagged (g : EndId) (refs : List Ref) :
    (refs.map (fun r => (g, r))).filter (fun p => oirId p.1 == oirId g) = refs.map (fun r => (g, r)) := by
  apply List.filter_eq_self.mpr
  intro p hp
  obtain ⟨r, _, rfl⟩ := List.mem_map.mp hp
  exact beq_self_eq_true _

/-- `define_association(rel_id=n, source_kind=…, …)` with the fields of `a`, keyword by keyword as the constructors pass them -/
def assocCall (n : Nat) (a : SAssoc) : Call RI :=
  { fn := "define_association",
    args := [("rel_id", .nat n), ("source_kind", .str a.src.kind), ("target_kind", .str a.tgt.kind),
      ("source_keys", .strs a.src.keys), ("target_keys", .strs a.tgt.keys),
      ("source_conditional", .bool a.src.cond), ("target_conditional", .bool a.tgt.cond),
      ("source_phrase", .str a.src.phrase), ("target_phrase", .str a.tgt.phrase),
      ("source_many", .bool a.src.many), ("target_many", .bool a.tgt.many)],
    star := [] }

theorem decodeAssoc_assocCall (n : Nat) (a : SAssoc) : decodeAssoc (assocCall n a) = some (n, a) := by
  simp [decodeAssoc, assocCall, argNat, argStr, argStrs, argBool, List.lookup]

theorem decodeAll_map (n : Nat) (l : List SAssoc) : decodeAll (l.map (assocCall n)) = some (l.map fun a => (n, a)) := by
  induction l with
  | nil => rfl
  | cons a l ih => simp only [List.map_cons, decodeAll, decodeAssoc_assocCall, ih]

theorem resolvedAt_eq {d : ClassDiagram} {w : RelRows} {g t : EndId} {rc tc : Class} (hg : classOfEnd d w g = some rc)
    (ht : classOfEnd d w t = some tc) (refs : List Ref) : resolvedAt d w g t refs = refsResolved rc tc refs := by
  simp only [resolvedAt, refsResolved, attrAt, hg, ht, Option.bind_some]

theorem namesAt_eq {d : ClassDiagram} {w : RelRows} {e : EndId} {c : Class} (he : classOfEnd d w e = some c) (ids : List Nat) :
    namesAt d w e ids = keyNames c ids := by
  simp only [namesAt, keyNames, attrAt, he, Option.bind_some]

/-- the loop of `_get_related_attributes` over the O_REF rows of one (referring end, referred end) pair -/
theorem relLoop (d : ClassDiagram) (numb : Nat) (w : RelRows) (callF : CallF RI) (fuel : Nat) (g t : EndId) (rc tc : Class)
    (hrc : classOfEnd d w g = some rc) (htc : classOfEnd d w t = some tc) :
    ∀ (refs : List Ref), refsResolved rc tc refs = true → ∀ (L : Loc RI) (C : Calls RI) (a b : List String),
      L "l1" = .strs a → L "l2" = .strs b →
      ∃ L', forLoop (fun x L' C' => iStmts (relWorld d numb w) callF fuel
              [ .assign "o_attr" (.nav { card := .one, start := "o_ref", hops := [{ cls := "O_RATTR", rel := 108, phrase := "" }, { cls := "O_ATTR", rel := 106, phrase := "" }], filter := .all }),
                .append "l1" (.attr "o_attr" "Name"),
                .assign "o_attr" (.nav { card := .one, start := "o_ref", hops := [{ cls := "O_RTIDA", rel := 111, phrase := "" }, { cls := "O_OIDA", rel := 110, phrase := "" }, { cls := "O_ATTR", rel := 105, phrase := "" }], filter := .all }),
                .append "l2" (.attr "o_attr" "Name") ]
              (L'.set "o_ref" (.inst (some x))) C') (refs.map (RI.ref g t)) L C = .ok (L', C, .next) ∧
        L' "l1" = .strs (a ++ keyNames rc (refs.map (·.rattr))) ∧ L' "l2" = .strs (b ++ keyNames tc (refs.map (·.iattr))) := by
  intro refs hres L C a b h1 h2
  obtain ⟨L', h, hl1, hl2⟩ := (relLoopT d numb w callF fuel g t refs L C a b h1 h2).1 (by rw [resolvedAt_eq hrc htc]; exact hres)
  exact ⟨L', h, by rw [hl1, namesAt_eq hrc], by rw [hl2, namesAt_eq htc]⟩

/-! ### `mk_simple_association` -/

def instOf {I : Type} : Val I → Option (Option I)
  | .inst o => some o
  | _ => none

/-- the filter `lambda sel: sel != <v>`, whatever `v` holds -/
@[xsh] theorem filterE_neVar {I : Type} [DecidableEq I] (W : World I) (L : Loc I) (v : String) (xs : List I) :
    filterE (passes W L (.neVar v)) xs =
      match instOf (L v) with
      | some o => .ok (xs.filter (fun x => decide (o ≠ some x)))
      | none => if xs.isEmpty then .ok [] else .error .stuck := by
  cases h : L v with
  | inst o =>
    simp only [instOf]
    induction xs with
    | nil => rfl
    | cons x xs ih => simp only [filterE, passes, h, ih, List.filter_cons]
  | _ => cases xs <;> simp [instOf, filterE, passes, h]

attribute [xsh] instOf.eq_1

theorem findClass_id {d : ClassDiagram} {id : Nat} {c : Class} (h : findClass d id = some c) : c.id = id :=
  Pyx.Extract.findClass_id h

/-- the `define_association` call of `mk_simple_association` with the referring end `g` (R_FORM, or the second R_PART) and the
    first R_PART as the referred end -/
def simpleCall (g : EndId) (ge te : End) : Option (Call RI) :=
  (classOfEnd d w g).bind fun sc => (classOfEnd d w (.part 0)).bind fun tc =>
    if resolvedAt d w g (.part 0) w.refs then
      some (assocCall numb
        { src := { kind := sc.kl, keys := namesAt d w g (w.refs.map (·.rattr)), many := ge.mult, cond := ge.cond,
                   phrase := phraseIf (sc.id == tc.id) te.phrase },
          tgt := { kind := tc.kl, keys := namesAt d w (.part 0) (w.refs.map (·.iattr)), many := te.mult, cond := te.cond,
                   phrase := phraseIf (sc.id == tc.id) ge.phrase } })
    else none

section
attribute [local xsh] mk_simple_association List.drop_succ_cons List.drop_zero simpleCall assocCall phraseIf bne

/-- `_get_related_attributes` … `define_association` of `mk_simple_association` (its statements from the ninth on; the first
    eight find the ends), once both ends are found -/
theorem simple_tail (n fuel : Nat) (g : EndId) (x : RI) (ge te : End)
    (hx : relAttr numb w x "OIR_ID" = .nat (oirId g))
    (hrefs : (refsOn w (.part 0)).filter (fun p => oirId p.1 == oirId g) = w.refs.map (fun r => (g, r)))
    (hg : endOf w g = some ge) (ht : endOf w (.part 0) = some te) (L : Loc RI) (C : Calls RI)
    (h1 : L "r_rel" = .inst (some .rel)) (h2 : L "r_form" = .inst (some (.row g))) (h3 : L "r_part" = .inst (some (.row (.part 0))))
    (h4 : L "r_rgo" = .inst (some x)) (h5 : L "r_rto" = .inst (some (.rto (.part 0))))
    (h6 : L "source_o_obj" = .inst ((classOfEnd d w g).map RI.obj))
    (h7 : L "target_o_obj" = .inst ((classOfEnd d w (.part 0)).map RI.obj)) :
    retOf (iStmts (relWorld d numb w) (callAt (relWorld d numb w) defs (n + 1)) fuel (mk_simple_association.body.drop 8) L C) =
      match simpleCall d numb w g ge te with
      | some k => .ok (.inst none, C ++ [k])
      | none => .error .attributeError := by
  have hrel := fun Lc C => relattrs d numb w n g (.part 0) x hx w.refs hrefs Lc C
  cases hres : resolvedAt d w g (.part 0) w.refs with
  | false => simp only [xsh, hrel, hres, h4, h5]
  | true =>
    cases hsc : classOfEnd d w g with
    | none =>
      simp only [xsh, hrel, hres, hsc, h4, h5, h6, h7]
    | some sc =>
      cases htc : classOfEnd d w (.part 0) with
      | none =>
        simp only [xsh, hrel, hres, hsc, htc, h4, h5, h6, h7]
      | some tc =>
        cases hb : sc.id == tc.id <;>
          simp only [xsh, hrel, hres, hsc, htc, hg, ht, hb, h1, h2, h3, h4, h5, h6, h7]

end

theorem simpleCall_eq (g : EndId) (ge te : End) (hg : endOf w g = some ge)
    (ht : endOf w (.part 0) = some te) :
    assocsOf (match simpleCall d numb w g ge te with
      | some k => .ok (.inst none, [k])
      | none => .error .attributeError) = expected numb (kindOutcome d (.simple ge te w.refs)) := by
  have hcg : classOfEnd d w g = findClass d ge.cls := by simp only [classOfEnd, hg, Option.bind_some]
  have hct : classOfEnd d w (.part 0) = findClass d te.cls := by simp only [classOfEnd, ht, Option.bind_some]
  cases hsc : findClass d ge.cls with
  | none => simp only [simpleCall, kindOutcome, resolvedRel, RelKind.asRel, pairResolved, hcg, hsc, xsh, assocsOf]; rfl
  | some sc =>
    cases htc : findClass d te.cls with
    | none => simp only [simpleCall, kindOutcome, resolvedRel, RelKind.asRel, pairResolved, hcg, hct, hsc, htc, xsh, assocsOf]; rfl
    | some tc =>
      rw [hsc] at hcg; rw [htc] at hct
      simp only [simpleCall, kindOutcome, resolvedRel, RelKind.asRel, pairResolved, groupOf, hsc, htc, hcg, hct, xsh,
        resolvedAt_eq hcg hct, namesAt_eq hcg, namesAt_eq hct, findClass_id hsc, findClass_id htc]
      cases refsResolved sc tc w.refs with
      | false => rfl
      | true => simp only [xsh, assocsOf, decodeAll, decodeAssoc_assocCall, expected]

theorem simple_eq (hd : w.dispatch = .simple) (Lc : Loc RI) :
    assocsOf (callAt (relWorld d numb w) defs 5 "mk_simple_association" [.opaque, .inst (some .simp)] Lc []) =
      expected numb (mkAssociation d w) := by
  simp only [mkAssociation, hd]
  have hT := simple_tail d numb w 3 4
  have hr0 := fun xo Lc C => relattrs_none_rto d numb w 3 xo Lc C
  have hr1 := fun Lc C => relattrs_none_rgo d numb w 3 (.part 0) Lc C
  -- cut after the eight statements that find the ends and `generalize` the rest: each leaf runs those eight only, and the
  -- leaves where an end is missing `subst` the tail back and run it to its raise
  rw [callAt_def _ _ _ _ _ _ _ lookup_mk_simple_association rfl,
    ← List.take_append_drop 8 mk_simple_association.body, iStmts_append]
  generalize htl : List.drop 8 mk_simple_association.body = tl at hT ⊢
  cases hform : w.form with
  | some f =>
    cases hparts : w.parts with
    | nil =>
      subst htl
      simp only [xsh, mk_simple_association, List.take_succ_cons, List.take_zero, List.drop_succ_cons, List.drop_zero, hform, hparts, rowsFrom, hr0, RelRows.simpleEnds]
      cases classOfEnd d w .form <;> rfl
    | cons p rest =>
      have hp : endOf w (.part 0) = some p := by simp only [endOf, hparts, List.getElem?_cons_zero]
      simp only [xsh, mk_simple_association, List.take_succ_cons, List.take_zero, hform, hparts, rowsFrom, RelRows.simpleEnds,
        hT .form (.rgo .form) f p rfl (by simp only [refsOn, hform, Option.isSome_some, if_true]; exact filter_tagged _ _)
          hform hp, simpleCall_eq d numb w .form f p hform hp]
  | none =>
    cases hparts : w.parts with
    | nil =>
      subst htl
      simp only [xsh, mk_simple_association, List.take_succ_cons, List.take_zero, List.drop_succ_cons, List.drop_zero, hform,
        hparts, rowsFrom, hr0, RelRows.simpleEnds]
      rfl
    | cons p rest =>
      cases rest with
      | nil =>
        subst htl
        cases hr : (refsOn w (.part 0)).isEmpty <;>
          simp only [xsh, mk_simple_association, List.take_succ_cons, List.take_zero, List.drop_succ_cons, List.drop_zero,
            hform, hparts, rowsFrom, hr1, hr, RelRows.simpleEnds] <;> rfl
      | cons q rest =>
        have hp : endOf w (.part 0) = some p := by simp only [endOf, hparts, List.getElem?_cons_zero]
        have hq : endOf w (.part 1) = some q := by simp only [endOf, hparts, List.getElem?_cons_succ, List.getElem?_cons_zero]
        simp only [xsh, mk_simple_association, List.take_succ_cons, List.take_zero, Nat.reduceAdd,
          Option.some.injEq, RI.row.injEq, EndId.part.injEq, hform, hparts, rowsFrom, RelRows.simpleEnds,
          hT (.part 1) (.rto (.part 1)) q p rfl (by simp only [refsOn, hform, Option.isSome_none]; exact filter_tagged _ _)
            hq hp, simpleCall_eq d numb w (.part 1) q p hq hp]

theorem assocsOf_ret (r : Except Err (Val RI × Calls RI)) (L : Loc RI) :
    assocsOf (retOf (match r with
      | .error e => .error e
      | .ok (v, C') => .ok (L, C', Sig.ret v))) = assocsOf r := by
  rcases r with e | ⟨v, C⟩ <;> rfl

end Pyx.XShape
