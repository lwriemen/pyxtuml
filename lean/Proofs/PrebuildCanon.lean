import PyxModel.Prebuild.Gen
import Proofs.Lib.CharLower

/-
  C05: `canon` is idempotent; the generator prints list-like nodes element by element in
  source order.
-/
namespace Pyx.Prebuild
open Tok Kw Pn

theorem lowerStr_idem (s : String) : lowerStr (lowerStr s) = lowerStr s := by
  unfold lowerStr
  rw [String.toList_ofList, List.map_map]
  congr 1
  apply List.map_congr_left
  intro c _
  exact toLower_idem c

theorem canonName_idem (n : String) : canonName (canonName n) = canonName n := by
  unfold canonName
  split
  · have : lowerStr "self" = "self" := by decide
    simp [this]
  · simp

theorem stripZeros_idem : ∀ l, stripZeros (stripZeros l) = stripZeros l := by
  intro l
  fun_induction stripZeros l with
  | case1 d ds ih => exact ih
  | case2 ds h =>
    unfold stripZeros
    split
    · rename_i d ds'; exact absurd rfl (h d ds')
    · rfl

theorem stripZeros_all (p : Char → Bool) : ∀ l, l.all p = true → (stripZeros l).all p = true := by
  intro l
  fun_induction stripZeros l with
  | case1 d ds ih => intro h; apply ih; simp [List.all_cons] at h ⊢; exact h.2
  | case2 ds h => intro h'; exact h'

theorem stripZeros_cons : ∀ d ds, ∃ e es, stripZeros (d :: ds) = e :: es := by
  intro d ds
  induction ds generalizing d with
  | nil => exact ⟨d, [], by unfold stripZeros; split <;> simp_all⟩
  | cons x xs ih =>
    unfold stripZeros
    split
    · rename_i d' ds' heq; cases heq; exact ih x
    · exact ⟨_, _, rfl⟩

theorem canonRelL_fix (l l' : List Char) (h : canonRelL l = some l') : canonRelL l' = some l' := by
  unfold canonRelL at h
  split at h
  · rename_i c d ds
    split at h
    · rename_i hc
      simp only [Bool.and_eq_true] at hc
      cases h
      -- the stripped digits are non-empty, digits, and stripped already: the three things a second `canonRelL` tests
      obtain ⟨e, es, he⟩ := stripZeros_cons d ds
      have hall := stripZeros_all Char.isDigit (d :: ds) hc.2
      have hid := stripZeros_idem (d :: ds)
      rw [he] at hall hid ⊢
      unfold canonRelL
      have h1 : isRelHead 'R' = true := by decide
      simp only [h1, hall, Bool.and_self, ↓reduceIte, hid]
    · cases h
  · cases h

theorem canonRel_idem (s : String) : canonRel (canonRel s) = canonRel s := by
  unfold canonRel
  cases h : canonRelL s.toList with
  | none => simp only [h]
  | some l => simp only [String.toList_ofList, canonRelL_fix _ _ h]

theorem canonStep_idem (s : Step) : canonStep (canonStep s) = canonStep s := by
  simp [canonStep, canonRel_idem]

theorem canonChain_idem (ch : List Step) : (ch.map canonStep).map canonStep = ch.map canonStep := by
  rw [List.map_map]; apply List.map_congr_left; intro s _; exact canonStep_idem s

theorem canonMeaning_idem (ctx : Ctx) (l : String) (m : Option String) :
    canonMeaning ctx l (canonMeaning ctx l m) = canonMeaning ctx l m := by
  unfold canonMeaning
  cases ctx.events.lookup l <;> rfl

theorem canonKind_idem (ctx : Ctx) (k : CallKind) (nsp : String) :
    canonKind ctx (canonKind ctx k nsp) nsp = canonKind ctx k nsp := by
  cases k <;> simp only [canonKind]
  unfold resolve
  split
  · rfl
  · split <;> rfl

mutual
  theorem canonExpr_idem (ctx : Ctx) : ∀ e : Expr, canonExpr ctx (canonExpr ctx e) = canonExpr ctx e
    | .field h _ => by simp [canonExpr, canonExpr_idem ctx h]
    | .index h i => by simp [canonExpr, canonExpr_idem ctx h, canonExpr_idem ctx i]
    | .un _ e => by simp [canonExpr, lowerStr_idem, canonExpr_idem ctx e]
    | .bin l _ r => by simp [canonExpr, lowerStr_idem, canonExpr_idem ctx l, canonExpr_idem ctx r]
    | .call k nsp _ ps => by simp [canonExpr, canonKind_idem, canonParams_idem ctx ps]
    | .icall h _ ps => by simp [canonExpr, canonExpr_idem ctx h, canonParams_idem ctx ps]
    | .int _ | .real _ | .str _ | .bool _ | .enum _ _ | .var _ | .self | .selected | .param _ => by
      simp [canonExpr, lowerStr_idem]
  theorem canonParams_idem (ctx : Ctx) : ∀ ps : Params, canonParams ctx (canonParams ctx ps) = canonParams ctx ps
    | .nil => by simp [canonParams]
    | .cons _ e rest => by simp [canonParams, canonExpr_idem ctx e, canonParams_idem ctx rest]
end

theorem canonTo_idem (ctx : Ctx) (t : EvtTo) : canonTo ctx (canonTo ctx t) = canonTo ctx t := by
  cases t <;> simp [canonTo, canonExpr_idem]

mutual
  theorem canonStmt_idem (ctx : Ctx) : ∀ s : Stmt, canonStmt ctx (canonStmt ctx s) = canonStmt ctx s
    | .forEach _ _ b => by simp [canonStmt, canonBlock_idem ctx b]
    | .while_ _ b => by simp [canonStmt, canonExpr_idem, canonBlock_idem ctx b]
    | .if_ _ b el els => by
        simp [canonStmt, canonExpr_idem, canonBlock_idem ctx b, canonElifs_idem ctx el, canonElse_idem ctx els]
    | .selRel _ _ _ _ | .selRelW _ _ _ _ _ => by simp only [canonStmt, lowerStr_idem, canonExpr_idem, canonChain_idem]
    | .assign _ _ | .ret none | .ret (some _) | .brk | .cont | .ctl | .create _ _ | .createNV _ | .delete _
    | .relate _ _ _ _ | .relateU _ _ _ _ _ | .unrelate _ _ _ _ | .unrelateU _ _ _ _ _ | .selFrom _ _ _
    | .selFromW _ _ _ _ | .invoke _ | .genEvt _ _ _ _ | .createEvt _ _ _ _ _ | .genPre _ => by
      simp [canonStmt, canonExpr_idem, canonName_idem, canonRel_idem, lowerStr_idem, canonParams_idem, canonTo_idem,
        canonMeaning_idem]
  theorem canonBlock_idem (ctx : Ctx) : ∀ b : Block, canonBlock ctx (canonBlock ctx b) = canonBlock ctx b
    | .nil => by simp [canonBlock]
    | .cons s rest => by simp [canonBlock, canonStmt_idem ctx s, canonBlock_idem ctx rest]
  theorem canonElifs_idem (ctx : Ctx) : ∀ el : Elifs, canonElifs ctx (canonElifs ctx el) = canonElifs ctx el
    | .nil => by simp [canonElifs]
    | .cons _ b rest => by simp [canonElifs, canonExpr_idem, canonBlock_idem ctx b, canonElifs_idem ctx rest]
  theorem canonElse_idem (ctx : Ctx) : ∀ els : Else, canonElse ctx (canonElse ctx els) = canonElse ctx els
    | .none => by simp [canonElse]
    | .some b => by simp [canonElse, canonBlock_idem ctx b]
end

def Block.toList : Block → List Stmt
  | .nil => []
  | .cons s rest => s :: rest.toList

def Params.toList : Params → List (String × Expr)
  | .nil => []
  | .cons n e rest => (n, e) :: rest.toList

def Elifs.toList : Elifs → List (Expr × Block)
  | .nil => []
  | .cons e b rest => (e, b) :: rest.toList

theorem canonBlock_toList (ctx : Ctx) : ∀ b : Block, (canonBlock ctx b).toList = b.toList.map (canonStmt ctx)
  | .nil => by simp [canonBlock, Block.toList]
  | .cons s rest => by simp [canonBlock, Block.toList, canonBlock_toList ctx rest]

theorem canonParams_toList (ctx : Ctx) : ∀ ps : Params,
    (canonParams ctx ps).toList = ps.toList.map (fun x => (x.1, canonExpr ctx x.2))
  | .nil => by simp [canonParams, Params.toList]
  | .cons n e rest => by simp [canonParams, Params.toList, canonParams_toList ctx rest]

theorem canonElifs_toList (ctx : Ctx) : ∀ el : Elifs,
    (canonElifs ctx el).toList = el.toList.map (fun x => (canonExpr ctx x.1, canonBlock ctx x.2))
  | .nil => by simp [canonElifs, Elifs.toList]
  | .cons e b rest => by simp [canonElifs, Elifs.toList, canonElifs_toList ctx rest]

theorem genBlock_flat : ∀ b : Block, genBlock b = (b.toList.map (fun s => genStmt s ++ [p semi])).flatten
  | .nil => by simp [genBlock, Block.toList]
  | .cons s rest => by simp [genBlock, Block.toList, genBlock_flat rest]

theorem genChain_flat : ∀ ch : List Step, genChain ch = (ch.map genStep).flatten
  | [] => by simp [genChain]
  | s :: rest => by simp [genChain, genChain_flat rest]

theorem genElifs_flat : ∀ el : Elifs,
    genElifs el = (el.toList.map (fun x => [kw elif_] ++ genExpr x.1 ++ genBlock x.2)).flatten
  | .nil => by simp [genElifs, Elifs.toList]
  | .cons e b rest => by simp [genElifs, Elifs.toList, genElifs_flat rest]

theorem genParams_inter : ∀ ps : Params,
    genParams ps = ([p comma] : List Tok).intercalate (ps.toList.map (fun x => [ident x.1, p colon] ++ genExpr x.2))
  | .nil => by simp [genParams, Params.toList, List.intercalate]
  | .cons n e .nil => by simp [genParams, Params.toList, List.intercalate]
  | .cons n e (.cons n2 e2 r2) => by
      have ih := genParams_inter (.cons n2 e2 r2)
      have hgen : genParams (.cons n e (.cons n2 e2 r2)) =
          [ident n, p colon] ++ genExpr e ++ [p comma] ++ genParams (.cons n2 e2 r2) := by
        rw [genParams]; intro h; cases h
      rw [hgen, ih]
      simp [Params.toList, List.intercalate]

end Pyx.Prebuild
