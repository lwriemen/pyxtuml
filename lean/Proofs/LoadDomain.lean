import Proofs.LoadBuild

/-! C03: the model's domain predicate is invariant under permutations of the statements (`inDomain_perm`), and its condition
    on the (kind, name) keys of the identifier statements gives distinct identifier names per kind
    (`uniqNames_nodup_of_keys`). -/

namespace Pyx.Load

theorem assocInDomain_congr (cs1 cs2 : List Cls) (h : ∀ k, findCls cs1 k = findCls cs2 k) (a : AssocStmt) :
    assocInDomain cs1 a = assocInDomain cs2 a := by
  unfold assocInDomain attrNames attrTy
  simp only [h]

theorem insertInDomain_congr (cs1 cs2 : List Cls) (h : ∀ k, findCls cs1 k = findCls cs2 k)
    (s1 s2 : List Stmt) (hp : s1.Perm s2) (s : Stmt) :
    insertInDomain cs1 s1 s = insertInDomain cs2 s2 s := by
  unfold insertInDomain
  cases s with
  | insert k ns vs =>
    simp only [h]
    have href : ∀ x, (referential (popAssocs s1) k).contains x = (referential (popAssocs s2) k).contains x :=
      fun _ => (((popAssocs_perm hp).filter _).flatMap_right _).contains_eq
    cases findCls cs2 k with
    | some c => simp only [href]
    | none =>
      simp only
      congr 1
      exact hp.all_eq
  | cls _ _ => rfl
  | assoc _ => rfl
  | uniq _ _ _ => rfl

/-- the domain on which the model is claimed faithful is closed under permutations of the statements -/
theorem inDomain_perm {s1 s2 : List Stmt} (hp : s1.Perm s2) : inDomain s1 = inDomain s2 := by
  unfold inDomain
  have hacc := accepted_perm hp
  by_cases ha : accepted s1
  · have ha2 : accepted s2 = true := by rw [← hacc]; exact ha
    have hc := popClasses_perm hp
    have hfind : ∀ k, findCls (popClasses s1) k = findCls (popClasses s2) k :=
      findCls_perm hc (kinds_nodup_of_accepted ha)
    have has := popAssocs_perm hp
    simp only [ha, ha2, Bool.true_and]
    congr 1
    · congr 1
      · congr 1
        · congr 1
          · exact hc.all_eq
          · exact all_perm has _ _ (assocInDomain_congr _ _ hfind)
        · rw [decide_eq_decide]
          exact (has.flatMap_right linkKeys).nodup_iff
      · rw [decide_eq_decide]
        exact (hp.filterMap uniqKey).nodup_iff
    · exact all_perm hp _ _ (insertInDomain_congr _ _ hfind s1 s2 hp)
  · have ha2 : accepted s2 = false := by rw [← hacc]; simpa using ha
    have ha1 : accepted s1 = false := by simpa using ha
    simp [ha1, ha2]

theorem mem_insOf {ss : List Stmt} {k : String} {x : Option (List String) × List Val} (h : x ∈ insOf ss k) :
    Stmt.insert k x.1 x.2 ∈ ss := by
  unfold insOf at h
  obtain ⟨s, hs, hsx⟩ := List.mem_filterMap.mp h
  cases s with
  | insert k' ns vs =>
    by_cases hk : k' = k
    · simp only [hk, if_true, Option.some.injEq] at hsx
      subst hsx; subst hk; exact hs
    · simp [hk] at hsx
  | cls _ _ => simp at hsx
  | assoc _ => simp at hsx
  | uniq _ _ _ => simp at hsx

theorem uniqOf_names (ss : List Stmt) (k : String) :
    (uniqOf ss k).map (·.1) = (ss.filterMap uniqKey).filterMap (fun p => if p.1 = k then some p.2 else none) := by
  rw [List.filterMap_filterMap, uniqOf, List.map_filterMap]
  congr 1
  funext s
  cases s with
  | uniq k' n as => by_cases he : as.isEmpty <;> by_cases hk : k' = k <;> simp [uniqKey, he, hk]
  | _ => rfl

theorem uniqNames_nodup_of_keys (ss : List Stmt) (k : String) (h : (ss.filterMap uniqKey).Nodup) :
    ((uniqOf ss k).map (·.1)).Nodup := by
  rw [uniqOf_names]
  refine List.Pairwise.filterMap _ (fun p p' hne n hn n' hn' hnn => hne ?_) h
  by_cases hp : p.1 = k <;> by_cases hp' : p'.1 = k <;> simp [hp, hp'] at hn hn'
  exact Prod.ext (hp.trans hp'.symm) (hn.trans (hnn.trans hn'.symm))

end Pyx.Load
