import Proofs.Load

/-! C03: the key predicate, hash join = nested join, the index cache; the associations of the built metamodel carry the nested
    join of the rows of their two classes (`buildCore_assocs`), whose members and order `mem_nestedJoin_*` / `nestedJoin_*_sorted`
    give. -/

namespace Pyx.Load

/-- the guard of the join theorems: no attribute name is repeated inside a key list
    (with repeats `dict(zip(..))` collapses pairs and "corresponding" is ambiguous) -/
structure KeysOk (a : AssocStmt) : Prop where
  src : a.srcKeys.Nodup
  tgt : a.tgtKeys.Nodup

instance (a : AssocStmt) : Decidable (KeysOk a) :=
  decidable_of_iff (a.srcKeys.Nodup ∧ a.tgtKeys.Nodup) ⟨fun h => ⟨h.1, h.2⟩, fun h => ⟨h.src, h.tgt⟩⟩

theorem zip_swap {α β : Type} (l1 : List α) (l2 : List β) : l2.zip l1 = (l1.zip l2).map (fun p => (p.2, p.1)) :=
  List.zipWith_comm.trans (List.map_zip_eq_zipWith (f := fun p => (p.2, p.1))).symm

theorem zip_fst_nodup {α β : Type} (l1 : List α) (l2 : List β) (h : l1.Nodup) :
    ((l1.zip l2).map (·.1)).Nodup := by
  induction l1 generalizing l2 with
  | nil => simp
  | cons x xs ih =>
    cases l2 with
    | nil => simp
    | cons y ys =>
      simp only [List.zip_cons_cons, List.map_cons, List.nodup_cons]
      rw [List.nodup_cons] at h
      refine ⟨fun hm => h.1 ?_, ih ys h.2⟩
      obtain ⟨p, hp, rfl⟩ := List.mem_map.mp hm
      exact (List.of_mem_zip hp).1

theorem zip_snd_nodup {α β : Type} (l1 : List α) (l2 : List β) (h : l2.Nodup) :
    ((l1.zip l2).map (·.2)).Nodup := by
  rw [zip_swap l2 l1, List.map_map]
  exact zip_fst_nodup l2 l1 h

/-- the (referential attribute, identifying attribute) pairs of an association -/
def keyPairs (a : AssocStmt) : List (String × String) := a.srcKeys.zip a.tgtKeys

theorem keyMap_eq (a : AssocStmt) (h : a.srcKeys.Nodup) : keyMap a = keyPairs a :=
  dictOfPairs_eq_self _ (zip_fst_nodup _ _ h)

theorem keyNames_nodup (a : AssocStmt) (h : KeysOk a) : (keyNames a).Nodup := by
  unfold keyNames
  rw [keyMap_eq a h.src]
  exact zip_snd_nodup _ _ h.tgt

theorem matchesB_iff (a : AssocStmt) (s t : Row) :
    matchesB a s t = true ↔ ∀ p ∈ keyPairs a, isNull (s.get p.1) = false ∧ s.get p.1 = t.get p.2 := by
  unfold matchesB keyPairs
  simp only [List.all_eq_true, Bool.and_eq_true, Bool.not_eq_true', beq_iff_eq]

theorem matchesB_of_null (a : AssocStmt) (s t : Row) (h : (keyPairs a).any (fun p => isNull (s.get p.1)) = true) :
    matchesB a s t = false := by
  obtain ⟨p, hp, hnull⟩ := List.any_eq_true.mp h
  cases hm : matchesB a s t with
  | false => rfl
  | true => rw [((matchesB_iff a s t).mp hm p hp).1] at hnull; cases hnull

theorem lookupKey_eq (a : AssocStmt) (h : KeysOk a) (s : Row) :
    lookupKey a s = if (keyPairs a).any (fun p => isNull (s.get p.1)) then none
                    else some ((keyPairs a).map (fun p => (p.2, s.get p.1))) := by
  unfold lookupKey
  rw [keyMap_eq a h.src]
  split
  · rfl
  · congr 1
    apply dictOfPairs_eq_self
    rw [List.map_map]
    exact zip_snd_nodup _ _ h.tgt

theorem indexKey_eq (names : List String) (hn : names.Nodup) (t : Row) :
    indexKey names t = if names.any (fun n => isNull (t.get n)) then none
                       else some (names.map (fun n => (n, t.get n))) := by
  unfold indexKey
  by_cases h : names.any (fun n => isNull (t.get n))
  · simp [h]
  · simp only [h, Bool.false_eq_true, if_false, Option.some.injEq]
    apply dictOfPairs_eq_self
    simp only [List.map_map]
    have : ((fun x : String × Val => x.1) ∘ fun n : String => (n, t.get n)) = id := by
      funext n; rfl
    rw [this, List.map_id]
    exact hn

/-- all that `hit` sees of the duplicate-free `names` is which names it has (the cache shares an index between key lists
    that are equal as sets: `hit_congr_names`) -/
theorem hit_iff (names : List String) (hn : names.Nodup) (t : Row) (k : Key) :
    hit names t k = true ↔
      (∀ n ∈ names, isNull (t.get n) = false) ∧ ∀ x, x ∈ k ↔ ∃ n ∈ names, (n, t.get n) = x := by
  unfold hit
  rw [indexKey_eq names hn t]
  by_cases h : names.any (fun n => isNull (t.get n))
  · rw [if_pos h]
    obtain ⟨n, hnm, hq⟩ := List.any_eq_true.mp h
    exact ⟨fun h' => (by cases h'), fun h' => by rw [h'.1 n hnm] at hq; cases hq⟩
  · rw [if_neg h]
    simp only [keyEq_iff, List.mem_map]
    exact ⟨fun hk => ⟨by simpa using h, fun x => (hk x).symm⟩, fun hk x => (hk.2 x).symm⟩

/-- the heart of `join_exact`: a target row is found under the lookup key of a source row exactly when the
    key predicate of the property holds; `names` is the key set the index was built for -/
theorem hit_eq_matchesB (a : AssocStmt) (h : KeysOk a) (names : List String) (hn : names.Nodup)
    (hset : ∀ x, x ∈ names ↔ x ∈ keyNames a) (s t : Row)
    (hnull : (keyPairs a).any (fun p => isNull (s.get p.1)) = false) :
    hit names t ((keyPairs a).map (fun p => (p.2, s.get p.1))) = matchesB a s t := by
  have hnn : ∀ p ∈ keyPairs a, isNull (s.get p.1) = false := by simpa using hnull
  have hset' : ∀ x, x ∈ names ↔ ∃ p ∈ keyPairs a, p.2 = x := by
    intro x
    rw [hset x]
    unfold keyNames
    rw [keyMap_eq a h.src]
    simp only [List.mem_map]
  rw [Bool.eq_iff_iff, hit_iff names hn, matchesB_iff]
  simp only [List.mem_map]
  constructor
  · rintro ⟨_, hk⟩ p hp
    obtain ⟨n, _, he⟩ := (hk _).mp ⟨p, hp, rfl⟩
    obtain ⟨rfl, he⟩ := Prod.mk.inj he
    exact ⟨hnn p hp, he.symm⟩
  · intro hm
    refine ⟨fun n hnm => ?_, fun x => ⟨?_, ?_⟩⟩
    · obtain ⟨p, hp, rfl⟩ := (hset' n).mp hnm
      rw [← (hm p hp).2]
      exact (hm p hp).1
    · rintro ⟨p, hp, rfl⟩
      exact ⟨p.2, (hset' p.2).mpr ⟨p, hp, rfl⟩, by rw [(hm p hp).2]⟩
    · rintro ⟨n, hnm, rfl⟩
      obtain ⟨p, hp, rfl⟩ := (hset' n).mp hnm
      exact ⟨p, hp, by rw [(hm p hp).2]⟩

/-- what `populate_connections` needs of an index: a lookup yields, in storage order, the positions of the
    rows carrying the key -/
def IndexSpec (idx : Index) (names : List String) (T : List Row) : Prop :=
  ∀ k, bucketOf idx k = selectIdx 0 T (fun t => hit names t k)

theorem indexSpec_mkIndex (names : List String) (T : List Row) : IndexSpec (mkIndex names T) names T := by
  intro k
  unfold mkIndex
  rw [bucketOf_mkIndexFrom, bucketOf_nil]
  exact osetAddAll_nil_nodup _ (selectIdx_nodup _ _ _)

theorem partners_eq (a : AssocStmt) (h : KeysOk a) (idx : Index) (names : List String) (T : List Row)
    (hn : names.Nodup) (hset : ∀ x, x ∈ names ↔ x ∈ keyNames a) (hidx : IndexSpec idx names T) (s : Row) :
    partners a idx s = selectIdx 0 T (fun t => matchesB a s t) := by
  unfold partners
  rw [lookupKey_eq a h]
  cases hnull : (keyPairs a).any (fun p => isNull (s.get p.1)) with
  | true =>
    rw [selectIdx_congr 0 T (fun t => matchesB a s t) (fun _ => false) (fun t _ => matchesB_of_null a s t hnull),
      selectIdx_false]
    rfl
  | false =>
    have := hidx ((keyPairs a).map (fun p => (p.2, s.get p.1)))
    unfold bucketOf at this
    rw [selectIdx_congr 0 T _ (fun t => matchesB a s t)
      (fun t _ => hit_eq_matchesB a h names hn hset s t hnull)] at this
    simp only [Bool.false_eq_true, if_false]
    cases hb : findBucket idx _ with
    | none => simpa [hb] using this
    | some b => simpa [hb] using this

theorem Links.ext' {L1 L2 : Links} (hs : ∀ z, L1.src z = L2.src z) (ht : ∀ z, L1.tgt z = L2.tgt z) : L1 = L2 := by
  cases L1; cases L2
  simp only [Links.mk.injEq]
  exact ⟨funext hs, funext ht⟩

theorem joinWith_eq_nested (a : AssocStmt) (h : KeysOk a) (idx : Index) (names : List String) (S T : List Row)
    (hn : names.Nodup) (hset : ∀ x, x ∈ names ↔ x ∈ keyNames a) (hidx : IndexSpec idx names T) :
    joinWith a idx S = nestedJoin a S T := by
  -- both components are read off `partners_eq`: `tgt z` IS the partners of `S[z]`, `src z` asks which rows have `z` among theirs
  have hp := partners_eq a h idx names T hn hset hidx
  apply Links.ext'
  · intro z
    unfold joinWith nestedJoin
    rw [joinLoop_src]
    simp only [Links.empty]
    rw [osetAddAll_nil_nodup _ (selectIdx_nodup _ _ _)]
    cases hz : T[z]? with
    | none =>
      simp only
      rw [selectIdx_congr 0 S _ (fun _ => false), selectIdx_false]
      intro s _
      rw [hp s]
      simp only [decide_eq_false_iff_not, mem_selectIdx_zero, hz]
      rintro ⟨x, hx, _⟩
      cases hx
    | some t =>
      simp only
      show _ = selectIdx 0 S (fun s => matchesB a s t)
      apply selectIdx_congr
      intro s _
      rw [hp s, Bool.eq_iff_iff]
      simp only [decide_eq_true_eq, mem_selectIdx_zero, hz, Option.some.injEq]
      constructor
      · rintro ⟨x, rfl, hx⟩; exact hx
      · intro hx; exact ⟨t, rfl, hx⟩
  · intro z
    unfold joinWith nestedJoin
    simp only [joinLoop_tgt, Links.empty, Nat.zero_le, if_true, Nat.sub_zero]
    cases hz : S[z]? with
    | none => simp
    | some s =>
      simp only
      rw [hp s, osetAddAll_nil_nodup _ (selectIdx_nodup _ _ _)]
      rfl

theorem hashJoin_eq_nested (a : AssocStmt) (h : KeysOk a) (S T : List Row) :
    hashJoin a S T = nestedJoin a S T :=
  joinWith_eq_nested a h _ (keyNames a) S T (keyNames_nodup a h) (fun _ => Iff.rfl) (indexSpec_mkIndex _ _)

theorem hit_congr_names (n1 n2 : List String) (h1 : n1.Nodup) (h2 : n2.Nodup) (hset : ∀ x, x ∈ n1 ↔ x ∈ n2)
    (t : Row) (k : Key) : hit n1 t k = hit n2 t k := by
  rw [Bool.eq_iff_iff, hit_iff n1 h1, hit_iff n2 h2]
  simp only [hset]

/-- every cached index is the index of its class's rows for its (duplicate-free) key set -/
def CacheOk (rows : String → List Row) (c : Cache) : Prop :=
  ∀ e ∈ c, e.1.2.Nodup ∧ IndexSpec e.2 e.1.2 (rows e.1.1)

theorem cacheFind_some {c : Cache} {kind : String} {names : List String} {idx : Index}
    (h : cacheFind c kind names = some idx) :
    ∃ e ∈ c, e.1.1 = kind ∧ (∀ x, x ∈ e.1.2 ↔ x ∈ names) ∧ e.2 = idx := by
  unfold cacheFind at h
  cases hf : c.find? (fun e => decide (e.1.1 = kind) && namesEq e.1.2 names) with
  | none => simp [hf] at h
  | some e =>
    simp only [hf, Option.some.injEq] at h
    have hm := List.mem_of_find?_eq_some hf
    have hp := List.find?_some hf
    simp only [Bool.and_eq_true, decide_eq_true_eq] at hp
    exact ⟨e, hm, hp.1, (namesEq_iff _ _).mp hp.2, h⟩

theorem connectAll_eq_nested (rows : String → List Row) (c : Cache) (as : List AssocStmt)
    (hc : CacheOk rows c) (hk : ∀ a ∈ as, KeysOk a) :
    connectAll rows c as = as.map (fun a => nestedJoin a (rows a.srcKind) (rows a.tgtKind)) := by
  induction as generalizing c with
  | nil => rfl
  | cons a rest ih =>
    have ha := hk a List.mem_cons_self
    have hrest : ∀ b ∈ rest, KeysOk b := fun b hb => hk b (List.mem_cons_of_mem _ hb)
    simp only [connectAll, List.map_cons]
    cases hf : cacheFind c a.tgtKind (keyNames a) with
    | some idx =>
      simp only
      obtain ⟨e, hm, hkind, hset, hidx⟩ := cacheFind_some hf
      obtain ⟨hnd, hspec⟩ := hc e hm
      rw [hkind, hidx] at hspec
      rw [joinWith_eq_nested a ha idx e.1.2 _ _ hnd hset hspec, ih c hc hrest]
    | none =>
      simp only
      rw [joinWith_eq_nested a ha _ (keyNames a) _ _ (keyNames_nodup a ha) (fun _ => Iff.rfl)
        (indexSpec_mkIndex _ _)]
      rw [ih _ _ hrest]
      intro e he
      simp only [List.mem_append, List.mem_singleton] at he
      rcases he with he | rfl
      · exact hc e he
      · exact ⟨keyNames_nodup a ha, indexSpec_mkIndex _ _⟩

theorem buildCore_assocs (ss : List Stmt) (hk : ∀ a ∈ popAssocs ss, KeysOk a) :
    (buildCore ss).assocs = (popAssocs ss).map (fun a =>
      (a, nestedJoin a (rowsOf (buildCore ss).classes a.srcKind) (rowsOf (buildCore ss).classes a.tgtKind))) := by
  show (popAssocs ss).zip (connectAll (rowsOf (buildCore ss).classes) [] (popAssocs ss)) = _
  rw [connectAll_eq_nested _ [] _ (by intro e he; cases he) hk, ← List.map_prod_left_eq_zip]

theorem nestedJoin_tgt_some {a : AssocStmt} {S T : List Row} {i : Nat} {s : Row} (hs : S[i]? = some s) :
    (nestedJoin a S T).tgt i = selectIdx 0 T (fun t => matchesB a s t) := by
  simp only [nestedJoin, hs]; rfl

theorem nestedJoin_tgt_none {a : AssocStmt} {S T : List Row} {i : Nat} (hs : S[i]? = none) :
    (nestedJoin a S T).tgt i = [] := by
  simp only [nestedJoin, hs]

theorem nestedJoin_src_some {a : AssocStmt} {S T : List Row} {j : Nat} {t : Row} (ht : T[j]? = some t) :
    (nestedJoin a S T).src j = selectIdx 0 S (fun s => matchesB a s t) := by
  simp only [nestedJoin, ht]; rfl

theorem nestedJoin_src_none {a : AssocStmt} {S T : List Row} {j : Nat} (ht : T[j]? = none) :
    (nestedJoin a S T).src j = [] := by
  simp only [nestedJoin, ht]

theorem mem_nestedJoin_tgt (a : AssocStmt) (S T : List Row) (i j : Nat) :
    j ∈ (nestedJoin a S T).tgt i ↔ ∃ s t, S[i]? = some s ∧ T[j]? = some t ∧ matchesB a s t = true := by
  cases hs : S[i]? with
  | none => simp [nestedJoin_tgt_none hs]
  | some s => simp [nestedJoin_tgt_some hs, mem_selectIdx_zero]

theorem mem_nestedJoin_src (a : AssocStmt) (S T : List Row) (i j : Nat) :
    i ∈ (nestedJoin a S T).src j ↔ ∃ s t, S[i]? = some s ∧ T[j]? = some t ∧ matchesB a s t = true := by
  cases ht : T[j]? with
  | none => simp [nestedJoin_src_none ht]
  | some t => simp [nestedJoin_src_some ht, mem_selectIdx_zero]

theorem nestedJoin_tgt_sorted (a : AssocStmt) (S T : List Row) (i : Nat) :
    ((nestedJoin a S T).tgt i).Pairwise (· < ·) := by
  cases hs : S[i]? with
  | none => rw [nestedJoin_tgt_none hs]; exact List.Pairwise.nil
  | some s => rw [nestedJoin_tgt_some hs]; exact selectIdx_sorted 0 T _

theorem nestedJoin_src_sorted (a : AssocStmt) (S T : List Row) (j : Nat) :
    ((nestedJoin a S T).src j).Pairwise (· < ·) := by
  cases ht : T[j]? with
  | none => rw [nestedJoin_src_none ht]; exact List.Pairwise.nil
  | some t => rw [nestedJoin_src_some ht]; exact selectIdx_sorted 0 S _

end Pyx.Load
