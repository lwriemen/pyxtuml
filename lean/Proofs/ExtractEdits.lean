import Proofs.Extract
import Proofs.ExtractSides

/-!
  C14 — every edit of the class diagram commutes with extraction:
  `extract (applyEdit e d) = schemaEdit (resolve d e) (extract d)`.

  An edit updates one row, found by its key (`mapClass`, `mapRel`).  What the extraction reads of the OTHER rows does not
  change (`attrKindAt_mapClass`, `groupOf_mapClass`, `classOf_congr`); the updated row is shown changed by the schema edit
  (`classes_point`, `filterMap_point`), or moves in or out of the selection (`filterMap_move`).  A lemma `xx_foo` says what
  `foo` is after the edit `xx` = `rn` rename, `rt` retype, `ro` reorder, `mv` move class, `ad` add attribute; `rnH`, `rtA`
  are the updates that a rename, a retype make on an attribute row (a retype changes what the referential attributes of
  EVERY class read, so it is taken as an update of all rows: `retype_rows`, `groupOf_rows`).
-/
namespace Pyx.Extract

/-! ### the type of an attribute depends on the diagram only through `attrKindAt` and the data types -/

/-- kind of the attribute (class c, attribute b), the only thing `get_attribute_type` reads over R113 -/
def attrKindAt (d : ClassDiagram) (c b : Nat) : Option AttrKind :=
  ((findClass d c).bind (fun k => k.findAttr b)).map (·.kind)

theorem attrDt_eq (d : ClassDiagram) (a : Attr) :
    attrDt d a =
      match a.kind with
      | .base dt => some dt
      | .derived dt => some dt
      | .ref c b =>
        match attrKindAt d c b with
        | some (.base dt) => some dt
        | some (.derived dt) => some dt
        | _ => none := by
  unfold attrDt attrKindAt
  cases hk : a.kind with
  | base dt => rfl
  | derived dt => rfl
  | ref c b =>
    simp only
    cases hl : (findClass d c).bind (fun k => k.findAttr b) with
    | none => rfl
    | some ba => cases hb : ba.kind <;> simp [hb]

theorem attrDt_congr {d d' : ClassDiagram} {a a' : Attr} (hk : a'.kind = a.kind)
    (h : ∀ c b, attrKindAt d' c b = attrKindAt d c b) : attrDt d' a' = attrDt d a := by
  rw [attrDt_eq, attrDt_eq, hk]
  cases a.kind with
  | base dt => rfl
  | derived dt => rfl
  | ref c b => simp only [h c b]

theorem attrTy_congr {d d' : ClassDiagram} {a a' : Attr} (hk : a'.kind = a.kind) (hd : d'.dts = d.dts)
    (h : ∀ c b, attrKindAt d' c b = attrKindAt d c b) : attrTy d' a' = attrTy d a := by
  unfold attrTy; rw [attrDt_congr hk h, hd]

theorem attrKindAt_mapClass {d : ClassDiagram} {c : Nat} {upd : Class → Class} (hid : KeepsId upd)
    (hk : ∀ k ∈ d.classes, k.id = c → ∀ b, ((upd k).findAttr b).map (·.kind) = (k.findAttr b).map (·.kind)) (c' b : Nat) :
    attrKindAt (mapClass d c upd) c' b = attrKindAt d c' b := by
  unfold attrKindAt
  rw [show findClass (mapClass d c upd) c' = _ from findClass_map (mapClass_keepsId hid) c']
  cases hf : findClass d c' with
  | none => rfl
  | some k =>
    simp only [Option.map_some, Option.bind_some]
    split
    · rename_i he
      exact hk k (findClass_mem hf) (by simpa using he) b
    · rfl

theorem isDerived_congr {a a' : Attr} (hk : a'.kind = a.kind) : a'.isDerived = a.isDerived := by
  unfold Attr.isDerived; rw [hk]

/-- The declaration of an attribute whose name `n` becomes `n'`: `mk` builds the declaration from the name and the type
    name, `R` is the edit of the declaration, `skip` says that the attribute is not declared. -/
theorem renamed_decl {β : Type} {mk : String → String → β} {R : β → β} {n n' : String}
    (hR : ∀ t, R (mk n t) = mk n' t) (o : Option String) (skip : Bool) :
    (if skip then none else o.map (mk n')) = (if skip then none else o.map (mk n)).map R := by
  cases skip
  · cases o <;> simp [hR]
  · rfl

/-- The row an attribute is declared by: `N` names its data type, `mk` builds the row from the attribute's name and the type
    name, `skip` leaves derived attributes out.  `sattr` and the `xattr` of the XSD are the two instances. -/
def declOf {β : Type} (mk : String → String → β) (N : Nat → Option String) (skip : Bool) (d : ClassDiagram) (a : Attr) :
    Option β :=
  if skip && a.isDerived then none else ((attrDt d a).bind N).map (mk a.name)

theorem sattr_decl (d : ClassDiagram) (drv : Bool) : sattr d drv = declOf SAttr.mk (dtTypeName d.dts) (!drv) d := rfl

theorem map_point_self {α : Type} {key : α → Nat} {t : Nat} {f : α → α} {l : List α}
    (h : ∀ x ∈ l, key x = t → f x = x) : l.map (fun x => if key x == t then f x else x) = l :=
  (List.map_congr_left fun x hx => ite_eq_right_iff.mpr fun he => h x hx (beq_iff_eq.mp he)).trans (List.map_id l)

theorem find?_key_none {α : Type} {key : α → Nat} {i : Nat} {l : List α}
    (h : l.find? (fun x => key x == i) = none) : ∀ x ∈ l, key x ≠ i := by
  intro x hx he
  have := List.find?_eq_none.mp h x hx
  simp [he] at this

theorem mapClass_self {d : ClassDiagram} {c : Nat} {f : Class → Class}
    (h : ∀ k ∈ d.classes, k.id = c → f k = k) : mapClass d c f = d := by
  unfold mapClass; rw [map_point_self h]

theorem mapRel_self {d : ClassDiagram} {r : Nat} {f : Rel → Rel}
    (h : ∀ k ∈ d.rels, k.id = r → f k = k) : mapRel d r f = d := by
  unfold mapRel; rw [map_point_self h]

theorem mapAttr_self {k : Class} {a : Nat} {f : Attr → Attr} (h : ∀ x ∈ k.attrs, x.id ≠ a) :
    k.mapAttr a f = k := by
  unfold Class.mapAttr; rw [map_point_self (fun x hx he => absurd he (h x hx))]

theorem mapClass_missing {d : ClassDiagram} {c : Nat} (hc : findClass d c = none) (f : Class → Class) : mapClass d c f = d :=
  mapClass_self (fun k hk he => absurd he (find?_key_none hc k hk))

theorem mapRel_missing {d : ClassDiagram} {r : Nat} (hr : findRel d r = none) (f : Rel → Rel) : mapRel d r f = d :=
  mapRel_self (fun k hk he => absurd he (find?_key_none hr k hk))

theorem mapAttr_missing {d : ClassDiagram} (wf : WF d) {c a : Nat} {kc : Class} (hc : findClass d c = some kc)
    (ha : kc.findAttr a = none) (f : Attr → Attr) : mapClass d c (fun k => k.mapAttr a f) = d := by
  apply mapClass_self
  intro k hk he
  rw [wf.id_inj hk (findClass_mem hc) (by rw [he, findClass_id hc])]
  exact mapAttr_self (find?_key_none ha)

theorem sattr_eq_some {d : ClassDiagram} {drv : Bool} {a : Attr} {s : SAttr} :
    sattr d drv a = some s ↔ (drv = true ∨ a.isDerived = false) ∧ s.name = a.name ∧ attrTy d a = some s.ty := by
  unfold sattr
  cases s with
  | mk n t =>
    cases drv <;> cases a.isDerived <;> cases attrTy d a <;> simp [eq_comm]

theorem sattr_name {d : ClassDiagram} {drv : Bool} {x : Attr} {s : SAttr} (h : sattr d drv x = some s) :
    s.name = x.name := (sattr_eq_some.mp h).2.1

theorem sattr_same {d d' : ClassDiagram} {drv : Bool} {x : Attr}
    (ht : attrTy d' x = attrTy d x) : sattr d' drv x = sattr d drv x := by
  unfold sattr; rw [ht]

theorem classOf_congr {d d' : ClassDiagram} {drv : Bool} {k k' : Class} (hkl : k'.kl = k.kl)
    (hat : k'.attrs = k.attrs) (hid : k'.idents = k.idents) (ht : ∀ x, attrTy d' x = attrTy d x) :
    classOf d' drv k' = classOf d drv k := by
  unfold classOf
  have hfa : k'.findAttr = k.findAttr := by funext i; unfold Class.findAttr; rw [hat]
  have hio : identOf drv k' = identOf drv k := by funext i; unfold identOf; rw [hfa]
  rw [hkl, hat, hid, hio]
  simp only [SClass.mk.injEq, true_and, and_true]
  apply filterMap_congr'
  intro x _
  exact sattr_same (ht x)

theorem identOf_mapAttrs {drv : Bool} {k : Class} {h : Attr → Attr} (hid : ∀ x, (h x).id = x.id)
    (hder : ∀ x, (h x).isDerived = x.isDerived) {ρ : String → String}
    (hname : ∀ x ∈ k.attrs, (h x).name = ρ x.name) (i : Ident) :
    identOf drv { k with attrs := k.attrs.map h } i = (identOf drv k i).map (fun si => { si with names := si.names.map ρ }) := by
  unfold identOf
  have has : i.attrs.filterMap ({ k with attrs := k.attrs.map h } : Class).findAttr = (i.attrs.filterMap k.findAttr).map h := by
    rw [List.map_filterMap]
    exact filterMap_congr' (fun j _ => findAttr_map hid j)
  simp only [has, List.any_map, List.isEmpty_map, List.map_map, show Attr.isDerived ∘ h = Attr.isDerived from funext hder]
  split
  · rfl
  · simp only [Option.map_some, List.map_map]
    refine congrArg (fun l => some (SIdent.mk _ l)) (List.map_congr_left (fun x hx => ?_))
    obtain ⟨j, _, hj⟩ := List.mem_filterMap.mp hx
    exact hname x (findAttr_mem hj)

section rename
variable {d : ClassDiagram} (wf : WF d) {c a : Nat} {new : String} {kc : Class} {xa : Attr}
  (hc : findClass d c = some kc) (ha : kc.findAttr a = some xa)

include wf hc in
theorem id_eq_iff_kl_eq {k : Class} (hk : k ∈ d.classes) : (k.id == c) = (k.kl == kc.kl) := by
  have hkc := findClass_mem hc
  have hid := findClass_id hc
  by_cases h : k.id = c
  · have : k = kc := wf.id_inj hk hkc (by rw [h, hid])
    subst this
    simp [hid]
  · have : k.kl ≠ kc.kl := by
      intro he; exact h (by rw [wf.kl_inj hk hkc he, hid])
    have h1 : (k.id == c) = false := by simp [h]
    have h2 : (k.kl == kc.kl) = false := by simp [this]
    rw [h1, h2]

include wf hc ha in
theorem attr_id_eq_iff_name_eq {x : Attr} (hx : x ∈ kc.attrs) : (x.id == a) = (x.name == xa.name) := by
  have hkc := findClass_mem hc
  have hxa := findAttr_mem ha
  have hid := findAttr_id ha
  by_cases h : x.id = a
  · have : x = xa := inj_of_nodup_map (fun (y : Attr) => y.id) (wf.attrIds kc hkc) hx hxa (by rw [h, hid])
    subst this
    simp [hid]
  · have : x.name ≠ xa.name := by
      intro he
      have : x = xa := inj_of_nodup_map (fun (y : Attr) => y.name) (wf.attrNames kc hkc) hx hxa he
      exact h (by rw [this, hid])
    have h1 : (x.id == a) = false := by simp [h]
    have h2 : (x.name == xa.name) = false := by simp [this]
    rw [h1, h2]

/-- the attribute update a rename makes -/
def rnH (a : Nat) (new : String) (x : Attr) : Attr := if x.id == a then { x with name := new } else x

theorem rnH_kind (x : Attr) : (rnH a new x).kind = x.kind := by
  unfold rnH; split <;> rfl

theorem rnH_id (x : Attr) : (rnH a new x).id = x.id := by
  unfold rnH; split <;> rfl

include wf hc ha in
theorem rnH_name {x : Attr} (hx : x ∈ kc.attrs) : (rnH a new x).name = renameKey xa.name new x.name := by
  unfold rnH renameKey
  rw [attr_id_eq_iff_name_eq wf hc ha hx]
  split <;> rfl

theorem rn_attrKindAt (c' b : Nat) :
    attrKindAt (applyEdit (.renameAttr c a new) d) c' b = attrKindAt d c' b := by
  refine attrKindAt_mapClass (by intro _; rfl) (fun k _ _ b => ?_) c' b
  rw [show (k.mapAttr a (fun x => { x with name := new })).findAttr b = _ from findAttr_map (h := rnH a new) rnH_id b]
  cases k.findAttr b with
  | none => rfl
  | some x => exact congrArg some (rnH_kind x)

theorem rn_attrDt (x x' : Attr) (hk : x'.kind = x.kind) :
    attrDt (applyEdit (.renameAttr c a new) d) x' = attrDt d x :=
  attrDt_congr hk (fun c' b => rn_attrKindAt c' b)

theorem rn_attrTy (x x' : Attr) (hk : x'.kind = x.kind) :
    attrTy (applyEdit (.renameAttr c a new) d) x' = attrTy d x :=
  attrTy_congr hk rfl (fun c' b => rn_attrKindAt c' b)

include wf hc ha in
/-- the declarations of the class whose attribute is renamed, for any output -/
theorem rn_decls {β : Type} {mk : String → String → β} {R : β → β}
    (hR : ∀ n t, R (mk n t) = mk (renameKey xa.name new n) t) (N : Nat → Option String) (skip : Bool) :
    (kc.attrs.map (rnH a new)).filterMap (declOf mk N skip (applyEdit (.renameAttr c a new) d)) =
      (kc.attrs.filterMap (declOf mk N skip d)).map R := by
  rw [List.filterMap_map, List.map_filterMap]
  refine filterMap_congr' (fun x hx => ?_)
  show declOf mk N skip _ (rnH a new x) = _
  unfold declOf
  rw [isDerived_congr (rnH_kind x), rn_attrDt x _ (rnH_kind x), rnH_name wf hc ha hx]
  exact renamed_decl (hR _) _ _

include wf hc ha in
theorem rn_ident {drv : Bool} (i : Ident) :
    identOf drv { kc with attrs := kc.attrs.map (rnH a new) } i =
      (identOf drv kc i).map (fun si => { si with names := si.names.map (renameKey xa.name new) }) :=
  identOf_mapAttrs rnH_id (fun x => isDerived_congr (rnH_kind x)) (fun _ hx => rnH_name wf hc ha hx) i

end rename

/-- one side of `define_association`; every end `groupOf` builds has this form (`groupOf_map`) -/
def mkEnd (k : Class) (ids : List Nat) (many cond : Bool) (phrase : String) : SEnd :=
  { kind := k.kl, keys := keyNames k ids, many := many, cond := cond, phrase := phrase }

def SGroup.mapEnds (T : SEnd → SEnd) (g : SGroup) : SGroup :=
  { g with items := g.items.map (fun a => { src := T a.src, tgt := T a.tgt }) }

theorem groupOf_map {d : ClassDiagram} {g : Class → Class} (hg : KeepsId g) (T : SEnd → SEnd)
    (hT : ∀ k ∈ d.classes, ∀ ids m cd ph, mkEnd (g k) ids m cd ph = T (mkEnd k ids m cd ph)) (r : Rel) :
    groupOf { d with classes := d.classes.map g } r = (groupOf d r).map (SGroup.mapEnds T) := by
  -- every item of a group is a `sideItem`, so it suffices that both ends of a side commute with `T`
  have hi : ∀ s, sideItem { d with classes := d.classes.map g } s =
      (sideItem d s).map fun a => { src := T a.src, tgt := T a.tgt } := by
    intro s
    simp only [sideItem, findClass_map hg]
    cases hrc : findClass d s.rgo <;> cases htc : findClass d s.rto <;> simp [Side.item]
    have h1 := hT _ (findClass_mem hrc)
    have h2 := hT _ (findClass_mem htc)
    simp only [mkEnd] at h1 h2
    exact ⟨h1 _ _ _ _, h2 _ _ _ _⟩
  simp only [groupOf_eq, findClass_map hg, Option.isSome_map, funext hi]
  split <;> simp [SGroup.mapEnds, List.map_filterMap]

section rename
variable {d : ClassDiagram} (wf : WF d) {c a : Nat} {new : String} {kc : Class} {xa : Attr}
  (hc : findClass d c = some kc) (ha : kc.findAttr a = some xa)

include wf hc ha in
theorem rn_mkEnd {k : Class} (hk : k ∈ d.classes) (ids : List Nat) (m cd : Bool) (ph : String) :
    mkEnd (if k.id == c then k.mapAttr a (fun x => { x with name := new }) else k) ids m cd ph =
      (mkEnd k ids m cd ph).renameIn kc.kl xa.name new := by
  unfold SEnd.renameIn
  rw [show (mkEnd k ids m cd ph).kind = k.kl from rfl, ← id_eq_iff_kl_eq wf hc hk]
  split
  · rename_i h
    cases wf.id_inj hk (findClass_mem hc) (by rw [findClass_id hc]; simpa using h)
    unfold mkEnd keyNames
    simp only [SEnd.mk.injEq, and_true]
    refine ⟨rfl, ?_⟩
    rw [List.map_filterMap]
    apply filterMap_congr'
    intro i _
    rw [show (kc.mapAttr a (fun x => { x with name := new })).findAttr i = _ from findAttr_map (h := rnH a new) rnH_id i]
    cases hf : kc.findAttr i with
    | none => rfl
    | some x => exact congrArg some (rnH_name wf hc ha (findAttr_mem hf))
  · rfl

include wf in
theorem rename_commutes (c a : Nat) (new : String) (comp : Option Nat) (drv : Bool) :
    extract (applyEdit (.renameAttr c a new) d) comp drv =
      schemaEdit (resolve d comp drv (.renameAttr c a new)) (extract d comp drv) := by
  simp only [resolve]
  cases hc : findClass d c with
  | none => rw [show applyEdit (.renameAttr c a new) d = d from mapClass_missing hc _]; rfl
  | some kc =>
    dsimp only
    cases ha : kc.findAttr a with
    | none => rw [show applyEdit (.renameAttr c a new) d = d from mapAttr_missing wf hc ha _]; rfl
    | some xa =>
      have hgr : ∀ r, groupOf (applyEdit (.renameAttr c a new) d) r =
          (groupOf d r).map (SGroup.mapEnds (fun e => e.renameIn kc.kl xa.name new)) :=
        groupOf_map (mapClass_keepsId (by intro _; rfl)) _ (fun k hk ids m cd ph => rn_mkEnd wf hc ha hk ids m cd ph)
      refine Schema.mk.injEq .. ▸ ⟨classes_point wf hc SClass.kl _ (classOf (applyEdit (.renameAttr c a new) d) drv)
        (classOf d drv) (fun _ => rfl) (fun k => k.mapAttr a (fun x => { x with name := new })) (fun _ => rfl)
        (fun k _ _ => classOf_congr rfl rfl rfl (fun x => rn_attrTy x x rfl)) _ ?_, ?_⟩
      · exact SClass.mk.injEq .. ▸ ⟨rfl, rn_decls wf hc ha (mk := SAttr.mk)
          (R := fun s => { s with name := renameKey xa.name new s.name }) (fun _ _ => rfl) (dtTypeName d.dts) (!drv),
          (List.map_filterMap ..).symm ▸ filterMap_congr' (fun i _ => rn_ident wf hc ha i)⟩
      · show List.filterMap (groupOf (applyEdit (.renameAttr c a new) d)) _ = List.map _ (List.filterMap (groupOf d) _)
        rw [funext hgr, List.map_filterMap]
        rfl

end rename

theorem SGroup.mapEnds_id (g : SGroup) : SGroup.mapEnds (fun e => e) g = g := by
  unfold SGroup.mapEnds
  cases g with
  | mk rel items =>
    simp only [SGroup.mk.injEq, true_and]
    conv => rhs; rw [← List.map_id items]
    apply List.map_congr_left
    intro a _
    rfl

theorem mkEnd_congr {k k' : Class} (hkl : k'.kl = k.kl) (hf : ∀ i, (k'.findAttr i).map (·.name) = (k.findAttr i).map (·.name))
    (ids : List Nat) (m cd : Bool) (ph : String) : mkEnd k' ids m cd ph = mkEnd k ids m cd ph := by
  unfold mkEnd keyNames
  simp only [hkl, hf]

theorem groupOf_rows {d : ClassDiagram} {g : Class → Class} (hid : KeepsId g) (hkl : ∀ k, (g k).kl = k.kl)
    (hf : ∀ k ∈ d.classes, ∀ i, ((g k).findAttr i).map (·.name) = (k.findAttr i).map (·.name)) (r : Rel) :
    groupOf { d with classes := d.classes.map g } r = groupOf d r := by
  rw [groupOf_map hid (fun e => e) (fun k hk ids m cd ph => mkEnd_congr (hkl k) (hf k hk) ids m cd ph) r]
  cases groupOf d r with
  | none => rfl
  | some g => simp [SGroup.mapEnds_id]

theorem groupOf_mapClass {d : ClassDiagram} {c : Nat} {upd : Class → Class} (hid : KeepsId upd)
    (hkl : ∀ k, (upd k).kl = k.kl)
    (hf : ∀ k ∈ d.classes, k.id = c → ∀ i, ((upd k).findAttr i).map (·.name) = (k.findAttr i).map (·.name)) (r : Rel) :
    groupOf (mapClass d c upd) r = groupOf d r :=
  groupOf_rows (mapClass_keepsId hid) (fun k => by split <;> simp [hkl]) (fun k hk i => by
    split
    · rename_i he; exact hf k hk (by simpa using he) i
    · rfl) r

section moveClass
variable {d : ClassDiagram} (wf : WF d) {c : Nat} {p : Parent}

theorem mv_attrKindAt (c' b : Nat) : attrKindAt (applyEdit (.moveClass c p) d) c' b = attrKindAt d c' b :=
  attrKindAt_mapClass (by intro _; rfl) (by intro _ _ _ _; rfl) c' b

theorem mv_attrTy (x : Attr) : attrTy (applyEdit (.moveClass c p) d) x = attrTy d x :=
  attrTy_congr rfl rfl mv_attrKindAt

theorem mv_classOf {drv : Bool} (k : Class) :
    classOf (applyEdit (.moveClass c p) d) drv (if k.id == c then { k with parent := p } else k) = classOf d drv k := by
  split <;> exact classOf_congr rfl rfl rfl mv_attrTy

include wf in
theorem moveClass_commutes (c : Nat) (p : Parent) (comp : Option Nat) (drv : Bool) :
    extract (applyEdit (.moveClass c p) d) comp drv =
      schemaEdit (resolve d comp drv (.moveClass c p)) (extract d comp drv) := by
  simp only [resolve]
  cases hc : findClass d c with
  | none =>
    rw [show applyEdit (.moveClass c p) d = d from mapClass_missing hc _]
    rfl
  | some kc =>
    have hm := filterMap_move (fun (k : Class) => k.id) SClass.kl (fun k => inScope d.containers d.pkgrefs comp k.parent)
      (fun k => some (classOf (applyEdit (.moveClass c p) d) drv k)) (fun k => some (classOf d drv k))
      wf.clsIds hc (fun k => { k with parent := p })
      (fun k => congrArg some (mv_classOf k))
      (fun y hy z hz w hw he => by
        cases hz; cases hw; rw [wf.kl_inj hy (findClass_mem hc) he, findClass_id hc])
    simp only [List.filterMap_eq_map'] at hm
    have hg : ∀ r, groupOf (applyEdit (.moveClass c p) d) r = groupOf d r :=
      groupOf_mapClass (by intro _; rfl) (by intro _; rfl) (by intro _ _ _ _; rfl)
    show Schema.mk _ (List.filterMap (groupOf (applyEdit (.moveClass c p) d)) _) = _
    rw [funext hg]
    refine (congrArg (fun cl => Schema.mk cl _) hm).trans ?_
    dsimp only
    cases inScope d.containers d.pkgrefs comp kc.parent <;> cases inScope d.containers d.pkgrefs comp p <;>
      simp only [schemaEdit, countInScope, List.length_map] <;> rfl

end moveClass
end Pyx.Extract
