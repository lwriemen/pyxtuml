import Proofs.LoadApiRun
import Proofs.Lib.Traverse

/-! C03: `MetaModel.clone` — reading the attributes of a loaded instance through the
    chain of referential properties, then `new`.  What is read stands for the written row (`readVal_spec`,
    `readOf_read`), so every `clone` is a step of the API route under the invariant of the written rows (`cloneRun_spec`). -/

namespace Pyx.Load

/-- the value `getattr(instance, x)` yields on the loaded instance `(k, i)` -/
def readVal (M : Model) (k : String) (i : Nat) (x : String) : Val :=
  (readAttr M (fuelOf M) k i x).getD .none

theorem popInstances_mono (μ : List Cls → Nat) (hadd : ∀ cs k r, μ (addRow cs k r) = μ cs)
    (happ : ∀ cs c, μ cs ≤ μ (cs ++ [c])) (ss : List Stmt) (cs : List Cls) : μ cs ≤ μ (popInstances ss cs) := by
  unfold popInstances
  induction ss generalizing cs with
  | nil => exact Nat.le_refl _
  | cons s ss ih =>
    simp only [List.foldl_cons]
    cases s with
    | insert k ns vs =>
      refine Nat.le_trans ?_ (ih _)
      have h : μ cs ≤ μ (if hasKind cs k then cs else cs ++ [⟨k, inferAttrs ns vs, [], []⟩]) := by
        split
        · exact Nat.le_refl _
        · exact happ _ _
      simp only [insertStep]
      split
      · rw [hadd]; exact h
      · exact h
    | _ => exact ih cs

theorem length_popInstances_ge (ss : List Stmt) (cs : List Cls) : cs.length ≤ (popInstances ss cs).length :=
  popInstances_mono List.length (fun _ _ _ => by simp [addRow]) (fun _ _ => by simp) ss cs

theorem attrSum_popInstances_ge (ss : List Stmt) (cs : List Cls) : attrSum cs ≤ attrSum (popInstances ss cs) :=
  popInstances_mono attrSum attrSum_addRow (fun _ _ => by rw [attrSum_append]; omega) ss cs

theorem fuelOf_loaded_ge (ss : List Stmt) (order : List (String × List Val)) :
    readBound ss + 1 ≤ fuelOf (loaded ss order) := by
  have h1 := attrSum_lt_fuelOf (loaded ss order)
  have h2 : readBound ss ≤ attrSum (loaded ss order).classes := by
    unfold loaded buildCore
    simp only
    refine Nat.le_trans ?_ (attrSum_popInstances_ge _ _)
    rw [attrSum_popUniques, popClasses_append, popClasses_inserts, List.append_nil]
    exact Nat.le_refl _
  omega

def countKind (l : List (String × List Val)) (k : String) : Nat := (l.filter (fun p => p.1 = k)).length

def positionsFrom (pre : List (String × List Val)) : List (String × List Val) → List (String × Nat)
  | [] => []
  | o :: rest => (o.1, countKind pre o.1) :: positionsFrom (pre ++ [o]) rest

/-- the instance the n-th row became: its kind and its position in the class's storage -/
def positions (order : List (String × List Val)) : List (String × Nat) := positionsFrom [] order

/-- the arguments `clone` hands to `new` for the loaded instance `(k, i)` -/
def readArgs (ss : List Stmt) (order : List (String × List Val)) (k : String) (i : Nat) : List Val :=
  (attrsOf ss k).map (fun p => readVal (loaded ss order) k i p.1)

theorem rawRows_length (ss : List Stmt) (l : List (String × List Val)) (k : String) :
    (rawRows ss l k).length = countKind l k := by
  simp [rawRows, countKind]

theorem get_mkRow_map (attrs : List (String × Ty)) (f : String → Val) (x : String) :
    Row.get (mkRow attrs none (attrs.map (fun p => f p.1))) x = if x ∈ attrs.map (·.1) then f x else .none := by
  unfold Row.get mkRow
  induction attrs with
  | nil => simp
  | cons p ps ih =>
    by_cases hx : x = p.1
    · subst hx
      simp
    · have hb : (x == p.1) = false := by simpa using hx
      simp only [List.map_cons, List.zip_cons_cons, List.lookup_cons, hb, List.mem_cons, hx, false_or]
      exact ih

theorem attrs_nodup_of_accepted (ss : List Stmt) (hacc : accepted ss = true) (k : String) :
    ((attrsOf ss k).map (·.1)).Nodup := by
  unfold attrsOf
  cases hc : findCls (popClasses ss) k with
  | none => exact List.nodup_nil
  | some c =>
    obtain ⟨s, hs, hsc⟩ := List.mem_filterMap.mp (show c ∈ popClasses ss from List.mem_of_find?_eq_some hc)
    unfold accepted at hacc
    simp only [Bool.and_eq_true, List.all_eq_true] at hacc
    have := hacc.2 s hs
    cases s with
    | cls k' as =>
      simp only [Option.some.injEq] at hsc
      subst hsc
      simpa using this
    | _ => simp at hsc

/-- rows over the same distinct names store the same row when they agree on the names that are not stripped: a row is the
    graph of its own look-up (`map_lookup_self`) -/
theorem stripRow_congr (refs : List String) {r r' : Row} (hk : r'.map (·.1) = r.map (·.1)) (hn : (r.map (·.1)).Nodup)
    (h : ∀ x ∈ r.map (·.1), x ∉ refs → r'.get x = r.get x) : stripRow refs r' = stripRow refs r := by
  have e := map_lookup_self hn Val.none
  have e' := hk ▸ map_lookup_self (hk ▸ hn) Val.none
  rw [← e, ← e']
  generalize r.map (·.1) = names at h
  simp only [stripRow, List.filter_map, ← get_eq_lookup_getD]
  exact List.map_congr_left fun x hx => by
    obtain ⟨hx, hr⟩ := List.mem_filter.mp hx
    rw [h x hx (by simpa using hr)]

section read
variable (ss : List Stmt) (order : List (String × List Val)) (g : ApiGuards ss order)
include g

/-- what is read from the loaded instance `(k, i)`, attribute by attribute: the read ends; an attribute that is
    not referential reads its value; a referential one reads its value or `None`, and its value whenever some
    association using it links the row -/
theorem readVal_spec (k : String) (i : Nat) (r : Row) (hr : (rawRows ss order k)[i]? = some r) (x : String) :
    readAttr (loaded ss order) (fuelOf (loaded ss order)) k i x = some (readVal (loaded ss order) k i x) ∧
    (x ∉ referential (popAssocs ss) k → readVal (loaded ss order) k i x = r.get x) ∧
    (readVal (loaded ss order) k i x = r.get x ∨ readVal (loaded ss order) k i x = .none) ∧
    (∀ a ∈ popAssocs ss, a.srcKind = k → x ∈ a.srcKeys →
        (nestedJoin a (rawRows ss order a.srcKind) (rawRows ss order a.tgtKind)).tgt i ≠ [] →
        readVal (loaded ss order) k i x = r.get x) := by
  have hF := fuelOf_loaded_ge ss order
  obtain ⟨f, hf⟩ : ∃ f, fuelOf (loaded ss order) = f + 1 := ⟨fuelOf (loaded ss order) - 1, by omega⟩
  have hDf : readBound ss ≤ f := by omega
  have hi : i < (rawRows ss order k).length := (List.getElem?_eq_some_iff.mp hr).1
  obtain ⟨v0, hv0⟩ := Option.isSome_iff_exists.mp (g.readsTerminate k i x hi)
  have hv : readAttr (loaded ss order) (f + 1) k i x = some v0 :=
    readAttr_mono (loaded ss order) (by omega) k i x v0 hv0
  have hval : readVal (loaded ss order) k i x = v0 := by
    unfold readVal; rw [hf, hv]; rfl
  rw [hf, hv, hval]
  refine ⟨rfl, ?_, readAttr_loaded_value g _ k i x r v0 hr hv, ?_⟩
  · intro hx
    have hst := readAttr_stored (loaded ss order) f k i x (by rw [loaded_assocs_fst g]; exact hx)
    rw [hst, loaded_rows g, hr] at hv
    simp only [Option.getD_some, Option.some.injEq] at hv
    exact hv.symm
  · intro a ha hk hxa hne
    rcases readAttr_joined (joined_loaded g) f k i x (hk ▸ mem_referential ha hxa) with
      ⟨_, hall⟩ | ⟨b, hb, hbk, tk, j, s, t, hmem, hs, ht, hm, hvalc⟩
    · refine absurd (hall a ha hk ?_) (by rw [loaded_rows g, loaded_rows g]; exact hne)
      show x ∈ (a.srcKeys.zip a.tgtKeys).map (·.1)
      rw [List.map_fst_zip (by have := (g.keys a ha).2.1; omega)]
      exact hxa
    -- a linked row: `resolved` reads the referred row's identifying value back, and the match makes it the row's own
    · rw [loaded_rows g] at hs ht
      rw [hr] at hs
      cases hs
      have hres := g.resolved b hb i j r t (by rw [hbk]; exact hr) ht hm tk (List.of_mem_zip hmem).2
      rw [hvalc, readAttr_mono (loaded ss order) hDf b.tgtKind j tk _ hres] at hv
      cases hv
      exact (((matchesB_iff b r t).mp hm (x, tk) hmem).2).symm

theorem readAll_loaded (k : String) (c0 : Cls) (h0 : findCls (popClasses ss) k = some c0) (i : Nat)
    (hi : i < (rawRows ss order k).length) :
    ∃ c, findCls (loaded ss order).classes k = some c ∧ readAll (loaded ss order) c i = some (readArgs ss order k i) := by
  have hspec := findCls_buildCore (ss ++ insertsOf order) k
  unfold clsSpec at hspec
  rw [popClasses_append, popClasses_inserts, List.append_nil, h0] at hspec
  refine ⟨_, hspec, ?_⟩
  have hattrs : attrsOf ss k = c0.attrs := by simp [attrsOf, h0]
  obtain ⟨r, hr⟩ : ∃ r, (rawRows ss order k)[i]? = some r := ⟨_, List.getElem?_eq_getElem hi⟩
  unfold readArgs
  rw [hattrs]
  show c0.attrs.mapM (fun p => readAttr _ _ c0.kind i p.1) = _
  rw [findCls_some_kind h0]
  rw [mapM_eq_some, List.map_map]
  exact List.map_congr_left fun p _ => (readVal_spec ss order g k i r hr p.1).1

/-- what `clone` reads from the loaded instance `(k, i)` may stand for the written row: an attribute that is not
    referential reads its value, a referential one its value or `None`, and its value when the row refers to some row -/
theorem readOf_read (k : String) (i : Nat) (o : String × List Val) (ho : o ∈ order) (hk : o.1 = k)
    (hr : (rawRows ss order k)[i]? = some (rawRow ss o)) : ReadOf ss order (k, readArgs ss order k i) o := by
  subst hk
  have hget : ∀ x, (rawRow ss (o.1, readArgs ss order o.1 i)).get x =
      if x ∈ (attrsOf ss o.1).map (·.1) then readVal (loaded ss order) o.1 i x else .none :=
    fun x => get_mkRow_map _ _ x
  have hlen := (g.declared o ho).2
  refine ⟨rfl, by simp [readArgs, hlen], ?_, ?_, ?_⟩
  · have hn := names_mkRow_none (attrsOf ss o.1) o.2 hlen
    refine stripRow_congr _ ((names_mkRow_none _ _ (by simp [readArgs])).trans hn.symm)
      (hn ▸ attrs_nodup_of_accepted ss g.accepted o.1) fun x hx hxr => ?_
    exact (hget x).trans ((if_pos (hn ▸ hx)).trans ((readVal_spec ss order g o.1 i _ hr x).2.1 hxr))
  · intro x
    rw [hget]
    split
    · exact (readVal_spec ss order g o.1 i _ hr x).2.2.1
    · exact Or.inr rfl
  · intro a ha hk t ht hm x hx
    rw [hget, if_pos (hk ▸ g.srcDeclared a ha x hx)]
    obtain ⟨j, hj⟩ := List.getElem?_of_mem ht
    exact (readVal_spec ss order g o.1 i _ hr x).2.2.2 a ha hk hx
      (List.ne_nil_of_mem ((mem_nestedJoin_tgt a _ _ i j).mpr ⟨_, t, by rw [hk]; exact hr, hj, hm⟩))

/-- cloning every loaded instance in the order of the rows keeps the invariant of the API route: each `clone` is a
    `new` with the values read (`readOf_read`) -/
theorem cloneRun_spec (suf : List (String × List Val)) :
    ∀ (pre : List (String × List Val)) (m : Model), order = pre ++ suf → ApiInv ss pre m →
      ∃ m', cloneRun (loaded ss order) (positionsFrom pre suf) m = (m', suf.map (fun _ => Outcome.ok)) ∧
        ApiInv ss order m' := by
  induction suf with
  | nil =>
    intro pre m horder inv
    exact ⟨m, rfl, by rw [horder, List.append_nil]; exact inv⟩
  | cons o suf ih =>
    intro pre m horder inv
    have ho : o ∈ order := by rw [horder]; simp
    obtain ⟨c0, h0⟩ := Option.isSome_iff_exists.mp (g.declared o ho).1
    have hr : (rawRows ss order o.1)[countKind pre o.1]? = some (rawRow ss o) := by
      rw [← rawRows_length ss, horder]; exact rawRows_at_split ss pre suf o
    obtain ⟨c, hc, hread⟩ := readAll_loaded ss order g o.1 c0 h0 _ (List.getElem?_eq_some_iff.mp hr).1
    obtain ⟨m1, h1, inv1⟩ := apiNew_step ss order pre suf o g horder m inv _ (readOf_read ss order g o.1 _ o ho rfl hr)
    obtain ⟨m', h2, inv'⟩ := ih (pre ++ [o]) m1 (by rw [horder]; simp) inv1
    refine ⟨m', ?_, inv'⟩
    simp only [positionsFrom, cloneRun, hc, hread, h1, h2, List.map_cons]

end read

theorem popUniques_inserts (order : List (String × List Val)) (cs : List Cls) : popUniques (insertsOf order) cs = cs := by
  simp only [popUniques_eq_map, uniqOf_inserts]
  exact List.map_id' cs

theorem schemaModel_append_inserts (ss : List Stmt) (order : List (String × List Val)) :
    schemaModel (ss ++ insertsOf order) = schemaModel ss := by
  unfold schemaModel
  rw [popClasses_append, popClasses_inserts, List.append_nil, popAssocs_append, popAssocs_inserts, List.append_nil]
  congr 1
  unfold popUniques
  rw [List.foldl_append]
  exact popUniques_inserts order _

end Pyx.Load
