import PyxModel.NewInst
import Proofs.Attr

/-! C19: one constructor call is a history of writes (Proofs/Attr.lean), so every non-referential attribute ends up holding
    "keyword, else positional, else default" (`newOne_spec`).  The defaults of the id-typed attributes are, in order, exactly
    the values drawn from the generator (`idDefaults_eq_draws`); hence the ids that calls leave defaulted are a sublist of the
    draws (`newOne_ids`, `newMany_ids`, `runHist_ids`).  First, the two generators against `specRun` / `specRunS`. -/
namespace Pyx.NewInst
open Pyx.Attr Pyx.Gen.MetaDefaults

/-- specification: `n` is the value the next `next` returns; only `next` advances it -/
def specRun : List GOp → Nat → List Int
  | [], _ => []
  | .peek :: r, n => (n : Int) :: specRun r n
  | .next :: r, n => (n : Int) :: specRun r (n + 1)

def countNext : List GOp → Nat
  | [] => 0
  | .peek :: r => countNext r
  | .next :: r => countNext r + 1

theorem intGen_run : ∀ (ops : List GOp) (n : Nat),
    IntGen.run ops { current := (n : Int) } = (specRun ops n, { current := ((n + countNext ops : Nat) : Int) })
  | [], n => by simp [IntGen.run, specRun, countNext]
  | .peek :: r, n => by
    simp only [IntGen.run, intGen_run r n, specRun, countNext, IntGen.peek]
  | .next :: r, n => by
    have h : ({ current := IntGen.readfunc { current := (n : Int) } } : IntGen) = { current := ((n + 1 : Nat) : Int) } := by
      simp [IntGen.readfunc]
    simp only [IntGen.run, IntGen.next, h, intGen_run r (n + 1), specRun, countNext]
    congr 2
    omega

/-- the same for any generator: position `p`, only `next` advances it -/
def specRunS (stream : Nat → Int) : List GOp → Nat → List Int
  | [], _ => []
  | .peek :: r, p => stream p :: specRunS stream r p
  | .next :: r, p => stream p :: specRunS stream r (p + 1)

theorem idGen_run (stream : Nat → Int) : ∀ (ops : List GOp) (p : Nat),
    IdGen.run ops { stream := stream, pos := p } =
      (specRunS stream ops p, { stream := stream, pos := p + countNext ops })
  | [], p => by simp [IdGen.run, specRunS, countNext]
  | .peek :: r, p => by simp only [IdGen.run, idGen_run stream r p, specRunS, countNext, IdGen.peek]
  | .next :: r, p => by
    simp only [IdGen.run, IdGen.next, idGen_run stream r (p + 1), specRunS, countNext]
    congr 2
    omega

theorem specRunS_int : ∀ (ops : List GOp) (p : Nat), specRunS intStream ops p = specRun ops (p + 1)
  | [], _ => rfl
  | .peek :: r, p => by simp [specRunS, specRun, specRunS_int r p, intStream]
  | .next :: r, p => by simp [specRunS, specRun, specRunS_int r (p + 1), intStream]

theorem intStream_inj (i j : Nat) (h : intStream i = intStream j) : i = j := by
  unfold intStream at h; omega

theorem intStream_ne_zero (i : Nat) : intStream i ≠ 0 := by
  unfold intStream; omega

theorem lastGiven_eq (u : Name) : ∀ (l : List (Name × Val)),
    lastGiven u l = (l.reverse.find? fun it => decide (fold it.1 = u)).map (·.2)
  | [] => rfl
  | (n, v) :: r => by
    rw [lastGiven, lastGiven_eq u r, List.reverse_cons, List.find?_append]
    cases (r.reverse.find? fun it => decide (fold it.1 = u)) with
    | some x => rfl
    | none => by_cases h : fold n = u <;> simp [h]

theorem lastGiven_append (u : Name) (l1 l2 : List (Name × Val)) :
    lastGiven u (l1 ++ l2) = (lastGiven u l2).or (lastGiven u l1) := by
  simp only [lastGiven_eq, List.reverse_append, List.find?_append, Option.map_or]

theorem lastGiven_cons_ne (u n : Name) (v : Val) (l : List (Name × Val)) (h : fold n ≠ u) :
    lastGiven u ((n, v) :: l) = lastGiven u l := by
  simp [lastGiven_eq, List.find?_append, h]

theorem lastValue_writes (c : Cls) (u : Name) : ∀ (l : List (Name × Val)) (cur : Option Val),
    (∀ it ∈ l, isRefSp c it.1 = false) →
    lastValue c u cur (l.map fun it => Op.write it.1 it.2) = (lastGiven u l).or cur
  | [], cur, _ => by simp [lastValue, lastGiven]
  | (n, v) :: r, cur, h => by
    have hn : isRefSp c n = false := h (n, v) (by simp)
    simp only [List.map_cons, lastValue, hn, and_true, lastGiven]
    rw [lastValue_writes c u r _ (fun it hi => h it (by simp [hi]))]
    cases h1 : lastGiven u r with
    | some x => simp
    | none => by_cases hu : fold n = u <;> simp [hu]

theorem plain_not_refSp {c : Cls} (hwf : WF c) {sp : Name} (hp : Plain c sp) : isRefSp c sp = false := by
  obtain ⟨a, ha, hr, hf⟩ := hp
  cases h : isRefSp c sp with
  | false => rfl
  | true => exact absurd ((isRefSp_iff hwf ha hf).mp h) hr

theorem lastGiven_filter_refs {c : Cls} (hwf : WF c) {a : Name} (ha : a ∈ c.names) (hr : a ∉ c.refs)
    (l : List (Name × Val)) :
    lastGiven (fold a) (l.filter fun it => !(decide (it.1 ∈ c.refs))) = lastGiven (fold a) l := by
  simp only [lastGiven_eq, ← List.filter_reverse, List.find?_filter]
  rw [← List.head?_filter, ← List.head?_filter]
  congr 2
  -- a referential name does not fold like the non-referential `a`
  refine List.filter_congr fun it _ => ?_
  by_cases hn : it.1 ∈ c.refs
  · have : ¬ fold it.1 = fold a := fun hf => hr (hwf.inj (hwf.2 _ hn) ha hf ▸ hn)
    simp [hn, this]
  · simp [hn]

theorem lastGiven_map_resolve (c : Cls) (u : Name) (l : List (Name × Val)) :
    lastGiven u (l.map (resolveKw c)) = lastGiven u l := by
  simp only [lastGiven_eq, ← List.map_reverse, List.find?_map, Option.map_map]
  have : ((fun it : Name × Val => decide (fold it.1 = u)) ∘ resolveKw c) = fun it => decide (fold it.1 = u) :=
    funext fun it => by simp only [Function.comp, fold_resolveKw]
  rw [this]
  rfl

theorem computeDefaults_mem (dflt : DfltFn) (c : Cls) (attrs : List (Name × Name)) (pos : Nat) (a : Name) (v : Val) :
    (a, v) ∈ (computeDefaults dflt c attrs pos).1 →
    a ∉ c.refs ∧ ∃ ty p p', (a, ty) ∈ attrs ∧ dflt ty p = some (v, p') := by
  fun_induction computeDefaults dflt c attrs pos with
  | case1 n => simp
  | case2 b ty r n hb ih =>
    intro h
    obtain ⟨h1, ty', p, p', hm, hd⟩ := ih h
    exact ⟨h1, ty', p, p', List.mem_cons_of_mem _ hm, hd⟩
  | case3 b ty r n hb hd => simp
  | case4 b ty r n hb v0 n' hd l n'' ok hr ih =>
    intro h
    rw [hr] at ih
    rcases List.mem_cons.mp h with h | h
    · cases h
      exact ⟨hb, ty, n, n', List.mem_cons_self, hd⟩
    · obtain ⟨h1, ty', p, p', hm, hd'⟩ := ih h
      exact ⟨h1, ty', p, p', List.mem_cons_of_mem _ hm, hd'⟩

theorem computeDefaults_names (dflt : DfltFn) (c : Cls) (attrs : List (Name × Name)) (pos : Nat) :
    (computeDefaults dflt c attrs pos).2.2 = true →
    (computeDefaults dflt c attrs pos).1.map (·.1) = (attrs.filter fun at' => !(decide (at'.1 ∈ c.refs))).map (·.1) := by
  fun_induction computeDefaults dflt c attrs pos with
  | case1 n => intro _; rfl
  | case2 b ty r n hb ih =>
    simpa only [List.filter_cons, hb, decide_true, Bool.not_true, Bool.false_eq_true, ↓reduceIte] using ih
  | case3 b ty r n hb hd => intro h; cases h
  | case4 b ty r n hb v0 n' hd l n'' ok hr ih =>
    rw [hr] at ih
    intro h
    simp only [List.filter_cons, hb, decide_false, Bool.not_false, ↓reduceIte, List.map_cons, ih h]

theorem lastGiven_of_mem (l : List (Name × Val)) (a : Name) (v : Val)
    (hn : (l.map fun it => fold it.1).Nodup) (h : (a, v) ∈ l) : lastGiven (fold a) l = some v := by
  rw [lastGiven_eq, find?_unique (List.mem_reverse.mpr h) (by simp) fun it hi hp =>
    inj_of_nodup_map (fun it : Name × Val => fold it.1) hn (List.mem_reverse.mp hi) h (by simpa using hp)]
  rfl

/-- defaults, then positional values, then the resolved keywords: the items of one call -/
def callItems (stream : Nat → Int) (call : Call) (pos : Nat) : List (Name × Val) :=
  newItems call.cls (computeDefaults (typedDefault stream) call.cls call.cls.attrs pos).1 call.args call.kwargs

theorem computeDefaults_declared (dflt : DfltFn) (c : Cls) (pos : Nat) :
    ∀ it ∈ (computeDefaults dflt c c.attrs pos).1, it.1 ∈ c.names := fun it hi =>
  have ⟨_, ty, _, _, hm, _⟩ := computeDefaults_mem dflt c c.attrs pos it.1 it.2 hi
  List.mem_map.mpr ⟨(it.1, ty), hm, rfl⟩

theorem items_ok (stream : Nat → Int) (call : Call) (pos : Nat) :
    ∀ it ∈ callItems stream call pos, Resolved call.cls it.1 :=
  newItems_resolved _ _ _ (computeDefaults_declared _ _ _)

theorem defs_fold_sublist (dflt : DfltFn) (c : Cls) (attrs : List (Name × Name)) (pos : Nat)
    (hok : (computeDefaults dflt c attrs pos).2.2 = true) :
    ((computeDefaults dflt c attrs pos).1.map fun it => fold it.1).Sublist ((attrs.map (·.1)).map fold) := by
  have h : ((computeDefaults dflt c attrs pos).1.map fun it => fold it.1) =
      ((computeDefaults dflt c attrs pos).1.map (·.1)).map fold := by simp only [List.map_map, Function.comp_def]
  rw [h, computeDefaults_names dflt c attrs pos hok]
  exact (List.filter_sublist.map _).map fold

theorem defs_nodup {c : Cls} (hwf : WF c) (dflt : DfltFn) (pos : Nat)
    (hok : (computeDefaults dflt c c.attrs pos).2.2 = true) :
    ((computeDefaults dflt c c.attrs pos).1.map fun it => fold it.1).Nodup :=
  (defs_fold_sublist dflt c c.attrs pos hok).nodup hwf.1

theorem newOne_spec (stream : Nat → Int) (call : Call) (pos : Nat) (hwf : WF call.cls)
    (hok : (computeDefaults (typedDefault stream) call.cls call.cls.attrs pos).2.2 = true) :
    (newOne stream call pos).1.ok = true ∧
    (newOne stream call pos).1.defs = (computeDefaults (typedDefault stream) call.cls call.cls.attrs pos).1 ∧
    Good call.cls (newOne stream call pos).1.dict ∧
    ∀ a ∈ call.cls.names,
      (a ∉ call.cls.refs → dget (newOne stream call pos).1.dict a =
        (lastGiven (fold a) call.kwargs).or ((lastGiven (fold a) (call.cls.names.zip call.args)).or
          (lastGiven (fold a) (newOne stream call pos).1.defs))) ∧
      (a ∉ call.cls.refs → ∀ sp, fold sp = fold a → getattr call.cls (newOne stream call pos).1.dict sp =
        cellRead ((lastGiven (fold a) call.kwargs).or ((lastGiven (fold a) (call.cls.names.zip call.args)).or
          (lastGiven (fold a) (newOne stream call pos).1.defs)))) := by
  have hitems := items_ok stream call pos
  obtain ⟨rd, hass⟩ := assignAll_resolved hwf _ ⟨[], []⟩ hitems
  have hnr : ∀ it ∈ (callItems stream call pos).filter (fun it => !(decide (it.1 ∈ call.cls.refs))),
      isRefSp call.cls it.1 = false := by
    intro it hi
    simp only [List.mem_filter, Bool.not_eq_true', decide_eq_false_iff_not] at hi
    exact resolved_not_refSp hwf (hitems it hi.1) hi.2
  obtain ⟨hg, hall⟩ := run_read hwf [] (good_nil call.cls) (writesOf call.cls (callItems stream call pos))
  have hnew : (newOne stream call pos).1 =
      { dict := run call.cls [] (writesOf call.cls (callItems stream call pos))
        defs := (computeDefaults (typedDefault stream) call.cls call.cls.attrs pos).1, ok := true } := by
    unfold newOne
    simp only [hok, ↓reduceIte]
    have := hass
    unfold callItems at this
    simp only [this, decide_true]
    rfl
  rw [hnew]
  refine ⟨rfl, rfl, hg, ?_⟩
  intro a ha
  have hval : ∀ (_ : a ∉ call.cls.refs), lastValue call.cls (fold a) (dget [] a)
      (writesOf call.cls (callItems stream call pos)) =
      (lastGiven (fold a) call.kwargs).or ((lastGiven (fold a) (call.cls.names.zip call.args)).or
          (lastGiven (fold a) (computeDefaults (typedDefault stream) call.cls call.cls.attrs pos).1)) := by
    intro hr
    -- the cell holds `lastGiven` over the items; the referential items that `writesOf` drops do not matter for `a`; and the
    -- items are defaults ++ positional ++ resolved keywords: hence "keyword, else positional, else default"
    unfold writesOf
    rw [lastValue_writes _ _ _ _ hnr, lastGiven_filter_refs hwf ha hr]
    unfold callItems newItems
    rw [lastGiven_append, lastGiven_append, lastGiven_map_resolve]
    simp [dget]
  obtain ⟨h1, h2⟩ := hall a ha
  refine ⟨fun hr => ?_, fun hr sp hf => ?_⟩
  · rw [h1, hval hr]
  · rw [h2 hr sp hf, hval hr]

/-- the generator values at the positions `lo ≤ p < hi`, as instances hold them -/
def draws (stream : Nat → Int) (lo hi : Nat) : List (Option Val) :=
  (List.range' lo (hi - lo)).map fun p => some (Val.int (stream p))

theorem draws_append {stream : Nat → Int} {lo mid hi : Nat} (h1 : lo ≤ mid) (h2 : mid ≤ hi) :
    draws stream lo mid ++ draws stream mid hi = draws stream lo hi := by
  obtain ⟨a, rfl⟩ := Nat.exists_eq_add_of_le h1
  obtain ⟨b, rfl⟩ := Nat.exists_eq_add_of_le h2
  rw [draws, draws, draws, ← List.map_append, Nat.add_sub_cancel_left, Nat.add_sub_cancel_left, Nat.add_assoc,
    Nat.add_sub_cancel_left, List.range'_append_1]

theorem draws_succ {stream : Nat → Int} {lo hi : Nat} (h : lo < hi) :
    draws stream lo hi = some (Val.int (stream lo)) :: draws stream (lo + 1) hi := by
  unfold draws
  rw [show hi - lo = (hi - (lo + 1)) + 1 by omega, List.range'_succ, List.map_cons]

theorem mem_draws {stream : Nat → Int} {lo hi : Nat} {x : Option Val} (h : x ∈ draws stream lo hi) :
    ∃ p, lo ≤ p ∧ p < hi ∧ x = some (Val.int (stream p)) := by
  obtain ⟨p, hp, rfl⟩ := List.mem_map.mp h
  have := List.mem_range'_1.mp hp
  exact ⟨p, this.1, by omega, rfl⟩

theorem nodup_draws {stream : Nat → Int} (hinj : ∀ i j, stream i = stream j → i = j) (lo hi : Nat) :
    (draws stream lo hi).Nodup :=
  nodup_map_of_inj_on (List.nodup_range' 1) fun a _ b _ h => hinj a b (by simpa using h)

theorem typedDefault_pos (stream : Nat → Int) (ty : Name) (pos : Nat) (v : Val) (p0 : Nat)
    (h : typedDefault stream ty pos = some (v, p0)) :
    (isIdType ty = true → v = .int (stream pos) ∧ p0 = pos + 1) ∧ (isIdType ty = false → p0 = pos) := by
  unfold typedDefault at h
  unfold isIdType
  cases ht : tableGet table (fold ty) with
  | none => simp [ht] at h
  | some d =>
    -- every table entry fixes the value and the new position; only `nextId` draws
    rw [ht] at h
    cases d <;> obtain ⟨rfl, rfl⟩ := Prod.mk.inj (Option.some.inj h) <;> simp

def idTyped (c : Cls) (at' : Name × Name) : Bool := !(decide (at'.1 ∈ c.refs)) && isIdType at'.2

/-- closed form: the id-typed attributes beyond the positional arguments that no keyword names -/
theorem defaultedIdAttrsAux_eq (c : Cls) (kw : List (Name × Val)) : ∀ (attrs : List (Name × Name)) (npos : Nat),
    defaultedIdAttrsAux c kw attrs npos =
      (((attrs.drop npos).filter (idTyped c)).filter fun at' => (lastGiven (fold at'.1) kw).isNone).map (·.1)
  | [], _ => by simp [defaultedIdAttrsAux]
  | (a, ty) :: r, 0 => by
    have ih := defaultedIdAttrsAux_eq c kw r 0
    rw [List.drop_zero] at ih
    cases h : idTyped c (a, ty) <;> cases h' : (lastGiven (fold a) kw).isNone <;>
      simp [defaultedIdAttrsAux, ih, h, h', show (!(decide (a ∈ c.refs)) && isIdType ty) = idTyped c (a, ty) from rfl]
  | (a, ty) :: r, n + 1 => by
    simp [defaultedIdAttrsAux, defaultedIdAttrsAux_eq c kw r n]

theorem defaulted_mem {c : Cls} {kw : List (Name × Val)} {attrs : List (Name × Name)} {npos : Nat} {a : Name}
    (h : a ∈ defaultedIdAttrsAux c kw attrs npos) :
    a ∈ (attrs.map (·.1)).drop npos ∧ a ∉ c.refs ∧ lastGiven (fold a) kw = none := by
  rw [defaultedIdAttrsAux_eq] at h
  obtain ⟨at', hm, rfl⟩ := List.mem_map.mp h
  obtain ⟨hm, hk⟩ := List.mem_filter.mp hm
  obtain ⟨hm, ht⟩ := List.mem_filter.mp hm
  simp only [idTyped, Bool.and_eq_true, Bool.not_eq_true', decide_eq_false_iff_not] at ht
  exact ⟨List.map_drop ▸ List.mem_map_of_mem hm, ht.1, Option.isNone_iff_eq_none.mp hk⟩

/-- `zip` pairs the first `args.length` names only -/
theorem zip_none_of_drop : ∀ (names : List Name) (args : List Val) (a : Name), (names.map fold).Nodup →
    a ∈ names.drop args.length → lastGiven (fold a) (names.zip args) = none
  | [], _, _, _, _ => by simp [lastGiven]
  | _ :: _, [], _, _, _ => by simp [lastGiven]
  | b :: r, x :: args, a, hnd, h => by
    obtain ⟨hb, hnd'⟩ := List.nodup_cons.mp hnd
    have h' : a ∈ r.drop args.length := h
    rw [List.zip_cons_cons, lastGiven_cons_ne _ _ _ _ fun hf => hb (hf ▸ List.mem_map_of_mem (List.mem_of_mem_drop h'))]
    exact zip_none_of_drop r args a hnd' h'

theorem computeDefaults_pos_le (stream : Nat → Int) (c : Cls) (attrs : List (Name × Name)) (pos : Nat) :
    pos ≤ (computeDefaults (typedDefault stream) c attrs pos).2.1 := by
  fun_induction computeDefaults (typedDefault stream) c attrs pos with
  | case1 n => exact Nat.le_refl _
  | case2 b ty r n hb ih => exact ih
  | case3 b ty r n hb hd => exact Nat.le_refl _
  | case4 b ty r n hb v0 n' hd l n'' ok hr ih =>
    rw [hr] at ih
    have hp := typedDefault_pos stream ty n v0 n' hd
    refine Nat.le_trans ?_ ih
    cases hi : isIdType ty with
    | true => exact (hp.1 hi).2 ▸ Nat.le_succ _
    | false => exact hp.2 hi ▸ Nat.le_refl _

/-- the id-typed non-referential attributes hold, in order, exactly the values drawn: every draw goes to one of them -/
theorem idDefaults_eq_draws (stream : Nat → Int) (c : Cls) (attrs : List (Name × Name)) (pos : Nat) :
    ((attrs.map (·.1)).map fold).Nodup → (computeDefaults (typedDefault stream) c attrs pos).2.2 = true →
    ((attrs.filter (idTyped c)).map fun at' =>
        lastGiven (fold at'.1) (computeDefaults (typedDefault stream) c attrs pos).1) =
      draws stream pos (computeDefaults (typedDefault stream) c attrs pos).2.1 := by
  fun_induction computeDefaults (typedDefault stream) c attrs pos with
  | case1 n => intro _ _; simp [draws]
  | case2 b ty r n hb ih =>
    intro hnd hok
    have hbt : idTyped c (b, ty) = false := by simp [idTyped, hb]
    simpa only [List.filter_cons, hbt, Bool.false_eq_true, ↓reduceIte] using ih (List.nodup_cons.mp hnd).2 hok
  | case3 b ty r n hb hd => intro _ h; cases h
  | case4 b ty r n hb v0 p0 hd l n'' ok hr ih =>
    intro hnd hok
    obtain ⟨hb', hnd'⟩ := List.nodup_cons.mp hnd
    have hle := computeDefaults_pos_le stream c r p0
    have hs := defs_fold_sublist (typedDefault stream) c r p0
    rw [hr] at ih hle hs
    have ih := ih hnd' hok
    have hp := typedDefault_pos stream ty n v0 p0 hd
    -- the tail attributes do not see the head entry
    have htail : ((r.filter (idTyped c)).map fun at' => lastGiven (fold at'.1) ((b, v0) :: l)) =
        ((r.filter (idTyped c)).map fun at' => lastGiven (fold at'.1) l) :=
      List.map_congr_left fun at' ha => lastGiven_cons_ne _ _ _ _
        fun hf => hb' (hf ▸ List.mem_map_of_mem (List.mem_map_of_mem (List.mem_filter.mp ha).1))
    -- the head entry is found under its own name
    have hhead : lastGiven (fold b) ((b, v0) :: l) = some v0 :=
      lastGiven_of_mem _ b v0
        (List.nodup_cons.mpr ⟨fun hm => hb' ((hs hok).subset hm), (hs hok).nodup hnd'⟩) List.mem_cons_self
    have hbt : idTyped c (b, ty) = isIdType ty := by simp [idTyped, hb]
    rw [List.filter_cons, hbt]
    cases hi : isIdType ty with
    | false =>
      obtain rfl := hp.2 hi
      simpa only [Bool.false_eq_true, ↓reduceIte, htail] using ih
    | true =>
      obtain ⟨rfl, rfl⟩ := hp.1 hi
      rw [draws_succ (Nat.lt_of_lt_of_le (Nat.lt_succ_self _) hle)]
      simp only [↓reduceIte, List.map_cons, hhead, htail, ih]

theorem draws_sublist (stream : Nat → Int) (c : Cls) (kw : List (Name × Val)) (attrs : List (Name × Name)) (pos npos : Nat)
    (hnd : ((attrs.map (·.1)).map fold).Nodup) (hok : (computeDefaults (typedDefault stream) c attrs pos).2.2 = true) :
    ((defaultedIdAttrsAux c kw attrs npos).map fun a =>
        lastGiven (fold a) (computeDefaults (typedDefault stream) c attrs pos).1).Sublist
      (draws stream pos (computeDefaults (typedDefault stream) c attrs pos).2.1) := by
  rw [← idDefaults_eq_draws stream c attrs pos hnd hok, defaultedIdAttrsAux_eq, List.map_map]
  exact (List.filter_sublist.trans ((List.drop_sublist npos attrs).filter _)).map _

theorem newOne_ids (stream : Nat → Int) (call : Call) (pos : Nat) (hwf : WF call.cls) :
    pos ≤ (newOne stream call pos).2 ∧
    (defaultedIds call (newOne stream call pos).1).Sublist (draws stream pos (newOne stream call pos).2) := by
  have hpos : (newOne stream call pos).2 = (computeDefaults (typedDefault stream) call.cls call.cls.attrs pos).2.1 := by
    unfold newOne
    dsimp only
    split <;> rfl
  refine ⟨hpos ▸ computeDefaults_pos_le stream call.cls call.cls.attrs pos, ?_⟩
  cases hok : (computeDefaults (typedDefault stream) call.cls call.cls.attrs pos).2.2 with
  | false =>
    have : (newOne stream call pos).1.ok = false := by
      unfold newOne; simp [hok]
    simp [defaultedIds, this]
  | true =>
    obtain ⟨hmok, hdefs, _, hall⟩ := newOne_spec stream call pos hwf hok
    unfold defaultedIds
    rw [if_pos hmok, hpos]
    have hcongr : (defaultedIdAttrs call).map (dget (newOne stream call pos).1.dict) =
        (defaultedIdAttrs call).map fun a =>
          lastGiven (fold a) (computeDefaults (typedDefault stream) call.cls call.cls.attrs pos).1 := by
      apply List.map_congr_left
      intro a ha
      obtain ⟨hm, hr, hk⟩ := defaulted_mem ha
      rw [(hall a (List.mem_of_mem_drop hm)).1 hr, hk, hdefs, zip_none_of_drop _ _ a hwf.1 hm]
      rfl
    rw [hcongr]
    exact draws_sublist stream call.cls call.kwargs call.cls.attrs pos call.args.length hwf.1 hok

theorem newMany_ids (stream : Nat → Int) : ∀ (calls : List Call) (pos : Nat),
    (∀ call ∈ calls, WF call.cls) →
    pos ≤ (newMany stream calls pos).2 ∧
    (allDefaultedIds calls (newMany stream calls pos).1).Sublist (draws stream pos (newMany stream calls pos).2)
  | [], pos, _ => by simp [newMany, allDefaultedIds]
  | call :: r, pos, h => by
    obtain ⟨h1, s1⟩ := newOne_ids stream call pos (h call List.mem_cons_self)
    obtain ⟨h2, s2⟩ := newMany_ids stream r (newOne stream call pos).2 (fun c hc => h c (List.mem_cons_of_mem _ hc))
    simp only [newMany, allDefaultedIds]
    exact ⟨Nat.le_trans h1 h2, draws_append h1 h2 ▸ s1.append s2⟩

theorem computeDefaults_fail (dflt : DfltFn) (c : Cls) (attrs : List (Name × Name)) (pos : Nat) (a ty : Name) :
    (a, ty) ∈ attrs → a ∉ c.refs → (∀ p, dflt ty p = none) → (computeDefaults dflt c attrs pos).2.2 = false := by
  fun_induction computeDefaults dflt c attrs pos with
  | case1 n => intro h; cases h
  | case2 b tb r n hb ih =>
    intro h hr hd
    rcases List.mem_cons.mp h with h | h
    · cases h; exact absurd hb hr
    · exact ih h hr hd
  | case3 b tb r n hb hd => intro _ _ _; rfl
  | case4 b tb r n hb v0 n' hdb l n'' ok hr ih =>
    intro h hra hd
    rw [hr] at ih
    rcases List.mem_cons.mp h with h | h
    · cases h; rw [hd n] at hdb; cases hdb
    · exact ih h hra hd

/-! ### the function the driver runs is the function the theorems are about -/

theorem newOne_eq_newDict (stream : Nat → Int) (call : Call) (pos : Nat) :
    newOne stream call pos =
      ({ dict := (newDict (typedDefault stream) call.cls call.args call.kwargs pos).1.dict,
         defs := (newDict (typedDefault stream) call.cls call.args call.kwargs pos).2.1,
         ok := (newDict (typedDefault stream) call.cls call.args call.kwargs pos).2.2.2 },
       (newDict (typedDefault stream) call.cls call.args call.kwargs pos).2.2.1) := by
  unfold newOne newDict
  rcases hcd : computeDefaults (typedDefault stream) call.cls call.cls.attrs pos with ⟨defs, nid, dok⟩
  cases dok <;> simp

theorem relate_frame (w : World) (i j : Nat) :
    (Attr.relate w i j).1.insts = w.insts ∧ (Attr.relate w i j).1.nextId = w.nextId := by
  unfold Attr.relate
  simp only []
  repeat' split
  all_goals exact ⟨rfl, rfl⟩

theorem relateMatches_frame (b : Nat) (tgtKey : Name) (v : Val) : ∀ (l : List Nat) (w : World),
    (relateMatches w b tgtKey v l).1.insts = w.insts ∧ (relateMatches w b tgtKey v l).1.nextId = w.nextId
  | [], _ => ⟨rfl, rfl⟩
  | a :: r, w => by
    unfold relateMatches
    cases readVal w a tgtKey with
    | error e => exact ⟨rfl, rfl⟩
    | ok x =>
      simp only
      by_cases hx : x = v
      · simp only [hx, ↓reduceIte]
        have hf := relate_frame w a b
        cases hr : Attr.relate w a b with
        | mk w' e =>
          rw [hr] at hf
          cases e with
          | none =>
            have ih := relateMatches_frame b tgtKey v r w'
            exact ⟨ih.1.trans hf.1, ih.2.trans hf.2⟩
          | some e' => exact hf
      · simp only [hx, ↓reduceIte]
        exact relateMatches_frame b tgtKey v r w

theorem newInst_is_newOne (stream : Nat → Int) (w : World) (kind : Name) (args : List Val) (kwargs : List (Name × Val))
    (c : Cls) (hc : findMetaclass w.classes kind = some c) :
    (newInst stream w kind args kwargs).1.insts =
      w.insts ++ [{ cls := fold kind, dict := (newOne stream ⟨c, args, kwargs⟩ w.nextId).1.dict }] ∧
    (newInst stream w kind args kwargs).1.nextId = (newOne stream ⟨c, args, kwargs⟩ w.nextId).2 ∧
    ((newOne stream ⟨c, args, kwargs⟩ w.nextId).1.ok = false → (newInst stream w kind args kwargs).2 = some .metaE) := by
  rw [newOne_eq_newDict]
  unfold newInst newInstWith
  simp only [hc]
  generalize newDict (typedDefault stream) c args kwargs w.nextId = r
  cases hok : r.2.2.2 with
  | false => simp
  | true =>
    simp only [Bool.not_true, Bool.false_eq_true, ↓reduceIte]
    refine and_assoc.mp ⟨?_, fun h => nomatch h⟩
    -- the leaves of the case tree are `(w1, _)`, closed by `rfl`, and one call of `relateMatches w1 …`
    repeat' split
    all_goals first | exact ⟨rfl, rfl⟩ | exact relateMatches_frame _ _ _ _ _

/-! ### histories with the user's own next() / peek() -/

theorem runHist_ids (stream : Nat → Int) : ∀ (h : List HOp) (pos : Nat),
    (∀ c, HOp.create c ∈ h → WF c.cls) →
    pos ≤ (runHist stream h pos).2 ∧
    (histDefaultedIds (runHist stream h pos).1).Sublist (draws stream pos (runHist stream h pos).2)
  | [], pos, _ => by simp [runHist, histDefaultedIds]
  | .create c :: r, pos, hwf => by
    obtain ⟨h1, s1⟩ := newOne_ids stream c pos (hwf c List.mem_cons_self)
    obtain ⟨h2, s2⟩ := runHist_ids stream r (newOne stream c pos).2 (fun c' hc' => hwf c' (List.mem_cons_of_mem _ hc'))
    simp only [runHist, histDefaultedIds, List.flatMap_cons]
    exact ⟨Nat.le_trans h1 h2, draws_append h1 h2 ▸ s1.append s2⟩
  | .next :: r, pos, hwf => by
    obtain ⟨h2, s2⟩ := runHist_ids stream r (pos + 1) (fun c' hc' => hwf c' (List.mem_cons_of_mem _ hc'))
    simp only [runHist]
    exact ⟨Nat.le_of_succ_le h2, draws_succ h2 ▸ s2.cons _⟩
  | .peek :: r, pos, hwf => runHist_ids stream r pos (fun c' hc' => hwf c' (List.mem_cons_of_mem _ hc'))

end Pyx.NewInst
