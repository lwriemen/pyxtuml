import PyxModel.Sql.LexRx
import Proofs.Regex
import Proofs.SqlLexer

/-!
  THE HAND MATCHERS ARE THE SOURCE REGEXES.  For every `t_*` rule of xtuml/load.py the hand-written matcher of
  PyxModel/Sql/Lexer.lean returns exactly what the generic regex engine (Python semantics: ordered alternation, greedy /
  lazy repetition with backtracking) returns on the parse tree of the rule's regex as generated from the source
  (`Gen.SqlLex.Rule.rx`) -- for every input and every continuation that cannot fail, in particular for `re.match`.
  Includes the two places where backtracking matters: t_STRING (greedy repetition of an alternation, backing off into
  the last doubled quote) and t_GUID (lazy repetition).  Everywhere else a repetition is a greedy run of one class before
  a continuation that cannot use a character given back, and the engine takes `takeWhile` / `dropWhile` of the class as the
  hand matcher does (`matchK_star_cls`, `matchK_plus_cls` of Proofs/Regex.lean).
-/
namespace Pyx.Sql
open Gen.SqlLex (Rule)
open Pyx.Regex
open Pyx.Regex.Regex

theorem mem_09 : CSet.mem { neg := false, items := [.range '0' '9'] } = isAsciiDigit := by
  funext c
  have h0 : ('0' : Char).toNat = 48 := rfl
  have h9 : ('9' : Char).toNat = 57 := rfl
  rw [Bool.eq_iff_iff]
  simp only [CSet.mem, CItem.mem, List.any_cons, List.any_nil, isAsciiDigit, h0, h9, Bool.or_false, bne_iff_ne, ne_eq,
    Bool.and_eq_true, decide_eq_true_eq, Bool.not_eq_false]

theorem isDigit_py (u : UC) (hu : u.PyTables) (c : Char) : u.isDigit c = Pyx.Regex.isDigit c := by
  by_cases h : c.toNat < 128
  · rw [Bool.eq_iff_iff]
    simp only [UC.isDigit, Pyx.Regex.isDigit, h, if_true, isAsciiDigit, Bool.and_eq_true, decide_eq_true_eq]
  · have := (hu c (by omega)).1
    simp only [UC.isDigit, h, if_false]; exact this

theorem mem_digit (u : UC) (hu : u.PyTables) : CSet.mem { neg := false, items := [.cat .digit] } = u.isDigit := by
  funext c
  rw [isDigit_py u hu]; simp [CSet.mem, CItem.mem, Cat.mem]

theorem mem_word (u : UC) (hu : u.PyTables) : CSet.mem { neg := false, items := [.cat .word, .ch '_'] } = u.isWord := by
  funext c
  have hus : c = '_' ↔ c.toNat = 95 := ⟨fun h => by rw [h]; rfl, fun h => Char.toNat_inj.mp (by rw [h]; rfl)⟩
  by_cases h : c.toNat < 128
  · rw [Bool.eq_iff_iff]
    simp only [CSet.mem, CItem.mem, Cat.mem, isWordU, UC.isWord, h, if_true, List.any_cons, List.any_nil, Bool.or_false,
      bne_iff_ne, ne_eq, Bool.not_eq_false, isAsciiWord, isAsciiAlpha, isAsciiUpper, isAsciiLower, isAsciiDigit,
      Bool.or_eq_true, Bool.and_eq_true, decide_eq_true_eq, beq_iff_eq, hus]
    omega
  · have hw := (hu c (by omega)).2
    have hne : (c == '_') = false := by
      rw [beq_eq_false_iff_ne]; intro e; rw [hus] at e; omega
    simp only [CSet.mem, CItem.mem, Cat.mem, List.any_cons, List.any_nil, Bool.or_false, hne, UC.isWord, h, if_false, hw]
    cases isWordU c <;> rfl

theorem mem_idStart : CSet.mem { neg := false, items := [.range 'A' 'Z', .range 'a' 'z', .ch '_'] } = isIdStart := by
  funext c
  have ha : ('a' : Char).toNat = 97 := rfl
  have hz : ('z' : Char).toNat = 122 := rfl
  have hA : ('A' : Char).toNat = 65 := rfl
  have hZ : ('Z' : Char).toNat = 90 := rfl
  rw [Bool.eq_iff_iff]
  simp only [CSet.mem, CItem.mem, List.any_cons, List.any_nil, isIdStart, isAsciiAlpha, isAsciiUpper, isAsciiLower, ha, hz,
    hA, hZ, Bool.or_false, bne_iff_ne, ne_eq, Bool.or_eq_true, Bool.and_eq_true, decide_eq_true_eq,
    Bool.not_eq_false, beq_iff_eq]
  exact ⟨fun h => by rcases h with h | h | h; exact Or.inl (Or.inl h); exact Or.inl (Or.inr h); exact Or.inr h, fun h => by rcases h with (h | h) | h; exact Or.inl h; exact Or.inr (Or.inl h); exact Or.inr (Or.inr h)⟩

/-- a continuation that always succeeds (`re.match`'s final continuation is one) -/
def NeverFails (k : List Char → Option Nat) : Prop := ∀ cs, (k cs).isSome = true

/-- what "the hand matcher is the regex" means for one rule and one continuation (a lexer rule against the regex engine; the
    `Agrees` of Proofs/LoadApi.lean relates two model states and has nothing to do with it) -/
def Agrees (u : UC) (r : Rule) : Prop :=
  ∀ (cs : List Char) (k : List Char → Option Nat), NeverFails k →
    matchK r.rx cs k = (matchRule u r cs).bind (fun p => k p.2)

theorem agrees_char (u : UC) (r : Rule) (x : Char) (hrx : r.rx = .cls { neg := false, items := [.ch x] })
    (hm : matchRule u r = mChar x) : Agrees u r := by
  intro cs k _
  rw [hrx, hm]
  cases cs with
  | nil => simp [matchK, mChar]
  | cons c rest =>
    rw [matchK_cls_cons, mem_ch]
    simp only [mChar, beq_iff_eq]
    by_cases h : c = x <;> simp [h]

theorem agrees_COMMA (u : UC) : Agrees u .COMMA := agrees_char u _ ',' rfl rfl
theorem agrees_LPAREN (u : UC) : Agrees u .LPAREN := agrees_char u _ '(' rfl rfl
theorem agrees_MINUS (u : UC) : Agrees u .MINUS := agrees_char u _ '-' rfl rfl
theorem agrees_RPAREN (u : UC) : Agrees u .RPAREN := agrees_char u _ ')' rfl rfl
theorem agrees_SEMICOLON (u : UC) : Agrees u .SEMICOLON := agrees_char u _ ';' rfl rfl

theorem agrees_CARDINALITY (u : UC) : Agrees u .CARDINALITY := by
  intro cs k _
  rw [Rule.rx]
  rw [matchK_group, matchK_seq]
  simp only [matchRule]
  cases cs with
  | nil => simp [matchK, mCardinality]
  | cons c rest =>
    rw [matchK_cls_cons, mem_ch]
    by_cases h : c = '1'
    · subst h
      cases rest with
      | nil => simp [matchK, mCardinality]
      | cons d rest' =>
        simp only [beq_self_eq_true, if_true, matchK_cls_cons, mem_ch, mCardinality, beq_iff_eq]
        by_cases h2 : d = 'C' <;> simp [h2]
    · simp [mCardinality, h]

theorem agrees_NUMBER (u : UC) : Agrees u .NUMBER := by
  intro cs k hk
  rw [Rule.rx, matchK_plus_cls _ k (Or.inr hk), mem_09]
  simp only [matchRule, mNumber]
  split <;> rfl

theorem agrees_newline (u : UC) : Agrees u .newline := by
  intro cs k hk
  rw [Rule.rx, matchK_plus_cls _ k (Or.inr hk), mem_ch]
  simp only [matchRule, mNewline]
  split <;> rfl

theorem agrees_RELID (u : UC) : Agrees u .RELID := by
  intro cs k hk
  rw [Rule.rx, matchK_seq]
  cases cs with
  | nil => rfl
  | cons c r =>
    rw [matchK_cls_cons, matchK_plus_cls _ k (Or.inr hk), mem_ch, mem_09]
    simp only [matchRule, mRelid, beq_iff_eq]
    split
    · split <;> rfl
    · rfl

theorem agrees_ID (u : UC) (hu : u.PyTables) : Agrees u .ID := by
  intro cs k hk
  rw [Rule.rx, matchK_seq]
  cases cs with
  | nil => rfl
  | cons c r =>
    rw [matchK_cls_cons, matchK_star_cls _ k (Or.inr hk), mem_idStart, mem_word u hu]
    simp only [matchRule, mId]
    split <;> rfl

theorem digit_ne_dot (u : UC) (x : Char) (h : u.isDigit x = true) : (x == '.') = false := by
  rw [beq_eq_false_iff_ne]; intro e; subst e
  have : u.isDigit '.' = false := by simp [UC.isDigit, isAsciiDigit]
  rw [this] at h; cases h

theorem agrees_FRACTION (u : UC) (hu : u.PyTables) : Agrees u .FRACTION := by
  intro cs k hk
  -- the first run of digits cannot give digits back: what follows must begin with the point
  have hrej := rejects_seq_cls { neg := false, items := [.cat .digit] } { neg := false, items := [.ch '.'] }
    (.seq (.cls { neg := false, items := [.cat .digit] }) (.star true (.cls { neg := false, items := [.cat .digit] }))) k
    (fun x hx => by rw [mem_digit u hu] at hx; rw [mem_ch]; exact digit_ne_dot u x hx)
  rw [Rule.rx, matchK_seq, matchK_group]
  simp only [matchK_group]
  rw [matchK_plus_cls _ _ (Or.inl hrej), mem_digit u hu]
  simp only [matchRule, mFraction]
  split
  · rfl
  · cases cs.dropWhile u.isDigit with
    | nil => rfl
    | cons e r =>
      rw [matchK_seq, matchK_cls_cons, matchK_plus_cls _ k (Or.inr hk), mem_ch, mem_digit u hu]
      simp only [beq_iff_eq]
      split
      · split <;> rfl
      · rfl

theorem agrees_comment (u : UC) : Agrees u .comment := by
  intro cs k hk
  rw [Rule.rx, matchK_seq]
  simp only [matchRule]
  cases cs with
  | nil => rfl
  | cons c r =>
    rw [matchK_cls_cons, mem_ch, matchK_seq]
    cases r with
    | nil => simp only [mComment, beq_iff_eq]; split <;> rfl
    | cons d r' =>
      rw [matchK_cls_cons, mem_ch, matchK_group, matchK_seq,
        matchK_star_cls _ _ (Or.inr (nf_opt _ k hk)), mem_nch, matchK_alt, matchK_eps,
        show (fun c : Char => !(c == '\n')) = fun c => c != '\n' from rfl]
      simp only [mComment, beq_iff_eq]
      split
      · split
        · cases r'.dropWhile (fun c => c != '\n') with
          | nil => rfl
          | cons e r2 =>
            rw [matchK_cls_cons, mem_ch]
            by_cases he : e = '\n'
            · simp only [he, beq_self_eq_true, if_true, Option.bind_some]; exact Pyx.Regex.NeverFails.orElse hk r2 _
            · simp [he]
        · rfl
      · rfl

theorem orElse_some {α : Type} (x y : Option α) (h : x.isSome = true) :
    (match x with | some v => some v | none => y) = x := by
  cases x with
  | some v => rfl
  | none => cases h

def strBody : Regex :=
  .group (.alt (.group (.seq (.cls { neg := false, items := [.ch '\''] }) (.cls { neg := false, items := [.ch '\''] })))
    (.cls { neg := true, items := [.ch '\''] }))

def afterScan (k : List Char → Option Nat) (o : Option (Text × Text)) : Option Nat :=
  match o with
  | some p => k p.2
  | none => none

theorem afterScan_isSome (k : List Char → Option Nat) (hk : NeverFails k) (b r : Text) :
    (afterScan k (some (b, r))).isSome = true := hk r

theorem opt_id {α : Type} (x : Option α) : (match x with | some v => some v | none => none) = x := by
  cases x <;> rfl

/-- one iteration of the body of t_STRING: a doubled quote, or one character that is no quote -/
theorem strBody_step (cs : List Char) (kk : List Char → Option Nat) :
    matchK strBody cs kk = match cs with
      | [] => none
      | c :: rest =>
        if c = '\'' then (match rest with
          | d :: rest' => if d = '\'' then kk rest' else none
          | [] => none)
        else kk rest := by
  cases cs with
  | nil => simp [strBody, matchK]
  | cons c rest =>
    simp only [strBody, matchK_group, matchK_alt, matchK_seq, matchK_cls_cons, mem_ch, mem_nch, beq_iff_eq]
    by_cases hc : c = '\''
    · subst hc
      simp only [if_true, beq_self_eq_true, Bool.not_true, Bool.false_eq_true, if_false]
      cases rest with
      | nil => simp [matchK]
      | cons d rest' =>
        simp only [matchK_cls_cons, mem_ch, beq_iff_eq]
        by_cases hd : d = '\''
        · simp only [hd, if_true]; cases kk rest' <;> rfl
        · simp [hd]
    · simp [hc]

theorem string_loop (k : List Char → Option Nat) (hk : NeverFails k) :
    ∀ (fuel : Nat) (cs : List Char), cs.length < fuel →
      starLoop (matchK strBody) true fuel cs (fun cs' => matchK (.cls { neg := false, items := [.ch '\''] }) cs' k) =
        afterScan k (scanStr cs) := by
  intro fuel
  induction fuel with
  | zero => intro cs h; simp at h
  | succ f ih =>
    intro cs hlen
    rw [starLoop_greedy_succ, strBody_step]
    cases cs with
    | nil => simp [matchK, scanStr, afterScan]
    | cons c rest =>
      simp only [List.length_cons, Nat.add_lt_add_iff_right] at hlen
      simp only [matchK_cls_cons, mem_ch, beq_iff_eq]
      rw [scanStr.eq_def]
      by_cases hc : c = '\''
      · subst hc
        simp only [if_true]
        cases rest with
        | nil => simp [afterScan]
        | cons d rest' =>
          by_cases hd : d = '\''
          · subst hd
            simp only [if_true]
            rw [ih rest' (by simp only [List.length_cons] at hlen; omega)]
            -- greedy: the engine goes on after the doubled quote and closes at its first quote only if that fails;
            -- `k` never fails, so an answer from further on stands
            cases hs : scanStr rest' with
            | some p => exact Pyx.Regex.NeverFails.orElse hk p.2 _
            | none => simp [afterScan]
          · simp [hd, afterScan]
      · simp only [hc, if_false]
        rw [ih rest (by omega)]
        cases hs : scanStr rest with
        | some p => obtain ⟨b, r2⟩ := p; simp only [afterScan]; cases k r2 <;> rfl
        | none => simp [afterScan]

theorem agrees_STRING (u : UC) : Agrees u .STRING := by
  intro cs k hk
  show matchK (.seq (.cls { neg := false, items := [.ch '\''] }) (.seq (.star true strBody)
    (.cls { neg := false, items := [.ch '\''] }))) cs k = _
  rw [matchK_seq]
  simp only [matchRule]
  cases cs with
  | nil => simp [matchK, mString]
  | cons c r =>
    rw [matchK_cls_cons, mem_ch]
    by_cases hc : c = '\''
    · subst hc
      simp only [beq_self_eq_true, if_true, matchK_seq, matchK_star, mString]
      rw [string_loop k hk _ r (Nat.lt_succ_self _)]
      cases scanStr r with
      | some p => rfl
      | none => rfl
    · simp [mString, hc]

def guidBodyRx : Regex :=
  .group (.alt (.cls { neg := true, items := [.ch '\\', .ch '\n'] })
    (.group (.seq (.cls { neg := false, items := [.ch '\\'] }) (.cls { neg := true, items := [.ch '\n'] }))))

/-- one iteration of the body of t_GUID: a character other than backslash and newline, or a backslash pair -/
theorem guidBody_step (cs : List Char) (kk : List Char → Option Nat) :
    matchK guidBodyRx cs kk = match cs with
      | [] => none
      | c :: rest =>
        if c = '\\' then (match rest with
          | d :: rest' => if d = '\n' then none else kk rest'
          | [] => none)
        else if c = '\n' then none else kk rest := by
  cases cs with
  | nil => simp [guidBodyRx, matchK]
  | cons c rest =>
    simp only [guidBodyRx, matchK_group, matchK_alt, matchK_seq, matchK_cls_cons, mem_ch, mem_nch2, beq_iff_eq]
    by_cases hb : c = '\\'
    · subst hb
      simp only [if_true]
      cases rest with
      | nil => simp [matchK]
      | cons d rest' =>
        simp only [matchK_cls_cons, mem_nch]
        by_cases hd : d = '\n' <;> simp [hd]
    · by_cases hn : c = '\n'
      · subst hn; simp
      · have hb' : (c == '\\') = false := by simpa using hb
        have hn' : (c == '\n') = false := by simpa using hn
        simp only [hb, hn, hb', hn', if_false, Bool.not_false, Bool.and_self, if_true]; cases kk rest <;> rfl

theorem guid_loop (k : List Char → Option Nat) (hk : NeverFails k) :
    ∀ (fuel : Nat) (cs : List Char), cs.length < fuel →
      starLoop (matchK guidBodyRx) false fuel cs (fun cs' => matchK (.cls { neg := false, items := [.ch '"'] }) cs' k) =
        afterScan k (scanGuid cs) := by
  intro fuel
  induction fuel with
  | zero => intro cs h; simp at h
  | succ f ih =>
    intro cs hlen
    rw [starLoop_lazy_succ, guidBody_step]
    cases cs with
    | nil => simp [matchK, scanGuid, afterScan]
    | cons c rest =>
      simp only [List.length_cons, Nat.add_lt_add_iff_right] at hlen
      simp only [matchK_cls_cons, mem_ch, beq_iff_eq]
      rw [scanGuid.eq_def]
      by_cases hq : c = '"'
      · subst hq
        simp only [if_true, afterScan]
        -- lazy: the closing quote is tried first and `k` never fails, so the body alternative is never looked at
        exact Pyx.Regex.NeverFails.orElse hk rest _
      · simp only [hq, if_false]
        by_cases hn : c = '\n'
        · subst hn; simp [afterScan]
        · by_cases hb : c = '\\'
          · subst hb
            simp only [hn, if_false, if_true]
            cases rest with
            | nil => simp [afterScan]
            | cons d rest' =>
              by_cases hd : d = '\n'
              · simp [hd, afterScan]
              · simp only [hd, if_false]
                rw [ih rest' (by simp only [List.length_cons] at hlen; omega)]
                cases scanGuid rest' with
                | some p => rfl
                | none => rfl
          · simp only [hn, hb, if_false]
            rw [ih rest (by omega)]
            cases hs : scanGuid rest with
            | some p => rfl
            | none => rfl

theorem agrees_GUID (u : UC) : Agrees u .GUID := by
  intro cs k hk
  show matchK (.seq (.cls { neg := false, items := [.ch '"'] }) (.seq (.star false guidBodyRx)
    (.cls { neg := false, items := [.ch '"'] }))) cs k = _
  rw [matchK_seq]
  simp only [matchRule]
  cases cs with
  | nil => simp [matchK, mGuid]
  | cons c r =>
    rw [matchK_cls_cons, mem_ch]
    by_cases hc : c = '"'
    · subst hc
      simp only [beq_self_eq_true, if_true, matchK_seq, matchK_star, mGuid]
      rw [guid_loop k hk _ r (Nat.lt_succ_self _)]
      cases scanGuid r with
      | some p => rfl
      | none => rfl
    · simp [mGuid, hc]

/-- EVERY `t_*` rule: the hand matcher is the engine on the parse tree of the source regex -/
theorem agrees_all (u : UC) (hu : u.PyTables) (r : Rule) : Agrees u r := by
  cases r with
  | comment => exact agrees_comment u
  | COMMA => exact agrees_COMMA u
  | FRACTION => exact agrees_FRACTION u hu
  | RELID => exact agrees_RELID u
  | CARDINALITY => exact agrees_CARDINALITY u
  | ID => exact agrees_ID u hu
  | LPAREN => exact agrees_LPAREN u
  | MINUS => exact agrees_MINUS u
  | NUMBER => exact agrees_NUMBER u
  | RPAREN => exact agrees_RPAREN u
  | SEMICOLON => exact agrees_SEMICOLON u
  | STRING => exact agrees_STRING u
  | GUID => exact agrees_GUID u
  | newline => exact agrees_newline u

/-- `re.match(regex, text)`: length of the match = length of the lexeme of the hand matcher -/
theorem matchPrefix_rule (u : UC) (r : Rule) (h : Agrees u r) (cs : List Char) :
    matchPrefix r.rx cs = (matchRule u r cs).map (fun p => p.1.length) := by
  unfold matchPrefix
  rw [h cs _ (fun _ => rfl)]
  cases hm : matchRule u r cs with
  | none => rfl
  | some p =>
    obtain ⟨l, rest⟩ := p
    obtain ⟨hsplit, _⟩ := matchRule_split u r cs l rest hm
    simp only [Option.bind_some, Option.map_some, hsplit, List.length_append]
    congr 1; omega

theorem matchRuleRx_eq (u : UC) (r : Rule) (h : Agrees u r) (cs : List Char) : matchRuleRx r cs = matchRule u r cs := by
  unfold matchRuleRx
  rw [h cs _ (fun _ => rfl)]
  cases hm : matchRule u r cs with
  | none => rfl
  | some p =>
    obtain ⟨l, rest⟩ := p
    obtain ⟨hsplit, hne⟩ := matchRule_split u r cs l rest hm
    have hl : 0 < l.length := by
      cases l with
      | nil => exact absurd rfl hne
      | cons _ _ => simp
    subst hsplit
    simp only [Option.bind_some, List.length_append]
    have h1 : rest.length < l.length + rest.length := by omega
    have h2 : l.length + rest.length - rest.length = l.length := by omega
    simp [h1, h2]

theorem firstMatchWith_hand (u : UC) (cs : Text) : firstMatchWith (matchRule u) cs = firstMatch u cs := rfl

theorem stepWith_hand (u : UC) (cs : Text) : stepWith u (matchRule u) cs = step u cs := rfl

theorem lexFuelWith_hand (u : UC) : ∀ (n : Nat) (cs : Text), lexFuelWith u (matchRule u) n cs = lexFuel u n cs := by
  intro n
  induction n with
  | zero => intro cs; rfl
  | succ n ih =>
    intro cs
    simp only [lexFuelWith, lexFuel, stepWith_hand]
    cases step u cs with
    | eof => rfl
    | skip rest => exact ih rest
    | emit t rest => simp only [ih rest]
    | illegal => rfl

/-- THE SQL LEXER IS ITS SOURCE REGEXES: the token stream of the hand scanners is the token stream obtained with the regex
    engine on the parse trees of the `t_*` regexes, for every text (and Python's tables for `\d`, `\w`) -/
theorem lexRx_eq_lex (u : UC) (hu : u.PyTables) (cs : Text) : lexRx u cs = lex u cs := by
  unfold lexRx lex
  have hM : matchRuleRx = matchRule u := by
    funext r cs'; exact matchRuleRx_eq u r (agrees_all u hu r) cs'
  rw [hM]; exact lexFuelWith_hand u _ cs

end Pyx.Sql
