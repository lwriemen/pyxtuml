import Proofs.OalKind
import Proofs.OalSuffE
import Proofs.Lib.Lookup

/-!
  Helper lemmas for C07 (expression level): the round trip `parseExpr (render e ++ rest) = (e, rest)`
  for an ARBITRARY well-formed precedence table, by structural induction on the tree in continuation
  form, with explicit fuel bounds (`cost`); a result obtained with some fuel is that of the fuel-free `parseExprTop`
  (`parseExprTop_of_fuel`, Proofs/OalSuffE.lean).
-/

namespace Pyx.Oal

/-- what the round trip needs of a table; `decide`d for the generated one (`Props/C07.lean`) -/
structure Tbl.WF (t : Tbl) : Prop where
  /-- every binary level is below the level of the unary production -/
  binLt : ∀ k l a, t.bin k = some (l, a) → l < t.ulevel
  /-- operators of one level share the associativity (a row of PLY's `precedence`) -/
  sameAssoc : ∀ k k' l a a', t.bin k = some (l, a) → t.bin k' = some (l, a') → a = a'
  /-- `. [ ( ) ] ,` are not binary operators -/
  structural : ∀ k, k.isStructural = true → t.bin k = none
  /-- a token that starts an operand is not a unary operator -/
  unAtom : ∀ k, k.isAtomStart = true → t.un k = false

/-- `rest` does not continue an access chain / open an argument list -/
def NoExt (ts : List Tok) : Prop :=
  hk ts ≠ some .DOT ∧ hk ts ≠ some .LSQBR ∧ hk ts ≠ some .LPAREN

def OpsBelow (t : Tbl) (m : Nat) (ts : List Tok) : Prop :=
  ∀ k l a, hk ts = some k → t.bin k = some (l, a) → l < m

/-- `rest` cannot extend an expression that was parsed with minimal level `m` -/
def Stops (t : Tbl) (m : Nat) (ts : List Tok) : Prop := NoExt ts ∧ OpsBelow t m ts

theorem OpsBelow.mono {t : Tbl} {a b : Nat} (h : a ≤ b) {ts} (hs : OpsBelow t a ts) : OpsBelow t b ts := by
  intro k l as e hb
  have := hs k l as e hb
  omega

theorem Stops.mono {t : Tbl} {a b : Nat} (h : a ≤ b) {ts} (hs : Stops t a ts) : Stops t b ts :=
  ⟨hs.1, hs.2.mono h⟩

theorem opsBelow_cons {t : Tbl} {m : Nat} {tok : Tok} {ts : List Tok} {x} (hb : t.bin tok.kind = x) :
    OpsBelow t m (tok :: ts) ↔ ∀ l a, x = some (l, a) → l < m := by
  subst hb
  exact ⟨fun h l a hb => h _ l a rfl hb, fun h _ l a hk hb => by cases hk; exact h l a hb⟩

theorem stops_closer {t : Tbl} (wf : t.WF) (m : Nat) {tok : Tok}
    (h : tok.kind = .RPAREN ∨ tok.kind = .RSQBR ∨ tok.kind = .COMMA) (ts : List Tok) : Stops t m (tok :: ts) := by
  have hs : tok.kind.isStructural = true ∧ hk (tok :: ts) ≠ some .DOT ∧ hk (tok :: ts) ≠ some .LSQBR ∧
      hk (tok :: ts) ≠ some .LPAREN := by
    rcases h with h | h | h <;> simp [h, Kind.isStructural]
  exact ⟨hs.2, (opsBelow_cons (wf.structural _ hs.1)).2 nofun⟩

theorem stops_rp {t : Tbl} (wf : t.WF) (m : Nat) (rp : Tok) (h : rp.kind = .RPAREN) (ts : List Tok) :
    Stops t m (rp :: ts) :=
  stops_closer wf m (.inl h) ts

/-! ### fuel needed, as a function of the tree

  The constants are what the proofs below spend, not the least possible.  An operator node pays for the steps of
  `parseExpr`, `parsePrefix`, `parseLoop` around its operands and for the `+ 3` of `P3` where an operand is read as an
  expression: `q2_un_gen` two steps and the `+ 3`; `q2_bin_gen` `cost r + 4` for the turn of the loop and one step more
  for a parenthesised left operand; `p1f_un`, `p1f_bin` peel three for `( … )`. -/

mutual
def cost : Expr → Nat
  | .field h _ => cost h + 1
  | .index h i => cost h + cost i + 4
  | .fcall _ ps => costP ps + 2
  | .icall _ _ ps => costP ps + 2
  | .ocall h _ ps => cost h + costP ps + 2
  | .un _ e => cost e + 5
  | .bin l _ r => cost l + cost r + 6
  | .var _ | .self | .selected | .param _ => 3
  | _ => 2
def costP : Params → Nat
  | .nil => 1
  | .cons _ e ps => cost e + costP ps + 4
end

theorem cost_ge (e : Expr) : 1 ≤ cost e := by
  cases e <;> simp only [cost] <;> omega

theorem isVarName_NUMBER : Kind.isVarName .NUMBER = false := rfl
theorem isVarName_FRACTION : Kind.isVarName .FRACTION = false := rfl
theorem isVarName_STRING : Kind.isVarName .STRING = false := rfl
theorem isVarName_TRUE : Kind.isVarName .TRUE = false := rfl
theorem isVarName_FALSE : Kind.isVarName .FALSE = false := rfl
theorem isVarName_NAMESPACE : Kind.isVarName .NAMESPACE = false := rfl
theorem isVarName_SELF : Kind.isVarName .SELF = false := rfl
theorem isVarName_SELECTED : Kind.isVarName .SELECTED = false := rfl
theorem isVarName_PARAM : Kind.isVarName .PARAM = false := rfl
theorem isVarName_RCVD_EVT : Kind.isVarName .RCVD_EVT = false := rfl
theorem isVarName_DOUBLECOLON : Kind.isVarName .DOUBLECOLON = false := rfl
theorem isVarName_LPAREN : Kind.isVarName .LPAREN = false := rfl
theorem isVarName_RPAREN : Kind.isVarName .RPAREN = false := rfl
theorem isIdent_RPAREN : Kind.isIdent .RPAREN = false := rfl
theorem isIdent_ID : Kind.isIdent .ID = true := rfl
theorem isVarName_ID : Kind.isVarName .ID = true := rfl

@[simp] theorem LP_kind : LP.kind = .LPAREN := rfl
@[simp] theorem RP_kind : RP.kind = .RPAREN := rfl
@[simp] theorem tk_kind (k : Kind) (s : String) : (tk k s).kind = k := rfl
@[simp] theorem tk_lex (k : Kind) (s : String) : (tk k s).lex = s := rfl

theorem wrap_true (ts : List Tok) : wrap true ts = LP :: (ts ++ [RP]) := rfl
theorem wrap_false (ts : List Tok) : wrap false ts = ts := rfl

theorem render_raw (t : Tbl) {e : Expr} {need : Nat} (h : ¬ e.level t < need) :
    render t e need = renderRaw t e := by
  simp only [render, h, decide_false, wrap_false]

theorem render_paren (t : Tbl) {e : Expr} {need : Nat} (h : e.level t < need) :
    render t e need = LP :: (renderRaw t e ++ [RP]) := by
  simp only [render, h, decide_true, wrap_true]

theorem render_zero (t : Tbl) (e : Expr) : render t e 0 = renderRaw t e :=
  render_raw t (Nat.not_lt_zero _)

theorem renderRaw_field (t : Tbl) (h : Expr) (n : Tok) :
    renderRaw t (.field h n) = renderRaw t h ++ [tk .DOT ".", n] := by
  rw [renderRaw]
theorem renderRaw_index (t : Tbl) (h i : Expr) :
    renderRaw t (.index h i) = renderRaw t h ++ tk .LSQBR "[" :: (render t i 0 ++ [tk .RSQBR "]"]) := by
  rw [renderRaw]; rfl
theorem renderRaw_fcall (t : Tbl) (n : Tok) (ps : Params) :
    renderRaw t (.fcall n ps) = tk .DOUBLECOLON "::" :: n :: LP :: (renderParams t ps ++ [RP]) := by
  rw [renderRaw]
theorem renderRaw_icall (t : Tbl) (ns : String) (n : Tok) (ps : Params) :
    renderRaw t (.icall ns n ps) =
      tk .NAMESPACE ns :: tk .DOUBLECOLON "::" :: n :: LP :: (renderParams t ps ++ [RP]) := by
  rw [renderRaw]
theorem renderRaw_ocall (t : Tbl) (h : Expr) (n : Tok) (ps : Params) :
    renderRaw t (.ocall h n ps) =
      renderRaw t h ++ tk .DOT "." :: n :: LP :: (renderParams t ps ++ [RP]) := by
  rw [renderRaw]
theorem renderRaw_un (t : Tbl) (op : Tok) (e : Expr) :
    renderRaw t (.un op e) = op :: render t e t.ulevel := by
  rw [renderRaw]; rfl
theorem renderRaw_bin (t : Tbl) (l : Expr) (op : Tok) (r : Expr) {lv a} (h : t.bin op.kind = some (lv, a)) :
    renderRaw t (.bin l op r) = render t l (lmin lv a) ++ op :: render t r (rmin lv a) := by
  rw [renderRaw]; simp only [h]; rfl
theorem render_un (t : Tbl) (op : Tok) (e : Expr) {n : Nat} (hn : n ≤ t.ulevel) :
    render t (.un op e) n = op :: render t e t.ulevel := by
  rw [render_raw t (by simp only [Expr.level]; omega), renderRaw_un]
theorem render_bin (t : Tbl) (l : Expr) (op : Tok) (r : Expr) {lv a n} (h : t.bin op.kind = some (lv, a)) (hn : n ≤ lv) :
    render t (.bin l op r) n = render t l (lmin lv a) ++ op :: render t r (rmin lv a) := by
  rw [render_raw t (by simp only [Expr.level, h]; omega), renderRaw_bin t l op r h]
theorem renderParams_nil (t : Tbl) : renderParams t .nil = [] := by rw [renderParams]
theorem renderParams_one (t : Tbl) (n : Tok) (e : Expr) :
    renderParams t (.cons n e .nil) = n :: tk .COLON ":" :: render t e 0 := by
  rw [renderParams]; rfl
theorem renderParams_more (t : Tbl) (n : Tok) (e : Expr) (n' : Tok) (e' : Expr) (ps : Params) :
    renderParams t (.cons n e (.cons n' e' ps)) =
      n :: tk .COLON ":" :: (render t e 0 ++ tk .COMMA "," :: renderParams t (.cons n' e' ps)) := by
  rw [renderParams]
  · rfl
  · intro h; cases h

/-! ### the two renderers share the atom layer: a renderer, abstractly -/

/-- how atoms are written: `R` the operand itself, `RI` an expression in an index / argument position,
    `RPs` an argument list.  Instances: `rawRend t` (`renderRaw` / `render · 0`) and `fullRend` (`renderFull`). -/
structure Rend where
  R : Expr → List Tok
  RI : Expr → List Tok
  RPs : Params → List Tok
  int : ∀ v, R (.int v) = [tk .NUMBER v]
  real : ∀ v, R (.real v) = [tk .FRACTION v]
  str : ∀ v, R (.str v) = [tk .STRING v]
  bool : ∀ b v, R (.bool b v) = [tk (if b then .TRUE else .FALSE) v]
  enumc : ∀ ns n, R (.enumc ns n) = [tk .NAMESPACE ns, tk .DOUBLECOLON "::", n]
  var : ∀ n, R (.var n) = [n]
  self : R .self = [tk .SELF "self"]
  selected : R .selected = [tk .SELECTED "selected"]
  param : ∀ n, R (.param n) = [tk .PARAM "param", tk .DOT ".", n]
  field : ∀ h n, R (.field h n) = R h ++ [tk .DOT ".", n]
  index : ∀ h i, R (.index h i) = R h ++ tk .LSQBR "[" :: (RI i ++ [tk .RSQBR "]"])
  fcall : ∀ n ps, R (.fcall n ps) = tk .DOUBLECOLON "::" :: n :: LP :: (RPs ps ++ [RP])
  icall : ∀ ns n ps, R (.icall ns n ps) =
    tk .NAMESPACE ns :: tk .DOUBLECOLON "::" :: n :: LP :: (RPs ps ++ [RP])
  ocall : ∀ h n ps, R (.ocall h n ps) = R h ++ tk .DOT "." :: n :: LP :: (RPs ps ++ [RP])
  pnil : RPs .nil = []
  pone : ∀ n e, RPs (.cons n e .nil) = n :: tk .COLON ":" :: RI e
  pmore : ∀ n e n' e' ps, RPs (.cons n e (.cons n' e' ps)) =
    n :: tk .COLON ":" :: (RI e ++ tk .COMMA "," :: RPs (.cons n' e' ps))

def rawRend (t : Tbl) : Rend where
  R := renderRaw t
  RI := fun e => render t e 0
  RPs := renderParams t
  int := fun _ => by rw [renderRaw]
  real := fun _ => by rw [renderRaw]
  str := fun _ => by rw [renderRaw]
  bool := fun _ _ => by rw [renderRaw]
  enumc := fun _ _ => by rw [renderRaw]
  var := fun _ => by rw [renderRaw]
  self := by rw [renderRaw]
  selected := by rw [renderRaw]
  param := fun _ => by rw [renderRaw]
  field := renderRaw_field t
  index := renderRaw_index t
  fcall := renderRaw_fcall t
  icall := renderRaw_icall t
  ocall := renderRaw_ocall t
  pnil := renderParams_nil t
  pone := renderParams_one t
  pmore := renderParams_more t

def fullRend : Rend where
  R := renderFull
  RI := renderFull
  RPs := renderFullParams
  int := fun _ => by rw [renderFull]
  real := fun _ => by rw [renderFull]
  str := fun _ => by rw [renderFull]
  bool := fun _ _ => by rw [renderFull]
  enumc := fun _ _ => by rw [renderFull]
  var := fun _ => by rw [renderFull]
  self := by rw [renderFull]
  selected := by rw [renderFull]
  param := fun _ => by rw [renderFull]
  field := fun _ _ => by rw [renderFull]
  index := fun _ _ => by rw [renderFull]
  fcall := fun _ _ => by rw [renderFull]
  icall := fun _ _ _ => by rw [renderFull]
  ocall := fun _ _ _ => by rw [renderFull]
  pnil := by rw [renderFullParams]
  pone := fun _ _ => by rw [renderFullParams]
  pmore := fun _ _ _ _ _ => by
    rw [renderFullParams]
    intro h; cases h

/-! ### the round trip

  By induction on the tree, with explicit fuel (`cost`).  The statements, from the inside out:
  * `CHg e` (access chains, continuation form): whatever `parseSuffix` makes of `(e, rest)`, the operand parser
    `parsePrefix` makes of the text of `e` followed by `rest` — a chain is read left to right, so the induction goes
    through what is still to come;
  * `P1g e` (operands): `parsePrefix` reads the text of `e` back when `rest` cannot extend an access chain;
    `PPg ps` the same for an argument list up to `)`, `P3I e` for an expression in index / argument position;
  * `Q2 e` (expressions, continuation form): whatever the operator loop `parseLoop` makes of `(e, rest)`, `parseExpr`
    makes of the unparenthesised text of `e` followed by `rest` — needed because `l op r` is read as `l`, then the
    loop; `StopsAfter` says what `rest` may begin with, `naFlag` is the loop's non-associativity flag for `e`;
  * `P3 e`: the round trip at a required level `need` (`render` adds the parentheses), derived from `Q2`.
  `CHg`, `P1g`, `PPg`, `P3I` are stated for any renderer with the atom layer of `Rend`.  The induction itself is made
  once, for a renderer whose operator layer is read back (`Rend.Ops`): `rawOps` for `render`, `fullOps` for
  `renderFull`. -/

/-- the flag `parseLoop` holds after building `e`: the level of its top operator if that is non-associative -/
def Expr.naFlag (t : Tbl) : Expr → Option Nat
  | .bin _ op _ => match t.bin op.kind with | some (l, .nonassoc) => some l | _ => none
  | _ => none

/-- what must hold of the text that follows the unparenthesised rendering of `e` -/
def StopsAfter (t : Tbl) : Expr → List Tok → Prop
  | .bin _ op _, rest => NoExt rest ∧ ∀ lv a, t.bin op.kind = some (lv, a) → OpsBelow t (rmin lv a) rest
  | _, rest => NoExt rest

theorem StopsAfter.noExt {t : Tbl} {e : Expr} {rest : List Tok} (h : StopsAfter t e rest) : NoExt rest := by
  cases e with
  | bin l op r => exact h.1
  | _ => exact h

theorem fuel_succ {f n : Nat} (h : n + 1 ≤ f) : ∃ f', f = f' + 1 := ⟨f - 1, by omega⟩

theorem loop_stops (t : Tbl) {m na e rest} (h : OpsBelow t m rest) :
    ∀ g, 1 ≤ g → parseLoop t g m na e rest = some (e, rest) := by
  intro g hg
  obtain ⟨g', rfl⟩ := fuel_succ hg
  cases rest with
  | nil => simp only [parseLoop]
  | cons tok ts =>
    simp only [parseLoop]
    cases hb : t.bin tok.kind with
    | none => rfl
    | some la =>
      obtain ⟨l, a⟩ := la
      have := h tok.kind l a rfl hb
      simp only [this, ↓reduceIte]

theorem suffix_stops (t : Tbl) {e rest} (h : NoExt rest) :
    ∀ g, 1 ≤ g → parseSuffix t g e rest = some (e, rest) := by
  intro g hg
  obtain ⟨g', rfl⟩ := fuel_succ hg
  cases rest with
  | nil => simp only [parseSuffix]
  | cons tok ts =>
    obtain ⟨h1, h2, _⟩ := h
    simp only [hk_cons, ne_eq, Option.some.injEq] at h1 h2
    simp only [parseSuffix]

theorem parseExpr_step {t : Tbl} {f m : Nat} {ts ts' : List Tok} {lhs : Expr}
    (h : parsePrefix t f ts = some (lhs, ts')) : parseExpr t (f + 1) m ts = parseLoop t f m none lhs ts' := by
  simp only [parseExpr, h]

theorem prefix_group {t : Tbl} (wf : t.WF) {f : Nat} {ts rest : List Tok} {e : Expr}
    (h : parseExpr t f 0 ts = some (e, RP :: rest)) : parsePrefix t (f + 1) (LP :: ts) = some (e, rest) := by
  have hu : t.un Kind.LPAREN = false := wf.unAtom _ rfl
  simp only [parsePrefix, isVarName_LPAREN, LP_kind, hu, Bool.false_eq_true, ↓reduceIte, h, hk_cons, RP_kind,
    List.drop_succ_cons, List.drop_zero]

theorem prefix_un {t : Tbl} {f : Nat} {op : Tok} {ts ts' : List Tok} {e : Expr} (hu : t.un op.kind = true)
    (h : parseExpr t f t.ulevel ts = some (e, ts')) : parsePrefix t (f + 1) (op :: ts) = some (.un op e, ts') := by
  simp only [parsePrefix, hu, ↓reduceIte, h]

theorem loop_step {t : Tbl} {g m lv : Nat} {a : Assoc} {na : Option Nat} {op : Tok} {ts ts' : List Tok} {l r : Expr}
    (hb : t.bin op.kind = some (lv, a)) (hm : m ≤ lv) (hna : na ≠ some lv)
    (h : parseExpr t g (rmin lv a) ts = some (r, ts')) :
    parseLoop t (g + 1) m na l (op :: ts) =
      parseLoop t g m (if a = .nonassoc then some lv else none) (.bin l op r) ts' := by
  have h1 : ¬ lv < m := by omega
  simp only [parseLoop, hb, h1, ↓reduceIte, hna, h]

def Q2 (t : Tbl) (e : Expr) : Prop :=
  ∀ m rest r G, m ≤ e.level t → StopsAfter t e rest →
    (∀ g, G ≤ g → parseLoop t g m (e.naFlag t) e rest = some r) →
    ∀ f, G + cost e ≤ f → parseExpr t f m (renderRaw t e ++ rest) = some r

def P3 (t : Tbl) (e : Expr) : Prop :=
  ∀ need rest, Stops t need rest → ∀ f, cost e + 3 ≤ f →
    parseExpr t f need (render t e need ++ rest) = some (e, rest)

def CHg (rd : Rend) (t : Tbl) (e : Expr) : Prop :=
  ∀ rest r G, hk rest ≠ some .LPAREN →
    (∀ g, G ≤ g → parseSuffix t g e rest = some r) →
    ∀ f, G + cost e ≤ f + 2 → parsePrefix t f (rd.R e ++ rest) = some r

def PPg (rd : Rend) (t : Tbl) (ps : Params) : Prop :=
  ∀ rp rest, rp.kind = .RPAREN → ∀ f, costP ps ≤ f →
    parseParams t f (rd.RPs ps ++ rp :: rest) = some (ps, rp :: rest)

def P1g (rd : Rend) (t : Tbl) (e : Expr) : Prop :=
  ∀ rest, NoExt rest → ∀ f, cost e ≤ f + 1 → parsePrefix t f (rd.R e ++ rest) = some (e, rest)

def P3I (rd : Rend) (t : Tbl) (e : Expr) : Prop :=
  ∀ rest, Stops t 0 rest → ∀ f, cost e + 3 ≤ f → parseExpr t f 0 (rd.RI e ++ rest) = some (e, rest)

theorem stopsAfter_of_stops (t : Tbl) {e : Expr} {need : Nat} {rest : List Tok}
    (hn : need ≤ e.level t) (hs : Stops t need rest) : StopsAfter t e rest := by
  cases e with
  | bin l op r =>
    refine ⟨hs.1, ?_⟩
    intro lv a hb
    simp only [Expr.level, hb] at hn
    exact hs.2.mono (Nat.le_trans hn (by cases a <;> simp [rmin]))
  | _ => exact hs.1

theorem stopsAfter_rp {t : Tbl} (wf : t.WF) (e : Expr) (rp : Tok) (h : rp.kind = .RPAREN) (ts : List Tok) :
    StopsAfter t e (rp :: ts) :=
  stopsAfter_of_stops t (Nat.zero_le _) (stops_rp wf 0 rp h ts)

theorem prefix_paren {t : Tbl} (wf : t.WF) {e : Expr} (h2 : Q2 t e) (rest : List Tok) :
    ∀ f, cost e + 2 ≤ f → parsePrefix t f (LP :: (renderRaw t e ++ RP :: rest)) = some (e, rest) := by
  intro f hf
  obtain ⟨f', rfl⟩ := fuel_succ (f := f) (n := 0) (by omega)
  exact prefix_group wf (h2 0 (RP :: rest) (e, RP :: rest) 1 (Nat.zero_le _) (stopsAfter_rp wf e RP rfl rest)
    (loop_stops t (stops_rp wf 0 RP rfl rest).2) f' (by omega))

theorem expr_of_p1 {rd : Rend} {t : Tbl} {e : Expr} (h1 : P1g rd t e) {m : Nat} {rest : List Tok} {r} {G : Nat}
    (hne : NoExt rest) (hk : ∀ g, G ≤ g → parseLoop t g m none e rest = some r) :
    ∀ f, G + cost e ≤ f → parseExpr t f m (rd.R e ++ rest) = some r := by
  intro f hf
  have hc := cost_ge e
  obtain ⟨f', rfl⟩ := fuel_succ (f := f) (n := 0) (by omega)
  exact (parseExpr_step (h1 rest hne f' (by omega))).trans (hk f' (by omega))

theorem p1_of_ch {rd : Rend} {t : Tbl} {e : Expr} (h : CHg rd t e) : P1g rd t e := by
  intro rest hne f hf
  exact h rest (e, rest) 1 hne.2.2 (suffix_stops t hne) f (by omega)

section atoms
variable {rd : Rend} {t : Tbl}

theorem p1_int (wf : t.WF) (v : String) : P1g rd t (.int v) := by
  intro rest _ f hf
  obtain ⟨f', rfl⟩ := fuel_succ (f := f) (n := 0) (by simp only [cost] at hf; omega)
  have hu : t.un Kind.NUMBER = false := wf.unAtom _ rfl
  rw [rd.int]
  simp only [List.cons_append, List.nil_append, parsePrefix, isVarName_NUMBER, tk_kind, tk_lex, hu, Bool.false_eq_true,
    ↓reduceIte]

theorem p1_real (wf : t.WF) (v : String) : P1g rd t (.real v) := by
  intro rest _ f hf
  obtain ⟨f', rfl⟩ := fuel_succ (f := f) (n := 0) (by simp only [cost] at hf; omega)
  have hu : t.un Kind.FRACTION = false := wf.unAtom _ rfl
  rw [rd.real]
  simp only [List.cons_append, List.nil_append, parsePrefix, isVarName_FRACTION, tk_kind, tk_lex, hu, Bool.false_eq_true,
    ↓reduceIte]

theorem p1_str (wf : t.WF) (v : String) : P1g rd t (.str v) := by
  intro rest _ f hf
  obtain ⟨f', rfl⟩ := fuel_succ (f := f) (n := 0) (by simp only [cost] at hf; omega)
  have hu : t.un Kind.STRING = false := wf.unAtom _ rfl
  rw [rd.str]
  simp only [List.cons_append, List.nil_append, parsePrefix, isVarName_STRING, tk_kind, tk_lex, hu, Bool.false_eq_true,
    ↓reduceIte]

theorem p1_bool (wf : t.WF) (b : Bool) (v : String) : P1g rd t (.bool b v) := by
  intro rest _ f hf
  obtain ⟨f', rfl⟩ := fuel_succ (f := f) (n := 0) (by simp only [cost] at hf; omega)
  have hu1 : t.un Kind.TRUE = false := wf.unAtom _ rfl
  have hu2 : t.un Kind.FALSE = false := wf.unAtom _ rfl
  rw [rd.bool]
  cases b <;>
  simp only [List.cons_append, List.nil_append, parsePrefix, isVarName_TRUE, isVarName_FALSE, tk_kind, tk_lex, hu1, hu2, Bool.false_eq_true,
    ↓reduceIte]

theorem isAtomStart_of_isVarName {k : Kind} : k.isVarName = true → k.isAtomStart = true :=
  forall_kind (p := fun k => k.isVarName = true → k.isAtomStart = true) (by decide +kernel) k

theorem p1_enumc (wf : t.WF) (ns : String) (n : Tok) (hn : n.kind.isIdent = true) : P1g rd t (.enumc ns n) := by
  intro rest hne f hf
  obtain ⟨f', rfl⟩ := fuel_succ (f := f) (n := 0) (by simp only [cost] at hf; omega)
  have hu : t.un Kind.NAMESPACE = false := wf.unAtom _ rfl
  have hlp := hne.2.2
  rw [rd.enumc]
  simp only [List.cons_append, List.nil_append, parsePrefix, isVarName_NAMESPACE, tk_kind, tk_lex, hu, Bool.false_eq_true,
    ↓reduceIte, and_self, hlp, hn]

theorem ch_var (wf : t.WF) (n : Tok) (hn : n.kind.isVarName = true) : CHg rd t (.var n) := by
  intro rest r G _ hk f hf
  obtain ⟨f', rfl⟩ := fuel_succ (f := f) (n := 0) (by simp only [cost] at hf; omega)
  have hu : t.un n.kind = false := wf.unAtom _ (isAtomStart_of_isVarName hn)
  rw [rd.var]
  simp only [List.cons_append, List.nil_append, parsePrefix, hu, Bool.false_eq_true, ↓reduceIte, hn]
  exact hk f' (by simp only [cost] at hf; omega)

theorem ch_self (wf : t.WF) : CHg rd t .self := by
  intro rest r G _ hk f hf
  obtain ⟨f', rfl⟩ := fuel_succ (f := f) (n := 0) (by simp only [cost] at hf; omega)
  have hu : t.un Kind.SELF = false := wf.unAtom _ rfl
  rw [rd.self]
  simp only [List.cons_append, List.nil_append, parsePrefix, isVarName_SELF, tk_kind, hu, Bool.false_eq_true,
    ↓reduceIte]
  exact hk f' (by simp only [cost] at hf; omega)

theorem ch_selected (wf : t.WF) : CHg rd t .selected := by
  intro rest r G _ hk f hf
  obtain ⟨f', rfl⟩ := fuel_succ (f := f) (n := 0) (by simp only [cost] at hf; omega)
  have hu : t.un Kind.SELECTED = false := wf.unAtom _ rfl
  rw [rd.selected]
  simp only [List.cons_append, List.nil_append, parsePrefix, isVarName_SELECTED, tk_kind, hu, Bool.false_eq_true,
    ↓reduceIte]
  exact hk f' (by simp only [cost] at hf; omega)

theorem ch_param (wf : t.WF) (n : Tok) (hn : n.kind.isVarName = true) : CHg rd t (.param n) := by
  intro rest r G _ hk f hf
  obtain ⟨f', rfl⟩ := fuel_succ (f := f) (n := 0) (by simp only [cost] at hf; omega)
  have hu : t.un Kind.PARAM = false := wf.unAtom _ rfl
  rw [rd.param]
  simp only [List.cons_append, List.nil_append, parsePrefix, isVarName_PARAM, tk_kind, hu, Bool.false_eq_true,
    ↓reduceIte, and_self, hn]
  exact hk f' (by simp only [cost] at hf; omega)

theorem ch_field {h : Expr} (n : Tok) (hn : n.kind.isIdent = true) (hc : h.isChain = true) (ih : CHg rd t h) :
    CHg rd t (.field h n) := by
  intro rest r G hlp hk f hf
  rw [rd.field, List.append_assoc]
  simp only [cost] at hf
  -- the induction hypothesis at the LONGER rest `. n rest`: the suffix loop makes one step there (the field) and goes on as `hk`
  refine ih (tk .DOT "." :: n :: rest) r (G + 1) (by simp) ?_ f (by omega)
  intro g hg
  obtain ⟨g', rfl⟩ := fuel_succ hg
  simp only [parseSuffix, tk_kind, ↓reduceIte, hlp, hc, hn]
  exact hk g' (by omega)

theorem ch_index (wf : t.WF) {h i : Expr} (hc : h.isIndexable = true) (ih : CHg rd t h) (p3i : P3I rd t i) :
    CHg rd t (.index h i) := by
  intro rest r G _ hk f hf
  rw [rd.index, List.append_assoc]
  simp only [cost] at hf
  -- as in `ch_field`, at the longer rest `[ i ] rest`: the one suffix step reads `i` back (`p3i`)
  refine ih (tk .LSQBR "[" :: (rd.RI i ++ [tk .RSQBR "]"]) ++ rest) r (G + cost i + 4) (by simp) ?_ f (by omega)
  intro g hg
  obtain ⟨g', rfl⟩ := fuel_succ (f := g) (n := 0) (by omega)
  have hi := p3i (tk .RSQBR "]" :: rest) (stops_closer wf 0 (.inr (.inl rfl)) rest) g' (by omega)
  simp only [List.cons_append, List.append_assoc, List.nil_append, parseSuffix, tk_kind, hc, ↓reduceIte, hi, hk_cons,
    List.drop_succ_cons, List.drop_zero]
  exact hk g' (by omega)

theorem p1_fcall (wf : t.WF) (n : Tok) (hn : n.kind.isIdent = true) {ps : Params} (pp : PPg rd t ps) :
    P1g rd t (.fcall n ps) := by
  intro rest _ f hf
  simp only [cost] at hf
  obtain ⟨f', rfl⟩ := fuel_succ (f := f) (n := 0) (by omega)
  have hu : t.un Kind.DOUBLECOLON = false := wf.unAtom _ rfl
  have hp := pp RP rest rfl f' (by omega)
  rw [rd.fcall]
  simp only [List.cons_append, List.append_assoc, List.nil_append, parsePrefix, isVarName_DOUBLECOLON, tk_kind, LP_kind, hu,
    Bool.false_eq_true, ↓reduceIte, and_self, hp, hk_cons, RP_kind, List.drop_succ_cons, List.drop_zero, hn]

theorem p1_icall (wf : t.WF) (ns : String) (n : Tok) (hn : n.kind.isIdent = true) {ps : Params} (pp : PPg rd t ps) :
    P1g rd t (.icall ns n ps) := by
  intro rest _ f hf
  simp only [cost] at hf
  obtain ⟨f', rfl⟩ := fuel_succ (f := f) (n := 0) (by omega)
  have hu : t.un Kind.NAMESPACE = false := wf.unAtom _ rfl
  have hp := pp RP rest rfl f' (by omega)
  rw [rd.icall]
  simp only [List.cons_append, List.append_assoc, List.nil_append, parsePrefix, isVarName_NAMESPACE, tk_kind, tk_lex, LP_kind, hu,
    Bool.false_eq_true, ↓reduceIte, and_self, hp, hk_cons, RP_kind, List.drop_succ_cons, List.drop_zero, hn]

theorem p1_ocall {h : Expr} (n : Tok) (hn : n.kind.isIdent = true) {ps : Params} (hs : h.isStruct = true) (ih : CHg rd t h)
    (pp : PPg rd t ps) : P1g rd t (.ocall h n ps) := by
  intro rest _ f hf
  simp only [cost] at hf
  rw [rd.ocall, List.append_assoc]
  refine ih (tk .DOT "." :: n :: LP :: (rd.RPs ps ++ [RP]) ++ rest) _ (costP ps + 1) (by simp) ?_ f
    (by omega)
  intro g hg
  obtain ⟨g', rfl⟩ := fuel_succ hg
  have hp := pp RP rest rfl g' (by omega)
  simp only [List.cons_append, List.append_assoc, List.nil_append, parseSuffix, tk_kind, ↓reduceIte, hk_cons,
    LP_kind, hs, List.drop_succ_cons, List.drop_zero, hp, RP_kind, hn]

theorem pp_nil : PPg rd t .nil := by
  intro rp rest hrp f hf
  simp only [costP] at hf
  obtain ⟨f', rfl⟩ := fuel_succ (f := f) (n := 0) (by omega)
  rw [rd.pnil, List.nil_append]
  cases rest with
  | nil => simp only [parseParams]
  | cons c ts => simp only [parseParams, hrp, isIdent_RPAREN, Bool.false_eq_true, false_and, ↓reduceIte]

theorem pp_cons (wf : t.WF) (n : Tok) (hn : n.kind.isIdent = true) {e : Expr} {ps : Params} (p3 : P3I rd t e)
    (pp : PPg rd t ps) :
    PPg rd t (.cons n e ps) := by
  intro rp rest hrp f hf
  simp only [costP] at hf
  obtain ⟨f', rfl⟩ := fuel_succ (f := f) (n := 0) (by omega)
  cases ps with
  | nil =>
    have he := p3 (rp :: rest) (stops_rp wf 0 rp hrp rest) f' (by omega)
    rw [rd.pone]
    simp only [List.cons_append, parseParams, tk_kind, and_self, ↓reduceIte, he, hk_cons, hrp, Option.some.injEq,
      reduceCtorEq, hn]
  | cons n' e' ps' =>
    have he := p3 (tk .COMMA "," :: (rd.RPs (.cons n' e' ps') ++ rp :: rest))
      (stops_closer wf 0 (.inr (.inr rfl)) _) f' (by omega)
    have hps := pp rp rest hrp f' (by omega)
    rw [rd.pmore]
    simp only [List.cons_append, List.append_assoc, parseParams, tk_kind, and_self, ↓reduceIte, he, hk_cons,
      List.drop_succ_cons, List.drop_zero, hps, hn]

end atoms

theorem naFlag_bin (t : Tbl) {l r : Expr} {op : Tok} {lv a} (hb : t.bin op.kind = some (lv, a)) :
    (Expr.bin l op r).naFlag t = (if a = .nonassoc then some lv else none) := by
  simp only [Expr.naFlag, hb]
  cases a <;> simp

theorem rmin_ge (l : Nat) (a : Assoc) : l ≤ rmin l a := by cases a <;> simp [rmin]
theorem lmin_ge (l : Nat) (a : Assoc) : l ≤ lmin l a := by cases a <;> simp [lmin]
theorem rmin_le (l : Nat) (a : Assoc) : rmin l a ≤ l + 1 := by cases a <;> simp [rmin]
theorem lmin_le (l : Nat) (a : Assoc) : lmin l a ≤ l + 1 := by cases a <;> simp [lmin]

/-- a binary node `· op₁ ·` as the LEFT operand of `op₂`, seen from both sides: the renderer leaves the node without
    parentheses (its level is at least what `op₂` asks of its left operand) exactly when the parser's operator loop,
    having built the node, goes on to `op₂` (a level below the one the right operand of `op₁` was parsed at, and not
    a second operator of a non-associative level) -/
theorem Tbl.WF.left_operand_iff {t : Tbl} (wf : t.WF) {k₁ k₂ : Kind} {l₁ l₂ : Nat} {a₁ a₂ : Assoc}
    (h₁ : t.bin k₁ = some (l₁, a₁)) (h₂ : t.bin k₂ = some (l₂, a₂)) :
    lmin l₂ a₂ ≤ l₁ ↔ l₂ < rmin l₁ a₁ ∧ (a₁ = .nonassoc → l₁ ≠ l₂) := by
  by_cases he : l₁ = l₂
  · subst he
    obtain rfl := wf.sameAssoc _ _ _ _ _ h₁ h₂
    cases a₁ <;> simp [lmin, rmin]
  · have h₃ := rmin_le l₁ a₁
    have h₄ := lmin_ge l₂ a₂
    have h₅ := lmin_le l₂ a₂
    have h₆ := rmin_ge l₁ a₁
    exact ⟨fun h => ⟨by omega, fun _ => he⟩, fun h => by omega⟩

theorem noExt_op {t : Tbl} (wf : t.WF) {tok : Tok} {x} (hb : t.bin tok.kind = some x) (ts : List Tok) :
    NoExt (tok :: ts) := by
  refine ⟨?_, ?_, ?_⟩ <;>
  · intro h
    simp only [hk_cons, Option.some.injEq] at h
    rw [h, wf.structural _ rfl] at hb
    cases hb

/-- how an operand may be written where level `need` is required: as it is (if its level allows) or in
    one pair of parentheses (always) -/
def OperandText (t : Tbl) (e : Expr) (need : Nat) (ts : List Tok) : Prop :=
  (ts = renderRaw t e ∧ need ≤ e.level t) ∨ ts = LP :: (renderRaw t e ++ [RP])

theorem operandText_render (t : Tbl) (e : Expr) (need : Nat) : OperandText t e need (render t e need) := by
  by_cases h : e.level t < need
  · exact Or.inr (render_paren t h)
  · exact Or.inl ⟨render_raw t h, by omega⟩

theorem p3_operandText {t : Tbl} (wf : t.WF) {e : Expr} (h2 : Q2 t e) {need : Nat} {ts : List Tok}
    (ht : OperandText t e need ts) {rest : List Tok} (hs : Stops t need rest) :
    ∀ f, cost e + 3 ≤ f → parseExpr t f need (ts ++ rest) = some (e, rest) := by
  intro f hf
  rcases ht with ⟨rfl, hge⟩ | rfl
  · exact h2 need rest (e, rest) 1 hge (stopsAfter_of_stops t hge hs) (loop_stops t hs.2) f (by omega)
  · obtain ⟨f', rfl⟩ := fuel_succ (f := f) (n := 0) (by omega)
    simp only [List.cons_append, List.append_assoc, List.nil_append]
    rw [parseExpr_step (prefix_paren wf h2 rest f' (by omega))]
    exact loop_stops t hs.2 f' (by omega)

theorem p3_of_q2 {t : Tbl} (wf : t.WF) (e : Expr) (h2 : Q2 t e) : P3 t e :=
  fun need _ hs => p3_operandText wf h2 (operandText_render t e need) hs

theorem q2_un_gen {t : Tbl} (wf : t.WF) {op : Tok} {e : Expr} (hu : t.un op.kind = true) (q2e : Q2 t e)
    {T : List Tok} (hT : OperandText t e t.ulevel T) :
    ∀ m rest r G, NoExt rest → (∀ g, G ≤ g → parseLoop t g m none (.un op e) rest = some r) →
      ∀ f, G + (cost e + 5) ≤ f → parseExpr t f m (op :: (T ++ rest)) = some r := by
  intro m rest r G hne hk f hf
  obtain ⟨f1, rfl⟩ := fuel_succ (f := f) (n := 0) (by omega)
  obtain ⟨f2, rfl⟩ := fuel_succ (f := f1) (n := 0) (by omega)
  rw [parseExpr_step (prefix_un hu
    (p3_operandText wf q2e hT ⟨hne, fun k l a _ hb => wf.binLt k l a hb⟩ f2 (by omega)))]
  exact hk (f2 + 1) (by omega)

theorem q2_un {t : Tbl} (wf : t.WF) {op : Tok} {e : Expr} (hu : t.un op.kind = true) (q2e : Q2 t e) :
    Q2 t (.un op e) := by
  intro m rest r G _ hsa hk f hf
  rw [renderRaw_un]
  exact q2_un_gen wf hu q2e (operandText_render t e _) m rest r G hsa hk f hf

theorem q2_bin_gen {t : Tbl} (wf : t.WF) {l r : Expr} {op : Tok} {lv a} (hb : t.bin op.kind = some (lv, a))
    (q2l : Q2 t l) (q2r : Q2 t r) {L R : List Tok} (hL : OperandText t l (lmin lv a) L)
    (hR : OperandText t r (rmin lv a) R) :
    ∀ m rest res G, m ≤ lv → Stops t (rmin lv a) rest →
      (∀ g, G ≤ g → parseLoop t g m ((Expr.bin l op r).naFlag t) (.bin l op r) rest = some res) →
      ∀ f, G + (cost l + cost r + 6) ≤ f → parseExpr t f m (L ++ op :: (R ++ rest)) = some res := by
  intro m rest res G hm hsr hk f hf
  -- one turn of the loop over `op` and the right operand
  have hstep : ∀ na, na ≠ some lv → ∀ g, G + cost r + 4 ≤ g →
      parseLoop t g m na l (op :: (R ++ rest)) = some res := by
    intro na hna g hg
    obtain ⟨g', rfl⟩ := fuel_succ (f := g) (n := 0) (by omega)
    rw [loop_step hb hm hna (p3_operandText wf q2r hR hsr g' (by omega)), ← naFlag_bin t hb]
    exact hk g' (by omega)
  rcases hL with ⟨rfl, hge⟩ | rfl
  · -- left operand as it is: its own loop continues over `op`
    have hboth : StopsAfter t l (op :: (R ++ rest)) ∧ l.naFlag t ≠ some lv := by
      cases l with
      | bin l' op' r' =>
        cases hb' : t.bin op'.kind with
        | none => exact ⟨⟨noExt_op wf hb _, fun _ _ h => by rw [hb'] at h; cases h⟩, by simp [Expr.naFlag, hb']⟩
        | some la' =>
          obtain ⟨lv', a'⟩ := la'
          simp only [Expr.level, hb'] at hge
          -- no parentheses around `l` (`hge`) means that the loop, having built `l`, goes on to `op`
          obtain ⟨hlt, hne⟩ := (wf.left_operand_iff hb' hb).1 hge
          refine ⟨⟨noExt_op wf hb _, ?_⟩, ?_⟩
          · intro lv'' a'' hb''
            rw [hb'] at hb''
            cases hb''
            exact (opsBelow_cons hb).2 fun _ _ e => by cases e; exact hlt
          · rw [naFlag_bin t hb']
            split
            · exact fun h => hne ‹_› (Option.some.inj h)
            · simp
      | _ => exact ⟨noExt_op wf hb _, by simp [Expr.naFlag]⟩
    exact q2l m _ res (G + cost r + 4) (Nat.le_trans hm (Nat.le_trans (lmin_ge lv a) hge)) hboth.1
      (hstep _ hboth.2) f (by omega)
  · -- left operand parenthesised
    obtain ⟨f', rfl⟩ := fuel_succ (f := f) (n := 0) (by omega)
    simp only [List.cons_append, List.append_assoc, List.nil_append]
    rw [parseExpr_step (prefix_paren wf q2l (op :: (R ++ rest)) f' (by omega))]
    exact hstep none (by simp) f' (by omega)

theorem q2_bin {t : Tbl} (wf : t.WF) {l r : Expr} {op : Tok} {lv a} (hb : t.bin op.kind = some (lv, a))
    (q2l : Q2 t l) (q2r : Q2 t r) : Q2 t (.bin l op r) := by
  intro m rest res G hm hsa hk f hf
  have hlev : (Expr.bin l op r).level t = lv := by simp only [Expr.level, hb]
  rw [hlev] at hm
  rw [renderRaw_bin t l op r hb]
  simp only [cost] at hf
  have := q2_bin_gen wf hb q2l q2r (operandText_render t l _) (operandText_render t r _) m rest res G hm
    ⟨hsa.1, hsa.2 lv a hb⟩ hk f hf
  simpa only [List.append_assoc, List.cons_append] using this

/-- a unary or binary operation (everything else is an operand that the operand parser reads) -/
def Expr.isOp : Expr → Bool
  | .un _ _ | .bin _ _ _ => true
  | _ => false

/-- what the round trip needs of the way a renderer writes unary and binary nodes (`Rend` fixes the operands only).
    `A e` is the statement proved of every subtree: it lets `e` be read back in index / argument position (`arg`),
    holds of every operand that `parsePrefix` reads back (`atom`), and passes from the operands of an operator node to
    the node (`un`, `bin`).  `rawOps` is `render` with `A = Q2 t`, `fullOps` is `renderFull` with `A = P1g fullRend t`. -/
structure Rend.Ops (rd : Rend) (t : Tbl) (A : Expr → Prop) : Prop where
  arg : ∀ {e}, A e → P3I rd t e
  atom : ∀ {e}, e.isOp = false → P1g rd t e → A e
  un : ∀ {op e}, t.un op.kind = true → A e → A (.un op e)
  bin : ∀ {l op r lv a}, t.bin op.kind = some (lv, a) → A l → A r → A (.bin l op r)

/-- what the induction over the tree carries: `A`, and for an operand the two forms in which a parent uses it -/
structure Rend.Good (rd : Rend) (t : Tbl) (A : Expr → Prop) (e : Expr) : Prop where
  a : A e
  ch : e.isChain = true → CHg rd t e
  p1 : e.isOp = false → P1g rd t e

section induction
variable {rd : Rend} {t : Tbl} {A : Expr → Prop}

theorem Rend.Ops.of_p1 (ops : rd.Ops t A) {e : Expr} (hc : e.isChain = false) (ho : e.isOp = false)
    (h1 : P1g rd t e) : rd.Good t A e :=
  ⟨ops.atom ho h1, (fun h => by rw [hc] at h; cases h), fun _ => h1⟩

theorem Rend.Ops.of_ch (ops : rd.Ops t A) {e : Expr} (ho : e.isOp = false) (h : CHg rd t e) : rd.Good t A e :=
  ⟨ops.atom ho (p1_of_ch h), fun _ => h, fun _ => p1_of_ch h⟩

theorem Rend.Good.of_op {e : Expr} (hc : e.isChain = false) (ho : e.isOp = true) (a : A e) : rd.Good t A e :=
  ⟨a, (fun h => by rw [hc] at h; cases h), (fun h => by rw [ho] at h; cases h)⟩

theorem isChain_of_isIndexable {h : Expr} (hi : h.isIndexable = true) : h.isChain = true := by
  cases h <;> simp_all [Expr.isIndexable, Expr.isChain]

theorem isChain_of_isStruct {h : Expr} (hs : h.isStruct = true) : h.isChain = true := by
  cases h <;> simp_all [Expr.isStruct, Expr.isChain]

mutual
theorem Rend.Ops.good (ops : rd.Ops t A) (wf : t.WF) : (e : Expr) → e.Ok t → rd.Good t A e
  | .int v, _ => ops.of_p1 rfl rfl (p1_int wf v)
  | .real v, _ => ops.of_p1 rfl rfl (p1_real wf v)
  | .str v, _ => ops.of_p1 rfl rfl (p1_str wf v)
  | .bool b v, _ => ops.of_p1 rfl rfl (p1_bool wf b v)
  | .enumc ns n, hok => ops.of_p1 rfl rfl (p1_enumc wf ns n hok)
  | .var n, hok => ops.of_ch rfl (ch_var wf n hok)
  | .self, _ => ops.of_ch rfl (ch_self wf)
  | .selected, _ => ops.of_ch rfl (ch_selected wf)
  | .param n, hok => ops.of_ch rfl (ch_param wf n hok)
  | .field h n, hok => ops.of_ch rfl (ch_field n hok.2.2 hok.1 ((ops.good wf h hok.2.1).ch hok.1))
  | .index h i, hok => ops.of_ch rfl
      (ch_index wf hok.1 ((ops.good wf h hok.2.1).ch (isChain_of_isIndexable hok.1)) (ops.arg (ops.good wf i hok.2.2).a))
  | .fcall n ps, hok => ops.of_p1 rfl rfl (p1_fcall wf n hok.1 (ops.goodP wf ps hok.2))
  | .icall ns n ps, hok => ops.of_p1 rfl rfl (p1_icall wf ns n hok.1 (ops.goodP wf ps hok.2))
  | .ocall h n ps, hok => ops.of_p1 rfl rfl
      (p1_ocall n hok.2.2.1 hok.1 ((ops.good wf h hok.2.1).ch (isChain_of_isStruct hok.1)) (ops.goodP wf ps hok.2.2.2))
  | .un _ e, hok => .of_op rfl rfl (ops.un hok.1 (ops.good wf e hok.2).a)
  | .bin l op r, hok =>
    match hb : t.bin op.kind, hok.1 with
    | some (_, _), _ => .of_op rfl rfl (ops.bin hb (ops.good wf l hok.2.1).a (ops.good wf r hok.2.2).a)
theorem Rend.Ops.goodP (ops : rd.Ops t A) (wf : t.WF) : (ps : Params) → ps.Ok t → PPg rd t ps
  | .nil, _ => pp_nil
  | .cons n e ps, hok => pp_cons wf n hok.1 (ops.arg (ops.good wf e hok.2.1).a) (ops.goodP wf ps hok.2.2)
end

end induction

theorem naFlag_of_not_op (t : Tbl) {e : Expr} (h : e.isOp = false) : e.naFlag t = none := by
  cases e <;> first | rfl | cases h

theorem rawOps {t : Tbl} (wf : t.WF) : (rawRend t).Ops t (Q2 t) where
  arg h2 := p3_of_q2 wf _ h2 0
  atom ho h1 _ _ _ _ _ hsa hk := expr_of_p1 h1 hsa.noExt (naFlag_of_not_op t ho ▸ hk)
  un hu h2 := q2_un wf hu h2
  bin hb hl hr := q2_bin wf hb hl hr

theorem good {t : Tbl} (wf : t.WF) (e : Expr) (hok : e.Ok t) : (rawRend t).Good t (Q2 t) e := (rawOps wf).good wf e hok

/-! #### fuel: `cost` is at most six times the length of the text

  Six, because a `.bin` node adds 6 to the cost and writes one token of its own. -/

theorem wrap_length_ge (b : Bool) (ts : List Tok) : ts.length ≤ (wrap b ts).length := by
  cases b <;> simp [wrap, LP, RP] <;> omega

/-- a renderer writes an operator and (at least) its operands -/
structure Rend.Long (rd : Rend) (t : Tbl) : Prop where
  arg : ∀ e, (rd.R e).length ≤ (rd.RI e).length
  un : ∀ op e, (rd.R e).length + 1 ≤ (rd.R (.un op e)).length
  bin : ∀ l op r, (t.bin op.kind).isSome = true →
    (rd.R l).length + (rd.R r).length + 1 ≤ (rd.R (.bin l op r)).length

mutual
theorem Rend.Long.cost_le {rd : Rend} {t : Tbl} (lg : rd.Long t) : (e : Expr) → e.Ok t → cost e ≤ 6 * (rd.R e).length
  | .int v, _ => by simp [cost, rd.int]
  | .real v, _ => by simp [cost, rd.real]
  | .str v, _ => by simp [cost, rd.str]
  | .bool b v, _ => by simp [cost, rd.bool]
  | .enumc ns n, _ => by simp [cost, rd.enumc]
  | .var n, _ => by simp [cost, rd.var]
  | .self, _ => by simp [cost, rd.self]
  | .selected, _ => by simp [cost, rd.selected]
  | .param n, _ => by simp [cost, rd.param]
  | .field h n, hok => by
    have := lg.cost_le h hok.2.1
    simp only [cost, rd.field, List.length_append, List.length_cons, List.length_nil]
    omega
  | .index h i, hok => by
    have := lg.cost_le h hok.2.1
    have := lg.cost_le i hok.2.2
    have := lg.arg i
    simp only [cost, rd.index, List.length_append, List.length_cons, List.length_nil]
    omega
  | .fcall n ps, hok => by
    have := lg.costP_le ps hok.2
    simp only [cost, rd.fcall, List.length_append, List.length_cons, List.length_nil]
    omega
  | .icall ns n ps, hok => by
    have := lg.costP_le ps hok.2
    simp only [cost, rd.icall, List.length_append, List.length_cons, List.length_nil]
    omega
  | .ocall h n ps, hok => by
    have := lg.costP_le ps hok.2.2.2
    have := lg.cost_le h hok.2.1
    simp only [cost, rd.ocall, List.length_append, List.length_cons, List.length_nil]
    omega
  | .un op e, hok => by
    have := lg.cost_le e hok.2
    have := lg.un op e
    simp only [cost]
    omega
  | .bin l op r, hok => by
    have := lg.cost_le l hok.2.1
    have := lg.cost_le r hok.2.2
    have := lg.bin l op r hok.1
    simp only [cost]
    omega
theorem Rend.Long.costP_le {rd : Rend} {t : Tbl} (lg : rd.Long t) :
    (ps : Params) → ps.Ok t → costP ps ≤ 6 * (rd.RPs ps).length + 1
  | .nil, _ => by simp [costP]
  | .cons n e .nil, hok => by
    have := lg.cost_le e hok.2.1
    have := lg.arg e
    simp only [costP, rd.pone, List.length_cons]
    omega
  | .cons n e (.cons n' e' ps), hok => by
    have := lg.cost_le e hok.2.1
    have := lg.arg e
    have := lg.costP_le (.cons n' e' ps) hok.2.2
    simp only [rd.pmore, List.length_cons, List.length_append]
    simp only [costP] at this ⊢
    omega
end

theorem rawRend_long (t : Tbl) : (rawRend t).Long t where
  arg e := by
    show _ ≤ (render t e 0).length
    rw [render_zero]
    exact Nat.le_refl _
  un op e := by
    have := wrap_length_ge (decide (e.level t < t.ulevel)) (renderRaw t e)
    show (renderRaw t e).length + 1 ≤ (renderRaw t (.un op e)).length
    simp only [renderRaw_un, render, List.length_cons]
    omega
  bin l op r hs := by
    cases hb : t.bin op.kind with
    | none => simp [hb] at hs
    | some la =>
      obtain ⟨lv, a⟩ := la
      have := wrap_length_ge (decide (l.level t < lmin lv a)) (renderRaw t l)
      have := wrap_length_ge (decide (r.level t < rmin lv a)) (renderRaw t r)
      show (renderRaw t l).length + (renderRaw t r).length + 1 ≤ (renderRaw t (.bin l op r)).length
      simp only [renderRaw_bin t l op r hb, render, List.length_append, List.length_cons]
      omega

theorem cost_le_len (t : Tbl) (e : Expr) (hok : e.Ok t) : cost e ≤ 6 * (renderRaw t e).length :=
  (rawRend_long t).cost_le e hok

theorem costP_le_len (t : Tbl) (ps : Params) (hok : ps.Ok t) : costP ps ≤ 6 * (renderParams t ps).length + 1 :=
  (rawRend_long t).costP_le ps hok

theorem render_len (t : Tbl) {e : Expr} (hok : e.Ok t) (need : Nat) : cost e ≤ 6 * (render t e need).length := by
  have h1 := cost_le_len t e hok
  have h2 := wrap_length_ge (decide (e.level t < need)) (renderRaw t e)
  simp only [render]
  omega

/-- the round trip with explicit fuel (`parseExprTop_of_fuel` carries it to the fuel-free top-level parser) -/
theorem roundtrip_fuel {t : Tbl} (wf : t.WF) {e : Expr} (hok : e.Ok t) (need : Nat) {rest : List Tok}
    (hs : Stops t need rest) (f : Nat) (hf : cost e + 3 ≤ f) :
    parseExpr t f need (render t e need ++ rest) = some (e, rest) :=
  p3_of_q2 wf e (good wf e hok).a need rest hs f hf

theorem roundtrip_prefix {t : Tbl} (wf : t.WF) {e : Expr} (hok : e.Ok t) (hop : e.isOp = false) {rest : List Tok}
    (hne : NoExt rest) (f : Nat) (hf : cost e ≤ f + 1) :
    parsePrefix t f (renderRaw t e ++ rest) = some (e, rest) :=
  (good wf e hok).p1 hop rest hne f hf

theorem roundtrip_params {t : Tbl} (wf : t.WF) {ps : Params} (hok : ps.Ok t) (rp : Tok) (hrp : rp.kind = .RPAREN)
    (rest : List Tok) (f : Nat) (hf : costP ps ≤ f) :
    parseParams t f (renderParams t ps ++ rp :: rest) = some (ps, rp :: rest) :=
  (rawOps wf).goodP wf ps hok rp rest hrp f hf

/-- `l op r` with each operand written in any admissible way (as it is when its level allows, or in
    parentheses) parses to the binary node -/
theorem parse_bin_texts {t : Tbl} (wf : t.WF) {l r : Expr} {op : Tok} {lv a} (hb : t.bin op.kind = some (lv, a))
    (hl : l.Ok t) (hr : r.Ok t) {L R : List Tok} (hL : OperandText t l (lmin lv a) L)
    (hR : OperandText t r (rmin lv a) R) {rest : List Tok} (hs : Stops t 0 rest) :
    parseExprTop t (L ++ op :: (R ++ rest)) = some (.bin l op r, rest) :=
  parseExprTop_of_fuel t (q2_bin_gen wf hb (good wf l hl).a (good wf r hr).a hL hR 0 rest _ 1 (Nat.zero_le _)
    (hs.mono (Nat.zero_le _)) (loop_stops t hs.2) _ (Nat.le_refl _))

theorem renderFull_un (op : Tok) (e : Expr) : renderFull (.un op e) = LP :: op :: (renderFull e ++ [RP]) := by
  rw [renderFull]
theorem renderFull_bin (l : Expr) (op : Tok) (r : Expr) :
    renderFull (.bin l op r) = LP :: (renderFull l ++ op :: (renderFull r ++ [RP])) := by
  rw [renderFull]

theorem p3f_of_p1 {t : Tbl} {e : Expr} (h1 : P1g fullRend t e) :
    ∀ need rest, Stops t need rest → ∀ f, cost e + 1 ≤ f →
      parseExpr t f need (renderFull e ++ rest) = some (e, rest) :=
  fun _ _ hs f hf => expr_of_p1 h1 hs.1 (loop_stops t hs.2) f (by omega)

theorem p1f_un {t : Tbl} (wf : t.WF) {op : Tok} {e : Expr} (hu : t.un op.kind = true)
    (h1 : P1g fullRend t e) : P1g fullRend t (.un op e) := by
  intro rest _ f hf
  simp only [cost] at hf
  show parsePrefix t f (renderFull (.un op e) ++ rest) = _
  obtain ⟨f1, rfl⟩ := fuel_succ (f := f) (n := 0) (by omega)
  obtain ⟨f2, rfl⟩ := fuel_succ (f := f1) (n := 0) (by omega)
  obtain ⟨f3, rfl⟩ := fuel_succ (f := f2) (n := 0) (by omega)
  rw [renderFull_un]
  simp only [List.cons_append, List.append_assoc, List.nil_append]
  refine prefix_group wf ?_
  rw [parseExpr_step (prefix_un hu (p3f_of_p1 h1 t.ulevel (RP :: rest) (stops_rp wf _ RP rfl rest) f3 (by omega)))]
  exact loop_stops t (stops_rp wf 0 RP rfl rest).2 (f3 + 1) (by omega)

theorem p1f_bin {t : Tbl} (wf : t.WF) {l r : Expr} {op : Tok} {lv a} (hb : t.bin op.kind = some (lv, a))
    (hl1 : P1g fullRend t l) (hr1 : P1g fullRend t r) : P1g fullRend t (.bin l op r) := by
  intro rest _ f hf
  simp only [cost] at hf
  show parsePrefix t f (renderFull (.bin l op r) ++ rest) = _
  obtain ⟨f1, rfl⟩ := fuel_succ (f := f) (n := 0) (by omega)
  obtain ⟨f2, rfl⟩ := fuel_succ (f := f1) (n := 0) (by omega)
  obtain ⟨f3, rfl⟩ := fuel_succ (f := f2) (n := 0) (by omega)
  rw [renderFull_bin]
  simp only [List.cons_append, List.append_assoc, List.nil_append]
  refine prefix_group wf ?_
  refine (parseExpr_step (hl1 _ (noExt_op wf hb _) (f3 + 1) (by omega))).trans ?_
  rw [loop_step hb (Nat.zero_le _) (by simp)
    (p3f_of_p1 hr1 (rmin lv a) (RP :: rest) (stops_rp wf _ RP rfl rest) f3 (by omega))]
  exact loop_stops t (stops_rp wf 0 RP rfl rest).2 f3 (by omega)

theorem fullOps {t : Tbl} (wf : t.WF) : fullRend.Ops t (P1g fullRend t) where
  arg h rest hs f hf := p3f_of_p1 h 0 rest hs f (by omega)
  atom _ h := h
  un := p1f_un wf
  bin := p1f_bin wf

theorem goodFP {t : Tbl} (wf : t.WF) : (ps : Params) → ps.Ok t → PPg fullRend t ps := (fullOps wf).goodP wf

theorem fullRend_long (t : Tbl) : fullRend.Long t where
  arg _ := Nat.le_refl _
  un op e := by
    show (renderFull e).length + 1 ≤ (renderFull (.un op e)).length
    simp only [renderFull_un, List.length_cons, List.length_append, List.length_nil]
    omega
  bin l op r _ := by
    show (renderFull l).length + (renderFull r).length + 1 ≤ (renderFull (.bin l op r)).length
    simp only [renderFull_bin, List.length_cons, List.length_append, List.length_nil]
    omega

theorem costFP_le_len (t : Tbl) : (ps : Params) → ps.Ok t → costP ps ≤ 6 * (renderFullParams ps).length + 1 :=
  (fullRend_long t).costP_le

/-! ### well-formedness of a table given by association lists is a finite check -/

def wfCheck (bins : List (Kind × Nat × Assoc)) (uns : List Kind) (ulevel : Nat) : Bool :=
  bins.all (fun x => decide (x.2.1 < ulevel) && !x.1.isStructural) &&
  bins.all (fun x => bins.all (fun y => decide (x.2.1 = y.2.1 → x.2.2 = y.2.2))) &&
  uns.all (fun k => !k.isAtomStart)

theorem wf_ofLists {bins : List (Kind × Nat × Assoc)} {uns : List Kind} {ul : Nat}
    (h : wfCheck bins uns ul = true) : (Tbl.ofLists bins uns ul).WF := by
  simp only [wfCheck, Bool.and_eq_true, List.all_eq_true, decide_eq_true_eq, Bool.not_eq_true'] at h
  obtain ⟨⟨h1, h2⟩, h3⟩ := h
  refine ⟨?_, ?_, ?_, ?_⟩
  · intro k l a hb
    exact (h1 _ (mem_of_lookup hb)).1
  · intro k k' l a a' hb hb'
    exact h2 _ (mem_of_lookup hb) _ (mem_of_lookup hb') rfl
  · intro k hs
    cases hb : (Tbl.ofLists bins uns ul).bin k with
    | none => rfl
    | some v =>
      have := (h1 _ (mem_of_lookup hb)).2
      simp only at this
      rw [hs] at this
      cases this
  · intro k ha
    cases hu : (Tbl.ofLists bins uns ul).un k with
    | false => rfl
    | true =>
      simp only [Tbl.ofLists, List.contains_eq_mem, decide_eq_true_eq] at hu
      have := h3 _ hu
      rw [ha] at this
      cases this

/-- `op X` where `X` is the operand as it is (when its level allows) or in parentheses (always) parses to the
    unary node — in particular `op ( e )` is `op` applied to `e` whatever `e` is -/
theorem parse_un_text {t : Tbl} (wf : t.WF) {op : Tok} {e : Expr} (hu : t.un op.kind = true) (he : e.Ok t)
    {T : List Tok} (hT : OperandText t e t.ulevel T) {rest : List Tok} (hs : Stops t 0 rest) :
    parseExprTop t (op :: (T ++ rest)) = some (.un op e, rest) :=
  parseExprTop_of_fuel t (q2_un_gen wf hu (good wf e he).a hT 0 rest _ 1 hs.1 (loop_stops t hs.2) _ (Nat.le_refl _))

end Pyx.Oal
