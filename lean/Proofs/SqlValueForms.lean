import Proofs.SqlBuildCause
import Proofs.SqlLoader
import Proofs.SqlParserTotal
import Proofs.SqlLexer

/-!
  Every value text that the lexer and the parser hand to the loader has one of the lexical forms `guess_type_name`
  knows: `ValuesGuessable` (hypothesis of `build_documented`, Proofs/SqlBuildCause.lean) holds for the statements of
  every accepted text.  So the `None.upper()` of an inferred class with an unclassifiable value cannot happen.
-/
namespace Pyx.Sql
open Gen.SqlLex (Rule Kw)
open Gen.Persist (Ty)

def Guessable (u : UC) (v : Text) : Prop := (guessType u v).isSome = true

/-- `guess_type_name` knows a value text iff it is `TRUE` / `FALSE` in any letter case, begins -- after an optional minus
    sign -- with a digit, or is matched by the STRING or the GUID rule -/
theorem guessable_iff (u : UC) (v : Text) : Guessable u v ↔
    (u.upper v = Kw.TRUE.chars ∨ u.upper v = Kw.FALSE.chars) ∨ ((stripMinus v).takeWhile u.isDigit).isEmpty = false ∨
      (mString v).isSome = true ∨ (mGuid v).isSome = true := by
  unfold Guessable guessType
  by_cases h1 : u.upper v = Kw.TRUE.chars ∨ u.upper v = Kw.FALSE.chars
  · simp only [h1, if_true, Option.isSome_some, true_or]
  · by_cases h2 : ((stripMinus v).takeWhile u.isDigit).isEmpty = false
    · simp only [h1, if_false, h2, Bool.not_false, if_true, or_true, true_or, iff_true]
      split
      · split <;> rfl
      · rfl
    · simp only [Bool.not_eq_false] at h2
      simp only [h1, if_false, h2, Bool.not_true, Bool.false_eq_true, false_or]
      by_cases h3 : (mString v).isSome = true
      · simp only [h3, if_true, Option.isSome_some, true_or, or_true]
      · simp only [h3, Bool.false_eq_true, if_false, false_or]
        split <;> simp_all

theorem isDigit_ne_minus (u : UC) (c : Char) (h : u.isDigit c = true) : c ≠ '-' := by
  intro e; subst e
  have : u.isDigit '-' = false := rfl
  rw [this] at h; cases h

theorem guess_digit_head (u : UC) (c : Char) (rest : Text) (hd : u.isDigit c = true) : Guessable u (c :: rest) :=
  (guessable_iff u _).mpr (.inr (.inl (by simp [stripMinus, isDigit_ne_minus u c hd, hd])))

theorem guess_minus (u : UC) (c : Char) (rest : Text) (hd : u.isDigit c = true) : Guessable u ('-' :: c :: rest) :=
  (guessable_iff u _).mpr (.inr (.inl (by simp [stripMinus, hd])))

theorem guess_quoted (u : UC) (v : Text) (h : (mString v).isSome = true ∨ (mGuid v).isSome = true) : Guessable u v :=
  (guessable_iff u v).mpr (.inr (.inr h))

theorem guess_bool (u : UC) (v : Text) (h : u.upper v = Kw.TRUE.chars ∨ u.upper v = Kw.FALSE.chars) : Guessable u v :=
  (guessable_iff u v).mpr (.inl h)

/-- what the parser's value production relies on: the lexeme of a value token is classified by `guess_type_name`; the
    lexeme of a number token begins with a digit; the lexeme of MINUS is `-` -/
def TokOk (u : UC) (t : Tok) : Prop :=
  (isPlainValueTok t = true → Guessable u t.text) ∧
  (isNumTok t = true → ∃ c rest, t.text = c :: rest ∧ u.isDigit c = true) ∧
  (t.kind = .MINUS → t.text = ['-'])

theorem takeWhile_head {p : Char → Bool} {cs : Text} (h : cs.takeWhile p ≠ []) :
    ∃ c t, cs.takeWhile p = c :: t ∧ p c = true := by
  obtain ⟨c, t, e⟩ := List.exists_cons_of_ne_nil h
  exact ⟨c, t, e, List.all_eq_true.mp List.all_takeWhile c (e ▸ List.mem_cons_self)⟩

theorem mkTok_plain (u : UC) (r : Rule) (l : Text) (h : r.retypesReserved = false) : mkTok u r l = ⟨ruleKind r, l⟩ := by
  simp [mkTok, h]

theorem tokOk_other (u : UC) (t : Tok) (h1 : isPlainValueTok t = false) (h2 : isNumTok t = false) (h3 : t.kind ≠ .MINUS) :
    TokOk u t := by
  refine ⟨fun h => ?_, fun h => ?_, fun h => absurd h h3⟩
  · rw [h1] at h; cases h
  · rw [h2] at h; cases h

theorem matched_tokOk (u : UC) (r : Rule) (cs l rest : Text) (hm : matchRule u r cs = some (l, rest))
    (hr : r.returnsToken = true) : TokOk u (mkTok u r l) := by
  cases r with
  | comment => cases hr
  | newline => cases hr
  | COMMA | RELID | CARDINALITY | LPAREN | RPAREN | SEMICOLON =>
    rw [mkTok_plain u _ l rfl]; exact tokOk_other u _ rfl rfl (by simp [ruleKind])
  | MINUS =>
    rw [mkTok_plain u _ l rfl]
    refine ⟨fun h => by simp [isPlainValueTok, ruleKind] at h, fun h => by simp [isNumTok, ruleKind] at h, fun _ => ?_⟩
    obtain ⟨rfl, _⟩ := mChar_some hm
    rfl
  | NUMBER =>
    rw [mkTok_plain u _ l rfl]
    simp only [matchRule, mNumber] at hm
    split at hm
    · cases hm
    · rename_i hne
      simp only [Option.some.injEq, Prod.mk.injEq] at hm
      obtain ⟨rfl, _⟩ := hm
      obtain ⟨c, rest', htw, hc⟩ := takeWhile_head (by simpa using hne)
      have hd := u.isDigit_of_ascii hc
      refine ⟨fun _ => ?_, fun _ => ⟨c, _, htw, hd⟩, fun h => by simp [ruleKind] at h⟩
      show Guessable u (cs.takeWhile isAsciiDigit)
      rw [htw]; exact guess_digit_head u c _ hd
  | FRACTION =>
    rw [mkTok_plain u _ l rfl]
    simp only [matchRule, mFraction] at hm
    split at hm
    · cases hm
    · rename_i hne
      split at hm
      · cases hm
      · split at hm
        · split at hm
          · cases hm
          · simp only [Option.some.injEq, Prod.mk.injEq] at hm
            obtain ⟨rfl, _⟩ := hm
            obtain ⟨c, rest', htw, hc⟩ := takeWhile_head (by simpa using hne)
            refine ⟨fun _ => ?_, fun _ => ⟨c, _, by rw [htw]; rfl, hc⟩, fun h => by simp [ruleKind] at h⟩
            show Guessable u (cs.takeWhile u.isDigit ++ _)
            rw [htw]; exact guess_digit_head u c _ hc
        · cases hm
  | STRING =>
    rw [mkTok_plain u _ l rfl]
    refine ⟨fun _ => ?_, fun h => by simp [isNumTok, ruleKind] at h, fun h => by simp [ruleKind] at h⟩
    show Guessable u l
    apply guess_quoted u l; left
    simp only [matchRule] at hm
    cases cs with
    | nil => simp [mString] at hm
    | cons c r =>
      simp only [mString] at hm
      split at hm
      · cases hs : scanStr r with
        | none => rw [hs] at hm; cases hm
        | some p =>
          obtain ⟨b, rr⟩ := p
          rw [hs] at hm
          simp only [Option.some.injEq, Prod.mk.injEq] at hm
          obtain ⟨rfl, _⟩ := hm
          -- `guess_type_name` matches the STRING regex against the lexeme alone: the body with its closing quote scans again
          have := (scanStr_spec r b rr hs).2
          cases h2 : scanStr (b ++ ['\'']) with
          | none => rw [h2] at this; cases this
          | some q => simp [mString, h2]
      · cases hm
  | GUID =>
    rw [mkTok_plain u _ l rfl]
    refine ⟨fun _ => ?_, fun h => by simp [isNumTok, ruleKind] at h, fun h => by simp [ruleKind] at h⟩
    show Guessable u l
    apply guess_quoted u l; right
    simp only [matchRule] at hm
    cases cs with
    | nil => simp [mGuid] at hm
    | cons c r =>
      simp only [mGuid] at hm
      split at hm
      · cases hs : scanGuid r with
        | none => rw [hs] at hm; cases hm
        | some p =>
          obtain ⟨b, rr⟩ := p
          rw [hs] at hm
          simp only [Option.some.injEq, Prod.mk.injEq] at hm
          obtain ⟨rfl, _⟩ := hm
          have := (scanGuid_spec r b rr hs).2
          cases h2 : scanGuid (b ++ ['"']) with
          | none => rw [h2] at this; cases this
          | some q => simp [mGuid, h2]
      · cases hm
  | ID =>
    unfold mkTok
    simp only [Rule.retypesReserved, if_true]
    cases hk : kwOf (u.upper l) with
    | none => exact tokOk_other u _ rfl rfl (by simp [ruleKind])
    | some k =>
      simp only
      have hkc : k.chars = u.upper l := by
        unfold kwOf at hk
        have := List.find?_some hk
        simpa using this
      refine ⟨fun h => ?_, fun h => by simp [isNumTok] at h, fun h => by simp at h⟩
      show Guessable u l
      apply guess_bool
      cases k <;> simp [isPlainValueTok] at h
      · right; exact hkc.symm
      · left; exact hkc.symm

theorem step_tokOk (u : UC) (cs rest : Text) (t : Tok) (h : step u cs = .emit t rest) : TokOk u t := by
  have := step_inv u cs
  rw [h] at this
  obtain ⟨r, l, hm, hr, rfl⟩ := this
  exact matched_tokOk u r cs l rest hm hr

theorem lexFuel_tokOk (u : UC) : ∀ (n : Nat) (cs : Text) (toks : List Tok), lexFuel u n cs = some toks → ∀ t ∈ toks, TokOk u t := by
  intro n
  induction n with
  | zero => intro cs toks h; simp [lexFuel] at h
  | succ n ih =>
    intro cs toks h
    simp only [lexFuel] at h
    cases hs : step u cs with
    | eof => rw [hs] at h; simp only [Option.some.injEq] at h; subst h; simp
    | skip rest => rw [hs] at h; exact ih rest toks h
    | illegal => rw [hs] at h; cases h
    | emit t rest =>
      rw [hs] at h
      simp only [Option.map_eq_some_iff] at h
      obtain ⟨ts, hts, rfl⟩ := h
      intro x hx
      simp only [List.mem_cons] at hx
      rcases hx with rfl | hx
      · exact step_tokOk u cs rest x hs
      · exact ih rest ts hts x hx

def AllOk (u : UC) (toks : List Tok) : Prop := ∀ t ∈ toks, TokOk u t

theorem AllOk.suffix {u : UC} {r toks : List Tok} (h : AllOk u toks) (hs : r <:+ toks) : AllOk u r :=
  fun t ht => h t (hs.subset ht)

theorem valueAt_guessable (u : UC) (toks : List Tok) (x : Text × List Tok) (ha : AllOk u toks) (h : valueAt toks = some x) :
    Guessable u x.1 := by
  unfold valueAt at h
  split at h
  · rename_i t r
    split at h
    · rename_i hp
      simp only [Option.some.injEq] at h; subst h
      exact (ha t (by simp)).1 hp
    · split at h
      · rename_i hk
        split at h
        · rename_i t2 r2
          split at h
          · rename_i hn
            simp only [Option.some.injEq] at h; subst h
            have hm := (ha t (by simp)).2.2 hk
            obtain ⟨c, rest, htx, hd⟩ := (ha t2 (by simp)).2.1 hn
            show Guessable u (t.text ++ t2.text)
            rw [hm, htx]; exact guess_minus u c rest hd
          · cases h
        · cases h
      · cases h
  · cases h

def StmtGuessable (u : UC) : Stmt → Prop
  | .insert _ values _ => ∀ v ∈ values, Guessable u v
  | _ => True

theorem stmtAt_guessable (u : UC) (toks : List Tok) (x : Stmt × List Tok) (ha : AllOk u toks) (h : stmtAt toks = some x) :
    StmtGuessable u x.1 := by
  have hv := (stmtAt_spec h).2
  cases hx : x.1 <;> rw [hx] at hv <;> try trivial
  intro v hm
  obtain ⟨r, r', hr, hv'⟩ := hv v hm
  exact valueAt_guessable u r (v, r') (ha.suffix hr) hv'

theorem parseFuel_guessable (u : UC) : ∀ (n : Nat) (toks : List Tok) (stmts : List Stmt), AllOk u toks →
    parseFuel n toks = some stmts → ∀ st ∈ stmts, StmtGuessable u st := by
  intro n
  induction n with
  | zero =>
    intro toks stmts _ h
    cases toks with
    | nil => simp only [parseFuel, Option.some.injEq] at h; subst h; simp
    | cons t r => simp [parseFuel] at h
  | succ n ih =>
    intro toks stmts ha h
    cases toks with
    | nil => simp only [parseFuel, Option.some.injEq] at h; subst h; simp
    | cons t r =>
      simp only [parseFuel] at h
      cases hs : stmtAt (t :: r) with
      | none => rw [hs] at h; cases h
      | some x =>
        rw [hs] at h; simp only at h
        cases hp : parseFuel n x.2 with
        | none => rw [hp] at h; cases h
        | some ss =>
          rw [hp] at h; simp only [Option.some.injEq] at h; subst h
          intro st hst
          simp only [List.mem_cons] at hst
          rcases hst with rfl | hst
          · exact stmtAt_guessable u (t :: r) x ha hs
          · exact ih x.2 ss (ha.suffix (stmtAt_spec hs).1.suffix) hp st hst

/-- EVERY VALUE OF AN ACCEPTED TEXT IS CLASSIFIED by `guess_type_name` -/
theorem accepted_guessable (u : UC) (text : Text) (stmts : List Stmt) (h : classify u text = .accepted stmts) :
    ValuesGuessable u stmts := by
  unfold classify at h
  cases hl : lex u text with
  | none => simp [hl] at h
  | some toks =>
    simp only [hl] at h
    cases hp : parse toks with
    | none => simp [hp] at h
    | some ss =>
      simp only [hp, Classified.accepted.injEq] at h; subst h
      intro kind values names hm v hv
      exact parseFuel_guessable u _ toks ss (lexFuel_tokOk u _ text toks hl) hp _ hm v hv

theorem acceptedStmts_guessable (u : UC) (text : Text) : ValuesGuessable u (acceptedStmts u text) := by
  unfold acceptedStmts
  cases h : classify u text with
  | accepted s => exact accepted_guessable u text s h
  | parsing => intro _ _ _ hm; simp at hm

/-- … hence of everything a loader ever holds, whatever texts it was given -/
theorem inputs_guessable (u : UC) (texts : List Text) : ValuesGuessable u (Loader.inputs u Loader.fresh texts).statements := by
  rw [inputs_statements]
  intro kind values names hm v hv
  simp only [Loader.fresh, List.nil_append, List.mem_flatMap] at hm
  obtain ⟨t, _, ht⟩ := hm
  exact acceptedStmts_guessable u t kind values names ht v hv

/-- NO BUILT-IN EXCEPTION, for a loader: whatever texts were fed to it, its build returns a metamodel or raises the metamodel
    or the parsing exception -/
theorem loader_build_documented (u : UC) (texts : List Text) :
    (∃ s, (Loader.inputs u Loader.fresh texts).build u = .ok s) ∨
    (Loader.inputs u Loader.fresh texts).build u = .error .metaErr ∨
    (Loader.inputs u Loader.fresh texts).build u = .error .parseErr :=
  build_documented u _ (inputs_guessable u texts)

end Pyx.Sql
