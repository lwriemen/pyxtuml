import Proofs.ExtractScope

/-!
  C14 / C20 — the fuels of the model are never exhausted on acyclic populations: `is_global` (relational spec
  `InComp`), `_get_data_type_name` (relational spec `MapsTo`); what `resolvedRel` guarantees.
-/

namespace Pyx.Extract

/-- a C_C row lies on the containment chain of the packageable element -/
inductive InComp (cs : List Container) : Parent → Prop where
  | comp {c : Nat} {k : Container} : findContainer cs true c = some k → InComp cs (.comp c)
  | pkg {p : Nat} {k : Container} : findContainer cs false p = some k → InComp cs k.parent → InComp cs (.pkg p)

theorem global_fuel {cs : List Container} (depth : Parent → Nat)
    (hdec : ∀ k ∈ cs, depth k.parent < depth (if k.isComp then .comp k.id else .pkg k.id)) :
    ∀ (f : Nat) (p : Parent), depth p < f → (globalFuel cs f p = true ↔ ¬ InComp cs p) := by
  intro f
  induction f with
  | zero => intro p h; omega
  | succ f ih =>
    intro p hp
    cases p with
    | none => simp only [globalFuel, true_iff]; intro h; cases h
    | comp c =>
      simp only [globalFuel]
      cases hf : findContainer cs true c with
      | none =>
        simp only [Option.isNone_none, true_iff]
        intro h; cases h with
        | comp hk => rw [hf] at hk; cases hk
      | some k =>
        simp only [Option.isNone_some, Bool.false_eq_true, false_iff]
        exact fun hn => hn (InComp.comp hf)
    | pkg q =>
      simp only [globalFuel]
      cases hf : findContainer cs false q with
      | none =>
        simp only [true_iff]
        intro h; cases h with
        | pkg hk _ => rw [hf] at hk; cases hk
      | some k =>
        simp only
        obtain ⟨hm, hb, hi⟩ := findContainer_spec hf
        have hd := hdec k hm
        rw [hb, hi] at hd
        simp only [Bool.false_eq_true, if_false] at hd
        -- the rank drops from the package to its parent (`hd`), so the hypothesis applies with one unit of fuel less
        rw [ih k.parent (by omega)]
        constructor
        · intro hn h
          cases h with
          | pkg hk hin => rw [hf] at hk; cases hk; exact hn hin
        · intro hn h
          exact hn (.pkg hf h)

/-- `is_global` decides exactly "no C_C row on the containment chain"; the fuel is never exhausted -/
theorem global_iff {cs : List Container} {rf : List PkgRef} (tree : TreeOk cs rf) (p : Parent) :
    isGlobal cs p = true ↔ ¬ InComp cs p := by
  obtain ⟨depth, hdec, _, hb⟩ := tree.ex
  exact global_fuel depth hdec _ p (by have := hb p; omega)

/-- with package references: an element inside a component either has a component on its own containment chain, or there
    is a reference row whose two packages both exist (the chain left through one) -/
theorem reaches_inComp_or_ref {cs : List Container} {rf : List PkgRef} {root : Nat} {p : Parent} (h : Reaches cs rf root p) :
    InComp cs p ∨ ∃ r ∈ rf, (findContainer cs false r.referring).isSome ∧ (findContainer cs false r.referred).isSome := by
  induction h with
  | here hk => exact Or.inl (.comp hk)
  | pkg hk _ ih =>
    rcases ih with ih | ih
    · exact Or.inl (.pkg hk ih)
    · exact Or.inr ih
  | comp hk _ _ => exact Or.inl (.comp hk)
  | @ref q k r kq hk hr hrp hq _ _ => exact Or.inr ⟨r, hr, by simp [hq], by simp [hrp, hk]⟩

/-- the pyxtuml type of a data type, relationally: core 1..5 -> upper-cased name, enumeration -> INTEGER, user type
    -> the type of its base -/
inductive MapsTo (dts : List DataType) : Nat → String → Prop where
  | core {i : Nat} {t : DataType} {n : Nat} : findDt dts i = some t → t.kind = .core n → 1 ≤ n → n ≤ 5 → t.name ≠ "" →
      MapsTo dts i (upper t.name)
  | enum {i : Nat} {t : DataType} {es : List String} : findDt dts i = some t → t.kind = .enum es → MapsTo dts i "INTEGER"
  | user {i b : Nat} {t : DataType} {s : String} : findDt dts i = some t → t.kind = .user b → MapsTo dts b s →
      MapsTo dts i s

theorem dtTypeFuel_sound (dts : List DataType) : ∀ (f i : Nat) (s : String), dtTypeFuel dts f i = some s → MapsTo dts i s := by
  intro f
  induction f with
  | zero => intro i s h; simp [dtTypeFuel] at h
  | succ f ih =>
    intro i s h
    simp only [dtTypeFuel] at h
    cases hf : findDt dts i with
    | none => simp [hf] at h
    | some t =>
      rw [hf] at h
      simp only at h
      cases hk : t.kind with
      | core n =>
        rw [hk] at h
        simp only at h
        split at h
        · rename_i hn; cases h; exact .core hf hk hn.1 hn.2.1 hn.2.2
        · cases h
      | enum es => rw [hk] at h; cases h; exact .enum hf hk
      | user b => rw [hk] at h; exact .user hf hk (ih b s h)
      | other => rw [hk] at h; cases h

theorem attrTy_mapsTo {d : ClassDiagram} {a : Attr} {ty : String} (h : attrTy d a = some ty) : ∃ i, MapsTo d.dts i ty := by
  unfold attrTy at h
  obtain ⟨dt, _, h⟩ := Option.bind_eq_some_iff.mp h
  exact ⟨dt, dtTypeFuel_sound _ _ _ _ h⟩

theorem MapsTo.origin {dts : List DataType} {i : Nat} {ty : String} (m : MapsTo dts i ty) :
    ty = "INTEGER" ∨ ∃ t ∈ dts, ∃ n, t.kind = .core n ∧ 1 ≤ n ∧ n ≤ 5 ∧ ty = upper t.name := by
  induction m with
  | core hf hk h1 h5 _ => exact .inr ⟨_, List.mem_of_find?_eq_some hf, _, hk, h1, h5, rfl⟩
  | enum _ _ => exact .inl rfl
  | user _ _ _ ih => exact ih

theorem dtTypeFuel_complete {dts : List DataType} (depth : Nat → Nat)
    (hdec : ∀ t ∈ dts, ∀ b, t.kind = .user b → depth b < depth t.id) {i : Nat} {s : String} (h : MapsTo dts i s) :
    ∀ f, depth i < f → dtTypeFuel dts f i = some s := by
  induction h with
  | @core i t n hf hk h1 h5 hne =>
    intro f hlt
    cases f with
    | zero => omega
    | succ f => simp [dtTypeFuel, hf, hk, h1, h5, hne]
  | @enum i t es hf hk =>
    intro f hlt
    cases f with
    | zero => omega
    | succ f => simp [dtTypeFuel, hf, hk]
  | @user i b t s hf hk _ ih =>
    intro f hlt
    cases f with
    | zero => omega
    | succ f =>
      simp only [dtTypeFuel, hf, hk]
      obtain ⟨hm, hid⟩ := findDt_mem' hf
      have := hdec t hm b hk
      rw [hid] at this
      exact ih f (by omega)

/-- `_get_data_type_name` computes exactly `MapsTo`; the fuel is never exhausted on acyclic chains -/
theorem dtTypeName_iff {dts : List DataType} (chain : DtChainOk dts) (i : Nat) (s : String) :
    dtTypeName dts i = some s ↔ MapsTo dts i s := by
  constructor
  · exact dtTypeFuel_sound dts _ i s
  · intro h
    obtain ⟨depth, hdec, hb⟩ := chain.ex
    exact dtTypeFuel_complete depth hdec h _ (by have := hb i; omega)

theorem mapsTo_functional {dts : List DataType} {i : Nat} {s s' : String} (h : MapsTo dts i s) (h' : MapsTo dts i s') :
    s = s' := by
  induction h generalizing s' with
  | core hf hk _ _ _ => cases h' <;> simp_all
  | enum hf hk => cases h' <;> simp_all
  | user hf hk _ ih =>
    cases h' with
    | user hf' hk' hm' => rw [hf] at hf'; cases hf'; rw [hk] at hk'; cases hk'; exact ih hm'
    | _ => simp_all

theorem keyNames_length' {c : Class} {ids : List Nat} (h : ∀ i ∈ ids, (c.findAttr i).isSome = true) :
    (keyNames c ids).length = ids.length :=
  List.filterMap_length_eq_length.mpr fun i hi => by simpa using h i hi

theorem refsResolved_lengths {rc tc : Class} {refs : List Ref} (h : refsResolved rc tc refs = true) :
    (keyNames rc (refs.map (·.rattr))).length = refs.length ∧ (keyNames tc (refs.map (·.iattr))).length = refs.length := by
  unfold refsResolved at h
  simp only [List.all_eq_true, Bool.and_eq_true] at h
  constructor
  · rw [keyNames_length', List.length_map]
    intro i hi
    obtain ⟨r, hr, rfl⟩ := List.mem_map.mp hi
    exact (h r hr).1
  · rw [keyNames_length', List.length_map]
    intro i hi
    obtain ⟨r, hr, rfl⟩ := List.mem_map.mp hi
    exact (h r hr).2

theorem sideItem_key_lengths {d : ClassDiagram} {s : Side} (h : s.resolved d = true) {a : SAssoc}
    (hi : sideItem d s = some a) : a.src.keys.length = s.refs.length ∧ a.tgt.keys.length = s.refs.length := by
  obtain ⟨rc, tc, _, _, hres, hi'⟩ := Side.resolved_iff.mp h
  cases hi'.symm.trans hi
  exact refsResolved_lengths hres

/-- for a resolved relationship `groupOf` is defined, has the full number of associations (1 / 2 / one per
    subtype / 0) and every key list has one entry per O_REF: the totalisation (`none`, dropped keys) is not used -/
theorem resolved_group {d : ClassDiagram} {r : Rel} (h : resolvedRel d r = true) :
    ∃ g, groupOf d r = some g ∧
      g.items.length = (match r.kind with
        | .simple _ _ _ => 1 | .linked _ _ _ _ _ => 2 | .subsup _ subs => subs.length | .derived => 0) ∧
      ∀ a ∈ g.items, a.src.keys.length = a.tgt.keys.length := by
  obtain ⟨items, hg, hm⟩ := resolved_items h
  refine ⟨_, hg, ?_, fun a ha => ?_⟩
  · have := congrArg List.length hm
    simp only [List.length_map] at this
    rw [← this]
    cases r.kind <;> simp [RelKind.sides]
  · obtain ⟨s, hs, hi⟩ := List.mem_map.mp (hm ▸ List.mem_map_of_mem ha : some a ∈ r.kind.sides.map (sideItem d))
    obtain ⟨h1, h2⟩ := sideItem_key_lengths ((resolvedRel_sides.mp h).2 s hs) hi
    rw [h1, h2]

end Pyx.Extract
