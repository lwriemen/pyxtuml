import Proofs.ExtractShape

/-!
  C14 — restricting to a component: the scope filter is the containment chain of the PE_PE, restriction is
  monotone and composes, an association follows its R_REL (not its classes), what a component that builds satisfies
  (`mkComponent_some`: hence a dangling association makes the build raise); derived attributes exactly on request; the
  domain `TreeOk` is acyclicity (`TreeOk.of_acyclic`).
-/

namespace Pyx.Extract

/-- the containment chain of a packageable element reaches the component `root`:
    PE_PE -> (EP_PKG | C_C) -> its PE_PE -> … -> C_C `root`; from a package the chain may also continue at the PE_PE of
    a package that REFERS to it (an EP_PKGREF row, R1402: `ref`) -/
inductive Reaches (cs : List Container) (rf : List PkgRef) (root : Nat) : Parent → Prop where
  | here {k : Container} : findContainer cs true root = some k → Reaches cs rf root (.comp root)
  | pkg {p : Nat} {k : Container} : findContainer cs false p = some k → Reaches cs rf root k.parent → Reaches cs rf root (.pkg p)
  | comp {c : Nat} {k : Container} : findContainer cs true c = some k → Reaches cs rf root k.parent → Reaches cs rf root (.comp c)
  | ref {p : Nat} {k : Container} {r : PkgRef} {kq : Container} : findContainer cs false p = some k → r ∈ rf →
      r.referred = p → findContainer cs false r.referring = some kq → Reaches cs rf root kq.parent → Reaches cs rf root (.pkg p)

theorem contained_sound (cs : List Container) (rf : List PkgRef) (root : Nat) : ∀ (f : Nat) (p : Parent),
    containedFuel cs rf root f p = true → Reaches cs rf root p := by
  intro f
  induction f with
  | zero => intro p h; simp [containedFuel] at h
  | succ f ih =>
    intro p h
    cases p with
    | none => simp [containedFuel] at h
    | pkg q =>
      simp only [containedFuel] at h
      cases hf : findContainer cs false q with
      | none => simp [hf] at h
      | some k =>
        rw [hf] at h
        simp only [Bool.or_eq_true, List.any_eq_true, Bool.and_eq_true, beq_iff_eq] at h
        rcases h with h | ⟨r, hr, hrp, h⟩
        · exact .pkg hf (ih k.parent h)
        · cases hq : findContainer cs false r.referring with
          | none => simp [hq] at h
          | some kq => rw [hq] at h; exact .ref hf hr hrp hq (ih kq.parent h)
    | comp c =>
      simp only [containedFuel] at h
      cases hf : findContainer cs true c with
      | none => simp [hf] at h
      | some k =>
        rw [hf] at h
        simp only [Bool.or_eq_true, beq_iff_eq] at h
        rcases h with h | h
        · subst h; exact .here hf
        · exact .comp hf (ih k.parent h)

/-- THE DOMAIN: the container rows together with the package references form an acyclic graph whose depth the fuel of
    `containedIn` covers — a rank that drops from every container to its own parent (no cyclic containment) and from
    every referred package — an EP_PKG row that exists — to the parent of each package referring to it (no reference cycle:
    a package that refers to a package it lies in would make `is_contained_in` recurse for ever), bounded by the number of
    container rows (a path in an acyclic graph passes every container at most once).  With `rf = []` this is the containment
    forest alone (`TreeOk.no_pkgref`).  The rank is a function, and `TreeOk` a proposition (a field of `XWF`): it can only say
    that one exists, and every use opens `ex`. -/
structure TreeOk (cs : List Container) (rf : List PkgRef) : Prop where
  ex : ∃ depth : Parent → Nat,
    (∀ k ∈ cs, depth k.parent < depth (if k.isComp then .comp k.id else .pkg k.id)) ∧
    (∀ r ∈ rf, ∀ k kq, findContainer cs false r.referred = some k → findContainer cs false r.referring = some kq →
      depth kq.parent < depth (.pkg r.referred)) ∧
    ∀ p, depth p ≤ cs.length

theorem findContainer_spec {cs : List Container} {b : Bool} {i : Nat} {k : Container}
    (h : findContainer cs b i = some k) : k ∈ cs ∧ k.isComp = b ∧ k.id = i := by
  have hm := List.mem_of_find?_eq_some h
  have hp := List.find?_some h
  simp only [Bool.and_eq_true, beq_iff_eq] at hp
  exact ⟨hm, hp.1, hp.2⟩

/-- `TreeOk` from a rank with the first two clauses in decidable form (for concrete diagrams: checked by `decide`; the
    bound on the rank is over all `Parent` values and is shown by cases on the rank function) -/
theorem TreeOk.of_rank {cs : List Container} {rf : List PkgRef} (depth : Parent → Nat)
    (h1 : ∀ k ∈ cs, depth k.parent < depth (if k.isComp then .comp k.id else .pkg k.id))
    (h2 : ∀ r ∈ rf, (findContainer cs false r.referred).isNone = true ∨
      (findContainer cs false r.referring).all (fun kq => decide (depth kq.parent < depth (.pkg r.referred))) = true)
    (h3 : ∀ p, depth p ≤ cs.length) : TreeOk cs rf := by
  refine ⟨⟨depth, h1, ?_, h3⟩⟩
  intro r hr k kq hk hq
  rcases h2 r hr with h | h
  · rw [hk] at h; cases h
  · rw [hq] at h; simpa using h

theorem TreeOk.no_pkgref {cs : List Container} :
    TreeOk cs [] ↔ ∃ depth : Parent → Nat,
      (∀ k ∈ cs, depth k.parent < depth (if k.isComp then .comp k.id else .pkg k.id)) ∧ ∀ p, depth p ≤ cs.length := by
  constructor
  · rintro ⟨depth, h1, _, h3⟩; exact ⟨depth, h1, h3⟩
  · rintro ⟨depth, h1, h3⟩; exact ⟨⟨depth, h1, (fun r hr => by cases hr), h3⟩⟩

/-- dropping reference rows stays inside the domain -/
theorem TreeOk.mono {cs : List Container} {rf rf' : List PkgRef} (h : ∀ r ∈ rf', r ∈ rf) (t : TreeOk cs rf) : TreeOk cs rf' := by
  obtain ⟨depth, h1, h2, h3⟩ := t.ex
  exact ⟨⟨depth, h1, fun r hr => h2 r (h r hr), h3⟩⟩

theorem contained_complete_fuel {cs : List Container} {rf : List PkgRef} {root : Nat} (depth : Parent → Nat)
    (hdec : ∀ k ∈ cs, depth k.parent < depth (if k.isComp then .comp k.id else .pkg k.id))
    (href : ∀ r ∈ rf, ∀ k kq, findContainer cs false r.referred = some k → findContainer cs false r.referring = some kq →
      depth kq.parent < depth (.pkg r.referred))
    {p : Parent} (h : Reaches cs rf root p) : ∀ f, depth p < f → containedFuel cs rf root f p = true := by
  induction h with
  | @here k hk =>
    intro f hf
    cases f with
    | zero => omega
    | succ f => simp [containedFuel, hk]
  | @pkg q k hk _ ih =>
    intro f hf
    cases f with
    | zero => omega
    | succ f =>
      simp only [containedFuel, hk, Bool.or_eq_true]
      left
      obtain ⟨hm, hb, hi⟩ := findContainer_spec hk
      have := hdec k hm
      rw [hb, hi] at this
      simp only [Bool.false_eq_true, if_false] at this
      -- the rank drops along every step of `Reaches`, so the hypothesis, stated for every fuel above the rank, applies one
      -- unit lower
      exact ih f (by omega)
  | @comp c k hk _ ih =>
    intro f hf
    cases f with
    | zero => omega
    | succ f =>
      simp only [containedFuel, hk, Bool.or_eq_true, beq_iff_eq]
      right
      obtain ⟨hm, hb, hi⟩ := findContainer_spec hk
      have := hdec k hm
      rw [hb, hi] at this
      simp only [if_true] at this
      exact ih f (by omega)
  | @ref q k r kq hk hr hrp hq _ ih =>
    intro f hf
    cases f with
    | zero => omega
    | succ f =>
      simp only [containedFuel, hk, Bool.or_eq_true, List.any_eq_true, Bool.and_eq_true, beq_iff_eq]
      right
      refine ⟨r, hr, hrp, ?_⟩
      rw [hq]
      have := href r hr k kq (hrp ▸ hk) hq
      rw [hrp] at this
      exact ih f (by omega)

/-- on the domain `TreeOk` EVERY fuel above the number of container rows decides exactly "the containment chain —
    continued over package references — reaches the component": the fuel is never exhausted -/
theorem contained_fuel_iff {cs : List Container} {rf : List PkgRef} (tree : TreeOk cs rf) (root : Nat) (p : Parent) {f : Nat}
    (hf : cs.length < f) : containedFuel cs rf root f p = true ↔ Reaches cs rf root p := by
  obtain ⟨depth, hdec, href, hb⟩ := tree.ex
  exact ⟨contained_sound cs rf root f p, fun h => contained_complete_fuel depth hdec href h f (by have := hb p; omega)⟩

theorem contained_iff {cs : List Container} {rf : List PkgRef} (tree : TreeOk cs rf) (root : Nat) (p : Parent) :
    containedIn cs rf root p = true ↔ Reaches cs rf root p :=
  contained_fuel_iff tree root p (Nat.lt_succ_self _)

/-- a conservative extension: without EP_PKGREF rows `containedFuel` is the plain walk up the containment, `containedFuelPlain` -/
theorem containedFuel_no_pkgref (cs : List Container) (root : Nat) :
    ∀ (f : Nat) (p : Parent), containedFuel cs [] root f p = containedFuelPlain cs root f p := by
  intro f p
  fun_induction containedFuelPlain cs root f p <;> simp_all [containedFuel]

/-- only the reference rows whose both ends exist matter: one that targets no package, or whose referring package does not
    exist, changes nothing -/
theorem containedFuel_rows_congr (cs : List Container) {rf rf' : List PkgRef} (root : Nat)
    (h : ∀ r, (r ∈ rf ∧ (findContainer cs false r.referring).isSome ∧ (findContainer cs false r.referred).isSome) ↔
              (r ∈ rf' ∧ (findContainer cs false r.referring).isSome ∧ (findContainer cs false r.referred).isSome)) :
    ∀ (f : Nat) (p : Parent), containedFuel cs rf root f p = containedFuel cs rf' root f p := by
  intro f
  induction f with
  | zero => intro p; rfl
  | succ f ih =>
    intro p
    cases p with
    | none => rfl
    | pkg q =>
      simp only [containedFuel]
      cases hk : findContainer cs false q with
      | none => rfl
      | some k =>
        simp only
        rw [ih k.parent]
        congr 1
        rw [Bool.eq_iff_iff]
        simp only [List.any_eq_true, Bool.and_eq_true, beq_iff_eq]
        constructor
        · rintro ⟨r, hr, hrp, hc⟩
          cases hq : findContainer cs false r.referring with
          | none => simp [hq] at hc
          | some kq =>
            rw [hq] at hc
            simp only at hc
            have := (h r).mp ⟨hr, by simp [hq], by simp [hrp, hk]⟩
            exact ⟨r, this.1, hrp, by rw [hq]; simp only; rw [← ih]; exact hc⟩
        · rintro ⟨r, hr, hrp, hc⟩
          cases hq : findContainer cs false r.referring with
          | none => simp [hq] at hc
          | some kq =>
            rw [hq] at hc
            simp only at hc
            have := (h r).mpr ⟨hr, by simp [hq], by simp [hrp, hk]⟩
            exact ⟨r, this.1, hrp, by rw [hq]; simp only; rw [ih]; exact hc⟩
    | comp c =>
      simp only [containedFuel]
      cases findContainer cs true c with
      | none => rfl
      | some k => simp only; rw [ih k.parent]

theorem reaches_no_pkgref_cases {cs : List Container} {root : Nat} {p : Parent} (h : Reaches cs [] root p) :
    (∃ k, p = .comp root ∧ findContainer cs true root = some k) ∨
    (∃ q k, p = .pkg q ∧ findContainer cs false q = some k ∧ Reaches cs [] root k.parent) ∨
    (∃ c k, p = .comp c ∧ findContainer cs true c = some k ∧ Reaches cs [] root k.parent) := by
  cases h with
  | here hk => exact Or.inl ⟨_, rfl, hk⟩
  | pkg hk h => exact Or.inr (Or.inl ⟨_, _, rfl, hk, h⟩)
  | comp hk h => exact Or.inr (Or.inr ⟨_, _, rfl, hk, h⟩)
  | ref _ hr _ _ _ => cases hr

theorem reaches_mono_rows {cs : List Container} {rf rf' : List PkgRef} (hsub : ∀ r ∈ rf, r ∈ rf') {root : Nat} {p : Parent}
    (h : Reaches cs rf root p) : Reaches cs rf' root p := by
  induction h with
  | here hk => exact .here hk
  | pkg hk _ ih => exact .pkg hk ih
  | comp hk _ ih => exact .comp hk ih
  | ref hk hr hrp hq _ ih => exact .ref hk (hsub _ hr) hrp hq ih

/-- component `c1` lies inside component `c2` (or is `c2`): everything inside `c1` is inside `c2` -/
theorem reaches_trans {cs : List Container} {rf : List PkgRef} {c1 c2 : Nat} (h12 : Reaches cs rf c2 (.comp c1)) {p : Parent}
    (h : Reaches cs rf c1 p) : Reaches cs rf c2 p := by
  induction h with
  | here _ => exact h12
  | pkg hk _ ih => exact .pkg hk ih
  | comp hk _ ih => exact .comp hk ih
  | ref hk hr hrp hq _ ih => exact .ref hk hr hrp hq ih

theorem filter_filter_of_imp {α : Type} {p q : α → Bool} (h : ∀ x, p x = true → q x = true) (l : List α) :
    (l.filter q).filter p = l.filter p :=
  List.filter_filter.trans (List.filter_congr fun a _ => Bool.and_eq_left_iff_imp.mpr (h a))

theorem filter_sublist_of_imp {α : Type} {p q : α → Bool} (h : ∀ x, p x = true → q x = true) (l : List α) :
    (l.filter p).Sublist (l.filter q) :=
  filter_filter_of_imp h l ▸ List.filter_sublist

section restrict
variable {d : ClassDiagram} (tree : TreeOk d.containers d.pkgrefs)

include tree in
theorem inScope_mono {c1 c2 : Nat} (h12 : Reaches d.containers d.pkgrefs c2 (.comp c1)) (p : Parent)
    (h : inScope d.containers d.pkgrefs (some c1) p = true) : inScope d.containers d.pkgrefs (some c2) p = true := by
  simp only [inScope] at h ⊢
  exact (contained_iff tree c2 p).mpr (reaches_trans h12 ((contained_iff tree c1 p).mp h))

include tree in
/-- restriction is monotone: component ⊆ enclosing component ⊆ whole model, for classes and associations, each
    kept definition being literally the same -/
theorem restrict_monotone' {c1 c2 : Nat} (h12 : Reaches d.containers d.pkgrefs c2 (.comp c1)) (drv : Bool) :
    (extract d (some c1) drv).classes.Sublist (extract d (some c2) drv).classes ∧
    (extract d (some c2) drv).classes.Sublist (extract d none drv).classes ∧
    (extract d (some c1) drv).groups.Sublist (extract d (some c2) drv).groups ∧
    (extract d (some c2) drv).groups.Sublist (extract d none drv).groups := by
  unfold extract
  refine ⟨?_, ?_, ?_, ?_⟩
  · exact List.Sublist.map _ (filter_sublist_of_imp (fun k h => inScope_mono tree h12 k.parent h) _)
  · exact List.Sublist.map _ (filter_sublist_of_imp (fun _ _ => rfl) _)
  · exact List.Sublist.filterMap _ (filter_sublist_of_imp (fun r h => inScope_mono tree h12 r.parent h) _)
  · exact List.Sublist.filterMap _ (filter_sublist_of_imp (fun _ _ => rfl) _)

include tree in
/-- restricting the restriction: filtering the classes / relationships of the enclosing component `c2` by
    containment in `c1` gives the restriction to `c1` (for `c1 = c2`: restricting twice = restricting once) -/
theorem restrict_compose' {c1 c2 : Nat} (h12 : Reaches d.containers d.pkgrefs c2 (.comp c1)) (drv : Bool) :
    ((d.classes.filter (fun k => inScope d.containers d.pkgrefs (some c2) k.parent)).filter
        (fun k => inScope d.containers d.pkgrefs (some c1) k.parent)).map (classOf d drv) = (extract d (some c1) drv).classes ∧
    ((d.rels.filter (fun r => inScope d.containers d.pkgrefs (some c2) r.parent)).filter
        (fun r => inScope d.containers d.pkgrefs (some c1) r.parent)).filterMap (groupOf d) = (extract d (some c1) drv).groups := by
  unfold extract
  constructor
  · rw [filter_filter_of_imp (fun k h => inScope_mono tree h12 k.parent h)]
  · rw [filter_filter_of_imp (fun r h => inScope_mono tree h12 r.parent h)]

include tree in
/-- exactly the classes whose containment chain reaches the component, each defined as in the whole model; an
    association is kept iff the containment chain of its R_REL reaches the component — whatever its classes -/
theorem restrict_exact' (c : Nat) (drv : Bool) :
    (∀ s, s ∈ (extract d (some c) drv).classes ↔
      ∃ k ∈ d.classes, Reaches d.containers d.pkgrefs c k.parent ∧ s = classOf d drv k) ∧
    (∀ g, g ∈ (extract d (some c) drv).groups ↔
      ∃ r ∈ d.rels, Reaches d.containers d.pkgrefs c r.parent ∧ groupOf d r = some g) := by
  unfold extract
  constructor
  · intro s
    simp only [List.mem_map, List.mem_filter, inScope]
    constructor
    · rintro ⟨k, ⟨hk, hs⟩, rfl⟩
      exact ⟨k, hk, (contained_iff tree c _).mp hs, rfl⟩
    · rintro ⟨k, hk, hr, rfl⟩
      exact ⟨k, ⟨hk, (contained_iff tree c _).mpr hr⟩, rfl⟩
  · intro g
    simp only [List.mem_filterMap, List.mem_filter, inScope]
    constructor
    · rintro ⟨r, ⟨hr, hs⟩, hg⟩
      exact ⟨r, hr, (contained_iff tree c _).mp hs, hg⟩
    · rintro ⟨r, hr, hreach, hg⟩
      exact ⟨r, ⟨hr, (contained_iff tree c _).mpr hreach⟩, hg⟩

end restrict

theorem mkComponent_some {d : ClassDiagram} {comp : Option Nat} {drv : Bool} {s : Schema}
    (h : mkComponent d comp drv = some s) :
    s = extract d comp drv ∧ (s.classes.map (fun c => upper c.kl)).Nodup ∧
    ∀ g ∈ s.groups, ∀ a ∈ g.items,
      (∃ c ∈ s.classes, upper c.kl = upper a.src.kind) ∧
      (∃ c ∈ s.classes, upper c.kl = upper a.tgt.kind) ∧
      a.src.keys.length = a.tgt.keys.length ∧
      (∃ c ∈ s.classes, upper c.kl = upper a.tgt.kind ∧
        ∀ k ∈ a.tgt.keys, upper k ∈ c.attrs.map (fun x => upper x.name)) := by
  unfold mkComponent at h
  simp only at h
  split at h
  · rename_i hd
    cases h
    unfold Schema.definable at hd
    simp only [Bool.and_eq_true, decide_eq_true_eq, List.all_eq_true] at hd
    refine ⟨rfl, hd.1, ?_⟩
    intro g hg a ha
    have := hd.2 g hg a ha
    unfold assocDefinable endDefinable targetKeysKnown at this
    simp only [Bool.and_eq_true, List.any_eq_true, beq_iff_eq] at this
    obtain ⟨⟨⟨h1, h2⟩, hlen⟩, h3⟩ := this
    refine ⟨h1, h2, hlen, ?_⟩
    cases hf : (extract d comp drv).classes.find? (fun c => upper c.kl == upper a.tgt.kind) with
    | none => rw [hf] at h3; cases h3
    | some c =>
      rw [hf] at h3
      simp only [List.all_eq_true, List.contains_eq_mem, decide_eq_true_eq] at h3
      have hp := List.find?_some hf
      exact ⟨c, List.mem_of_find?_eq_some hf, by simpa using hp, h3⟩
  · cases h

theorem derived_off' (d : ClassDiagram) (c : Class) (s : SAttr) (h : s ∈ (classOf d false c).attrs) :
    ∃ a ∈ c.attrs, a.name = s.name ∧ a.isDerived = false ∧ attrTy d a = some s.ty := by
  obtain ⟨a, ha, hn, hd, ht⟩ := classOf_attr_mem.mp h
  rcases hd with hd | hd
  · cases hd
  · exact ⟨a, ha, hn, hd, ht⟩

/-- flag off = flag on applied to the non-derived attributes: the derived ones disappear, everything else stays
    where it was -/
theorem derived_flag' (d : ClassDiagram) (c : Class) :
    (classOf d false c).attrs = (c.attrs.filter (fun a => !a.isDerived)).filterMap (sattr d true) ∧
    (classOf d true c).attrs.map (·.name) = (c.attrs.filter (fun a => (attrTy d a).isSome)).map (·.name) := by
  constructor
  · show c.attrs.filterMap (sattr d false) = _
    rw [List.filterMap_filter]
    exact filterMap_congr' fun a _ => by unfold sattr; cases a.isDerived <;> rfl
  · rw [classOf_attr_names]
    have : c.attrs.filter (Attr.kept d true) = c.attrs.filter (fun a => (attrTy d a).isSome) := by
      apply List.filter_congr
      intro a _
      unfold Attr.kept
      simp
    rw [this]

/-! ### the domain `TreeOk` is plain acyclicity

  The bound "rank ≤ number of container rows" that `TreeOk` carries (it is what makes the fuel `cs.length + 1` of
  `containedIn` / `isGlobal` sufficient) can always be met: any rank that drops along the containment and reference steps can
  be compressed to one that is bounded by the number of container rows (count the container rows of rank at most one's own). -/

theorem filter_length_lt {α : Type} {P P' : α → Bool} :
    ∀ l : List α, (∀ x ∈ l, P' x = true → P x = true) → (∃ x ∈ l, P x = true ∧ P' x = false) →
      (l.filter P').length < (l.filter P).length := by
  intro l himp ⟨x, hx, hpx, hpx'⟩
  obtain ⟨l1, l2, rfl⟩ := List.append_of_mem hx
  have mono : ∀ l' : List α, (∀ y ∈ l', P' y = true → P y = true) → (l'.filter P').length ≤ (l'.filter P).length :=
    fun l' h => by simpa only [List.countP_eq_length_filter] using List.countP_mono_left h
  have h1 := mono l1 (fun y hy => himp y (List.mem_append_left _ hy))
  have h2 := mono l2 (fun y hy => himp y (List.mem_append_right _ (List.mem_cons_of_mem _ hy)))
  simp only [List.filter_append, List.filter_cons, hpx, hpx', List.length_append, List.length_cons, if_true, Bool.false_eq_true,
    if_false]
  omega

/-- ACYCLIC = `TreeOk`: a rank (ANY natural-valued function) that drops from every container row to its parent and from
    every referred package (that exists) to the parent of every package referring to it (that exists) — i.e. the graph
    `is_contained_in` walks has no cycle — is all the domain asks; the bounded rank `TreeOk` wants exists then -/
theorem TreeOk.of_acyclic {cs : List Container} {rf : List PkgRef} (depth : Parent → Nat)
    (h1 : ∀ k ∈ cs, depth k.parent < depth (if k.isComp then .comp k.id else .pkg k.id))
    (h2 : ∀ r ∈ rf, ∀ k kq, findContainer cs false r.referred = some k → findContainer cs false r.referring = some kq →
      depth kq.parent < depth (.pkg r.referred)) : TreeOk cs rf := by
  let S : List Parent := cs.map fun k => if k.isComp then .comp k.id else .pkg k.id
  let rank : Parent → Nat := fun p =>
    if p ∈ S then (S.filter (fun s => decide (depth s ≤ depth p))).length else 0
  have step : ∀ p p', p ∈ S → depth p' < depth p → rank p' < rank p := by
    intro p p' hp hlt
    have hpos : rank p = (S.filter (fun s => decide (depth s ≤ depth p))).length := by
      show (if p ∈ S then _ else 0) = _
      rw [if_pos hp]
    rw [hpos]
    by_cases hp' : p' ∈ S
    · have : rank p' = (S.filter (fun s => decide (depth s ≤ depth p'))).length := by
        show (if p' ∈ S then _ else 0) = _
        rw [if_pos hp']
      rw [this]
      -- strict: `p` is counted for itself and not for a `p'` of smaller depth
      apply filter_length_lt
      · intro x _ hx
        simp only [decide_eq_true_eq] at hx ⊢
        omega
      · refine ⟨p, hp, ?_, ?_⟩
        · simp
        · simp only [decide_eq_false_iff_not]; omega
    · have : rank p' = 0 := by
        show (if p' ∈ S then _ else 0) = _
        rw [if_neg hp']
      rw [this]
      apply List.length_pos_of_mem (a := p)
      exact List.mem_filter.mpr ⟨hp, by simp⟩
  refine ⟨⟨rank, ?_, ?_, ?_⟩⟩
  · intro k hk
    exact step _ _ (List.mem_map.mpr ⟨k, hk, rfl⟩) (h1 k hk)
  · intro r hr k kq hk hq
    obtain ⟨hm, hb, hi⟩ := findContainer_spec hk
    have hs : Parent.pkg r.referred ∈ S :=
      List.mem_map.mpr ⟨k, hm, by show (if k.isComp then _ else _) = _; rw [hb, hi]; rfl⟩
    exact step _ _ hs (h2 r hr k kq hk hq)
  · intro p
    show (if p ∈ S then _ else 0) ≤ cs.length
    split
    · calc (S.filter _).length ≤ S.length := List.length_filter_le _ _
        _ = cs.length := List.length_map _
    · exact Nat.zero_le _

end Pyx.Extract
