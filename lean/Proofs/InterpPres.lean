import Proofs.InterpNoMsg

/-!
  Relational Hoare-style combinators for the interpreter monad: `Pres R m` — every successful run of
  `m` relates its start and end configuration by `R`.  Used for well-formedness preservation
  (Proofs/InterpWF.lean) and for frame / scope preservation (Proofs/InterpScope.lean).
-/
namespace Pyx.Interp
open M
open Pyx.IShape (bind_run)

theorem bind_ok {α β : Type} {m : M α} {f : α → M β} {c c1 : Cfg} {a : α}
    (h : m c = some (.ok (a, c1))) : (m >>= f) c = f a c1 := by
  rw [bind_run, h]

theorem bind_err {α β : Type} {m : M α} {f : α → M β} {c : Cfg} {e : Err}
    (h : m c = some (.error e)) : (m >>= f) c = some (.error e) := by
  rw [bind_run, h]

theorem pure_bnd {α β : Type} (a : α) (f : α → M β) : (pure a >>= f) = f a := rfl

theorem bnd_assoc {α β γ : Type} (m : M α) (f : α → M β) (g : β → M γ) :
    (m >>= f >>= g) = (m >>= fun a => f a >>= g) := by
  funext c
  simp only [bind_run]
  rcases m c with _ | _ | _ <;> rfl

theorem bnd_pure {α : Type} (m : M α) : (m >>= pure) = m := by
  funext c
  rw [bind_run]
  rcases m c with _ | _ | _ <;> rfl

instance : LawfulMonad M := LawfulMonad.mk' M
  (id_map := fun x => bnd_pure x)
  (pure_bind := fun a f => pure_bnd a f)
  (bind_assoc := fun m f g => bnd_assoc m f g)

def Pres {α : Type} (R : Cfg → Cfg → Prop) (m : M α) : Prop :=
  ∀ c a c', m c = some (.ok (a, c')) → R c c'

structure PreOrder (R : Cfg → Cfg → Prop) : Prop where
  refl : ∀ c, R c c
  trans : ∀ a b c, R a b → R b c → R a c

theorem bind_inv {α β : Type} {m : M α} {f : α → M β} {c : Cfg} {r : Except Err (β × Cfg)}
    (h : (m >>= f) c = some r) :
    (∃ e, m c = some (.error e) ∧ r = .error e) ∨ (∃ a c1, m c = some (.ok (a, c1)) ∧ f a c1 = some r) := by
  rw [bind_run] at h
  split at h
  · cases h
  · next e he => exact .inl ⟨e, he, (Option.some.inj h).symm⟩
  · next a c1 he => exact .inr ⟨a, c1, he, h⟩

theorem bind_ok_inv {α β : Type} {m : M α} {f : α → M β} {c c' : Cfg} {b : β}
    (h : (m >>= f) c = some (.ok (b, c'))) : ∃ a c1, m c = some (.ok (a, c1)) ∧ f a c1 = some (.ok (b, c')) :=
  (bind_inv h).resolve_left fun ⟨_, _, he⟩ => by cases he

theorem pres_bind {α β : Type} {R : Cfg → Cfg → Prop} (po : PreOrder R) {m : M α} {f : α → M β}
    (hm : Pres R m) (hf : ∀ a, Pres R (f a)) : Pres R (m >>= f) := fun c b c' h =>
  have ⟨a, c1, h1, h2⟩ := bind_ok_inv h
  po.trans _ _ _ (hm c a c1 h1) (hf a c1 b c' h2)

def Neutral {α : Type} (m : M α) : Prop := ∀ c a c', m c = some (.ok (a, c')) → c' = c

theorem pres_of_neutral {α : Type} {R : Cfg → Cfg → Prop} (po : PreOrder R) {m : M α} (h : Neutral m) : Pres R m := by
  intro c a c' hc
  rw [h c a c' hc]; exact po.refl c

theorem neutral_pure {α : Type} (a : α) : Neutral (pure a : M α) := by
  intro c b c' h
  have h' : M.ret' a c = some (.ok (b, c')) := h
  simp [M.ret'] at h'; exact h'.2.symm

theorem neutral_fail {α : Type} (msg : String) : Neutral (fail msg : M α) := by
  intro c b c' h; simp [fail] at h

theorem neutral_liftE {α : Type} (x : Except Err α) : Neutral (liftE x) := by
  intro c b c' h
  unfold liftE at h
  split at h
  · simp at h; exact h.2.symm
  · simp at h

theorem neutral_getFr : Neutral getFr := by
  intro c b c' h; simp [getFr] at h; exact h.2.symm

theorem neutral_getSt : Neutral getSt := by
  intro c b c' h; simp [getSt] at h; exact h.2.symm

theorem neutral_querySt {α : Type} (f : State → Except Err α) : Neutral (querySt f) := by
  intro c b c' h
  unfold querySt at h
  split at h
  · simp at h; exact h.2.symm
  · simp at h

theorem neutral_asBool (v : Val) : Neutral (asBool v) := by
  unfold asBool; cases v <;> first | exact neutral_pure _ | exact neutral_fail _

theorem neutral_startOf (v : Val) : Neutral (startOf v) := by
  unfold startOf; cases v <;> first | exact neutral_pure _ | exact neutral_fail _

/-- a computation that only inspects: a value in the unchanged configuration, or a domain error (never out of fuel) -/
def Check {α : Type} (m : M α) : Prop := ∀ c, (∃ a, m c = some (.ok (a, c))) ∨ (∃ e, m c = some (.error e))

theorem Check.neutral {α : Type} {m : M α} (h : Check m) : Neutral m := fun c a c' hc => by
  rcases h c with ⟨b, hb⟩ | ⟨e, he⟩
  · rw [hb] at hc
    cases hc
    rfl
  · rw [he] at hc
    cases hc

theorem check_asInst (v : Val) : Check (asInst v) := by
  intro c; cases v <;> first | exact .inl ⟨_, rfl⟩ | exact .inr ⟨_, rfl⟩

theorem check_lookupVar (C : Ctx) (x : String) : Check (lookupVar C x) := by
  intro c
  unfold lookupVar
  rw [bind_ok (getFr_run c)]
  cases selfHit c.fr x with
  | true => exact .inl ⟨_, rfl⟩
  | false =>
    simp only [Bool.false_eq_true, ↓reduceIte]
    cases envLookup c.fr.env x with
    | some v => exact .inl ⟨_, rfl⟩
    | none =>
      cases List.lookup x C.consts with
      | some v => exact .inl ⟨_, rfl⟩
      | none => exact .inr ⟨_, rfl⟩

theorem neutral_asInst (v : Val) : Neutral (asInst v) := (check_asInst v).neutral

theorem neutral_lookupVar (C : Ctx) (x : String) : Neutral (lookupVar C x) := (check_lookupVar C x).neutral


theorem pure_ok_inv {α : Type} {a b : α} {c c' : Cfg} (h : (pure a : M α) c = some (.ok (b, c'))) : b = a ∧ c' = c := by
  have h' : M.ret' a c = some (.ok (b, c')) := h
  simp only [M.ret', Option.some.injEq, Except.ok.injEq, Prod.mk.injEq] at h'
  exact ⟨h'.1.symm, h'.2.symm⟩

end Pyx.Interp
