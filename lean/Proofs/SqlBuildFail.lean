import Proofs.SqlBuildTotal
import Proofs.SqlAttrNames

/-! why ONE INSERT fails, in the state the earlier statements left: `popInstance … = .error e ↔ InsertFails … e`, each test
    spelled out, and the completeness directions one by one -/
namespace Pyx.Sql

theorem newRowOk_false (u : UC) (c : ClassB) (h : newRowOk u c = false) :
    ∃ a ∈ c.attrs, c.referential.contains a.1 = false ∧ tyOfName u a.2 = none := by
  unfold newRowOk at h
  rw [List.all_eq_false] at h
  obtain ⟨a, ha, hx⟩ := h
  refine ⟨a, ha, ?_⟩
  simp only [Bool.or_eq_true, not_or, Bool.not_eq_true, Option.isSome_eq_false_iff, Option.isNone_iff_eq_none] at hx
  exact hx

theorem ensureClass_finds (u : UC) (s : BState) (kind : Name) (named : Bool) (ns : List Name) (values : List Text) :
    ∃ c, (ensureClass u s kind named ns values).find? u kind = some c := by
  unfold ensureClass
  cases hs : s.find? u kind with
  | some c => exact ⟨c, hs⟩
  | none =>
    simp only [BState.find?, List.find?_append]
    simp only [BState.find?] at hs
    simp [hs]

theorem cellsOf_error (u : UC) (c : ClassB) (names : Option (List Name)) (values : List Text) (e : BuildErr)
    (ha : (isNamed names && (names.getD []).length != values.length) = false)
    (h : cellsOf u c (isNamed names) (names.getD []) values = .error e) :
    e = .parseErr ∧ ∃ a ∈ c.attrs, ∃ v ∈ values, deserialize u a.2 v = none := by
  unfold cellsOf at h
  by_cases hnamed : isNamed names = true
  · simp only [hnamed, if_true] at h
    exact namedCells_error u (names.getD []) values (by simpa [hnamed] using ha) c.attrs e h
  · simp only [hnamed, Bool.false_eq_true, if_false] at h
    exact positionalCells_error u c c.attrs values e h

/-- WHY one INSERT fails, in the state `s` the earlier statements left; `c` is the class of the statement's kind in
    that state, declared, inferred by an earlier INSERT, or inferred from this one:
    * a named INSERT with different numbers of names and values                       -> parsing exception
    * else the class is inferred from a named INSERT with two names equal after upper-casing, or with a reserved
      name `__x__` (`inferOk`)                                                                -> metamodel exception
    * else the class is inferred and `guess_type_name` knows no type for a value (`guessOk`)  -> built-in (AttributeError)
    * else `c` has a non-referential attribute whose type `default_value` does not know        -> metamodel exception
    * else a value cannot be read for the type of its column                                   -> parsing exception -/
inductive InsertFails (u : UC) (s : BState) (kind : Name) (values : List Text) (names : Option (List Name)) : BuildErr → Prop
  | arity : (isNamed names && (names.getD []).length != values.length) = true → InsertFails u s kind values names .parseErr
  | nameClash : (isNamed names && (names.getD []).length != values.length) = false →
      inferOk u s kind (isNamed names) (names.getD []) values = false → InsertFails u s kind values names .metaErr
  | unguessable : (isNamed names && (names.getD []).length != values.length) = false →
      inferOk u s kind (isNamed names) (names.getD []) values = true → guessOk u s kind values = false →
      InsertFails u s kind values names .builtinErr
  | unknownType (c : ClassB) : (isNamed names && (names.getD []).length != values.length) = false →
      inferOk u s kind (isNamed names) (names.getD []) values = true → guessOk u s kind values = true →
      (ensureClass u s kind (isNamed names) (names.getD []) values).find? u kind = some c →
      (∃ a ∈ c.attrs, c.referential.contains a.1 = false ∧ tyOfName u a.2 = none) → InsertFails u s kind values names .metaErr
  | badValue (c : ClassB) : (isNamed names && (names.getD []).length != values.length) = false →
      inferOk u s kind (isNamed names) (names.getD []) values = true → guessOk u s kind values = true →
      (ensureClass u s kind (isNamed names) (names.getD []) values).find? u kind = some c → newRowOk u c = true →
      (∃ e, cellsOf u c (isNamed names) (names.getD []) values = .error e) →
      (∃ a ∈ c.attrs, ∃ v ∈ values, deserialize u a.2 v = none) → InsertFails u s kind values names .parseErr

theorem newRowOk_false_iff (u : UC) (c : ClassB) :
    newRowOk u c = false ↔ ∃ a ∈ c.attrs, c.referential.contains a.1 = false ∧ tyOfName u a.2 = none := by
  constructor
  · exact newRowOk_false u c
  · intro ⟨a, ha, h1, h2⟩
    unfold newRowOk
    rw [List.all_eq_false]
    refine ⟨a, ha, ?_⟩
    rw [h1, h2]; simp

theorem popInstance_error_iff (u : UC) (s : BState) (kind : Name) (values : List Text) (names : Option (List Name)) (e : BuildErr) :
    popInstance u s kind values names = .error e ↔ InsertFails u s kind values names e := by
  -- after `ensureClass` the lookup succeeds: the `none` arm of `popInstance` is not reached
  obtain ⟨c, hc⟩ := ensureClass_finds u s kind (isNamed names) (names.getD []) values
  constructor
  · intro h
    unfold popInstance at h
    by_cases ha : (isNamed names && (names.getD []).length != values.length) = true
    · simp only [ha, if_true, Except.error.injEq] at h; subst h; exact .arity ha
    have ha' : (isNamed names && (names.getD []).length != values.length) = false := by simpa using ha
    simp only [ha', Bool.false_eq_true, if_false] at h
    by_cases hi : inferOk u s kind (isNamed names) (names.getD []) values = true
    case neg =>
      simp only [hi, Bool.not_false, if_true, Except.error.injEq] at h; subst h
      exact .nameClash ha' (by simpa using hi)
    simp only [hi, Bool.not_true, Bool.false_eq_true, if_false] at h
    by_cases hg : guessOk u s kind values = true
    case neg =>
      simp only [hg, Bool.not_false, if_true, Except.error.injEq] at h; subst h
      exact .unguessable ha' hi (by simpa using hg)
    simp only [hg, Bool.not_true, Bool.false_eq_true, if_false, hc] at h
    by_cases hr : newRowOk u c = true
    case neg =>
      simp only [hr, Bool.not_false, if_true, Except.error.injEq] at h; subst h
      exact .unknownType c ha' hi hg hc ((newRowOk_false_iff u c).mp (by simpa using hr))
    simp only [hr, Bool.not_true, Bool.false_eq_true, if_false] at h
    cases hcells : cellsOf u c (isNamed names) (names.getD []) values with
    | ok cells => rw [hcells] at h; cases h
    | error e' =>
      rw [hcells] at h; simp only [Except.error.injEq] at h; subst h
      obtain ⟨he, hcause⟩ := cellsOf_error u c names values e' ha' hcells
      subst he
      exact .badValue c ha' hi hg hc hr ⟨_, hcells⟩ hcause
  · intro h
    unfold popInstance
    cases h with
    | arity ha => simp only [ha, if_true]
    | nameClash ha hi => simp only [ha, Bool.false_eq_true, if_false, hi, Bool.not_false, if_true]
    | unguessable ha hi hg =>
      simp only [ha, Bool.false_eq_true, if_false, hi, Bool.not_true, hg, Bool.not_false, if_true]
    | unknownType c' ha hi hg hc' hr =>
      have hr' := (newRowOk_false_iff u c').mpr hr
      simp only [ha, Bool.false_eq_true, if_false, hi, Bool.not_true, hg, hc', hr', Bool.not_false, if_true]
    | badValue c' ha hi hg hc' hr hcells _ =>
      -- `badValue` keeps the exception as `∃ e`; that it is the parsing exception is `cellsOf_error` again
      obtain ⟨e', he'⟩ := hcells
      obtain ⟨he, _⟩ := cellsOf_error u c' names values e' ha he'
      subst he
      simp only [ha, Bool.false_eq_true, if_false, hi, Bool.not_true, hg, hc', hr, he']

theorem arity_iff (names : Option (List Name)) (values : List Text) :
    (isNamed names && (names.getD []).length != values.length) = true ↔
      ∃ n ns, names = some (n :: ns) ∧ (n :: ns).length ≠ values.length := by
  cases names with
  | none => simp [isNamed]
  | some l =>
    cases l with
    | nil => simp [isNamed]
    | cons n ns =>
      simp only [isNamed, Bool.true_and, Option.getD_some, bne_iff_ne, ne_eq]
      constructor
      · intro h; exact ⟨n, ns, rfl, h⟩
      · intro ⟨n', ns', he, h⟩
        simp only [Option.some.injEq, List.cons.injEq] at he
        obtain ⟨rfl, rfl⟩ := he; exact h

/-- `define_class` rejects an inferred class exactly when the class is undeclared so far and the INSERT is a named one
    with two names that coincide after upper-casing, or with a reserved name `__x__` -/
theorem inferOk_false_iff (u : UC) (s : BState) (kind : Name) (values : List Text) (names : Option (List Name)) :
    inferOk u s kind (isNamed names) (names.getD []) values = false ↔
      s.find? u kind = none ∧ ∃ n ns, names = some (n :: ns) ∧ attrNamesOk u (inferredAttrs u (n :: ns) values) = false := by
  unfold inferOk
  cases hs : s.find? u kind with
  | some c => simp
  | none =>
    simp only [true_and]
    cases names with
    | none => simp [isNamed, inferredFor, attrNamesOk_positional]
    | some l =>
      cases l with
      | nil => simp [isNamed, inferredFor, attrNamesOk_positional]
      | cons n ns =>
        simp only [isNamed, inferredFor, if_true, Option.getD_some]
        constructor
        · intro h; exact ⟨n, ns, rfl, h⟩
        · intro ⟨n', ns', he, h⟩
          simp only [Option.some.injEq, List.cons.injEq] at he
          obtain ⟨rfl, rfl⟩ := he; exact h

/-- `guess_type_name` gives `None` for a value of an INSERT that creates its class -/
theorem guessOk_false_iff (u : UC) (s : BState) (kind : Name) (values : List Text) :
    guessOk u s kind values = false ↔ s.find? u kind = none ∧ ∃ v ∈ values, guessType u v = none := by
  unfold guessOk
  cases hs : s.find? u kind with
  | some c => simp
  | none => simp [List.all_eq_false]

theorem popInstance_arity (u : UC) (s : BState) (kind : Name) (values : List Text) (n : Name) (ns : List Name)
    (h : (n :: ns).length ≠ values.length) : popInstance u s kind values (some (n :: ns)) = .error .parseErr := by
  have h' : ((some (n :: ns)).getD []).length ≠ values.length := h
  simp only [popInstance, isNamed, Bool.true_and, bne_iff_ne, ne_eq, h', not_false_eq_true, if_true]

theorem popInstance_unknown_type (u : UC) (s : BState) (kind : Name) (values : List Text) (c : ClassB)
    (hf : s.find? u kind = some c) (hrow : newRowOk u c = false) : popInstance u s kind values none = .error .metaErr := by
  simp [popInstance, isNamed, inferOk, guessOk, ensureClass, hf, hrow]

/-- `define_class` rejects the class inferred from a named INSERT, two of whose names coincide after upper-casing or
    one of whose names is reserved (`__x__`) -/
theorem popInstance_name_clash (u : UC) (s : BState) (kind : Name) (values : List Text) (n : Name) (ns : List Name)
    (hl : (n :: ns).length = values.length) (hf : s.find? u kind = none)
    (hc : attrNamesOk u (inferredAttrs u (n :: ns) values) = false) :
    popInstance u s kind values (some (n :: ns)) = .error .metaErr := by
  have h' : ns.length + 1 = values.length := by simpa using hl
  simp [popInstance, isNamed, h', inferOk, hf, inferredFor, hc]

theorem popInstance_bad_value (u : UC) (s : BState) (kind : Name) (values : List Text) (c : ClassB)
    (hf : s.find? u kind = some c) (hrow : newRowOk u c = true) (e : BuildErr)
    (hcells : positionalCells u c c.attrs values = .error e) : popInstance u s kind values none = .error e := by
  simp [popInstance, isNamed, inferOk, guessOk, ensureClass, hf, hrow, cellsOf, hcells]

end Pyx.Sql
