import Proofs.SqlSort
import Proofs.SqlWfCheck
import Proofs.SqlReloadRoutes

/-! model-level text fixed point: the reloaded metamodel reloads to itself, so the text written from it is reproduced
    exactly by one more round -/
namespace Pyx.Sql
open Gen.Persist (Ty)

theorem upper_upper_of_core (u : UC) (ty : Name) (h : (tyOfName u ty).isSome = true) : u.upper (u.upper ty) = u.upper ty := by
  cases ht : tyOfName u ty with
  | none => rw [ht] at h; simp at h
  | some t =>
    rw [upper_of_tyOfName u ty t ht]
    exact upper_of_tyOfName u t.chars t (tyOfName_chars u t)

theorem core_upper_idem (u : UC) {attrs : List (Name × Name)} (h : ∀ a ∈ attrs, (tyOfName u a.2).isSome = true) :
    ∀ a ∈ attrs, u.upper (u.upper a.2) = u.upper a.2 :=
  fun a ha => upper_upper_of_core u a.2 (h a ha)

def classLe (u : UC) (a b : ClassM) : Bool := textLe (u.upper a.kind) (u.upper b.kind)

theorem classLe_preorder (u : UC) : TotalPreorder (classLe u) :=
  preorder_comap textLe textLe_preorder (fun c : ClassM => u.upper c.kind)

theorem sortedClasses_reloaded (u : UC) (m : MM) (A : List AssocM) :
    (m.reloaded u A).sortedClasses u = (m.sortedClasses u).map (canonClass u) := by
  unfold MM.sortedClasses MM.reloaded
  simp only
  -- `canonClass` keeps the kind, so the sorted list stays sorted, and sorting a sorted list is the identity
  apply sortBy_of_sorted
  exact sorted_map (classLe u) _ (canonClass u) (fun a b => rfl) _ (sortBy_sorted (classLe u) (classLe_preorder u) m.classes)

theorem assocsByIdKind_idem (m : MM) : (⟨m.classes, m.assocsByIdKind⟩ : MM).assocsByIdKind = m.assocsByIdKind := by
  unfold MM.assocsByIdKind
  exact sortBy_idem _ (preorder_comap pairLe pairLe_preorder (fun a : AssocM => (a.relId, a.src.kind))) m.assocs

theorem assocsById_idem (m : MM) : (⟨m.classes, m.assocsById⟩ : MM).assocsById = m.assocsById := by
  unfold MM.assocsById
  exact sortBy_idem _ (preorder_comap textLe textLe_preorder (fun a : AssocM => a.relId)) m.assocs

theorem reloaded_reloaded (u : UC) (m : MM) (hm : m.Closed u) (A : List AssocM) :
    (m.reloaded u A).reloaded u A = m.reloaded u A := by
  show (⟨((m.reloaded u A).sortedClasses u).map (canonClass u), A⟩ : MM) = ⟨(m.sortedClasses u).map (canonClass u), A⟩
  rw [sortedClasses_reloaded, List.map_map]
  exact congrArg (MM.mk · A) (List.map_congr_left fun c hc =>
    canonClass_idem u c (core_upper_idem u (hm.types c ((mem_sortBy _ _ _).mp hc))))

theorem reloaded_reloaded_byIdKind (u : UC) (m : MM) (hm : m.Closed u) :
    (m.reloaded u m.assocsByIdKind).reloaded u (m.reloaded u m.assocsByIdKind).assocsByIdKind = m.reloaded u m.assocsByIdKind := by
  rw [show (m.reloaded u m.assocsByIdKind).assocsByIdKind = m.assocsByIdKind from assocsByIdKind_idem m]
  exact reloaded_reloaded u m hm _

theorem reloaded_reloaded_byId (u : UC) (m : MM) (hm : m.Closed u) :
    (m.reloaded u m.assocsById).reloaded u (m.reloaded u m.assocsById).assocsById = m.reloaded u m.assocsById := by
  rw [show (m.reloaded u m.assocsById).assocsById = m.assocsById from assocsById_idem m]
  exact reloaded_reloaded u m hm _

theorem identOk_tyChars (t : Ty) : IdentOk t.chars := by
  cases t <;> exact identOk_of_test (by decide +kernel)

theorem noNewline_tyChars (t : Ty) : NoNewline t.chars := by
  cases t <;> (intro c hc; revert c; decide)

theorem mem_reloaded_classes {u : UC} {m : MM} {A : List AssocM} {c' : ClassM} (h : c' ∈ (m.reloaded u A).classes) :
    ∃ c ∈ m.classes, c' = canonClass u c :=
  let ⟨c, hc, e⟩ := List.mem_map.mp h
  ⟨c, (mem_sortBy _ _ _).mp hc, e.symm⟩

theorem canonClass_mem_reloaded {u : UC} {m : MM} (A : List AssocM) {c : ClassM} (h : c ∈ m.classes) :
    canonClass u c ∈ (m.reloaded u A).classes :=
  List.mem_map.mpr ⟨c, (mem_sortBy _ _ _).mpr h, rfl⟩

theorem closed_reloaded (u : UC) (m : MM) (hm : m.Closed u) (A : List AssocM) (hA : ∀ a ∈ A, a ∈ m.assocs) :
    (m.reloaded u A).Closed u := by
  refine ⟨?_, ?_, ?_, ?_, ?_, ?_, ?_, ?_⟩
  · show ((m.sortedClasses u).map (canonClass u)).map (fun c => u.upper c.kind) |>.Nodup
    rw [List.map_map]
    exact (((sortBy_perm _ m.classes).map _).nodup_iff).mpr hm.distinct
  · intro c' hc' a ha
    obtain ⟨c, hc, rfl⟩ := mem_reloaded_classes hc'
    obtain ⟨a0, ha0, rfl⟩ := List.mem_map.mp ha
    exact core_upper u (hm.types c hc a0 ha0)
  · intro c' hc'
    obtain ⟨c, hc, rfl⟩ := mem_reloaded_classes hc'
    exact hm.idents c hc
  · intro a ha
    obtain ⟨⟨c1, hc1, hk1⟩, hl, c2, hc2, hk2, hkeys⟩ := hm.ends a (hA a ha)
    refine ⟨⟨_, canonClass_mem_reloaded A hc1, hk1⟩, hl, _, canonClass_mem_reloaded A hc2, hk2, fun k hk => ?_⟩
    simpa only [canonClass, upAttrs, List.map_map, Function.comp_def] using hkeys k hk
  · intro c' hc' r hr
    obtain ⟨c, hc, rfl⟩ := mem_reloaded_classes hc'
    obtain ⟨r0, hr0, rfl⟩ := List.mem_map.mp hr
    show (canonVals u c.attrs r0).length = (upAttrs u c.attrs).length
    rw [canonVals_length, hm.rows c hc r0 hr0, upAttrs, List.length_map]
  · intro c' hc'
    obtain ⟨c, hc, rfl⟩ := mem_reloaded_classes hc'
    exact (attrNamesOk_upAttrs u c.attrs).trans (hm.attrNames c hc)
  · intro c' hc' a ha
    obtain ⟨c, hc, rfl⟩ := mem_reloaded_classes hc'
    obtain ⟨a0, ha0, rfl⟩ := List.mem_map.mp ha
    exact hm.plainAttrs c hc a0 ha0
  · exact fun a ha => hm.plainKeys a (hA a ha)

theorem wf_reloaded (u : UC) (m : MM) (hw : m.WF u) (hm : m.Closed u) (A : List AssocM) (hA : ∀ a ∈ A, a ∈ m.assocs) :
    (m.reloaded u A).WF u := by
  refine ⟨?_, ?_, ?_, fun a ha => hw.assocs a (hA a ha)⟩
  · intro c' hc'
    obtain ⟨c, hc, rfl⟩ := mem_reloaded_classes hc'
    refine ⟨(hw.classes c hc).1, fun a ha => ?_⟩
    obtain ⟨a0, ha0, rfl⟩ := List.mem_map.mp ha
    obtain ⟨h1, h2⟩ := (hw.classes c hc).2 a0 ha0
    exact ⟨h1, (upper_upper_of_core u a0.2 (hm.types c hc a0 ha0)).symm ▸ h2⟩
  · intro c' hc' it hit
    obtain ⟨c, hc, rfl⟩ := mem_reloaded_classes hc'
    exact hw.indices c hc it hit
  · intro c' hc' it hit
    obtain ⟨c, hc, rfl⟩ := mem_reloaded_classes hc'
    obtain ⟨r', hr', rfl⟩ := List.mem_map.mp hit
    obtain ⟨r, hr, rfl⟩ := List.mem_map.mp hr'
    obtain ⟨hk, hnn⟩ := hw.rows c hc (.inst c.kind c.attrs r) (List.mem_map.mpr ⟨r, hr, rfl⟩)
    refine ⟨hk, fun a ha => ?_⟩
    obtain ⟨a0, ha0, rfl⟩ := List.mem_map.mp ha
    obtain ⟨t, ht⟩ := Option.isSome_iff_exists.mp (hm.types c hc a0 ha0)
    exact ⟨(hnn a0 ha0).1, (upper_of_tyOfName u a0.2 t ht).symm ▸ noNewline_tyChars t⟩

theorem print_isSome_of_printItems (u : UC) (items : List Item) (text : Text) (h : printItems u items = some text) :
    ∀ it ∈ items, (it.print u).isSome = true := fun it hit => by
  obtain ⟨ts, h, _⟩ := printItems_eq_some.mp h
  obtain ⟨t, _, ht⟩ := List.mem_map.mp (h ▸ List.mem_map_of_mem (f := Item.print u) hit)
  rw [← ht]; rfl

theorem valueLines_isSome (u : UC) (attrs : List (Name × Name)) (vals : List (Option Val)) :
    (valueLines u attrs vals).isSome = (rowTexts u attrs vals).isSome := by
  induction attrs generalizing vals with
  | nil => rfl
  | cons a attrs ih =>
    obtain ⟨nm, ty⟩ := a
    cases vals with
    | nil => rfl
    | cons v vs =>
      have := ih vs
      simp only [valueLines, rowTexts]
      cases cellText u ty v with
      | none => rfl
      | some txt =>
        cases h1 : valueLines u attrs vs <;> cases h2 : rowTexts u attrs vs <;> rw [h1, h2] at this <;>
          first | rfl | cases this

theorem inst_print_isSome (u : UC) (kind : Name) (attrs : List (Name × Name)) (vals : List (Option Val)) :
    ((Item.inst kind attrs vals).print u).isSome = (rowTexts u attrs vals).isSome := by
  simp only [Item.print]
  rw [← valueLines_isSome]
  cases valueLines u attrs vals <;> rfl

theorem reloaded_prints_of_rows (u : UC) (m : MM) (hm : m.Closed u) (A : List AssocM)
    (hrow : ∀ c ∈ m.classes, ∀ row ∈ c.rows, (rowTexts u c.attrs row).isSome = true)
    (r : List Item) (hr : r ∈ (m.reloaded u A).routes u) : ∃ text', printItems u r = some text' := by
  apply printItems_some_of_all
  intro it hit
  have hof := itemOf_route u _ r hr it hit
  cases it with
  | inst kind attrs vals =>
    obtain ⟨c', hc', rfl, rfl, hv⟩ := hof
    obtain ⟨c, hc, rfl⟩ := mem_reloaded_classes hc'
    obtain ⟨r0, hr0, rfl⟩ := List.mem_map.mp hv
    rw [inst_print_isSome]
    exact (rowTexts_canon u c.attrs r0 (core_upper_idem u (hm.types c hc))).symm ▸ hrow c hc r0 hr0
  | cls _ _ => rfl
  | assoc _ _ _ => rfl
  | index _ _ _ => rfl

theorem rows_print_of_route (u : UC) (m : MM) (r : List Item) (text : Text) (hp : printItems u r = some text)
    (hall : ∀ c ∈ m.classes, ∀ row ∈ c.rows, Item.inst c.kind c.attrs row ∈ r) :
    ∀ c ∈ m.classes, ∀ row ∈ c.rows, (rowTexts u c.attrs row).isSome = true := by
  intro c hc row hrow
  have := print_isSome_of_printItems u r text hp _ (hall c hc row hrow)
  rwa [inst_print_isSome] at this

theorem inst_mem_instItems (m : MM) {c : ClassM} (hc : c ∈ m.classes) {row : List (Option Val)} (hrow : row ∈ c.rows) :
    Item.inst c.kind c.attrs row ∈ m.classes.flatMap ClassM.instItems :=
  List.mem_flatMap.mpr ⟨c, hc, List.mem_map.mpr ⟨row, hrow, rfl⟩⟩

/-- TEXT FIXED POINT, `serialize_database`: let R be the metamodel reloaded from the text of m.  The text written from R
    is accepted, builds, and the metamodel built from it is R again — so writing it once more gives the same text -/
theorem text_fixed_point_serializeDatabase (u : UC) (m : MM) (hw : m.WF u) (hm : m.Closed u) (text1 : Text)
    (hp : printItems u (m.serializeDatabase u) = some text1) :
    ∃ text2, printItems u ((m.reloaded u m.assocsByIdKind).serializeDatabase u) = some text2 ∧
      ∃ stmts2 bs2, classify u text2 = .accepted stmts2 ∧ build u stmts2 = .ok bs2 ∧
        bs2.toMM u = m.reloaded u m.assocsByIdKind ∧
        printItems u ((bs2.toMM u).serializeDatabase u) = some text2 := by
  have hA : ∀ a ∈ m.assocsByIdKind, a ∈ m.assocs := fun a ha => (mem_sortBy _ _ _).mp ha
  have hwR := wf_reloaded u m hw hm m.assocsByIdKind hA
  have hmR := closed_reloaded u m hm m.assocsByIdKind hA
  -- the only use of `hp`: the rows of m print, so those of R do (`rowTexts_canon`); then R reloaded is R
  obtain ⟨text2, h2⟩ := reloaded_prints_of_rows u m hm m.assocsByIdKind
    (rows_print_of_route u m _ text1 hp fun c hc row hrow =>
      List.mem_append_left _ (List.mem_append_right _ (inst_mem_instItems m hc hrow))) _
    (by simp [MM.routes] : (m.reloaded u m.assocsByIdKind).serializeDatabase u ∈ (m.reloaded u m.assocsByIdKind).routes u)
  obtain ⟨stmts2, bs2, hc, hb, he⟩ := reload_serializeDatabase u _ hwR hmR text2 h2
  rw [reloaded_reloaded_byIdKind u m hm] at he
  exact ⟨text2, h2, stmts2, bs2, hc, hb, he, by rw [he]; exact h2⟩

/-- TEXT FIXED POINT, `persist_database` -/
theorem text_fixed_point_persistDatabase (u : UC) (m : MM) (hw : m.WF u) (hm : m.Closed u) (text1 : Text)
    (hp : printItems u (m.persistDatabase u) = some text1) :
    ∃ text2, printItems u ((m.reloaded u m.assocsById).persistDatabase u) = some text2 ∧
      ∃ stmts2 bs2, classify u text2 = .accepted stmts2 ∧ build u stmts2 = .ok bs2 ∧
        bs2.toMM u = m.reloaded u m.assocsById ∧
        printItems u ((bs2.toMM u).persistDatabase u) = some text2 := by
  have hA : ∀ a ∈ m.assocsById, a ∈ m.assocs := fun a ha => (mem_sortBy _ _ _).mp ha
  have hwR := wf_reloaded u m hw hm m.assocsById hA
  have hmR := closed_reloaded u m hm m.assocsById hA
  obtain ⟨text2, h2⟩ := reloaded_prints_of_rows u m hm m.assocsById
    (rows_print_of_route u m _ text1 hp fun c hc row hrow => List.mem_append_right _ (inst_mem_instItems m hc hrow)) _
    (by simp [MM.routes] : (m.reloaded u m.assocsById).persistDatabase u ∈ (m.reloaded u m.assocsById).routes u)
  obtain ⟨stmts2, bs2, hc, hb, he⟩ := reload_persistDatabase u _ hwR hmR text2 h2
  rw [reloaded_reloaded_byId u m hm] at he
  exact ⟨text2, h2, stmts2, bs2, hc, hb, he, by rw [he]; exact h2⟩

theorem printItems_congr (u : UC) (l1 l2 : List Item) (h : l1.map (fun it => it.print u) = l2.map (fun it => it.print u)) :
    printItems u l1 = printItems u l2 :=
  Option.ext fun t => by rw [printItems_eq_some, printItems_eq_some, h]

theorem cellText_canonVal (u : UC) (ty : Name) (v : Option Val) : cellText u ty (canonVal u ty v) = cellText u ty v := by
  cases ht : tyOfName u ty with
  | none => simp only [canonVal, ht]
  | some t => simp only [cellText, canonVal, ht, printValue_eq, resolveVal_idem]

theorem valueLines_canonVals (u : UC) : ∀ (attrs : List (Name × Name)) (vals : List (Option Val)),
    valueLines u attrs (canonVals u attrs vals) = valueLines u attrs vals := by
  intro attrs
  induction attrs with
  | nil => intro vals; cases vals <;> rfl
  | cons a attrs ih =>
    intro vals
    obtain ⟨nm, ty⟩ := a
    cases vals with
    | nil => rfl
    | cons v vs => simp only [canonVals, valueLines, cellText_canonVal, ih vs]

/-- the text written from the reloaded metamodel IS the text written from the original when the classes are already in
    sorted order and the attribute type names are already upper-case.  (Unset values never matter — they are written as
    the null value either way — nor do reals, whose model value is the six-decimal numeral; what can differ between the
    first and the second text is the order of the INSERT blocks, which follows the class dict order, and the type names in
    the per-value comments.) -/
theorem serialize_reload_eq (u : UC) (m : MM) (hm : m.Closed u) (hsorted : SortedBy (classLe u) m.classes)
    (hup : ∀ c ∈ m.classes, ∀ a ∈ c.attrs, u.upper a.2 = a.2) :
    printItems u ((m.reloaded u m.assocsByIdKind).serializeDatabase u) = printItems u (m.serializeDatabase u) := by
  have hs : m.sortedClasses u = m.classes := sortBy_of_sorted _ _ hsorted
  have hA : (m.reloaded u m.assocsByIdKind).assocsByIdKind = m.assocsByIdKind := assocsByIdKind_idem m
  have hup' : ∀ c ∈ m.classes, upAttrs u c.attrs = c.attrs := fun c hc =>
    (List.map_congr_left fun a ha => by rw [hup c hc a ha]; rfl).trans (List.map_id _)
  apply printItems_congr
  simp only [MM.serializeDatabase, MM.serializeSchema, MM.serializeClasses, MM.serializeAssociations, MM.serializeInstances,
    MM.serializeUniqueIdentifiers, sortedClasses_reloaded, hA, hs, List.map_append, List.map_map, List.map_flatMap]
  simp only [MM.reloaded, List.flatMap_map, hs]
  congr 1
  congr 1
  congr 1
  · exact List.map_congr_left fun c hc => congrArg (fun as => (Item.cls c.kind as).print u) (hup' c hc)
  · rw [List.flatMap_def, List.flatMap_def]
    refine congrArg _ (List.map_congr_left fun c hc => ?_)
    simp only [ClassM.instItems, canonClass, List.map_map, hup' c hc]
    apply List.map_congr_left
    intro r _
    simp only [Function.comp, Item.print, valueLines_canonVals]

end Pyx.Sql
