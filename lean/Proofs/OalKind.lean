import PyxModel.Oal.Expr

/-!
  All token kinds: a statement of the form `∀ k : Kind, …` with a decidable body is settled by one evaluation over
  `Kind.all` (`forall_kind`).  Used by the parser proofs and by the bridge between lexer and parser kinds.
-/
namespace Pyx.Oal

/-- `Kind.all` lists the constructors in the order of their declaration -/
theorem Kind.mem_all (k : Kind) : k ∈ Kind.all := by
  -- 89 is the number of constructors: when a `Kind` is added, add it to `Kind.all` at its place in the declaration
  -- and raise both literals by one; otherwise `hall` or `hlt` fails, without saying why
  have hall : Kind.all = (List.range 89).map Kind.ofNat := by decide +kernel
  have hlt : k.ctorIdx < 89 := by cases k <;> decide
  rw [hall]
  exact List.mem_map.2 ⟨_, List.mem_range.2 hlt, Kind.ofNat_ctorIdx k⟩

theorem forall_kind {p : Kind → Prop} [DecidablePred p] (h : Kind.all.all (fun k => decide (p k)) = true) :
    ∀ k, p k := by
  intro k
  have := List.all_eq_true.mp h k (Kind.mem_all k)
  simpa using this

end Pyx.Oal
