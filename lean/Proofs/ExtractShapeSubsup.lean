import Proofs.ExtractShapeLinked

/-!
  C14 — `mk_subsuper_association` of the generated IR (Gen/ExtractShape.lean) on ANY rows of a subtype / supertype relationship,
  the loop over the R_SUB rows included (induction over the row list), every AttributeError ending included, in the order in
  which the IR evaluates:

    r_rto = one(r_subsup).R_SUPER[212].R_RTO[204]()        None without R_SUPER
    target_o_obj = one(r_rto).R_OIR[203].O_OBJ[201]()      None without R_SUPER / supertype class
    for r_sub in many(r_subsup).R_SUB[213]():              no R_SUB row: nothing is dereferenced, nothing is defined
      r_rgo = one(r_sub).R_RGO[205]()
      source_o_obj = one(r_rgo).R_OIR[203].O_OBJ[201]()    None without the subtype class
      _get_related_attributes(r_rgo, r_rto)                ([], []) when r_rto is None; `o_attr.Name` raises on an unresolved O_REF
      source_o_obj.Key_Lett, target_o_obj.Key_Lett         raise when the subtype class / the supertype (class) is missing
-/

namespace Pyx.XShape
open Pyx.Extract Pyx.Gen.ExtractShape

/-- the loop body of `mk_subsuper_association` (named, so that symbolic evaluation does not enter it) -/
def subBody : List Stmt :=
  [ .assign "r_rgo" (.nav { card := .one, start := "r_sub", hops := [{ cls := "R_RGO", rel := 205, phrase := "" }], filter := .all }),
    .assign "source_o_obj" (.nav { card := .one, start := "r_rgo", hops := [{ cls := "R_OIR", rel := 203, phrase := "" }, { cls := "O_OBJ", rel := 201, phrase := "" }], filter := .all }),
    .unpack "source_ids" "target_ids" (.call "_get_related_attributes" ["r_rgo", "r_rto"]),
    .define "define_association" [("rel_id", (.attr "r_rel" "Numb")), ("source_kind", (.attr "source_o_obj" "Key_Lett")), ("target_kind", (.attr "target_o_obj" "Key_Lett")), ("source_keys", (.var "source_ids")), ("target_keys", (.var "target_ids")), ("source_conditional", (.bool true)), ("target_conditional", (.bool false)), ("source_phrase", (.str "")), ("target_phrase", (.str "")), ("source_many", (.bool false)), ("target_many", (.bool false))] none none ]

theorem subRefs_lt : ∀ (l : List (Nat × List Ref)) (k j : Nat), j < k →
    (subRefs k l).filter (fun p => oirId p.1 == oirId (.sub j)) = [] := by
  intro l
  induction l with
  | nil => intro k j _; rfl
  | cons a rest ih =>
    intro k j h
    simp only [subRefs, List.filter_append, ih (k + 1) j (by omega), List.append_nil]
    apply List.filter_eq_nil_iff.mpr
    intro p hp
    obtain ⟨r, _, rfl⟩ := List.mem_map.mp hp
    simp [oirId]
    omega

/-- the OIR_ID filter separates the subtypes' O_REF rows -/
theorem subRefs_at : ∀ (l : List (Nat × List Ref)) (k i : Nat) (s : Nat × List Ref), l[i]? = some s →
    (subRefs k l).filter (fun p => oirId p.1 == oirId (.sub (k + i))) = s.2.map (fun r => (EndId.sub (k + i), r)) := by
  intro l
  induction l with
  | nil => intro k i s h; simp at h
  | cons a rest ih =>
    intro k i s h
    cases i with
    | zero =>
      simp only [List.getElem?_cons_zero, Option.some.injEq] at h
      subst h
      -- `oirId (.sub j) = 6 + 2 * j`: the head's rows all pass (`filter_tagged`), those of the later subtypes all fail (`subRefs_lt`)
      simp only [subRefs, List.filter_append, Nat.add_zero, subRefs_lt rest (k + 1) k (by omega), List.append_nil, filter_tagged]
    | succ i =>
      simp only [List.getElem?_cons_succ] at h
      have h1 : (a.2.map (fun r => (EndId.sub k, r))).filter (fun p => oirId p.1 == oirId (.sub (k + (i + 1)))) = [] := by
        apply List.filter_eq_nil_iff.mpr
        intro p hp
        obtain ⟨r, _, rfl⟩ := List.mem_map.mp hp
        simp [oirId]
        omega
      have h2 := ih (k + 1) i s h
      have h3 : k + 1 + i = k + (i + 1) := by omega
      rw [h3] at h2
      simp only [subRefs, List.filter_append, h1, List.nil_append, h2]

def subItem (sc pc : Class) (refs : List Ref) : SAssoc :=
  { src := { kind := sc.kl, keys := keyNames sc (refs.map (·.rattr)), many := false, cond := true, phrase := "" },
    tgt := { kind := pc.kl, keys := keyNames pc (refs.map (·.iattr)), many := false, cond := false, phrase := "" } }

/-- the `define_association` call of one pass through the loop; `none`: AttributeError -/
def subCall (d : ClassDiagram) (numb : Nat) (sup : Option Nat) (s : Nat × List Ref) : Option (Call RI) :=
  (findClass d s.1).bind fun sc => (sup.bind (findClass d)).bind fun pc =>
    if refsResolved sc pc s.2 then some (assocCall numb (subItem sc pc s.2)) else none

variable (d : ClassDiagram) (numb : Nat) (w : RelRows)

def subL (d : ClassDiagram) (w : RelRows) (L : Loc RI) (j : Nat) (s : Nat × List Ref) : Loc RI :=
  ((((L.set "r_sub" (.inst (some (RI.row (.sub j))))).set "r_rgo" (.inst (some (RI.rgo (.sub j))))).set
    "source_o_obj" (.inst ((findClass d s.1).map RI.obj))).set "source_ids" (.strs (namesAt d w (.sub j) (s.2.map (·.rattr))))).set
    "target_ids" (.strs (namesAt d w .super (s.2.map (·.iattr))))

section
attribute [local xsh] subBody subCall subL assocCall subItem

theorem subStep (j : Nat) (s : Nat × List Ref) (hs : w.subs[j]? = some s)
    (L : Loc RI) (C : Calls RI) (h1 : L "r_rel" = .inst (some .rel))
    (h2 : L "r_rto" = .inst (w.super.map fun _ => RI.rto .super))
    (h3 : L "target_o_obj" = .inst ((classOfEnd d w .super).map RI.obj)) :
    iStmts (relWorld d numb w) (callAt (relWorld d numb w) defs 4) 4 subBody (L.set "r_sub" (.inst (some (RI.row (.sub j))))) C =
      match subCall d numb w.super s with
      | some k => .ok (subL d w L j s, C ++ [k], .next)
      | none => .error .attributeError := by
  have hr0 := fun xo Lc C => relattrs_none_rto d numb w 3 xo Lc C
  have hrel := fun Lc C => relattrs d numb w 3 (.sub j) .super (.rgo (.sub j)) rfl s.2
    (by simpa only [refsOn, Nat.zero_add] using subRefs_at w.subs 0 j s hs) Lc C
  have hcs : classOfEnd d w (.sub j) = findClass d s.1 := by simp only [classOfEnd, endOf, hs, plainEnd, xsh]
  cases hsup : w.super with
  | none =>
    have hcp : classOfEnd d w .super = none := by simp only [classOfEnd, endOf, hsup, xsh]
    cases hsc : findClass d s.1 <;> simp only [xsh, hsup, hcp, hcs, hsc, hr0, h1, h2, h3]
  | some sup =>
    have hcp : classOfEnd d w .super = findClass d sup := by simp only [classOfEnd, endOf, hsup, plainEnd, xsh]
    cases hsc : findClass d s.1 with
    | none =>
      cases hres : resolvedAt d w (.sub j) .super s.2 <;>
        simp only [xsh, hsup, hcs, hsc, hrel, hres, h1, h2]
    | some sc =>
      rw [hsc] at hcs
      cases hpc : findClass d sup with
      | none =>
        rw [hpc] at hcp
        cases hres : resolvedAt d w (.sub j) .super s.2 <;>
          simp only [xsh, hsup, hcs, hcp, hsc, hpc, hrel, hres, h1, h2, h3]
      | some pc =>
        rw [hpc] at hcp
        have hres := resolvedAt_eq hcs hcp s.2
        cases hr : refsResolved sc pc s.2 <;> rw [hr] at hres <;>
          simp only [xsh, hsup, hcs, hcp, hsc, hpc, hrel, hres, hr, h1, h2, h3, namesAt_eq hcs, namesAt_eq hcp]

end

def subItems (d : ClassDiagram) (pc : Class) (rest : List (Nat × List Ref)) : List SAssoc :=
  rest.filterMap (fun s => (findClass d s.1).map (fun sc => subItem sc pc s.2))

/-- the loop over the R_SUB rows: `rest` is `w.subs` from position `j` on (`∀ i, rest[i]? = w.subs[j + i]?`), so the position in
    the loop is the index at which `subStep` reads `w.subs` -/
theorem subLoop (sup : Nat) (hsup : w.super = some sup) :
    ∀ (rest : List (Nat × List Ref)) (j : Nat), (∀ i, rest[i]? = w.subs[j + i]?) → ∀ (L : Loc RI) (C : Calls RI),
      L "r_rel" = .inst (some .rel) → L "r_rto" = .inst (w.super.map fun _ => RI.rto .super) →
      L "target_o_obj" = .inst ((classOfEnd d w .super).map RI.obj) →
      (rest.all (fun s => pairResolved d s.1 sup s.2) = true → ∀ pc, findClass d sup = some pc →
        ∃ L', forLoop (fun x L' C' => iStmts (relWorld d numb w) (callAt (relWorld d numb w) defs 4) 4 subBody
            (L'.set "r_sub" (.inst (some x))) C') (rowsFrom EndId.sub j rest) L C =
          .ok (L', C ++ (subItems d pc rest).map (assocCall numb), .next)) ∧
      (rest.all (fun s => pairResolved d s.1 sup s.2) = false →
        forLoop (fun x L' C' => iStmts (relWorld d numb w) (callAt (relWorld d numb w) defs 4) 4 subBody
            (L'.set "r_sub" (.inst (some x))) C') (rowsFrom EndId.sub j rest) L C = .error .attributeError) := by
  intro rest
  induction rest with
  | nil =>
    intro j _ L C _ _ _
    exact ⟨fun _ pc _ => ⟨L, by simp [rowsFrom, forLoop, subItems]⟩, fun h => by simp at h⟩
  | cons s rest ih =>
    intro j hsuf L C h1 h2 h3
    have hs : w.subs[j]? = some s := by simpa using (hsuf 0).symm
    have hsuf' : ∀ i, rest[i]? = w.subs[j + 1 + i]? := by
      intro i
      have := hsuf (i + 1)
      have h4 : j + (i + 1) = j + 1 + i := by omega
      simpa [h4] using this
    simp only [rowsFrom, forLoop, subStep d numb w j s hs L C h1 h2 h3, hsup, subCall, Option.bind_some]
    cases hsc : findClass d s.1 with
    | none => simp [pairResolved, hsc]
    | some sc =>
      cases hpc : findClass d sup with
      | none => simp [pairResolved, hpc]
      | some pc =>
        cases hr : refsResolved sc pc s.2 with
        | false => simp [pairResolved, hsc, hpc, hr]
        | true =>
          obtain ⟨ihT, ihF⟩ := ih (j + 1) hsuf' (subL d w L j s) (C ++ [assocCall numb (subItem sc pc s.2)])
            (by simp only [subL, xsh, h1]) (by simp only [subL, xsh, h2]) (by simp only [subL, xsh, h3])
          have hall : (s :: rest).all (fun s => pairResolved d s.1 sup s.2) = rest.all (fun s => pairResolved d s.1 sup s.2) := by
            simp [pairResolved, hsc, hpc, hr]
          rw [hall]
          simp only [Option.bind_some, hr, if_true]
          refine ⟨fun h pc' hpc' => ?_, fun h => ihF h⟩
          obtain rfl : pc = pc' := Option.some.inj hpc'
          obtain ⟨L', hL⟩ := ihT h pc hpc
          exact ⟨L', by rw [hL]; simp [subItems, hsc]⟩

theorem mk_subsuper_association_eq : mk_subsuper_association.body.drop 3 =
    [.forNav "r_sub" { card := .many, start := "r_subsup", hops := [{ cls := "R_SUB", rel := 213, phrase := "" }], filter := .all } subBody] := rfl

/-- `mk_subsuper_association` on ANY rows: one association per R_SUB row in row order, nothing without R_SUB rows, AttributeError
    when (with at least one R_SUB row) the R_SUPER row, a class or an attribute of an O_REF row is missing -/
theorem subsup_eq (d : ClassDiagram) (numb : Nat) (w : RelRows) (Lc : Loc RI) :
    assocsOf (callAt (relWorld d numb w) defs 5 "mk_subsuper_association" [.opaque, .inst (some .subsup)] Lc []) =
      expected numb (match w.subs, w.super with
        | [], _ => .defined []
        | _ :: _, some s => kindOutcome d (.subsup s w.subs)
        | _ :: _, none => .attributeError) := by
  rw [callAt_def _ _ _ _ _ _ _ lookup_mk_subsuper_association rfl,
    ← List.take_append_drop 3 mk_subsuper_association.body, iStmts_append, mk_subsuper_association_eq]
  cases hsup : w.super with
  | none =>
    have hcp : classOfEnd d w .super = none := by simp only [classOfEnd, endOf, hsup, xsh]
    simp only [xsh, mk_subsuper_association, List.take_succ_cons, List.take_zero, hsup]
    cases hsubs : w.subs with
    | nil => simp only [rowsFrom, xsh, assocsOf, decodeAll, expected]
    | cons s rest =>
      have hstep := subStep d numb w 0 s (by simp only [hsubs, List.getElem?_cons_zero])
      simp only [hsup, hcp, subCall, xsh] at hstep
      simp only [rowsFrom, xsh, hstep, assocsOf, expected]
  | some sup =>
    simp only [xsh, mk_subsuper_association, List.take_succ_cons, List.take_zero, hsup]
    obtain ⟨hT, hF⟩ := subLoop d numb w sup hsup w.subs 0 (fun i => by rw [Nat.zero_add])
      (((((Loc.empty.set "m" .opaque).set "r_subsup" (.inst (some .subsup))).set "r_rel" (.inst (some .rel))).set
        "r_rto" (.inst (some (RI.rto .super)))).set "target_o_obj" (.inst ((classOfEnd d w .super).map RI.obj))) []
      rfl (by rw [hsup]; rfl) rfl
    cases hs : w.subs with
    | nil => simp only [rowsFrom, xsh, assocsOf, decodeAll, expected]
    | cons s rest =>
      rw [hs] at hT hF
      cases hall : (s :: rest).all (fun s => pairResolved d s.1 sup s.2) with
      | false => simp only [hF hall, xsh, assocsOf, expected, kindOutcome, resolvedRel, RelKind.asRel, hall]
      | true =>
        cases hpc : findClass d sup with
        | none => simp [pairResolved, hpc] at hall
        | some pc =>
          obtain ⟨L', hL⟩ := hT hall pc hpc
          simp only [hL, xsh, assocsOf, decodeAll_map, kindOutcome, resolvedRel, RelKind.asRel, hall, groupOf, hpc, expected]
          rfl

theorem subsup_dispatch (hd : w.dispatch = .subsup) (Lc : Loc RI) :
    assocsOf (callAt (relWorld d numb w) defs 5 "mk_subsuper_association" [.opaque, .inst (some .subsup)] Lc []) =
      expected numb (mkAssociation d w) := by
  simp only [mkAssociation, hd]
  exact subsup_eq d numb w Lc

/-- `mk_association(m, r_rel)` of the generated IR — the dispatch over the R206 subtype row and the constructor behind it — ends as
    `mkAssociation` says, for every diagram, relationship number and rows -/
theorem mkAssociation_eq :
    expected numb (mkAssociation d w) = iMkAssociation defs d numb w := by
  unfold iMkAssociation run
  rw [callAt_def _ _ _ _ _ _ _ lookup_mk_association rfl]
  cases hd : w.dispatch <;> simp only [xsh, mk_association, relSubtype, relKind, hd, List.lookup, String.reduceBEq]
  case linked =>
    rw [← linked_eq d numb w hd]
    generalize callAt (relWorld d numb w) defs 5 _ _ _ _ = r
    rcases r with e | ⟨v, C⟩ <;> rfl
  case simple =>
    rw [← simple_eq d numb w hd]
    generalize callAt (relWorld d numb w) defs 5 _ _ _ _ = r
    rcases r with e | ⟨v, C⟩ <;> rfl
  case subsup =>
    rw [← subsup_dispatch d numb w hd]
    generalize callAt (relWorld d numb w) defs 5 _ _ _ _ = r
    rcases r with e | ⟨v, C⟩ <;> rfl
  case comp =>
    simp only [callAt_def _ 4 _ _ [.opaque, .inst (some RI.comp)] _ _ lookup_mk_derived_association rfl, mk_derived_association, xsh, assocsOf, decodeAll,
      expected, mkAssociation, hd]
  case none => simp only [mkAssociation, hd]; rfl
end Pyx.XShape
