import PyxModel.Interp.Spec

/-!
  Results up to the text of an error (`noMsg`) and the equations of the monad `M` at a configuration through which results are
  compared: what the source ties of the statement handlers (Proofs/InterpShape.lean) and of the call path
  (Proofs/CallShape.lean) share.  `bind_run` is also what the monad lemmas of Proofs/InterpPres.lean rest on.
-/
namespace Pyx.IShape
open Pyx.Interp Pyx.Interp.M

theorem fail_bnd {α β : Type} (msg : String) (f : α → M β) : (M.fail msg >>= f) = M.fail msg := rfl

/-- equality of results up to the TEXT of a domain error (an error result carries no configuration).  Needed where the source
    looks up all variables before it uses the first (relate / unrelate): `Spec` checks each handle as it is looked up, so the two
    report a different one of two simultaneous errors; and on the not-found side of the call path, where the two word the error
    differently. -/
def noMsg {α : Type} : Res α → Res α
  | some (.error _) => some (.error ⟨""⟩)
  | r => r

theorem bind_run {α β : Type} (m : M α) (f : α → M β) (c : Cfg) :
    (m >>= f) c = match m c with
      | none => none
      | some (.error e) => some (.error e)
      | some (.ok (a, c')) => f a c' := rfl

theorem fail_run {α : Type} (msg : String) (c : Cfg) : (M.fail msg : M α) c = some (.error ⟨msg⟩) := rfl

theorem noMsg_bind {α β : Type} (m : M α) {f g : α → M β} (c : Cfg) (h : ∀ a c1, noMsg (f a c1) = noMsg (g a c1)) :
    noMsg ((m >>= f) c) = noMsg ((m >>= g) c) := by
  simp only [bind_run]
  cases m c with
  | none => rfl
  | some r => cases r with
    | error e => rfl
    | ok p => exact h p.1 p.2

end Pyx.IShape

namespace Pyx.Interp

theorem pure_run {α : Type} (a : α) (c : Cfg) : (pure a : M α) c = some (.ok (a, c)) := rfl

theorem getFr_run (c : Cfg) : M.getFr c = some (.ok (c.fr, c)) := rfl

end Pyx.Interp
