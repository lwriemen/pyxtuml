import Proofs.MetaDelete
import PyxModel.Interp.State

/-!
  The STORE of the reference semantics is an abstraction of the mechanism of `xtuml/meta.py`.

  `Pyx.Meta` (PyxModel/Meta.lean, proved invariant in Proofs/Meta*.lean) models the code's store: instances are
  global creation indices, every association keeps TWO directed link maps with cardinality-checked `connect`,
  `_find_link` resolves by kinds and phrase, a rejected relate is undone, delete unrelates every partner.
  `Pyx.Interp` (`Spec`) keeps, per association, ONE list of (source, target) pairs and names an instance by its
  class and its creation index within the class.

  `Refines kname ι s st`: the Spec state `st` is the abstraction of the mechanism state `s` under the instance
  naming `ι` (global index ↦ (class name, index in class)) and the class naming `kname`:
    * the pool of every class is the mechanism's pool, in order;
    * the pairs of association i are exactly the (ι y, ι x) with y ∈ (s.links i).src x, without duplicates, and
      the partners of every instance appear in the pair list in the order of its directed link set
      (both directions) — i.e. what navigation observes is identical, order included.
  The theorems: each mechanism operation (new / relate / unrelate / delete) in the domain is matched by the Spec
  operation on the named instances, acceptance AND rejection (a rejected operation changes neither side);
  and by induction every history refines (`store_refines`).
-/
namespace Pyx.Interp

abbrev MState := Pyx.Meta.State
abbrev MSchema := Pyx.Meta.Schema

/-- the partners a pair list gives a target instance / a source instance (what `follow` computes) -/
def srcProj (ps : List (Inst × Inst)) (t : Inst) : List Inst := ps.filterMap (fun p => if p.2 = t then some p.1 else none)
def tgtProj (ps : List (Inst × Inst)) (s : Inst) : List Inst := ps.filterMap (fun p => if p.1 = s then some p.2 else none)

def toAssoc (kname : Nat → String) (a : Pyx.Meta.AssocSpec) : Assoc :=
  { rel := a.rel, src := kname a.srcKind, tgt := kname a.tgtKind, srcPhrase := a.srcPhrase, tgtPhrase := a.tgtPhrase,
    srcMany := a.srcMany, tgtMany := a.tgtMany, srcKeys := a.srcKeys, tgtKeys := a.tgtKeys }

/-- the Spec context of a mechanism schema: the classes `kinds` (no attributes: the store only), the associations -/
def ctxOf (kname : Nat → String) (kinds : List Nat) (sch : MSchema) : Ctx :=
  { classes := kinds.map (fun k => ⟨kname k, []⟩), assocs := sch.map (toAssoc kname) }

structure Refines (kname : Nat → String) (ι : Nat → Inst) (s : MState) (st : State) : Prop where
  cls : ∀ x, x < s.count → (ι x).cls = kname (s.kindOf x)
  below : ∀ x, x < s.count → (ι x).idx < st.next (ι x).cls
  inj : ∀ x y, x < s.count → y < s.count → ι x = ι y → x = y
  pool : ∀ k, st.live (kname k) = (s.pool k).map (fun x => (ι x).idx)
  pairs : ∀ i p, p ∈ st.links i ↔ ∃ x y, p = (ι y, ι x) ∧ y ∈ (s.links i).src x
  nodup : ∀ i, (st.links i).Nodup
  srcOrd : ∀ i x, x < s.count → srcProj (st.links i) (ι x) = ((s.links i).src x).map ι
  tgtOrd : ∀ i y, y < s.count → tgtProj (st.links i) (ι y) = ((s.links i).tgt y).map ι

def initState : State :=
  { live := fun _ => [], next := fun _ => 0, attr := fun _ _ => .none, links := fun _ => [], nextId := 1 }

theorem refines_init (kname : Nat → String) (ι : Nat → Inst) : Refines kname ι Pyx.Meta.init initState := by
  refine ⟨fun x h => by simp [Pyx.Meta.init] at h, fun x h => by simp [Pyx.Meta.init] at h,
    fun x y h => by simp [Pyx.Meta.init] at h, fun k => by simp [Pyx.Meta.init, initState], ?_,
    fun i => by simp [initState], fun i x h => by simp [Pyx.Meta.init] at h, fun i x h => by simp [Pyx.Meta.init] at h⟩
  intro i p
  simp [initState, Pyx.Meta.init, Pyx.Meta.emptyLinks]

def pick {α β : Type} [DecidableEq β] (key val : α → β) (ps : List α) (t : β) : List β :=
  ps.filterMap fun p => if key p = t then some (val p) else none

section
variable {α β : Type} [DecidableEq β] (key val : α → β)

theorem pick_cons (p : α) (rest : List α) (t : β) :
    pick key val (p :: rest) t = (if key p = t then [val p] else []) ++ pick key val rest t := by
  unfold pick
  by_cases h : key p = t <;> simp [h]

theorem pick_append (a b : List α) (t : β) : pick key val (a ++ b) t = pick key val a t ++ pick key val b t :=
  List.filterMap_append

theorem pick_eq_nil {ps : List α} {t : β} (h : ∀ p ∈ ps, key p ≠ t) : pick key val ps t = [] :=
  List.filterMap_eq_nil_iff.2 fun p hp => if_neg (h p hp)

theorem any_iff_pick (ps : List α) (t : β) : ps.any (fun p => decide (key p = t)) = true ↔ pick key val ps t ≠ [] := by
  induction ps with
  | nil => simp [pick]
  | cons p rest ih =>
    rw [pick_cons, List.any_cons]
    by_cases hp : key p = t
    · simp [hp]
    · simpa [hp] using ih

theorem pick_erase [BEq α] [LawfulBEq α] (hkv : ∀ p q, key p = key q → val p = val q → p = q) (P : α) (t : β) :
    ∀ ps : List α, pick key val (ps.erase P) t = if key P = t then (pick key val ps t).erase (val P) else pick key val ps t
  | [] => by simp [pick]
  | p :: rest => by
    by_cases hp : p = P
    · subst hp
      rw [List.erase_cons_head, pick_cons]
      by_cases hT : key p = t <;> simp [hT]
    · rw [List.erase_cons_tail (by simpa using hp), pick_cons, pick_cons, pick_erase hkv P t rest]
      by_cases hT : key P = t
      · rw [if_pos hT, if_pos hT]
        by_cases hp2 : key p = t
        · -- key and value determine the pair (`hkv`): `p ≠ P` under the same key, so `val p ≠ val P` and the erase passes it
          rw [if_pos hp2, List.singleton_append, List.singleton_append,
            List.erase_cons_tail (by simpa using fun e => hp (hkv p P (hp2.trans hT.symm) e))]
        · rw [if_neg hp2]; rfl
      · rw [if_neg hT, if_neg hT]

theorem pick_filter (I : β) (q : α → Bool) (hq : ∀ p, q p = true ↔ key p ≠ I ∧ val p ≠ I) (t : β) (ps : List α) :
    pick key val (ps.filter q) t = if t = I then [] else (pick key val ps t).filter (fun w => decide (w ≠ I)) := by
  by_cases ht : t = I
  · rw [if_pos ht]
    exact pick_eq_nil key val fun p hp e => ((hq p).1 (List.mem_filter.1 hp).2).1 (e.trans ht)
  · rw [if_neg ht]
    unfold pick
    rw [List.filterMap_filter, List.filter_filterMap]
    congr 1
    funext p
    by_cases hp : key p = t
    · have : q p = decide (val p ≠ I) := by
        rw [Bool.eq_iff_iff, hq, decide_eq_true_eq, hp]
        exact and_iff_right ht
      by_cases hv : val p = I <;> simp [hp, this, hv, Option.filter]
    · cases q p <;> simp [hp]

end

theorem map_erase_inj {β : Type} [DecidableEq β] {f : Nat → β} (a : Nat) : ∀ (l : List Nat),
    (∀ z ∈ l, f z = f a → z = a) → (l.map f).erase (f a) = (l.erase a).map f
  | [], _ => rfl
  | z :: rest, h => by
    by_cases hz : z = a
    · subst hz; simp
    · have hf : f z ≠ f a := fun e => hz (h z List.mem_cons_self e)
      rw [List.map_cons, List.erase_cons_tail (by simpa using hf), List.erase_cons_tail (by simpa using hz), List.map_cons,
        map_erase_inj a rest (fun w hw => h w (List.mem_cons_of_mem _ hw))]

theorem inst_eq {a b : Inst} (h1 : a.cls = b.cls) (h2 : a.idx = b.idx) : a = b := by
  cases a; cases b; exact Inst.mk.injEq .. ▸ ⟨h1, h2⟩

section
variable {kname : Nat → String}
variable {ι : Nat → Inst} {s : MState} {st : State}

theorem Refines.idx_inj (R : Refines kname ι s st) {z x : Nat} (hz : z < s.count) (hx : x < s.count)
    (hkind : s.kindOf z = s.kindOf x) (e : (ι z).idx = (ι x).idx) : z = x :=
  R.inj z x hz hx (inst_eq (by rw [R.cls z hz, R.cls x hx, hkind]) e)

/-- an instance named so far is not the next name of any class: its index lies below the class's counter -/
theorem Refines.fresh (R : Refines kname ι s st) {z : Nat} (hz : z < s.count) {c : String} : ι z ≠ ⟨c, st.next c⟩ := fun e =>
  Nat.lt_irrefl (st.next c) (by have := R.below z hz; rwa [e] at this)

theorem live_iff (R : Refines kname ι s st) (hp : Pyx.Meta.PoolInv s) {x : Nat} (hx : x < s.count) :
    st.isLive (ι x) = true ↔ Pyx.Meta.live s x := by
  rw [State.isLive, decide_eq_true_eq, R.cls x hx, R.pool]
  refine ⟨fun h => ?_, fun h => List.mem_map.2 ⟨x, h.2, rfl⟩⟩
  obtain ⟨z, hz, hzi⟩ := List.mem_map.1 h
  have hz' := (hp (s.kindOf x)).2 z hz
  rw [← R.idx_inj hz'.1 hx hz'.2 hzi]
  exact ⟨hz'.1, by rw [hz'.2]; exact hz⟩

theorem specAt_append (pre : MSchema) (a : Pyx.Meta.AssocSpec) (rest : MSchema) :
    Pyx.Meta.specAt (pre ++ a :: rest) pre.length = a := by
  simp [Pyx.Meta.specAt]

def found (kname : Nat → String) (sch : MSchema) (X Y : Inst) : Nat × Pyx.Meta.Dir → Nat × Assoc × Inst × Inst
  | (i, .fwd) => (i, toAssoc kname (Pyx.Meta.specAt sch i), Y, X)
  | (i, .rev) => (i, toAssoc kname (Pyx.Meta.specAt sch i), X, Y)

theorem findLinkFrom_corr (hk : Function.Injective kname) (rel phrase : String) (X Y : Inst) (k1 k2 : Nat)
    (hX : X.cls = kname k1) (hY : Y.cls = kname k2) : ∀ (sch pre : MSchema),
    findLinkFrom rel phrase X Y pre.length (sch.map (toAssoc kname)) =
      (Pyx.Meta.findLinkFrom k1 k2 rel phrase pre.length sch).map (found kname (pre ++ sch) X Y)
  | [], _ => rfl
  | a :: rest, pre => by
    -- the scanned prefix `pre` is carried so that `pre.length` indexes the WHOLE schema (`specAt_append`)
    have ih := findLinkFrom_corr hk rel phrase X Y k1 k2 hX hY rest (pre ++ [a])
    rw [List.length_append, List.append_assoc] at ih
    have e1 : ((toAssoc kname a).tgt = X.cls ∧ (toAssoc kname a).src = Y.cls ∧ (toAssoc kname a).tgtPhrase = phrase) ↔
        (a.tgtKind = k1 ∧ a.srcKind = k2 ∧ a.tgtPhrase = phrase) := by
      simp only [toAssoc, hX, hY, hk.eq_iff]
    have e2 : ((toAssoc kname a).src = X.cls ∧ (toAssoc kname a).tgt = Y.cls ∧ (toAssoc kname a).srcPhrase = phrase) ↔
        (a.srcKind = k1 ∧ a.tgtKind = k2 ∧ a.srcPhrase = phrase) := by
      simp only [toAssoc, hX, hY, hk.eq_iff]
    rw [List.map_cons, findLinkFrom, Pyx.Meta.findLinkFrom]
    by_cases hrel : a.rel = rel
    · rw [if_pos (show (toAssoc kname a).rel = rel from hrel), if_neg (not_not_intro hrel)]
      by_cases hc1 : a.tgtKind = k1 ∧ a.srcKind = k2 ∧ a.tgtPhrase = phrase
      · rw [if_pos (e1.2 hc1), if_pos hc1, Option.map_some, found, specAt_append]
      · rw [if_neg (mt e1.1 hc1), if_neg hc1]
        by_cases hc2 : a.srcKind = k1 ∧ a.tgtKind = k2 ∧ a.srcPhrase = phrase
        · rw [if_pos (e2.2 hc2), if_pos hc2, Option.map_some, found, specAt_append]
        · rw [if_neg (mt e2.1 hc2), if_neg hc2]
          exact ih
    · rw [if_neg (show ¬ (toAssoc kname a).rel = rel from hrel), if_pos hrel]
      exact ih

theorem findLink_corr (hk : Function.Injective kname) (kinds : List Nat) (sch : MSchema) (rel phrase : String)
    (X Y : Inst) (k1 k2 : Nat) (hX : X.cls = kname k1) (hY : Y.cls = kname k2) :
    findLink (ctxOf kname kinds sch) rel phrase X Y =
      (Pyx.Meta.findLink sch k1 k2 rel phrase).map (found kname sch X Y) :=
  findLinkFrom_corr hk rel phrase X Y k1 k2 hX hY sch []

def extend (ι : Nat → Inst) (x : Nat) (i : Inst) : Nat → Inst := fun z => if z = x then i else ι z

theorem extend_old {ι : Nat → Inst} {x z : Nat} {i : Inst} (h : z ≠ x) : extend ι x i z = ι z := by
  simp [extend, h]

theorem extend_new {ι : Nat → Inst} {x : Nat} {i : Inst} : extend ι x i x = i := by simp [extend]

theorem extend_lt {ι : Nat → Inst} {n z : Nat} {i : Inst} (h : z < n) : extend ι n i z = ι z := extend_old (Nat.ne_of_lt h)

theorem findClass_ctxOf (kname : Nat → String) (sch : MSchema) (k : Nat) : ∀ (kinds : List Nat), k ∈ kinds →
    ∃ c, findClass (ctxOf kname kinds sch) (kname k) = some c ∧ c.attrs = [] := fun kinds h => by
  unfold findClass ctxOf
  rw [List.find?_map]
  cases h' : kinds.find? _ with
  | none => exact absurd (decide_eq_true rfl) (List.find?_eq_none.1 h' k h)
  | some k' => exact ⟨_, rfl, rfl⟩

theorem links_lt {sch : MSchema} (A : Pyx.Meta.AllInv sch s) {i x y : Nat} :
    (y ∈ (s.links i).src x → x < s.count ∧ y < s.count) ∧ (x ∈ (s.links i).tgt y → x < s.count ∧ y < s.count) := by
  have key : y ∈ (s.links i).src x → x < s.count ∧ y < s.count := fun h =>
    ⟨(A.liveOnly i x y h).1.1, (A.liveOnly i x y h).2.1⟩
  exact ⟨key, fun h => key (((A.inv i).1 x y).2 h)⟩

theorem ord_extend {n : Nat} {key val : Inst × Inst → Inst} {ps : List (Inst × Inst)} {m : Nat → List Nat} {i0 : Inst}
    (hf : ∀ p ∈ ps, key p ≠ i0) (hm : ∀ z w, w ∈ m z → z < n ∧ w < n)
    (h : ∀ z, z < n → pick key val ps (ι z) = (m z).map ι) (z : Nat) (hz : z < n + 1) :
    pick key val ps (extend ι n i0 z) = (m z).map (extend ι n i0) := by
  by_cases hzc : z = n
  · subst hzc
    rw [extend_new, pick_eq_nil key val hf, List.eq_nil_iff_forall_not_mem.2 fun w hw => Nat.lt_irrefl _ (hm _ w hw).1]
    rfl
  · rw [extend_old hzc, h z (by omega)]
    exact List.map_congr_left fun w hw => (extend_lt (hm z w hw).2).symm

/-- `Refines` does not look at the attribute valuation: whatever class declaration the context holds under the name,
    the new instance extends the naming -/
theorem new_refines_of_class (hk : Function.Injective kname) {C : Ctx} {sch : MSchema} (R : Refines kname ι s st)
    (A : Pyx.Meta.AllInv sch s) (k : Nat) {c : ClassDecl} (hc : findClass C (kname k) = some c) (hasId : Bool) :
    ∃ st', newInst C (kname k) st = .ok (⟨kname k, st.next (kname k)⟩, st') ∧
      Refines kname (extend ι s.count ⟨kname k, st.next (kname k)⟩) (Pyx.Meta.new s k hasId).1 st' := by
  let i0 : Inst := ⟨kname k, st.next (kname k)⟩
  refine ⟨_, by rw [newInst, hc], ?_⟩
  · have hcase : ∀ z, z < s.count + 1 → z = s.count ∨ z < s.count := fun z hz => by omega
    have hnamed : ∀ i, ∀ p ∈ st.links i, p.1 ≠ i0 ∧ p.2 ≠ i0 := fun i p hp => by
      obtain ⟨x', y', rfl, hm⟩ := (R.pairs i p).1 hp
      exact ⟨R.fresh ((links_lt A).1 hm).2, R.fresh ((links_lt A).1 hm).1⟩
    refine ⟨fun z hz => ?_, fun z hz => ?_, fun a b ha hb hab => ?_, fun k' => ?_, fun i p => ?_, R.nodup,
      fun i => ord_extend (fun p hp => (hnamed i p hp).2) (fun _ _ h => (links_lt A).1 h) (R.srcOrd i),
      fun i => ord_extend (fun p hp => (hnamed i p hp).1) (fun _ _ h => ((links_lt A).2 h).symm) (R.tgtOrd i)⟩
    · show _ = kname (Pyx.Meta.upd s.kindOf s.count k z)
      rcases hcase z hz with rfl | hz'
      · rw [extend_new, Pyx.Meta.upd_same]
      · rw [extend_lt hz', Pyx.Meta.upd_other _ _ (Nat.ne_of_lt hz')]; exact R.cls z hz'
    · show _ < upd st.next (kname k) (st.next (kname k) + 1) _
      unfold upd
      rcases hcase z hz with rfl | hz'
      · rw [extend_new, if_pos rfl]; exact Nat.lt_succ_self _
      · rw [extend_lt hz']
        have := R.below z hz'
        split
        · rename_i hcl; rw [hcl] at this; omega
        · exact this
    · rcases hcase a ha with rfl | ha' <;> rcases hcase b hb with rfl | hb'
      · rfl
      · rw [extend_new, extend_lt hb'] at hab; exact absurd hab.symm (R.fresh hb')
      · rw [extend_new, extend_lt ha'] at hab; exact absurd hab (R.fresh ha')
      · rw [extend_lt ha', extend_lt hb'] at hab; exact R.inj a b ha' hb' hab
    · show upd st.live (kname k) (st.live (kname k) ++ [st.next (kname k)]) (kname k') =
        (Pyx.Meta.upd s.pool k (s.pool k ++ [s.count]) k').map (fun x => (extend ι s.count i0 x).idx)
      have hmap : ∀ k'', (s.pool k'').map (fun x => (extend ι s.count i0 x).idx) = st.live (kname k'') := fun k'' =>
        (List.map_congr_left fun z hz => by rw [extend_lt ((A.pool k'').2 z hz).1]).trans (R.pool k'').symm
      unfold upd Pyx.Meta.upd
      by_cases hkk : k' = k
      · subst hkk
        rw [if_pos rfl, if_pos rfl, List.map_append, hmap, List.map_singleton, extend_new]
      · rw [if_neg hkk, if_neg (fun e => hkk (hk e)), hmap]
    · show p ∈ st.links i ↔ ∃ x y, _ ∧ y ∈ (s.links i).src x
      rw [R.pairs i p]
      refine exists_congr fun x => exists_congr fun y => and_congr_left fun hm => ?_
      rw [extend_lt ((links_lt A).1 hm).1, extend_lt ((links_lt A).1 hm).2]

theorem new_refines (hk : Function.Injective kname) (kinds : List Nat) (sch : MSchema)
    (R : Refines kname ι s st) (A : Pyx.Meta.AllInv sch s) (k : Nat) (hkin : k ∈ kinds) (hasId : Bool) :
    ∃ st', newInst (ctxOf kname kinds sch) (kname k) st = .ok (⟨kname k, st.next (kname k)⟩, st') ∧
      Refines kname (extend ι s.count ⟨kname k, st.next (kname k)⟩) (Pyx.Meta.new s k hasId).1 st' := by
  obtain ⟨c, hc, _⟩ := findClass_ctxOf kname sch k kinds hkin
  exact new_refines_of_class hk R A k hc hasId

theorem pair_mem_iff {sch : MSchema} (R : Refines kname ι s st) (A : Pyx.Meta.AllInv sch s) (i : Nat) {x y : Nat}
    (hx : x < s.count) (hy : y < s.count) : (ι y, ι x) ∈ st.links i ↔ y ∈ (s.links i).src x := by
  rw [R.pairs]
  refine ⟨fun ⟨x', y', hp, hm⟩ => ?_, fun hm => ⟨x, y, rfl, hm⟩⟩
  have hlt := (links_lt A).1 hm
  rw [R.inj y y' hy hlt.2 (Prod.mk.inj hp).1, R.inj x x' hx hlt.1 (Prod.mk.inj hp).2]
  exact hm

theorem Refines.upd_links (R : Refines kname ι s st) (i : Nat) {ps : List (Inst × Inst)} {l : Pyx.Meta.ALinks}
    (hp : ∀ p, p ∈ ps ↔ ∃ x y, p = (ι y, ι x) ∧ y ∈ l.src x) (hn : ps.Nodup)
    (hs : ∀ x, x < s.count → srcProj ps (ι x) = (l.src x).map ι)
    (ht : ∀ y, y < s.count → tgtProj ps (ι y) = (l.tgt y).map ι) :
    Refines kname ι { s with links := Pyx.Meta.upd s.links i l } { st with links := upd st.links i ps } := by
  have key : ∀ j (Q : List (Inst × Inst) → Pyx.Meta.ALinks → Prop), Q ps l → Q (st.links j) (s.links j) →
      Q (upd st.links i ps j) (Pyx.Meta.upd s.links i l j) := by
    intro j Q h1 h2
    unfold upd Pyx.Meta.upd
    by_cases hj : j = i
    · rw [if_pos hj, if_pos hj]; exact h1
    · rw [if_neg hj, if_neg hj]; exact h2
  exact ⟨R.cls, R.below, R.inj, R.pool,
    fun j => key j (fun ps l => ∀ p, p ∈ ps ↔ ∃ x y, p = (ι y, ι x) ∧ y ∈ l.src x) hp (R.pairs j),
    fun j => key j (fun ps _ => ps.Nodup) hn (R.nodup j),
    fun j => key j (fun ps l => ∀ x, x < s.count → srcProj ps (ι x) = (l.src x).map ι) hs (R.srcOrd j),
    fun j => key j (fun ps l => ∀ y, y < s.count → tgtProj ps (ι y) = (l.tgt y).map ι) ht (R.tgtOrd j)⟩

theorem ord_append {n : Nat} (inj : ∀ x y, x < n → y < n → ι x = ι y → x = y) {key val : Inst × Inst → Inst}
    {ps : List (Inst × Inst)} {m : Nat → List Nat} {P : Inst × Inst} {a b : Nat} (hk : key P = ι a) (hv : val P = ι b)
    (ha : a < n) (h : ∀ z, z < n → pick key val ps (ι z) = (m z).map ι) (z : Nat) (hz : z < n) :
    pick key val (ps ++ [P]) (ι z) = (Pyx.Meta.upd m a (m a ++ [b]) z).map ι := by
  rw [pick_append, h z hz, pick_cons, hk, hv]
  unfold Pyx.Meta.upd
  by_cases hzz : z = a
  · subst hzz; rw [if_pos rfl, if_pos rfl, List.map_append]; rfl
  · rw [if_neg hzz, if_neg fun e => hzz (inj a z ha hz e).symm]; exact List.append_nil _

theorem ord_erase {n : Nat} (inj : ∀ x y, x < n → y < n → ι x = ι y → x = y) {key val : Inst × Inst → Inst}
    (hkv : ∀ p q, key p = key q → val p = val q → p = q)
    {ps : List (Inst × Inst)} {m : Nat → List Nat} {P : Inst × Inst} {a b : Nat} (hk : key P = ι a) (hv : val P = ι b)
    (ha : a < n) (hb : b < n) (hm : ∀ w ∈ m a, w < n)
    (h : ∀ z, z < n → pick key val ps (ι z) = (m z).map ι) (z : Nat) (hz : z < n) :
    pick key val (ps.erase P) (ι z) = (Pyx.Meta.upd m a ((m a).erase b) z).map ι := by
  rw [pick_erase key val hkv, h z hz, hk, hv]
  unfold Pyx.Meta.upd
  by_cases hzz : z = a
  · subst hzz
    rw [if_pos rfl, if_pos rfl]
    exact map_erase_inj b _ fun w hw e => inj w b (hm w hw) hb e
  · rw [if_neg hzz, if_neg fun e => hzz (inj a z ha hz e).symm]

/-- Spec's `relate` and the mechanism's two connects make the same three-way test (related already / multiplicity
    violated / append): the closed form `relateOn_of_sym` is set against the text of `relate`, `if` by `if` -/
theorem relate_core {sch : MSchema} (R : Refines kname ι s st) (A : Pyx.Meta.AllInv sch s) (C : Ctx) (X Y : Inst)
    (rel phrase : String) (i : Nat) {xt ys : Nat} (hl : (st.isLive X && st.isLive Y) = true)
    (hf : findLink C rel phrase X Y = some (i, toAssoc kname (Pyx.Meta.specAt sch i), ι ys, ι xt))
    (hx : xt < s.count) (hy : ys < s.count) :
    let r := Pyx.Meta.relateOn (Pyx.Meta.specAt sch i) (s.links i) xt ys
    let s' : MState := { s with links := Pyx.Meta.upd s.links i r.1 }
    (r.2 = .ok → ∃ st', relate C X Y rel phrase st = .ok st' ∧ Refines kname ι s' st') ∧
    (r.2 ≠ .ok → s' = s ∧ ∃ e, relate C X Y rel phrase st = .error e) := by
  have hmem := pair_mem_iff R A i hx hy
  have hcond : ((!(toAssoc kname (Pyx.Meta.specAt sch i)).srcMany && (st.links i).any fun p => decide (p.2 = ι xt)) ||
      (!(toAssoc kname (Pyx.Meta.specAt sch i)).tgtMany && (st.links i).any fun p => decide (p.1 = ι ys))) = true ↔
      (((s.links i).src xt ≠ [] ∧ (Pyx.Meta.specAt sch i).srcMany = false) ∨
        ((s.links i).tgt ys ≠ [] ∧ (Pyx.Meta.specAt sch i).tgtMany = false)) := by
    have a1 := any_iff_pick Prod.snd Prod.fst (st.links i) (ι xt)
    have a2 := any_iff_pick Prod.fst Prod.snd (st.links i) (ι ys)
    rw [show pick _ _ _ _ = _ from R.srcOrd i xt hx] at a1
    rw [show pick _ _ _ _ = _ from R.tgtOrd i ys hy] at a2
    simp only [Bool.or_eq_true, Bool.and_eq_true, Bool.not_eq_true', toAssoc, a1, a2, ne_eq, List.map_eq_nil_iff, and_comm]
  rw [relate, hl, hf, if_pos rfl, Pyx.Meta.relateOn_of_sym (A.inv i).1]
  dsimp only
  by_cases hold : ys ∈ (s.links i).src xt
  · rw [if_pos hold, if_pos (hmem.2 hold), Pyx.Meta.state_links_id]
    exact ⟨fun _ => ⟨st, rfl, R⟩, fun h => absurd rfl h⟩
  · rw [if_neg hold, if_neg (mt hmem.1 hold)]
    split
    · rw [if_pos (hcond.2 ‹_›), Pyx.Meta.state_links_id]
      exact ⟨nofun, fun _ => ⟨rfl, _, rfl⟩⟩
    · rw [if_neg (mt hcond.1 ‹_›)]
      refine ⟨fun _ => ⟨_, rfl, R.upd_links i (fun p => ?_) ?_
        (ord_append (key := Prod.snd) (val := Prod.fst) R.inj rfl rfl hx (R.srcOrd i))
        (ord_append (key := Prod.fst) (val := Prod.snd) R.inj rfl rfl hy (R.tgtOrd i))⟩, fun h => absurd rfl h⟩
      · simp only [List.mem_append, List.mem_singleton, R.pairs, Meta.mem_upd_append]
        constructor
        · rintro (⟨x, y, hp, hm⟩ | hp)
          · exact ⟨x, y, hp, .inl hm⟩
          · exact ⟨xt, ys, hp, .inr ⟨rfl, rfl⟩⟩
        · rintro ⟨x, y, hp, hm | ⟨rfl, rfl⟩⟩
          · exact .inl ⟨x, y, hp, hm⟩
          · exact .inr hp
      · exact nodup_snoc (R.nodup i) (mt hmem.1 hold)

theorem live_and {sch : MSchema} (R : Refines kname ι s st) (A : Pyx.Meta.AllInv sch s) {x y : Nat} (hx : x < s.count)
    (hy : y < s.count) : (st.isLive (ι x) && st.isLive (ι y)) = true ↔ Pyx.Meta.live s x ∧ Pyx.Meta.live s y := by
  rw [Bool.and_eq_true, live_iff R A.pool hx, live_iff R A.pool hy]

/-- `relate` on ANY two created instances: accepted by the mechanism ⇒ accepted by Spec and the results correspond
    (the pair is added at the end of both partners' lists, or was there already); rejected by the mechanism
    (RelateException after the undo, UnknownLink, or one of them is not live: the mechanism keeps its `deleted` set) ⇒
    rejected by Spec, and neither state changes -/
theorem relate_refines' (hk : Function.Injective kname) (kinds : List Nat) (sch : MSchema)
    (R : Refines kname ι s st) (A : Pyx.Meta.AllInv sch s) {x y : Nat}
    (hx : x < s.count) (hy : y < s.count) (rel phrase : String) :
    ((Pyx.Meta.relate sch s x y rel phrase).2 = .ok →
      ∃ st', relate (ctxOf kname kinds sch) (ι x) (ι y) rel phrase st = .ok st' ∧
        Refines kname ι (Pyx.Meta.relate sch s x y rel phrase).1 st') ∧
    ((Pyx.Meta.relate sch s x y rel phrase).2 ≠ .ok →
      (Pyx.Meta.relate sch s x y rel phrase).1 = s ∧
        ∃ e, relate (ctxOf kname kinds sch) (ι x) (ι y) rel phrase st = .error e) := by
  by_cases hl : Pyx.Meta.live s x ∧ Pyx.Meta.live s y
  · have hlive := (live_and R A hx hy).2 hl
    have hfl := findLink_corr hk kinds sch rel phrase (ι x) (ι y) _ _ (R.cls x hx) (R.cls y hy)
    rw [Pyx.Meta.relate_of_live hl.1 hl.2]
    unfold Pyx.Meta.relateCore
    cases hf : Pyx.Meta.findLink sch (s.kindOf x) (s.kindOf y) rel phrase with
    | none =>
      rw [hf] at hfl
      refine ⟨fun h => (by cases h), fun _ => ⟨rfl, ?_⟩⟩
      rw [relate, hlive, hfl, if_pos rfl]
      exact ⟨_, rfl⟩
    | some q =>
      obtain ⟨i, d⟩ := q
      rw [hf] at hfl
      cases d with
      | fwd => exact relate_core R A _ _ _ rel phrase i hlive hfl hx hy
      | rev => exact relate_core R A _ _ _ rel phrase i hlive hfl hy hx
  · have hm := Pyx.Meta.relate_not_live_fst (sch := sch) hl rel phrase
    refine ⟨fun hok => absurd hok hm.2, fun _ => ⟨hm.1, ?_⟩⟩
    rw [relate, Bool.eq_false_iff.2 (mt (live_and R A hx hy).1 hl)]
    exact ⟨_, rfl⟩

theorem unrelate_core {sch : MSchema} (R : Refines kname ι s st) (A : Pyx.Meta.AllInv sch s) (C : Ctx) (X Y : Inst)
    (rel phrase : String) (i : Nat) {a : Assoc} {xt ys : Nat} (hl : (st.isLive X && st.isLive Y) = true)
    (hf : findLink C rel phrase X Y = some (i, a, ι ys, ι xt)) (hx : xt < s.count) (hy : ys < s.count) :
    ((Pyx.Meta.unrelateOn (s.links i) xt ys).2 = .ok →
      ∃ st', unrelate C X Y rel phrase st = .ok st' ∧
        Refines kname ι { s with links := Pyx.Meta.upd s.links i (Pyx.Meta.unrelateOn (s.links i) xt ys).1 } st') ∧
    ((Pyx.Meta.unrelateOn (s.links i) xt ys).2 ≠ .ok →
      ({ s with links := Pyx.Meta.upd s.links i (Pyx.Meta.unrelateOn (s.links i) xt ys).1 } : MState) = s ∧
        ∃ e, unrelate C X Y rel phrase st = .error e) := by
  have hmem := pair_mem_iff R A i hx hy
  rw [unrelate, hl, hf, if_pos rfl, Pyx.Meta.unrelateOn_of_sym (A.inv i).1]
  dsimp only
  by_cases hold : ys ∈ (s.links i).src xt
  · rw [if_pos hold, if_pos (hmem.2 hold)]
    refine ⟨fun _ => ⟨_, rfl, R.upd_links i (fun p => ?_) ((R.nodup i).erase _)
      (ord_erase (key := Prod.snd) (val := Prod.fst) R.inj (fun _ _ h1 h2 => Prod.ext h2 h1) rfl rfl hx hy
        (fun w hw => ((links_lt A).1 hw).2) (R.srcOrd i))
      (ord_erase (key := Prod.fst) (val := Prod.snd) R.inj (fun _ _ h1 h2 => Prod.ext h1 h2) rfl rfl hy hx
        (fun w hw => ((links_lt A).2 hw).1) (R.tgtOrd i))⟩, fun hne => absurd rfl hne⟩
    rw [(R.nodup i).mem_erase_iff, R.pairs]
    simp only [Meta.mem_upd_erase ((A.inv i).2.1.1 xt)]
    constructor
    · rintro ⟨hne, x, y, hp, hm⟩
      exact ⟨x, y, hp, hm, fun h => hne (by rw [hp, h.1, h.2])⟩
    · rintro ⟨x, y, hp, hm, hn⟩
      refine ⟨fun e => hn ?_, x, y, hp, hm⟩
      -- `ι` is injective on created instances: another pair is another index pair
      have hlt := (links_lt A).1 hm
      rw [hp] at e
      exact ⟨R.inj x xt hlt.1 hx (Prod.mk.inj e).2, R.inj y ys hlt.2 hy (Prod.mk.inj e).1⟩
  · rw [if_neg hold, if_neg (mt hmem.1 hold), Pyx.Meta.state_links_id]
    exact ⟨nofun, fun _ => ⟨rfl, _, rfl⟩⟩

theorem unrelate_ok_live {sch : MSchema} (A : Pyx.Meta.AllInv sch s) {x y : Nat} {rel phrase : String}
    (h : (Pyx.Meta.unrelate sch s x y rel phrase).2 = .ok) : Pyx.Meta.live s x ∧ Pyx.Meta.live s y := by
  unfold Pyx.Meta.unrelate at h
  cases hf : Pyx.Meta.findLink sch (s.kindOf x) (s.kindOf y) rel phrase with
  | none => rw [hf] at h; cases h
  | some q =>
    obtain ⟨i, d⟩ := q
    rw [hf] at h
    have hl := A.liveOnly i _ _ (Classical.not_not.1 fun hn => by
      rw [show (Pyx.Meta.unrelateOn _ _ _).2 = _ from (Pyx.Meta.unrelateOn_reject_iff (A.inv i).1).2 hn] at h; cases h)
    cases d with
    | fwd => exact hl
    | rev => exact hl.symm

/-- `unrelate` of created instances: accepted by the mechanism ⇒ accepted by Spec and the results correspond
    (the pair leaves both partners' lists, the order of the others is kept); rejected (UnrelateException / UnknownLink)
    ⇒ rejected by Spec, neither state changes.  Guard: the two handles denote created instances. -/
theorem unrelate_refines (hk : Function.Injective kname) (kinds : List Nat) (sch : MSchema)
    (R : Refines kname ι s st) (A : Pyx.Meta.AllInv sch s) {x y : Nat}
    (hx : x < s.count) (hy : y < s.count) (rel phrase : String) :
    ((Pyx.Meta.unrelate sch s x y rel phrase).2 = .ok →
      ∃ st', unrelate (ctxOf kname kinds sch) (ι x) (ι y) rel phrase st = .ok st' ∧
        Refines kname ι (Pyx.Meta.unrelate sch s x y rel phrase).1 st') ∧
    ((Pyx.Meta.unrelate sch s x y rel phrase).2 ≠ .ok →
      (Pyx.Meta.unrelate sch s x y rel phrase).1 = s ∧
        ∃ e, unrelate (ctxOf kname kinds sch) (ι x) (ι y) rel phrase st = .error e) := by
  by_cases hlive : Pyx.Meta.live s x ∧ Pyx.Meta.live s y
  · have hl := (live_and R A hx hy).2 hlive
    have hfl := findLink_corr hk kinds sch rel phrase (ι x) (ι y) _ _ (R.cls x hx) (R.cls y hy)
    unfold Pyx.Meta.unrelate
    cases hf : Pyx.Meta.findLink sch (s.kindOf x) (s.kindOf y) rel phrase with
    | none =>
      rw [hf] at hfl
      refine ⟨fun h => (by cases h), fun _ => ⟨rfl, ?_⟩⟩
      rw [unrelate, hl, hfl, if_pos rfl]
      exact ⟨_, rfl⟩
    | some q =>
      obtain ⟨i, d⟩ := q
      rw [hf] at hfl
      cases d with
      | fwd => exact unrelate_core R A _ _ _ rel phrase i hl hfl hx hy
      | rev => exact unrelate_core R A _ _ _ rel phrase i hl hfl hy hx
  · have hnok : (Pyx.Meta.unrelate sch s x y rel phrase).2 ≠ .ok := fun h => hlive (unrelate_ok_live A h)
    refine ⟨fun h => absurd h hnok, fun _ => ⟨Pyx.Meta.unrelate_reject_atomic A.inv hnok, ?_⟩⟩
    rw [unrelate, Bool.eq_false_iff.2 (mt (live_and R A hx hy).1 hlive)]
    exact ⟨_, rfl⟩

theorem delete_char {sch : MSchema} (hok : Pyx.Meta.SchemaOk sch) (A : Pyx.Meta.AllInv sch s) {x : Nat}
    (hx : Pyx.Meta.live s x) :
    (Pyx.Meta.delete sch s x).2 = .ok ∧
    (Pyx.Meta.delete sch s x).1.kindOf = s.kindOf ∧ (Pyx.Meta.delete sch s x).1.count = s.count ∧
    (Pyx.Meta.delete sch s x).1.pool = Pyx.Meta.upd s.pool (s.kindOf x) ((s.pool (s.kindOf x)).erase x) ∧
    (∀ j z, ((Pyx.Meta.delete sch s x).1.links j).src z = ((s.links j).src z).filter (fun w => decide (w ≠ x ∧ z ≠ x))) ∧
    (∀ j z, ((Pyx.Meta.delete sch s x).1.links j).tgt z = ((s.links j).tgt z).filter (fun w => decide (w ≠ x ∧ z ≠ x))) :=
  ⟨(Pyx.Meta.delete_char hok A.inv A.typed hx).1, (Pyx.Meta.delete_shrinks sch s x).kindOf, (Pyx.Meta.delete_shrinks sch s x).count,
    (Pyx.Meta.delete_char hok A.inv A.typed hx).2⟩

theorem ord_filter {n : Nat} (inj : ∀ x y, x < n → y < n → ι x = ι y → x = y) {key val : Inst × Inst → Inst}
    {ps : List (Inst × Inst)} {m : Nat → List Nat} {x : Nat} (hx : x < n) (q : Inst × Inst → Bool)
    (hq : ∀ p, q p = true ↔ key p ≠ ι x ∧ val p ≠ ι x) (hm : ∀ z w, w ∈ m z → w < n)
    (h : ∀ z, z < n → pick key val ps (ι z) = (m z).map ι) (z : Nat) (hz : z < n) :
    pick key val (ps.filter q) (ι z) = ((m z).filter fun w => decide (w ≠ x ∧ z ≠ x)).map ι := by
  rw [pick_filter key val (ι x) q hq, h z hz]
  by_cases hzx : z = x
  · subst hzx
    rw [if_pos rfl, List.filter_eq_nil_iff.2 fun w _ => by simp]
    rfl
  · rw [if_neg fun e => hzx (inj z x hz hx e), List.filter_map]
    congr 1
    apply List.filter_congr
    intro w hw
    have : ι w = ι x ↔ w = x := ⟨inj w x (hm z w hw) hx, congrArg ι⟩
    simp [hzx, this]

/-- `delete` of a created instance: a live instance is deleted on both sides and the results correspond — it
    leaves its pool, every pair it takes part in disappears (the mechanism's loop of unrelates succeeds), every other
    partner list keeps its order; a dead instance is rejected on both sides (DeleteException), nothing changes. -/
theorem delete_refines (hk : Function.Injective kname) {sch : MSchema} (hok : Pyx.Meta.SchemaOk sch)
    (R : Refines kname ι s st) (A : Pyx.Meta.AllInv sch s) {x : Nat} (hx : x < s.count) :
    ((Pyx.Meta.delete sch s x).2 = .ok →
      ∃ st', deleteInst (ι x) st = .ok st' ∧ Refines kname ι (Pyx.Meta.delete sch s x).1 st') ∧
    ((Pyx.Meta.delete sch s x).2 ≠ .ok →
      (Pyx.Meta.delete sch s x).1 = s ∧ ∃ e, deleteInst (ι x) st = .error e) := by
  by_cases hlive : Pyx.Meta.live s x
  · -- `delete_char` gives the mechanism's result as filters of the old link sets; Spec's filter of the pair list
    -- projects onto them (`ord_filter`)
    obtain ⟨hdok, hkind, hcount, hpool, hsrc, htgt⟩ := delete_char hok A hlive
    refine ⟨fun _ => ⟨_, by rw [deleteInst, (live_iff R A.pool hx).2 hlive]; rfl, ?_⟩, fun h => absurd hdok h⟩
    have hc : ∀ {z}, z < (Pyx.Meta.delete sch s x).1.count → z < s.count := fun h => Nat.lt_of_lt_of_eq h hcount
    refine ⟨fun z hz => ?_, fun z hz => R.below z (hc hz), fun a b ha hb => R.inj a b (hc ha) (hc hb),
      fun k' => ?_, fun j p => ?_, fun j => (R.nodup j).sublist List.filter_sublist, fun j z hz => ?_, fun j z hz => ?_⟩
    · rw [hkind]; exact R.cls z (hc hz)
    · show upd st.live (ι x).cls ((st.live (ι x).cls).erase (ι x).idx) (kname k') = _
      rw [hpool]
      unfold upd Pyx.Meta.upd
      rw [R.cls x hx]
      by_cases hkk : k' = s.kindOf x
      · subst hkk
        rw [if_pos rfl, if_pos rfl, R.pool]
        exact map_erase_inj (f := fun z => (ι z).idx) x _ fun z hz e =>
          R.idx_inj ((A.pool _).2 z hz).1 hx ((A.pool _).2 z hz).2 e
      · rw [if_neg (fun e => hkk (hk e)), if_neg hkk]; exact R.pool k'
    · show p ∈ (st.links j).filter _ ↔ _
      rw [List.mem_filter, R.pairs, decide_eq_true_eq]
      simp only [hsrc, List.mem_filter, decide_eq_true_eq]
      constructor
      · rintro ⟨⟨x', y', rfl, hm⟩, h1, h2⟩
        exact ⟨x', y', rfl, hm, fun e => h1 (congrArg ι e), fun e => h2 (congrArg ι e)⟩
      · rintro ⟨x', y', rfl, hm, h1, h2⟩
        have hlt := (links_lt A).1 hm
        exact ⟨⟨x', y', rfl, hm⟩, fun e => h1 (R.inj y' x hlt.2 hx e), fun e => h2 (R.inj x' x hlt.1 hx e)⟩
    · rw [hsrc]
      exact ord_filter (key := Prod.snd) (val := Prod.fst) R.inj hx _ (fun p => decide_eq_true_iff.trans and_comm)
        (fun _ _ h => ((links_lt A).1 h).2) (R.srcOrd j) z (hc hz)
    · rw [htgt]
      exact ord_filter (key := Prod.fst) (val := Prod.snd) R.inj hx _ (fun p => decide_eq_true_iff)
        (fun _ _ h => ((links_lt A).2 h).1) (R.tgtOrd j) z (hc hz)
  · rw [Pyx.Meta.delete_dead_rejected sch s x hlive]
    refine ⟨fun h => (by cases h), fun _ => ⟨rfl, ?_⟩⟩
    rw [deleteInst, Bool.eq_false_iff.2 (mt (live_iff R A.pool hx).1 hlive)]
    exact ⟨_, rfl⟩

/-- the domain of the refinement: relate, unrelate and delete are applied to handles of created instances (live or
    deleted: a relate with a deleted instance is rejected on both sides), new to a class the Spec context knows.  Not
    `Pyx.Meta.OpOk` (relate on live instances), which the invariants of the mechanism do not need
    (`Pyx.Meta.step_allInv'`) -/
def OpOk' (kinds : List Nat) (s : MState) : Pyx.Meta.Op → Prop
  | .new k _ => k ∈ kinds
  | .relate x y _ _ => x < s.count ∧ y < s.count
  | .unrelate x y _ _ => x < s.count ∧ y < s.count
  | .delete x => x < s.count

def Dom' (kinds : List Nat) (sch : MSchema) : MState → List Pyx.Meta.Op → Prop
  | _, [] => True
  | s, op :: ops => OpOk' kinds s op ∧ Dom' kinds sch (Pyx.Meta.step sch s op).1 ops

/-- the Spec operation that matches a mechanism operation, on the named instances; a rejected operation leaves the
    Spec state (and the naming) as it is -/
def specStep (kname : Nat → String) (C : Ctx) (ι : Nat → Inst) (s : MState) (st : State) :
    Pyx.Meta.Op → (Nat → Inst) × State
  | .new k _ =>
    match newInst C (kname k) st with
    | .ok (i, st') => (extend ι s.count i, st')
    | .error _ => (ι, st)
  | .relate x y r p =>
    match relate C (ι x) (ι y) r p st with
    | .ok st' => (ι, st')
    | .error _ => (ι, st)
  | .unrelate x y r p =>
    match unrelate C (ι x) (ι y) r p st with
    | .ok st' => (ι, st')
    | .error _ => (ι, st)
  | .delete x =>
    match deleteInst (ι x) st with
    | .ok st' => (ι, st')
    | .error _ => (ι, st)

/-- run a history on both sides (the mechanism state is carried along only to name the instances) -/
def specRun (kname : Nat → String) (C : Ctx) (sch : MSchema) :
    List Pyx.Meta.Op → MState → (Nat → Inst) → State → (Nat → Inst) × State
  | [], _, ι, st => (ι, st)
  | op :: ops, s, ι, st =>
    specRun kname C sch ops (Pyx.Meta.step sch s op).1 (specStep kname C ι s st op).1 (specStep kname C ι s st op).2

theorem step_refines (hk : Function.Injective kname) (kinds : List Nat) {sch : MSchema} (hok : Pyx.Meta.SchemaOk sch)
    (R : Refines kname ι s st) (A : Pyx.Meta.AllInv sch s) (op : Pyx.Meta.Op) (hop : OpOk' kinds s op) :
    Refines kname (specStep kname (ctxOf kname kinds sch) ι s st op).1 (Pyx.Meta.step sch s op).1
      (specStep kname (ctxOf kname kinds sch) ι s st op).2 := by
  cases op with
  | new k hasId =>
    obtain ⟨st', h1, h2⟩ := new_refines hk kinds sch R A k hop hasId
    simp only [specStep, h1, Pyx.Meta.step]
    exact h2
  | relate x y r p =>
    have h := relate_refines' hk kinds sch R A hop.1 hop.2 r p
    simp only [specStep, Pyx.Meta.step]
    by_cases hc : (Pyx.Meta.relate sch s x y r p).2 = .ok
    · obtain ⟨st', h1, h2⟩ := h.1 hc
      rw [h1]; exact h2
    · obtain ⟨h1, e, h2⟩ := h.2 hc
      rw [h2, h1]; exact R
  | unrelate x y r p =>
    have h := unrelate_refines hk kinds sch R A hop.1 hop.2 r p
    simp only [specStep, Pyx.Meta.step]
    by_cases hc : (Pyx.Meta.unrelate sch s x y r p).2 = .ok
    · obtain ⟨st', h1, h2⟩ := h.1 hc
      rw [h1]; exact h2
    · obtain ⟨h1, e, h2⟩ := h.2 hc
      rw [h2, h1]; exact R
  | delete x =>
    have h := delete_refines hk hok R A hop
    simp only [specStep, Pyx.Meta.step]
    by_cases hc : (Pyx.Meta.delete sch s x).2 = .ok
    · obtain ⟨st', h1, h2⟩ := h.1 hc
      rw [h1]; exact h2
    · obtain ⟨h1, e, h2⟩ := h.2 hc
      rw [h2, h1]; exact R

theorem run_refines_from (hk : Function.Injective kname) (kinds : List Nat) {sch : MSchema} (hok : Pyx.Meta.SchemaOk sch) :
    ∀ (ops : List Pyx.Meta.Op) (s : MState) (ι : Nat → Inst) (st : State),
      Refines kname ι s st → Pyx.Meta.AllInv sch s → Dom' kinds sch s ops →
      Refines kname (specRun kname (ctxOf kname kinds sch) sch ops s ι st).1
        (ops.foldl (fun s op => (Pyx.Meta.step sch s op).1) s)
        (specRun kname (ctxOf kname kinds sch) sch ops s ι st).2
  | [], _, _, _, R, _, _ => R
  | op :: ops, s, ι, st, R, A, hd => by
    simp only [specRun, List.foldl_cons]
    exact run_refines_from hk kinds hok ops _ _ _ (step_refines hk kinds hok R A op hd.1)
      (Pyx.Meta.step_allInv' hok A op) hd.2

/-- every history of new / relate / unrelate / delete in the domain, run by the mechanism (`Meta.run`) and —
    operation by operation, on the named instances — by Spec, ends in corresponding states -/
theorem store_refines (hk : Function.Injective kname) (kinds : List Nat) {sch : MSchema} (hok : Pyx.Meta.SchemaOk sch)
    (ι0 : Nat → Inst) (ops : List Pyx.Meta.Op) (hd : Dom' kinds sch Pyx.Meta.init ops) :
    Refines kname (specRun kname (ctxOf kname kinds sch) sch ops Pyx.Meta.init ι0 initState).1
      (Pyx.Meta.run sch ops)
      (specRun kname (ctxOf kname kinds sch) sch ops Pyx.Meta.init ι0 initState).2 :=
  run_refines_from hk kinds hok ops _ _ _ (refines_init kname ι0) (Pyx.Meta.allInv_init sch) hd

end

end Pyx.Interp
