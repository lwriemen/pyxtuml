import Proofs.ExtractScope
import Proofs.ExtractRelEdits

/-!
  C14 / C20 — package references (EP_PKGREF, R1402) in `is_contained_in`: what a reference adds, what it does not add,
  and that nothing is selected twice however many chains lead to the component.
-/

namespace Pyx.Extract

/-- ONE STEP over a reference: package `r.referring` lies inside the component (its OWN PE_PE is contained — by its
    containment chain or, higher up, by further references) and refers to the package `r.referred`: every element directly
    inside `r.referred` is contained in the component -/
theorem contained_of_reference {cs : List Container} {rf : List PkgRef} (tree : TreeOk cs rf) {root : Nat} {r : PkgRef}
    {k kq : Container} (hr : r ∈ rf) (hk : findContainer cs false r.referred = some k)
    (hq : findContainer cs false r.referring = some kq) (hc : containedIn cs rf root kq.parent = true) :
    containedIn cs rf root (.pkg r.referred) = true :=
  (contained_iff tree root _).mpr (.ref hk hr rfl hq ((contained_iff tree root _).mp hc))

/-- … and everything BELOW, one level at a time: an element of a package that is itself inside the component is inside the
    component — so the whole content of the referred package, sub-packages included, comes along -/
theorem contained_of_parent {cs : List Container} {rf : List PkgRef} (tree : TreeOk cs rf) {root p : Nat} {k : Container}
    (hk : findContainer cs false p = some k) (hc : containedIn cs rf root k.parent = true) :
    containedIn cs rf root (.pkg p) = true :=
  (contained_iff tree root _).mpr (.pkg hk ((contained_iff tree root _).mp hc))

/-- what `is_contained_in` answers for an element of a package, unfolded once (on the domain): its package is inside the
    component, or some package that refers to its package is -/
theorem contained_pkg_iff {cs : List Container} {rf : List PkgRef} (tree : TreeOk cs rf) (root p : Nat) :
    containedIn cs rf root (.pkg p) = true ↔
      ∃ k, findContainer cs false p = some k ∧
        (containedIn cs rf root k.parent = true ∨
          ∃ r ∈ rf, r.referred = p ∧ ∃ kq, findContainer cs false r.referring = some kq ∧
            containedIn cs rf root kq.parent = true) := by
  constructor
  · intro h
    have hr := (contained_iff tree root _).mp h
    cases hr with
    | pkg hk h' => exact ⟨_, hk, Or.inl ((contained_iff tree root _).mpr h')⟩
    | ref hk hr hrp hq h' => exact ⟨_, hk, Or.inr ⟨_, hr, hrp, _, hq, (contained_iff tree root _).mpr h'⟩⟩
  · rintro ⟨k, hk, h | ⟨r, hr, hrp, kq, hq, h⟩⟩
    · exact contained_of_parent tree hk h
    · subst hrp; exact contained_of_reference tree hr hk hq h

/-- package `q` lies on the element's own containment chain (the EP_PKG rows passed on the way up, through components too) -/
inductive OnChain (cs : List Container) : Parent → Nat → Prop where
  | here {p : Nat} {k : Container} : findContainer cs false p = some k → OnChain cs (.pkg p) p
  | up {p q : Nat} {k : Container} : findContainer cs false p = some k → OnChain cs k.parent q → OnChain cs (.pkg p) q
  | upComp {c q : Nat} {k : Container} : findContainer cs true c = some k → OnChain cs k.parent q → OnChain cs (.comp c) q

/-- a reference is followed from the package the element's chain PASSES, towards a referring package that is itself
    CONTAINED: being referred to is not being contained.  If no reference row targets a package on the element's own
    containment chain, the references change nothing for that element. -/
theorem containedFuel_untargeted (cs : List Container) (rf : List PkgRef) (root : Nat) :
    ∀ (f : Nat) (p : Parent), (∀ q, OnChain cs p q → ∀ r ∈ rf, r.referred ≠ q) →
      containedFuel cs rf root f p = containedFuelPlain cs root f p := by
  intro f
  induction f with
  | zero => intro p _; rfl
  | succ f ih =>
    intro p h
    cases p with
    | none => rfl
    | pkg q =>
      simp only [containedFuel, containedFuelPlain]
      cases hk : findContainer cs false q with
      | none => rfl
      | some k =>
        simp only
        have hany : ∀ (g : PkgRef → Bool), (rf.any fun r => r.referred == q && g r) = false := by
          intro g
          rw [List.any_eq_false]
          intro r hr
          have := h q (.here hk) r hr
          simp [this]
        rw [hany, Bool.or_false]
        exact ih k.parent (fun q' hq' => h q' (.up hk hq'))
    | comp c =>
      simp only [containedFuel, containedFuelPlain]
      cases hk : findContainer cs true c with
      | none => rfl
      | some k =>
        simp only
        rw [ih k.parent (fun q' hq' => h q' (.upComp hk hq'))]

/-- `mk_component` filters the O_OBJ rows: a class that is in scope — along however many chains (its own containment, one
    or several package references) — is defined exactly once -/
theorem extract_class_once {d : ClassDiagram} (wf : WF d) (comp : Option Nat) (drv : Bool) {k : Class} (hk : k ∈ d.classes)
    (hs : inScope d.containers d.pkgrefs comp k.parent = true) :
    ((extract d comp drv).classes.map (·.kl)).count k.kl = 1 := by
  have hm : (extract d comp drv).classes.map (·.kl) =
      (d.classes.filter (fun c => inScope d.containers d.pkgrefs comp c.parent)).map (·.kl) := by
    unfold extract; simp only [List.map_map]; rfl
  rw [hm]
  have hnd : ((d.classes.filter (fun c => inScope d.containers d.pkgrefs comp c.parent)).map (·.kl)).Nodup :=
    List.Nodup.sublist (List.Sublist.map _ List.filter_sublist) wf.kls
  rw [hnd.count, if_pos]
  exact List.mem_map.mpr ⟨k, List.mem_filter.mpr ⟨hk, hs⟩, rfl⟩

/-- … and so is a relationship that is in scope and for which `groupOf` is defined: exactly one association group carries
    its number -/
theorem extract_group_once {d : ClassDiagram} (wf : WF d) (comp : Option Nat) (drv : Bool) {r : Rel} {g : SGroup}
    (hr : r ∈ d.rels) (hs : inScope d.containers d.pkgrefs comp r.parent = true) (hg : groupOf d r = some g) :
    ((extract d comp drv).groups.map (·.rel)).count r.numb = 1 := by
  have hsub := filterMap_map_sublist (f := groupOf d) (g := (·.rel)) (h := (·.numb)) fun _ _ h => groupOf_rel h
  have hnd : ((extract d comp drv).groups.map (·.rel)).Nodup := by
    unfold extract
    exact List.Nodup.sublist ((hsub _).trans (List.Sublist.map _ List.filter_sublist)) wf.relNumbs
  rw [hnd.count, if_pos]
  unfold extract
  refine List.mem_map.mpr ⟨g, List.mem_filterMap.mpr ⟨r, List.mem_filter.mpr ⟨hr, hs⟩, hg⟩, groupOf_rel hg⟩

end Pyx.Extract
