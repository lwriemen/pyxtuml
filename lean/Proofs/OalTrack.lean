import PyxModel.Oal.Track
import Proofs.Lib.ListExtra

/-!
  Helper lemmas for the position stamping model (Props/C13.lean): the invariant yacc's attribute computation keeps
  on every stack symbol, and exactness of the stamped span of a tracked production.
-/
namespace Pyx.OalTrack

/-- what is known about a stack symbol from the class of its grammar symbol -/
structure Valid (g : Grammar) (i : Inst) : Prop where
  /-- only symbols of empty productions lack an end position, and they cover no token -/
  noEnd : i.attr.fin = none → i.truth = none
  start : solidStart g i.sym = true → ∃ s, i.truth = some s ∧ i.attr.pos = s.start ∧ i.attr.line = s.line
  fin : solidEnd g i.sym = true → ∃ s, i.truth = some s ∧ i.attr.fin = some (s.stop, s.endLine)
  finOk : okEnd g i.sym = true → i.attr.fin = none ∨ ∃ s, i.truth = some s ∧ i.attr.fin = some (s.stop, s.endLine)

theorem valid_tok (g : Grammar) (s : Span) : Valid g (tokInst s) :=
  ⟨by intro h; simp [tokInst] at h, fun _ => ⟨s, rfl, rfl, rfl⟩, fun _ => ⟨s, rfl, rfl⟩, fun _ => Or.inr ⟨s, rfl, rfl⟩⟩

theorem firstSome_of_mem (l : List (Option Span)) (s : Span) (h : some s ∈ l) : ∃ b, firstSome l = some b := by
  induction l with
  | nil => simp at h
  | cons x l ih =>
    cases x with
    | some a => exact ⟨a, rfl⟩
    | none =>
      simp only [List.mem_cons, reduceCtorEq, false_or] at h
      simpa [firstSome] using ih h

theorem joinTruth_head (ts : List (Option Span)) (s : Span) :
    ∃ b : Span, joinTruth (some s :: ts) =
      some { start := s.start, stop := b.stop, line := s.line, endLine := b.endLine } := by
  obtain ⟨b, hb⟩ := firstSome_of_mem (ts.reverse ++ [some s]) s (by simp)
  exact ⟨b, by simp [joinTruth, firstSome, hb]⟩

theorem joinTruth_last (ts : List (Option Span)) (s : Span) :
    ∃ a : Span, joinTruth (ts ++ [some s]) =
      some { start := a.start, stop := s.stop, line := a.line, endLine := s.endLine } := by
  obtain ⟨a, ha⟩ := firstSome_of_mem (ts ++ [some s]) s (by simp)
  refine ⟨a, ?_⟩
  simp [joinTruth, ha, firstSome]

theorem yaccAttr_nil (junk : Nat × Nat) : yaccAttr junk [] = { pos := junk.1, line := junk.2, fin := none } := rfl

theorem yaccAttr_pos (junk : Nat × Nat) (k : Inst) (rest : List Inst) :
    (yaccAttr junk (k :: rest)).pos = k.attr.pos ∧ (yaccAttr junk (k :: rest)).line = k.attr.line ∧
      (yaccAttr junk (k :: rest)).fin ≠ none := by
  have : ∃ l, (k :: rest).getLast? = some l := by
    cases h : (k :: rest).getLast? with
    | none => simp at h
    | some l => exact ⟨l, rfl⟩
  obtain ⟨l, hl⟩ := this
  simp [yaccAttr, hl]

theorem yaccAttr_fin (junk : Nat × Nat) (init : List Inst) (l : Inst) (f : Nat × Nat) (hf : l.attr.fin = some f) :
    (yaccAttr junk (init ++ [l])).fin = some f := by
  have h1 : (init ++ [l]).getLast? = some l := by simp
  have h2 : ∃ k, (init ++ [l]).head? = some k := by
    cases init with
    | nil => exact ⟨l, rfl⟩
    | cons k _ => exact ⟨k, rfl⟩
  obtain ⟨k, hk⟩ := h2
  simp [yaccAttr, h1, hk, hf]

structure ProdOk (g : Grammar) (p : Prod) : Prop where
  start : g.startSolid.contains p.lhs = true → ∃ x, p.rhs.head? = some x ∧ solidStart g x = true
  fin : g.endSolid.contains p.lhs = true → ∃ x, p.rhs.getLast? = some x ∧ solidEnd g x = true
  finOk : g.endOk.contains p.lhs = true → p.rhs = [] ∨ ∃ x, p.rhs.getLast? = some x ∧ solidEnd g x = true

theorem setsOk_prod {g : Grammar} (h : setsOk g = true) {p : Prod} (hp : p ∈ g.prods) : ProdOk g p := by
  unfold setsOk at h
  have := List.all_eq_true.mp h p hp
  simp only [Bool.and_eq_true, nor_iff_imp] at this
  obtain ⟨⟨⟨h1, h2⟩, h3⟩, _⟩ := this
  refine ⟨fun hc => ?_, fun hc => ?_, fun hc => ?_⟩
  · have := h1 hc
    cases hh : p.rhs.head? with
    | none => rw [hh] at this; cases this
    | some x => rw [hh] at this; exact ⟨x, rfl, this⟩
  · have := h2 hc
    cases hh : p.rhs.getLast? with
    | none => rw [hh] at this; cases this
    | some x => rw [hh] at this; exact ⟨x, rfl, this⟩
  · have := h3 hc
    cases hh : p.rhs.getLast? with
    | none => exact Or.inl (List.getLast?_eq_none_iff.mp hh)
    | some x => rw [hh] at this; exact Or.inr ⟨x, rfl, this⟩

theorem kids_last (kids : List Inst) (rhs : List GSym) (hk : kids.map (·.sym) = rhs) (x : GSym)
    (hx : rhs.getLast? = some x) : ∃ init l, kids = init ++ [l] ∧ l.sym = x := by
  rcases List.eq_nil_or_concat kids with rfl | ⟨init, l, rfl⟩
  · simp at hk; subst hk; simp at hx
  · refine ⟨init, l, by simp, ?_⟩
    subst hk
    simpa using hx

theorem kids_head (kids : List Inst) (rhs : List GSym) (hk : kids.map (·.sym) = rhs) (x : GSym)
    (hx : rhs.head? = some x) : ∃ k rest, kids = k :: rest ∧ k.sym = x := by
  cases kids with
  | nil => simp at hk; subst hk; simp at hx
  | cons k rest =>
    subst hk
    exact ⟨k, rest, rfl, by simpa using hx⟩

theorem end_of_solid_last (g : Grammar) (junk : Nat × Nat) (kids : List Inst) (rhs : List GSym)
    (hk : kids.map (·.sym) = rhs) (hv : ∀ k ∈ kids, Valid g k) (x : GSym) (hx : rhs.getLast? = some x)
    (hs : solidEnd g x = true) :
    ∃ s, joinTruth (kids.map (·.truth)) = some s ∧ (yaccAttr junk kids).fin = some (s.stop, s.endLine) := by
  obtain ⟨init, l, rfl, hl⟩ := kids_last kids rhs hk x hx
  obtain ⟨s, hts, hfs⟩ := (hv l (by simp)).fin (by rw [hl]; exact hs)
  obtain ⟨a, ha⟩ := joinTruth_last (init.map (·.truth)) s
  refine ⟨_, by simpa [hts] using ha, ?_⟩
  exact yaccAttr_fin junk init l _ hfs

/-- yacc's attribute computation keeps the invariant: one reduction from valid symbols gives a valid symbol -/
theorem reduce_valid (g : Grammar) (hs : setsOk g = true) (p : Prod) (hp : p ∈ g.prods) (kids : List Inst)
    (hk : kids.map (·.sym) = p.rhs) (hv : ∀ k ∈ kids, Valid g k) (junk : Nat × Nat) :
    Valid g { sym := .n p.lhs, attr := yaccAttr junk kids, truth := joinTruth (kids.map (·.truth)) } := by
  have pok := setsOk_prod hs hp
  have hfin : solidEnd g (.n p.lhs) = true →
      ∃ s, joinTruth (kids.map (·.truth)) = some s ∧ (yaccAttr junk kids).fin = some (s.stop, s.endLine) := by
    intro hc
    obtain ⟨x, hx, hsx⟩ := pok.fin hc
    exact end_of_solid_last g junk kids p.rhs hk hv x hx hsx
  refine ⟨?_, ?_, hfin, ?_⟩
  · intro hn
    cases kids with
    | nil => rfl
    | cons k rest => exact absurd hn (yaccAttr_pos junk k rest).2.2
  · intro hc
    obtain ⟨x, hx, hsx⟩ := pok.start hc
    obtain ⟨k, rest, rfl, hkx⟩ := kids_head kids p.rhs hk x hx
    obtain ⟨s, hts, hps, hls⟩ := (hv k (by simp)).start (by rw [hkx]; exact hsx)
    obtain ⟨b, hb⟩ := joinTruth_head (rest.map (·.truth)) s
    refine ⟨_, by simpa [hts] using hb, ?_, ?_⟩
    · simp [(yaccAttr_pos junk k rest).1, hps]
    · simp [(yaccAttr_pos junk k rest).2.1, hls]
  · intro hc
    simp only [okEnd, Bool.or_eq_true] at hc
    rcases hc with hc | hc
    · rcases pok.finOk hc with he | ⟨x, hx, hsx⟩
      · left
        have : kids = [] := by
          cases kids with
          | nil => rfl
          | cons k rest => rw [he] at hk; simp at hk
        subst this; rfl
      · exact Or.inr (end_of_solid_last g junk kids p.rhs hk hv x hx hsx)
    · exact Or.inr (hfin hc)

/-- the symbols a parse can put on the stack: exact tokens, and reductions by productions of the table -/
inductive Reach (g : Grammar) : Inst → Prop
  | tok (s : Span) : Reach g (tokInst s)
  | red (p : Prod) (hp : p ∈ g.prods) (kids : List Inst) (junk : Nat × Nat)
      (hk : kids.map (·.sym) = p.rhs) (hr : ∀ k ∈ kids, Reach g k) :
      Reach g { sym := .n p.lhs, attr := yaccAttr junk kids, truth := joinTruth (kids.map (·.truth)) }

theorem reach_valid (g : Grammar) (hs : setsOk g = true) (i : Inst) (h : Reach g i) : Valid g i := by
  induction h with
  | tok s => exact valid_tok g s
  | red p hp kids junk hk _ ih => exact reduce_valid g hs p hp kids hk ih junk

/-- scanning from the right finds the last symbol that covers a token, and its end position is exact -/
theorem scan_find (g : Grammar) (rk : List Inst) (hv : ∀ k ∈ rk, Valid g k)
    (h : endScan g (rk.map (·.sym)) = true) :
    ∃ w s, rk.find? (fun k => k.attr.fin.isSome) = some w ∧ w.attr.fin = some (s.stop, s.endLine) ∧
      firstSome (rk.map (·.truth)) = some s := by
  induction rk with
  | nil => simp [endScan] at h
  | cons x rk ih =>
    simp only [List.map_cons, endScan, Bool.or_eq_true, Bool.and_eq_true] at h
    have hx := hv x (by simp)
    have found : (∃ s, x.truth = some s ∧ x.attr.fin = some (s.stop, s.endLine)) →
        ∃ w s, (x :: rk).find? (fun k => k.attr.fin.isSome) = some w ∧ w.attr.fin = some (s.stop, s.endLine) ∧
          firstSome ((x :: rk).map (·.truth)) = some s := by
      rintro ⟨s, hts, hfs⟩
      exact ⟨x, s, by simp [List.find?, hfs], hfs, by simp [firstSome, hts]⟩
    rcases h with h | ⟨hok, hrest⟩
    · exact found (hx.fin h)
    · rcases hx.finOk hok with hn | hsome
      -- a symbol without end covers no token (`Valid.noEnd`), so `find?` and `firstSome` skip it together
      · obtain ⟨w, s, hw, hwf, hws⟩ := ih (fun k hk => hv k (by simp [hk])) hrest
        refine ⟨w, s, ?_, hwf, ?_⟩
        · simp [List.find?, hn, hw]
        · simp [firstSome, hx.noEnd hn, hws]
      · exact found hsome

theorem endSym_fin (g : Grammar) (k0 : Inst) (rest : List Inst) (hv : ∀ k ∈ k0 :: rest, Valid g k)
    (h : endScan g (((k0 :: rest).map (·.sym)).reverse) = true) :
    ∃ s, (endSym true k0 rest).attr.fin = some (s.stop, s.endLine) ∧
      firstSome (((k0 :: rest).map (·.truth)).reverse) = some s := by
  have h' : endScan g (((k0 :: rest).reverse).map (·.sym)) = true := by rw [List.map_reverse]; exact h
  obtain ⟨w, s, hw, hwf, hws⟩ := scan_find g (k0 :: rest).reverse (fun k hk => hv k (List.mem_reverse.mp hk)) h'
  refine ⟨s, ?_, by rw [← List.map_reverse]; exact hws⟩
  simp only [List.reverse_cons, List.find?_append] at hw
  simp only [endSym, if_true]
  cases hf : rest.reverse.find? (fun k => k.attr.fin.isSome) with
  | some x => rw [hf] at hw; simp at hw; rw [hw]; exact hwf
  | none =>
    rw [hf] at hw
    simp only [Option.none_or, List.find?] at hw
    split at hw
    · simp at hw; rw [hw]; exact hwf
    · simp at hw

/-- the span stamped on the node of a non-empty production whose table entry passes `prodStampOk` is the span of
    the tokens it covers: start of the first, end of the last -/
theorem stamp_kids (g : Grammar) (p : Prod) (hst : prodStampOk g p = true) (kids : List Inst)
    (hk : kids.map (·.sym) = p.rhs) (hv : ∀ k ∈ kids, Valid g k) :
    ∃ s, stamp g.walkBack kids = some s ∧ joinTruth (kids.map (·.truth)) = some s := by
  unfold prodStampOk at hst
  simp only [Bool.and_eq_true, Bool.not_eq_true'] at hst
  obtain ⟨hstart, hne, hend⟩ := hst
  cases kids with
  | nil =>
    have hk' : p.rhs = [] := by simpa using hk.symm
    rw [hk'] at hne; simp at hne
  | cons k0 rest =>
    have hx : p.rhs.head? = some k0.sym := by rw [← hk]; rfl
    rw [hx] at hstart
    obtain ⟨s0, ht0, hp0, hl0⟩ := (hv k0 (by simp)).start hstart
    have hend' : ∃ s, (endSym g.walkBack k0 rest).attr.fin = some (s.stop, s.endLine) ∧
        firstSome (((k0 :: rest).map (·.truth)).reverse) = some s := by
      cases hwb : g.walkBack with
      | true =>
        rw [hwb] at hend
        simp only [if_true] at hend
        exact endSym_fin g k0 rest hv (by rw [hk]; exact hend)
      | false =>
        rw [hwb] at hend
        simp only [Bool.false_eq_true, if_false] at hend
        cases hl : p.rhs.getLast? with
        | none => rw [hl] at hend; simp at hend
        | some x =>
          rw [hl] at hend
          obtain ⟨init, l, hkl, hlx⟩ := kids_last (k0 :: rest) p.rhs hk x hl
          obtain ⟨s, hts, hfs⟩ := (hv l (by rw [hkl]; simp)).fin (by rw [hlx]; exact hend)
          refine ⟨s, ?_, ?_⟩
          · have hgl : (k0 :: rest).getLast? = some l := by rw [hkl]; simp
            rw [List.getLast?_cons, Option.some.injEq] at hgl
            simpa only [endSym, Bool.false_eq_true, if_false, hgl] using hfs
          · rw [hkl]; simp [firstSome, hts]
    obtain ⟨s, hfin, hlast⟩ := hend'
    refine ⟨{ start := s0.start, stop := s.stop, line := s0.line, endLine := s.endLine }, ?_, ?_⟩
    · simp [stamp, hfin, hp0, hl0]
    · simp only [List.map_cons, ht0] at hlast
      simp only [joinTruth, List.map_cons, ht0, firstSome, hlast]

end Pyx.OalTrack
