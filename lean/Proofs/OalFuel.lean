import Proofs.OalSuffE
import PyxModel.Oal.Stmt

/-!
  Fuel of the token-level parser (C07): for ARBITRARY token lists, a result obtained with any
  amount of fuel is obtained with every amount ≥ 2·(tokens consumed) + 2, and the parsers consume tokens
  (the rest is never longer than the input, strictly shorter for an operand / expression / statement).
  Consequence (`parseExprTop_complete`, `parseStmts_complete`): the fuel-free top-level parsers give `none`
  only when NO amount of fuel would give a result — a rejection by the model is never an exhaustion.

  The expression parsers are in Proofs/OalSuffE.lean; the statement parsers are followed here in the same way.
-/

namespace Pyx.Oal

/-- `h : some (a, b) = some (x, rest)`: substitute -/
macro "fin_inj " h:ident : tactic =>
  `(tactic| (simp only [Option.some.injEq, Prod.mk.injEq] at $h:ident; obtain ⟨rfl, rfl⟩ := $h:ident))

theorem shorter_and_succ {q : Nat → Prop} {n r d c : Nat} (hl : r + d ≤ n)
    (H : ∀ g', 2 * n + c ≤ g' + 2 * r → q (g' + 1)) : r + d ≤ n ∧ ∀ g, 2 * n + c + 1 ≤ g + 2 * r → q g :=
  ⟨hl, of_succ_fuel (by omega) H⟩

section expr
variable (t : Tbl)

theorem parseExprTop_complete {ts : List Tok} (h : parseExprTop t ts = none) (f : Nat) : parseExpr t f 0 ts = none := by
  cases hf : parseExpr t f 0 ts with
  | none => rfl
  | some r =>
    have := parseExprTop_of_fuel t hf
    simp only [parseExprTop] at h
    rw [h] at this
    cases this

theorem parseExpr_fuel_indep {f m : Nat} {ts : List Tok} {r : Expr × List Tok} (h : parseExpr t f m ts = some r)
    (g : Nat) (hg : 2 * ts.length + 2 ≤ g) : parseExpr t g m ts = some r := by
  obtain ⟨e, rest⟩ := r
  exact ((suffE t f).expr m ts e rest h).2 g (by omega)

theorem parseExpr_stable {m : Nat} {ts : List Tok} {g g' : Nat} (hg : 2 * ts.length + 2 ≤ g)
    (hg' : 2 * ts.length + 2 ≤ g') : parseExpr t g m ts = parseExpr t g' m ts := by
  cases h : parseExpr t g m ts with
  | some r => exact (parseExpr_fuel_indep t h g' hg').symm
  | none =>
    cases h' : parseExpr t g' m ts with
    | none => rfl
    | some r =>
      rw [parseExpr_fuel_indep t h' g hg] at h
      cases h

theorem parseExpr_consumes {f m : Nat} {ts : List Tok} {e : Expr} {rest : List Tok}
    (h : parseExpr t f m ts = some (e, rest)) : rest.length < ts.length :=
  ((suffE t f).expr m ts e rest h).1

end expr

/-- `p` reads `x` from `ts` and leaves `rest`, at least `d` tokens shorter, with EVERY fuel `g` such that
    `2·|ts| + 2 ≤ g + 2·|rest|` (one bound for every parser) -/
abbrev Reads {α : Type} (d : Nat) (p : Nat → List Tok → Option (α × List Tok)) (ts : List Tok) (x : α)
    (rest : List Tok) : Prop :=
  rest.length + d ≤ ts.length ∧ ∀ g, 2 * ts.length + 2 ≤ g + 2 * rest.length → p g ts = some (x, rest)

section
variable (t : Tbl)

theorem suf_expr {f m : Nat} {ts : List Tok} {e : Expr} {rest : List Tok} (h : parseExpr t f m ts = some (e, rest)) :
    Reads 1 (parseExpr t · m) ts e rest :=
  (suffE t f).expr m ts e rest h

theorem suf_prefix {f : Nat} {ts : List Tok} {e : Expr} {rest : List Tok} (h : parsePrefix t f ts = some (e, rest)) :
    Reads 1 (parsePrefix t) ts e rest :=
  ⟨((suffE t f).pre ts e rest h).1, fun g hg => ((suffE t f).pre ts e rest h).2 g (by omega)⟩

theorem suf_params {f : Nat} {ts : List Tok} {ps : Params} {rest : List Tok} (h : parseParams t f ts = some (ps, rest)) :
    Reads 0 (parseParams t) ts ps rest :=
  ⟨((suffE t f).params ts ps rest h).1, fun g hg => ((suffE t f).params ts ps rest h).2 g (by omega)⟩

end

theorem expectK_len {k : Kind} {ts r : List Tok} : expectK k ts = some r → r.length + 1 = ts.length := by
  fun_cases expectK k ts <;> simp_all

theorem takeIdent_len {ts r : List Tok} {x : Tok} : takeIdent ts = some (x, r) → r.length + 1 = ts.length := by
  fun_cases takeIdent ts <;> simp_all

theorem takeVarName_len {ts r : List Tok} {x : Tok} : takeVarName ts = some (x, r) → r.length + 1 = ts.length := by
  fun_cases takeVarName ts <;> simp_all

theorem optK_len (k : Kind) (ts : List Tok) : (optK k ts).2.length ≤ ts.length := by
  simp only [optK]
  split <;> simp

theorem parseInstName_len {ts r : List Tok} {x : InstName} : parseInstName ts = some (x, r) → r.length + 1 = ts.length := by
  fun_cases parseInstName ts <;> simp_all

theorem parsePhrase_len {ts r : List Tok} {x : Phrase} : parsePhrase ts = some (x, r) → r.length + 1 = ts.length := by
  fun_cases parsePhrase ts <;> simp_all

theorem parseCard_len {ts r : List Tok} {x : CardTok} : parseCard ts = some (x, r) → r.length + 1 = ts.length := by
  fun_cases parseCard ts <;> simp_all

theorem parseOptPhrase_len {ts r : List Tok} {x : Option Phrase} : parseOptPhrase ts = some (x, r) →
    r.length ≤ ts.length := by
  fun_cases parseOptPhrase ts
  all_goals try (intro h; cases h; done)
  all_goals intro h
  all_goals fin_inj h
  next hc p hp =>
    have := parsePhrase_len hp
    have := drop1_length hc
    omega
  next => exact Nat.le_refl _

theorem parseEvMeaning_len {ts r : List Tok} {x : Option Phrase} : parseEvMeaning ts = some (x, r) →
    r.length ≤ ts.length := by
  fun_cases parseEvMeaning ts
  all_goals try (intro h; cases h; done)
  all_goals intro h
  all_goals fin_inj h
  next hc p hp =>
    have := parsePhrase_len hp
    have := drop1_length hc
    omega
  next => exact Nat.le_refl _

theorem parseInstOf_len {ts r : List Tok} {x : Bool} (h : parseInstOf ts = some (x, r)) : r.length ≤ ts.length := by
  simp only [parseInstOf] at h
  split at h
  all_goals
    simp only [Option.some.injEq] at h
    obtain ⟨_, rfl⟩ := h
    simp

theorem parseNavStep_len {ts r : List Tok} {x : NavStep} (h : parseNavStep ts = some (x, r)) :
    r.length < ts.length := by
  simp only [parseNavStep, Option.bind_eq_bind, Option.pure_def, Option.bind_eq_some_iff, Option.some.injEq,
    Prod.exists] at h
  obtain ⟨ts1, h1, kl, ts2, h2, ts3, h3, rel, ts4, h4, ph, ts5, h5, ts6, h6, _, rfl⟩ := h
  have := expectK_len h1
  have := takeIdent_len h2
  have := expectK_len h3
  have := takeIdent_len h4
  have := parseOptPhrase_len h5
  have := expectK_len h6
  omega

theorem parseRel_len {un : Bool} {ts r : List Tok} {x : Stmt} : parseRel un ts = some (x, r) →
    r.length < ts.length := by
  fun_cases parseRel un ts
  all_goals try (intro h; cases h; done)
  all_goals intro h
  all_goals fin_inj h
  next a ts1 h1 ts2 h2 b ts3 h3 ts4 h4 rr ts5 h5 ph ts6 h6 hc u h7 =>
    have := parseInstName_len h1
    have := expectK_len h2
    have := parseInstName_len h3
    have := expectK_len h4
    have := takeVarName_len h5
    have := parseOptPhrase_len h6
    have := drop1_length hc
    have := parseInstName_len h7
    omega
  next a ts1 h1 ts2 h2 b ts3 h3 ts4 h4 rr ts5 h5 ph h6 hc =>
    have := parseInstName_len h1
    have := expectK_len h2
    have := parseInstName_len h3
    have := expectK_len h4
    have := takeVarName_len h5
    have := parseOptPhrase_len h6
    omega

section stmt
variable (t : Tbl)

theorem suf_access {f : Nat} {ts : List Tok} {e : Expr} {rest : List Tok} (h : parseAccess t f ts = some (e, rest)) :
    Reads 1 (parseAccess t) ts e rest := by
  simp only [parseAccess] at h
  split at h <;> try contradiction
  rename_i hc
  obtain ⟨hl, hs⟩ := suf_prefix t h
  exact ⟨hl, fun g hg => by simp only [parseAccess, hc, ↓reduceIte, hs g hg]⟩

theorem suf_navchain : ∀ (f : Nat) (ts : List Tok) (x : List NavStep) (rest : List Tok),
    parseNavChain f ts = some (x, rest) → Reads 1 parseNavChain ts x rest
  | 0, ts, x, rest => by simp [parseNavChain]
  | f + 1, ts, x, rest => by
    generalize hn : f + 1 = n
    fun_cases parseNavChain n ts
    all_goals try (intro h; cases h; done)
    all_goals cases hn
    all_goals intro h
    all_goals fin_inj h
    next st ts' hc more h1 h2 =>
      have := parseNavStep_len h1
      obtain ⟨hl, hs⟩ := suf_navchain f _ _ _ h2
      refine shorter_and_succ (by omega) fun g' hg => ?_
      simp only [parseNavChain, h1, hc, ↓reduceIte, hs g' (by omega)]
    next st hc h1 =>
      have := parseNavStep_len h1
      refine shorter_and_succ (by omega) fun g' hg => ?_
      simp only [parseNavChain, h1, hc, ↓reduceIte]

theorem suf_evdata {f : Nat} {id : Tok} {star : Bool} {meaning : Option Phrase} {ts : List Tok} {x : EvSpec}
    {rest : List Tok} : parseEvData t f id star meaning ts = some (x, rest) →
    Reads 0 (parseEvData t · id star meaning) ts x rest := by
  fun_cases parseEvData t f id star meaning ts
  all_goals try (intro h; cases h; done)
  all_goals intro h
  all_goals fin_inj h
  next hc ps ts' h1 h2 =>
    obtain ⟨hl, hs⟩ := suf_params t h1
    have := expectK_len h2
    have := drop1_length hc
    exact ⟨by omega, fun g hg => by simp only [parseEvData, hc, ↓reduceIte, hs g (by omega), h2]⟩
  next hc => exact ⟨Nat.le_refl _, fun g hg => by simp only [parseEvData, hc, ↓reduceIte]⟩

theorem suf_evspec {f : Nat} {ts : List Tok} {x : EvSpec} {rest : List Tok} : parseEvSpec t f ts = some (x, rest) →
    Reads 1 (parseEvSpec t) ts x rest := by
  fun_cases parseEvSpec t f ts
  all_goals try (intro h; cases h; done)
  intro h
  next id ts1 h1 meaning ts2 h2 =>
    obtain ⟨hl, hs⟩ := suf_evdata t h
    have := takeIdent_len h1
    have := optK_len .TIMES ts1
    have := parseEvMeaning_len h2
    exact ⟨by omega, fun g hg => by simp only [parseEvSpec, h1, h2, hs g (by omega)]⟩

theorem suf_evtarget {f : Nat} {ts : List Tok} {x : EvTarget} {rest : List Tok} :
    parseEvTarget t f ts = some (x, rest) → Reads 1 (parseEvTarget t) ts x rest := by
  fun_cases parseEvTarget t f ts
  all_goals try (intro h; cases h; done)
  all_goals intro h
  all_goals fin_inj h
  next nm w hw hc =>
    exact ⟨by simp only [List.length_cons]; omega, fun g hg => by simp only [parseEvTarget, hc, and_self, ↓reduceIte, hw]⟩
  next nm w hw hc =>
    exact ⟨by simp only [List.length_cons]; omega, fun g hg => by simp only [parseEvTarget, hc, and_self, ↓reduceIte, hw]⟩
  next e hh hc h1 =>
    obtain ⟨hl, hs⟩ := suf_access t h1
    exact ⟨hl, fun g hg => by simp only [parseEvTarget, hc, ↓reduceIte, hs g hg, hh]⟩

theorem suf_optwhere {f : Nat} {ts : List Tok} {x : Option Expr} {rest : List Tok} :
    parseOptWhere t f ts = some (x, rest) → Reads 0 (parseOptWhere t) ts x rest := by
  fun_cases parseOptWhere t f ts
  all_goals try (intro h; cases h; done)
  all_goals intro h
  all_goals fin_inj h
  next hc e h1 =>
    obtain ⟨hl, hs⟩ := suf_expr t h1
    have := drop1_length hc
    exact ⟨by omega, fun g hg => by simp only [parseOptWhere, hc, ↓reduceIte, hs g (by omega)]⟩
  next hc => exact ⟨Nat.le_refl _, fun g hg => by simp only [parseOptWhere, hc, ↓reduceIte]⟩

theorem suf_selfrom {f : Nat} {card : CardTok} {v : Tok} {ts : List Tok} {x : Stmt} {rest : List Tok} :
    parseSelFrom t f card v ts = some (x, rest) → Reads 1 (parseSelFrom t · card v) ts x rest := by
  fun_cases parseSelFrom t f card v ts
  all_goals try (intro h; cases h; done)
  intro h
  fin_inj h
  next io ts1 h1 kl ts2 h2 w h3 =>
    obtain ⟨hl, hs⟩ := suf_optwhere t h3
    have := parseInstOf_len h1
    have := takeIdent_len h2
    exact ⟨by omega, fun g hg => by simp only [parseSelFrom, h1, h2, hs g (by omega)]⟩

theorem suf_selrel {f : Nat} {card : CardTok} {v : Tok} {ts : List Tok} {x : Stmt} {rest : List Tok} :
    parseSelRel t f card v ts = some (x, rest) → Reads 1 (parseSelRel t · card v) ts x rest := by
  fun_cases parseSelRel t f card v ts
  all_goals try (intro h; cases h; done)
  intro h
  fin_inj h
  next hook ts1 h1 hh chain ts2 h2 w h3 =>
    obtain ⟨hl1, hs1⟩ := suf_access t h1
    obtain ⟨hl2, hs2⟩ := suf_navchain _ _ _ _ h2
    obtain ⟨hl3, hs3⟩ := suf_optwhere t h3
    exact ⟨by omega, fun g hg => by
      simp only [parseSelRel, hs1 g (by omega), hh, ↓reduceIte, hs2 g (by omega), hs3 g (by omega)]⟩

theorem suf_select {f : Nat} {ts : List Tok} {x : Stmt} {rest : List Tok} :
    parseSelect t f ts = some (x, rest) → Reads 1 (parseSelect t) ts x rest := by
  fun_cases parseSelect t f ts
  all_goals try (intro h; cases h; done)
  all_goals intro h
  next card ts1 h1 v ts2 h2 hc hone =>
    obtain ⟨hl, hs⟩ := suf_selfrom t h
    have := parseCard_len h1
    have := takeVarName_len h2
    have := drop1_length hc
    exact ⟨by omega, fun g hg => by simp only [parseSelect, h1, h2, hc, ↓reduceIte, hone, hs g (by omega)]⟩
  next card ts1 h1 v ts2 h2 hc ts3 h3 ts4 h4 =>
    obtain ⟨hl, hs⟩ := suf_selrel t h
    have := parseCard_len h1
    have := takeVarName_len h2
    have := expectK_len h3
    have := expectK_len h4
    exact ⟨by omega, fun g hg => by simp only [parseSelect, h1, h2, hc, ↓reduceIte, h3, h4, hs g (by omega)]⟩

theorem suf_kw {f : Nat} {k : IKind} {ts : List Tok} {x : Stmt} {rest : List Tok} :
    parseKw t f k ts = some (x, rest) → Reads 1 (parseKw t · k) ts x rest := by
  fun_cases parseKw t f k ts
  all_goals try (intro h; cases h; done)
  all_goals intro h
  all_goals fin_inj h
  next ns n ps ts' h1 hc e h2 =>
    obtain ⟨hl1, hs1⟩ := suf_access t h1
    obtain ⟨hl2, hs2⟩ := suf_expr t h2
    have := drop1_length hc.2
    exact ⟨by omega, fun g hg => by simp only [parseKw, hs1 g (by omega), hc, and_self, ↓reduceIte, hs2 g (by omega)]⟩
  next ns n ps h1 hc =>
    obtain ⟨hl1, hs1⟩ := suf_access t h1
    exact ⟨by omega, fun g hg => by simp only [parseKw, hs1 g (by omega), hc, ↓reduceIte]⟩
  next hh n ps hc h1 =>
    obtain ⟨hl1, hs1⟩ := suf_access t h1
    exact ⟨by omega, fun g hg => by simp only [parseKw, hs1 g (by omega), hc, ↓reduceIte]⟩
  next va ts' hni hno h1 hc ns n ps h2 =>
    obtain ⟨hl1, hs1⟩ := suf_access t h1
    obtain ⟨hl2, hs2⟩ := suf_access t h2
    have := drop1_length hc.2
    refine ⟨by omega, fun g hg => ?_⟩
    simp only [parseKw, hs1 g (by omega), hc, and_self, ↓reduceIte, hs2 g (by omega)]
  next va ts' hni hno h1 hc hh n ps hk' h2 =>
    obtain ⟨hl1, hs1⟩ := suf_access t h1
    obtain ⟨hl2, hs2⟩ := suf_access t h2
    have := drop1_length hc.2
    refine ⟨by omega, fun g hg => ?_⟩
    simp only [parseKw, hs1 g (by omega), hc, and_self, ↓reduceIte, hs2 g (by omega), hk']

/-- what one of the four mutually recursive statement parsers returns with the fuel `f`, it `Reads` (returns with every
    sufficient fuel): one statement of the four, for the induction on `f` (`suffS`) -/
structure SuffS (f : Nat) : Prop where
  stmt : ∀ ts x rest, parseStmt t f ts = some (x, rest) → Reads 1 (parseStmt t) ts x rest
  block : ∀ ts x rest, parseBlock t f ts = some (x, rest) → Reads 0 (parseBlock t) ts x rest
  elifs : ∀ ts x rest, parseElifs t f ts = some (x, rest) → Reads 0 (parseElifs t) ts x rest
  else_ : ∀ ts x rest, parseElse t f ts = some (x, rest) → Reads 0 (parseElse t) ts x rest

theorem suffS : ∀ f, SuffS t f
  | 0 =>
    { stmt := fun ts x rest h => by simp [parseStmt] at h
      block := fun ts x rest h => by simp [parseBlock] at h
      elifs := fun ts x rest h => by simp [parseElifs] at h
      else_ := fun ts x rest h => by simp [parseElse] at h }
  | f + 1 => by
    have ih := suffS f
    refine ⟨?_, ?_, ?_, ?_⟩
    · intro ts x rest
      generalize hn : f + 1 = n
      fun_cases parseStmt t n ts
      all_goals try (intro h; cases h; done)
      all_goals cases hn
      all_goals intro h
      all_goals simp only [Reads, List.length_cons]
      -- an access chain or an invocation first.  `(suffE t f).pre` (constant 1) and not `suf_prefix` (constant 2, the
      -- bound of `Reads`): `parseStmt` hands its whole list to `parsePrefix` with one unit less, and the weaker
      -- bound does not fit
      next tok ts hst va ts1 heq hva e ts2 h1 h2 =>
        fin_inj h
        obtain ⟨hl1, hs1⟩ := (suffE t f).pre _ _ _ h1
        obtain ⟨hl2, hs2⟩ := suf_expr t h2
        simp only [List.length_cons] at hl1 hs1
        have := drop1_length heq
        refine shorter_and_succ (by omega) fun g' hg => ?_
        simp only [parseStmt, hst, ↓reduceIte, hs1 g' (by omega), heq, hva, hs2 g' (by omega)]
      next tok ts hst inv ts1 heq hinv h1 =>
        fin_inj h
        obtain ⟨hl1, hs1⟩ := (suffE t f).pre _ _ _ h1
        simp only [List.length_cons] at hl1 hs1
        refine shorter_and_succ (by omega) fun g' hg => ?_
        simp only [parseStmt, hst, ↓reduceIte, hs1 g' (by omega), heq, hinv]
      -- BREAK, CONTINUE, CONTROL STOP
      iterate 2
        next tok ts hst hk' =>
          fin_inj h
          refine shorter_and_succ (by omega) fun g' hg => ?_
          rw [parseStmt, if_neg hst, hk']
      next tok ts hst hk' ts1 h1 =>
        fin_inj h
        have := expectK_len h1
        refine shorter_and_succ (by omega) fun g' hg => ?_
        rw [parseStmt, if_neg hst, hk']
        simp only [h1]
      -- RETURN
      next tok ts hst hk' hc =>
        fin_inj h
        refine shorter_and_succ (by omega) fun g' hg => ?_
        rw [parseStmt, if_neg hst, hk']
        simp only [hc, ↓reduceIte]
      next tok ts hst hk' hc e ts1 h1 =>
        fin_inj h
        obtain ⟨hl1, hs1⟩ := suf_expr t h1
        refine shorter_and_succ (by omega) fun g' hg => ?_
        rw [parseStmt, if_neg hst, hk']
        simp only [hc, ↓reduceIte, hs1 g' (by omega)]
      -- ASSIGN
      next tok ts hst hk' va ts1 hc e ts2 h1 h2 =>
        fin_inj h
        obtain ⟨hl1, hs1⟩ := suf_access t h1
        obtain ⟨hl2, hs2⟩ := suf_expr t h2
        have := drop1_length hc.2
        refine shorter_and_succ (by omega) fun g' hg => ?_
        rw [parseStmt, if_neg hst, hk']
        simp only [hs1 g' (by omega), hc, and_self, ↓reduceIte, hs2 g' (by omega)]
      -- BRIDGE, TRANSFORM, SEND
      iterate 3
        next tok ts hst hk' =>
          obtain ⟨hl1, hs1⟩ := suf_kw t h
          refine shorter_and_succ (by omega) fun g' hg => ?_
          rw [parseStmt, if_neg hst, hk']
          simp only [hs1 g' (by omega)]
      -- GENERATE
      next tok ts hst hk' hc es ts1 ts2 h2 tg ts3 h1 h3 =>
        fin_inj h
        obtain ⟨hl1, hs1⟩ := suf_evspec t h1
        obtain ⟨hl3, hs3⟩ := suf_evtarget t h3
        have := expectK_len h2
        refine shorter_and_succ (by omega) fun g' hg => ?_
        rw [parseStmt, if_neg hst, hk']
        simp only [hc, ↓reduceIte, hs1 g' (by omega), h2, hs3 g' (by omega)]
      next tok ts hst hk' hc va ts1 hva h1 =>
        fin_inj h
        obtain ⟨hl1, hs1⟩ := suf_access t h1
        refine shorter_and_succ (by omega) fun g' hg => ?_
        rw [parseStmt, if_neg hst, hk']
        simp only [hc, Bool.false_eq_true, ↓reduceIte, hs1 g' (by omega), hva]
      -- CREATE
      next tok ts hst hk' hc ts1 h1 v ts2 h2 ts3 h3 es ts4 ts5 h5 tg ts6 h4 h6 =>
        fin_inj h
        obtain ⟨hl4, hs4⟩ := suf_evspec t h4
        obtain ⟨hl6, hs6⟩ := suf_evtarget t h6
        have := drop1_length hc
        have := expectK_len h1
        have := takeVarName_len h2
        have := expectK_len h3
        have := expectK_len h5
        refine shorter_and_succ (by omega) fun g' hg => ?_
        rw [parseStmt, if_neg hst, hk']
        simp only [hc, ↓reduceIte, h1, h2, h3, hs4 g' (by omega), h5, hs6 g' (by omega)]
      next tok ts hst hk' hc ts1 h1 ts2 h2 hof kl ts3 h3 =>
        fin_inj h
        have := expectK_len h1
        have := expectK_len h2
        have := drop1_length hof
        have := takeIdent_len h3
        refine shorter_and_succ (by omega) fun g' hg => ?_
        rw [parseStmt, if_neg hst, hk']
        simp only [hc, ↓reduceIte, h1, h2, hof, h3]
      next tok ts hst hk' hc ts1 h1 ts2 h2 hof v ts3 h3 ts4 h4 kl ts5 h5 =>
        fin_inj h
        have := expectK_len h1
        have := expectK_len h2
        have := takeVarName_len h3
        have := expectK_len h4
        have := takeIdent_len h5
        refine shorter_and_succ (by omega) fun g' hg => ?_
        rw [parseStmt, if_neg hst, hk']
        simp only [hc, ↓reduceIte, h1, h2, hof, h3, h4, h5]
      -- DELETE
      next tok ts hst hk' ts1 h1 ts2 h2 i ts3 h3 =>
        fin_inj h
        have := expectK_len h1
        have := expectK_len h2
        have := parseInstName_len h3
        refine shorter_and_succ (by omega) fun g' hg => ?_
        rw [parseStmt, if_neg hst, hk']
        simp only [h1, h2, h3]
      -- FOR EACH
      next tok ts hst hk' ts1 h1 v ts2 h2 ts3 h3 s ts4 h4 b ts5 ts6 h6 h5 =>
        fin_inj h
        obtain ⟨hl5, hs5⟩ := ih.block _ _ _ h5
        have := expectK_len h1
        have := takeVarName_len h2
        have := expectK_len h3
        have := takeVarName_len h4
        have := optK_len .LOOP ts4
        have := expectK_len h6
        refine shorter_and_succ (by omega) fun g' hg => ?_
        rw [parseStmt, if_neg hst, hk']
        simp only [h1, h2, h3, h4, hs5 g' (by omega), h6]
      -- WHILE
      next tok ts hst hk' c ts1 b ts2 ts3 h3 h1 h2 =>
        fin_inj h
        obtain ⟨hl1, hs1⟩ := suf_expr t h1
        obtain ⟨hl2, hs2⟩ := ih.block _ _ _ h2
        have := optK_len .LOOP ts1
        have := expectK_len h3
        refine shorter_and_succ (by omega) fun g' hg => ?_
        rw [parseStmt, if_neg hst, hk']
        simp only [hs1 g' (by omega), hs2 g' (by omega), h3]
      -- IF
      next tok ts hst hk' c ts1 b ts2 el ts3 e ts4 ts5 h5 h1 h2 h3 h4 =>
        fin_inj h
        obtain ⟨hl1, hs1⟩ := suf_expr t h1
        obtain ⟨hl2, hs2⟩ := ih.block _ _ _ h2
        obtain ⟨hl3, hs3⟩ := ih.elifs _ _ _ h3
        obtain ⟨hl4, hs4⟩ := ih.else_ _ _ _ h4
        have := optK_len .THEN ts1
        have := expectK_len h5
        refine shorter_and_succ (by omega) fun g' hg => ?_
        rw [parseStmt, if_neg hst, hk']
        simp only [hs1 g' (by omega), hs2 g' (by omega), hs3 g' (by omega), hs4 g' (by omega), h5]
      -- RELATE, UNRELATE
      iterate 2
        next tok ts hst hk' =>
          have := parseRel_len h
          refine shorter_and_succ (by omega) fun g' hg => ?_
          rw [parseStmt, if_neg hst, hk']
          simp only [h]
      -- SELECT
      next tok ts hst hk' =>
        obtain ⟨hl1, hs1⟩ := suf_select t h
        refine shorter_and_succ (by omega) fun g' hg => ?_
        rw [parseStmt, if_neg hst, hk']
        simp only [hs1 g' (by omega)]
    · intro ts x rest
      generalize hn : f + 1 = n
      fun_cases parseBlock t n ts
      all_goals try (intro h; cases h; done)
      all_goals cases hn
      all_goals intro h
      next =>
        fin_inj h
        exact ⟨Nat.le_refl _, of_succ_fuel (by omega) fun g' _ => by rw [parseBlock]⟩
      next tok ts hc =>
        obtain ⟨hl, hs⟩ := ih.block _ _ _ h
        simp only [Reads, List.length_cons]
        refine shorter_and_succ (by omega) fun g' hg => ?_
        simp only [parseBlock, hc, ↓reduceIte, hs g' (by omega)]
      next tok ts hc hst s ts1 ts2 h2 b ts3 h1 h3 =>
        fin_inj h
        obtain ⟨hl1, hs1⟩ := ih.stmt _ _ _ h1
        obtain ⟨hl3, hs3⟩ := ih.block _ _ _ h3
        have := expectK_len h2
        simp only [Reads, List.length_cons] at hl1 hs1 ⊢
        refine shorter_and_succ (by omega) fun g' hg => ?_
        simp only [parseBlock, hc, ↓reduceIte, hst, hs1 g' (by omega), h2, hs3 g' (by omega)]
      next tok ts hc hst =>
        fin_inj h
        refine ⟨Nat.le_refl _, of_succ_fuel (by simp only [List.length_cons]; omega) fun g' hg => ?_⟩
        simp only [parseBlock, hc, ↓reduceIte, hst, Bool.false_eq_true]
    · intro ts x rest
      generalize hn : f + 1 = n
      fun_cases parseElifs t n ts
      all_goals try (intro h; cases h; done)
      all_goals cases hn
      all_goals intro h
      all_goals fin_inj h
      next c ts1 b ts2 more hc h2 h1 h3 =>
        obtain ⟨hl1, hs1⟩ := suf_expr t h1
        obtain ⟨hl2, hs2⟩ := ih.block _ _ _ h2
        obtain ⟨hl3, hs3⟩ := ih.elifs _ _ _ h3
        have := drop1_length hc
        have := optK_len .THEN ts1
        refine shorter_and_succ (by omega) fun g' hg => ?_
        simp only [parseElifs, hc, ↓reduceIte, hs1 g' (by omega), hs2 g' (by omega), hs3 g' (by omega)]
      next hc =>
        refine ⟨Nat.le_refl _, of_succ_fuel (by omega) fun g' hg => ?_⟩
        simp only [parseElifs, hc, ↓reduceIte]
    · intro ts x rest
      generalize hn : f + 1 = n
      fun_cases parseElse t n ts
      all_goals try (intro h; cases h; done)
      all_goals cases hn
      all_goals intro h
      all_goals fin_inj h
      next b hc h1 =>
        obtain ⟨hl, hs⟩ := ih.block _ _ _ h1
        have := drop1_length hc
        refine shorter_and_succ (by omega) fun g' hg => ?_
        simp only [parseElse, hc, ↓reduceIte, hs g' (by omega)]
      next hc =>
        refine ⟨Nat.le_refl _, of_succ_fuel (by omega) fun g' hg => ?_⟩
        simp only [parseElse, hc, ↓reduceIte]

theorem parseBlock_of_fuel {f : Nat} {ts : List Tok} {r : Block × List Tok} (h : parseBlock t f ts = some r) :
    parseBlock t (fuelForS ts) ts = some r := by
  obtain ⟨b, rest⟩ := r
  obtain ⟨hl, hs⟩ := (suffS t f).block ts b rest h
  exact hs _ (by simp only [fuelForS]; omega)

theorem parseStmts_of_fuel {f : Nat} {ts : List Tok} {b : Block} (h : parseBlock t f ts = some (b, [])) :
    parseStmts t ts = some b := by
  simp only [parseStmts, parseBlock_of_fuel t h]

theorem parseStmts_complete {ts : List Tok} (h : parseStmts t ts = none) (f : Nat) (b : Block) :
    parseBlock t f ts ≠ some (b, []) := by
  intro hf
  rw [parseStmts_of_fuel t hf] at h
  cases h

theorem parseBlock_fuel_indep {f : Nat} {ts : List Tok} {r : Block × List Tok} (h : parseBlock t f ts = some r)
    (g : Nat) (hg : 2 * ts.length + 2 ≤ g) : parseBlock t g ts = some r := by
  obtain ⟨b, rest⟩ := r
  exact ((suffS t f).block ts b rest h).2 g (by omega)

theorem parseBlock_stable {ts : List Tok} {g g' : Nat} (hg : 2 * ts.length + 2 ≤ g)
    (hg' : 2 * ts.length + 2 ≤ g') : parseBlock t g ts = parseBlock t g' ts := by
  cases h : parseBlock t g ts with
  | some r => exact (parseBlock_fuel_indep t h g' hg').symm
  | none =>
    cases h' : parseBlock t g' ts with
    | none => rfl
    | some r =>
      rw [parseBlock_fuel_indep t h' g hg] at h
      cases h

end stmt

end Pyx.Oal
