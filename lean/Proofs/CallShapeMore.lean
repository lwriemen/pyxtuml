import Proofs.CallShape

/-!
  C15 source tie (continues Proofs/CallShape.lean).  The found side holds there for any untyped dictionary; what the source does
  with a name it does NOT find depends on what `Domain.symbols` holds, so here that dictionary is the one mk_component fills
  (`untypedOf`, `srcDom`), and `::f()`, `bridge NS::op()`, `transform KL::op()` are compared through the fall-back, up to the
  error text (`noMsg`).  Attribute access: both accept_FieldAccessNode handlers return a property (`lvalOf`: the attribute, or
  the return_value register inside a derived attribute), read by `fgetP`, written by `fsetP`.  `Domain.add_symbol` for every
  registration order is one fold where the last write wins (`foldl_last`); `ee_getattr_eq` is mk_external_entity's namedtuple.
-/
namespace Pyx.CShape
open Pyx.Interp Pyx.Interp.M Pyx.Gen.CallShape
open Pyx.IShape (bind_run fail_run noMsg)

/-- `Domain.symbols`: mk_component registers the functions, then the enumerations, then the constants, then the external
    entities (`registrations`), each under its bare name: the LAST registration of a name is what the dictionary holds -/
def untypedOf (C : Ctx) (n : String) : Option Sym :=
  if hasBridges C n then some (.ee n)
  else match C.consts.lookup n with
    | some v => some (.const v)
    | none =>
      match C.enums.find? (fun d => d.name = n) with
      | some d => some (.enum d)
      | none => (findCallable C (fun f => f.kind = .function ∧ f.name = n)).map Sym.fn

/-- the domain exactly as the source builds it from the model elements of `C` -/
def srcDom (C : Ctx) : Dom := domOf C (untypedOf C)

attribute [csym] srcDom

theorem iFind_nil (D : Dom) (name : String) :
    iFind domain D name [] = (match D.untyped name with | some s => some s | none => D.findClass name) := by
  rw [iFind_domain]
  cases D.untyped name <;> rfl

theorem untypedOf_some {C : Ctx} {n : String} {s : Sym} (h : untypedOf C n = some s) :
    match s with
    | .ee m => m = n ∧ hasBridges C n = true
    | .const v => C.consts.lookup n = some v
    | .enum d => C.enums.find? (fun d => d.name = n) = some d
    | .fn f => findCallable C (fun f => f.kind = .function ∧ f.name = n) = some f
    | .cls _ => False := by
  unfold untypedOf at h
  split at h
  · cases h; exact ⟨rfl, ‹_›⟩
  · split at h
    · cases h; assumption
    · split at h
      · cases h; assumption
      · cases hf : findCallable C (fun f => f.kind = .function ∧ f.name = n) <;> rw [hf] at h <;> cases h
        rfl

@[csym] theorem noMsg_fail {α : Type} (msg : String) (c : Cfg) : noMsg ((fail msg : M α) c) = some (.error ⟨""⟩) := rfl

theorem noMsg_bind_fail {α β : Type} (m : M α) (a b : String) (c : Cfg) :
    noMsg ((m >>= fun _ => (M.fail a : M β)) c) = noMsg ((m >>= fun _ => (M.fail b : M β)) c) :=
  Pyx.IShape.noMsg_bind m c fun _ _ => rfl

/-- `::name(args)` for every model without a CLASS of that name (`hcls`): found, or not found — the source then falls back to
    the untyped dictionary (a constant, an enumeration or an external entity of that name: not callable, TypeError) and to the
    classes.  A class named like a MISSING function Python instantiates (`function_named_like_class_witness` in Props/C15.lean);
    beside a found one it changes nothing (`function_call_eq` has no such hypothesis).  Up to the text of the error. -/
theorem function_call_total (C : Ctx) (rec : Oracle) (name : String) (args : List (String × Expr)) (c : Cfg)
    (hcls : (findClass C name).isSome = false) :
    noMsg (evalStep C rec (.call .function name args) c) =
      noMsg (handlerE C gen (srcDom C) rec (invNode C gen (srcDom C) rec [("action_name", name)] none args)
        accept_FunctionInvocationNode c) := by
  cases hf : findCallable C (fun f => f.kind = .function ∧ f.name = name) with
  | some f => rw [srcDom, function_call_eq C (untypedOf C) rec name args f hf]
  | none =>
    rw [function_handler]
    -- both sides evaluate the parameters first: compare what follows them
    refine Pyx.IShape.noMsg_bind _ c fun kw c' => ?_
    simp only [csym, hf, iFind_gen_function, hcls]
    cases hu : untypedOf C name with
    | none => simp only [csym]
    | some s =>
      have hs := untypedOf_some hu
      cases s with
      | fn f => rw [hf] at hs; cases hs
      | cls kl => cases hs
      | _ => simp only [csym]

/-- why `Spec`'s clause for `transform KL::op()` must not use `resolveNs` (a bridge of an external entity KL first): the source
    asks for the class only, and `resolveNs` picks the same callable exactly when no bridge `op` of an external entity with the
    class's key letters exists -/
theorem transform_resolution_iff (C : Ctx) (ns name : String) (f : Callable)
    (hc : findCallable C (fun f => f.kind = .classOp ns ∧ f.name = name) = some f) :
    resolveNs C ns name = findCallable C (fun f => f.kind = .classOp ns ∧ f.name = name) ↔
      findCallable C (fun f => f.kind = .bridge ns ∧ f.name = name) = none := by
  constructor
  · intro h
    cases hb : findCallable C (fun f => f.kind = .bridge ns ∧ f.name = name) with
    | none => rfl
    | some g =>
      exfalso
      simp only [resolveNs, hb, hc, Option.some.injEq] at h
      have hk := (hasBridges_of_found hb).2
      rw [h, classOp_kind hc] at hk
      cases hk
  · intro h
    simp only [resolveNs, h]

/-- `bridge NS::op()` where NS names no external entity and nothing else in the untyped dictionary: the source falls back to the
    CLASS NS (find_class) and runs its class-based operation — as `Spec` does -/
theorem bridge_falls_back_to_class_eq (C : Ctx) (rec : Oracle) (ns name : String) (args : List (String × Expr)) (f : Callable)
    (hne : hasBridges C ns = false) (hu : untypedOf C ns = none) (hcls : (findClass C ns).isSome = true)
    (hc : findCallable C (fun f => f.kind = .classOp ns ∧ f.name = name) = some f) :
    evalStep C rec (.call (.bridge ns) name args) =
      handlerE C gen (srcDom C) rec (invNode C gen (srcDom C) rec [("namespace", ns), ("action_name", name)] none args)
        accept_BridgeInvocationNode := by
  simp only [bridge_handler, csym, no_bridge_of_none hne, iFind_gen_ee, hne, hu, hcls, hc, classOp_kind hc]

/-- `transform KL::op()` not found (no class-based and no instance-based operation `op`): the source fails at the look-up,
    BEFORE the parameters are evaluated — and so does `Spec`; up to the error text -/
theorem class_call_not_found_eq (C : Ctx) (rec : Oracle) (ns name : String) (args : List (String × Expr)) (c : Cfg)
    (hcls : (findClass C ns).isSome = true)
    (hc : findCallable C (fun f => f.kind = .classOp ns ∧ f.name = name) = none)
    (hi : findCallable C (fun f => f.kind = .instOp ns ∧ f.name = name) = none) :
    noMsg (evalStep C rec (.call (.classOp ns) name args) c) =
      noMsg (handlerE C gen (srcDom C) rec (invNode C gen (srcDom C) rec [("key_letter", ns), ("action_name", name)] none args)
        accept_ClassInvocationNode c) := by
  simp only [class_handler, csym, iFind_gen_class, hcls, hc, hi]

/-- a handler that returns a property: the property itself -/
def sigP : Sig → M PV
  | .ret v => pure v
  | .next => fail "the handler returned nothing"

def handlerP (C : Ctx) (P : Parts) (D : Dom) (rec : Oracle) (nd : CNode) (body : List CStmt) : M PV := do
  let r ← iStmts C P D rec nd body []
  sigP r.2

/-- `getattr(inst, name)`: the property mk_derived_attribute put on the class (its getter receives the instance), else the
    stored / referential attribute -/
def attrGet (C : Ctx) (P : Parts) (rec : Oracle) (i : Inst) (name : String) : M Val :=
  match findDerived C i.cls name with
  | some f => callCallee P rec ⟨P.derived, f, some i.cls⟩ [.val (.inst i)] none
  | none => querySt (getAttr C i name)

/-- `setattr(inst, name, value)`: a property without a setter cannot be assigned -/
def attrSet (C : Ctx) (i : Inst) (name : String) (v : Val) : M Unit :=
  match findDerived C i.cls name with
  | some _ => fail ("derived attribute " ++ name ++ " cannot be assigned")
  | none => modifySt (setAttr C i name v)

/-- `<property>.fget()` -/
def fgetP (C : Ctx) (P : Parts) (rec : Oracle) : PV → M Val
  | .lval i n => attrGet C P rec i n
  | .reg => do
    let fr ← getFr
    pure fr.ret
  | .val v => pure v
  | _ => fail "fget of something that is not a property"

/-- `<property>.fset(value)` -/
def fsetP (C : Ctx) : PV → Val → M Unit
  | .lval i n, v => attrSet C i n v
  | .reg, v => setRet v
  | _, _ => fail "fset of something that has no setter"

def fieldNode (rec : Oracle) (h : Expr) (name : String) : CNode :=
  { str := fun f => if f = "name" then name else ""
    acceptE := fun f => if f = "handle" then some (rec.eval h) else none }

theorem findDerived_name {C : Ctx} {cls name : String} {f : Callable} (h : findDerived C cls name = some f) : f.name = name := by
  have := (findCallable_some h).1
  simp only [decide_eq_true_eq] at this
  exact this.2

/-- the property `i.name` denotes in the frame `fr`: the return_value register for `self.<attr>` inside the derived attribute
    `<attr>` of `self`, else the attribute -/
def lvalOf (fr : Frame) (i : Inst) (name : String) : PV := if regHit fr i name then .reg else .lval i name

theorem readField_eq (C : Ctx) (rec : Oracle) (i : Inst) (name : String) :
    readField C rec i name = (do let fr ← getFr; fgetP C gen rec (lvalOf fr i name)) := by
  funext c
  simp only [readField, lvalOf, bind_run, getFr_run]
  cases regHit c.fr i name
  · simp only [Bool.false_eq_true, ↓reduceIte, fgetP, attrGet]
    cases hd : findDerived C i.cls name with
    | none => rfl
    | some f => simp only [gen_derived, call_derived_eq, findDerived_name hd]
  · rfl

theorem writeField_eq (C : Ctx) (i : Inst) (name : String) (v : Val) :
    writeField C i name v = (do let fr ← getFr; fsetP C (lvalOf fr i name) v) := by
  funext c
  simp only [writeField, lvalOf, bind_run, getFr_run]
  cases regHit c.fr i name <;> rfl

section
variable (C : Ctx) (P : Parts) (D : Dom) (rec : Oracle) (h : Expr) (name : String)

theorem field_handler :
    handlerP C P D rec (fieldNode rec h name) accept_FieldAccessNode =
      (do let v ← rec.eval h
          let i ← asInst v
          pure (.lval i name)) := by
  simp only [handlerP, cshape, accept_FieldAccessNode, fieldNode, sigP]

/-- `node.name == self.attribute_name and inst == self.instance` -/
def isRegister (fr : Frame) (v : Val) (name : String) : Bool :=
  (match fr.kind with
   | .derived _ attr => name == attr
   | _ => false) && decide (v = fr.self)

theorem derived_field_handler :
    handlerP C P D rec (fieldNode rec h name) DerivedAttributeWalker_accept_FieldAccessNode =
      (do let v ← rec.eval h
          let fr ← getFr
          if isRegister fr v name then pure .reg else do
            let i ← asInst v
            pure (.lval i name)) := by
  simp only [handlerP, cshape, DerivedAttributeWalker_accept_FieldAccessNode, fieldNode]
  apply bind_congr; intro v
  apply bind_congr; intro fr
  have : iCond { str := fun f => if f = "name" then name else "", acceptE := fun f => if f = "handle" then some (rec.eval h) else none }
      [("inst", .val v)] fr (.both (.fieldEqSelf "name" "attribute_name") (.localEqSelf "inst" "instance")) =
      isRegister fr v name := by
    simp only [iCond, isRegister, cshape, decide_true, Bool.true_and]
    cases fr.kind <;> rfl
  rw [this]
  cases isRegister fr v name <;> simp only [Bool.false_eq_true, cshape, sigP]
end

theorem isRegister_eq {fr : Frame} {si : Inst} {a : String} (hk : fr.kind = .derived si a) (hs : fr.self = .inst si)
    (v : Val) (name : String) :
    isRegister fr v name = match v with
      | .inst i => regHit fr i name
      | _ => false := by
  unfold isRegister regHit
  rw [hk, hs]
  cases v with
  | inst i => by_cases hn : name = a <;> simp [hn]
  | _ => simp only [reduceCtorEq, decide_false, Bool.and_false]

section
variable {β : Type} (C : Ctx) (P : Parts) (D : Dom) (rec : Oracle) (h : Expr) (name : String) (c : Cfg) (K : PV → M β)
  (hfr : ∀ v c1, rec.eval h c = some (.ok (v, c1)) → c1.fr = c.fr)
include hfr

/-- ActionWalker.accept_FieldAccessNode outside derived attributes, followed by anything (`hfr`: evaluating the handle leaves
    the frame alone) -/
theorem field_handler_run (hk : ∀ si a, c.fr.kind ≠ .derived si a) :
    (handlerP C P D rec (fieldNode rec h name) accept_FieldAccessNode >>= K) c =
      (do let hv ← rec.eval h
          let i ← asInst hv
          let fr ← getFr
          K (lvalOf fr i name)) c := by
  simp only [field_handler, bind_run]
  cases hr : rec.eval h c with
  | none => rfl
  | some r => cases r with
    | error e => rfl
    | ok p =>
      obtain ⟨hv, c1⟩ := p
      cases hv with
      | inst i =>
        -- `lvalOf` reads the frame AFTER the handle is evaluated (as `readField` does); `hfr` makes it `c`'s, where `hk` speaks
        have hreg : regHit c1.fr i name = false := by
          have hk1 := hfr _ _ hr ▸ hk
          unfold regHit
          cases hkk : c1.fr.kind <;> first | rfl | exact absurd hkk (hk1 _ _)
        simp only [asInst, pure_run, getFr_run, lvalOf, hreg, Bool.false_eq_true, ↓reduceIte]
      | _ => rfl

/-- DerivedAttributeWalker.accept_FieldAccessNode inside the derived attribute `a` of `si`: `self.a` — same name AND same
    instance — is the register -/
theorem derived_field_handler_run (si : Inst) (a : String) (hk : c.fr.kind = .derived si a) (hs : c.fr.self = .inst si) :
    (handlerP C P D rec (fieldNode rec h name) DerivedAttributeWalker_accept_FieldAccessNode >>= K) c =
      (do let hv ← rec.eval h
          let i ← asInst hv
          let fr ← getFr
          K (lvalOf fr i name)) c := by
  simp only [derived_field_handler, bind_run]
  cases hr : rec.eval h c with
  | none => rfl
  | some r => cases r with
    | error e => rfl
    | ok p =>
      obtain ⟨hv, c1⟩ := p
      have hc1 := hfr _ _ hr
      simp only [getFr_run, isRegister_eq (hc1 ▸ hk) (hc1 ▸ hs)]
      cases hv with
      | inst i =>
        simp only [asInst, pure_run, lvalOf]
        by_cases hreg : regHit c1.fr i name = true
        · rw [if_pos hreg, if_pos hreg]; rfl
        · rw [if_neg hreg, if_neg hreg]; rfl
      | _ => rfl
end

/-- `h.name` read outside derived attributes: ActionWalker.accept_FieldAccessNode, then the property's getter (`hfr`: evaluating
    the handle leaves the frame alone — `call_isolated` for every `run C n`) -/
theorem field_read_eq (C : Ctx) (D : Dom) (rec : Oracle) (h : Expr) (name : String) (c : Cfg)
    (hk : ∀ si a, c.fr.kind ≠ .derived si a) (hfr : ∀ v c1, rec.eval h c = some (.ok (v, c1)) → c1.fr = c.fr) :
    evalStep C rec (.field h name) c =
      (do let l ← handlerP C gen D rec (fieldNode rec h name) accept_FieldAccessNode
          fgetP C gen rec l) c := by
  simp only [field_handler_run C gen D rec h name c _ hfr hk, evalStep, readField_eq]

/-- `h.name` read INSIDE the derived attribute `a` of the instance `si`: DerivedAttributeWalker.accept_FieldAccessNode — the
    access `self.a` (same instance, same name) is the walker's return_value register, every other access the attribute -/
theorem field_read_derived_eq (C : Ctx) (D : Dom) (rec : Oracle) (h : Expr) (name : String) (c : Cfg) (si : Inst) (a : String)
    (hk : c.fr.kind = .derived si a) (hs : c.fr.self = .inst si)
    (hfr : ∀ v c1, rec.eval h c = some (.ok (v, c1)) → c1.fr = c.fr) :
    evalStep C rec (.field h name) c =
      (do let l ← handlerP C gen D rec (fieldNode rec h name) DerivedAttributeWalker_accept_FieldAccessNode
          fgetP C gen rec l) c := by
  simp only [derived_field_handler_run C gen D rec h name c _ hfr si a hk hs, evalStep, readField_eq]

/-- `h.name = v` outside derived attributes: the same property, its setter -/
theorem field_write_eq (C : Ctx) (D : Dom) (rec : Oracle) (h : Expr) (name : String) (v : Val) (c : Cfg)
    (hk : ∀ si a, c.fr.kind ≠ .derived si a) (hfr : ∀ v c1, rec.eval h c = some (.ok (v, c1)) → c1.fr = c.fr) :
    (do let hv ← rec.eval h
        let i ← asInst hv
        writeField C i name v) c =
      (do let l ← handlerP C gen D rec (fieldNode rec h name) accept_FieldAccessNode
          fsetP C l v) c := by
  simp only [field_handler_run C gen D rec h name c _ hfr hk, writeField_eq]

/-- `h.name = v` inside the derived attribute `a` of `si`: `self.a = v` writes the return_value register -/
theorem field_write_derived_eq (C : Ctx) (D : Dom) (rec : Oracle) (h : Expr) (name : String) (v : Val) (c : Cfg) (si : Inst)
    (a : String) (hk : c.fr.kind = .derived si a) (hs : c.fr.self = .inst si)
    (hfr : ∀ v c1, rec.eval h c = some (.ok (v, c1)) → c1.fr = c.fr) :
    (do let hv ← rec.eval h
        let i ← asInst hv
        writeField C i name v) c =
      (do let l ← handlerP C gen D rec (fieldNode rec h name) DerivedAttributeWalker_accept_FieldAccessNode
          fsetP C l v) c := by
  simp only [derived_field_handler_run C gen D rec h name c _ hfr si a hk hs, writeField_eq]

/-- accept_InvocationStatementNode hands the invocation's property on; the statement list drops it -/
theorem invocation_statement_eq (C : Ctx) (P : Parts) (D : Dom) (rec : Oracle) (e : Expr) :
    execStep C rec (.invoke e) = (do
      let _ ← handlerE C P D rec { acceptE := fun f => if f = "invocation" then some (rec.eval e) else none }
        accept_InvocationStatementNode
      pure .normal) := by
  simp only [cshape, accept_InvocationStatementNode, execStep]

/-! ### `Domain.add_symbol` / `find_symbol`: the two dictionaries, for every registration order -/

structure Reg where
  name : String
  sym : Sym
  kind : Option String

/-- `add_symbol(name, handle, kind)` on the two dictionaries -/
def addSymbol (sh : DomainShape) (D : Dom) (r : Reg) : Dom :=
  { D with
    untyped := if sh.addUntyped then (fun n => if n = r.name then some r.sym else D.untyped n) else D.untyped
    byKind := match r.kind with
      | some k => if sh.addByKindIfKind then (fun k' n => if k' = k ∧ n = r.name then some r.sym else D.byKind k' n) else D.byKind
      | none => D.byKind }

def emptyDom : Dom := { byKind := fun _ _ => none, untyped := fun _ => none, isMetaclass := fun _ => false, findClass := fun _ => none }

def regAll (sh : DomainShape) (regs : List Reg) : Dom := regs.foldl (addSymbol sh) emptyDom

/-- a dictionary entry after any number of `add_symbol` calls: the LAST registration that writes it, else what it held -/
theorem foldl_last {σ : Type} (upd : σ → Reg → σ) (obs : σ → Option Sym) (p : Reg → Bool)
    (h : ∀ D r, obs (upd D r) = if p r then some r.sym else obs D) : ∀ (regs : List Reg) (D : σ),
    obs (regs.foldl upd D) = (match regs.reverse.find? p with
      | some r => some r.sym
      | none => obs D)
  | [], _ => rfl
  | r :: rest, D => by
    -- the last hit in `r :: rest` is the last hit of `rest`, else `r`
    rw [List.foldl_cons, foldl_last upd obs p h rest, List.reverse_cons, List.find?_append]
    cases rest.reverse.find? p with
    | some r' => rfl
    | none =>
      rw [h]
      cases hp : p r <;> simp [hp]

theorem regAll_byKind (regs : List Reg) (k name : String) :
    (regAll domain regs).byKind k name =
      ((regs.reverse.find? (fun r => decide (r.kind = some k ∧ r.name = name))).map Reg.sym) := by
  refine (foldl_last _ (fun D => D.byKind k name) (fun r => decide (r.kind = some k ∧ r.name = name)) (fun D r => ?_) regs
    emptyDom).trans ?_
  · cases hk : r.kind with
    | none => simp [addSymbol, hk]
    | some k0 =>
      by_cases h : k0 = k ∧ r.name = name
      · simp [addSymbol, domain, hk, h]
      · have h' : ¬ (k = k0 ∧ name = r.name) := fun ⟨a, b⟩ => h ⟨a.symm, b.symm⟩
        simp [addSymbol, domain, hk, h, h']
  · cases regs.reverse.find? _ <;> rfl

/-- the kind-qualified dictionary: whatever is registered, in whatever order, under OTHER kinds (or without a kind) with the
    same name, `find_symbol(name, k)` delivers what the dictionary holds under (k, name) once something is registered there
    (`regAll_byKind`: the symbol registered LAST under that key) -/
theorem find_symbol_by_kind (regs : List Reg) (k name : String) (r : Reg)
    (h : regs.reverse.find? (fun r => decide (r.kind = some k ∧ r.name = name)) = some r) (ks : List String) :
    ∃ s, iFind domain (regAll domain regs) name (k :: ks) = some s ∧ (regAll domain regs).byKind k name = some s := by
  have hb := regAll_byKind regs k name
  rw [h] at hb
  exact ⟨r.sym, iFind_hit _ _ _ _ _ hb, hb⟩

/-! ### mk_external_entity -/

/-- `EE = namedtuple(key letters, names); EE(*funcs)` then `getattr(ee, name)`: the value at the position of the field -/
def eeGetattr (sh : ExternalEntityShape) (brgs : List Callable) (name : String) : Option Callee :=
  if sh.namesFrom = sh.funcsFrom ∧ sh.nameOf = "Name" ∧ sh.maker = "mk_bridge" ∧ sh.fields = "names" ∧ sh.values = "funcs" then
    ((brgs.map Callable.name).zip (brgs.map (fun f => (⟨mk_bridge, f, none⟩ : Callee)))).lookup name
  else none

theorem zip_lookup (brgs : List Callable) (g : Callable → Callee) (name : String) :
    ((brgs.map Callable.name).zip (brgs.map g)).lookup name = (brgs.find? (fun f => f.name = name)).map g := by
  induction brgs with
  | nil => rfl
  | cons f rest ih =>
    simp only [List.map, List.zip_cons_cons, List.lookup, List.find?_cons]
    by_cases h : name = f.name
    · simp [h]
    · have h' : ¬ f.name = name := fun e => h e.symm
      have hb : (name == f.name) = false := by simp [h]
      simp [hb, h', ih]

/-- the bridges of the external entity `ns`, in the order of `many(s_ee).S_BRG[19]()` -/
def bridgesOf (C : Ctx) (ns : String) : List Callable := C.callables.filter (fun f => decide (f.kind = .bridge ns))

theorem ee_getattr_eq (C : Ctx) (ns name : String) :
    eeGetattr mk_external_entity (bridgesOf C ns) name =
      (findCallable C (fun f => f.kind = .bridge ns ∧ f.name = name)).map (fun f => (⟨mk_bridge, f, none⟩ : Callee)) := by
  simp only [eeGetattr, mk_external_entity, and_self, ↓reduceIte, zip_lookup, bridgesOf, findCallable, List.find?_filter]
  congr 2
  funext f
  simp [Bool.and_comm]

end Pyx.CShape
