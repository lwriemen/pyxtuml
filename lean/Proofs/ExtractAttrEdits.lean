import Proofs.ExtractEdits

/-!
  C14 — reordering and retyping attributes commute with extraction.
-/

namespace Pyx.Extract

theorem reorder_perm {k : Class} (nd : (k.attrs.map (·.id)).Nodup) {perm : List Nat}
    (hp : perm.Perm (k.attrs.map (·.id))) : (perm.filterMap k.findAttr).Perm k.attrs :=
  perm_filterMap_find? (fun (y : Attr) => y.id) nd hp

theorem reorder_findAttr {k : Class} (nd : (k.attrs.map (·.id)).Nodup) {perm : List Nat}
    (hp : perm.Perm (k.attrs.map (·.id))) (i : Nat) :
    ({ k with attrs := perm.filterMap k.findAttr } : Class).findAttr i = k.findAttr i := by
  unfold Class.findAttr
  have hperm := reorder_perm nd hp
  have nd' : ((perm.filterMap k.findAttr).map (fun (y : Attr) => y.id)).Nodup :=
    (hperm.map _).nodup_iff.mpr nd
  exact find?_perm_key (fun (y : Attr) => y.id) hperm nd' i

theorem find_by_name {f : Attr → Option SAttr} (hf : ∀ y s, f y = some s → s.name = y.name)
    {l : List Attr} (nd : (l.map (·.name)).Nodup) {x : Attr} (hx : x ∈ l) :
    (l.filterMap f).find? (fun s => s.name == x.name) = f x := by
  induction l with
  | nil => cases hx
  | cons a t ih =>
    simp only [List.map_cons, List.nodup_cons] at nd
    rcases List.mem_cons.mp hx with rfl | hxt
    · cases hfa : f x with
      | some s =>
        simp only [List.filterMap_cons, hfa, List.find?_cons]
        simp [hf x s hfa]
      | none =>
        simp only [List.filterMap_cons, hfa]
        apply List.find?_eq_none.mpr
        intro s hs
        obtain ⟨y, hy, hys⟩ := List.mem_filterMap.mp hs
        have : y.name ≠ x.name := fun he => nd.1 (he ▸ List.mem_map_of_mem hy)
        simp [hf y s hys, this]
    · have hne : a.name ≠ x.name := fun he => nd.1 (he ▸ List.mem_map_of_mem hxt)
      cases hfa : f a with
      | some s =>
        simp only [List.filterMap_cons, hfa, List.find?_cons]
        have : (s.name == x.name) = false := by simp [hf a s hfa, hne]
        rw [this]
        exact ih nd.2 hxt
      | none =>
        simp only [List.filterMap_cons, hfa]
        exact ih nd.2 hxt

theorem identOf_congr {drv : Bool} {k k' : Class} (hf : ∀ i, k'.findAttr i = k.findAttr i) :
    identOf drv k' = identOf drv k := by
  funext i
  unfold identOf
  have : k'.findAttr = k.findAttr := funext hf
  rw [this]

section reorder
variable {d : ClassDiagram} (wf : WF d) {c : Nat} {perm : List Nat} {kc : Class}
  (hc : findClass d c = some kc) (hp : perm.Perm (kc.attrs.map (·.id)))

include wf hc hp in
theorem ro_findAttr {k : Class} (hk : k ∈ d.classes) (he : k.id = c) (i : Nat) :
    ({ k with attrs := perm.filterMap k.findAttr } : Class).findAttr i = k.findAttr i := by
  cases wf.id_inj hk (findClass_mem hc) (he.trans (findClass_id hc).symm)
  exact reorder_findAttr (wf.attrIds kc hk) hp i

include wf hc hp in
theorem ro_attrTy (x : Attr) : attrTy (applyEdit (.reorderAttrs c perm) d) x = attrTy d x :=
  attrTy_congr rfl rfl
    (attrKindAt_mapClass (by intro _; rfl) (fun k hk he b => by rw [ro_findAttr wf hc hp hk he]))

include wf hc hp in
theorem ro_groupOf (r : Rel) : groupOf (applyEdit (.reorderAttrs c perm) d) r = groupOf d r :=
  groupOf_mapClass (by intro _; rfl) (by intro _; rfl) (fun k hk he i => by rw [ro_findAttr wf hc hp hk he]) r

include wf hc hp in
theorem ro_classOf {drv : Bool} :
    classOf (applyEdit (.reorderAttrs c perm) d) drv { kc with attrs := perm.filterMap kc.findAttr } =
      (classOf d drv kc).reorder (perm.filterMap (fun i => (kc.findAttr i).map (fun x => x.name))) := by
  have hkc := findClass_mem hc
  unfold classOf SClass.reorder
  rw [identOf_congr (k := kc) (reorder_findAttr (wf.attrIds kc hkc) hp)]
  simp only [SClass.mk.injEq, true_and, and_true]
  rw [List.filterMap_filterMap, List.filterMap_filterMap]
  apply filterMap_congr'
  intro i _
  cases hf : kc.findAttr i with
  | none => rfl
  | some x =>
    simp only [Option.bind_some, Option.map_some]
    rw [find_by_name (fun y s hs => sattr_name hs) (wf.attrNames kc hkc) (findAttr_mem hf)]
    exact sattr_same (ro_attrTy wf hc hp x)

include wf in
theorem reorder_commutes (c : Nat) (perm : List Nat) (comp : Option Nat) (drv : Bool)
    (hperm : ∀ kc, findClass d c = some kc → perm.Perm (kc.attrs.map (·.id))) :
    extract (applyEdit (.reorderAttrs c perm) d) comp drv =
      schemaEdit (resolve d comp drv (.reorderAttrs c perm)) (extract d comp drv) := by
  simp only [resolve]
  cases hc : findClass d c with
  | none => rw [show applyEdit (.reorderAttrs c perm) d = d from mapClass_missing hc _]; rfl
  | some kc =>
    have hp := hperm kc hc
    refine Schema.mk.injEq .. ▸ ⟨classes_point wf hc SClass.kl _ (classOf (applyEdit (.reorderAttrs c perm) d) drv)
      (classOf d drv) (fun _ => rfl) (fun k => { k with attrs := perm.filterMap k.findAttr }) (fun _ => rfl)
      (fun k _ _ => classOf_congr rfl rfl rfl (ro_attrTy wf hc hp)) _ (ro_classOf wf hc hp), ?_⟩
    show List.filterMap (groupOf (applyEdit (.reorderAttrs c perm) d)) _ = _
    rw [funext (ro_groupOf wf hc hp)]
    rfl

end reorder

/-- The declaration of an attribute whose type name `o` becomes `ty` at a site: `mk` builds the declaration from the type
    name, `F` is the edit of the declaration, `skip` says that the attribute is not declared. -/
theorem retyped_decl {β : Type} {mk : String → β} {F : β → β} {site : Bool} {ty : String} {o : Option String}
    (hF : ∀ t, F (mk t) = if site then mk ty else mk t) (ho : site = true → o.isSome = true) (skip : Bool) :
    (if skip then none else (if site then some ty else o).map mk) = (if skip then none else o.map mk).map F := by
  cases skip
  · cases site
    · cases o <;> simp [hF]
    · obtain ⟨t, rfl⟩ := Option.isSome_iff_exists.mp (ho rfl)
      simp [hF]
  · rfl

theorem retype_isDerived (x : Attr) (dt : Nat) :
    ({ x with kind := x.kind.retype dt } : Attr).isDerived = x.isDerived := by
  unfold Attr.isDerived AttrKind.retype
  cases x.kind <;> rfl

/-- the update a retype of (c, a) makes on the attribute row `x` of class `k` (`retype_rows`) -/
def rtA (c a dt : Nat) (k : Class) (x : Attr) : Attr :=
  if k.id == c && x.id == a then { x with kind := x.kind.retype dt } else x

/-- … and on the class row: the other fields of the record are untouched, so what a retype keeps of a class is `rfl` -/
def rtK (c a dt : Nat) (k : Class) : Class := { k with attrs := k.attrs.map (rtA c a dt k) }

section retype
variable {d : ClassDiagram} {c a dt : Nat}

theorem rtA_id (k : Class) (x : Attr) : (rtA c a dt k x).id = x.id := by unfold rtA; split <;> rfl
theorem rtA_name (k : Class) (x : Attr) : (rtA c a dt k x).name = x.name := by unfold rtA; split <;> rfl
theorem rtA_isDerived (k : Class) (x : Attr) : (rtA c a dt k x).isDerived = x.isDerived := by
  unfold rtA; split
  · exact retype_isDerived x dt
  · rfl

theorem retype_rows (d : ClassDiagram) :
    applyEdit (.retypeAttr c a dt) d = { d with classes := d.classes.map (rtK c a dt) } := by
  show mapClass d c _ = _
  unfold mapClass
  refine congrArg (fun l => { d with classes := l }) (List.map_congr_left fun k _ => ?_)
  unfold rtK rtA Class.mapAttr
  cases k.id == c <;> simp

theorem rt_keyName (k : Class) (i : Nat) :
    ((rtK c a dt k).findAttr i).map (·.name) = (k.findAttr i).map (·.name) := by
  rw [show (rtK c a dt k).findAttr i = _ from findAttr_map (rtA_id k) i]
  cases k.findAttr i with
  | none => rfl
  | some x => exact congrArg some (rtA_name k x)

/-- the attribute (class k, attribute x) gets the new type: the retyped attribute itself or a
    referential attribute based on it -/
def isSite (c a : Nat) (k : Class) (x : Attr) : Bool := (k.id == c && x.id == a) || x.kind == .ref c a

theorem rt_attrKindAt (c' b : Nat) :
    attrKindAt { d with classes := d.classes.map (rtK c a dt) } c' b =
      (attrKindAt d c' b).map (fun kd => if c' = c ∧ b = a then kd.retype dt else kd) := by
  unfold attrKindAt
  rw [findClass_map (g := rtK c a dt) (fun _ => rfl)]
  cases hf : findClass d c' with
  | none => rfl
  | some k =>
    simp only [Option.map_some, Option.bind_some]
    rw [show (rtK c a dt k).findAttr b = _ from findAttr_map (rtA_id k) b]
    cases hb : k.findAttr b with
    | none => rfl
    | some x => simp [rtA, findClass_id hf, findAttr_id hb]; split <;> rfl

end retype
section retype
variable {d : ClassDiagram} (wf : WF d) {c a dt : Nat} {kc : Class} {xa : Attr} {ty : String}
  (hc : findClass d c = some kc) (ha : kc.findAttr a = some xa)
  (hnr : ∀ c' b, xa.kind ≠ .ref c' b)

theorem attrKindAt_found (hc : findClass d c = some kc) (ha : kc.findAttr a = some xa) :
    attrKindAt d c a = some xa.kind := by
  unfold attrKindAt; rw [hc]; simp [ha]

include hc ha hnr in
theorem attrDt_dependent {x : Attr} (hx : x.kind = .ref c a) : attrDt d x = attrDt d xa := by
  rw [attrDt_eq, attrDt_eq, hx]
  simp only [attrKindAt_found hc ha]
  cases hk : xa.kind with
  | base t => rfl
  | derived t => rfl
  | ref c' b => exact absurd hk (hnr c' b)

include hc ha hnr in
theorem attrTy_dependent {x : Attr} (hx : x.kind = .ref c a) : attrTy d x = attrTy d xa := by
  unfold attrTy; rw [attrDt_dependent hc ha hnr hx]

include wf hc ha in
theorem self_site {k : Class} (hk : k ∈ d.classes) {x : Attr} (hx : x ∈ k.attrs) (h : (k.id == c && x.id == a) = true) :
    k = kc ∧ x = xa := by
  have h' := Bool.and_eq_true_iff.mp h
  cases wf.id_inj hk (findClass_mem hc) (by rw [findClass_id hc]; simpa using h'.1)
  exact ⟨rfl, inj_of_nodup_map (fun (y : Attr) => y.id) (wf.attrIds kc hk) hx (findAttr_mem ha)
    (by rw [findAttr_id ha]; simpa using h'.2)⟩

include wf hc ha in
theorem site_cases {k : Class} (hk : k ∈ d.classes) {x : Attr} (hx : x ∈ k.attrs) (hs : isSite c a k x = true) :
    (k = kc ∧ x = xa) ∨ x.kind = .ref c a :=
  (Bool.or_eq_true_iff.mp hs).imp (self_site wf hc ha hk hx) (by simp)

include wf hc ha hnr in
theorem site_attrDt {k : Class} (hk : k ∈ d.classes) {x : Attr} (hx : x ∈ k.attrs) (hs : isSite c a k x = true) :
    attrDt d x = attrDt d xa := by
  rcases site_cases wf hc ha hk hx hs with ⟨_, rfl⟩ | h
  · rfl
  · exact attrDt_dependent hc ha hnr h

include hnr in
theorem retype_dt (dt : Nat) : xa.kind.retype dt = .base dt ∨ xa.kind.retype dt = .derived dt := by
  cases hk : xa.kind with
  | base t => exact .inl rfl
  | derived t => exact .inr rfl
  | ref c' b => exact absurd hk (hnr c' b)

include hc ha hnr in
theorem rt_attrDt_row (x : Attr) :
    attrDt { d with classes := d.classes.map (rtK c a dt) } x = if x.kind == .ref c a then some dt else attrDt d x := by
  rw [attrDt_eq, attrDt_eq]
  cases hk : x.kind with
  | base t => rfl
  | derived t => rfl
  | ref c' b =>
    simp only [rt_attrKindAt]
    by_cases hcb : c' = c ∧ b = a
    · obtain ⟨rfl, rfl⟩ := hcb
      rw [attrKindAt_found hc ha]
      rcases retype_dt hnr dt with h | h <;> simp [h]
    · have : (AttrKind.ref c' b == AttrKind.ref c a) = false := by simpa using hcb
      simp only [this, hcb, if_false, Bool.false_eq_true, Option.map_id']

include wf hc ha hnr in
theorem rt_attrDt {k : Class} (hk : k ∈ d.classes) {x : Attr} (hx : x ∈ k.attrs) :
    attrDt { d with classes := d.classes.map (rtK c a dt) } (rtA c a dt k x) =
      if isSite c a k x then some dt else attrDt d x := by
  unfold isSite rtA
  cases h : (k.id == c && x.id == a) with
  | false => exact rt_attrDt_row hc ha hnr x
  | true =>
    -- the retyped attribute itself: its kind is not referential, so the new data type is read off the row
    obtain ⟨rfl, rfl⟩ := self_site wf hc ha hk hx h
    rw [attrDt_eq]
    rcases retype_dt hnr dt with h' | h' <;> simp [h']

include wf hc ha hnr in
theorem rt_bind {N : Nat → Option String} (hty : N dt = some ty) {k : Class} (hk : k ∈ d.classes) {x : Attr}
    (hx : x ∈ k.attrs) :
    (attrDt { d with classes := d.classes.map (rtK c a dt) } (rtA c a dt k x)).bind N =
      if isSite c a k x then some ty else (attrDt d x).bind N := by
  rw [rt_attrDt wf hc ha hnr hk hx]
  split
  · exact hty
  · rfl

variable (hty : dtTypeName d.dts dt = some ty)
variable (hold : (attrTy d xa).isSome = true)

include wf hc ha in
theorem sites_contains {k : Class} (hk : k ∈ d.classes) {x : Attr} (hx : x ∈ k.attrs) :
    ((kc.kl, xa.name) :: dependents d c a).contains (k.kl, x.name) = isSite c a k x := by
  have hkc := findClass_mem hc
  have hxa := findAttr_mem ha
  rw [Bool.eq_iff_iff, List.contains_eq_mem, decide_eq_true_eq, List.mem_cons]
  -- (key letters, name) identify a row (`wf.kls`, `wf.attrNames`): an entry of the site list with this pair was made from (k, x)
  constructor
  · rintro (h | h)
    · cases wf.kl_inj hk hkc (congrArg Prod.fst h)
      cases inj_of_nodup_map (fun (y : Attr) => y.name) (wf.attrNames kc hkc) hx hxa (congrArg Prod.snd h)
      simp [isSite, findClass_id hc, findAttr_id ha]
    · obtain ⟨l, hl, hmem⟩ := List.mem_flatten.mp h
      obtain ⟨k', hk', rfl⟩ := List.mem_map.mp hl
      obtain ⟨x', hx', hpair⟩ := List.mem_map.mp hmem
      cases wf.kl_inj hk' hk (congrArg Prod.fst hpair)
      cases inj_of_nodup_map (fun (y : Attr) => y.name) (wf.attrNames k hk) (List.mem_filter.mp hx').1 hx (congrArg Prod.snd hpair)
      simpa [isSite] using Or.inr (List.mem_filter.mp hx').2
  · intro hs
    rcases site_cases wf hc ha hk hx hs with ⟨rfl, rfl⟩ | hkind
    · exact Or.inl rfl
    · exact Or.inr (List.mem_flatten.mpr ⟨_, List.mem_map.mpr ⟨k, hk, rfl⟩,
        List.mem_map.mpr ⟨x, List.mem_filter.mpr ⟨hx, by simp [hkind]⟩, rfl⟩⟩)
include wf hc ha hnr in
/-- the declarations of every class after the retype, for any output: `N` names the data types, `F` sets the type name at
    the sites -/
theorem rt_decls {β : Type} {mk : String → String → β} {N : Nat → Option String} {ty : String} (hty : N dt = some ty)
    (hold : ((attrDt d xa).bind N).isSome = true) {k : Class} (hk : k ∈ d.classes) {F : β → β}
    (hF : ∀ n t, F (mk n t) = if ((kc.kl, xa.name) :: dependents d c a).contains (k.kl, n) then mk n ty else mk n t)
    (skip : Bool) :
    (rtK c a dt k).attrs.filterMap (declOf mk N skip { d with classes := d.classes.map (rtK c a dt) }) =
      (k.attrs.filterMap (declOf mk N skip d)).map F := by
  show List.filterMap _ (k.attrs.map _) = _
  rw [List.filterMap_map, List.map_filterMap]
  refine filterMap_congr' (fun x hx => ?_)
  show declOf mk N skip _ (rtA c a dt k x) = _
  unfold declOf
  rw [rtA_isDerived, rt_bind wf hc ha hnr hty hk hx, rtA_name]
  exact retyped_decl (fun t => sites_contains wf hc ha hk hx ▸ hF x.name t)
    (fun hs => by rw [site_attrDt wf hc ha hnr hk hx hs]; exact hold) _

include wf hc ha hnr hty hold in
theorem rt_classOf {drv : Bool} {k : Class} (hk : k ∈ d.classes) :
    classOf { d with classes := d.classes.map (rtK c a dt) } drv (rtK c a dt k) =
      SClass.retype ((kc.kl, xa.name) :: dependents d c a) ty (classOf d drv k) := by
  unfold classOf SClass.retype
  rw [sattr_decl, sattr_decl]
  refine SClass.mk.injEq .. ▸ ⟨rfl, rt_decls wf hc ha hnr hty hold hk (fun _ _ => rfl) (!drv), ?_⟩
  exact filterMap_congr' fun i _ => (identOf_mapAttrs (rtA_id k) (rtA_isDerived k) (ρ := id) (fun x _ => rtA_name k x) i).trans
    (by cases identOf drv k i <;> simp)

end retype

theorem not_ref_or (x : Attr) : (∀ c b, x.kind ≠ .ref c b) ∨ ∃ c b, x.kind = .ref c b := by
  cases hk : x.kind with
  | ref c b => exact Or.inr ⟨c, b, rfl⟩
  | base t => exact Or.inl (fun _ _ h => by cases h)
  | derived t => exact Or.inl (fun _ _ h => by cases h)

theorem retype_ref {d : ClassDiagram} (wf : WF d) {c a : Nat} {kc : Class} {xa : Attr} (hc : findClass d c = some kc)
    (ha : kc.findAttr a = some xa) {c' b : Nat} (hk : xa.kind = .ref c' b) (dt : Nat) :
    mapClass d c (fun k => k.mapAttr a (fun x => { x with kind := x.kind.retype dt })) = d := by
  apply mapClass_self
  intro k hk' he
  rw [wf.id_inj hk' (findClass_mem hc) (by rw [he, findClass_id hc])]
  unfold Class.mapAttr
  rw [map_point_self]
  intro x hx hxa
  rw [inj_of_nodup_map (fun (y : Attr) => y.id) (wf.attrIds kc (findClass_mem hc)) hx (findAttr_mem ha)
    (by rw [hxa, findAttr_id ha])]
  cases xa with
  | mk i n kd => cases hk; rfl

theorem retype_commutes {d : ClassDiagram} (wf : WF d) (c a dt : Nat) (comp : Option Nat) (drv : Bool)
    (hok : ∀ kc xa, findClass d c = some kc → kc.findAttr a = some xa → (∀ c' b, xa.kind ≠ .ref c' b) →
      (dtTypeName d.dts dt).isSome = true ∧ (attrTy d xa).isSome = true) :
    extract (applyEdit (.retypeAttr c a dt) d) comp drv =
      schemaEdit (resolve d comp drv (.retypeAttr c a dt)) (extract d comp drv) := by
  simp only [resolve]
  cases hc : findClass d c with
  | none => rw [show applyEdit (.retypeAttr c a dt) d = d from mapClass_missing hc _]; rfl
  | some kc =>
    dsimp only
    cases ha : kc.findAttr a with
    | none => rw [show applyEdit (.retypeAttr c a dt) d = d from mapAttr_missing wf hc ha _]; rfl
    | some xa =>
      rcases not_ref_or xa with hnr | ⟨c', b, hk⟩
      · obtain ⟨h1, hold⟩ := hok kc xa hc ha hnr
        obtain ⟨ty, hty⟩ := Option.isSome_iff_exists.mp h1
        rw [hty]
        dsimp only
        split
        · rename_i heq
          exact absurd heq (hnr _ _)
        · rw [retype_rows]
          unfold extract schemaEdit
          simp only [Schema.mk.injEq]
          constructor
          · exact map_filter_update (rtK c a dt) (fun k => inScope d.containers d.pkgrefs comp k.parent) _ (classOf d drv) _
              (fun k => rfl) (fun k hk => rt_classOf wf hc ha hnr hty hold hk)
          · rw [funext (groupOf_rows (g := rtK c a dt) (fun _ => rfl) (fun _ => rfl) (fun k _ => rt_keyName k))]
      · rw [show applyEdit (.retypeAttr c a dt) d = d from retype_ref wf hc ha hk dt]
        cases dtTypeName d.dts dt with
        | none => rfl
        | some ty => simp only [hk]; rfl

end Pyx.Extract
