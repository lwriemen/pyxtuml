import Gen.CheckShape
import Gen.CheckCond
import Proofs.Check
import Proofs.Lib.Lookup

/-!
  C11 source tie, loop structure of xtuml/consistency_check.py: a GENERIC interpreter of the first-order IR that
  translator/gen_checkshape.py extracts (`Pyx.Gen.CheckShape`), over the worlds of PyxModel/Check.lean, and the lemmas showing
  that the counting functions of the model equal that interpretation of the IR generated from xtuml/consistency_check.py.

  The interpreter (`evalE`, `evalC`, `iStmt`, `iStmts`, `run`) is defined once, for ANY IR value; only the `…_eq` lemmas mention
  the generated constants.  What it fixes, once, is the meaning of the ATOMS:

    m.select_many(kind), cls.select_many(), link.from_metaclass.select_many()   = the pool of the class (of the link's FROM class)
    m.associations, ass.rel_id / source_link / target_link                       = the schema rows by index
    m.metaclasses.values(), [m.find_metaclass(kind)]                             = all class indices / the one class
    cls.attributes / indices / indices[id] / identifying_attributes              = the `ClassInfo` of the class
    list(link.navigate(inst))                                                    = the link map of that end
    xtuml.navigate_subtype(inst, rel)                                            = `Query.navSubtype` (an exception = stuck)
    getattr(inst, name)                                                          = `World.val`
    dict(), d[k] = v, frozenset(d.items())                                       = an assignment log; items = keys in first-insertion
                                                                                   order with their LAST value
    id_map[k] = dict(), key in id_map[k], id_map[k][key] = inst                  = a two-level dictionary as the set of (k, key)
                                                                                   pairs + the initialised k (another k: KeyError = stuck)
    the counting condition / the null test                                       = `Gen.CheckCond.violates` / `isNull`
                                                                                   (translated from the same statements)
    a call of check_link_integrity                                               = what the model says it returns (`oracle`)
-/
namespace Pyx.CShape
open Pyx.Meta Pyx.Check Pyx.Gen.CheckShape

abbrev Key := List (String × Option Int)

inductive V where
  | none
  | nat (n : Nat)
  | bool (b : Bool)
  | str (s : String)
  | oint (v : Option Int)
  | inst (x : Inst)
  | insts (l : List Inst)
  | model
  | cls (k : Kind)
  | clss (l : List Kind)
  | assoc (i : Nat)
  | assocs (l : List Nat)
  | link (i : Nat) (isSrc : Bool)
  | attrs (l : List (String × Bool))
  | idents (l : List (String × List String))
  | strs (l : List String)
  | strSet (l : List String)
  | emptyDict
  | dict (log : List (String × Option Int))
  | key (k : Key)
  | idmap (inits : List String) (seen : List (String × Key))
  | text

abbrev Locals := List (String × V)

/-- `dict.items()` of an assignment log: keys in first-insertion order, each with its last value -/
def itemsOf (log : List (String × Option Int)) : Key :=
  (log.map (·.1)).eraseDups.map (fun a => (a, (log.reverse.lookup a).getD none))

/-- `str.upper()` on the ASCII letters, over the character list so that it can be evaluated -/
def up (s : String) : String := String.ofList (s.toList.map Char.toUpper)

def fieldOf (w : World) : V → String → Option V
  | .model, f => if f = "associations" then some (.assocs (List.range w.sch.length)) else none
  | .assoc i, f =>
    if f = "rel_id" then some (.str (specAt w.sch i).rel)
    else if f = "source_link" then some (.link i true)
    else if f = "target_link" then some (.link i false)
    else none
  | .cls k, f =>
    match w.classes[k]? with
    | some ci =>
      if f = "indices" then some (.idents ci.idents)
      else if f = "attributes" then some (.attrs ci.attrs)
      else if f = "identifying_attributes" then some (.strs ci.identifying)
      else none
    | none => none
  | _, _ => none

def veq : V → V → Option Bool
  | .none, .none => some true
  | .none, .str _ => some false
  | .str _, .none => some false
  | .str a, .str b => some (a == b)
  | _, _ => none

def evalE (w : World) (calls : String → List V → Option V) (L : Locals) : Expr → Option V
  | .var x => L.lookup x
  | .none => some .none
  | .nat n => some (.nat n)
  | .field x f =>
    match L.lookup x with
    | some v => fieldOf w v f
    | none => none
  | .fieldAt x f k =>
    match (L.lookup x).bind (fun v => fieldOf w v f), L.lookup k with
    | some (.idents l), some (.str s) => (l.lookup s).map V.strs
    | _, _ => none
  | .selectMany m kind =>
    match L.lookup m, L.lookup kind with
    | some .model, some (.cls k) => some (.insts (w.pool k))
    | _, _ => none
  | .poolOf c =>
    match L.lookup c with
    | some (.cls k) => some (.insts (w.pool k))
    | _ => none
  | .fromPool l =>
    match L.lookup l with
    | some (.link i isSrc) => some (.insts (w.pool (if isSrc then (specAt w.sch i).tgtKind else (specAt w.sch i).srcKind)))
    | _ => none
  | .allMetaclasses m =>
    match L.lookup m with
    | some .model => some (.clss (List.range w.classes.length))
    | _ => none
  | .oneMetaclass m kind =>
    match L.lookup m, L.lookup kind with
    | some .model, some (.cls k) => some (.clss [k])
    | _, _ => none
  | .navigateSubtype i r =>
    match L.lookup i, L.lookup r with
    | some (.inst x), some (.str rel) =>
      match Query.navSubtype w.sch w.toState x rel with
      | some (some y) => some (.inst y)
      | some none => some .none
      | none => none
    | _, _ => none
  | .listNavigate l i =>
    match L.lookup l, L.lookup i with
    | some (.link j isSrc), some (.inst x) => some (.insts (if isSrc then (w.links j).src x else (w.links j).tgt x))
    | _, _ => none
  | .getattr i n =>
    match L.lookup i, L.lookup n with
    | some (.inst x), some (.str a) => some (.oint (w.val x a))
    | _, _ => none
  | .newDict => some .emptyDict
  | .frozensetItems d =>
    match L.lookup d with
    | some (.dict log) => some (.key (itemsOf log))
    | some .emptyDict => some (.key [])
    | _ => none
  | .upperSet x f =>
    match (L.lookup x).bind (fun v => fieldOf w v f) with
    | some (.strs l) => some (.strSet (l.map up))
    | _ => none
  | .callOn fn m x f =>
    match L.lookup m, (L.lookup x).bind (fun v => fieldOf w v f) with
    | some vm, some vx => calls fn [vm, vx]
    | _, _ => none
  | .pretty _ => some .text

def evalAlts (w : World) (calls : String → List V → Option V) (L : Locals) (v : V) : List Expr → Option Bool
  | [] => some false
  | e :: rest =>
    match (evalE w calls L e).bind (veq v), evalAlts w calls L v rest with
    | some b, some r => some (b || r)
    | _, _ => none

def evalC (w : World) (calls : String → List V → Option V) (L : Locals) : Cond → Option Bool
  | .truthy x =>
    match L.lookup x with
    | some (.bool b) => some b
    | _ => none
  | .notE e =>
    match evalE w calls L e with
    | some .none => some true
    | some (.inst _) => some false
    | _ => none
  | .isNone x =>
    match L.lookup x with
    | some .none => some true
    | some (.cls _) => some false
    | some (.str _) => some false
    | _ => none
  | .inList x alts =>
    match L.lookup x with
    | some v => evalAlts w calls L v alts
    | none => none
  | .upperNotIn x s =>
    match L.lookup x, L.lookup s with
    | some (.str a), some (.strSet l) => some (!l.contains (up a))
    | _, _ => none
  | .inDictAt key d k =>
    match L.lookup key, L.lookup d, L.lookup k with
    | some (.key ky), some (.idmap inits seen), some (.str s) => if inits.contains s then some (seen.contains (s, ky)) else none
    | _, _, _ => none
  | .linkCond q l =>
    match L.lookup q, L.lookup l with
    | some (.insts qs), some (.link i isSrc) =>
      some (Pyx.Gen.CheckCond.violates (if isSrc then (specAt w.sch i).srcCond else (specAt w.sch i).tgtCond)
        (if isSrc then (specAt w.sch i).srcMany else (specAt w.sch i).tgtMany) qs.length)
    | _, _ => none

inductive Sig where
  | next
  | cont
  | ret (v : V)

/-- what a `for` binds per iteration -/
def rowsOf : V → Option (List (List V))
  | .insts l => some (l.map (fun x => [V.inst x]))
  | .clss l => some (l.map (fun k => [V.cls k]))
  | .assocs l => some (l.map (fun i => [V.assoc i]))
  | .attrs l => some (l.map (fun a => [V.str a.1, V.bool a.2]))
  | .idents l => some (l.map (fun p => [V.str p.1]))
  | .strs l => some (l.map (fun s => [V.str s]))
  | _ => none

def bindRow : List String → List V → Locals → Option Locals
  | [], [], L => some L
  | x :: xs, v :: vs, L => bindRow xs vs ((x, v) :: L)
  | _, _, _ => none

def forLoop (body : List V → Locals → Option (Locals × Sig)) : List (List V) → Locals → Option (Locals × Sig)
  | [], L => some (L, .next)
  | r :: rest, L =>
    match body r L with
    | some (L', .next) => forLoop body rest L'
    | some (L', .cont) => forLoop body rest L'
    | some (L', .ret v) => some (L', .ret v)
    | none => none

mutual
  def iStmt (w : World) (calls : String → List V → Option V) (L : Locals) : Stmt → Option (Locals × Sig)
    | .assign dst e =>
      match evalE w calls L e with
      | some v => some ((dst, v) :: L, .next)
      | none => none
    | .normRel x =>
      match L.lookup x with
      | some (.nat n) => some ((x, .str ("R" ++ toString n)) :: L, .next)
      | some (.str _) => some (L, .next)
      | some .none => some (L, .next)
      | _ => none
    | .incr x =>
      match L.lookup x with
      | some (.nat n) => some ((x, .nat (n + 1)) :: L, .next)
      | _ => none
    | .addTo x e =>
      match L.lookup x, evalE w calls L e with
      | some (.nat n), some (.nat k) => some ((x, .nat (n + k)) :: L, .next)
      | _, _ => none
    | .nullTest dst v ty =>
      match L.lookup v, L.lookup ty with
      | some (.oint o), some (.bool isUid) => some ((dst, .bool (Pyx.Gen.CheckCond.isNull o isUid)) :: L, .next)
      | _, _ => none
    | .dictSet d k e =>
      match L.lookup d, L.lookup k, evalE w calls L e with
      | some .emptyDict, some (.str s), some .emptyDict => some ((d, .idmap [s] []) :: L, .next)
      | some (.idmap inits seen), some (.str s), some .emptyDict => some ((d, .idmap (inits ++ [s]) seen) :: L, .next)
      | some .emptyDict, some (.str s), some (.oint o) => some ((d, .dict [(s, o)]) :: L, .next)
      | some (.dict log), some (.str s), some (.oint o) => some ((d, .dict (log ++ [(s, o)])) :: L, .next)
      | _, _, _ => none
    | .dictSet2 d k1 k2 e =>
      match L.lookup d, L.lookup k1, L.lookup k2, evalE w calls L e with
      | some (.idmap inits seen), some (.str s), some (.key ky), some _ =>
        if inits.contains s then some ((d, .idmap inits ((s, ky) :: seen)) :: L, .next) else none
      | _, _, _, _ => none
    | .log => some (L, .next)
    | .continue_ => some (L, .cont)
    | .ifC c thn els =>
      match evalC w calls L c with
      | some true => iStmts w calls L thn
      | some false => iStmts w calls L els
      | none => none
    | .forIn vars e body =>
      match (evalE w calls L e).bind rowsOf with
      | some rows =>
        forLoop (fun r L' => match bindRow vars r L' with
          | some L'' => iStmts w calls L'' body
          | none => none) rows L
      | none => none
    | .ret x =>
      match L.lookup x with
      | some v => some (L, .ret v)
      | none => none
  def iStmts (w : World) (calls : String → List V → Option V) (L : Locals) : List Stmt → Option (Locals × Sig)
    | [] => some (L, .next)
    | s :: rest =>
      match iStmt w calls L s with
      | some (L', .next) => iStmts w calls L' rest
      | some (L', .cont) => some (L', .cont)
      | some (L', .ret v) => some (L', .ret v)
      | none => none
end

def bindParams : List String → List V → Option Locals
  | [], [] => some []
  | p :: ps, v :: vs => (bindParams ps vs).map (fun L => (p, v) :: L)
  | _, _ => none

def run (w : World) (calls : String → List V → Option V) (f : Fn) (args : List V) : Option V :=
  match bindParams f.params args with
  | some L =>
    match iStmts w calls L f.body with
    | some (_, .ret v) => some v
    | some (_, _) => some .none
    | none => none
  | none => none

/-- what the model says a callee returns -/
def oracle (w : World) (fn : String) (args : List V) : Option V :=
  if fn = "check_link_integrity" then
    (match args with
     | [.model, .link i isSrc] => some (.nat (checkLink w i isSrc))
     | _ => none)
  else none

def interp (w : World) (f : Fn) (args : List V) : Option V := run w (oracle w) f args

/-! ### what a statement leaves alone -/

mutual
  def writes : Stmt → List String
    | .assign d _ | .nullTest d _ _ | .dictSet d _ _ | .dictSet2 d _ _ _ => [d]
    | .normRel x | .incr x | .addTo x _ => [x]
    | .log | .continue_ | .ret _ => []
    | .ifC _ t e => writesL t ++ writesL e
    | .forIn vars _ body => vars ++ writesL body
  def writesL : List Stmt → List String
    | [] => []
    | s :: rest => writes s ++ writesL rest
end

def Keeps (A : List String) (L L' : Locals) : Prop := ∀ x, x ∉ A → L'.lookup x = L.lookup x

theorem Keeps.refl (A : List String) (L : Locals) : Keeps A L L := fun _ _ => rfl

theorem Keeps.trans {A : List String} {L0 L1 L2 : Locals} (f : Keeps A L0 L1) (g : Keeps A L1 L2) : Keeps A L0 L2 :=
  fun x hx => (g x hx).trans (f x hx)

theorem Keeps.mono {A B : List String} {L L' : Locals} (f : Keeps A L L') (h : ∀ x ∈ A, x ∈ B) : Keeps B L L' :=
  fun x hx => f x (fun hA => hx (h x hA))

theorem Keeps.cons {A : List String} {L : Locals} {a : String} (v : V) (h : a ∈ A) : Keeps A L ((a, v) :: L) := by
  intro x hx
  have : (x == a) = false := beq_eq_false_iff_ne.mpr (fun e => hx (e ▸ h))
  simp only [List.lookup, this]

/-- how a look-up of a variable the loop does not write gets out of the loop: cited in `simp (disch := decide +kernel)`, the
    kernel decides `x ∉ writes …` on the generated statement list -/
theorem Keeps.lookup {A : List String} {L L' : Locals} (hk : Keeps A L L') {x : String} (hx : x ∉ A) :
    L'.lookup x = L.lookup x := hk x hx

theorem bindRow_keeps : ∀ (vars : List String) (r : List V) (L L' : Locals), bindRow vars r L = some L' → Keeps vars L L'
  | [], [], L, L', h => by cases h; exact Keeps.refl _ _
  | x :: xs, v :: vs, L, L', h =>
    (Keeps.cons v List.mem_cons_self).trans ((bindRow_keeps xs vs _ _ h).mono fun _ => List.mem_cons_of_mem _)
  | [], _ :: _, _, _, h => by cases h
  | _ :: _, [], _, _, h => by cases h

theorem writesL_append : ∀ (a b : List Stmt), writesL (a ++ b) = writesL a ++ writesL b
  | [], b => rfl
  | s :: a, b => by simp only [List.cons_append, writesL, writesL_append a b, List.append_assoc]

/-! ### running statement lists -/

/-- the statement list was left by falling off its end or by `continue`, not by `return` -/
def Sig.falls : Sig → Prop
  | .ret _ => False
  | _ => True

variable {w : World} {calls : String → List V → Option V}

/-- from `L` the statements run without getting stuck, change only what they write, and stop in locals and a signal
    satisfying `Q` -/
def Runs (w : World) (calls : String → List V → Option V) (L : Locals) (ss : List Stmt) (Q : Locals → Sig → Prop) : Prop :=
  ∃ L' sg, iStmts w calls L ss = some (L', sg) ∧ Keeps (writesL ss) L L' ∧ Q L' sg

variable {L : Locals} {s : Stmt} {rest : List Stmt} {Q : Locals → Sig → Prop}

theorem Runs.nil (h : Q L .next) : Runs w calls L [] Q := ⟨L, .next, rfl, Keeps.refl _ _, h⟩

theorem Runs.step {L' : Locals} (h : iStmt w calls L s = some (L', .next)) (hk : Keeps (writes s) L L')
    (hr : Runs w calls L' rest Q) : Runs w calls L (s :: rest) Q := by
  obtain ⟨L2, sg, h2, k2, hq⟩ := hr
  exact ⟨L2, sg, by simp only [iStmts, h, h2],
    (hk.mono fun _ => List.mem_append_left _).trans (k2.mono fun _ => List.mem_append_right _), hq⟩

theorem Runs.bind {d : String} {v : V} (h : iStmt w calls L s = some ((d, v) :: L, .next))
    (hr : Runs w calls ((d, v) :: L) rest Q) (hd : d ∈ writes s := by exact List.mem_cons_self) :
    Runs w calls L (s :: rest) Q :=
  Runs.step h (Keeps.cons v hd) hr

theorem Runs.skip (h : iStmt w calls L s = some (L, .next)) (hr : Runs w calls L rest Q) : Runs w calls L (s :: rest) Q :=
  Runs.step h (Keeps.refl _ _) hr

theorem Runs.continue_ (hq : Q L .cont) : Runs w calls L (.continue_ :: rest) Q := ⟨L, .cont, rfl, Keeps.refl _ _, hq⟩

theorem Runs.ret {x : String} {v : V} (h : L.lookup x = some v) (hq : Q L (.ret v)) : Runs w calls L (.ret x :: rest) Q :=
  ⟨L, .ret v, by simp only [iStmts, iStmt, h], Keeps.refl _ _, hq⟩

theorem iStmts_append (L : Locals) : ∀ (a b : List Stmt),
    iStmts w calls L (a ++ b) = match iStmts w calls L a with
      | some (L', .next) => iStmts w calls L' b
      | some (L', .cont) => some (L', .cont)
      | some (L', .ret v) => some (L', .ret v)
      | none => none
  | [], b => rfl
  | s :: a, b => by
    simp only [List.cons_append, iStmts]
    split
    · exact iStmts_append _ a b
    · rfl
    · rfl
    · rfl

/-- an `if` whose condition evaluates to `b` is the branch taken, spliced in front of what follows -/
theorem Runs.ifC {c : Cond} {t e : List Stmt} (b : Bool) (h : evalC w calls L c = some b)
    (hr : Runs w calls L ((bif b then t else e) ++ rest) Q) : Runs w calls L (.ifC c t e :: rest) Q := by
  obtain ⟨L2, sg, h2, k2, hq⟩ := hr
  refine ⟨L2, sg, ?_, k2.mono ?_, hq⟩
  · have hb : iStmt w calls L (.ifC c t e) = iStmts w calls L (bif b then t else e) := by
      cases b <;> simp only [iStmt, h, cond]
    rw [iStmts_append] at h2
    simp only [iStmts, hb]
    exact h2
  · intro x hx
    rw [writesL_append, List.mem_append] at hx
    simp only [writesL, writes, List.mem_append]
    cases b
    · exact hx.imp_left Or.inr
    · exact hx.imp_left Or.inl

theorem forLoop_inv {α : Type} {f : α → List V} {body : List V → Locals → Option (Locals × Sig)}
    (Inv : List α → Locals → Prop) :
    ∀ (l done : List α) (L : Locals),
      (∀ a ∈ l, ∀ done L1, Inv done L1 → ∃ L2 sg, body (f a) L1 = some (L2, sg) ∧ sg.falls ∧ Inv (done ++ [a]) L2) →
      Inv done L → ∃ L', forLoop body (l.map f) L = some (L', .next) ∧ Inv (done ++ l) L'
  | [], done, L, _, hi => ⟨L, rfl, by rwa [List.append_nil]⟩
  | a :: l, done, L, hb, hi => by
    obtain ⟨L1, sg, h1, hs, hi1⟩ := hb a List.mem_cons_self done L hi
    obtain ⟨L2, h2, hi2⟩ := forLoop_inv Inv l (done ++ [a]) L1 (fun x hx => hb x (List.mem_cons_of_mem _ hx)) hi1
    refine ⟨L2, ?_, by rwa [List.append_assoc] at hi2⟩
    cases sg with
    | ret v => exact hs.elim
    | next => simp only [List.map_cons, forLoop, h1, h2]
    | cont => simp only [List.map_cons, forLoop, h1, h2]

/-- The rows are `l.map f`; `Inv done` holds of the locals after the rows of `done`; inside the body and after the loop the locals
    agree with those at loop entry on everything the loop does not write. -/
theorem Runs.forIn {α : Type} {f : α → List V} (l : List α) {vars : List String} {e : Expr} {body : List Stmt}
    (Inv : List α → Locals → Prop) (he : (evalE w calls L e).bind rowsOf = some (l.map f)) (h0 : Inv [] L)
    (hbody : ∀ a ∈ l, ∀ done L1, Keeps (writes (.forIn vars e body)) L L1 → Inv done L1 →
      ∃ L2, bindRow vars (f a) L1 = some L2 ∧ Runs w calls L2 body (fun L' sg => sg.falls ∧ Inv (done ++ [a]) L'))
    (hrest : ∀ L', Keeps (writes (.forIn vars e body)) L L' → Inv l L' → Runs w calls L' rest Q) :
    Runs w calls L (.forIn vars e body :: rest) Q := by
  obtain ⟨L', hrun, hk, hi⟩ := forLoop_inv (f := f) (fun done L1 => Keeps (writes (.forIn vars e body)) L L1 ∧ Inv done L1)
    (body := fun r L' => match bindRow vars r L' with
      | some L'' => iStmts w calls L'' body
      | none => none) l [] L
    (by
      intro a ha done L1 ⟨hk, hi⟩
      obtain ⟨L2, hb, L3, sg, hr, hk3, hs, hi3⟩ := hbody a ha done L1 hk hi
      refine ⟨L3, sg, by simp only [hb, hr], hs, hk.trans ?_, hi3⟩
      exact ((bindRow_keeps _ _ _ _ hb).mono fun _ => List.mem_append_left _).trans (hk3.mono fun _ => List.mem_append_right _))
    ⟨Keeps.refl _ _, h0⟩
  exact Runs.step (by simp only [iStmt, he]; exact hrun) hk (hrest L' hk hi)

theorem run_of_runs {f : Fn} {args : List V} {v : V} (hb : bindParams f.params args = some L)
    (hr : Runs w calls L f.body (fun _ sg => sg = .ret v)) : run w calls f args = some v := by
  obtain ⟨L', sg, h, _, rfl⟩ := hr
  simp only [run, hb, h]

/-! ### check_link_integrity -/

theorem violates_gen (cond many : Bool) (n : Nat) : Pyx.Gen.CheckCond.violates cond many n = violates cond many n := by
  unfold Pyx.Gen.CheckCond.violates violates
  cases cond <;> cases many <;> simp

/-- `check_link_integrity`'s counting condition for the instance `x`, at the source or target end of association `i` -/
def linkP (w : World) (i : Nat) (isSrc : Bool) (x : Inst) : Bool :=
  violates (if isSrc then (specAt w.sch i).srcCond else (specAt w.sch i).tgtCond)
    (if isSrc then (specAt w.sch i).srcMany else (specAt w.sch i).tgtMany)
    (if isSrc then (w.links i).src x else (w.links i).tgt x).length

theorem check_link_eq (w : World) (i : Nat) (isSrc : Bool) :
    interp w check_link_integrity [.model, .link i isSrc] = some (.nat (checkLink w i isSrc)) := by
  refine run_of_runs rfl ?_
  refine Runs.bind (by simp only [iStmt, evalE]; rfl) ?_
  refine Runs.forIn (f := fun x => [V.inst x]) (w.pool (if isSrc then (specAt w.sch i).tgtKind else (specAt w.sch i).srcKind))
    (fun done L => L.lookup "res" = some (.nat (done.countP (linkP w i isSrc))))
    (by simp only [evalE, List.lookup, String.reduceBEq, rowsOf, Option.bind_some]) rfl ?_ ?_
  · intro x _ done L hk hres
    refine ⟨_, rfl, ?_⟩
    refine Runs.bind (by simp (disch := decide +kernel) only [iStmt, evalE, List.lookup, String.reduceBEq, hk.lookup]; rfl) ?_
    refine Runs.ifC (linkP w i isSrc x)
      (by simp (disch := decide +kernel) only [evalC, List.lookup, String.reduceBEq, hk.lookup, violates_gen]; rfl) ?_
    cases hp : linkP w i isSrc x
    · exact Runs.nil ⟨trivial, by simp [List.lookup, hres, hp]⟩
    · refine Runs.bind (by simp only [iStmt, List.lookup, String.reduceBEq, hres]; rfl) (Runs.skip rfl (Runs.nil ⟨trivial, ?_⟩))
      simp [List.lookup, hp]
  · intro L _ hres
    refine Runs.ret hres ?_
    cases isSrc <;> rfl

/-! ### check_subtype_integrity -/

theorem check_subtype_eq (w : World) (k : Kind) (rel : String)
    (hnav : ∀ x ∈ w.pool k, Query.navSubtype w.sch w.toState x rel ≠ none) :
    interp w check_subtype_integrity [.model, .cls k, .str rel] = some (.nat (checkSubtype w k rel)) := by
  refine run_of_runs rfl ?_
  refine Runs.skip (by simp only [iStmt, List.lookup, String.reduceBEq]) ?_
  refine Runs.bind (by simp only [iStmt, evalE]; rfl) ?_
  refine Runs.forIn (f := fun x => [V.inst x]) (w.pool k)
    (fun done L => L.lookup "res" = some (.nat (done.countP fun x =>
      match Query.navSubtype w.sch w.toState x rel with
      | some (some _) => false
      | _ => true)))
    (by simp only [evalE, List.lookup, String.reduceBEq, rowsOf, Option.bind_some]) rfl ?_ ?_
  · intro x hx done L hk hres
    have hr : L.lookup "rel_id" = some (.str rel) := by
      simp (disch := decide +kernel) only [hk.lookup, List.lookup, String.reduceBEq]
    refine ⟨_, rfl, ?_⟩
    cases hn : Query.navSubtype w.sch w.toState x rel with
    | none => exact absurd hn (hnav x hx)
    | some o =>
      cases o with
      | some y =>
        refine Runs.ifC false (by simp only [evalC, evalE, List.lookup, String.reduceBEq, hr, hn]) (Runs.nil ⟨trivial, ?_⟩)
        simp [List.lookup, hres, hn]
      | none =>
        refine Runs.ifC true (by simp only [evalC, evalE, List.lookup, String.reduceBEq, hr, hn]) ?_
        refine Runs.bind (by simp only [iStmt, List.lookup, String.reduceBEq, hres]; rfl) (Runs.skip rfl (Runs.nil ⟨trivial, ?_⟩))
        simp [List.lookup, hn]
  · intro L _ hres
    exact Runs.ret hres rfl

/-! ### check_association_integrity -/

def relV : Option String → V
  | some r => .str r
  | none => .none

theorem check_association_eq (w : World) (rel : Option String) :
    interp w check_association_integrity [.model, relV rel] = some (.nat (checkAssoc w rel)) := by
  refine run_of_runs rfl ?_
  refine Runs.skip (by cases rel <;> simp only [iStmt, relV, List.lookup, String.reduceBEq]) ?_
  refine Runs.bind (by simp only [iStmt, evalE]; rfl) ?_
  -- the invariant is the partial sum of the closed form `checkAssoc_eq`
  refine Runs.forIn (f := fun j => [V.assoc j]) (List.range w.sch.length)
    (fun done L => L.lookup "res" = some (.nat (done.map fun j =>
      if rel = none ∨ rel = some (specAt w.sch j).rel then checkLink w j true + checkLink w j false else 0).sum))
    (by simp only [evalE, fieldOf, List.lookup, String.reduceBEq, ↓reduceIte, rowsOf, Option.bind_some]) rfl ?_ ?_
  · intro j _ done L hk hres
    have hr : L.lookup "rel_id" = some (relV rel) := by
      simp (disch := decide +kernel) only [hk.lookup, List.lookup, String.reduceBEq]
    have hm : L.lookup "m" = some .model := by
      simp (disch := decide +kernel) only [hk.lookup, List.lookup, String.reduceBEq]
    refine ⟨_, rfl, ?_⟩
    refine Runs.ifC (decide (rel = none ∨ rel = some (specAt w.sch j).rel)) ?_ ?_
    · cases rel <;> simp [evalC, evalAlts, evalE, fieldOf, veq, relV, List.lookup, hr, Bool.beq_eq_decide_eq]
    · by_cases h : rel = none ∨ rel = some (specAt w.sch j).rel
      · simp only [h, decide_true, cond_true]
        refine Runs.bind (by simp only [iStmt, evalE, fieldOf, oracle, List.lookup, String.reduceBEq, String.reduceEq, ↓reduceIte,
          hm, hres, Option.bind_some]; rfl) ?_
        refine Runs.bind (by simp only [iStmt, evalE, fieldOf, oracle, List.lookup, String.reduceBEq, String.reduceEq, ↓reduceIte,
          hm, Option.bind_some]; rfl) (Runs.nil ⟨trivial, ?_⟩)
        simp [List.lookup, h, Nat.add_assoc]
      · simp only [h, decide_false, cond_false]
        exact Runs.nil ⟨trivial, by simp [List.lookup, hres, h]⟩
  · intro L _ hres
    exact Runs.ret hres (by rw [checkAssoc_eq])

/-! ### check_uniqueness_constraint -/

theorem isNull_gen (v : Option Int) (isUid : Bool) : Pyx.Gen.CheckCond.isNull v isUid = isNull v isUid := by
  unfold Pyx.Gen.CheckCond.isNull isNull
  cases v with
  | none => simp
  | some x =>
    cases isUid <;> simp
    by_cases hx : x = 0 <;> simp [hx]

/-- the value of `kwargs` after the assignments of `log`: `dict()` until the first one -/
def kwV : List (String × Option Int) → V
  | [] => .emptyDict
  | log => .dict log

theorem kwV_snoc (log : List (String × Option Int)) (p : String × Option Int) : kwV (log ++ [p]) = .dict (log ++ [p]) := by
  cases log <;> rfl

/-- the value of `id_map` once the identifiers `inits` have their (empty) dictionary and the keys `seen` are stored -/
def imV (inits : List String) (seen : List (String × Key)) : V :=
  match inits with
  | [] => .emptyDict
  | _ => .idmap inits seen

theorem imV_snoc (inits : List String) (a : String) (seen : List (String × Key)) :
    imV (inits ++ [a]) seen = .idmap (inits ++ [a]) seen := by
  cases inits <;> rfl

theorem imV_of_mem {inits : List String} {a : String} (h : a ∈ inits) (seen : List (String × Key)) :
    imV inits seen = .idmap inits seen := by
  cases inits with
  | nil => cases h
  | cons _ _ => rfl

def poolStep (ci : ClassInfo) (val : Inst → String → Option Int) (s : Nat × List (String × Key)) (x : Inst) :
    Nat × List (String × Key) :=
  (s.1 + nullCount ci val x + (uniqStep ci val x s.2).1, (uniqStep ci val x s.2).2)

theorem poolStep_fold (ci : ClassInfo) (val : Inst → String → Option Int) : ∀ (pool : List Inst) (s : Nat × List (String × Key)),
    (pool.foldl (poolStep ci val) s).1 = s.1 + uniqLoop ci val pool s.2
  | [], s => rfl
  | x :: xs, s => by
    simp only [List.foldl_cons, poolStep_fold ci val xs, poolStep, uniqLoop]
    omega

theorem lookup_map_self {β : Type} (f : String → β) (l : List String) (a : String) (h : a ∈ l) :
    (l.map (fun a => (a, f a))).lookup a = some (f a) := by
  cases hl : (l.map (fun a => (a, f a))).lookup a with
  | none => exact absurd (by simpa using h) ((lookup_none_iff _ _).mp hl)
  | some y =>
    obtain ⟨b, _, hb⟩ := List.mem_map.mp (mem_of_lookup hl)
    cases hb
    rfl

theorem itemsOf_map (val : Inst → String → Option Int) (x : Inst) (attrs : List String) :
    itemsOf (attrs.map (fun a => (a, val x a))) = identKey val x attrs := by
  unfold itemsOf identKey
  simp only [List.map_map, Function.comp_def, List.map_id']
  apply List.map_congr_left
  intro a ha
  have hm : a ∈ attrs.reverse := List.mem_reverse.mpr (List.mem_eraseDups.mp ha)
  rw [← List.map_reverse, lookup_map_self (val x) attrs.reverse a hm]
  rfl

/-- identifier names are distinct (they are dict keys), and a declared attribute is identifying under `upper()` — as the source
    tests — exactly when it is identifying as spelled — as the model tests -/
def UniqOK (ci : ClassInfo) : Prop :=
  (ci.idents.map (·.1)).Nodup ∧ ∀ a ∈ ci.attrs, (ci.identifying.map up).contains (up a.1) = ci.identifying.contains a.1

theorem countP_filter_concat {α : Type} (P N : α → Bool) (l : List α) (a : α) :
    ((l ++ [a]).filter P).countP N = (l.filter P).countP N + if P a && N a then 1 else 0 := by
  rw [List.filter_append, List.countP_append]
  cases hP : P a <;> cases hN : N a <;> simp [hP, hN]

theorem uniq_classes (w : World) (hok : ∀ ci ∈ w.classes, UniqOK ci) (ks : List Kind) (hks : ∀ k ∈ ks, k < w.classes.length)
    (L : Locals) (hL : L.lookup "metaclasses" = some (.clss ks)) (n : Nat) (hn : (ks.map (checkUniqClass w)).sum = n) :
    Runs w (oracle w) L check_uniqueness_constraint.body.tail (fun _ sg => sg = .ret (.nat n)) := by
  refine Runs.bind (by simp only [iStmt, evalE]; rfl) ?_
  refine Runs.forIn (f := fun k => [V.cls k]) ks (fun done L => L.lookup "res" = some (.nat (done.map (checkUniqClass w)).sum))
    (by simp only [evalE, List.lookup, String.reduceBEq, hL, rowsOf, Option.bind_some]) rfl ?_ ?_
  · -- one class
    intro k hkm done La _ hresa
    have hlt := hks k hkm
    obtain ⟨hnd, hcase⟩ := hok _ (List.getElem_mem hlt)
    have hci : w.classes[k]? = some w.classes[k] := List.getElem?_eq_getElem hlt
    generalize w.classes[k] = ci at hnd hcase hci
    refine ⟨_, rfl, ?_⟩
    refine Runs.bind (by simp only [iStmt, evalE]; rfl) ?_
    -- every identifier gets its dictionary
    refine Runs.forIn (f := fun p => [V.str p.1]) ci.idents (fun done L => L.lookup "id_map" = some (imV (done.map (·.1)) []))
      (by simp only [evalE, fieldOf, hci, List.lookup, String.reduceBEq, ↓reduceIte, rowsOf, Option.bind_some]) rfl ?_ ?_
    · intro p _ done Li _ him
      refine ⟨_, rfl, ?_⟩
      refine Runs.bind (v := .idmap (done.map (·.1) ++ [p.1]) []) ?_ (Runs.nil ⟨trivial, ?_⟩)
      · cases hd : done.map (·.1) <;> rw [hd] at him <;>
          simp only [iStmt, evalE, List.lookup, String.reduceBEq, him, imV, List.nil_append]
      · simp only [List.lookup, String.reduceBEq, List.map_append, List.map_cons, List.map_nil, imV_snoc]
    intro Lc hkc himc
    refine Runs.bind (by simp (disch := decide +kernel) only [iStmt, evalE, fieldOf, List.lookup, String.reduceBEq, hkc.lookup, hci,
      String.reduceEq, ↓reduceIte, Option.bind_some]; rfl) ?_
    -- the instances of the class
    refine Runs.forIn (f := fun x => [V.inst x]) (w.pool k)
      (fun dn L => L.lookup "res" = some (.nat (dn.foldl (poolStep ci w.val) ((done.map (checkUniqClass w)).sum, [])).1) ∧
        L.lookup "id_map" = some (imV (ci.idents.map (·.1)) (dn.foldl (poolStep ci w.val) ((done.map (checkUniqClass w)).sum, [])).2))
      (by simp (disch := decide +kernel) only [evalE, List.lookup, String.reduceBEq, hkc.lookup, rowsOf, Option.bind_some])
      ⟨by simp (disch := decide +kernel) only [List.lookup, String.reduceBEq, hkc.lookup, hresa]; rfl,
       by simp only [List.lookup, String.reduceBEq]; exact himc⟩ ?_ ?_
    · -- one instance: `S` is the state (count, keys stored) before it
      intro x _ dn Le hke ⟨hrese, hime⟩
      generalize hS : dn.foldl (poolStep ci w.val) ((done.map (checkUniqClass w)).sum, []) = S at hrese hime
      refine ⟨_, rfl, ?_⟩
      -- the declared attributes: null identifying values
      refine Runs.forIn (f := fun a => [V.str a.1, V.bool a.2]) ci.attrs
        (fun da L => L.lookup "res" = some (.nat (S.1 +
          (da.filter fun a => ci.identifying.contains a.1).countP fun a => isNull (w.val x a.1) a.2)))
        (by simp (disch := decide +kernel) only [evalE, fieldOf, hci, List.lookup, String.reduceBEq, String.reduceEq, ↓reduceIte,
          hke.lookup, hkc.lookup, rowsOf, Option.bind_some])
        (by simp only [List.lookup, String.reduceBEq]; exact hrese) ?_ ?_
      · intro a ha da Lg hkg hresg
        refine ⟨_, rfl, ?_⟩
        refine Runs.ifC (!ci.identifying.contains a.1)
          (by simp (disch := decide +kernel) only [evalC, List.lookup, String.reduceBEq, hkg.lookup, hke.lookup, hcase a ha]) ?_
        cases hP : ci.identifying.contains a.1
        · refine Runs.continue_ ⟨trivial, ?_⟩
          simp only [List.lookup, String.reduceBEq, hresg, countP_filter_concat, hP, Bool.false_and, Bool.false_eq_true, ↓reduceIte, Nat.add_zero]
        · refine Runs.bind (by simp (disch := decide +kernel) only [iStmt, evalE, List.lookup, String.reduceBEq, hkg.lookup]; rfl) ?_
          refine Runs.bind (by simp only [iStmt, List.lookup, String.reduceBEq, isNull_gen]; rfl) ?_
          refine Runs.ifC (isNull (w.val x a.1) a.2) (by simp only [evalC, List.lookup, String.reduceBEq]) ?_
          cases hN : isNull (w.val x a.1) a.2
          · refine Runs.nil ⟨trivial, ?_⟩
            simp only [List.lookup, String.reduceBEq, hresg, countP_filter_concat, hP, hN, Bool.and_false, Bool.false_eq_true, ↓reduceIte, Nat.add_zero]
          · refine Runs.bind (by simp only [iStmt, List.lookup, String.reduceBEq, hresg]; rfl) (Runs.skip rfl (Runs.nil ⟨trivial, ?_⟩))
            simp only [List.lookup, String.reduceBEq, countP_filter_concat, hP, hN, Bool.and_self, ↓reduceIte, Nat.add_assoc]
      intro Lh hkh hresh
      have himh : Lh.lookup "id_map" = some (imV (ci.idents.map (·.1)) S.2) := by
        simp (disch := decide +kernel) only [hkh.lookup, List.lookup, String.reduceBEq, hime]
      -- the identifiers: repeated keys
      refine Runs.forIn (f := fun p => [V.str p.1]) ci.idents
        (fun di L => L.lookup "res" = some (.nat (S.1 + nullCount ci w.val x + (di.foldl (uStep w.val x) (0, S.2)).1)) ∧
          L.lookup "id_map" = some (imV (ci.idents.map (·.1)) (di.foldl (uStep w.val x) (0, S.2)).2))
        (by simp (disch := decide +kernel) only [evalE, fieldOf, hci, ↓reduceIte, hkh.lookup, hke.lookup, hkc.lookup, List.lookup,
          String.reduceBEq, rowsOf, Option.bind_some])
        ⟨hresh, himh⟩ ?_ ?_
      · -- one identifier: `T` is the state (repeats counted, keys stored) before it
        intro idn hidn di Lj hkj ⟨hresj, himj⟩
        generalize hT : di.foldl (uStep w.val x) (0, S.2) = T at hresj himj
        have hin : idn.1 ∈ ci.idents.map (·.1) := List.mem_map_of_mem hidn
        rw [imV_of_mem hin] at himj
        refine ⟨_, rfl, ?_⟩
        refine Runs.bind (by simp only [iStmt, evalE]; rfl) ?_
        -- its attributes: the keyword dictionary
        refine Runs.forIn (f := fun a => [V.str a]) idn.2
          (fun da L => L.lookup "kwargs" = some (kwV (da.map fun a => (a, w.val x a))))
          (by simp (disch := decide +kernel) only [evalE, fieldOf, hci, List.lookup, String.reduceBEq, ↓reduceIte, hkj.lookup,
            hkh.lookup, hke.lookup, hkc.lookup, Option.bind_some, lookup_of_mem hnd hidn, Option.map_some, rowsOf])
          (by simp only [List.lookup, String.reduceBEq]; rfl) ?_ ?_
        · intro a _ da Lm hkm hkw
          refine ⟨_, rfl, ?_⟩
          refine Runs.bind (v := .dict (da.map (fun a => (a, w.val x a)) ++ [(a, w.val x a)])) ?_ (Runs.nil ⟨trivial, ?_⟩)
          · cases hd : da.map (fun a => (a, w.val x a)) <;> rw [hd] at hkw <;>
              simp (disch := decide +kernel) only [iStmt, evalE, List.lookup, String.reduceBEq, hkw, hkm.lookup, hkj.lookup, hkh.lookup,
                kwV, List.nil_append]
          · simp only [List.lookup, String.reduceBEq, List.map_append, List.map_cons, List.map_nil, kwV_snoc]
        intro Ln hkn hkwn
        refine Runs.bind (v := .key (identKey w.val x idn.2)) ?_ ?_
        · rw [← itemsOf_map]
          cases hd : idn.2.map (fun a => (a, w.val x a)) <;> rw [hd] at hkwn <;> simp only [iStmt, evalE, hkwn, kwV] <;> rfl
        have hc : (ci.idents.map (·.1)).contains idn.1 = true := List.contains_iff_mem.mpr hin
        refine Runs.ifC (T.2.contains (idn.1, identKey w.val x idn.2))
          (by simp (disch := decide +kernel) only [evalC, List.lookup, String.reduceBEq, hkn.lookup, himj, hc, ↓reduceIte]) ?_
        cases hs : T.2.contains (idn.1, identKey w.val x idn.2)
        · refine Runs.bind (by simp (disch := decide +kernel) only [iStmt, evalE, List.lookup, String.reduceBEq, hkn.lookup, hkj.lookup,
            hkh.lookup, himj, hc, ↓reduceIte]; rfl) (Runs.nil ⟨trivial, ?_⟩)
          simp (disch := decide +kernel) only [List.foldl_append, List.foldl_cons, List.foldl_nil, hT, uStep, hs, Bool.false_eq_true,
            ↓reduceIte, List.lookup, String.reduceBEq, hkn.lookup, hresj, imV_of_mem hin, and_self]
        · refine Runs.bind (by simp (disch := decide +kernel) only [iStmt, List.lookup, String.reduceBEq, hkn.lookup, hresj]; rfl) ?_
          refine Runs.bind (by simp only [iStmt, evalE]; rfl) (Runs.skip rfl ?_)
          refine Runs.bind (by simp (disch := decide +kernel) only [iStmt, evalE, List.lookup, String.reduceBEq, hkn.lookup, hkj.lookup,
            hkh.lookup, himj, hc, ↓reduceIte]; rfl) (Runs.nil ⟨trivial, ?_⟩)
          simp only [List.foldl_append, List.foldl_cons, List.foldl_nil, hT, uStep, hs, ↓reduceIte,
            List.lookup, String.reduceBEq, imV_of_mem hin, Nat.add_assoc, and_self]
      · intro Lp _ hp
        refine Runs.nil ⟨trivial, ?_⟩
        -- `uniqStep_eq`: the model's step for one instance is the `uStep` fold the identifier loop's invariant speaks of
        simpa only [List.foldl_append, List.foldl_cons, List.foldl_nil, poolStep, uniqStep_eq, hS] using hp
    · intro Lq _ hq
      refine Runs.nil ⟨trivial, ?_⟩
      rw [hq.1, poolStep_fold]
      simp only [List.map_append, List.map_cons, List.map_nil, List.sum_append, List.sum_cons, List.sum_nil, Nat.add_zero,
        checkUniqClass, hci]
  · intro L' _ hres
    exact Runs.ret hres (by rw [hn])

def kindV : Option Kind → V
  | some k => .cls k
  | none => .none

theorem check_uniqueness_eq (w : World) (kind : Option Kind) (hk : ∀ k, kind = some k → k < w.classes.length)
    (hok : ∀ ci ∈ w.classes, UniqOK ci) :
    interp w check_uniqueness_constraint [.model, kindV kind] = some (.nat (checkUniq w kind)) := by
  refine run_of_runs rfl (Runs.ifC kind.isNone (by cases kind <;> simp only [evalC, kindV, List.lookup, String.reduceBEq] <;> rfl) ?_)
  cases kind with
  | none =>
    refine Runs.bind (by simp only [iStmt, evalE, List.lookup, String.reduceBEq]; rfl) ?_
    exact uniq_classes w hok (List.range w.classes.length) (fun k hk => List.mem_range.mp hk) _
      (by simp only [List.lookup, String.reduceBEq]) _ rfl
  | some k =>
    refine Runs.bind (by simp only [iStmt, evalE, kindV, List.lookup, String.reduceBEq]; rfl) ?_
    exact uniq_classes w hok [k] (fun j hj => hk j (by rw [List.mem_singleton.mp hj])) _
      (by simp only [List.lookup, String.reduceBEq]) _ (Nat.add_zero _)

end Pyx.CShape
