import PyxModel.LoadApi
import Proofs.LoadJoin
import Proofs.Lib.Lookup

/-! C03, the API route, one `MetaClass.new` at a time: the join after one more row, the relate loop of one link, the
    batch relate over the links of the new row's class. -/

namespace Pyx.Load

theorem enumFrom_append {α : Type} (n : Nat) (l1 l2 : List α) :
    enumFrom n (l1 ++ l2) = enumFrom n l1 ++ enumFrom (n + l1.length) l2 := by
  simp only [enumFrom_eq_zipIdx, List.zipIdx_append, List.map_append]

theorem selectIdx_append {α : Type} (n : Nat) (l1 l2 : List α) (c : α → Bool) :
    selectIdx n (l1 ++ l2) c = selectIdx n l1 c ++ selectIdx (n + l1.length) l2 c := by
  unfold selectIdx
  rw [enumFrom_append, List.filterMap_append]

theorem selectIdx_append_singleton {α : Type} (n : Nat) (l : List α) (x : α) (c : α → Bool) :
    selectIdx n (l ++ [x]) c = selectIdx n l c ++ (if c x then [n + l.length] else []) := by
  rw [selectIdx_append]
  by_cases h : c x <;> simp [selectIdx, enumFrom, h]

theorem enumFrom_map {α β : Type} (n : Nat) (l : List α) (f : α → β) :
    enumFrom n (l.map f) = (enumFrom n l).map (fun p => (p.1, f p.2)) := by
  simp only [enumFrom_eq_zipIdx, List.zipIdx_map, List.map_map]
  rfl

theorem selectIdx_map {α β : Type} (n : Nat) (l : List α) (f : α → β) (c : β → Bool) :
    selectIdx n (l.map f) c = selectIdx n l (fun x => c (f x)) := by
  unfold selectIdx
  rw [enumFrom_map, List.filterMap_map]
  rfl

theorem range_filter_eq_selectIdx {α : Type} (l : List α) (p : α → Bool) :
    (List.range l.length).filter (fun j => (l[j]?.map p).getD false) = selectIdx 0 l p := by
  -- generalised to `range' n`, the index shifted by `n`, so that the induction passes the tail
  have key : ∀ (n : Nat) (l : List α),
      (List.range' n l.length).filter (fun j => (l[j - n]?.map p).getD false) = selectIdx n l p := by
    intro n l
    induction l generalizing n with
    | nil => simp [selectIdx, enumFrom]
    | cons x xs ih =>
      simp only [List.length_cons, List.range'_succ, selectIdx, enumFrom, List.filter_cons, List.filterMap_cons,
        Nat.sub_self, List.getElem?_cons_zero]
      have hrest : (List.range' (n + 1) xs.length).filter (fun j => ((x :: xs)[j - n]?.map p).getD false)
          = (List.range' (n + 1) xs.length).filter (fun j => (xs[j - (n + 1)]?.map p).getD false) := by
        apply List.filter_congr
        intro j hj
        have hj' := (List.mem_range'_1.mp hj).1
        have e : j - n = (j - (n + 1)) + 1 := by omega
        rw [e, List.getElem?_cons_succ]
      rw [hrest, ih (n + 1)]
      by_cases hx : p x <;> simp [hx, selectIdx]
  have := key 0 l
  simpa [List.range_eq_range'] using this

theorem get_eq_lookup_getD (r : Row) (x : String) : Row.get r x = (r.lookup x).getD .none := by
  unfold Row.get
  cases r.lookup x <;> rfl

theorem get_stripRow (refs : List String) (r : Row) (x : String) (h : x ∉ refs) :
    Row.get (stripRow refs r) x = Row.get r x := by
  have hx : (!refs.contains x) = true := by simpa using h
  rw [get_eq_lookup_getD, get_eq_lookup_getD, stripRow, lookup_filter_fst r (fun k => !refs.contains k), if_pos hx]

theorem any_congr_mem {α : Type} {l : List α} {f g : α → Bool} (h : ∀ x ∈ l, f x = g x) : l.any f = l.any g := by
  rw [Bool.eq_iff_iff, List.any_eq_true, List.any_eq_true]
  exact exists_congr fun x => and_congr_right fun hx => by rw [h x hx]

theorem updateAt_eq_modify {α : Type} (l : List α) (n : Nat) (f : α → α) : updateAt l n f = l.modify n f := by
  induction l generalizing n with
  | nil => simp [updateAt]
  | cons x xs ih => cases n <;> simp [updateAt, ih]

def setLinks (m : Model) (n : Nat) (L : Links) : Model :=
  { m with assocs := updateAt m.assocs n (fun p => (p.1, L)) }

theorem setLinks_fst (m : Model) (n : Nat) (L : Links) : (setLinks m n L).assocs.map (·.1) = m.assocs.map (·.1) := by
  show (updateAt m.assocs n _).map _ = _
  rw [updateAt_eq_modify]
  apply List.ext_getElem?
  intro k
  rw [List.getElem?_map, List.getElem?_map, List.getElem?_modify]
  cases m.assocs[k]? with
  | none => rfl
  | some p => by_cases h : n = k <;> simp [h]

theorem setLinks_get {m : Model} {n : Nat} {a : AssocStmt} {L : Links} (hm : m.assocs[n]? = some (a, L)) (L' : Links) :
    (setLinks m n L').assocs[n]? = some (a, L') := by
  show (updateAt m.assocs n _)[n]? = _
  rw [updateAt_eq_modify, List.getElem?_modify_eq, hm]
  rfl

theorem setLinks_get_ne (m : Model) {n k : Nat} (L : Links) (h : n ≠ k) : (setLinks m n L).assocs[k]? = m.assocs[k]? := by
  show (updateAt m.assocs n _)[k]? = _
  rw [updateAt_eq_modify, List.getElem?_modify_ne _ _ h]

theorem setLinks_setLinks (m : Model) (n : Nat) (L L' : Links) : setLinks (setLinks m n L) n L' = setLinks m n L' := by
  show ({ m with assocs := updateAt (updateAt m.assocs n _) n _ } : Model) = _
  rw [updateAt_eq_modify, updateAt_eq_modify, List.modify_modify_eq]
  simp only [setLinks, updateAt_eq_modify]
  rfl

theorem setLinks_self {m : Model} {n : Nat} {a : AssocStmt} {L : Links} (hm : m.assocs[n]? = some (a, L)) :
    setLinks m n L = m := by
  have : updateAt m.assocs n (fun p => (p.1, L)) = m.assocs := by
    rw [updateAt_eq_modify]
    apply List.ext_getElem?
    intro k
    rw [List.getElem?_modify]
    by_cases h : n = k
    · subst h; simp [hm]
    · cases m.assocs[k]? <;> simp [h]
  simp only [setLinks, this]

theorem setLinks_append (m : Model) (done rest : List (AssocStmt × Links)) (a : AssocStmt) (L L' : Links)
    (hm : m.assocs = done ++ (a, L) :: rest) : (setLinks m done.length L').assocs = done ++ (a, L') :: rest := by
  show updateAt m.assocs _ _ = _
  rw [hm]
  clear hm
  induction done with
  | nil => rfl
  | cons y ys ih => simp [updateAt, ih]

/-- the links of one association after the new referring row `i` has been related to the rows `hs` -/
def relatedTo (L : Links) (i : Nat) (hs : List Nat) : Links :=
  ⟨fun z => if z ∈ hs then L.src z ++ [i] else L.src z, fun z => if z = i then L.tgt i ++ hs else L.tgt z⟩

theorem relatedTo_nil (L : Links) (i : Nat) : relatedTo L i [] = L := by
  apply Links.ext'
  · intro z; simp [relatedTo]
  · intro z; by_cases hz : z = i <;> simp [relatedTo, hz]

theorem nestedJoin_tgt_out (a : AssocStmt) (S T : List Row) : (nestedJoin a S T).tgt S.length = [] :=
  nestedJoin_tgt_none (by simp)

theorem nestedJoin_snoc_src (a : AssocStmt) (S T : List Row) (s : Row) :
    nestedJoin a (S ++ [s]) T = relatedTo (nestedJoin a S T) S.length (selectIdx 0 T (fun t => matchesB a s t)) := by
  apply Links.ext'
  · intro j
    simp only [relatedTo]
    cases hj : T[j]? with
    | none =>
      have : j ∉ selectIdx 0 T (fun t => matchesB a s t) := fun hm => by
        obtain ⟨x, hx, _⟩ := (mem_selectIdx_zero _ _ j).mp hm
        rw [hj] at hx
        cases hx
      rw [nestedJoin_src_none hj, nestedJoin_src_none hj, if_neg this]
    | some t =>
      have hmem : j ∈ selectIdx 0 T (fun t => matchesB a s t) ↔ matchesB a s t = true := by
        simp [mem_selectIdx_zero, hj]
      rw [nestedJoin_src_some hj, nestedJoin_src_some hj, selectIdx_append_singleton]
      by_cases hm : matchesB a s t <;> simp [hm, hmem]
  · intro z
    simp only [relatedTo]
    by_cases hz : z = S.length
    · subst hz
      rw [if_pos rfl, nestedJoin_tgt_out, nestedJoin_tgt_some (s := s) (by simp), List.nil_append]
    · rw [if_neg hz]
      by_cases hlt : z < S.length
      · have hs : S[z]? = some S[z] := List.getElem?_eq_getElem hlt
        rw [nestedJoin_tgt_some hs, nestedJoin_tgt_some (by rw [List.getElem?_append_left hlt]; exact hs)]
      · rw [nestedJoin_tgt_none (List.getElem?_eq_none_iff.mpr (by simp; omega)),
          nestedJoin_tgt_none (List.getElem?_eq_none_iff.mpr (by omega))]

theorem nestedJoin_snoc_tgt_nomatch (a : AssocStmt) (S T : List Row) (t : Row)
    (h : ∀ s ∈ S, matchesB a s t = false) : nestedJoin a S (T ++ [t]) = nestedJoin a S T := by
  apply Links.ext'
  · intro j
    by_cases hlt : j < T.length
    · have ht : T[j]? = some T[j] := List.getElem?_eq_getElem hlt
      rw [nestedJoin_src_some ht, nestedJoin_src_some (by rw [List.getElem?_append_left hlt]; exact ht)]
    · have hT : T[j]? = none := List.getElem?_eq_none_iff.mpr (by omega)
      rw [nestedJoin_src_none hT]
      by_cases hj : j = T.length
      · subst hj
        rw [nestedJoin_src_some (t := t) (by simp), selectIdx_congr 0 S _ (fun _ => false) h, selectIdx_false]
      · exact nestedJoin_src_none (List.getElem?_eq_none_iff.mpr (by simp; omega))
  · intro i
    cases hs : S[i]? with
    | none => rw [nestedJoin_tgt_none hs, nestedJoin_tgt_none hs]
    | some s =>
      rw [nestedJoin_tgt_some hs, nestedJoin_tgt_some hs, selectIdx_append_singleton,
        h s (List.mem_of_getElem? hs)]
      simp

theorem nestedJoin_nil_src (a : AssocStmt) (T : List Row) : nestedJoin a [] T = Links.empty := by
  apply Links.ext'
  · intro j
    cases hj : T[j]? with
    | none => rw [nestedJoin_src_none hj]; rfl
    | some t => rw [nestedJoin_src_some hj]; rfl
  · intro z
    exact nestedJoin_tgt_none rfl

theorem connectChecked_fresh (m : Nat → List Nat) (many : Bool) (x y : Nat) (hy : y ∉ m x)
    (hc : many = false → m x = []) :
    connectChecked m many x y = some (fun z => if z = x then m x ++ [y] else m z) := by
  unfold connectChecked
  simp only [hy, if_false]
  by_cases hm : many = false
  · simp [hc hm]
  · simp [hm]

/-- the association found for the new instance's link is the association itself, in the right orientation
    (what `_find_link` must answer for `relate(referred, referring, rel, source phrase)`) -/
def ResolvesAt (as : List AssocStmt) (n : Nat) (a : AssocStmt) : Prop :=
  findLink as a.tgtKind a.srcKind a.rel a.srcPhrase = some (n, false)

/-- the referred rows `hs` can be related to the new referring row `i` one after the other: none of them is linked
    with `i` yet, and the cardinality checks of `Link.connect` pass for each -/
structure Fresh (a : AssocStmt) (L : Links) (i : Nat) (hs : List Nat) : Prop where
  nodup : hs.Nodup
  each : ∀ j ∈ hs, i ∉ L.src j ∧ (a.srcMany = false → L.src j = []) ∧ j ∉ L.tgt i
  card : a.tgtMany = false → hs ≠ [] → L.tgt i = [] ∧ hs.length ≤ 1

/-- one `relate(referred j, new i, rel, source phrase)` of the loop: it succeeds, the rows still to come stay fresh, and
    relating them afterwards gives what relating all of them gives -/
theorem relate_fresh {m : Model} {n : Nat} {a : AssocStmt} {L : Links} {i j : Nat} {js : List Nat}
    (hm : m.assocs[n]? = some (a, L)) (hres : ResolvesAt (m.assocs.map (·.1)) n a) (hf : Fresh a L i (j :: js)) :
    ∃ L1, relate m a.tgtKind j a.srcKind i a.rel a.srcPhrase = (setLinks m n L1, .ok) ∧ Fresh a L1 i js ∧
      relatedTo L1 i js = relatedTo L i (j :: js) ∧ ∀ u, u ≠ i → L1.tgt u = L.tgt u := by
  obtain ⟨hjn, hnd⟩ := List.nodup_cons.mp hf.nodup
  obtain ⟨hj1, hj2, hj3⟩ := hf.each j List.mem_cons_self
  have hc1 := connectChecked_fresh L.src a.srcMany j i hj1 hj2
  have hc2 := connectChecked_fresh L.tgt a.tgtMany i j hj3 (fun h => (hf.card h (List.cons_ne_nil _ _)).1)
  refine ⟨⟨fun z => if z = j then L.src j ++ [i] else L.src z, fun z => if z = i then L.tgt i ++ [j] else L.tgt z⟩,
    ?_, ⟨hnd, ?_, ?_⟩, ?_, ?_⟩
  · unfold ResolvesAt at hres
    simp only [relate, hres, hm, Bool.false_eq_true, if_false, relateAt, hc1, hc2, if_true]
    rfl
  · intro j' hj'
    have hne : j' ≠ j := fun e => hjn (e ▸ hj')
    obtain ⟨h1, h2, h3⟩ := hf.each j' (List.mem_cons_of_mem _ hj')
    refine ⟨by simp [hne, h1], by simp only [hne, if_false]; exact h2, ?_⟩
    simp only [if_true, List.mem_append, List.mem_singleton, not_or]
    exact ⟨h3, hne⟩
  · intro h hjs
    have := (hf.card h (List.cons_ne_nil _ _)).2
    cases js with
    | nil => exact absurd rfl hjs
    | cons _ _ => simp at this
  · apply Links.ext'
    · intro z
      simp only [relatedTo, List.mem_cons]
      by_cases hzj : z = j
      · subst hzj
        simp [hjn]
      · by_cases hzs : z ∈ js <;> simp [hzj, hzs]
    · intro z
      simp only [relatedTo]
      by_cases hz : z = i <;> simp [hz]
  · intro u hu
    simp [hu]

/-- the hit loop `relateHits` of the model file; `relateQuery_spec` is the same statement for the loop the code runs -/
theorem relateHits_spec (a : AssocStmt) (n i : Nat) (hs : List Nat) :
    ∀ (m : Model) (L : Links), m.assocs[n]? = some (a, L) →
      ResolvesAt (m.assocs.map (·.1)) n a → hs.Nodup →
      (∀ j ∈ hs, i ∉ L.src j ∧ (a.srcMany = false → L.src j = []) ∧ j ∉ L.tgt i) →
      (a.tgtMany = false → hs ≠ [] → L.tgt i = [] ∧ hs.length ≤ 1) →
      relateHits a.tgtKind a.srcKind i a.rel a.srcPhrase hs m =
        ({ m with assocs := updateAt m.assocs n (fun p => (p.1, relatedTo L i hs)) }, .ok) := by
  induction hs with
  | nil =>
    intro m L hm _ _ _ _
    rw [relateHits, relatedTo_nil]
    exact congrArg (·, Outcome.ok) (setLinks_self hm).symm
  | cons j js ih =>
    intro m L hm hres hnd hcond hcard
    obtain ⟨L1, hstep, hf1, hcomp, _⟩ := relate_fresh hm hres ⟨hnd, hcond, hcard⟩
    simp only [relateHits, hstep]
    rw [ih _ L1 (setLinks_get hm L1) (by rw [setLinks_fst]; exact hres) hf1.nodup hf1.each hf1.card, hcomp]
    exact congrArg (·, Outcome.ok) (setLinks_setLinks m n L1 _)

/-- the query loop: when the test on a candidate is decided by a test `c` that does not depend on the links the loop
    itself makes, the loop relates the new row to the candidates passing `c` -/
theorem relateQuery_spec (a : AssocStmt) (n i fuel : Nat) (kwargs : List (String × Val)) (c : Nat → Bool)
    (ps : List Nat) :
    ∀ (m : Model) (L : Links), m.assocs[n]? = some (a, L) →
      ResolvesAt (m.assocs.map (·.1)) n a → Fresh a L i (ps.filter c) →
      (∀ L' : Links, (∀ u, u ≠ i → L'.tgt u = L.tgt u) → ∀ j ∈ ps,
        rowMatches (setLinks m n L') fuel a.tgtKind j kwargs = some (c j)) →
      relateQuery fuel kwargs a.tgtKind a.srcKind i a.rel a.srcPhrase ps m =
        (setLinks m n (relatedTo L i (ps.filter c)), .ok) := by
  induction ps with
  | nil =>
    intro m L hm _ _ _
    rw [relateQuery, List.filter_nil, relatedTo_nil, setLinks_self hm]
  | cons j js ih =>
    intro m L hm hres hf hread
    have hmj := hread L (fun _ _ => rfl) j List.mem_cons_self
    rw [setLinks_self hm] at hmj
    cases hc : c j with
    | true =>
      rw [List.filter_cons_of_pos hc] at hf ⊢
      obtain ⟨L1, hstep, hf1, hcomp, hoff⟩ := relate_fresh hm hres hf
      simp only [relateQuery, hmj, hc, hstep]
      rw [ih _ L1 (setLinks_get hm L1) (by rw [setLinks_fst]; exact hres) hf1 ?_, setLinks_setLinks, hcomp]
      -- `hread` speaks of every `L'` that agrees with `L` off `tgt i`: that carries it past the relate just made (`hoff`)
      intro L' hL' j' hj'
      rw [setLinks_setLinks]
      exact hread L' (fun u hu => (hL' u hu).trans (hoff u hu)) j' (List.mem_cons_of_mem _ hj')
    | false =>
      rw [List.filter_cons_of_neg (by simp [hc])] at hf ⊢
      simp only [relateQuery, hmj, hc]
      exact ih m L hm hres hf (fun L' hL' j' hj' => hread L' hL' j' (List.mem_cons_of_mem _ hj'))

theorem relateQuery_none (fuel : Nat) (kwargs : List (String × Val)) (okind kind : String) (i : Nat) (rel phrase : String)
    (m : Model) (ps : List Nat) (h : ∀ j ∈ ps, rowMatches m fuel okind j kwargs = some false) :
    relateQuery fuel kwargs okind kind i rel phrase ps m = (m, .ok) := by
  induction ps with
  | nil => rfl
  | cons j js ih =>
    simp only [relateQuery, h j List.mem_cons_self]
    exact ih (fun j' hj' => h j' (List.mem_cons_of_mem _ hj'))

theorem revKeyMap_eq (a : AssocStmt) (h : a.tgtKeys.Nodup) : revKeyMap a = a.tgtKeys.zip a.srcKeys :=
  dictOfPairs_eq_self _ (zip_fst_nodup _ _ h)

theorem mem_referential {as : List AssocStmt} {a : AssocStmt} (ha : a ∈ as) {sk : String} (hs : sk ∈ a.srcKeys) :
    sk ∈ referential as a.srcKind := by
  unfold referential
  simp only [List.mem_flatMap, List.mem_filter, decide_eq_true_eq]
  exact ⟨a, ⟨ha, rfl⟩, hs⟩

/-- the referential values `new` collects from its arguments -/
def refsOf (all : List AssocStmt) (kind : String) (s : Row) : List (String × Val) :=
  s.filter (fun p => (referential all kind).contains p.1)

theorem refsOf_get {all : List AssocStmt} {kind x : String} (s : Row) (h : x ∈ referential all kind) :
    ((refsOf all kind s).lookup x).getD .none = s.get x := by
  have hx : (referential all kind).contains x = true := by simpa using h
  rw [refsOf, lookup_filter_fst s (fun k => (referential all kind).contains k), if_pos hx, get_eq_lookup_getD]

theorem mem_refsOf_fst {all : List AssocStmt} {kind x : String} {s : Row} (h : x ∈ referential all kind)
    (hs : x ∈ s.map (·.1)) : x ∈ (refsOf all kind s).map (·.1) := by
  obtain ⟨p, hp, rfl⟩ := List.mem_map.mp hs
  exact List.mem_map.mpr ⟨p, List.mem_filter.mpr ⟨hp, by simpa using h⟩, rfl⟩

/-- the referential values `new` was given, as `kwargs` of the query over the referred class -/
def kwargsOf (a : AssocStmt) (s : Row) : List (String × Val) :=
  (a.tgtKeys.zip a.srcKeys).map (fun p => (p.1, s.get p.2))

/-- `m'` differs from `m0` at most in the links of the new row `(kind, i)`: same classes, same association
    statements, and every referred-row list `tgt u` is as in `m0` unless it is the new row's -/
structure Agrees (m0 m' : Model) (kind : String) (i : Nat) : Prop where
  classes : m'.classes = m0.classes
  stmts : m'.assocs.map (·.1) = m0.assocs.map (·.1)
  tgt : ∀ (q : Nat) p0 p', m0.assocs[q]? = some p0 → m'.assocs[q]? = some p' →
    ∀ u, (p0.1.srcKind ≠ kind ∨ u ≠ i) → p'.2.tgt u = p0.2.tgt u

theorem Agrees.refl (m : Model) (kind : String) (i : Nat) : Agrees m m kind i :=
  ⟨rfl, rfl, fun q p0 p' h0 h' u _ => by rw [h0] at h'; cases h'; rfl⟩

theorem Agrees.setLinks {m0 m' : Model} {kind : String} {i : Nat} (h : Agrees m0 m' kind i) (n : Nat)
    (a : AssocStmt) (L L' : Links) (hm : m'.assocs[n]? = some (a, L)) (hk : a.srcKind = kind)
    (hL : ∀ u, u ≠ i → L'.tgt u = L.tgt u) : Agrees m0 (Pyx.Load.setLinks m' n L') kind i := by
  refine ⟨h.classes, (setLinks_fst m' n L').trans h.stmts, ?_⟩
  intro q p0 p' h0 h' u hu
  by_cases hq : n = q
  · subst hq
    rw [setLinks_get hm L'] at h'
    cases h'
    have hst : p0.1 = a := by
      have h1 := congrArg (fun l => l[n]?) h.stmts
      simp only [List.getElem?_map, hm, h0, Option.map_some, Option.some.injEq] at h1
      exact h1.symm
    rcases hu with hu | hu
    · exact absurd (by rw [hst]; exact hk) hu
    · rw [hL u hu]
      exact h.tgt n p0 (a, L) h0 hm u (Or.inr hu)
  · rw [setLinks_get_ne m' L' hq] at h'
    exact h.tgt q p0 p' h0 h' u hu

theorem agrees_map_eq {β : Type} {m0 m' : Model} {kind : String} {i : Nat} (h : Agrees m0 m' kind i)
    (G : AssocStmt × Links → β)
    (hG : ∀ a L L', (∀ u, (a.srcKind ≠ kind ∨ u ≠ i) → L'.tgt u = L.tgt u) → G (a, L') = G (a, L)) :
    m'.assocs.map G = m0.assocs.map G := by
  apply List.ext_getElem?
  intro q
  rw [List.getElem?_map, List.getElem?_map]
  have hst := congrArg (fun l => l[q]?) h.stmts
  simp only [List.getElem?_map] at hst
  cases h0 : m0.assocs[q]? with
  | none =>
    cases h' : m'.assocs[q]? with
    | none => rfl
    | some _ => simp [h0, h'] at hst
  | some p0 =>
    cases h' : m'.assocs[q]? with
    | none => simp [h0, h'] at hst
    | some p' =>
      obtain ⟨a', L'⟩ := p'
      obtain ⟨a, L⟩ := p0
      simp only [h0, h', Option.map_some, Option.some.injEq] at hst ⊢
      subst hst
      exact hG _ _ _ (fun u hu => h.tgt q _ _ h0 h' u hu)

/-- what the batch relate does to one association -/
def stepAssoc (kind : String) (s : Row) (i : Nat) (rowsRaw : String → List Row) (p : AssocStmt × Links) :
    AssocStmt × Links :=
  if p.1.srcKind = kind then
    (p.1, relatedTo p.2 i (selectIdx 0 (rowsRaw p.1.tgtKind) (fun t => matchesB p.1 s t)))
  else p

/-- everything `relateLinks` needs to know about one association (at position `n`, with links `L`); `m0` is the
    state in which the batch relate starts (the new row stored, no link of it yet) -/
structure LinkReady (all : List AssocStmt) (kind : String) (s : Row) (i : Nat) (m0 : Model)
    (rowsRaw : String → List Row) (n : Nat) (a : AssocStmt) (L : Links) : Prop where
  keys : KeysOk a
  len : a.srcKeys.length = a.tgtKeys.length
  ne : a.srcKeys ≠ []
  nonrefl : a.srcKind ≠ a.tgtKind
  mem : a ∈ all
  resolves : a.srcKind = kind → ResolvesAt all n a
  given : a.srcKind = kind → ∀ sk ∈ a.srcKeys, sk ∈ s.map (·.1)
  rowsLen : a.srcKind = kind → (rowsOf m0.classes a.tgtKind).length = (rowsRaw a.tgtKind).length
  /-- in every state the loop passes through, the query's test on a referred row answers the key predicate -/
  reads : a.srcKind = kind → (∀ p ∈ keyPairs a, isNull (s.get p.1) = false) →
    ∀ m', Agrees m0 m' kind i → ∀ j t, (rowsRaw a.tgtKind)[j]? = some t →
      rowMatches m' (fuelOf m0) a.tgtKind j (kwargsOf a s) = some (matchesB a s t)
  /-- the new row as a REFERRED row of `a`: its link from the referring class finds nothing to relate -/
  srcSkip : a.tgtKind = kind → ∀ m', Agrees m0 m' kind i →
    relateLink (refsOf all kind s) (keyMap a) a.srcKind kind i a.rel a.tgtPhrase m' = (m', .ok)
  fresh : a.srcKind = kind → ∀ j ∈ selectIdx 0 (rowsRaw a.tgtKind) (fun t => matchesB a s t),
    i ∉ L.src j ∧ (a.srcMany = false → L.src j = []) ∧ j ∉ L.tgt i
  card : a.srcKind = kind → a.tgtMany = false →
    selectIdx 0 (rowsRaw a.tgtKind) (fun t => matchesB a s t) ≠ [] →
    L.tgt i = [] ∧ (selectIdx 0 (rowsRaw a.tgtKind) (fun t => matchesB a s t)).length ≤ 1

theorem fuelOf_classes {m m' : Model} (h : m'.classes = m.classes) : fuelOf m' = fuelOf m := by
  unfold fuelOf; rw [h]

/-- the target link of association `a` (at position `n`, links `L`) in the batch relate of the new row `s` (position `i`
    of class `kind`): the new row gets related to exactly the referred rows it matches -/
theorem relateLink_target {all : List AssocStmt} {kind : String} {s : Row} {i : Nat} {m0 : Model}
    {rowsRaw : String → List Row} {n : Nat} {a : AssocStmt} {L : Links}
    (hr : LinkReady all kind s i m0 rowsRaw n a L) (hk : a.srcKind = kind) {m : Model} (hag : Agrees m0 m kind i)
    (hmap : m.assocs.map (·.1) = all) (hm : m.assocs[n]? = some (a, L)) :
    relateLink (refsOf all kind s) (revKeyMap a) a.tgtKind kind i a.rel a.srcPhrase m =
      (setLinks m n (relatedTo L i (selectIdx 0 (rowsRaw a.tgtKind) (fun t => matchesB a s t))), .ok) := by
  subst hk
  have href := fun sk hsk => mem_referential hr.mem (sk := sk) hsk
  have hget := fun sk hsk => refsOf_get s (href sk hsk)
  unfold relateLink
  rw [revKeyMap_eq a hr.keys.tgt]
  have c1 : ((a.tgtKeys.zip a.srcKeys).all (fun p => ((refsOf all a.srcKind s).map (·.1)).contains p.2)) = true := by
    simp only [List.all_eq_true, List.contains_iff_mem]
    intro p hp
    have hp2 := (List.of_mem_zip hp).2
    exact mem_refsOf_fst (href p.2 hp2) (hr.given rfl p.2 hp2)
  have c2 : ((a.tgtKeys.zip a.srcKeys).any (fun p => isNull (((refsOf all a.srcKind s).lookup p.2).getD .none)))
      = (keyPairs a).any (fun p => isNull (s.get p.1)) := by
    rw [zip_swap a.srcKeys a.tgtKeys, List.any_map]
    exact any_congr_mem fun p hp => congrArg isNull (hget p.1 (List.of_mem_zip hp).1)
  simp only [c1, c2, Bool.not_true, Bool.false_eq_true, if_false]
  by_cases hnull : (keyPairs a).any (fun p => isNull (s.get p.1))
  · rw [if_pos hnull, selectIdx_congr 0 _ _ (fun _ => false) (fun t _ => matchesB_of_null a s t hnull), selectIdx_false,
      relatedTo_nil, setLinks_self hm]
  · rw [if_neg hnull]
    have c3 : (a.tgtKeys.zip a.srcKeys).isEmpty = false := by
      cases hs : a.srcKeys with
      | nil => exact absurd hs hr.ne
      | cons x xs =>
        cases ht : a.tgtKeys with
        | nil => have := hr.len; rw [hs, ht] at this; simp at this
        | cons y ys => simp
    have hkw : (a.tgtKeys.zip a.srcKeys).map (fun p => (p.1, ((refsOf all a.srcKind s).lookup p.2).getD .none))
        = kwargsOf a s :=
      List.map_congr_left fun p hp => by rw [hget p.2 (List.of_mem_zip hp).2]
    simp only [c3, Bool.false_eq_true, if_false]
    rw [hkw, hag.classes, hr.rowsLen rfl]
    have hnn : ∀ p ∈ keyPairs a, isNull (s.get p.1) = false := by
      intro p hp
      cases hq : isNull (s.get p.1) with
      | false => rfl
      | true => exact absurd (List.any_eq_true.mpr ⟨p, hp, hq⟩) hnull
    -- the candidates passing the test are `selectIdx` (`range_filter_eq_selectIdx`), and `LinkReady.reads` answers the test
    -- in every state `Agrees` allows
    have hspec := relateQuery_spec a n i (fuelOf m) (kwargsOf a s)
      (fun j => ((rowsRaw a.tgtKind)[j]?.map (fun t => matchesB a s t)).getD false)
      (List.range (rowsRaw a.tgtKind).length) m L hm (hmap ▸ hr.resolves rfl)
    rw [range_filter_eq_selectIdx (rowsRaw a.tgtKind) (fun t => matchesB a s t)] at hspec
    apply hspec ⟨selectIdx_nodup _ _ _, hr.fresh rfl, hr.card rfl⟩
    intro L' hL' j hj
    have hjlt : j < (rowsRaw a.tgtKind).length := List.mem_range.mp hj
    have htj : (rowsRaw a.tgtKind)[j]? = some (rowsRaw a.tgtKind)[j] := List.getElem?_eq_getElem hjlt
    rw [fuelOf_classes hag.classes, hr.reads rfl hnn _ (hag.setLinks n a L L' hm rfl hL') j _ htj, htj]
    rfl

theorem relateLinks_spec (kind : String) (s : Row) (i : Nat) (rowsRaw : String → List Row) (all : List AssocStmt)
    (m0 : Model) (rest : List (AssocStmt × Links)) :
    ∀ (done : List (AssocStmt × Links)) (m : Model), m.assocs = done ++ rest →
      (done ++ rest).map (·.1) = all → Agrees m0 m kind i →
      (∀ q p, rest[q]? = some p → LinkReady all kind s i m0 rowsRaw (done.length + q) p.1 p.2) →
      relateLinks (refsOf all kind s) kind i (linksOfKind (rest.map (·.1)) kind) m =
        ({ m with assocs := done ++ rest.map (stepAssoc kind s i rowsRaw) }, .ok) := by
  induction rest with
  | nil =>
    intro done m hm _ _ _
    simp only [linksOfKind, List.map_nil, List.flatMap_nil, relateLinks, List.append_nil] at hm ⊢
    rw [← hm]
  | cons p rest ih =>
    intro done m hm hall hag hready
    obtain ⟨a, L⟩ := p
    have hr : LinkReady all kind s i m0 rowsRaw done.length a L := hready 0 (a, L) rfl
    have hmn : m.assocs[done.length]? = some (a, L) := by
      rw [hm]; simp
    have hmap : m.assocs.map (·.1) = all := by rw [hm]; exact hall
    -- the rest of the loop, from a state `m'` in which `a` has been dealt with (its entry being `x`)
    have hrest : ∀ (m' : Model) (x : AssocStmt × Links), x.1 = a → Agrees m0 m' kind i →
        m'.assocs = done ++ x :: rest →
        relateLinks (refsOf all kind s) kind i (linksOfKind (rest.map (·.1)) kind) m' =
        ({ m' with assocs := done ++ x :: rest.map (stepAssoc kind s i rowsRaw) }, .ok) := by
      intro m' x hx hag' hm'
      have := ih (done ++ [x]) m' (by rw [hm']; simp) (by rw [← hall]; simp [hx]) hag' (by
        intro q p hq
        have := hready (q + 1) p (by simpa using hq)
        have e : (done ++ [x]).length + q = done.length + (q + 1) := by simp; omega
        rw [e]
        exact this)
      simpa using this
    simp only [List.map_cons, linksOfKind, List.flatMap_cons]
    by_cases hsrc : a.srcKind = kind
    · -- the new row refers across `a`
      have htgt : ¬ a.tgtKind = kind := fun h => hr.nonrefl (hsrc.trans h.symm)
      simp only [htgt, if_false, hsrc, if_true, List.nil_append, List.singleton_append, relateLinks]
      subst hsrc
      rw [relateLink_target hr rfl hag hmap hmn]
      have hag1 := hag.setLinks done.length a L (relatedTo L i (selectIdx 0 (rowsRaw a.tgtKind)
        (fun t => matchesB a s t))) hmn rfl (by intro u hu; simp [relatedTo, hu])
      have := hrest _ (stepAssoc a.srcKind s i rowsRaw (a, L)) (by simp [stepAssoc]) hag1
        (by rw [setLinks_append m done rest a L _ hm]; simp [stepAssoc])
      simp only [linksOfKind] at this
      simp only [this]
      rfl
    · have hx : stepAssoc kind s i rowsRaw (a, L) = (a, L) := if_neg hsrc
      have := hrest m (a, L) rfl hag hm
      simp only [linksOfKind] at this
      by_cases htgt : a.tgtKind = kind
      · -- the new row is a referred row of `a`
        simp only [htgt, if_true, hsrc, if_false, List.append_nil, List.singleton_append, relateLinks,
          hr.srcSkip htgt m hag, this, hx]
      · simp only [htgt, hsrc, if_false, List.append_nil, List.nil_append, this, hx]

theorem readAttr_stored (m : Model) (f : Nat) (kind : String) (i : Nat) (x : String)
    (h : x ∉ referential (m.assocs.map (·.1)) kind) :
    readAttr m (f + 1) kind i x = some (((rowsOf m.classes kind)[i]?.getD []).get x) := by
  have : (referential (m.assocs.map (·.1)) kind).contains x = false := by simpa using h
  simp only [readAttr, this, Bool.false_eq_true, if_false]

theorem rowMatches_of_reads (m : Model) (fuel : Nat) (kind : String) (j : Nat) (kwargs : List (String × Val))
    (r : String → Val) (h : ∀ kv ∈ kwargs, readAttr m fuel kind j kv.1 = some (r kv.1)) :
    rowMatches m fuel kind j kwargs = some (kwargs.all (fun kv => r kv.1 == kv.2)) := by
  induction kwargs with
  | nil => rfl
  | cons kv rest ih =>
    obtain ⟨n, v⟩ := kv
    simp only [rowMatches, h (n, v) List.mem_cons_self, List.all_cons]
    by_cases hv : r n == v
    · simp only [hv, if_true, Bool.true_and]
      exact ih (fun kv hkv => h kv (List.mem_cons_of_mem _ hkv))
    · simp [hv]

theorem sum_map_le {α : Type} (l : List α) (f g : α → Nat) (h : ∀ x ∈ l, f x ≤ g x) : (l.map f).sum ≤ (l.map g).sum := by
  induction l with
  | nil => exact Nat.le_refl _
  | cons x xs ih =>
    have := h x List.mem_cons_self
    have := ih fun y hy => h y (List.mem_cons_of_mem _ hy)
    simp only [List.map_cons, List.sum_cons]
    omega

theorem fuelOf_pos (m : Model) : ∃ f, fuelOf m = f + 1 := ⟨_, rfl⟩

theorem kwargsOf_all (a : AssocStmt) (s : Row) (R : String → Val) :
    (kwargsOf a s).all (fun kv => R kv.1 == kv.2) = true ↔ ∀ p ∈ keyPairs a, R p.2 = s.get p.1 := by
  unfold kwargsOf keyPairs
  rw [List.all_map, zip_swap a.srcKeys a.tgtKeys, List.all_map]
  simp only [List.all_eq_true, Function.comp, beq_iff_eq]

/-- the field `LinkReady.reads` in the special case without chained keys (the general case is `linkReady_reads`): the
    query's test reads stored identifying values only -/
theorem rowMatches_nochain (a : AssocStmt) (m' : Model) (fuel : Nat) (s t : Row) (j : Nat)
    (hnc : ∀ tk ∈ a.tgtKeys, tk ∉ referential (m'.assocs.map (·.1)) a.tgtKind)
    (hrow : (rowsOf m'.classes a.tgtKind)[j]? = some (stripRow (referential (m'.assocs.map (·.1)) a.tgtKind) t))
    (hnn : ∀ p ∈ keyPairs a, isNull (s.get p.1) = false) :
    rowMatches m' (fuel + 1) a.tgtKind j (kwargsOf a s) = some (matchesB a s t) := by
  rw [rowMatches_of_reads m' (fuel + 1) a.tgtKind j (kwargsOf a s) (fun x => t.get x)]
  · congr 1
    rw [Bool.eq_iff_iff, kwargsOf_all, matchesB_iff]
    exact ⟨fun h p hp => ⟨hnn p hp, (h p hp).symm⟩, fun h p hp => (h p hp).2.symm⟩
  · intro kv hkv
    obtain ⟨p, hp, rfl⟩ := List.mem_map.mp hkv
    have htk := hnc p.1 (List.of_mem_zip hp).1
    rw [readAttr_stored m' fuel a.tgtKind j p.1 htk, hrow, Option.getD_some, get_stripRow _ _ _ htk]

/-- the field `LinkReady.srcSkip` in the special case without chained keys (the general case is `linkReady_srcSkip`):
    the new row, as a referred row, has an identifying attribute that is not among the referential values given -/
theorem relateLink_source_skip (b : AssocStmt) (m : Model) (refs : List (String × Val)) (all : List AssocStmt) (i : Nat)
    (hk : KeysOk b) (hlen : b.srcKeys.length = b.tgtKeys.length) (hne : b.srcKeys ≠ [])
    (hrefs : ∀ x ∈ refs.map (·.1), x ∈ referential all b.tgtKind)
    (hnc : ∀ tk ∈ b.tgtKeys, tk ∉ referential all b.tgtKind) :
    relateLink refs (keyMap b) b.srcKind b.tgtKind i b.rel b.tgtPhrase m = (m, .ok) := by
  unfold relateLink
  rw [keyMap_eq b hk.src]
  have : ((keyPairs b).all (fun p => (refs.map (·.1)).contains p.2)) = false := by
    unfold keyPairs
    cases hs : b.srcKeys with
    | nil => exact absurd hs hne
    | cons x xs =>
      cases ht : b.tgtKeys with
      | nil => rw [hs, ht] at hlen; simp at hlen
      | cons y ys =>
        have hy : ¬ y ∈ refs.map (·.1) := fun h => hnc y (by rw [ht]; exact List.mem_cons_self) (hrefs y h)
        simp only [List.zip_cons_cons, List.all_cons, Bool.and_eq_false_imp]
        intro h
        simp only [List.contains_iff_mem] at h
        exact absurd h hy
  simp only [this, Bool.not_false, if_true]

end Pyx.Load
