import PyxModel.Oal.Stmt
import Proofs.OalFuel  -- nothing of it is cited: both modules make Lean generate the same auxiliary match equations of the parser functions, so one has to import the other
import Gen.OalPrec

/-!
  C08 at parser level (token-level parser model of C07): the parser looks at token KINDS only, so
  re-spelling the lexemes of keyword-kind tokens changes the parse result only in the fields that hold
  such a lexeme.  Core: naturality of every parser function with respect to `mapTok g`, for any `g` that
  leaves non-keyword lexemes alone.

  Why it holds: every test a parser function makes reads `.kind` (`hk`, `expectK`, `takeIdent`, `isVarName`, …), and
  `mapTok g` keeps the kind (`mapTok_kind`, `hk_map`, core's `List.map_drop`); what it copies into the tree is a token, or the
  lexeme of a token whose kind `g` must leave alone (NUMBER, FRACTION, STRING, NAMESPACE, TICKED_PHRASE: `KwOnly g`).
  So both sides take the same branch everywhere, and each lemma is the case analysis along the definition of its
  parser function with these three facts and the naturality of the functions it calls.
-/

namespace Pyx.Oal

def KwOnly (g : Kind → String → String) : Prop := ∀ k, k.isKeyword = false → ∀ s, g k s = s

def mapRes {α : Type} (F : α → α) (m : Tok → Tok) (r : Option (α × List Tok)) : Option (α × List Tok) :=
  r.map (fun p => (F p.1, p.2.map m))

@[simp] theorem mapRes_none {α : Type} (F : α → α) (m : Tok → Tok) : mapRes F m none = none := rfl
@[simp] theorem mapRes_some {α : Type} (F : α → α) (m : Tok → Tok) (x : α) (ts : List Tok) :
    mapRes F m (some (x, ts)) = some (F x, ts.map m) := rfl

@[simp] theorem mapTok_kind (g : Kind → String → String) (tok : Tok) : (mapTok g tok).kind = tok.kind := rfl
@[simp] theorem mapTok_lex (g : Kind → String → String) (tok : Tok) : (mapTok g tok).lex = g tok.kind tok.lex := rfl

@[simp] theorem hk_map (g : Kind → String → String) (ts : List Tok) : hk (ts.map (mapTok g)) = hk ts := by
  cases ts <;> rfl

@[simp] theorem isStruct_mapKw (g : Kind → String → String) (e : Expr) : (e.mapKw g).isStruct = e.isStruct := by
  cases e <;> rfl
@[simp] theorem isChain_mapKw (g : Kind → String → String) (e : Expr) : (e.mapKw g).isChain = e.isChain := by
  cases e <;> rfl
@[simp] theorem isIndexable_mapKw (g : Kind → String → String) (e : Expr) :
    (e.mapKw g).isIndexable = e.isIndexable := by
  cases e <;> rfl

section expr
variable (t : Tbl) (g : Kind → String → String)

structure NatE (f : Nat) : Prop where
  params : ∀ ts, parseParams t f (ts.map (mapTok g)) = mapRes (Params.mapKw g) (mapTok g) (parseParams t f ts)
  suffix : ∀ h ts, parseSuffix t f (h.mapKw g) (ts.map (mapTok g)) =
    mapRes (Expr.mapKw g) (mapTok g) (parseSuffix t f h ts)
  pre : ∀ ts, parsePrefix t f (ts.map (mapTok g)) = mapRes (Expr.mapKw g) (mapTok g) (parsePrefix t f ts)
  expr : ∀ m ts, parseExpr t f m (ts.map (mapTok g)) = mapRes (Expr.mapKw g) (mapTok g) (parseExpr t f m ts)
  loop : ∀ m na lhs ts, parseLoop t f m na (lhs.mapKw g) (ts.map (mapTok g)) =
    mapRes (Expr.mapKw g) (mapTok g) (parseLoop t f m na lhs ts)

/-- The model's functions recurse on the fuel `f + 1`: it is generalised before the case analysis along the definition
    and recovered in each case (`cases hn`). -/
theorem natE (hg : KwOnly g) : ∀ f, NatE t g f
  | 0 => ⟨fun _ => rfl, fun _ _ => rfl, fun _ => rfl, fun _ _ => rfl, fun _ _ _ _ => rfl⟩
  | f + 1 => by
    have ih := natE hg f
    refine ⟨fun ts => ?_, fun h ts => ?_, fun ts => ?_, fun m ts => ?_, fun m na lhs ts => ?_⟩
    · generalize hn : f + 1 = n
      fun_cases parseParams t n ts <;> cases hn <;>
        simp only [parseParams, List.map_cons, mapTok_kind, hk_map, ← List.map_drop, ih.params, ih.expr,
          mapRes_some, mapRes_none, Params.mapKw, ↓reduceIte, and_self, *]
      rename_i hx
      match ts, hx with
      | [], _ => rfl
      | [_], _ => rfl
      | _ :: _ :: _, hx => exact (hx _ _ _ rfl).elim
    · generalize hn : f + 1 = n
      -- `← ih.suffix` (below also `← ih.loop`): the recursive calls on a built handle (`.field h nm`, `.var tok`,
      -- `.bin lhs tok rhs` …) are tail calls, so on the right they stand as `mapRes … (parseSuffix t f (.field h nm) ts1)`;
      -- rewritten backwards this is `parseSuffix t f ((.field h nm).mapKw g) …`, which `Expr.mapKw` unfolds to the
      -- left side's `.field (h.mapKw g) (mapTok g nm)`, a form the hypothesis read forwards would not match
      fun_cases parseSuffix t n h ts <;> cases hn <;>
        simp only [parseSuffix, List.map_cons, List.map_nil, mapTok_kind, hk_map, ← List.map_drop, isStruct_mapKw,
          isChain_mapKw, isIndexable_mapKw, ih.params, ih.expr, ← ih.suffix, mapRes_some, mapRes_none, Expr.mapKw,
          ↓reduceIte, Bool.false_eq_true, *]
    · cases ts with
      | nil => rfl
      | cons tok ts =>
        obtain ⟨k, lx⟩ := tok
        generalize hn : f + 1 = n
        generalize h0 : (⟨k, lx⟩ :: ts : List Tok) = ts0
        fun_cases parsePrefix t n ts0 <;> cases hn <;> cases h0 <;> dsimp only at * <;> (try subst k) <;>
          simp only [parsePrefix, List.map_cons, mapTok_kind, mapTok_lex, hk_map, ← List.map_drop, ih.params,
            ih.expr, ← ih.suffix, mapRes_some, mapRes_none, Expr.mapKw, ↓reduceIte, Bool.false_eq_true, and_self,
            hg .NUMBER rfl, hg .FRACTION rfl, hg .STRING rfl, hg .NAMESPACE rfl, *]
        all_goals
          rename_i hx _ _
          match ts, hx with
          | [], _ => rfl
          | [_], _ => rfl
          | _ :: _ :: _, hx => exact (hx _ _ _ rfl).elim
    · generalize hn : f + 1 = n
      fun_cases parseExpr t n m ts <;> cases hn <;>
        simp only [parseExpr, ih.pre, ih.loop, mapRes_some, mapRes_none, *]
    · generalize hn : f + 1 = n
      fun_cases parseLoop t n m na lhs ts <;> cases hn <;>
        simp only [parseLoop, List.map_cons, List.map_nil, mapTok_kind, ih.expr, ← ih.loop, mapRes_some, mapRes_none,
          Expr.mapKw, ↓reduceIte, *]

end expr

section clauses
variable (t : Tbl) (g : Kind → String → String)

theorem expectK_map (k : Kind) (ts : List Tok) :
    expectK k (ts.map (mapTok g)) = (expectK k ts).map (List.map (mapTok g)) := by
  cases ts with
  | nil => rfl
  | cons tok ts => by_cases h : tok.kind = k <;> simp [expectK, h]

theorem takeIdent_map (ts : List Tok) :
    takeIdent (ts.map (mapTok g)) = mapRes (mapTok g) (mapTok g) (takeIdent ts) := by
  cases ts with
  | nil => rfl
  | cons tok ts => by_cases h : tok.kind.isIdent = true <;> simp [takeIdent, h]

theorem takeVarName_map (ts : List Tok) :
    takeVarName (ts.map (mapTok g)) = mapRes (mapTok g) (mapTok g) (takeVarName ts) := by
  cases ts with
  | nil => rfl
  | cons tok ts => by_cases h : tok.kind.isVarName = true <;> simp [takeVarName, h]

theorem hkIs_map (p : Kind → Bool) (ts : List Tok) : hkIs p (ts.map (mapTok g)) = hkIs p ts := by
  cases ts <;> rfl

theorem optK_map (k : Kind) (ts : List Tok) :
    optK k (ts.map (mapTok g)) = ((optK k ts).1, (optK k ts).2.map (mapTok g)) := by
  by_cases h : hk ts = some k <;> simp [optK, h]

theorem parseInstName_map (ts : List Tok) :
    parseInstName (ts.map (mapTok g)) = mapRes (InstName.mapKw g) (mapTok g) (parseInstName ts) := by
  fun_cases parseInstName ts <;> simp [parseInstName, InstName.mapKw, *]

theorem parsePhrase_map (hg : KwOnly g) (ts : List Tok) :
    parsePhrase (ts.map (mapTok g)) = mapRes (Phrase.mapKw g) (mapTok g) (parsePhrase ts) := by
  fun_cases parsePhrase ts <;> simp [parsePhrase, Phrase.mapKw, *]
  exact hg _ rfl _

theorem parseOptPhrase_map (hg : KwOnly g) (ts : List Tok) :
    parseOptPhrase (ts.map (mapTok g)) = mapRes (Option.map (Phrase.mapKw g)) (mapTok g) (parseOptPhrase ts) := by
  fun_cases parseOptPhrase ts <;>
    simp only [parseOptPhrase, hk_map, ← List.map_drop, parsePhrase_map g hg, mapRes_some, mapRes_none, Option.map_some,
      Option.map_none, ↓reduceIte, *]

theorem parseNavStep_map (hg : KwOnly g) (ts : List Tok) :
    parseNavStep (ts.map (mapTok g)) = mapRes (NavStep.mapKw g) (mapTok g) (parseNavStep ts) := by
  simp only [parseNavStep, mapRes, expectK_map, takeIdent_map g, parseOptPhrase_map g hg, Option.bind_eq_bind,
    Option.pure_def, Option.bind_map, Option.map_bind, Function.comp_def, Option.map_some, NavStep.mapKw]

theorem parseNavChain_map (hg : KwOnly g) (f : Nat) (ts : List Tok) :
    parseNavChain f (ts.map (mapTok g)) = mapRes (List.map (NavStep.mapKw g)) (mapTok g) (parseNavChain f ts) := by
  fun_induction parseNavChain f ts <;>
    simp only [parseNavChain, parseNavStep_map g hg, hk_map, mapRes_some, mapRes_none, ↓reduceIte, List.map_cons,
      List.map_nil, *]

theorem parseAccess_map (hg : KwOnly g) (f : Nat) (ts : List Tok) :
    parseAccess t f (ts.map (mapTok g)) = mapRes (Expr.mapKw g) (mapTok g) (parseAccess t f ts) := by
  simp only [parseAccess, hk_map]
  by_cases h : isAccessStart (hk ts) = true
  · simp only [h, ↓reduceIte]
    exact (natE t g hg f).pre ts
  · simp [h]

theorem parseExpr_map (hg : KwOnly g) (f m : Nat) (ts : List Tok) :
    parseExpr t f m (ts.map (mapTok g)) = mapRes (Expr.mapKw g) (mapTok g) (parseExpr t f m ts) :=
  (natE t g hg f).expr m ts

@[simp] theorem isVarAccess_mapKw (e : Expr) : (e.mapKw g).isVarAccess = e.isVarAccess := by
  cases e <;> rfl
@[simp] theorem isHook_mapKw (e : Expr) : (e.mapKw g).isHook = e.isHook := by
  cases e <;> rfl
@[simp] theorem isInvocation_mapKw (e : Expr) : (e.mapKw g).isInvocation = e.isInvocation := by
  cases e <;> rfl

theorem parseOptWhere_map (hg : KwOnly g) (f : Nat) (ts : List Tok) :
    parseOptWhere t f (ts.map (mapTok g)) =
      mapRes (Option.map (Expr.mapKw g)) (mapTok g) (parseOptWhere t f ts) := by
  fun_cases parseOptWhere t f ts <;>
    simp only [parseOptWhere, hk_map, ← List.map_drop, parseExpr_map t g hg, mapRes_some, mapRes_none, Option.map_some,
      Option.map_none, ↓reduceIte, *]

theorem parseEvMeaning_map (hg : KwOnly g) (ts : List Tok) :
    parseEvMeaning (ts.map (mapTok g)) = mapRes (Option.map (Phrase.mapKw g)) (mapTok g) (parseEvMeaning ts) := by
  fun_cases parseEvMeaning ts <;>
    simp only [parseEvMeaning, hk_map, ← List.map_drop, parsePhrase_map g hg, mapRes_some, mapRes_none, Option.map_some,
      Option.map_none, ↓reduceIte, *]

theorem parseEvData_map (hg : KwOnly g) (f : Nat) (id' : Tok) (star : Bool) (meaning : Option Phrase)
    (ts : List Tok) :
    parseEvData t f (mapTok g id') star (meaning.map (Phrase.mapKw g)) (ts.map (mapTok g)) =
      mapRes (EvSpec.mapKw g) (mapTok g) (parseEvData t f id' star meaning ts) := by
  fun_cases parseEvData t f id' star meaning ts <;>
    simp only [parseEvData, hk_map, ← List.map_drop, (natE t g hg f).params, expectK_map, mapRes_some, mapRes_none,
      Option.map_some, Option.map_none, ↓reduceIte, EvSpec.mapKw, Params.mapKw, *]

theorem parseEvSpec_map (hg : KwOnly g) (f : Nat) (ts : List Tok) :
    parseEvSpec t f (ts.map (mapTok g)) = mapRes (EvSpec.mapKw g) (mapTok g) (parseEvSpec t f ts) := by
  fun_cases parseEvSpec t f ts <;>
    simp only [parseEvSpec, takeIdent_map g, optK_map, parseEvMeaning_map g hg, parseEvData_map t g hg, mapRes_some,
      mapRes_none, *]

theorem startsEvSpec_map (ts : List Tok) : startsEvSpec (ts.map (mapTok g)) = startsEvSpec ts := by
  simp only [startsEvSpec, hk_map, ← List.map_drop, hkIs_map]

theorem parseEvTarget_map (hg : KwOnly g) (f : Nat) (ts : List Tok) :
    parseEvTarget t f (ts.map (mapTok g)) = mapRes (EvTarget.mapKw g) (mapTok g) (parseEvTarget t f ts) := by
  simp only [parseEvTarget, hk_map, ← List.map_drop, hkIs_map, parseAccess_map t g hg]
  by_cases h : hkIs Kind.isIdent ts = true ∧ isClassWord (hk (List.drop 1 ts)) = true
  · simp only [h, and_self, ↓reduceIte]
    match ts with
    | [] => simp
    | [a] => simp
    | nm :: w :: ts' =>
      by_cases hc : w.kind = .CREATOR
      · simp [hc, EvTarget.mapKw]
      · by_cases ha : w.kind = .ASSIGNER <;> simp [hc, ha, EvTarget.mapKw]
  · simp only [h, ↓reduceIte]
    cases parseAccess t f ts with
    | none => simp
    | some p =>
      obtain ⟨e, r⟩ := p
      by_cases hh : e.isHook = true <;> simp [hh, EvTarget.mapKw]

theorem parseKw_map (hg : KwOnly g) (f : Nat) (k : IKind) (ts : List Tok) :
    parseKw t f k (ts.map (mapTok g)) = mapRes (Stmt.mapKw g) (mapTok g) (parseKw t f k ts) := by
  simp only [parseKw, parseAccess_map t g hg]
  cases h1 : parseAccess t f ts with
  | none => simp
  | some p =>
    obtain ⟨e, r⟩ := p
    -- the right-hand side of `va = …`
    have hrhs :
        (match parseAccess t f (List.drop 1 (List.map (mapTok g) r)) with
          | some (Expr.icall ns n ps, ts'') => some (Stmt.kwCall k (some (Expr.mapKw g e)) ns n ps, ts'')
          | some (Expr.ocall h n ps, ts'') =>
            if k = IKind.cls then some (Stmt.trCall (some (Expr.mapKw g e)) h n ps, ts'') else none
          | _ => none) =
        mapRes (Stmt.mapKw g) (mapTok g)
          (match parseAccess t f (List.drop 1 r) with
          | some (Expr.icall ns n ps, ts'') => some (Stmt.kwCall k (some e) ns n ps, ts'')
          | some (Expr.ocall h n ps, ts'') => if k = IKind.cls then some (Stmt.trCall (some e) h n ps, ts'') else none
          | _ => none) := by
      rw [← List.map_drop, parseAccess_map t g hg]
      cases parseAccess t f (List.drop 1 r) with
      | none => simp
      | some q =>
        obtain ⟨e2, r2⟩ := q
        cases e2 <;> simp [Expr.mapKw, Stmt.mapKw]
        by_cases hk' : k = .cls <;> simp [hk', Stmt.mapKw]
    cases e with
    | icall ns n ps =>
      simp only [mapRes_some, Expr.mapKw, hk_map, ← List.map_drop, parseExpr_map t g hg]
      by_cases hc : k = .port ∧ hk r = some .TO
      · simp only [hc, and_self, ↓reduceIte]
        cases parseExpr t f 0 (List.drop 1 r) with
        | none => simp
        | some q => obtain ⟨e2, r2⟩ := q; simp [Stmt.mapKw]
      · simp [hc, Stmt.mapKw]
    | ocall h n ps =>
      simp only [mapRes_some, Expr.mapKw]
      by_cases hk' : k = .cls <;> simp [hk', Stmt.mapKw]
    | _ =>
      simp only [mapRes_some, mapRes_none, Expr.mapKw, Expr.isVarAccess, hk_map, true_and, Bool.false_eq_true,
        false_and, ↓reduceIte] at hrhs ⊢ <;>
      by_cases he : hk r = some .EQUAL <;> simp only [he, ↓reduceIte, mapRes_none] <;> exact hrhs

theorem parseRel_map (hg : KwOnly g) (un : Bool) (ts : List Tok) :
    parseRel un (ts.map (mapTok g)) = mapRes (Stmt.mapKw g) (mapTok g) (parseRel un ts) := by
  fun_cases parseRel un ts <;>
    simp only [parseRel, parseInstName_map g, expectK_map, takeVarName_map g, parseOptPhrase_map g hg, hk_map,
      ← List.map_drop, mapRes_some, mapRes_none, Option.map_some, Option.map_none, Stmt.mapKw, ↓reduceIte, *]

theorem parseCard_map (ts : List Tok) :
    parseCard (ts.map (mapTok g)) = mapRes (CardTok.mapKw g) (mapTok g) (parseCard ts) := by
  fun_cases parseCard ts <;> simp [parseCard, CardTok.mapKw, Card.kind, *]

theorem parseInstOf_map (ts : List Tok) :
    parseInstOf (ts.map (mapTok g)) = mapRes id (mapTok g) (parseInstOf ts) := by
  simp only [parseInstOf, hk_map, ← List.map_drop]
  by_cases h : hk ts = some .INSTANCES ∧ hk (List.drop 1 ts) = some .OF
  · simp only [h, and_self, ↓reduceIte, mapRes_some, id_eq]
  · simp only [h, ↓reduceIte, mapRes_some, id_eq]

theorem parseSelFrom_map (hg : KwOnly g) (f : Nat) (card : CardTok) (v : Tok) (ts : List Tok) :
    parseSelFrom t f (card.mapKw g) (mapTok g v) (ts.map (mapTok g)) =
      mapRes (Stmt.mapKw g) (mapTok g) (parseSelFrom t f card v ts) := by
  fun_cases parseSelFrom t f card v ts <;>
    simp only [parseSelFrom, parseInstOf_map, takeIdent_map g, parseOptWhere_map t g hg, mapRes_some, mapRes_none,
      id_eq, Stmt.mapKw, *]

theorem parseSelRel_map (hg : KwOnly g) (f : Nat) (card : CardTok) (v : Tok) (ts : List Tok) :
    parseSelRel t f (card.mapKw g) (mapTok g v) (ts.map (mapTok g)) =
      mapRes (Stmt.mapKw g) (mapTok g) (parseSelRel t f card v ts) := by
  fun_cases parseSelRel t f card v ts <;>
    simp only [parseSelRel, parseAccess_map t g hg, isHook_mapKw, parseNavChain_map g hg, parseOptWhere_map t g hg,
      mapRes_some, mapRes_none, ↓reduceIte, Bool.false_eq_true, Stmt.mapKw, *]

theorem parseSelect_map (hg : KwOnly g) (f : Nat) (ts : List Tok) :
    parseSelect t f (ts.map (mapTok g)) = mapRes (Stmt.mapKw g) (mapTok g) (parseSelect t f ts) := by
  have hc : ∀ c : CardTok, (c.mapKw g).c = c.c := fun _ => rfl
  fun_cases parseSelect t f ts <;>
    simp only [parseSelect, parseCard_map, takeVarName_map g, hk_map, ← List.map_drop, expectK_map,
      parseSelFrom_map t g hg, parseSelRel_map t g hg, mapRes_some, mapRes_none, Option.map_some, Option.map_none,
      ↓reduceIte, *]

end clauses

section stmts
variable (t : Tbl) (g : Kind → String → String)

structure NatS (f : Nat) : Prop where
  stmt : ∀ ts, parseStmt t f (ts.map (mapTok g)) = mapRes (Stmt.mapKw g) (mapTok g) (parseStmt t f ts)
  block : ∀ ts, parseBlock t f (ts.map (mapTok g)) = mapRes (Block.mapKw g) (mapTok g) (parseBlock t f ts)
  elifs : ∀ ts, parseElifs t f (ts.map (mapTok g)) = mapRes (Elifs.mapKw g) (mapTok g) (parseElifs t f ts)
  els : ∀ ts, parseElse t f (ts.map (mapTok g)) = mapRes (Else.mapKw g) (mapTok g) (parseElse t f ts)

theorem startsAccessStmt_map (tok : Tok) (ts : List Tok) :
    startsAccessStmt (mapTok g tok) (ts.map (mapTok g)) = startsAccessStmt tok ts := by
  simp only [startsAccessStmt, mapTok_kind, hk_map]

theorem natS (hg : KwOnly g) : ∀ f, NatS t g f
  | 0 => ⟨fun _ => rfl, fun _ => rfl, fun _ => rfl, fun _ => rfl⟩
  | f + 1 => by
    have ih := natS hg f
    refine ⟨fun ts => ?_, fun ts => ?_, fun ts => ?_, fun ts => ?_⟩
    · -- `hp`, and `hs` below: after `List.map_cons` the mapped list is `mapTok g tok :: ts.map _`, which the naturality of
      -- the callee, stated for `ts.map _`, no longer matches; these calls are matched upon (no tail calls), so the `← ih`
      -- device of `natE` has nothing to rewrite
      have hp : ∀ tok ts, parsePrefix t f (mapTok g tok :: List.map (mapTok g) ts) =
          mapRes (Expr.mapKw g) (mapTok g) (parsePrefix t f (tok :: ts)) := fun tok ts => (natE t g hg f).pre (tok :: ts)
      generalize hn : f + 1 = n
      fun_cases parseStmt t n ts <;> cases hn <;>
        simp only [parseStmt, List.map_cons, List.map_nil, startsAccessStmt_map, mapTok_kind, mapRes_some, mapRes_none,
          Option.map_some, Option.map_none, expectK_map, takeIdent_map g, takeVarName_map g, hk_map, ← List.map_drop, optK_map,
          parseExpr_map t g hg, parseAccess_map t g hg, parseEvSpec_map t g hg, parseEvTarget_map t g hg,
          parseInstName_map g, startsEvSpec_map, isVarAccess_mapKw, isInvocation_mapKw, ih.block, ih.elifs, ih.els,
          parseKw_map t g hg, parseRel_map g hg, parseSelect_map t g hg, ↓reduceIte, Bool.false_eq_true, and_self,
          Stmt.mapKw, *]
    · have hs : ∀ tok ts, parseStmt t f (mapTok g tok :: List.map (mapTok g) ts) =
          mapRes (Stmt.mapKw g) (mapTok g) (parseStmt t f (tok :: ts)) := fun tok ts => ih.stmt (tok :: ts)
      generalize hn : f + 1 = n
      fun_cases parseBlock t n ts <;> cases hn <;>
        simp only [parseBlock, List.map_cons, List.map_nil, mapTok_kind, ih.block, expectK_map, mapRes_some,
          mapRes_none, Option.map_some, Option.map_none, Block.mapKw, ↓reduceIte, Bool.false_eq_true, *]
    · generalize hn : f + 1 = n
      fun_cases parseElifs t n ts <;> cases hn <;>
        simp only [parseElifs, hk_map, ← List.map_drop, optK_map, parseExpr_map t g hg, ih.block, ih.elifs, mapRes_some,
          mapRes_none, Elifs.mapKw, ↓reduceIte, *]
    · generalize hn : f + 1 = n
      fun_cases parseElse t n ts <;> cases hn <;>
        simp only [parseElse, hk_map, ← List.map_drop, ih.block, mapRes_some, mapRes_none, Else.mapKw, ↓reduceIte, *]

theorem parseStmts_mapTok (hg : KwOnly g) (ts : List Tok) :
    parseStmts t (ts.map (mapTok g)) = (parseStmts t ts).map (Block.mapKw g) := by
  have hf : fuelForS (ts.map (mapTok g)) = fuelForS ts := by rw [fuelForS, fuelForS, List.length_map]
  rw [parseStmts, parseStmts, hf, (natS t g hg _).block]
  cases parseBlock t (fuelForS ts) ts with
  | none => simp
  | some p =>
    obtain ⟨b, r⟩ := p
    cases r with
    | nil => simp
    | cons a r => simp

theorem parseExprTop_mapTok (hg : KwOnly g) (ts : List Tok) :
    parseExprTop t (ts.map (mapTok g)) = mapRes (Expr.mapKw g) (mapTok g) (parseExprTop t ts) := by
  simp only [parseExprTop, fuelFor, List.length_map]
  exact parseExpr_map t g hg _ 0 ts

end stmts

/-- `b` re-spells `a`: the same kind, and the same lexeme — except that the lexeme of a keyword-kind token
    (keywords incl. and/or/not/empty/not_empty/cardinality/true/false/one/any/many/self, `end if|for|while`) may
    differ in letter case -/
def Tok.Respells (a b : Tok) : Prop :=
  a.kind = b.kind ∧ (if a.kind.isKeyword then lowerStr a.lex = lowerStr b.lex else a.lex = b.lex)

inductive Zip (R : Tok → Tok → Prop) : List Tok → List Tok → Prop where
  | nil : Zip R [] []
  | cons {a b : Tok} {l l' : List Tok} : R a b → Zip R l l' → Zip R (a :: l) (b :: l')

/-- token list `ts'` is `ts` with keywords possibly written in another letter case -/
def Respelling (ts ts' : List Tok) : Prop := Zip Tok.Respells ts ts'

/-- the weaker relation of the sharp form: same kinds, same lexemes on non-keyword tokens; the lexemes of
    keyword-kind tokens are ARBITRARY -/
def Tok.SameButKeyword (a b : Tok) : Prop := a.kind = b.kind ∧ (a.kind.isKeyword = false → a.lex = b.lex)

def SameButKeywords (ts ts' : List Tok) : Prop := Zip Tok.SameButKeyword ts ts'

theorem kwOnly_lowerKw : KwOnly lowerKw := by
  intro k hk' s
  simp [lowerKw, hk']

theorem kwOnly_eraseKw : KwOnly eraseKw := by
  intro k hk' s
  simp [eraseKw, hk']

theorem Zip.iff_map_eq {R : Tok → Tok → Prop} {m : Tok → Tok} (h : ∀ a b, R a b ↔ m a = m b) :
    ∀ {l l' : List Tok}, Zip R l l' ↔ l.map m = l'.map m := by
  intro l l'
  constructor
  · intro hz
    induction hz with
    | nil => rfl
    | cons hab _ ih => rw [List.map_cons, List.map_cons, (h _ _).mp hab, ih]
  · intro he
    induction l generalizing l' with
    | nil =>
      cases l' with
      | nil => exact .nil
      | cons _ _ => cases he
    | cons a l ih =>
      cases l' with
      | nil => cases he
      | cons b l' =>
        obtain ⟨h1, h2⟩ := List.cons.inj he
        exact .cons ((h a b).mpr h1) (ih h2)

theorem Tok.respells_iff (a b : Tok) : a.Respells b ↔ mapTok lowerKw a = mapTok lowerKw b := by
  obtain ⟨k, la⟩ := a
  obtain ⟨k', lb⟩ := b
  simp only [Tok.Respells, mapTok, lowerKw, Tok.mk.injEq]
  constructor
  · rintro ⟨rfl, h⟩
    cases hk : k.isKeyword <;> simpa [hk] using h
  · rintro ⟨rfl, h⟩
    cases hk : k.isKeyword <;> simpa [hk] using h

theorem Tok.sameButKeyword_iff (a b : Tok) : a.SameButKeyword b ↔ mapTok eraseKw a = mapTok eraseKw b := by
  obtain ⟨k, la⟩ := a
  obtain ⟨k', lb⟩ := b
  simp only [Tok.SameButKeyword, mapTok, eraseKw, Tok.mk.injEq]
  constructor
  · rintro ⟨rfl, h⟩
    cases hk : k.isKeyword
    · simpa [hk] using h
    · simp
  · rintro ⟨rfl, h⟩
    cases hk : k.isKeyword
    · simpa [hk] using h
    · simp

theorem respelling_iff {ts ts' : List Tok} : Respelling ts ts' ↔ ts.map (mapTok lowerKw) = ts'.map (mapTok lowerKw) :=
  Zip.iff_map_eq Tok.respells_iff

theorem sameButKeywords_iff {ts ts' : List Tok} :
    SameButKeywords ts ts' ↔ ts.map (mapTok eraseKw) = ts'.map (mapTok eraseKw) :=
  Zip.iff_map_eq Tok.sameButKeyword_iff

theorem Respelling.sameButKeywords {ts ts' : List Tok} (h : Respelling ts ts') : SameButKeywords ts ts' := by
  induction h with
  | nil => exact .nil
  | cons hab _ ih =>
    refine .cons ⟨hab.1, ?_⟩ ih
    intro hk'
    have := hab.2
    simpa [hk'] using this

theorem eq_of_map_eq {β : Type} {p : List Tok → β} {F : β → β} {m : Tok → Tok} (hp : ∀ ts, p (ts.map m) = F (p ts))
    {ts ts' : List Tok} (h : ts.map m = ts'.map m) : F (p ts') = F (p ts) := by
  rw [← hp, ← hp, h]

/-- statements, sharp form.  If two token lists have the same kinds and agree on the lexemes of all
    non-keyword tokens (identifiers, numbers, strings, phrases, punctuation), then either both are rejected
    or both parse, and the two trees are equal once the fields that hold the lexeme of a keyword-kind token
    (select cardinality, operator of unary / binary nodes, boolean literal value, `self` as an instance name,
    and any NAME that is a keyword token — kw_as_identifier) are blanked: every other field — names that are ID
    tokens, literals, ticked phrases, namespaces, the optional-word choices, the shape of the tree — is the same. -/
theorem parseStmts_sameButKeywords (t : Tbl) {ts ts' : List Tok} (h : SameButKeywords ts ts') :
    (parseStmts t ts').map eraseCase = (parseStmts t ts).map eraseCase :=
  eq_of_map_eq (parseStmts_mapTok t eraseKw kwOnly_eraseKw) (sameButKeywords_iff.mp h)

/-- statements.  Re-spelling keywords in another letter case does not change the parse result up to the
    letter case of exactly the spelling-carrying fields (`normCase` lower-cases them and nothing else). -/
theorem parseStmts_respelling (t : Tbl) {ts ts' : List Tok} (h : Respelling ts ts') :
    (parseStmts t ts').map normCase = (parseStmts t ts).map normCase :=
  eq_of_map_eq (parseStmts_mapTok t lowerKw kwOnly_lowerKw) (respelling_iff.mp h)

theorem parseStmts_reject_iff (t : Tbl) {ts ts' : List Tok} (h : SameButKeywords ts ts') :
    parseStmts t ts' = none ↔ parseStmts t ts = none := by
  have := parseStmts_sameButKeywords t h
  cases h1 : parseStmts t ts <;> cases h2 : parseStmts t ts' <;> simp [h1, h2] at this ⊢

theorem parseStmts_reject_iff_respelling (t : Tbl) {ts ts' : List Tok} (h : Respelling ts ts') :
    parseStmts t ts' = none ↔ parseStmts t ts = none :=
  parseStmts_reject_iff t h.sameButKeywords

theorem parseExprTop_sameButKeywords (t : Tbl) {ts ts' : List Tok} (h : SameButKeywords ts ts') :
    mapRes Expr.eraseCase (mapTok eraseKw) (parseExprTop t ts') =
      mapRes Expr.eraseCase (mapTok eraseKw) (parseExprTop t ts) :=
  eq_of_map_eq (parseExprTop_mapTok t eraseKw kwOnly_eraseKw) (sameButKeywords_iff.mp h)

theorem parseExprTop_respelling (t : Tbl) {ts ts' : List Tok} (h : Respelling ts ts') :
    mapRes Expr.normCase (mapTok lowerKw) (parseExprTop t ts') =
      mapRes Expr.normCase (mapTok lowerKw) (parseExprTop t ts) :=
  eq_of_map_eq (parseExprTop_mapTok t lowerKw kwOnly_lowerKw) (respelling_iff.mp h)

theorem parseExprTop_reject_iff (t : Tbl) {ts ts' : List Tok} (h : SameButKeywords ts ts') :
    parseExprTop t ts' = none ↔ parseExprTop t ts = none := by
  have := parseExprTop_sameButKeywords t h
  cases h1 : parseExprTop t ts <;> cases h2 : parseExprTop t ts' <;> simp [h1, h2, mapRes] at this ⊢

theorem parseExprTop_tree_respelling (t : Tbl) {ts ts' : List Tok} (h : Respelling ts ts') {e e' : Expr}
    {r r' : List Tok} (h1 : parseExprTop t ts = some (e, r)) (h2 : parseExprTop t ts' = some (e', r')) :
    e'.normCase = e.normCase ∧ e'.eraseCase = e.eraseCase := by
  have ha := parseExprTop_respelling t h
  have hb := parseExprTop_sameButKeywords t h.sameButKeywords
  rw [h1, h2] at ha hb
  simp only [mapRes_some, Option.some.injEq] at ha hb
  exact ⟨(_root_.Prod.mk.inj ha).1, (_root_.Prod.mk.inj hb).1⟩

/-! ### non-vacuity: a body with mixed-case keywords -/

section examples
open Pyx.Gen.OalPrec (table)

/-- `IF a AND TRUE Select Many x FROM Instances OF K; Delete Object Instance SELF; END IF; RETURN Not_Empty x;` -/
private def mixed : List Tok :=
  [tk .IF "IF", tk .ID "a", tk .AND "AND", tk .TRUE "TRUE",
   tk .SELECT "Select", tk .MANY "Many", tk .ID "x", tk .FROM "FROM", tk .INSTANCES "Instances", tk .OF "OF",
   tk .ID "K", tk .SEMICOLON ";",
   tk .DELETE "Delete", tk .OBJECT "Object", tk .INSTANCE "Instance", tk .SELF "SELF", tk .SEMICOLON ";",
   tk .END_IF "END IF", tk .SEMICOLON ";",
   tk .RETURN "RETURN", tk .NOT_EMPTY "Not_Empty", tk .ID "x", tk .SEMICOLON ";"]

private def lower : List Tok :=
  [tk .IF "if", tk .ID "a", tk .AND "and", tk .TRUE "true",
   tk .SELECT "select", tk .MANY "many", tk .ID "x", tk .FROM "from", tk .INSTANCES "instances", tk .OF "of",
   tk .ID "K", tk .SEMICOLON ";",
   tk .DELETE "delete", tk .OBJECT "object", tk .INSTANCE "instance", tk .SELF "self", tk .SEMICOLON ";",
   tk .END_IF "end if", tk .SEMICOLON ";",
   tk .RETURN "return", tk .NOT_EMPTY "not_empty", tk .ID "x", tk .SEMICOLON ";"]

private def treeOf (andLex trueLex manyLex selfLex neLex : String) : Block :=
  .cons (.if_ (.bin (.var (tk .ID "a")) ⟨.AND, andLex⟩ (.bool true trueLex)) false
      (.cons (.selFrom ⟨.many, manyLex⟩ (tk .ID "x") true (tk .ID "K") none) (.cons (.delete (.self selfLex)) .nil))
      .nil .none)
    (.cons (.ret (some (.un ⟨.NOT_EMPTY, neLex⟩ (.var (tk .ID "x"))))) .nil)

private theorem mixed_lower : Respelling mixed lower := respelling_iff.mpr (by decide +kernel)

-- the hypothesis of the theorems holds of the pair …
example : Respelling mixed lower := mixed_lower
-- … both parse, to trees that differ exactly in the spelling-carrying fields …
example : parseStmts table mixed = some (treeOf "AND" "TRUE" "Many" "SELF" "Not_Empty") := by rfl
example : parseStmts table lower = some (treeOf "and" "true" "many" "self" "not_empty") := by rfl
-- … and `normCase` identifies them, leaving the identifier `K` (upper case) alone
example : normCase (treeOf "AND" "TRUE" "Many" "SELF" "Not_Empty") = treeOf "and" "true" "many" "self" "not_empty" := by
  rfl
example : (parseStmts table lower).map normCase = (parseStmts table mixed).map normCase :=
  parseStmts_respelling table mixed_lower
-- a rejected body stays rejected in any spelling: `RETURN a < b < c;`
example : parseStmts table [tk .RETURN "RETURN", tk .ID "a", tk .LESSTHAN "<", tk .ID "b", tk .LESSTHAN "<", tk .ID "c",
    tk .SEMICOLON ";"] = none := by rfl
-- a keyword used as a NAME (`x = To;` — the grammar's kw_as_identifier alternatives) is a keyword token, so
-- `x = To;` and `x = TO;` are re-spellings of each other; the parser keeps the spelling in the name (as oal.py
-- does: VariableAccessNode('To') vs VariableAccessNode('TO')), and `normCase` lower-cases it like every other
-- keyword lexeme.  So the two trees are equal only up to the case of that NAME.
example : Respelling [tk .ID "x", tk .EQUAL "=", tk .TO "To", tk .SEMICOLON ";"]
    [tk .ID "x", tk .EQUAL "=", tk .TO "TO", tk .SEMICOLON ";"] :=
  respelling_iff.mpr (by decide +kernel)
example : parseStmts table [tk .ID "x", tk .EQUAL "=", tk .TO "To", tk .SEMICOLON ";"] =
    some (.cons (.assign false (.var (tk .ID "x")) (.var (tk .TO "To"))) .nil) := by rfl
example : parseStmts table [tk .ID "x", tk .EQUAL "=", tk .TO "TO", tk .SEMICOLON ";"] =
    some (.cons (.assign false (.var (tk .ID "x")) (.var (tk .TO "TO"))) .nil) := by rfl
example : normCase (.cons (.assign false (.var (tk .ID "x")) (.var (tk .TO "To"))) .nil) =
    .cons (.assign false (.var (tk .ID "x")) (.var (tk .TO "to"))) .nil := by rfl
-- changing an IDENTIFIER's case is not a re-spelling
example : ¬ Tok.Respells (tk .ID "K") (tk .ID "k") := by
  rw [Tok.respells_iff]
  decide +kernel

end examples

end Pyx.Oal
