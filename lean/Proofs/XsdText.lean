import PyxModel.Extract.Xsd

/-!
  C20 — the text of the written file: the escaping of attribute values is sound (no value can leave its quotes,
  every value reads back to the model name), whatever characters the names contain.
-/

namespace Pyx.Extract

theorem escChar_no_delims (x : Char) : ∀ c ∈ escChar x, c ≠ '<' ∧ c ≠ '>' ∧ c ≠ '\x22' := by
  unfold escChar
  split
  · decide +kernel
  split
  · decide +kernel
  split
  · decide +kernel
  split
  · decide +kernel
  · intro c hc
    rw [List.mem_singleton.mp hc]
    exact ⟨‹_›, ‹_›, ‹_›⟩

/-- an escaped value contains no `<`, `>` or `"`: it cannot end its own quotes or open a tag -/
theorem escAttr_no_delims (s : List Char) : ∀ c ∈ escAttr s, c ≠ '<' ∧ c ≠ '>' ∧ c ≠ '\x22' := by
  intro c hc
  obtain ⟨x, _, hx⟩ := List.mem_flatMap.mp hc
  exact escChar_no_delims x c hx

theorem entityAt_ne_amp (c : Char) (r : List Char) (h : c ≠ '&') : entityAt (c :: r) = none := by
  unfold entityAt
  split <;> first | rfl | (rename_i heq; simp only [List.cons.injEq] at heq; exact absurd heq.1 h)

theorem unescFuel_escChar (c : Char) (r : List Char) (n : Nat) : unescFuel (n + 1) (escChar c ++ r) = c :: unescFuel n r := by
  unfold escChar
  split
  · subst_vars; rfl
  split
  · subst_vars; rfl
  split
  · subst_vars; rfl
  split
  · subst_vars; rfl
  · simp only [List.singleton_append, unescFuel, entityAt_ne_amp c r ‹_›]

theorem escChar_length_pos (c : Char) : 1 ≤ (escChar c).length := by
  unfold escChar
  split
  · decide +kernel
  split
  · decide +kernel
  split
  · decide +kernel
  split
  · decide +kernel
  · exact Nat.le_refl _

theorem unescFuel_esc : ∀ (s : List Char) (n : Nat), (escAttr s).length ≤ n → unescFuel n (escAttr s) = s
  | [], n, _ => by cases n <;> rfl
  | c :: t, n, hn => by
    have hcons : escAttr (c :: t) = escChar c ++ escAttr t := by simp [escAttr]
    rw [hcons, List.length_append] at hn
    have := escChar_length_pos c
    cases n with
    | zero => omega
    | succ n => rw [hcons, unescFuel_escChar, unescFuel_esc t n (by omega)]
/-- every attribute value reads back to the model name: `& < > "`, entity-like names such as `&amp;`, `]]>`,
    non-ASCII letters … -/
theorem unesc_esc (s : List Char) : unescAttr (escAttr s) = s :=
  unescFuel_esc s _ (Nat.le_refl _)

theorem takeWhile_ne_append {x : Char} (a r : List Char) (h : x ∉ a) :
    (a ++ x :: r).takeWhile (fun c => c != x) = a ∧ (a ++ x :: r).dropWhile (fun c => c != x) = x :: r := by
  have ha : ∀ c ∈ a, (c != x) = true := fun c hc => bne_iff_ne.mpr fun e => h (e ▸ hc)
  rw [List.takeWhile_append_of_pos ha, List.dropWhile_append_of_pos ha]
  simp

theorem readAttrs_attrsText : ∀ (attrs : List (String × String)) (rest : List Char) (n : Nat),
    (∀ p ∈ attrs, '=' ∉ p.1.toList) → rest.head? ≠ some ' ' → attrs.length ≤ n →
    readAttrs n (attrsText attrs ++ rest) = some (attrs.map (fun p => (p.1.toList, p.2.toList)), rest) := by
  intro attrs
  induction attrs with
  | nil =>
    intro rest n _ hr _
    simp only [attrsText, List.flatMap_nil, List.nil_append, List.map_nil]
    cases n with
    | zero => rfl
    | succ n =>
      cases rest with
      | nil => rfl
      | cons c r =>
        have : c ≠ ' ' := fun e => hr (by simp [e])
        unfold readAttrs
        split
        · rename_i heq; simp at heq
        · rename_i heq
          simp only [List.cons.injEq] at heq
          exact absurd heq.1.symm (fun e => this e.symm)
        · rfl
  | cons p ps ih =>
    intro rest n hk hr hn
    cases n with
    | zero => simp at hn
    | succ n =>
      have hkey := hk p (by simp)
      have htext : attrsText (p :: ps) ++ rest =
          ' ' :: (p.1.toList ++ '=' :: ('\x22' :: (escAttr p.2.toList ++ '\x22' :: (attrsText ps ++ rest)))) := by
        simp [attrsText, attrText, List.append_assoc]
      rw [htext]
      -- a key has no `=` (`hk`), an escaped value no `"`: each `takeWhile` of `readAttrs` stops at its delimiter
      have h1 := takeWhile_ne_append (x := '=') p.1.toList ('\x22' :: (escAttr p.2.toList ++ '\x22' :: (attrsText ps ++ rest))) hkey
      have hq : '\x22' ∉ escAttr p.2.toList := fun hm => (escAttr_no_delims _ _ hm).2.2 rfl
      have h2 := takeWhile_ne_append (x := '\x22') (escAttr p.2.toList) (attrsText ps ++ rest) hq
      simp only [readAttrs, h1.1, h1.2, h2.1, h2.2]
      rw [ih rest n (fun q hq => hk q (by simp [hq])) hr (by simp at hn; omega)]
      simp [unesc_esc]

end Pyx.Extract
