import Proofs.ExtractEdits

/-!
  C14 — edits of relationships (Mult, Cond, Txt_Phrs of an end; moving a relationship) commute with
  extraction.
-/

namespace Pyx.Extract

theorem groupOf_rels (d : ClassDiagram) (rs : List Rel) (r : Rel) :
    groupOf { d with rels := rs } r = groupOf d r := rfl

theorem classOf_rels (d : ClassDiagram) (rs : List Rel) (drv : Bool) (k : Class) :
    classOf { d with rels := rs } drv k = classOf d drv k := rfl

theorem groupOf_rel {d : ClassDiagram} {k : Rel} {g : SGroup} (h : groupOf d k = some g) : g.rel = k.numb := by
  rw [groupOf_sides h]

theorem rel_eq_of_id {d : ClassDiagram} (wf : WF d) {r : Nat} {k kr : Rel} (hr : findRel d r = some kr)
    (hk : k ∈ d.rels) (he : k.id = r) : k = kr :=
  inj_of_nodup_map (fun (x : Rel) => x.id) wf.relIds hk (findRel_mem hr) (by rw [he, findRel_id hr])

theorem relEdit_commutes {d : ClassDiagram} (wf : WF d) {r : Nat} {f : Rel → Rel} {F : List SAssoc → List SAssoc}
    {kr : Rel} (hr : findRel d r = some kr) (hpar : ∀ k, (f k).parent = k.parent)
    (hpt : groupOf d (f kr) = (groupOf d kr).map (fun g => { g with items := F g.items }))
    (comp : Option Nat) (drv : Bool) :
    extract (mapRel d r f) comp drv = mapGroup (extract d comp drv) kr.numb F :=
  congrArg (Schema.mk _) (filterMap_point (fun (k : Rel) => k.id) SGroup.rel _ (groupOf d) (groupOf d) wf.relIds hr f
    (fun k => by rw [hpar]) (fun _ _ _ => rfl) _ hpt kr.numb (fun _ hw => groupOf_rel hw)
    (fun y hy he z hz hn => he (by
      rw [wf.numb_inj hy (findRel_mem hr) ((groupOf_rel hz).symm.trans hn), findRel_id hr])))

theorem mapEnd_not_fits {k : RelKind} {sel : EndSel} (f : End → End) (h : k.fits sel = false) :
    k.mapEnd sel f = k := by
  cases k <;> cases sel <;> first | rfl | cases h

theorem relEdit_nop {d : ClassDiagram} (wf : WF d) {r : Nat} {sel : EndSel} {fe : End → End} {kr : Rel}
    (hr : findRel d r = some kr) (hfit : kr.kind.fits sel = false) :
    mapRel d r (fun k => { k with kind := k.kind.mapEnd sel fe }) = d :=
  mapRel_self fun k hk he => by rw [rel_eq_of_id wf hr hk he, mapEnd_not_fits fe hfit]

theorem endEdit_commutes {d : ClassDiagram} (wf : WF d) (r : Nat) (sel : EndSel) {f : End → End} {E : Nat → SEdit}
    {F : List SAssoc → List SAssoc} (hE : ∀ n s, schemaEdit (E n) s = mapGroup s n F)
    (hpt : ∀ kr : Rel, kr.kind.fits sel = true →
      groupOf d { kr with kind := kr.kind.mapEnd sel f } = (groupOf d kr).map (fun g => { g with items := F g.items }))
    (comp : Option Nat) (drv : Bool) :
    extract (mapRel d r (fun k => { k with kind := k.kind.mapEnd sel f })) comp drv =
      schemaEdit (match findRel d r with
        | some k => if k.kind.fits sel then E k.numb else .nop
        | none => .nop) (extract d comp drv) := by
  cases hr : findRel d r with
  | none =>
    rw [mapRel_missing hr]
    rfl
  | some kr =>
    dsimp only
    cases hfit : kr.kind.fits sel with
    | true => exact (relEdit_commutes wf hr (by intro _; rfl) (hpt kr hfit) comp drv).trans (hE _ _).symm
    | false => rw [relEdit_nop wf hr hfit]; rfl

/-! After the split on the kind of relationship and on the end, both sides are the same `match` on the classes found, and
  equal by computation in each of its arms. -/

theorem setMult_point {d : ClassDiagram} {kr : Rel} {sel : EndSel} {v : Bool} (hfit : kr.kind.fits sel = true) :
    groupOf d { kr with kind := kr.kind.mapEnd sel (fun x => { x with mult := v }) } =
      (groupOf d kr).map (fun g => { g with items := itemsSetMult sel v g.items }) := by
  unfold groupOf
  cases hk : kr.kind with
  | simple form part refs =>
    rw [hk] at hfit
    cases sel <;> first | cases hfit | skip
    all_goals
      dsimp only [RelKind.mapEnd]
      cases findClass d form.cls <;> cases findClass d part.cls <;> rfl
  | linked one oth link r1 r2 =>
    rw [hk] at hfit
    cases sel <;> first | cases hfit | skip
    all_goals
      dsimp only [RelKind.mapEnd]
      cases findClass d link <;> cases findClass d one.cls <;> cases findClass d oth.cls <;> rfl
  | subsup sup subs => rw [hk] at hfit; cases hfit
  | derived => rw [hk] at hfit; cases hfit

theorem setCond_point {d : ClassDiagram} {kr : Rel} {sel : EndSel} {v : Bool} (hfit : kr.kind.fits sel = true) :
    groupOf d { kr with kind := kr.kind.mapEnd sel (fun x => { x with cond := v }) } =
      (groupOf d kr).map (fun g => { g with items := itemsSetCond sel v g.items }) := by
  unfold groupOf
  cases hk : kr.kind with
  | simple form part refs =>
    rw [hk] at hfit
    cases sel <;> first | cases hfit | skip
    all_goals
      dsimp only [RelKind.mapEnd]
      cases findClass d form.cls <;> cases findClass d part.cls <;> rfl
  | linked one oth link r1 r2 =>
    rw [hk] at hfit
    cases sel <;> first | cases hfit | skip
    all_goals
      dsimp only [RelKind.mapEnd]
      cases findClass d link <;> cases findClass d one.cls <;> cases findClass d oth.cls <;> rfl
  | subsup sup subs => rw [hk] at hfit; cases hfit
  | derived => rw [hk] at hfit; cases hfit

theorem same_cls_iff {d : ClassDiagram} (wf : WF d) {i j : Nat} {a b : Class}
    (ha : findClass d i = some a) (hb : findClass d j = some b) : (i == j) = (a.kl == b.kl) := by
  rw [← findClass_id ha]
  exact id_eq_iff_kl_eq wf hb (findClass_mem ha)

/-- phrases show on reflexive relationships only: the model tests the class identifiers, the schema edit the key letters;
    `same_cls_iff` makes the two tests one Boolean before the split on it -/
theorem setPhrase_point {d : ClassDiagram} (wf : WF d) {kr : Rel} {sel : EndSel} {v : String}
    (hfit : kr.kind.fits sel = true) :
    groupOf d { kr with kind := kr.kind.mapEnd sel (fun x => { x with phrase := v }) } =
      (groupOf d kr).map (fun g => { g with items := itemsSetPhrase sel v g.items }) := by
  unfold groupOf
  cases hk : kr.kind with
  | simple form part refs =>
    rw [hk] at hfit
    cases sel <;> first | cases hfit | skip
    all_goals
      dsimp only [RelKind.mapEnd]
      cases hf : findClass d form.cls <;> cases hp : findClass d part.cls <;> try rfl
      rename_i fc pc
      rw [same_cls_iff wf hf hp]
      dsimp only [Option.map_some, itemsSetPhrase]
      cases fc.kl == pc.kl <;> rfl
  | linked one oth link r1 r2 =>
    rw [hk] at hfit
    cases sel <;> first | cases hfit | skip
    all_goals
      dsimp only [RelKind.mapEnd]
      cases findClass d link <;> cases ho : findClass d one.cls <;> cases ht : findClass d oth.cls <;> try rfl
      rename_i lc oc tc
      rw [same_cls_iff wf ho ht]
      dsimp only [Option.map_some, itemsSetPhrase]
      cases oc.kl == tc.kl <;> rfl
  | subsup sup subs => rw [hk] at hfit; cases hfit
  | derived => rw [hk] at hfit; cases hfit

section ends
variable {d : ClassDiagram} (wf : WF d)

include wf in
theorem setMult_commutes (r : Nat) (sel : EndSel) (v : Bool) (comp : Option Nat) (drv : Bool) :
    extract (applyEdit (.setMult r sel v) d) comp drv =
      schemaEdit (resolve d comp drv (.setMult r sel v)) (extract d comp drv) :=
  endEdit_commutes wf r sel (E := fun n => .setMult n sel v) (fun _ _ => rfl) (fun _ => setMult_point) comp drv

include wf in
theorem setCond_commutes (r : Nat) (sel : EndSel) (v : Bool) (comp : Option Nat) (drv : Bool) :
    extract (applyEdit (.setCond r sel v) d) comp drv =
      schemaEdit (resolve d comp drv (.setCond r sel v)) (extract d comp drv) :=
  endEdit_commutes wf r sel (E := fun n => .setCond n sel v) (fun _ _ => rfl) (fun _ => setCond_point) comp drv

include wf in
theorem setPhrase_commutes (r : Nat) (sel : EndSel) (v : String) (comp : Option Nat) (drv : Bool) :
    extract (applyEdit (.setPhrase r sel v) d) comp drv =
      schemaEdit (resolve d comp drv (.setPhrase r sel v)) (extract d comp drv) :=
  endEdit_commutes wf r sel (E := fun n => .setPhrase n sel v) (fun _ _ => rfl) (fun _ => setPhrase_point wf) comp drv

end ends

section moveRel
variable {d : ClassDiagram} (wf : WF d)

theorem groupOf_parent (d : ClassDiagram) (k : Rel) (p : Parent) :
    groupOf d { k with parent := p } = groupOf d k := rfl

include wf in
theorem moveRel_commutes (r : Nat) (p : Parent) (comp : Option Nat) (drv : Bool) :
    extract (applyEdit (.moveRel r p) d) comp drv =
      schemaEdit (resolve d comp drv (.moveRel r p)) (extract d comp drv) := by
  simp only [resolve]
  cases hr : findRel d r with
  | none =>
    rw [show applyEdit (.moveRel r p) d = d from mapRel_missing hr _]
    rfl
  | some kr =>
    have hm := filterMap_move (fun (k : Rel) => k.id) SGroup.rel (fun k => inScope d.containers d.pkgrefs comp k.parent)
      (groupOf d) (groupOf d) wf.relIds hr (fun k => { k with parent := p }) (fun k => by split <;> rfl)
      (fun y hy z hz w hw he => by
        rw [groupOf_rel hz, groupOf_rel hw] at he
        rw [wf.numb_inj hy (findRel_mem hr) he, findRel_id hr])
    show Schema.mk _ (((d.rels.map (fun k => if k.id == r then { k with parent := p } else k)).filter
      (fun k => inScope d.containers d.pkgrefs comp k.parent)).filterMap (groupOf d)) = _
    rw [hm]
    dsimp only
    cases inScope d.containers d.pkgrefs comp kr.parent <;> cases inScope d.containers d.pkgrefs comp p <;>
      cases hg : groupOf d kr <;> try rfl
    rw [← groupOf_rel hg]
    rfl

end moveRel
end Pyx.Extract
