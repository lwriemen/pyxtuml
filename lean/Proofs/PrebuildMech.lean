import PyxModel.Prebuild.Mech

/-
  C06: the typing mechanism (`buildExpr`: R820 obtained by navigating from the operands' values)
  produces exactly the rows of the specification walk, and R820 of the value of `e` is `typeOf e`.
-/
namespace Pyx.Prebuild

/-- the generic instance-reference type is not the reference type of a modelled class -/
def GenericFree (c : TCtx) : Prop := c.classOfType (some "inst_ref<Object>") = none

theorem fieldRow_ne_slr (cls : Option ClassInfo) (a : String) : ((fieldRow cls a).1 == "V_SLR") = false := by
  unfold fieldRow
  cases cls with
  | some ci => simp only; decide
  | none => simp only; split <;> decide

theorem kindOf_ne_slr (c : TCtx) (env : Env) (sel : Option String) (h : Expr) (hs : h ≠ .selected) :
    (kindOf c env sel h == "V_SLR") = false := by
  cases h with
  | selected => exact absurd rfl hs
  | var n =>
    simp only [kindOf]
    split
    · decide
    · decide
    · decide
    · split <;> decide
  | enum nsp n =>
    simp only [kindOf]
    split
    · split <;> decide
    · decide
  | field hh aa =>
    simp only [kindOf]
    split <;> exact fieldRow_ne_slr _ _
  | call k a b ps => cases k <;> (simp only [kindOf]; decide)
  | _ => simp only [kindOf]; decide

theorem typeOf_field (c : TCtx) (env : Env) (sel : Option String) (h : Expr) (a : String) (hs : h ≠ .selected) :
    typeOf c env sel (.field h a) = attrTy (tyClass c (typeOf c env sel h)) a := by
  cases h <;> first | exact absurd rfl hs | simp only [typeOf]

theorem field_ok (c : TCtx) (env : Env) (sel : Option String) (hg : GenericFree c) (h : Expr) (a : String) :
    fieldRow (fieldClass c sel (typeOf c env sel h) (kindOf c env sel h)) a =
      (kindOf c env sel (.field h a), typeOf c env sel (.field h a)) := by
  by_cases hs : h = .selected
  · subst hs
    have h0 : tyClass c (some "inst_ref<Object>") = none := by
      unfold tyClass; rw [show c.classOfType (some "inst_ref<Object>") = none from hg]
    simp [typeOf, fieldClass, kindOf, h0, attrTy]
  · have hk := kindOf_ne_slr c env sel h hs
    have e1 : typeOf c env sel (.field h a) = (fieldRow (tyClass c (typeOf c env sel h)) a).2 :=
      typeOf_field c env sel h a hs
    have e2 : kindOf c env sel (.field h a) = (fieldRow (tyClass c (typeOf c env sel h)) a).1 := by
      cases h <;> first | exact absurd rfl hs | simp only [kindOf]
    rw [e1, e2]
    have e3 : fieldClass c sel (typeOf c env sel h) (kindOf c env sel h) = tyClass c (typeOf c env sel h) := by
      simp only [fieldClass, hk]
      cases tyClass c (typeOf c env sel h) <;> rfl
    rw [e3]

theorem get_stable {l : List Row} {i : Nat} {x : Row} (m : List Row) (h : l[i]? = some x) :
    (l ++ m)[i]? = some x := by
  have hi : i < l.length := by
    cases hlt : decide (i < l.length) with
    | true => exact of_decide_eq_true hlt
    | false =>
      have : l.length ≤ i := Nat.le_of_not_lt (of_decide_eq_false hlt)
      rw [List.getElem?_eq_none this] at h; cases h
  rw [List.getElem?_append_left hi]; exact h

theorem r820_of {p : Pop} {i : Nat} {k : String} {t : Ty} (h : p.vals[i]? = some (k, t)) : p.r820 i = t := by
  simp [Pop.r820, h]

theorem kind_of {p : Pop} {i : Nat} {k : String} {t : Ty} (h : p.vals[i]? = some (k, t)) : p.kind i = k := by
  simp [Pop.kind, h]

theorem typeOf_call_nil (c : TCtx) (env : Env) (sel : Option String) (k : CallKind) (nsp n : String) (ps : Params) :
    typeOf c env sel (.call k nsp n .nil) = typeOf c env sel (.call k nsp n ps) := by
  cases k <;> simp [typeOf]

/-- the invariant: the mechanism appends exactly the rows of the specification walk, and the instance it
    returns for `e` carries `kindOf e` and, across R820, `typeOf e` -/
def Good (c : TCtx) (env : Env) (sel : Option String) (e : Expr) (p : Pop) (r : Nat × Pop) : Prop :=
  r.2.vals = p.vals ++ walkExpr c env sel e ∧
  r.2.vals[r.1]? = some (kindOf c env sel e, typeOf c env sel e)

theorem Good.node {c : TCtx} {env : Env} {sel : Option String} {e : Expr} {p q : Pop} {w : List Row}
    (h1 : q.vals = p.vals ++ w) (hw : walkExpr c env sel e = w ++ [(kindOf c env sel e, typeOf c env sel e)]) :
    Good c env sel e p (q.newVal (kindOf c env sel e) (typeOf c env sel e)) :=
  ⟨by simp [Pop.newVal, h1, hw], by simp [Pop.newVal]⟩

mutual
  theorem buildExpr_good (c : TCtx) (env : Env) (sel : Option String) (hg : GenericFree c) :
      ∀ (e : Expr) (p : Pop), Good c env sel e p (buildExpr c env sel e p)
    | .int _, p | .real _, p | .str _, p | .bool _, p | .enum _ _, p | .var _, p | .self, p | .selected, p | .param _, p => by
        simpa [buildExpr] using Good.node (w := []) (List.append_nil _).symm (by simp [walkExpr])
    | .field h a, p => by
        obtain ⟨h1, h2⟩ := buildExpr_good c env sel hg h p
        simp only [buildExpr, r820_of h2, kind_of h2, field_ok c env sel hg h a]
        exact .node h1 (by simp [walkExpr])
    | .index h i, p => by
        obtain ⟨h1, h2⟩ := buildExpr_good c env sel hg h p
        obtain ⟨i1, _⟩ := buildExpr_good c env sel hg i (buildExpr c env sel h p).2
        -- R820 of the handle is read in the LATER population: its row is where it was once the index's rows are appended
        have h2' := get_stable (walkExpr c env sel i) h2
        rw [← i1] at h2'
        simp only [buildExpr, r820_of h2']
        exact .node (i1.trans (by rw [h1, List.append_assoc])) (by simp [walkExpr])
    | .un op e, p => by
        obtain ⟨h1, h2⟩ := buildExpr_good c env sel hg e p
        have hty : opType op (typeOf c env sel e) = typeOf c env sel (.un op e) := by simp [opType, typeOf]
        simp only [buildExpr, r820_of h2, hty]
        exact .node h1 (by simp [walkExpr])
    | .bin l op r, p => by
        obtain ⟨h1, h2⟩ := buildExpr_good c env sel hg l p
        obtain ⟨r1, _⟩ := buildExpr_good c env sel hg r (buildExpr c env sel l p).2
        have h2' := get_stable (walkExpr c env sel r) h2
        rw [← r1] at h2'
        have hty : binType op (typeOf c env sel l) = typeOf c env sel (.bin l op r) := by simp [binType, typeOf]
        simp only [buildExpr, r820_of h2', hty]
        exact .node (r1.trans (by rw [h1, List.append_assoc])) (by simp [walkExpr])
    | .call k nsp n ps, p => by
        have hp := buildParams_good c env sel hg ps (p.newVal (kindOf c env sel (.call k nsp n ps))
          (typeOf c env sel (.call k nsp n .nil))).2
        -- the call's own value is created before the parameters' and typed without them
        have hnil := typeOf_call_nil c env sel k nsp n ps
        simp only [buildExpr, Good]
        rw [hp, hnil]
        simp only [Pop.newVal]
        refine ⟨by simp [walkExpr], ?_⟩
        exact get_stable _ List.getElem?_concat_length
    | .icall h n ps, p => by
        obtain ⟨h1, h2⟩ := buildExpr_good c env sel hg h p
        have ht := r820_of h2
        have hp := buildParams_good c env sel hg ps
          ((buildExpr c env sel h p).2.newVal "V_TRV" (opTy (tyClass c (typeOf c env sel h)) n)).2
        simp only [buildExpr, Good, ht]
        rw [hp]
        simp only [Pop.newVal]
        refine ⟨by rw [h1]; simp [walkExpr, kindOf, typeOf], ?_⟩
        simp [kindOf, typeOf]
  theorem buildParams_good (c : TCtx) (env : Env) (sel : Option String) (hg : GenericFree c) :
      ∀ (ps : Params) (p : Pop), (buildParamsRev c env sel ps p).vals = p.vals ++ walkParamsRev c env sel ps
    | .nil, p => by simp [buildParamsRev, walkParamsRev]
    | .cons n e rest, p => by
        obtain ⟨h1, _⟩ := buildExpr_good c env sel hg e (buildParamsRev c env sel rest p)
        simp only [buildParamsRev, walkParamsRev]
        rw [h1, buildParams_good c env sel hg rest p, List.append_assoc]
end

end Pyx.Prebuild
