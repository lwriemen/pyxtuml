import Proofs.SqlCharLex
import Proofs.SqlTokenRoundtrip

/-! character level: the text of every printed item lexes to the token list `Item.toks` -/
namespace Pyx.Sql
open Gen.SqlLex (Rule Kw)
open Gen.Persist (Ty)

def LexTo (u : UC) (text : Text) (toks : List Tok) (rest : Text) : Prop :=
  lex u (text ++ rest) = (lex u rest).map (fun more => toks ++ more)

theorem LexTo.nil (u : UC) (rest : Text) : LexTo u [] [] rest := by
  unfold LexTo; cases h : lex u rest <;> simp [h]

theorem LexTo.append (u : UC) {a b : Text} {ta tb : List Tok} {rest : Text}
    (ha : LexTo u a ta (b ++ rest)) (hb : LexTo u b tb rest) : LexTo u (a ++ b) (ta ++ tb) rest := by
  unfold LexTo at *
  rw [List.append_assoc, ha, hb]
  cases lex u rest <;> simp

theorem LexTo.of_eq (u : UC) {a : Text} {ta : List Tok} {rest : Text}
    (h : lex u (a ++ rest) = (lex u rest).map (fun more => ta ++ more)) : LexTo u a ta rest := h

theorem LexTo.newline (u : UC) (rest : Text) : LexTo u ['\n'] [] rest := by
  unfold LexTo; simp only [List.cons_append, List.nil_append, lex_newline]; cases lex u rest <;> simp

/-! The printed text is read from the left: each lemma puts one fragment -- a layout character, a punctuation character, a
    reserved word with its blank, an identifier, a value -- in front of a text `t` that lexes to `ts`. -/

section front
variable {u : UC} {t : Text} {ts : List Tok} {rest : Text}

theorem LexTo.sp (h : LexTo u t ts rest) : LexTo u (' ' :: t) ts rest := by
  unfold LexTo at *; rw [List.cons_append, lex_space]; exact h

theorem LexTo.nl (h : LexTo u t ts rest) : LexTo u ('\n' :: t) ts rest := by
  unfold LexTo at *; rw [List.cons_append, lex_newline]; exact h

theorem LexTo.lparen (h : LexTo u t ts rest) : LexTo u ('(' :: t) (lparenTok :: ts) rest :=
  LexTo.append u (a := ['(']) (ta := [lparenTok]) (lex_lparen u _) h

theorem LexTo.rparen (h : LexTo u t ts rest) : LexTo u (')' :: t) (rparenTok :: ts) rest :=
  LexTo.append u (a := [')']) (ta := [rparenTok]) (lex_rparen u _) h

theorem LexTo.comma (h : LexTo u t ts rest) : LexTo u (',' :: t) (commaTok :: ts) rest :=
  LexTo.append u (a := [',']) (ta := [commaTok]) (lex_comma u _) h

theorem LexTo.semi (h : LexTo u t ts rest) : LexTo u (';' :: t) (semiTok :: ts) rest :=
  LexTo.append u (a := [';']) (ta := [semiTok]) (lex_semi u _) h

theorem LexTo.kw (k : Kw) (h : LexTo u t ts rest) : LexTo u (k.chars ++ ' ' :: t) (kwTok k :: ts) rest := by
  unfold LexTo at *; rw [List.append_assoc, List.cons_append, lex_kw, h, Option.map_map]; rfl

theorem LexTo.word {w : Text} (hw : IdentOk w) (hs : Safe (t ++ rest)) (h : LexTo u t ts rest) :
    LexTo u (w ++ t) (wordTok u w :: ts) rest :=
  LexTo.append u (ta := [wordTok u w]) (lex_word u w hw _ hs) h

theorem LexTo.value {ty : Ty} {v : Val} {txt : Text} {vts : List Tok} (hf : fmtValue ty v = some txt)
    (hv : valueToks ty v = some vts) (hs : Safe (t ++ rest)) (h : LexTo u t ts rest) :
    LexTo u (txt ++ t) (vts ++ ts) rest :=
  LexTo.append u (lex_value u ty v txt vts hf hv _ hs) h

end front

theorem LexTo.ident (u : UC) (w : Text) (hw : IdentOk w) (rest : Text) (hs : Safe rest) : LexTo u w [wordTok u w] rest :=
  lex_word u w hw rest hs

theorem LexTo.seq {u : UC} {a : Text} {ta : List Tok} {t : Text} {ts : List Tok} {rest : Text}
    (ha : ∀ r, Safe r → LexTo u a ta r) (hs : Safe (t ++ rest)) (h : LexTo u t ts rest) :
    LexTo u (a ++ t) (ta ++ ts) rest := LexTo.append u (ha _ hs) h

theorem LexTo.comment (u : UC) (body rest : Text) (h : ∀ c ∈ body, c ≠ '\n') :
    LexTo u ('-' :: '-' :: (body ++ ['\n'])) [] rest := by
  unfold LexTo
  have : '-' :: '-' :: (body ++ ['\n']) ++ rest = '-' :: '-' :: (body ++ '\n' :: rest) := by simp
  rw [this, lex_comment u body rest h]; cases lex u rest <;> simp

theorem LexTo.joined {α : Type} (u : UC) (sep : Text) (enc : α → Text) (encToks : α → List Tok) (P : α → Prop)
    (hsepSafe : ∀ r, Safe (sep ++ r))
    (hsep : ∀ r, LexTo u sep [commaTok] r)
    (helem : ∀ x, P x → ∀ r, Safe r → LexTo u (enc x) (encToks x) r) :
    ∀ (xs : List α), (∀ x ∈ xs, P x) → ∀ (rest : Text), Safe rest →
      LexTo u (joinWith sep (xs.map enc)) (sepToks (xs.map encToks)) rest := by
  intro xs
  induction xs with
  | nil => intro _ rest _; exact LexTo.nil u rest
  | cons x xs ih =>
    intro hP rest hrest
    cases xs with
    | nil => simpa [joinWith, sepToks] using helem x (hP x (by simp)) rest hrest
    | cons y ys =>
      have ih' := ih (fun a ha => hP a (by simp [ha])) rest hrest
      simp only [List.map_cons, joinWith, sepToks] at ih' ⊢
      have h1 : LexTo u (enc x) (encToks x) ((sep ++ joinWith sep (enc y :: ys.map enc)) ++ rest) :=
        helem x (hP x (by simp)) _ (by rw [List.append_assoc]; exact hsepSafe _)
      have h2 : LexTo u sep [commaTok] (joinWith sep (enc y :: ys.map enc) ++ rest) := hsep _
      have h4 := LexTo.append u h1 (LexTo.append u h2 ih')
      simpa [List.append_assoc] using h4

theorem safe_app_space (a r : Text) : Safe ([' '] ++ a ++ r) := Safe.cons_space _
theorem safe_app_comma (a r : Text) : Safe (',' :: a ++ r) := Safe.cons_comma _
theorem safe_app_newline (a r : Text) : Safe ('\n' :: a ++ r) := Safe.cons_newline _

theorem lexTo_idents (u : UC) (names : List Name) (h : ∀ n ∈ names, IdentOk n) (r : Text) (hr : Safe r) :
    LexTo u (joinWith [',', ' '] names) (sepToks (names.map fun n => [wordTok u n])) r := by
  have := LexTo.joined u [',', ' '] (fun n : Name => n) (fun n => [wordTok u n]) IdentOk
    (fun r => Safe.cons_comma _) (fun r => .comma (.sp (.nil u r))) (LexTo.ident u) names h r hr
  simpa using this

theorem identOk_M : IdentOk ['M'] := ⟨by decide, by decide, by decide, by decide⟩
theorem identOk_MC : IdentOk ['M', 'C'] := ⟨by decide, by decide, by decide, by decide⟩

theorem lexTo_card (u : UC) (many cond : Bool) (r : Text) (hr : Safe r) :
    LexTo u (cardText many cond) (cardToks u many cond) r := by
  cases many <;> cases cond
  · exact lex_of_emit u _ _ _ (step_number u '1' [] r (by decide) (hr.numFollow u))
  · exact lex_of_emit u _ _ _ (step_1C u r)
  · exact LexTo.ident u ['M'] identOk_M r hr
  · exact LexTo.ident u ['M', 'C'] identOk_MC r hr

def RelOk (rel : Name) : Prop := ∃ d ds, rel = 'R' :: d :: ds ∧ ∀ c ∈ d :: ds, isAsciiDigit c = true

theorem lexTo_rel (u : UC) (rel : Name) (h : RelOk rel) (r : Text) (hr : Safe r) : LexTo u rel [⟨.RELID, rel⟩] r := by
  obtain ⟨d, ds, rfl, hd⟩ := h
  exact lex_of_emit u _ _ _ (step_relid u d ds r hd hr.not_asciiDigit)

def phraseText (phrase : Text) : Text :=
  if phrase.isEmpty then [] else [' '] ++ ((Kw.PHRASE.chars ++ [' ']) ++ strText phrase)

theorem lexTo_phrase (u : UC) (phrase : Text) (r : Text) (hr : Safe r) :
    LexTo u (phraseText phrase) (phraseToks phrase) r := by
  unfold phraseText phraseToks
  by_cases hp : phrase.isEmpty
  · simp only [hp, if_true]; exact LexTo.nil u r
  · simp only [hp, Bool.false_eq_true, if_false]
    have hs : LexTo u (strText phrase) [⟨.STRING, strText phrase⟩] r :=
      lex_of_emit u _ _ _ (step_string u phrase r hr.not_quote)
    exact .sp (LexTo.append u (a := Kw.PHRASE.chars ++ [' ']) (ta := [kwTok .PHRASE]) (lex_kw u .PHRASE _) hs)

structure EndOk (e : EndM) : Prop where
  kind : IdentOk e.kind
  keys : ∀ k ∈ e.keys, IdentOk k

/-! From here on the string constants of the printer are first turned into character lists (`String.reduceToList`); the
    text is then read from the left, fragment by fragment. -/

theorem lexTo_end (u : UC) (e : EndM) (h : EndOk e) (r : Text) (hr : Safe r) : LexTo u (endText e) (endToks u e) r := by
  have hph : (if e.phrase.isEmpty then [] else " PHRASE '".toList ++ escapeQ e.phrase ++ ['\'']) = phraseText e.phrase := by
    unfold phraseText strText
    split
    · rfl
    · simp only [String.reduceToList, List.append_assoc, List.cons_append, List.nil_append]; rfl
  rw [endText, hph]
  simp only [List.append_assoc, List.cons_append, List.nil_append]
  exact LexTo.append u (lexTo_card u e.many e.cond _ (Safe.cons_space _)) <|
    .sp <| .word h.kind (Safe.cons_space _) <| .sp <| .lparen <|
    LexTo.append u (lexTo_idents u e.keys h.keys _ (Safe.cons_rparen _)) <|
    .rparen <| lexTo_phrase u e.phrase r hr

def NoNewline (t : Text) : Prop := ∀ c ∈ t, c ≠ '\n'

theorem cellToks_of_text (u : UC) (ty : Name) (v : Option Val) (txt : Text) (h : cellText u ty v = some txt) :
    ∃ ts, cellToks u ty v = some (txt, ts) := by
  unfold cellText at h
  unfold cellToks
  split at h
  · simp at h
  · rename_i t ht
    rw [ht]
    rw [printValue_eq] at h
    cases hx : resolveVal t v with
    | none => simp [hx] at h
    | some x =>
      simp only [hx, Option.bind_some] at h
      obtain ⟨ts, hts, _⟩ := valueToks_of_fmt t x txt h
      exact ⟨ts, by simp only [hx, h, hts]⟩

theorem lexTo_cell (u : UC) (ty : Name) (v : Option Val) (c : Text × List Tok) (h : cellToks u ty v = some c)
    {t : Text} {ts : List Tok} {rest : Text} (hs : Safe (t ++ rest)) (ht : LexTo u t ts rest) :
    LexTo u (c.1 ++ t) (c.2 ++ ts) rest := by
  unfold cellToks at h
  split at h
  · simp at h
  · split at h
    · simp at h
    · split at h
      · rename_i hf hv
        simp only [Option.some.injEq] at h; subst h
        exact .value hf hv hs ht
      · simp at h

/-- a line comment with nothing behind it but the end of its line: the newline itself is left to the text that follows -/
theorem LexTo.comment_nl (u : UC) (body : Text) (h : ∀ c ∈ body, c ≠ '\n') {t : Text} {ts : List Tok} {rest : Text}
    (hn : ∃ m, t ++ rest = '\n' :: m) (ht : LexTo u t ts rest) : LexTo u ('-' :: '-' :: (body ++ t)) ts rest := by
  obtain ⟨m, hm⟩ := hn
  unfold LexTo at *
  rw [← ht, show '-' :: '-' :: (body ++ t) ++ rest = '-' :: '-' :: (body ++ (t ++ rest)) by simp, hm,
    lex_comment u body m h, lex_newline]

theorem valueLines_head (u : UC) (a : Name × Name) (attrs : List (Name × Name)) (vals : List (Option Val)) (ls : Text)
    (h : valueLines u (a :: attrs) vals = some ls) : ∃ m, ls = '\n' :: m := by
  have e : "\n    ".toList = ['\n', ' ', ' ', ' ', ' '] := by simp only [String.reduceToList]
  cases vals with
  | nil => simp [valueLines] at h
  | cons v vs =>
    simp only [valueLines] at h
    split at h
    · simp only [Option.some.injEq, e, List.append_assoc, List.cons_append] at h
      exact ⟨_, h.symm⟩
    · simp at h

/-- the lines of `serialize_instance`, each with its trailing comment, lex to the value tokens separated by commas when
    a newline follows the last line -/
theorem lexTo_valueLines (u : UC) : ∀ (attrs : List (Name × Name)) (vals : List (Option Val)) (ls : Text),
    valueLines u attrs vals = some ls → (∀ a ∈ attrs, NoNewline a.1 ∧ NoNewline a.2) →
    ∃ cells, rowCells u attrs vals = some cells ∧ ∀ rest, LexTo u ls (sepToks (cells.map fun c => c.2)) ('\n' :: rest) := by
  intro attrs
  induction attrs with
  | nil =>
    intro vals ls h _
    simp only [valueLines, Option.some.injEq] at h; subst h
    exact ⟨[], rfl, fun rest => LexTo.nil u _⟩
  | cons a attrs ih =>
    intro vals ls h hnn
    obtain ⟨name, ty⟩ := a
    cases vals with
    | nil => simp [valueLines] at h
    | cons v vs =>
      simp only [valueLines] at h
      cases hc : cellText u ty v with
      | none => simp [hc] at h
      | some txt =>
        cases hm : valueLines u attrs vs with
        | none => simp [hc, hm] at h
        | some more =>
          obtain ⟨ts, hts⟩ := cellToks_of_text u ty v txt hc
          obtain ⟨cs, hcs, ih⟩ := ih vs more hm (fun a ha => hnn a (by simp [ha]))
          refine ⟨(txt, ts) :: cs, by simp only [rowCells, hts, hcs], fun rest => ?_⟩
          have hbody : ∀ x ∈ ' ' :: (name ++ ' ' :: ':' :: ' ' :: ty), x ≠ '\n' := by
            intro x hx
            simp only [List.mem_cons, List.mem_append] at hx
            rcases hx with rfl | hx | rfl | rfl | rfl | hx
            · decide
            · exact (hnn (name, ty) (by simp)).1 x hx
            · decide
            · decide
            · decide
            · exact (hnn (name, ty) (by simp)).2 x hx
          cases attrs with
          | nil =>
            simp only [hc, hm, List.isEmpty_nil, if_true, Option.some.injEq] at h
            simp only [String.reduceToList, List.append_assoc, List.cons_append, List.nil_append] at h
            subst h
            simp only [valueLines, Option.some.injEq] at hm
            simp only [rowCells, Option.some.injEq] at hcs
            subst hm hcs
            have := lexTo_cell u ty v (txt, ts) hts (t := ' ' :: '-' :: '-' :: (' ' :: (name ++ ' ' :: ':' :: ' ' :: ty) ++ []))
              (rest := '\n' :: rest) (Safe.cons_space _) (.sp (LexTo.comment_nl u _ hbody ⟨_, rfl⟩ (LexTo.nil u _)))
            simpa [sepToks] using LexTo.nl (.sp (.sp (.sp (.sp this))))
          | cons a' as' =>
            simp only [hc, hm, List.isEmpty_cons, Bool.false_eq_true, if_false, Option.some.injEq] at h
            simp only [String.reduceToList, List.append_assoc, List.cons_append, List.nil_append] at h
            subst h
            -- the next line begins with the newline that ends this line's comment
            obtain ⟨m, rfl⟩ := valueLines_head u a' as' vs more hm
            cases cs with
            | nil => exact absurd (rowCells_length u _ _ _ hcs) (by simp)
            | cons d ds =>
              have := lexTo_cell u ty v (txt, ts) hts (rest := '\n' :: rest) (Safe.cons_comma _)
                (.comma (.sp (LexTo.comment_nl u _ hbody ⟨_, rfl⟩ (ih rest))))
              simpa [sepToks] using LexTo.nl (.sp (.sp (.sp (.sp this))))

/-- the persistable domain, per printed item -/
def Item.WF (u : UC) : Item → Prop
  | .cls kind attrs => IdentOk kind ∧ ∀ a ∈ attrs, IdentOk a.1 ∧ IdentOk (u.upper a.2)
  | .assoc rel s t => RelOk rel ∧ EndOk s ∧ EndOk t
  | .inst kind attrs _ => IdentOk kind ∧ ∀ a ∈ attrs, NoNewline a.1 ∧ NoNewline a.2
  | .index name kind attrs => IdentOk name ∧ IdentOk kind ∧ ∀ a ∈ attrs, IdentOk a

theorem lexTo_item (u : UC) (it : Item) (hw : it.WF u) (txt : Text) (hp : it.print u = some txt) :
    ∃ toks, it.toks u = some toks ∧ ∀ rest, LexTo u txt toks rest := by
  cases it with
  | cls kind attrs =>
    simp only [Item.print, String.reduceToList, List.append_assoc, Option.some.injEq] at hp
    subst hp
    have hattrs := LexTo.joined u [',', '\n', ' ', ' ', ' ', ' '] (fun a : Name × Name => a.1 ++ ' ' :: u.upper a.2)
      (fun a => [wordTok u a.1, wordTok u (u.upper a.2)]) (fun a => IdentOk a.1 ∧ IdentOk (u.upper a.2))
      (fun r => Safe.cons_comma _) (fun r => .comma (.nl (.sp (.sp (.sp (.sp (.nil u r)))))))
      (fun a h r hr => .word h.1 (Safe.cons_space _) (.sp (LexTo.ident u _ h.2 r hr))) attrs hw.2
    exact ⟨_, rfl, fun rest =>
      .kw .CREATE <| .kw .TABLE <| .word hw.1 (Safe.cons_space _) <| .sp <| .lparen <|
      .nl <| .sp <| .sp <| .sp <| .sp <|
      .seq (a := joinWith _ _) hattrs (Safe.cons_newline _) <|
      .nl <| .rparen <| .semi <| .nl <| .nil u rest⟩
  | assoc rel s t =>
    simp only [Item.print, String.reduceToList, List.append_assoc, List.cons_append, List.nil_append, Option.some.injEq] at hp
    subst hp
    exact ⟨_, rfl, fun rest =>
      .kw .CREATE <| .kw .ROP <| .kw .REF_ID <| .seq (a := rel) (lexTo_rel u rel hw.1) (Safe.cons_space _) <| .sp <|
      .kw .FROM <| .seq (a := endText s) (lexTo_end u s hw.2.1) (Safe.cons_space _) <| .sp <|
      .kw .TO <| .seq (a := endText t) (lexTo_end u t hw.2.2) (Safe.cons_semi _) <|
      .semi <| .nl <| .nil u rest⟩
  | inst kind attrs vals =>
    simp only [Item.print] at hp
    cases hl : valueLines u attrs vals with
    | none => simp [hl] at hp
    | some ls =>
      obtain ⟨cells, hc, hlex⟩ := lexTo_valueLines u attrs vals ls hl hw.2
      simp only [hl, String.reduceToList, List.append_assoc, List.cons_append, List.nil_append, Option.some.injEq] at hp
      subst hp
      exact ⟨_, by simp only [Item.toks, hc], fun rest =>
        .kw .INSERT <| .kw .INTO <| .word hw.1 (Safe.cons_space _) <| .sp <| .kw .VALUES <| .lparen <|
        LexTo.append u (hlex _) <|
        .nl <| .rparen <| .semi <| .nl <| .nil u rest⟩
  | index name kind attrs =>
    simp only [Item.print, String.reduceToList, List.append_assoc, Option.some.injEq] at hp
    subst hp
    exact ⟨_, rfl, fun rest =>
      .kw .CREATE <| .kw .UNIQUE <| .kw .INDEX <| .word hw.1 (Safe.cons_space _) <| .sp <|
      .kw .ON <| .word hw.2.1 (Safe.cons_space _) <| .sp <| .lparen <|
      .seq (a := joinWith _ _) (lexTo_idents u attrs hw.2.2) (Safe.cons_rparen _) <|
      .rparen <| .semi <| .nl <| .nil u rest⟩

/-- CHARACTER LEVEL, any list of items (every writer route is one) -/
theorem lex_items (u : UC) : ∀ (items : List Item) (text : Text), (∀ it ∈ items, it.WF u) → printItems u items = some text →
    ∃ toks, itemsToks u items = some toks ∧ lex u text = some toks := by
  intro items
  induction items with
  | nil =>
    intro text _ h
    simp only [printItems, Option.some.injEq] at h; subst h
    exact ⟨[], rfl, lex_nil u⟩
  | cons it items ih =>
    intro text hw h
    simp only [printItems] at h
    cases hp : it.print u with
    | none => simp [hp] at h
    | some a =>
      cases hr : printItems u items with
      | none => simp [hp, hr] at h
      | some b =>
        simp only [hp, hr, Option.some.injEq] at h; subst h
        obtain ⟨ta, hta, hlex⟩ := lexTo_item u it (hw it (by simp)) a hp
        obtain ⟨tb, htb, hlb⟩ := ih b (fun x hx => hw x (by simp [hx])) hr
        refine ⟨ta ++ tb, by simp only [itemsToks, hta, htb], ?_⟩
        have := hlex b
        unfold LexTo at this
        rw [this, hlb]; rfl

/-- ROUND TRIP: the text of every list of well-formed items is accepted by the loader and its statements are exactly
    the statements of the items -/
theorem classify_items (u : UC) (items : List Item) (text : Text) (hw : ∀ it ∈ items, it.WF u)
    (hp : printItems u items = some text) :
    ∃ stmts, itemsStmts u items = some stmts ∧ classify u text = .accepted stmts := by
  obtain ⟨toks, ht, hl⟩ := lex_items u items text hw hp
  obtain ⟨stmts, hs, hparse⟩ := parse_items u items toks ht
  exact ⟨stmts, hs, by simp only [classify, hl, hparse]⟩

end Pyx.Sql
