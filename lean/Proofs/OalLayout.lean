import Proofs.OalLex
import PyxModel.Oal.LexClass
import Proofs.Lib.Fuel

/-!
  Layout irrelevance of the OAL lexer model (property C07): well-formed lexemes separated by non-empty layout
  (blanks, tabs, CR, LF, block comments, line comments) are returned by `lex` exactly - no token is split, merged
  or swallowed (`layout_irrelevant`; `layout_irrelevant_units` with the fused unit `NS::` among the tokens).

  The statements are about `Pyx.OalLex.lex`, i.e. the rule table GENERATED from bridgepoint/oal.py
  (Gen/OalLex.lean): the proofs use the rule ORDER of that table (`cands`: the rules that can start with a
  character of a given class, evaluated on the table), so a reordered or changed rule breaks them.

  One `step_*` lemma per token class says: at a well-formed lexeme followed by any text its follow condition
  `Fol.ok` accepts, the first matching rule of the table is the lexeme's own and matches exactly the lexeme (a tail
  whose first character every class of a pattern rejects changes nothing: `Stops`, `Pat.run_extend`).  `lexAll_unit`
  is the case list over `LexUnit`; `lexAll_sem` alternates it with `lexAll_skip` (layout yields no token).
  Separation by NON-EMPTY layout is the special case in which the follow conditions hold because layout may follow
  every unit (`fol_layout`).

  Side conditions that are lexical facts of this language, not proof artefacts: the bare word `end` is not an
  identifier lexeme here (`end` + white space + `if|for|while` is ONE token); a `/` token must not be directly
  followed by a comment (`//`, `/*` start comments); separators between tokens are NON-EMPTY.
  The `tight` variant (no separator where the pairwise test `tightOk` allows it: `a+b`, `f(x)`, `x.y[1]`) is
  proved in Proofs/OalTight.lean.
-/
namespace Pyx.OalLex

/-- kinds and lexemes of `lexRun`, without offsets and lines -/
def lexKL (cfg : LexCfg) : Nat → List Char → List (List Char × List Char)
  | 0, _ => []
  | _ + 1, [] => []
  | fuel + 1, c :: cs =>
    if cfg.ignore.contains c then lexKL cfg fuel cs
    else
      match firstMatch cfg.rules (c :: cs) with
      | some (r, n) =>
        if r.returnsTok then (kindOf cfg r ((c :: cs).take n), (c :: cs).take n) :: lexKL cfg fuel ((c :: cs).drop n)
        else lexKL cfg fuel ((c :: cs).drop n)
      | none => lexKL cfg fuel cs

theorem lexRun_kl (cfg : LexCfg) (fuel : Nat) (cs : List Char) (off line : Nat) :
    (lexRun cfg fuel cs off line).1.map (fun t => (t.kind, t.lexeme)) = lexKL cfg fuel cs := by
  fun_induction lexRun cfg fuel cs off line with
  | case1 => rfl
  | case2 => rfl
  | case3 _ _ _ _ _ hig ih => rw [lexKL, if_pos hig]; exact ih
  | case4 _ _ _ _ _ hig _ _ hfm _ _ _ hret ih =>
    rw [lexKL, if_neg hig, hfm]
    simp only [hret, if_true, List.map_cons, mkTok]
    exact congrArg _ ih
  | case5 _ _ _ _ _ hig _ _ hfm _ _ _ hret ih =>
    rw [lexKL, if_neg hig, hfm]
    simp only [hret, Bool.false_eq_true, if_false]
    exact ih
  | case6 _ _ _ _ _ hig hfm ih => rw [lexKL, if_neg hig, hfm]; exact ih

theorem lexKL_fuel (cfg : LexCfg) (cs : List Char) : ∀ (fuel : Nat), cs.length ≤ fuel →
    lexKL cfg fuel cs = lexKL cfg cs.length cs := by
  intro fuel h
  refine fuel_agree List.length (lexKL cfg)
    (fun n m cs h => by obtain rfl := List.eq_nil_of_length_eq_zero h; cases n <;> cases m <;> rfl)
    (fun n m cs ih => ?_) fuel cs.length cs h (Nat.le_refl _)
  cases cs with
  | nil => rfl
  | cons c cs =>
    rw [lexKL, lexKL]
    split
    · exact ih cs (Nat.lt_succ_self _)
    · split
      · next r k hfm =>
        obtain ⟨_, _, hk⟩ := firstMatch_some hfm
        rw [ih ((c :: cs).drop k) (by simp only [List.length_drop, List.length_cons]; omega)]
      · exact ih cs (Nat.lt_succ_self _)

def lexAll (cfg : LexCfg) (cs : List Char) : List (List Char × List Char) := lexKL cfg cs.length cs

theorem lexWith_kl (cfg : LexCfg) (text : List Char) :
    (lexWith cfg text).map (fun t => (t.kind, t.lexeme)) = lexAll cfg text := lexRun_kl cfg _ _ _ _

theorem lexAll_nil (cfg : LexCfg) : lexAll cfg [] = [] := rfl

theorem lexAll_ignore (cfg : LexCfg) (c : Char) (cs : List Char) (h : cfg.ignore.contains c = true) :
    lexAll cfg (c :: cs) = lexAll cfg cs := by
  simp only [lexAll, List.length_cons, lexKL, h, if_true]

theorem lexAll_match (cfg : LexCfg) (c : Char) (cs : List Char) (r : Rule) (n : Nat)
    (hi : cfg.ignore.contains c = false) (hfm : firstMatch cfg.rules (c :: cs) = some (r, n)) :
    lexAll cfg (c :: cs) =
      if r.returnsTok then (kindOf cfg r ((c :: cs).take n), (c :: cs).take n) :: lexAll cfg ((c :: cs).drop n)
      else lexAll cfg ((c :: cs).drop n) := by
  obtain ⟨_, _, hn⟩ := firstMatch_some hfm
  have hlen : ((c :: cs).drop n).length ≤ cs.length := by
    simp only [List.length_drop, List.length_cons]; omega
  simp only [lexAll, List.length_cons, lexKL, hi, Bool.false_eq_true, if_false, hfm,
    lexKL_fuel cfg _ _ hlen]

theorem run_seq_ch_none (f : Char → Bool) (b : Pat) (x : Char) (cs : List Char) (h : f x = false) :
    Pat.run (.seq (.ch f) b) (x :: cs) = none := by
  simp [Pat.run, h]

theorem run_seq_of (a b : Pat) (s : List Char) (n : Nat) (h : Pat.run a s = some n) :
    Pat.run (.seq a b) s = (Pat.run b (s.drop n)).map (n + ·) := by simp [Pat.run, h]

theorem run_seq_none (a b : Pat) (s : List Char) (h : Pat.run a s = none) : Pat.run (.seq a b) s = none := by
  simp [Pat.run, h]

theorem run_alt_none (a b : Pat) (s : List Char) (ha : Pat.run a s = none) (hb : Pat.run b s = none) :
    Pat.run (.alt a b) s = none := by simp [Pat.run, ha, hb]

theorem charClass_E (x : Char) : (charClass x == Cls.E) = (lowerAscii x == 'e') := by
  unfold charClass
  by_cases h : (lowerAscii x == 'e') = true
  · simp [h]
  · simp only [h, Bool.false_eq_true, if_false]
    split
    · simp
    · split
      · simp
      · split <;> simp

theorem isDigit_not_idStart (x : Char) (h : isDigit x = true) :
    (lowerAscii x == 'e') = false ∧ isIdStart x = false := by
  have hnl : isLetterA x = false ∧ (x.toNat == 95) = false := by
    unfold isDigit at h
    split at h
    · simp only [Bool.and_eq_true, decide_eq_true_eq] at h
      simp only [isLetterA, isUpperA, isLowerA, Bool.or_eq_false_iff, Bool.and_eq_false_iff,
        decide_eq_false_iff_not, beq_eq_false_iff_ne, ne_eq]
      omega
    · next hge =>
      simp only [isLetterA, isUpperA, isLowerA, Bool.or_eq_false_iff, Bool.and_eq_false_iff,
        decide_eq_false_iff_not, beq_eq_false_iff_ne, ne_eq]
      omega
  refine ⟨?_, by simp [isIdStart, hnl.1, hnl.2]⟩
  rcases lower_cases x with ⟨hu, _⟩ | ⟨_, e⟩
  · have : isLetterA x = true := by
      simp only [isLetterA, isUpperA, Bool.or_eq_true, Bool.and_eq_true, decide_eq_true_eq]; omega
    rw [hnl.1] at this; simp at this
  · rw [e, beq_eq_false_iff_ne]
    intro he; subst he
    simp [isLetterA, isLowerA, isUpperA] at hnl

theorem charClass_digit (x : Char) (h : isDigit x = true) : charClass x = .D ∨ charClass x = .U := by
  obtain ⟨h1, h2⟩ := isDigit_not_idStart x h
  unfold charClass
  simp only [h1, Bool.false_eq_true, if_false, h2, h, if_true]
  split <;> simp

theorem charClass_idStart (x : Char) (h : isIdStart x = true) : charClass x = .E ∨ charClass x = .L := by
  unfold charClass
  split
  · simp
  · simp

theorem charClass_word (x : Char) (h : isWord x = true) :
    charClass x = .E ∨ charClass x = .L ∨ charClass x = .D := by
  by_cases hi : isIdStart x = true
  · rcases charClass_idStart x hi with h1 | h1 <;> simp [h1]
  · have hi' : isIdStart x = false := by simpa using hi
    have hd : (48 ≤ x.toNat && x.toNat ≤ 57) = true := by
      simp only [isIdStart, Bool.or_eq_false_iff] at hi'
      simp only [isWord, hi'.1, hi'.2, Bool.or_false] at h
      exact h
    have hne : (lowerAscii x == 'e') = false := by
      have hdig : isDigit x = true := by
        unfold isDigit
        simp only [Bool.and_eq_true, decide_eq_true_eq] at hd
        rw [if_pos (by omega)]
        simp only [Bool.and_eq_true, decide_eq_true_eq]; exact hd
      exact (isDigit_not_idStart x hdig).1
    right; right
    unfold charClass
    simp [hne, hi', hd]

theorem charClass_other (x y : Char) (h : charClass y = .other y) (hxy : (x == y) = true) :
    charClass x = .other y := by
  have : x = y := by simpa using hxy
  subst this; exact h

theorem beq_false_of_class {x y : Char} (hy : charClass y = .other y) (h : (charClass x == .other y) = false) :
    (x == y) = false := by
  cases hxy : x == y with
  | false => rfl
  | true => rw [charClass_other x y hy hxy, beq_self_eq_true] at h; cases h

theorem startOk_sound (r : Rule) (x : Char) (cs : List Char) (h : startOk r (charClass x) = false) :
    scanOf r (x :: cs) = none := by
  unfold startOk at h
  unfold scanOf
  cases hl : r.lit with
  | some l =>
    simp only [hl] at h ⊢
    cases l with
    | nil => simp [scanLit]
    | cons hd tl =>
      simp only at h
      have hne : (x == hd) = false := by
        rw [beq_eq_false_iff_ne]; intro e; subst e; simp at h
      simp [scanLit, hasPrefix, hne]
  | none =>
    simp only [hl] at h ⊢
    -- one arm per rule regex, in the order of the constructors of `RegexId`
    cases hid : regexId r.regex <;> simp only [hid, idStart, scanById] at h ⊢
    · cases cs with
      | nil => rfl
      | cons c2 r2 => simp [scanComment, beq_false_of_class (by decide) h]
    · exact run_seq_ch_none _ _ _ _ (beq_false_of_class (by decide) h)
    · exact run_seq_ch_none _ _ _ _ (beq_false_of_class (by decide) h)
    · exact run_seq_ch_none _ _ _ _ (beq_false_of_class (by decide) h)
    · rw [charClass_E] at h; exact run_seq_ch_none _ _ _ _ h
    · rw [charClass_E] at h; exact run_seq_ch_none _ _ _ _ h
    · rw [charClass_E] at h; exact run_seq_ch_none _ _ _ _ h
    · have hw : isWord x = false := by
        cases hw : isWord x with
        | false => rfl
        | true => rcases charClass_word x hw with h1 | h1 | h1 <;> simp [h1] at h
      simp [patNamespace, Pat.many1, Pat.run, hw]
    · have hw : isIdStart x = false := by
        cases hw : isIdStart x with
        | false => rfl
        | true => rcases charClass_idStart x hw with h1 | h1 <;> simp [h1] at h
      exact run_seq_ch_none _ _ _ _ hw
    · have hd : isDigit x = false := by
        cases hd : isDigit x with
        | false => rfl
        | true => rcases charClass_digit x hd with h1 | h1 <;> simp [h1] at h
      simp only [Bool.or_eq_false_iff] at h
      simp [patFraction, Pat.seqs, Pat.many1, Pat.lit, Pat.run, spanLen, hd, beq_false_of_class (by decide) h.2]
    · have hd : isDigit x = false := by
        cases hd : isDigit x with
        | false => rfl
        | true => rcases charClass_digit x hd with h1 | h1 <;> simp [h1] at h
      exact run_seq_ch_none _ _ _ _ hd
    · exact run_seq_ch_none _ _ _ _ (beq_false_of_class (by decide) h)

-- so that the table facts `cands_*` (lists of rules with their scanner keys) are decided
deriving instance DecidableEq for ScanKey

/-- the rules of the generated table that can start with a character of class `k`, in table order, each with the key
    of its scanner (`scanKey`: the literal, or which of the modelled regexes; `firstMatchK_eq` of the model says that
    running the keys is running the rules) -/
def cands (k : Cls) : List (Rule × ScanKey) := (Gen.OalLex.rules.filter (fun r => startOk r k)).map fun r => (r, scanKey r)

theorem firstMatch_cands (x : Char) (cs : List Char) :
    firstMatch Gen.OalLex.rules (x :: cs) = firstMatchK (cands (charClass x)) (x :: cs) := by
  unfold cands
  rw [firstMatchK_eq]
  induction Gen.OalLex.rules with
  | nil => rfl
  | cons r rs ih =>
    cases hp : startOk r (charClass x) with
    | false => rw [List.filter_cons_of_neg (by simp [hp]), firstMatch, startOk_sound r x cs hp, ih]
    | true => rw [List.filter_cons_of_pos (p := fun r => startOk r (charClass x)) hp, firstMatch, firstMatch, ih]


def LayoutStart (c : Char) : Prop := c = ' ' ∨ c = '\t' ∨ c = '\r' ∨ c = '\n' ∨ c = '/'

/-- what follows a lexeme: nothing, or a character that starts layout -/
inductive TailOk : List Char → Prop
  | nil : TailOk []
  | cons (c : Char) (rest : List Char) : LayoutStart c → TailOk (c :: rest)

theorem spanLen_all (f : Char → Bool) (s : List Char) (h : ∀ y ∈ s, f y = true) : spanLen f s = s.length := by
  induction s with
  | nil => rfl
  | cons x s ih =>
    simp only [spanLen, h x (by simp), if_true, List.length_cons]
    rw [ih (fun y hy => h y (by simp [hy]))]

theorem not_mem_block {f : Char → Bool} {s : List Char} (hs : ∀ y ∈ s, f y = true) {c : Char} (hc : f c = false) :
    c ∉ s :=
  fun hm => by rw [hs c hm] at hc; cases hc

/-- `t` does not start with a character of the class `f` (the empty text does not) -/
def Stops (f : Char → Bool) (t : List Char) : Prop := ∀ c rest, t = c :: rest → f c = false

theorem Stops.nil {f : Char → Bool} : Stops f [] := fun _ _ he => nomatch he

theorem Stops.cons {f : Char → Bool} {c : Char} {rest : List Char} (h : f c = false) : Stops f (c :: rest) :=
  fun _ _ he => (List.cons.inj he).1 ▸ h

theorem spanLen_append_stops (f : Char → Bool) (s : List Char) {t : List Char} (ht : Stops f t) :
    spanLen f (s ++ t) = spanLen f s := by
  induction s with
  | nil =>
    cases t with
    | nil => rfl
    | cons c rest => simp [spanLen, ht c rest rfl]
  | cons x s ih => simp only [List.cons_append, spanLen, ih]

theorem spanLen_block {f : Char → Bool} {a t : List Char} (ha : ∀ y ∈ a, f y = true) (ht : Stops f t) :
    spanLen f (a ++ t) = a.length :=
  (spanLen_append_stops f a ht).trans (spanLen_all f a ha)

theorem hasPrefix_append_nth (l : List Char) : ∀ (lx : List Char) (c : Char) (rest : List Char),
    (l.drop lx.length).head? ≠ some c → hasPrefix l (lx ++ c :: rest) = hasPrefix l lx := by
  induction l with
  | nil => intro lx c rest _; simp [hasPrefix]
  | cons a l ih =>
    intro lx c rest h
    cases lx with
    | nil =>
      simp only [List.length_nil, List.drop_zero, List.head?_cons, ne_eq, Option.some.injEq] at h
      have : (c == a) = false := by
        rw [beq_eq_false_iff_ne]; intro e; exact h e.symm
      simp [hasPrefix, this]
    | cons y lx =>
      simp only [List.length_cons, List.drop_succ_cons] at h
      simp only [List.cons_append, hasPrefix, ih lx c rest h]

theorem hasPrefix_append_reject (l s : List Char) (c : Char) (rest : List Char) (h : c ∉ l) :
    hasPrefix l (s ++ c :: rest) = hasPrefix l s :=
  hasPrefix_append_nth l s c rest fun e => h (List.mem_of_mem_drop (List.mem_of_mem_head? e))

namespace Pat

theorem run_extend (c : Char) (rest : List Char) (p : Pat) :
    ∀ (s : List Char), Rejects c p → run p (s ++ c :: rest) = run p s := by
  induction p with
  | eps => intro s _; rfl
  | ch f =>
    intro s h
    cases s with
    | nil => simp only [Rejects] at h; simp [run, h]
    | cons x s => rfl
  | many f => intro s h; simp only [run, spanLen_append_stops f s (.cons h)]
  | seq a b iha ihb =>
    intro s h
    simp only [run, iha s h.1]
    cases ha : run a s with
    | none => rfl
    | some n =>
      have hn := run_le a s n ha
      simp only [List.drop_append_of_le_length hn, ihb _ h.2]
  | alt a b iha ihb => intro s h; simp only [run, iha s h.1, ihb s h.2]
  | look l => intro s h; simp only [run, hasPrefix_append_reject l s c rest h]

theorem run_ext (p : Pat) (s t : List Char) (h : ∀ c rest, t = c :: rest → Rejects c p) :
    run p (s ++ t) = run p s := by
  cases t with
  | nil => simp
  | cons c rest => exact run_extend c rest p s (h c rest rfl)

end Pat
open Pat

theorem run_ch_stops {f : Char → Bool} {t : List Char} (ht : Stops f t) (b : Pat) :
    Pat.run (.seq (.ch f) b) t = none := by
  cases t with
  | nil => rfl
  | cons c rest => exact run_seq_ch_none f b c rest (ht c rest rfl)

theorem run_seq_append {a b : Pat} {s t : List Char} (h : Pat.run a (s ++ t) = some s.length) :
    Pat.run (.seq a b) (s ++ t) = (Pat.run b t).map (s.length + ·) := by
  rw [run_seq_of _ _ _ _ h, List.drop_left]

theorem run_many_block {f : Char → Bool} {a t : List Char} (ha : ∀ y ∈ a, f y = true) (ht : Stops f t) :
    Pat.run (.many f) (a ++ t) = some a.length := by
  rw [Pat.run, spanLen_block ha ht]

theorem run_many1_block {f : Char → Bool} {a t : List Char} (hne : a ≠ []) (ha : ∀ y ∈ a, f y = true)
    (ht : Stops f t) : Pat.run (many1 f) (a ++ t) = some a.length := by
  cases a with
  | nil => exact absurd rfl hne
  | cons x a' =>
    simp [many1, Pat.run, ha x (by simp), spanLen_block (fun y hy => ha y (List.mem_cons_of_mem _ hy)) ht,
      Nat.add_comm]

macro "layout_cases" h:ident : tactic =>
  `(tactic| (unfold LayoutStart at $h:ident; rcases $h:ident with h1 | h1 | h1 | h1 | h1 <;> subst h1))

theorem isIdStart_isWord (x : Char) (h : isIdStart x = true) : isWord x = true := by
  simp only [isIdStart, Bool.or_eq_true] at h
  simp only [isWord, Bool.or_eq_true]
  rcases h with h | h
  · exact Or.inl (Or.inr h)
  · exact Or.inr h

theorem rejectsB_namespace (c : Char) (h : rejectsB .namespace_ c = true) : Rejects c patNamespace := by
  simp only [rejectsB, Bool.and_eq_true, Bool.not_eq_true', beq_eq_false_iff_ne, ne_eq] at h
  simp only [patNamespace, many1, Rejects]
  refine ⟨⟨h.1, h.1⟩, ?_⟩
  intro hm
  simp only [List.mem_cons, List.not_mem_nil, or_false, or_self] at hm
  exact h.2 hm

theorem not_idStart_of_not_word (c : Char) (h : isWord c = false) : isIdStart c = false := by
  cases hi : isIdStart c with
  | false => rfl
  | true => rw [isIdStart_isWord c hi] at h; simp at h

theorem rejectsB_id (c : Char) (h : rejectsB .id c = true) : Rejects c patId := by
  simp only [rejectsB, Bool.not_eq_true'] at h
  simp only [patId, Rejects]
  exact ⟨not_idStart_of_not_word c h, h⟩

theorem rejectsB_number (c : Char) (h : rejectsB .number c = true) : Rejects c patNumber := by
  simp only [rejectsB, Bool.not_eq_true'] at h
  simp only [patNumber, many1, Rejects]
  exact ⟨h, h⟩

theorem rejectsB_fraction (c : Char) (h : rejectsB .fraction c = true) : Rejects c patFraction := by
  simp only [rejectsB, Bool.and_eq_true, Bool.not_eq_true'] at h
  obtain ⟨⟨⟨⟨⟨⟨hd, hdot⟩, he⟩, hm⟩, hp⟩, hf⟩, hl⟩ := h
  simp only [patFraction, patExp, seqs, many1, opt, lit, ci, Rejects]
  simp [hd, hdot, he, hm, hp, hf, hl]

theorem layout_char_facts (c : Char) (hc : LayoutStart c) :
    isWord c = false ∧ isDigit c = false ∧ (c == '.') = false ∧ (c == ':') = false ∧ (c == '*') = false ∧
      rejectsB .fraction c = true := by
  layout_cases hc <;> decide

theorem fol_tail (t : List Char) (ht : TailOk t) :
    Fol.word.ok t = true ∧ Fol.number.ok t = true ∧ Fol.fraction.ok t = true := by
  cases ht with
  | nil => exact ⟨rfl, rfl, rfl⟩
  | cons c rest hc =>
    obtain ⟨h1, h2, h3, h4, _, h6⟩ := layout_char_facts c hc
    simp [Fol.ok, dblColon, hasPrefix, h1, h2, h3, h4, h6]

theorem fol_tail_div (t : List Char) (ht : TailOk t) (hns : ∀ rest, t ≠ '/' :: rest) : Fol.div.ok t = true := by
  cases ht with
  | nil => rfl
  | cons c rest hc =>
    have h2 : (c == '/') = false := by
      rw [beq_eq_false_iff_ne]
      exact fun e => hns rest (by rw [e])
    simp [Fol.ok, (layout_char_facts c hc).2.2.2.2.1, h2]

/- `R i` is the `i`-th rule of `Gen.OalLex.rules` (PLY's matching order): 0 COMMENT, 1 SL_STRING, 2 TICKED_PHRASE,
   3 STRING, 4 END_FOR, 5 END_IF, 6 END_WHILE, 7 NAMESPACE, 8 ID, 9 FRACTION, 10 NUMBER, 11 DOUBLECOLON, 19 DOT, 33 DIV,
   37 newline.  `cands_*` are evaluated on the table, so a reordered table breaks them. -/

theorem cands_E : cands .E = [(R 4, .rx .endFor), (R 5, .rx .endIf), (R 6, .rx .endWhile), (R 7, .rx .namespace_), (R 8, .rx .id)] := by
  decide +kernel
theorem cands_L : cands .L = [(R 7, .rx .namespace_), (R 8, .rx .id)] := by decide +kernel
theorem cands_D : cands .D = [(R 7, .rx .namespace_), (R 9, .rx .fraction), (R 10, .rx .number)] := by decide +kernel
theorem cands_U : cands .U = [(R 9, .rx .fraction), (R 10, .rx .number)] := by decide +kernel
theorem cands_dot : cands (.other '.') = [(R 9, .rx .fraction), (R 19, .lit ['.'])] := by decide +kernel
theorem cands_quote : cands (.other '\'') = [(R 2, .rx .ticked)] := by decide +kernel
theorem cands_dquote : cands (.other '"') = [(R 3, .rx .string)] := by decide +kernel
theorem cands_slash : cands (.other '/') = [(R 0, .rx .comment), (R 1, .rx .slString), (R 33, .lit ['/'])] := by decide +kernel
theorem cands_nl : cands (.other '\n') = [(R 37, .rx .newline)] := by decide +kernel

theorem isWord_not_space (y : Char) (h : isWord y = true) : isSpace y = false := by
  unfold isSpace
  simp only [isWord, isLetterA, isUpperA, isLowerA, Bool.or_eq_true, Bool.and_eq_true, decide_eq_true_eq,
    beq_iff_eq] at h
  rw [if_pos (by omega)]
  simp only [Bool.or_eq_false_iff, Bool.and_eq_false_iff, decide_eq_false_iff_not]
  omega

theorem namespace_fails (s t : List Char) (h : ':' ∉ s) (hh : Stops isWord t) (hdc : dblColon t = false) :
    patNamespace.run (s ++ t) = none := by
  simp only [patNamespace]
  cases s with
  | nil => exact run_seq_none _ _ _ (run_ch_stops hh _)
  | cons x s' =>
    by_cases hx : isWord x = true
    · have hsp := spanLen_append_stops isWord s' hh
      -- behind the run of word characters the look-ahead `::` fails: there `s'` is at its end and `t` has no `::`,
      -- or a character of `s'` stands there, which is no colon
      have hlook : hasPrefix [':', ':'] (List.drop (spanLen isWord s') s' ++ t) = false := by
        cases hd : List.drop (spanLen isWord s') s' with
        | nil => simpa [dblColon] using hdc
        | cons y ys =>
          have hy : y ∈ s' := List.mem_of_mem_drop (by rw [hd]; simp)
          have : (y == ':') = false := by
            rw [beq_eq_false_iff_ne]; intro e; exact h (List.mem_cons_of_mem _ (e ▸ hy))
          simp [hasPrefix, this]
      simp [many1, Pat.run, hx, hsp, Nat.add_comm 1, List.drop_append_of_le_length (spanLen_le isWord s'), hlook]
    · exact run_seq_none _ _ _ (run_seq_ch_none _ _ _ _ (by simpa using hx))

/-- `seqs` of a list with a head, read as a sequence also when the tail is empty -/
theorem run_seqs_cons (a : Pat) (l : List Pat) (cs : List Char) :
    (seqs (a :: l)).run cs = (Pat.seq a (seqs l)).run cs := by
  cases l with
  | nil => simp only [seqs, Pat.run]; cases a.run cs <;> rfl
  | cons b l => rfl

theorem patEnd_run (w : List Char) (cs : List Char) :
    (patEnd w).run cs =
      (Pat.seq (ci 'e') (.seq (ci 'n') (.seq (ci 'd') (.seq (many1 isSpace) (seqs (w.map ci)))))).run cs := by
  simp only [patEnd, List.cons_append, List.nil_append, seqs, Pat.run, run_seqs_cons]

theorem end_needs (w : List Char) (u : List Char) (n : Nat) (h : (patEnd w).run u = some n) :
    ∃ a b c y rest, u = a :: b :: c :: y :: rest ∧ (lowerAscii a == 'e') = true ∧ (lowerAscii b == 'n') = true ∧
      (lowerAscii c == 'd') = true ∧ isSpace y = true := by
  rw [patEnd_run] at h
  obtain ⟨_, _, h1, h, _⟩ := Pat.run_seq_some h
  obtain ⟨a, _, rfl, ha, rfl⟩ := Pat.run_ch_some h1
  obtain ⟨_, _, h1, h, _⟩ := Pat.run_seq_some h
  obtain ⟨b, _, hu, hb, rfl⟩ := Pat.run_ch_some h1
  cases hu
  obtain ⟨_, _, h1, h, _⟩ := Pat.run_seq_some h
  obtain ⟨c, _, hu, hc, rfl⟩ := Pat.run_ch_some h1
  cases hu
  obtain ⟨_, _, h1, _, _⟩ := Pat.run_seq_some h
  obtain ⟨_, _, h1, _, _⟩ := Pat.run_seq_some h1
  obtain ⟨y, rest, hu, hy, _⟩ := Pat.run_ch_some h1
  cases hu
  exact ⟨a, b, c, y, rest, rfl, ha, hb, hc, hy⟩

theorem nonword_not_end_letter (c : Char) (h : isWord c = false) :
    (lowerAscii c == 'e') = false ∧ (lowerAscii c == 'n') = false ∧ (lowerAscii c == 'd') = false := by
  have hw : isWord (lowerAscii c) = false := by rw [caseBlind_isWord c]; exact h
  refine ⟨?_, ?_, ?_⟩ <;>
    (rw [beq_eq_false_iff_ne]; intro e; rw [e] at hw; revert hw; decide)

theorem end_letter_word (z : Char)
    (h : (lowerAscii z == 'e') = true ∨ (lowerAscii z == 'n') = true ∨ (lowerAscii z == 'd') = true) :
    isWord z = true := by
  cases hz : isWord z with
  | true => rfl
  | false =>
    obtain ⟨h1, h2, h3⟩ := nonword_not_end_letter z hz
    rw [h1, h2, h3] at h
    simp at h

/-- a run of word characters followed by a text that starts with no word character - nor, after exactly the word
    `end`, with white space - is not the beginning of an END_* token: the word characters at the start of the text
    would have to be `e n d`, and they are `s` -/
theorem end_fails (w s t : List Char) (hs : ∀ y ∈ s, isWord y = true) (ht : Stops isWord t)
    (he : s.map lowerAscii = ['e', 'n', 'd'] → Stops isSpace t) :
    (patEnd w).run (s ++ t) = none := by
  cases hr : (patEnd w).run (s ++ t) with
  | none => rfl
  | some n =>
    exfalso
    obtain ⟨a, b, c, y, rest, hu, ha, hb, hc, hy⟩ := end_needs w _ n hr
    have hyw : isWord y = false := by
      cases hyw : isWord y with
      | false => rfl
      | true => rw [isWord_not_space y hyw] at hy; cases hy
    have hlen : s.length = [a, b, c].length := by
      rw [← spanLen_block hs ht, hu]
      simp [spanLen, end_letter_word a (.inl ha), end_letter_word b (.inr (.inl hb)),
        end_letter_word c (.inr (.inr hc)), hyw]
    obtain ⟨rfl, rfl⟩ := List.append_inj (t₂ := y :: rest) hu hlen
    have h3 : List.map lowerAscii [a, b, c] = ['e', 'n', 'd'] := by
      rw [List.map, List.map, List.map, beq_iff_eq.mp ha, beq_iff_eq.mp hb, beq_iff_eq.mp hc]; rfl
    rw [he h3 y rest rfl] at hy
    cases hy

/-- an identifier or keyword spelling: `[a-zA-Z_][0-9a-zA-Z_]*`, not the word `end` in any letter case
    (`end` + white space + `if|for|while` is ONE token of this language) -/
structure WellWord (s : List Char) : Prop where
  shape : ∃ x s', s = x :: s' ∧ isIdStart x = true ∧ ∀ y ∈ s', isWord y = true
  notEnd : s.map lowerAscii ≠ ['e', 'n', 'd']

theorem word_ok_split (t : List Char) (h : Fol.word.ok t = true) : Stops isWord t ∧ dblColon t = false := by
  cases t with
  | nil => exact ⟨.nil, rfl⟩
  | cons c rest =>
    simp only [Fol.ok, Bool.and_eq_true, Bool.not_eq_true'] at h
    exact ⟨.cons h.1, h.2⟩

theorem step_word_fol (s : List Char) (h : WellWord s) (t : List Char) (ht : Fol.word.ok t = true) :
    firstMatch Gen.OalLex.rules (s ++ t) = some (R 8, s.length) := by
  obtain ⟨hh, hdc⟩ := word_ok_split t ht
  obtain ⟨⟨x, s', rfl, hx, hs'⟩, hne⟩ := h
  have hall : ∀ y ∈ x :: s', isWord y = true := by
    intro y hy
    rcases List.mem_cons.mp hy with rfl | hy
    · exact isIdStart_isWord _ hx
    · exact hs' y hy
  have hns : patNamespace.run ((x :: s') ++ t) = none :=
    namespace_fails _ t (not_mem_block hall (by decide)) hh hdc
  have hid : patId.run ((x :: s') ++ t) = some (x :: s').length := by
    simp [patId, Pat.run, hx, spanLen_block hs' hh, Nat.add_comm]
  have hE := fun w => end_fails w (x :: s') t hall hh fun he => (hne he).elim
  rw [List.cons_append] at hns hid hE ⊢
  rw [firstMatch_cands]
  rcases charClass_idStart x hx with hc | hc <;> rw [hc]
  · rw [cands_E]
    simp [firstMatchK, runKey, scanById, hE, hns, hid]
  · rw [cands_L]
    simp [firstMatchK, runKey, scanById, hns, hid]

/-- a number: a non-empty run of decimal digits (`\d+`) -/
structure WellNumber (s : List Char) : Prop where
  nonempty : s ≠ []
  digits : ∀ y ∈ s, isDigit y = true

/-- each of the three alternatives of FRACTION reads the digits and then refuses the next character -/
theorem fraction_fails_digits (s t : List Char) (hne : s ≠ []) (hs : ∀ y ∈ s, isDigit y = true)
    (hd : Stops isDigit t) (hdot : Stops (fun c => c == '.') t) (he : Stops (fun c => lowerAscii c == 'e') t) :
    patFraction.run (s ++ t) = none := by
  simp only [patFraction, seqs, lit, patExp, ci]
  refine run_seq_none _ _ _ (run_alt_none _ _ _ ?_ (run_alt_none _ _ _ ?_ ?_))
  · rw [run_seq_append (run_many_block hs hd), run_ch_stops hdot]; rfl
  · rw [run_seq_append (run_many1_block hne hs hd), run_ch_stops hdot]; rfl
  · rw [run_seq_append (run_many1_block hne hs hd), run_ch_stops he]; rfl

theorem number_ok_split (t : List Char) (h : Fol.number.ok t = true) :
    Stops isWord t ∧ Stops isDigit t ∧ Stops (fun c => c == '.') t ∧ dblColon t = false := by
  cases t with
  | nil => exact ⟨.nil, .nil, .nil, rfl⟩
  | cons c rest =>
    simp only [Fol.ok, Bool.and_eq_true, Bool.not_eq_true'] at h
    exact ⟨.cons h.1.1.1, .cons h.1.1.2, .cons h.1.2, h.2⟩

theorem step_number (s : List Char) (h : WellNumber s) (t : List Char) (ht : Fol.number.ok t = true) :
    firstMatch Gen.OalLex.rules (s ++ t) = some (R 10, s.length) := by
  obtain ⟨hw, hdg, hdot, hdc⟩ := number_ok_split t ht
  obtain ⟨hne, hd⟩ := h
  have hns : patNamespace.run (s ++ t) = none := namespace_fails _ t (not_mem_block hd (by decide)) hw hdc
  have hfr : patFraction.run (s ++ t) = none :=
    fraction_fails_digits s t hne hd hdg hdot fun c rest he => (nonword_not_end_letter c (hw c rest he)).1
  have hnum : patNumber.run (s ++ t) = some s.length := run_many1_block hne hd hdg
  cases s with
  | nil => exact absurd rfl hne
  | cons x s' =>
    rw [List.cons_append] at hns hfr hnum ⊢
    rw [firstMatch_cands]
    rcases charClass_digit x (hd x (by simp)) with hc | hc <;> rw [hc]
    · rw [cands_D]; simp [firstMatchK, runKey, scanById, hns, hfr, hnum]
    · rw [cands_U]; simp [firstMatchK, runKey, scanById, hfr, hnum]

/-- a fraction: a non-empty string the FRACTION regex matches entirely -/
structure WellFraction (s : List Char) : Prop where
  nonempty : s ≠ []
  whole : patFraction.run s = some s.length

theorem fraction_no_colon (s : List Char) (n : Nat) (h : patFraction.run s = some n) : ':' ∉ s.take n :=
  Pat.run_not_mem ':' patFraction s n h (by decide)

theorem fraction_ok_split (t : List Char) (h : Fol.fraction.ok t = true) :
    (∀ c rest, t = c :: rest → rejectsB .fraction c = true) ∧ Stops isWord t ∧ dblColon t = false := by
  cases t with
  | nil => exact ⟨fun _ _ he => (nomatch he), .nil, rfl⟩
  | cons c rest =>
    simp only [Fol.ok, Bool.and_eq_true, Bool.not_eq_true'] at h
    exact ⟨fun _ _ he => (List.cons.inj he).1 ▸ h.1.1, .cons h.1.2, h.2⟩

theorem step_fraction (s : List Char) (h : WellFraction s) (t : List Char) (ht : Fol.fraction.ok t = true) :
    firstMatch Gen.OalLex.rules (s ++ t) = some (R 9, s.length) := by
  obtain ⟨hr, hh, hdc⟩ := fraction_ok_split t ht
  obtain ⟨hne, hw⟩ := h
  cases s with
  | nil => exact absurd rfl hne
  | cons x s' =>
    have hfr : patFraction.run ((x :: s') ++ t) = some (x :: s').length := by
      rw [run_ext patFraction _ t (fun c rest he => rejectsB_fraction c (hr c rest he))]; exact hw
    have hcol : ':' ∉ x :: s' := by
      have := fraction_no_colon _ _ hw
      rwa [List.take_length] at this
    have hns : patNamespace.run ((x :: s') ++ t) = none :=
      namespace_fails _ t hcol hh hdc
    -- the lexeme starts with a digit or with the dot: on any other character all three alternatives of FRACTION fail
    have hcls : (charClass x = .D ∨ charClass x = .U) ∨ charClass x = .other '.' := by
      cases hd : isDigit x with
      | true => exact .inl (charClass_digit x hd)
      | false =>
        cases hdot : x == '.' with
        | true => rw [beq_iff_eq.mp hdot]; exact .inr (by decide)
        | false => simp [patFraction, seqs, many1, lit, Pat.run, spanLen, hd, hdot] at hw
    rw [List.cons_append] at hns hfr ⊢
    rw [firstMatch_cands]
    rcases hcls with (hc | hc) | hc <;> rw [hc]
    · rw [cands_D]; simp [firstMatchK, runKey, scanById, hns, hfr]
    · rw [cands_U]; simp [firstMatchK, runKey, scanById, hfr]
    · rw [cands_dot]; simp [firstMatchK, runKey, scanById, hfr]

/-- a string literal: `"` body `"` where the body has no `"` and no newline -/
structure WellString (s : List Char) : Prop where
  shape : ∃ body, s = '"' :: body ++ ['"'] ∧ ∀ y ∈ body, y ≠ '"' ∧ y ≠ '\n'

/-- the shape of STRING, TICKED_PHRASE and the line comment: an opening character, a run of a class, and the closing
    character, which the class excludes -/
theorem run_delimited (q x : Char) (f : Char → Bool) (body t : List Char) (hb : ∀ y ∈ body, f y = true)
    (hx : f x = false) :
    Pat.run (.seq (lit q) (.seq (.many f) (lit x))) (q :: (body ++ x :: t)) = some (body.length + 2) := by
  simp [lit, Pat.run, spanLen_block hb (.cons (rest := t) hx)]
  omega

theorem step_string (s : List Char) (h : WellString s) (t : List Char) :
    firstMatch Gen.OalLex.rules (s ++ t) = some (R 3, s.length) := by
  obtain ⟨body, rfl, hb⟩ := h
  have hrun := run_delimited '"' '"' (fun c => !(c == '"') && !(c == '\n')) body t (fun y hy => by simp [(hb y hy).1, (hb y hy).2]) (by decide)
  rw [show ('"' :: body ++ ['"']) ++ t = '"' :: (body ++ '"' :: t) from by simp, firstMatch_cands,
    show charClass '"' = .other '"' from by decide, cands_dquote]
  simp [firstMatchK, runKey, scanById, patString, seqs, hrun]

/-- a ticked phrase: `'` body `'` where the body has no `'` (it may contain newlines) -/
structure WellTicked (s : List Char) : Prop where
  shape : ∃ body, s = '\'' :: body ++ ['\''] ∧ ∀ y ∈ body, y ≠ '\''

theorem step_ticked (s : List Char) (h : WellTicked s) (t : List Char) :
    firstMatch Gen.OalLex.rules (s ++ t) = some (R 2, s.length) := by
  obtain ⟨body, rfl, hb⟩ := h
  have hrun := run_delimited '\'' '\'' (fun c => !(c == '\'')) body t (fun y hy => by simp [hb y hy]) (by decide)
  rw [show ('\'' :: body ++ ['\'']) ++ t = '\'' :: (body ++ '\'' :: t) from by simp, firstMatch_cands,
    show charClass '\'' = .other '\'' from by decide, cands_quote]
  simp [firstMatchK, runKey, scanById, patTicked, seqs, hrun]


theorem run_cis (w : List Char) : ∀ (l t : List Char), l.map lowerAscii = w →
    Pat.run (seqs (w.map ci)) (l ++ t) = some l.length := by
  induction w with
  | nil => intro l t hl; rw [List.map_eq_nil_iff.mp hl]; rfl
  | cons w0 w ih =>
    intro l t hl
    cases l with
    | nil => simp at hl
    | cons l0 l =>
      simp only [List.map_cons, List.cons.injEq] at hl
      rw [List.map_cons, run_seqs_cons, List.cons_append, run_seq_of _ _ _ 1 (by simp [ci, Pat.run, hl.1]),
        List.drop_succ_cons, List.drop_zero, ih l t hl.2, Option.map_some, List.length_cons, Nat.add_comm]

/-- `end`, white space, and the word `w` (given in lower case), each letter in any case -/
structure WellEnd (w : List Char) (s : List Char) : Prop where
  shape : ∃ a b c y ws l, s = a :: b :: c :: y :: ws ++ l ∧
    (lowerAscii a == 'e') = true ∧ (lowerAscii b == 'n') = true ∧ (lowerAscii c == 'd') = true ∧
    isSpace y = true ∧ (∀ z ∈ ws, isSpace z = true) ∧ l.map lowerAscii = w

/-- the END rule for the word `w` on an END lexeme for the word `v` -/
theorem end_run (w0 : Char) (w : List Char) (v : List Char) (s : List Char) (hs : WellEnd v s) (t : List Char)
    (hv : ∀ x ∈ v, isSpace x = false) :
    (v = w0 :: w → (patEnd (w0 :: w)).run (s ++ t) = some s.length) ∧
    ((∃ v0 v', v = v0 :: v' ∧ v0 ≠ w0) → (patEnd (w0 :: w)).run (s ++ t) = none) := by
  obtain ⟨a, b, c, y, ws, l, rfl, ha, hb, hc, hy, hws, hl⟩ := hs
  cases l with
  | nil => subst hl; exact ⟨fun h => (nomatch h), fun ⟨_, _, h, _⟩ => (nomatch h)⟩
  | cons l0 l' =>
    have hl0 : isSpace l0 = false := by
      rw [← caseBlind_isSpace l0]; exact hv _ (by rw [← hl]; exact List.mem_cons_self)
    -- `e n d` and the white space are read; what is left is the word
    have hpre : ∀ P : Pat, Pat.run (.seq (ci 'e') (.seq (ci 'n') (.seq (ci 'd') (.seq (many1 isSpace) P))))
        ((a :: b :: c :: y :: ws ++ l0 :: l') ++ t) =
        (Pat.run P (l0 :: (l' ++ t))).map (fun k => 4 + ws.length + k) := by
      intro P
      have hsp : Pat.run (many1 isSpace) (y :: ws ++ l0 :: (l' ++ t)) = some (1 + ws.length) := by
        simp [many1, Pat.run, hy, spanLen_block hws (.cons (rest := l' ++ t) hl0)]
      rw [show (a :: b :: c :: y :: ws ++ l0 :: l') ++ t = a :: b :: c :: (y :: ws ++ l0 :: (l' ++ t)) from by simp,
        run_seq_of _ _ _ 1 (by simp [ci, Pat.run, ha]), List.drop_succ_cons, List.drop_zero,
        run_seq_of _ _ _ 1 (by simp [ci, Pat.run, hb]), List.drop_succ_cons, List.drop_zero,
        run_seq_of _ _ _ 1 (by simp [ci, Pat.run, hc]), List.drop_succ_cons, List.drop_zero,
        run_seq_of _ _ _ _ hsp, Nat.add_comm 1, List.cons_append, List.drop_succ_cons, List.drop_left]
      cases Pat.run P (l0 :: (l' ++ t)) with
      | none => rfl
      | some k => simp only [Option.map_some]; congr 1; omega
    rw [patEnd_run, hpre]
    constructor
    · rintro rfl
      rw [← List.cons_append, run_cis (w0 :: w) (l0 :: l') t hl]
      simp only [Option.map_some, List.length_cons, List.length_append]
      congr 1; omega
    · rintro ⟨v0, v', rfl, hne⟩
      have hne' : (lowerAscii l0 == w0) = false := by rw [(List.cons.inj hl).1]; simpa using hne
      cases w <;> simp [seqs, ci, Pat.run, hne']

theorem wellEnd_head (v s : List Char) (hs : WellEnd v s) : ∃ a s', s = a :: s' ∧ charClass a = .E := by
  obtain ⟨a, b, c, y, ws, l, rfl, ha, _⟩ := hs
  exact ⟨a, _, rfl, beq_iff_eq.mp ((charClass_E a).trans ha)⟩

theorem step_end_for (s : List Char) (h : WellEnd ['f', 'o', 'r'] s) (t : List Char) :
    firstMatch Gen.OalLex.rules (s ++ t) = some (R 4, s.length) := by
  have h4 := (end_run 'f' ['o', 'r'] _ s h t (by decide)).1 rfl
  obtain ⟨a, s', rfl, ha⟩ := wellEnd_head _ _ h
  rw [List.cons_append] at h4 ⊢
  rw [firstMatch_cands, ha, cands_E]
  simp [firstMatchK, runKey, scanById, h4]

theorem step_end_if (s : List Char) (h : WellEnd ['i', 'f'] s) (t : List Char) :
    firstMatch Gen.OalLex.rules (s ++ t) = some (R 5, s.length) := by
  have h4 := (end_run 'f' ['o', 'r'] _ s h t (by decide)).2 ⟨'i', ['f'], rfl, by decide⟩
  have h5 := (end_run 'i' ['f'] _ s h t (by decide)).1 rfl
  obtain ⟨a, s', rfl, ha⟩ := wellEnd_head _ _ h
  rw [List.cons_append] at h4 h5 ⊢
  rw [firstMatch_cands, ha, cands_E]
  simp [firstMatchK, runKey, scanById, h4, h5]

theorem step_end_while (s : List Char) (h : WellEnd ['w', 'h', 'i', 'l', 'e'] s) (t : List Char) :
    firstMatch Gen.OalLex.rules (s ++ t) = some (R 6, s.length) := by
  have h4 := (end_run 'f' ['o', 'r'] _ s h t (by decide)).2 ⟨'w', ['h', 'i', 'l', 'e'], rfl, by decide⟩
  have h5 := (end_run 'i' ['f'] _ s h t (by decide)).2 ⟨'w', ['h', 'i', 'l', 'e'], rfl, by decide⟩
  have h6 := (end_run 'w' ['h', 'i', 'l', 'e'] _ s h t (by decide)).1 rfl
  obtain ⟨a, s', rfl, ha⟩ := wellEnd_head _ _ h
  rw [List.cons_append] at h4 h5 h6 ⊢
  rw [firstMatch_cands, ha, cands_E]
  simp [firstMatchK, runKey, scanById, h4, h5, h6]


def layoutStarts : List Char := [' ', '\t', '\r', '\n', '/']

theorem layoutStart_mem (c : Char) (h : LayoutStart c) : c ∈ layoutStarts := by
  layout_cases h <;> decide

theorem fraction_dot_fails (t : List Char) (h : Stops isDigit t) : patFraction.run ('.' :: t) = none := by
  have hd : Stops isDigit ('.' :: t) := .cons (by decide)
  simp only [patFraction, seqs, lit]
  refine run_seq_none _ _ _ (run_alt_none _ _ _ ?_ (run_alt_none _ _ _ ?_ ?_))
  · rw [← List.nil_append ('.' :: t), run_seq_append (run_many_block (by simp) hd), run_seq_of _ _ _ 1 rfl]
    simp only [List.drop_succ_cons, List.drop_zero, many1, run_ch_stops h]; rfl
  · exact run_seq_none _ _ _ (run_ch_stops hd _)
  · exact run_seq_none _ _ _ (run_ch_stops hd _)

theorem stable_sound (r : Rule) (x : Char) (s' : List Char) (c : Char) (rest : List Char)
    (h : stableL r (x :: s') c = true) :
    scanOf r ((x :: s') ++ c :: rest) = scanOf r (x :: s') := by
  unfold stableL at h
  simp only [List.headD_cons] at h
  cases hso : startOk r (charClass x) with
  | false => rw [List.cons_append, startOk_sound r x _ hso, startOk_sound r x _ hso]
  | true =>
    simp only [hso, Bool.not_true, Bool.false_or] at h
    unfold scanOf
    cases hl : r.lit with
    | some l =>
      simp only [hl, bne_iff_ne, ne_eq] at h ⊢
      simp only [scanLit, hasPrefix_append_nth l _ c rest h]
    | none =>
      simp only [hl, Bool.or_eq_true, Bool.and_eq_true, beq_iff_eq, Bool.not_eq_true'] at h ⊢
      rcases h with h | ⟨⟨hid, hlx⟩, hdig⟩
      -- `rejectsB` is `false` for nine of the regexes, which closes their arms; namespace_, id, fraction, number are left
      · cases hid : regexId r.regex <;> simp only [hid] at h <;>
          first
            | (simp only [rejectsB, Bool.false_eq_true] at h)
            | skip
        · simp only [scanById]
          exact Pat.run_extend c rest _ _ (rejectsB_namespace c h)
        · simp only [scanById]
          exact Pat.run_extend c rest _ _ (rejectsB_id c h)
        · simp only [scanById]
          exact Pat.run_extend c rest _ _ (rejectsB_fraction c h)
        · simp only [scanById]
          exact Pat.run_extend c rest _ _ (rejectsB_number c h)
      · simp only [hid, scanById]
        simp only [List.cons.injEq] at hlx
        obtain ⟨rfl, rfl⟩ := hlx
        rw [List.cons_append, List.nil_append,
          fraction_dot_fails (c :: rest) (.cons hdig), fraction_dot_fails [] .nil]

/-- rule `i` is a literal rule whose lexeme is matched by rule `i` and by no earlier rule, also when layout
    follows: every rule is stable at that position and rule `i` is the first match on the isolated lexeme
    (all computed on the generated table) -/
def litGood (i : Nat) : Bool :=
  match (R i).lit with
  | some (x :: l') =>
    (layoutStarts.all fun c => (Fol.lit (x :: l')).ok [c]) &&
    decide (firstMatch Gen.OalLex.rules (x :: l') = some (R i, (x :: l').length)) &&
    (R i).returnsTok && decide ((R i).name ≠ idName)
  | _ => false

theorem litIndexes_good : litIndexes.all litGood = true := by decide +kernel

theorem lit_text (i : Nat) (hi : i ∈ litIndexes) :
    ∃ x l', (R i).lit = some (x :: l') ∧ firstMatch Gen.OalLex.rules (x :: l') = some (R i, (x :: l').length) ∧
      (R i).returnsTok = true ∧ (R i).name ≠ idName ∧ ∀ t, TailOk t → (Fol.lit (x :: l')).ok t = true := by
  have hg' : litGood i = true := List.all_eq_true.mp litIndexes_good i hi
  unfold litGood at hg'
  cases hl : (R i).lit with
  | none => rw [hl] at hg'; simp at hg'
  | some l =>
    cases l with
    | nil => rw [hl] at hg'; simp at hg'
    | cons x l' =>
      rw [hl] at hg'
      simp only [Bool.and_eq_true, decide_eq_true_eq, List.all_eq_true] at hg'
      refine ⟨x, l', rfl, hg'.1.1.2, hg'.1.2, hg'.2, fun t ht => ?_⟩
      cases ht with
      | nil => rfl
      | cons c rest hc => exact hg'.1.1.1 c (layoutStart_mem c hc)

theorem firstMatch_stable (x : Char) (l' t : List Char) (ht : (Fol.lit (x :: l')).ok t = true) :
    firstMatch Gen.OalLex.rules ((x :: l') ++ t) = firstMatch Gen.OalLex.rules (x :: l') := by
  cases t with
  | nil => rw [List.append_nil]
  | cons c rest =>
    simp only [Fol.ok, List.all_eq_true] at ht
    exact firstMatch_congr (fun r hr => stable_sound r x l' c rest (ht r hr))

theorem step_div (t : List Char) (ht : Fol.div.ok t = true) :
    firstMatch Gen.OalLex.rules (['/'] ++ t) = some (R 33, 1) := by
  rw [List.singleton_append, firstMatch_cands, show charClass '/' = .other '/' from by decide, cands_slash]
  cases t with
  | nil => simp [firstMatchK, runKey, scanById, scanComment, patSlString, seqs, lit, Pat.run, scanLit, hasPrefix]
  | cons c rest =>
    simp only [Fol.ok, Bool.and_eq_true, Bool.not_eq_true'] at ht
    simp [firstMatchK, runKey, scanById, scanComment, patSlString, seqs, lit, Pat.run, scanLit, hasPrefix,
      ht.1, ht.2]


/-- `WellLexeme k s`: `s` is a complete lexeme of token kind `k`.
    Rule positions in the generated table: 2 TICKED_PHRASE, 3 STRING, 4 END_FOR, 5 END_IF, 6 END_WHILE,
    9 FRACTION, 10 NUMBER, 33 DIV, `litIndexes` the other fixed-string tokens. -/
inductive WellLexeme : List Char → List Char → Prop
  | word (s : List Char) (h : WellWord s) : WellLexeme (wordKind s) s
  | number (s : List Char) (h : WellNumber s) : WellLexeme (R 10).name s
  | fraction (s : List Char) (h : WellFraction s) : WellLexeme (R 9).name s
  | string (s : List Char) (h : WellString s) : WellLexeme (R 3).name s
  | ticked (s : List Char) (h : WellTicked s) : WellLexeme (R 2).name s
  | endFor (s : List Char) (h : WellEnd ['f', 'o', 'r'] s) : WellLexeme (R 4).name s
  | endIf (s : List Char) (h : WellEnd ['i', 'f'] s) : WellLexeme (R 5).name s
  | endWhile (s : List Char) (h : WellEnd ['w', 'h', 'i', 'l', 'e'] s) : WellLexeme (R 6).name s
  | lit (i : Nat) (hi : i ∈ litIndexes) (l : List Char) (hl : (R i).lit = some l) : WellLexeme (R i).name l
  | div : WellLexeme (R 33).name ['/']

theorem kindOf_other (r : Rule) (h : r.name ≠ idName) (s : List Char) : kindOf Gen.OalLex.cfg r s = r.name := by
  simp [kindOf, h]

theorem kindOf_R8 (s : List Char) : kindOf Gen.OalLex.cfg (R 8) s = wordKind s := by
  simp [kindOf, show (R 8).name = idName from by decide, Gen.OalLex.cfg, Gen.OalLex.idUpper, wordKind]

theorem match_not_ignored {x : Char} {cs : List Char} {p : Rule × Nat}
    (h : firstMatch Gen.OalLex.rules (x :: cs) = some p) : Gen.OalLex.cfg.ignore.contains x = false := by
  cases hi : Gen.OalLex.cfg.ignore.contains x with
  | false => rfl
  | true =>
    have hnone : (Gen.OalLex.ignore.all fun c => (cands (charClass c)).isEmpty) = true := by decide +kernel
    rw [firstMatch_cands, List.isEmpty_iff.mp (List.all_eq_true.mp hnone x (List.contains_iff_mem.mp hi))] at h
    cases h

theorem lexAll_step {s t : List Char} {r : Rule} (hfm : firstMatch Gen.OalLex.rules (s ++ t) = some (r, s.length)) :
    lexAll Gen.OalLex.cfg (s ++ t) =
      if r.returnsTok then (kindOf Gen.OalLex.cfg r s, s) :: lexAll Gen.OalLex.cfg t else lexAll Gen.OalLex.cfg t := by
  cases s with
  | nil => exact absurd rfl (firstMatch_some hfm).2.2
  | cons x s' =>
    rw [List.cons_append] at hfm ⊢
    rw [lexAll_match _ x (s' ++ t) r _ (match_not_ignored hfm) hfm, ← List.cons_append, List.take_left' rfl,
      List.drop_left' rfl]


/-- a (possibly empty) layout string: blanks, tabs, CR, LF, block comments `/* ... */` (the body, up to and
    including the closing `*/`, is what the COMMENT automaton accepts - so it contains no earlier `*/`), and line
    comments `// ... \n` -/
inductive Layout0 : List Char → Prop
  | nil : Layout0 []
  | ws (c : Char) (rest : List Char) : (c = ' ' ∨ c = '\t' ∨ c = '\r' ∨ c = '\n') → Layout0 rest → Layout0 (c :: rest)
  | comment (body rest : List Char) : commentBody body false = some body.length → Layout0 rest →
      Layout0 ('/' :: '*' :: body ++ rest)
  | lineComment (body rest : List Char) : (∀ y ∈ body, y ≠ '\n') → Layout0 rest →
      Layout0 ('/' :: '/' :: body ++ '\n' :: rest)

theorem layout0_head (c : Char) (rest : List Char) (h : Layout0 (c :: rest)) : LayoutStart c := by
  unfold LayoutStart
  cases h with
  | ws _ _ hc _ => rcases hc with h | h | h | h <;> simp [h]
  | comment body rest' _ _ => simp
  | lineComment body rest' _ _ => simp

theorem layout0_of_ws (sep : List Char) (h : ∀ c ∈ sep, c = ' ' ∨ c = '\t' ∨ c = '\r' ∨ c = '\n') : Layout0 sep := by
  induction sep with
  | nil => exact .nil
  | cons c rest ih => exact .ws c rest (h c (by simp)) (ih (fun y hy => h y (by simp [hy])))

theorem lexAll_newline (w : List Char) : lexAll Gen.OalLex.cfg ('\n' :: w) = lexAll Gen.OalLex.cfg w := by
  -- rule 37 takes the whole run of `\n` and returns no token; one more `\n` in front drops the same run
  have step : ∀ v, lexAll Gen.OalLex.cfg ('\n' :: v) =
      lexAll Gen.OalLex.cfg (v.drop (spanLen (fun c => c == '\n') v)) := by
    intro v
    have hfm : firstMatch Gen.OalLex.cfg.rules ('\n' :: v) = some (R 37, spanLen (fun c => c == '\n') v + 1) := by
      show firstMatch Gen.OalLex.rules ('\n' :: v) = _
      rw [firstMatch_cands, show charClass '\n' = .other '\n' from by decide, cands_nl]
      simp [firstMatchK, runKey, scanById, patNewline, many1, Pat.run, Nat.add_comm]
    rw [lexAll_match _ '\n' v (R 37) _ (by decide) hfm, show (R 37).returnsTok = false from by decide]
    simp
  rw [step]
  induction w with
  | nil => rfl
  | cons c w ih =>
    by_cases hc : c = '\n'
    · subst hc
      simp only [spanLen, beq_self_eq_true, if_true, List.drop_succ_cons]
      rw [ih, step]; exact ih.symm
    · have : (c == '\n') = false := by simpa using hc
      simp [spanLen, this]

theorem lexAll_skip (sep : List Char) (h : Layout0 sep) (more : List Char) :
    lexAll Gen.OalLex.cfg (sep ++ more) = lexAll Gen.OalLex.cfg more := by
  induction h with
  | nil => rfl
  | ws c rest hc _ ih =>
    rw [List.cons_append]
    rcases hc with rfl | rfl | rfl | rfl
    · rw [lexAll_ignore _ _ _ (by decide)]; exact ih
    · rw [lexAll_ignore _ _ _ (by decide)]; exact ih
    · rw [lexAll_ignore _ _ _ (by decide)]; exact ih
    · rw [lexAll_newline]; exact ih
  | comment body rest hb _ ih =>
    have hfm : firstMatch Gen.OalLex.rules (('/' :: '*' :: body) ++ (rest ++ more)) =
        some (R 0, ('/' :: '*' :: body).length) := by
      rw [List.cons_append, firstMatch_cands, show charClass '/' = .other '/' from by decide, cands_slash]
      simp [firstMatchK, runKey, scanById, scanComment, List.take_length ▸ (commentBody_reads hb).2 (rest ++ more)]
    rw [show ('/' :: '*' :: body ++ rest) ++ more = ('/' :: '*' :: body) ++ (rest ++ more) from by simp,
      lexAll_step hfm, show (R 0).returnsTok = false from by decide]
    exact ih
  | lineComment body rest hb _ ih =>
    have hfm : firstMatch Gen.OalLex.rules (('/' :: '/' :: body ++ ['\n']) ++ (rest ++ more)) =
        some (R 1, ('/' :: '/' :: body ++ ['\n']).length) := by
      have hrun := run_delimited '/' '\n' (fun c => !(c == '\n')) body (rest ++ more) (fun y hy => by simp [hb y hy])
        (by decide)
      rw [show ('/' :: '/' :: body ++ ['\n']) ++ (rest ++ more) = '/' :: '/' :: (body ++ '\n' :: (rest ++ more)) from
        by simp, firstMatch_cands, show charClass '/' = .other '/' from by decide, cands_slash]
      simp [firstMatchK, runKey, scanById, scanComment, patSlString, seqs,
        run_seq_of (lit '/') _ ('/' :: '/' :: (body ++ '\n' :: (rest ++ more))) 1 rfl, hrun]
      omega
    rw [show ('/' :: '/' :: body ++ '\n' :: rest) ++ more = ('/' :: '/' :: body ++ ['\n']) ++ (rest ++ more) from
      by simp, lexAll_step hfm, show (R 1).returnsTok = false from by decide]
    exact ih

/-- the text of a list of (kind, lexeme, separator after it) -/
def render : List (List Char × List Char × List Char) → List Char
  | [] => []
  | (_, s, sep) :: rest => s ++ sep ++ render rest

/-- every lexeme is well-formed for its kind; every separator is a layout string, non-empty except after the
    last lexeme; a `/` token is not directly followed by a comment (`//` and `/*` start comments) -/
inductive ItemsOk : List (List Char × List Char × List Char) → Prop
  | nil : ItemsOk []
  | cons (k s sep : List Char) (rest : List (List Char × List Char × List Char)) :
      WellLexeme k s → Layout0 sep → (sep = [] → rest = []) → (s = ['/'] → ∀ r, sep ≠ '/' :: r) →
      ItemsOk rest → ItemsOk ((k, s, sep) :: rest)


/-- a namespace word: `[0-9a-zA-Z_]+` (the NAMESPACE rule is a word with `::` as look-ahead, hence the fused unit
    `NS::`) -/
structure WellNs (n : List Char) : Prop where
  nonempty : n ≠ []
  word : ∀ y ∈ n, isWord y = true

theorem step_ns (n : List Char) (h : WellNs n) (t : List Char) :
    firstMatch Gen.OalLex.rules (n ++ ':' :: ':' :: t) = some (R 7, n.length) := by
  obtain ⟨hne, hw⟩ := h
  have hrun : patNamespace.run (n ++ ':' :: ':' :: t) = some n.length := by
    rw [patNamespace, run_seq_append (run_many1_block hne hw (.cons (by decide)))]
    simp [Pat.run, hasPrefix]
  have hE := fun w => end_fails w n (':' :: ':' :: t) hw (.cons (by decide))
    fun _ => .cons (by decide)
  cases n with
  | nil => exact absurd rfl hne
  | cons x n' =>
    rw [List.cons_append] at hE hrun ⊢
    rw [firstMatch_cands]
    rcases charClass_word x (hw x (by simp)) with hc | hc | hc <;> rw [hc]
    · rw [cands_E]; simp [firstMatchK, runKey, scanById, hE, hrun]
    · rw [cands_L]; simp [firstMatchK, runKey, scanById, hrun]
    · rw [cands_D]; simp [firstMatchK, runKey, scanById, hrun]

/-- a unit of text: one token, or the fused pair `NS::` -/
inductive Item where
  | tok (k s : List Char)
  | ns (n : List Char)

def Item.text : Item → List Char
  | .tok _ s => s
  | .ns n => n ++ [':', ':']

def Item.toks : Item → List (List Char × List Char)
  | .tok k s => [(k, s)]
  | .ns n => [((R 7).name, n), ((R 11).name, [':', ':'])]

def Item.Well : Item → Prop
  | .tok k s => WellLexeme k s
  | .ns n => WellNs n

def renderUnits : List (Item × List Char) → List Char
  | [] => []
  | (i, sep) :: rest => i.text ++ sep ++ renderUnits rest

inductive UnitsOk : List (Item × List Char) → Prop
  | nil : UnitsOk []
  | cons (i : Item) (sep : List Char) (rest : List (Item × List Char)) :
      i.Well → Layout0 sep → (sep = [] → rest = []) → (i.text = ['/'] → ∀ r, sep ≠ '/' :: r) →
      UnitsOk rest → UnitsOk ((i, sep) :: rest)

def LexUnit.Well : LexUnit → Prop
  | .word s => WellWord s
  | .number s => WellNumber s
  | .fraction s => WellFraction s
  | .string s => WellString s
  | .ticked s => WellTicked s
  | .endFor s => WellEnd ['f', 'o', 'r'] s
  | .endIf s => WellEnd ['i', 'f'] s
  | .endWhile s => WellEnd ['w', 'h', 'i', 'l', 'e'] s
  | .lit i => i ∈ litIndexes
  | .div => True
  | .ns n => WellNs n

theorem lexAll_unit_lit (i : Nat) (hi : i ∈ litIndexes) (t : List Char) (ht : (LexUnit.lit i).fol.ok t = true) :
    lexAll Gen.OalLex.cfg ((R i).lit.getD [] ++ t) = ((R i).name, (R i).lit.getD []) :: lexAll Gen.OalLex.cfg t := by
  obtain ⟨x, l', hl, hfm, hret, hname, _⟩ := lit_text i hi
  simp only [LexUnit.fol, hl, Option.getD_some] at ht ⊢
  rw [lexAll_step ((firstMatch_stable x l' t ht).trans hfm), hret, if_pos rfl, kindOf_other _ hname]

theorem lexAll_unit (u : LexUnit) (hw : u.Well) (t : List Char) (ht : u.fol.ok t = true) :
    lexAll Gen.OalLex.cfg (u.text ++ t) = u.toks ++ lexAll Gen.OalLex.cfg t := by
  have key : ∀ (s t : List Char) (r : Rule), firstMatch Gen.OalLex.rules (s ++ t) = some (r, s.length) →
      r.returnsTok = true → r.name ≠ idName →
      lexAll Gen.OalLex.cfg (s ++ t) = (r.name, s) :: lexAll Gen.OalLex.cfg t := by
    intro s t r hfm hret hname
    rw [lexAll_step hfm, hret, if_pos rfl, kindOf_other r hname]
  cases u with
  | word s => exact (lexAll_step (step_word_fol s hw t ht)).trans (by rw [if_pos (by decide), kindOf_R8]; rfl)
  | number s => exact key s t _ (step_number s hw t ht) (by decide) (by decide)
  | fraction s => exact key s t _ (step_fraction s hw t ht) (by decide) (by decide)
  | string s => exact key s t _ (step_string s hw t) (by decide) (by decide)
  | ticked s => exact key s t _ (step_ticked s hw t) (by decide) (by decide)
  | endFor s => exact key s t _ (step_end_for s hw t) (by decide) (by decide)
  | endIf s => exact key s t _ (step_end_if s hw t) (by decide) (by decide)
  | endWhile s => exact key s t _ (step_end_while s hw t) (by decide) (by decide)
  | lit i => exact lexAll_unit_lit i hw t ht
  | div => exact key _ t _ (step_div t ht) (by decide) (by decide)
  | ns n =>
    simp only [LexUnit.text, LexUnit.toks, List.append_assoc, List.cons_append, List.nil_append]
    rw [key n _ _ (step_ns n hw t) (by decide) (by decide)]
    exact congrArg _ (lexAll_unit_lit 11 (by decide) t ht)

def renderT : List (LexUnit × List Char) → List Char
  | [] => []
  | (u, sep) :: rest => u.text ++ sep ++ renderT rest

/-- semantic form: every separator is a (possibly empty) layout string and every unit is followed by a text its
    follow condition accepts -/
inductive SemOk : List (LexUnit × List Char) → Prop
  | nil : SemOk []
  | cons (u : LexUnit) (sep : List Char) (rest : List (LexUnit × List Char)) :
      u.Well → Layout0 sep → u.fol.ok (sep ++ renderT rest) = true → SemOk rest → SemOk ((u, sep) :: rest)

theorem lexAll_sem (units : List (LexUnit × List Char)) (h : SemOk units) :
    lexAll Gen.OalLex.cfg (renderT units) = (units.map (fun p => p.1.toks)).flatten := by
  induction h with
  | nil => rfl
  | cons u sep rest hw hsep hfol _ ih =>
    simp only [renderT, List.map_cons, List.flatten_cons, List.append_assoc]
    rw [lexAll_unit u hw _ hfol, lexAll_skip sep hsep, ih]

theorem fol_ok_nil (f : Fol) : f.ok [] = true := by cases f <;> rfl

theorem fol_layout (u : LexUnit) (hw : u.Well) (c : Char) (rest : List Char) (hc : LayoutStart c)
    (hd : u.text = ['/'] → c ≠ '/') : u.fol.ok (c :: rest) = true := by
  have ht : TailOk (c :: rest) := .cons c rest hc
  cases u with
  | word s => exact (fol_tail _ ht).1
  | number s => exact (fol_tail _ ht).2.1
  | fraction s => exact (fol_tail _ ht).2.2
  | string s => rfl
  | ticked s => rfl
  | endFor s => rfl
  | endIf s => rfl
  | endWhile s => rfl
  | lit i =>
    obtain ⟨x, l', hl, _, _, _, hfol⟩ := lit_text i hw
    simp only [LexUnit.fol, hl, Option.getD_some]
    exact hfol _ ht
  | div => exact fol_tail_div _ ht (fun r e => hd rfl (List.cons.inj e).1)
  | ns n =>
    obtain ⟨x, l', hl, _, _, _, hfol⟩ := lit_text 11 (by decide)
    cases (show (R 11).lit = some [':', ':'] from by decide).symm.trans hl
    exact hfol _ ht

theorem fol_sep (u : LexUnit) (hw : u.Well) (sep more : List Char) (hsep : Layout0 sep)
    (hd : u.text = ['/'] → ∀ r, sep ≠ '/' :: r) (he : sep = [] → u.fol.ok more = true) :
    u.fol.ok (sep ++ more) = true := by
  cases sep with
  | nil => exact he rfl
  | cons c sep' =>
    rw [List.cons_append]
    exact fol_layout u hw c _ (layout0_head c sep' hsep) (fun ht e => hd ht sep' (by rw [e]))

theorem WellLexeme.unit {k s : List Char} (h : WellLexeme k s) :
    ∃ u : LexUnit, u.Well ∧ u.text = s ∧ u.toks = [(k, s)] := by
  cases h with
  | word s h => exact ⟨.word s, h, rfl, rfl⟩
  | number s h => exact ⟨.number s, h, rfl, rfl⟩
  | fraction s h => exact ⟨.fraction s, h, rfl, rfl⟩
  | string s h => exact ⟨.string s, h, rfl, rfl⟩
  | ticked s h => exact ⟨.ticked s, h, rfl, rfl⟩
  | endFor s h => exact ⟨.endFor s, h, rfl, rfl⟩
  | endIf s h => exact ⟨.endIf s, h, rfl, rfl⟩
  | endWhile s h => exact ⟨.endWhile s, h, rfl, rfl⟩
  | lit i hi l hl => exact ⟨.lit i, hi, by simp [LexUnit.text, hl], by simp [LexUnit.toks, hl]⟩
  | div => exact ⟨.div, trivial, rfl, rfl⟩

theorem Item.unit {i : Item} (h : i.Well) : ∃ u : LexUnit, u.Well ∧ u.text = i.text ∧ u.toks = i.toks := by
  cases i with
  | tok k s => exact WellLexeme.unit h
  | ns n => exact ⟨.ns n, h, rfl, rfl⟩

/-- a non-empty separator begins with layout, which may follow every unit (`fol_sep`); an empty one ends the text -/
theorem unitsOk_sem (units : List (Item × List Char)) (h : UnitsOk units) :
    ∃ us, SemOk us ∧ renderT us = renderUnits units ∧
      (us.map (fun p => p.1.toks)).flatten = (units.map (fun u => u.1.toks)).flatten := by
  induction h with
  | nil => exact ⟨[], .nil, rfl, rfl⟩
  | cons i sep rest hw hsep hne hdiv _ ih =>
    obtain ⟨us, hs, hr, ht⟩ := ih
    obtain ⟨u, huw, hut, huk⟩ := Item.unit hw
    refine ⟨(u, sep) :: us, .cons u sep us huw hsep ?_ hs, by simp only [renderT, renderUnits, hr, hut],
      by simp only [List.map_cons, List.flatten_cons, ht, huk]⟩
    rw [hr]
    exact fol_sep u huw sep _ hsep (hut ▸ hdiv) fun he => by rw [hne he]; exact fol_ok_nil _

theorem itemsOk_units (items : List (List Char × List Char × List Char)) (h : ItemsOk items) :
    UnitsOk (items.map fun i => (.tok i.1 i.2.1, i.2.2)) ∧
      renderUnits (items.map fun i => (.tok i.1 i.2.1, i.2.2)) = render items ∧
      ((items.map fun i => (Item.tok i.1 i.2.1, i.2.2)).map (fun u => u.1.toks)).flatten =
        items.map (fun i => (i.1, i.2.1)) := by
  induction h with
  | nil => exact ⟨.nil, rfl, rfl⟩
  | cons k s sep rest hw hsep hne hdiv _ ih =>
    exact ⟨.cons _ sep _ hw hsep (fun he => by rw [hne he]; rfl) hdiv ih.1,
      by simp only [List.map_cons, renderUnits, render, ih.2.1, Item.text],
      by rw [List.map_cons, List.map_cons, List.flatten_cons, ih.2.2]; rfl⟩

/-- layout_irrelevant with the fused unit `NS::` among the tokens -/
theorem layout_irrelevant_units (sep0 : List Char) (units : List (Item × List Char))
    (h0 : Layout0 sep0) (h : UnitsOk units) :
    (lex (sep0 ++ renderUnits units)).map (fun t => (t.kind, t.lexeme)) = (units.map (fun u => u.1.toks)).flatten := by
  obtain ⟨us, hs, hr, ht⟩ := unitsOk_sem units h
  unfold lex
  rw [← hr, ← ht, lexWith_kl, lexAll_skip sep0 h0, lexAll_sem us hs]

/-- layout_irrelevant: well-formed lexemes separated by non-empty layout (blanks, tabs, CR, LF, block and line
    comments; layout before the first and after the last lexeme may be empty) are returned by the lexer of the
    generated rule table exactly, in order, with their kinds - no token is split, merged or swallowed -/
theorem layout_irrelevant (sep0 : List Char) (items : List (List Char × List Char × List Char))
    (h0 : Layout0 sep0) (h : ItemsOk items) :
    (lex (sep0 ++ render items)).map (fun t => (t.kind, t.lexeme)) = items.map (fun i => (i.1, i.2.1)) := by
  obtain ⟨hu, hr, ht⟩ := itemsOk_units items h
  rw [← hr, ← ht]
  exact layout_irrelevant_units sep0 _ h0 hu

theorem layout_irrelevant_ws (sep0 : List Char) (items : List (List Char × List Char × List Char))
    (h0 : ∀ c ∈ sep0, c = ' ' ∨ c = '\t' ∨ c = '\r' ∨ c = '\n')
    (h : ItemsOk items) :
    (lex (sep0 ++ render items)).map (fun t => (t.kind, t.lexeme)) = items.map (fun i => (i.1, i.2.1)) :=
  layout_irrelevant sep0 items (layout0_of_ws sep0 h0) h

/-- `If 12/**/⇥LOG::⏎x //c⏎;`: a blank, a comment + tab, a line break after `LOG::`, a blank + line comment; every
    separator but the last is non-empty -/
def sampleUnits : List (Item × List Char) :=
  [(.tok (wordKind ['I', 'f']) ['I', 'f'], [' ']),
   (.tok (R 10).name ['1', '2'], ['/', '*', '*', '/', '\t']),
   (.ns ['L', 'O', 'G'], ['\n']),
   (.tok (wordKind ['x']) ['x'], [' ', '/', '/', 'c', '\n']),
   (.tok (R 17).name [';'], [])]

theorem sampleUnits_ok : UnitsOk sampleUnits := by
  refine .cons _ _ _ (WellLexeme.word _ ⟨⟨'I', ['f'], rfl, by decide, by decide⟩, by decide⟩)
    (.ws ' ' [] (Or.inl rfl) .nil) (by decide) (fun h => absurd h (by decide)) ?_
  refine .cons _ _ _ (WellLexeme.number _ ⟨by decide, by decide⟩)
    (.comment ['*', '/'] ['\t'] (by decide) (.ws '\t' [] (Or.inr (Or.inl rfl)) .nil)) (by decide) (fun h => absurd h (by decide)) ?_
  refine .cons _ _ _ (show Item.Well (.ns _) from ⟨by decide, by decide⟩)
    (.ws '\n' [] (Or.inr (Or.inr (Or.inr rfl))) .nil) (by decide) (fun h => absurd h (by decide)) ?_
  refine .cons _ _ _ (WellLexeme.word _ ⟨⟨'x', [], rfl, by decide, by decide⟩, by decide⟩)
    (.ws ' ' _ (Or.inl rfl) (.lineComment ['c'] [] (by decide) .nil)) (by decide) (fun h => absurd h (by decide)) ?_
  exact .cons _ _ _ (WellLexeme.lit 17 (by decide) _ (by decide)) .nil (by intro; rfl) (fun h => absurd h (by decide)) .nil

example : (lex "If 12/**/\tLOG::\nx //c\n;".toList).map (fun t => (String.ofList t.kind, String.ofList t.lexeme)) =
    [("IF", "If"), ("NUMBER", "12"), ("NAMESPACE", "LOG"), ("DOUBLECOLON", "::"), ("ID", "x"), ("SEMICOLON", ";")] := by
  have h := layout_irrelevant_units [] sampleUnits .nil sampleUnits_ok
  have ht : ([] : List Char) ++ renderUnits sampleUnits = "If 12/**/\tLOG::\nx //c\n;".toList := by decide +kernel
  rw [ht] at h
  have := congrArg (List.map fun p : List Char × List Char => (String.ofList p.1, String.ofList p.2)) h
  simp only [List.map_map] at this
  rw [show ((fun p : List Char × List Char => (String.ofList p.1, String.ofList p.2)) ∘
    fun t : Tok => (t.kind, t.lexeme)) = fun t => (String.ofList t.kind, String.ofList t.lexeme) from rfl] at this
  rw [this]; decide +kernel

end Pyx.OalLex
