import PyxModel.Prebuild.Supported
import Proofs.Lib.Lookup

/-
  C05, expression level.  What the round trip of Proofs/PrebuildExprRT.lean is stated with: the sizes that
  bound the fuel `parseExpr` needs, `Stops` (the following token cannot continue an access path: `.`, `[`, `(`), the first
  token of a printed expression, and the operator tables read backwards.
-/
namespace Pyx.Prebuild
open Tok Kw Pn

mutual
  def szE : Expr → Nat
    | .int _ | .real _ | .str _ | .bool _ | .enum _ _ => 1
    | .var _ | .self | .selected | .param _ => 2
    | .field h _ => szE h + 1
    | .index h i => szE h + szE i + 1
    | .un _ e => szE e + 1
    | .bin l _ r => szE l + szE r + 1
    | .call _ _ _ ps => szP ps + 1
    | .icall h _ ps => szE h + szP ps + 1
  def szP : Params → Nat
    | .nil => 1
    | .cons _ e rest => szE e + szP rest + 1
end

theorem szE_pos (e : Expr) : 1 ≤ szE e := by cases e <;> simp only [szE] <;> omega
theorem szP_pos (ps : Params) : 1 ≤ szP ps := by cases ps <;> simp [szP] <;> omega

/-- a token that cannot continue an access path -/
def stopTok : Tok → Bool
  | p dot | p lsq | p lpar => false
  | _ => true

def Stops (ts : List Tok) : Prop := ∀ t r, ts = t :: r → stopTok t = true

theorem Stops.nil : Stops [] := by intro t r h; cases h
theorem Stops.cons {t : Tok} {r : List Tok} (h : stopTok t = true) : Stops (t :: r) := by
  intro t' r' e; cases e; exact h

/-- a printed expression does not begin with a unary-operator token, so `( op …` is unambiguous -/
theorem genExpr_head (e : Expr) : ∃ t r, genExpr e = t :: r ∧ nameOf unOps t = none := by
  cases e
  case bool v =>
    refine ⟨_, _, by rw [genExpr], ?_⟩
    unfold boolTok; split
    · rfl
    · split <;> rfl
  case field h _ => obtain ⟨t, r, e, s⟩ := genExpr_head h; rw [genExpr, e]; exact ⟨t, _, rfl, s⟩
  case index h _ => obtain ⟨t, r, e, s⟩ := genExpr_head h; rw [genExpr, e]; exact ⟨t, _, rfl, s⟩
  case icall h _ _ => obtain ⟨t, r, e, s⟩ := genExpr_head h; rw [genExpr, e]; exact ⟨t, _, rfl, s⟩
  case call k _ _ _ => cases k <;> exact ⟨_, _, rfl, rfl⟩
  all_goals exact ⟨_, _, rfl, rfl⟩

theorem unOps_back : ∀ x ∈ unOps, nameOf unOps x.2 = some x.1 := by decide +kernel
theorem binOps_back : ∀ x ∈ binOps, nameOf binOps x.2 = some x.1 := by decide +kernel
theorem cards_back : ∀ x ∈ cards, nameOf cards x.2 = some x.1 := by decide +kernel
theorem binOps_stop : ∀ x ∈ binOps, stopTok x.2 = true := by decide +kernel

theorem tokOf_mem {tbl : List (String × Tok)} {s : String} (h : inTable tbl s = true) : (s, tokOf tbl s) ∈ tbl := by
  obtain ⟨t, hl⟩ := Option.isSome_iff_exists.mp h
  rw [tokOf, hl]
  exact mem_of_lookup hl

theorem tokOf_back {tbl : List (String × Tok)} (hb : ∀ x ∈ tbl, nameOf tbl x.2 = some x.1) {s : String}
    (h : inTable tbl s = true) : nameOf tbl (tokOf tbl s) = some s :=
  hb _ (tokOf_mem h)

end Pyx.Prebuild
