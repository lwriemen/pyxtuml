import Proofs.SqlLexer
import PyxModel.Sql.Value
import Proofs.SqlChars

/-! which rule of the ordered alternation fires on a text, by its first character(s) -/
namespace Pyx.Sql
open Gen.SqlLex (Rule Kw)

/-- the first characters of the texts a rule's regex can match (FRACTION: `\d`, which for a non-ASCII character is
    Python's business; every other rule is ASCII at its first character) -/
def startOk : Rule → Char → Bool
  | .comment, c => c == '-'
  | .COMMA, c => c == ','
  | .FRACTION, c => isAsciiDigit c || decide (128 ≤ c.toNat)
  | .RELID, c => c == 'R'
  | .CARDINALITY, c => c == '1'
  | .ID, c => isIdStart c
  | .LPAREN, c => c == '('
  | .MINUS, c => c == '-'
  | .NUMBER, c => isAsciiDigit c
  | .RPAREN, c => c == ')'
  | .SEMICOLON, c => c == ';'
  | .STRING, c => c == '\''
  | .GUID, c => c == '"'
  | .newline, c => c == '\n'

theorem matchRule_none_of_start (u : UC) (r : Rule) (c : Char) (cs : Text) (h : startOk r c = false) :
    matchRule u r (c :: cs) = none := by
  cases r <;>
    simp only [startOk, beq_eq_false_iff_ne, ne_eq, Bool.or_eq_false_iff, decide_eq_false_iff_not, Nat.not_le] at h
  case comment => simp [matchRule, mComment, h]
  case COMMA => simp [matchRule, mChar, h]
  case FRACTION => simp [matchRule, mFraction, UC.isDigit, h.1, h.2]
  case RELID => simp [matchRule, mRelid, h]
  case CARDINALITY => simp [matchRule, mCardinality, h]
  case ID => simp [matchRule, mId, h]
  case LPAREN => simp [matchRule, mChar, h]
  case MINUS => simp [matchRule, mChar, h]
  case NUMBER => simp [matchRule, mNumber, h]
  case RPAREN => simp [matchRule, mChar, h]
  case SEMICOLON => simp [matchRule, mChar, h]
  case STRING => simp [matchRule, mString, h]
  case GUID => simp [matchRule, mGuid, h]
  case newline => simp [matchRule, mNewline, h]

theorem ne_of_isIdStart {c x : Char} (hc : isIdStart c = true) (hx : isIdStart x = false) : c ≠ x := by
  intro h; subst h; rw [hc] at hx; exact Bool.noConfusion hx

theorem isIdStart_lt_128 {c : Char} (hc : isIdStart c = true) : c.toNat < 128 := by
  simp only [isIdStart, isAsciiAlpha, isAsciiUpper, isAsciiLower, Bool.or_eq_true, Bool.and_eq_true,
    decide_eq_true_eq, beq_iff_eq] at hc
  rcases hc with (⟨_, _⟩ | ⟨_, _⟩) | h
  · omega
  · omega
  · subst h; decide

theorem isIdStart_not_digit {c : Char} (hc : isIdStart c = true) : isAsciiDigit c = false := by
  simp only [isIdStart, isAsciiAlpha, isAsciiUpper, isAsciiLower, Bool.or_eq_true, Bool.and_eq_true,
    decide_eq_true_eq, beq_iff_eq] at hc
  simp only [isAsciiDigit, Bool.and_eq_false_iff, decide_eq_false_iff_not]
  rcases hc with (⟨_, _⟩ | ⟨_, _⟩) | h
  · omega
  · omega
  · subst h; decide

theorem startOk_digit {d : Char} (hd : isAsciiDigit d = true) {r : Rule} (hs : startOk r d = true) :
    r = .FRACTION ∨ r = .CARDINALITY ∨ r = .NUMBER := by
  cases r
  case FRACTION | CARDINALITY | NUMBER => simp
  case ID => rw [isIdStart_not_digit hs] at hd; cases hd
  all_goals
    rw [startOk, beq_iff_eq] at hs
    subst hs
    exact absurd hd (by decide)

theorem startOk_idStart {c : Char} (hc : isIdStart c = true) {r : Rule} (hs : startOk r c = true) :
    r = .RELID ∨ r = .ID := by
  cases r
  case RELID | ID => simp
  case FRACTION =>
    have := isIdStart_lt_128 hc
    simp only [startOk, isIdStart_not_digit hc, Bool.false_or, decide_eq_true_eq] at hs
    omega
  case NUMBER => rw [startOk, isIdStart_not_digit hc] at hs; cases hs
  all_goals
    rw [startOk, beq_iff_eq] at hs
    subst hs
    exact absurd hc (by decide)

/-- PLY's master regex: the rule that fires is the first one, in definition order, that matches -/
theorem firstMatch_of (u : UC) (cs : Text) (r : Rule) (l rest : Text)
    (hpre : ∀ r' ∈ Gen.SqlLex.ruleOrder.takeWhile (· != r), matchRule u r' cs = none)
    (hm : matchRule u r cs = some (l, rest)) : firstMatch u cs = some (r, l, rest) := by
  obtain ⟨post, hsplit⟩ : ∃ post, Gen.SqlLex.ruleOrder = Gen.SqlLex.ruleOrder.takeWhile (· != r) ++ r :: post := by
    cases r <;> exact ⟨_, rfl⟩
  exact List.findSome?_eq_some_iff.mpr ⟨_, r, post, hsplit, by rw [hm]; rfl, fun r' hr' => by rw [hpre r' hr']; rfl⟩

theorem step_of_firstMatch (u : UC) (c : Char) (r : Text) (rule : Rule) (l rest : Text)
    (hi : Gen.SqlLex.ignore.contains c = false) (hm : firstMatch u (c :: r) = some (rule, l, rest)) :
    step u (c :: r) = if rule.returnsToken then .emit (mkTok u rule l) rest else .skip rest := by
  simp only [step, hi, hm]; rfl

theorem step_of_firstMatch_none (u : UC) (c : Char) (r : Text)
    (hi : Gen.SqlLex.ignore.contains c = false) (hm : firstMatch u (c :: r) = none) :
    step u (c :: r) = .illegal := by
  simp only [step, hi, hm]; rfl

theorem match_not_ignored (u : UC) {r : Rule} {c : Char} {cs : Text} {p : Text × Text}
    (h : matchRule u r (c :: cs) = some p) : Gen.SqlLex.ignore.contains c = false := by
  cases hi : Gen.SqlLex.ignore.contains c with
  | false => rfl
  | true =>
    have hs : ∀ x ∈ Gen.SqlLex.ignore, startOk r x = false := by cases r <;> decide
    rw [matchRule_none_of_start u r c cs (hs c (List.contains_iff_mem.mp hi))] at h
    cases h

theorem step_of_match (u : UC) (c : Char) (cs : Text) (r : Rule) (l rest : Text)
    (hpre : ∀ r' ∈ Gen.SqlLex.ruleOrder.takeWhile (· != r), startOk r' c = true → matchRule u r' (c :: cs) = none)
    (hm : matchRule u r (c :: cs) = some (l, rest)) :
    step u (c :: cs) = if r.returnsToken then .emit (mkTok u r l) rest else .skip rest := by
  refine step_of_firstMatch u c cs r l rest (match_not_ignored u hm) (firstMatch_of u _ r l rest (fun r' hr' => ?_) hm)
  cases hs : startOk r' c with
  | true => exact hpre r' hr' hs
  | false => exact matchRule_none_of_start u r' c cs hs

/-- the hypothesis `h` is a closed Boolean for a given `c` and `r`, so that a caller proves it `by decide` -/
theorem step_of_start (u : UC) (c : Char) (cs : Text) (r : Rule) (l rest : Text)
    (h : (Gen.SqlLex.ruleOrder.takeWhile (· != r)).all (fun r' => !startOk r' c) = true)
    (hm : matchRule u r (c :: cs) = some (l, rest)) :
    step u (c :: cs) = if r.returnsToken then .emit (mkTok u r l) rest else .skip rest := by
  simp only [Bool.not_eq_true', List.all_eq_true] at h
  exact step_of_match u c cs r l rest (fun r' hr' hs => by rw [h r' hr'] at hs; cases hs) hm

theorem step_space (u : UC) (r : Text) : step u (' ' :: r) = .skip r := by
  simp [step, Gen.SqlLex.ignore]

theorem lex_space (u : UC) (r : Text) : lex u (' ' :: r) = lex u r := lex_of_skip u _ _ (step_space u r)

theorem step_newline (u : UC) (r : Text) : step u ('\n' :: r) = .skip (r.dropWhile (fun c => c == '\n')) :=
  step_of_start u '\n' r .newline ('\n' :: r.takeWhile (fun c => c == '\n')) _ (by decide)
    (by simp [matchRule, mNewline])

theorem lex_newline (u : UC) (r : Text) : lex u ('\n' :: r) = lex u r := by
  rw [lex_of_skip u _ _ (step_newline u r)]
  cases r with
  | nil => rfl
  | cons c r' =>
    by_cases hc : c = '\n'
    · subst hc
      rw [lex_of_skip u _ _ (step_newline u r')]
      simp []
    · simp [hc]

theorem step_comma (u : UC) (r : Text) : step u (',' :: r) = .emit ⟨.COMMA, [',']⟩ r :=
  step_of_start u ',' r .COMMA [','] r (by decide) (by simp [matchRule, mChar])

theorem step_lparen (u : UC) (r : Text) : step u ('(' :: r) = .emit ⟨.LPAREN, ['(']⟩ r :=
  step_of_start u '(' r .LPAREN ['('] r (by decide) (by simp [matchRule, mChar])

theorem step_rparen (u : UC) (r : Text) : step u (')' :: r) = .emit ⟨.RPAREN, [')']⟩ r :=
  step_of_start u ')' r .RPAREN [')'] r (by decide) (by simp [matchRule, mChar])

theorem step_semicolon (u : UC) (r : Text) : step u (';' :: r) = .emit ⟨.SEMICOLON, [';']⟩ r :=
  step_of_start u ';' r .SEMICOLON [';'] r (by decide) (by simp [matchRule, mChar])

theorem mComment_dash_none (r : Text) (h : ∀ c, r.head? = some c → c ≠ '-') : mComment ('-' :: r) = none := by
  cases r with
  | nil => simp [mComment]
  | cons d r => simp [mComment, h d rfl]

theorem step_minus (u : UC) (r : Text) (h : ∀ c, r.head? = some c → c ≠ '-') :
    step u ('-' :: r) = .emit ⟨.MINUS, ['-']⟩ r := by
  refine step_of_match u '-' r .MINUS ['-'] r (fun r' hr' hs => ?_) (by simp [matchRule, mChar])
  have only : ∀ r' ∈ Gen.SqlLex.ruleOrder.takeWhile (· != Rule.MINUS), startOk r' '-' = true → r' = .comment := by decide
  rw [only r' hr' hs]
  exact mComment_dash_none r h

theorem mComment_line (body r : Text) (h : ∀ c ∈ body, c ≠ '\n') :
    mComment ('-' :: '-' :: (body ++ '\n' :: r)) = some ('-' :: '-' :: (body ++ ['\n']), r) := by
  have hall : ∀ c ∈ body, (fun c => c != '\n') c = true := by intro c hc; simp [h c hc]
  have hhead : ∀ y, ('\n' :: r).head? = some y → (fun c => c != '\n') y = false := by
    intro y hy; simp at hy; simp [← hy]
  have ht := takeWhile_run (fun c => c != '\n') body ('\n' :: r) hall hhead
  have hd := dropWhile_run (fun c => c != '\n') body ('\n' :: r) hall hhead
  simp only [mComment, if_true, ht, hd]

theorem step_comment (u : UC) (body r : Text) (h : ∀ c ∈ body, c ≠ '\n') :
    step u ('-' :: '-' :: (body ++ '\n' :: r)) = .skip r :=
  step_of_start u '-' _ .comment _ r (by decide) (mComment_line body r h)

theorem step_comment_eof (u : UC) (body : Text) (h : ∀ c ∈ body, c ≠ '\n') :
    step u ('-' :: '-' :: body) = .skip [] := by
  have hall : ∀ c ∈ body, (fun c => c != '\n') c = true := by intro c hc; simp [h c hc]
  have ht := takeWhile_run (fun c => c != '\n') body [] hall (by simp)
  have hd := dropWhile_run (fun c => c != '\n') body [] hall (by simp)
  rw [List.append_nil] at ht hd
  exact step_of_start u '-' _ .comment ('-' :: '-' :: body) [] (by decide) (by simp only [matchRule, mComment, if_true, ht, hd])

theorem scanStr_escapeQ (s rest : Text) (h : ∀ c, rest.head? = some c → c ≠ '\'') :
    scanStr (escapeQ s ++ '\'' :: rest) = some (escapeQ s, rest) := by
  induction s with
  | nil =>
    cases rest with
    | nil => simp [escapeQ, scanStr]
    | cons d r => have := h d rfl; simp [escapeQ, scanStr, this]
  | cons c s ih =>
    have hcons : escapeQ (c :: s) = (if c = '\'' then ['\'', '\''] else [c]) ++ escapeQ s := by
      simp [escapeQ, List.flatMap_cons]
    rw [hcons]
    by_cases hc : c = '\''
    · subst hc
      simp only [if_true, List.cons_append, List.nil_append]
      rw [scanStr]; simp only [if_true]; rw [ih]
    · simp only [hc, if_false, List.cons_append, List.nil_append]
      rw [scanStr.eq_def]; simp only [hc, if_false]; rw [ih]

theorem step_string (u : UC) (s rest : Text) (h : ∀ c, rest.head? = some c → c ≠ '\'') :
    step u (strText s ++ rest) = .emit ⟨.STRING, strText s⟩ rest := by
  have : strText s ++ rest = '\'' :: (escapeQ s ++ '\'' :: rest) := by simp [strText]
  rw [this]
  exact step_of_start u '\'' _ .STRING (strText s) rest (by decide)
    (by simp only [matchRule, mString, if_true, scanStr_escapeQ s rest h, strText])

theorem scanGuid_plain (body rest : Text) (h : ∀ c ∈ body, c ≠ '"' ∧ c ≠ '\n' ∧ c ≠ '\\') :
    scanGuid (body ++ '"' :: rest) = some (body, rest) := by
  induction body with
  | nil => rw [scanGuid.eq_def]; simp
  | cons c b ih =>
    obtain ⟨h1, h2, h3⟩ := h c (by simp)
    have ih' := ih (fun x hx => h x (by simp [hx]))
    simp only [List.cons_append]
    rw [scanGuid.eq_def]; simp only [h1, h2, h3, if_false]; rw [ih']

theorem step_guid_plain (u : UC) (body rest : Text) (h : ∀ c ∈ body, c ≠ '"' ∧ c ≠ '\n' ∧ c ≠ '\\') :
    step u ('"' :: (body ++ '"' :: rest)) = .emit ⟨.GUID, '"' :: (body ++ ['"'])⟩ rest :=
  step_of_start u '"' _ .GUID _ rest (by decide) (by simp only [matchRule, mGuid, if_true, scanGuid_plain body rest h])

/-- what may follow a printed number: not a digit (of any script), not `.`, not `C` -/
def NumFollow (u : UC) (rest : Text) : Prop :=
  ∀ c, rest.head? = some c → u.isDigit c = false ∧ c ≠ '.' ∧ c ≠ 'C'

theorem takeWhile_digits_run (u : UC) (ds rest : Text) (hd : ∀ c ∈ ds, isAsciiDigit c = true)
    (hr : ∀ c, rest.head? = some c → u.isDigit c = false) :
    (ds ++ rest).takeWhile u.isDigit = ds ∧ (ds ++ rest).dropWhile u.isDigit = rest :=
  ⟨takeWhile_run _ ds rest (fun c hc => u.isDigit_of_ascii (hd c hc)) hr,
   dropWhile_run _ ds rest (fun c hc => u.isDigit_of_ascii (hd c hc)) hr⟩

theorem takeWhile_asciiDigits_run (u : UC) (ds rest : Text) (hd : ∀ c ∈ ds, isAsciiDigit c = true)
    (hr : ∀ c, rest.head? = some c → u.isDigit c = false) :
    (ds ++ rest).takeWhile isAsciiDigit = ds ∧ (ds ++ rest).dropWhile isAsciiDigit = rest := by
  have hr' : ∀ c, rest.head? = some c → isAsciiDigit c = false := by
    intro c hc
    have := hr c hc
    cases hd' : isAsciiDigit c with
    | false => rfl
    | true => rw [u.isDigit_of_ascii hd'] at this; exact this
  exact ⟨takeWhile_run _ ds rest hd hr', dropWhile_run _ ds rest hd hr'⟩

/-- the FRACTION rule is tried first and needs a point, `1C` needs a `C` -/
theorem step_number (u : UC) (d : Char) (ds rest : Text) (hd : ∀ c ∈ d :: ds, isAsciiDigit c = true)
    (hr : NumFollow u rest) : step u (d :: ds ++ rest) = .emit ⟨.NUMBER, d :: ds⟩ rest := by
  have hd0 : isAsciiDigit d = true := hd d (by simp)
  have hrd : ∀ c, rest.head? = some c → u.isDigit c = false := fun c hc => (hr c hc).1
  obtain ⟨t1, t2⟩ := takeWhile_digits_run u (d :: ds) rest hd hrd
  obtain ⟨a1, a2⟩ := takeWhile_asciiDigits_run u (d :: ds) rest hd hrd
  have hfrac : mFraction u (d :: ds ++ rest) = none := by
    unfold mFraction
    simp only [t1, t2]
    cases rest with
    | nil => simp
    | cons e r => have := (hr e rfl).2.1; simp [this]
  have hcard : mCardinality (d :: ds ++ rest) = none := by
    by_cases h1 : d = '1'
    · subst h1
      cases ds with
      | nil =>
        cases rest with
        | nil => simp [mCardinality]
        | cons e r => have := (hr e rfl).2.2; simp [mCardinality, this]
      | cons e es =>
        have : e ≠ 'C' := ne_of_isAsciiDigit (hd e (by simp)) (by decide)
        simp [mCardinality, this]
    · simp [mCardinality, h1]
  refine step_of_match u d (ds ++ rest) .NUMBER (d :: ds) rest (fun r' hr' hs => ?_)
    (by simp only [matchRule, mNumber, ← List.cons_append, a1, a2]; rfl)
  rcases startOk_digit hd0 hs with rfl | rfl | rfl
  · exact hfrac
  · exact hcard
  · exact absurd hr' (by decide)

theorem step_fraction (u : UC) (d : Char) (ds : Text) (e : Char) (es rest : Text)
    (hd : ∀ c ∈ d :: ds, isAsciiDigit c = true) (he : ∀ c ∈ e :: es, isAsciiDigit c = true)
    (hr : ∀ c, rest.head? = some c → u.isDigit c = false) :
    step u (d :: ds ++ '.' :: (e :: es ++ rest)) = .emit ⟨.FRACTION, d :: ds ++ '.' :: e :: es⟩ rest := by
  have hd0 : isAsciiDigit d = true := hd d (by simp)
  have hdot : ∀ c, ('.' :: (e :: es ++ rest)).head? = some c → u.isDigit c = false := by
    intro c hc; simp at hc; subst hc; simp [UC.isDigit, isAsciiDigit]
  obtain ⟨t1, t2⟩ := takeWhile_digits_run u (d :: ds) ('.' :: (e :: es ++ rest)) hd hdot
  obtain ⟨s1, s2⟩ := takeWhile_digits_run u (e :: es) rest he hr
  have hm : mFraction u (d :: ds ++ '.' :: (e :: es ++ rest)) = some (d :: ds ++ '.' :: e :: es, rest) := by
    unfold mFraction
    simp only [t1, t2, s1, s2]; simp
  refine step_of_match u d (ds ++ '.' :: (e :: es ++ rest)) .FRACTION _ rest
    (fun r' hr' hs => ?_) hm
  rcases startOk_digit hd0 hs with rfl | rfl | rfl <;> exact absurd hr' (by decide)

/-- the characters after the first one do not make the word a rel id: `R` is not followed by a digit -/
def NotRelid (c : Char) (tail : Text) : Prop :=
  c = 'R' → ∀ d, tail.head? = some d → isAsciiDigit d = false

theorem step_word (u : UC) (c : Char) (cs rest : Text) (hc : isIdStart c = true)
    (hcs : ∀ x ∈ cs, isAsciiWord x = true) (hr : ∀ x, rest.head? = some x → u.isWord x = false)
    (hrel : NotRelid c (cs ++ rest)) :
    step u (c :: cs ++ rest) = .emit (mkTok u .ID (c :: cs)) rest := by
  have t1 := takeWhile_run u.isWord cs rest (fun x hx => u.isWord_of_ascii (hcs x hx)) hr
  have t2 := dropWhile_run u.isWord cs rest (fun x hx => u.isWord_of_ascii (hcs x hx)) hr
  refine step_of_match u c (cs ++ rest) .ID (c :: cs) rest (fun r' hr' hs => ?_)
    (by simp only [matchRule, mId, hc, if_true, t1, t2])
  rcases startOk_idStart hc hs with rfl | rfl
  · by_cases hR : c = 'R'
    · simp [matchRule, mRelid, hR, takeWhile_of_head_false _ _ (hrel hR)]
    · simp [matchRule, mRelid, hR]
  · exact absurd hr' (by decide)

/-- `t_ID`: the token is retyped when the upper-cased lexeme is a reserved word -/
theorem mkTok_ID (u : UC) (w : Text) :
    mkTok u .ID w = match kwOf (u.upper w) with
      | some k => ⟨.kw k, w⟩
      | none => ⟨.ID, w⟩ := rfl

theorem mkTok_ID_text (u : UC) (w : Text) : (mkTok u .ID w).text = w := by
  rw [mkTok_ID]; split <;> rfl

theorem mkTok_ID_kind (u : UC) (w : Text) : (mkTok u .ID w).kind = .ID ∨ ∃ k, (mkTok u .ID w).kind = .kw k := by
  rw [mkTok_ID]; split
  · exact Or.inr ⟨_, rfl⟩
  · exact Or.inl rfl

theorem kwOf_chars (k : Kw) : kwOf k.chars = some k := by
  cases k <;> decide

theorem mkTok_ID_kw (u : UC) (k : Kw) : mkTok u .ID k.chars = ⟨.kw k, k.chars⟩ := by
  have hup : k.chars.all (fun c => decide (c.toNat < 128) && !isAsciiLower c) = true := by cases k <;> decide
  rw [mkTok_ID, u.upper_eq_self hup, kwOf_chars]

theorem step_relid (u : UC) (d : Char) (ds rest : Text) (hd : ∀ c ∈ d :: ds, isAsciiDigit c = true)
    (hr : ∀ c, rest.head? = some c → isAsciiDigit c = false) :
    step u ('R' :: (d :: ds ++ rest)) = .emit ⟨.RELID, 'R' :: d :: ds⟩ rest := by
  have t1 := takeWhile_run isAsciiDigit (d :: ds) rest hd hr
  have t2 := dropWhile_run isAsciiDigit (d :: ds) rest hd hr
  exact step_of_start u 'R' _ .RELID _ rest (by decide) (by simp only [matchRule, mRelid, if_true, t1, t2]; simp)

theorem step_1C (u : UC) (rest : Text) : step u ('1' :: 'C' :: rest) = .emit ⟨.CARDINALITY, ['1', 'C']⟩ rest := by
  refine step_of_match u '1' _ .CARDINALITY ['1', 'C'] rest (fun r' hr' hs => ?_) (by simp [matchRule, mCardinality])
  have only : ∀ r' ∈ Gen.SqlLex.ruleOrder.takeWhile (· != Rule.CARDINALITY), startOk r' '1' = true → r' = .FRACTION := by
    decide
  rw [only r' hr' hs]
  simp [matchRule, mFraction, UC.isDigit, isAsciiDigit]

end Pyx.Sql
