import PyxModel.Sql.Parser
import Proofs.Lib.Fuel

/-! What a parser of PyxModel/Sql/Parser.lean leaves is a suffix of what it got, a proper one for everything but the
    comma-separated sequences: so every statement consumes a token, the fuel `toks.length` of `parse` suffices and `parse` unfolds one
    statement at a time (`parse_of_stmtAt`); and the values of an INSERT are read by `valueAt` from suffixes of the token list. -/
namespace Pyx.Sql

def Eats (toks r : List Tok) : Prop := r <:+ toks ∧ r.length < toks.length

theorem Eats.cons (t : Tok) (r : List Tok) : Eats (t :: r) r := ⟨List.suffix_cons t r, Nat.lt_succ_self _⟩

theorem Eats.suffix {toks r : List Tok} (h : Eats toks r) : r <:+ toks := h.1

theorem Eats.then {toks r r' : List Tok} (h : Eats toks r) (h' : r' <:+ r) : Eats toks r' :=
  ⟨h'.trans h.1, Nat.lt_of_le_of_lt h'.length_le h.2⟩

theorem expectK_eats {k : Kind} {toks r : List Tok} (h : expectK k toks = some r) : Eats toks r := by
  cases toks with
  | nil => simp [expectK] at h
  | cons t ts =>
    simp only [expectK] at h
    split at h
    · simp only [Option.some.injEq] at h; subst h; exact .cons t ts
    · simp at h

theorem identAt_eats {toks : List Tok} {x : Name × List Tok} (h : identAt toks = some x) : Eats toks x.2 := by
  cases toks with
  | nil => simp [identAt] at h
  | cons t ts =>
    simp only [identAt] at h
    split at h
    · simp only [Option.some.injEq] at h; subst h; exact .cons t ts
    · simp at h

theorem relidAt_eats {toks : List Tok} {x : Name × List Tok} (h : relidAt toks = some x) : Eats toks x.2 := by
  cases toks with
  | nil => simp [relidAt] at h
  | cons t ts =>
    simp only [relidAt] at h
    split at h
    · simp only [Option.some.injEq] at h; subst h; exact .cons t ts
    · simp at h

theorem cardAt_eats {toks : List Tok} {x : Text × List Tok} (h : cardAt toks = some x) : Eats toks x.2 := by
  cases toks with
  | nil => simp [cardAt] at h
  | cons t ts =>
    simp only [cardAt] at h
    split at h
    · split at h
      · simp only [Option.some.injEq] at h; subst h; exact .cons t ts
      · simp at h
    · split at h
      · simp only [Option.some.injEq] at h; subst h; exact .cons t ts
      · simp at h
    · simp only [Option.some.injEq] at h; subst h; exact .cons t ts
    · simp at h

theorem attrAt_eats {toks : List Tok} {x : (Name × Name) × List Tok} (h : attrAt toks = some x) : Eats toks x.2 := by
  unfold attrAt at h
  split at h
  · split at h
    · simp only [Option.some.injEq] at h; subst h
      exact (Eats.cons _ _).then (List.suffix_cons _ _)
    · simp at h
  · simp at h

theorem valueAt_eats {toks : List Tok} {x : Text × List Tok} (h : valueAt toks = some x) : Eats toks x.2 := by
  unfold valueAt at h
  split at h
  · split at h
    · simp only [Option.some.injEq] at h; subst h; exact .cons _ _
    · split at h
      · split at h
        · split at h
          · simp only [Option.some.injEq] at h; subst h
            exact (Eats.cons _ _).then (List.suffix_cons _ _)
          · simp at h
        · simp at h
      · simp at h
  · simp at h

theorem identAt_le (toks : List Tok) (x : Name × List Tok) (h : identAt toks = some x) : x.2.length ≤ toks.length :=
  Nat.le_of_lt (identAt_eats h).2

theorem attrAt_le (toks : List Tok) (x : (Name × Name) × List Tok) (h : attrAt toks = some x) : x.2.length ≤ toks.length :=
  Nat.le_of_lt (attrAt_eats h).2

theorem valueAt_le (toks : List Tok) (x : Text × List Tok) (h : valueAt toks = some x) : x.2.length ≤ toks.length :=
  Nat.le_of_lt (valueAt_eats h).2

theorem seqTail_spec {α : Type} (elem : List Tok → Option (α × List Tok))
    (he : ∀ toks x, elem toks = some x → x.2 <:+ toks) :
    ∀ (fuel : Nat) (toks : List Tok) (x : List α × List Tok), seqTail elem fuel toks = some x →
      x.2 <:+ toks ∧ ∀ v ∈ x.1, ∃ r r', r <:+ toks ∧ elem r = some (v, r') := by
  intro fuel
  induction fuel with
  | zero =>
    intro toks x h
    cases toks with
    | nil => rw [seqTail.eq_def] at h; simp only [Option.some.injEq] at h; subst h; exact ⟨List.suffix_refl _, by simp⟩
    | cons t r =>
      rw [seqTail.eq_def] at h
      simp only at h
      split at h
      · cases h
      · simp only [Option.some.injEq] at h; subst h; exact ⟨List.suffix_refl _, by simp⟩
  | succ f ih =>
    intro toks x h
    cases toks with
    | nil => rw [seqTail.eq_def] at h; simp only [Option.some.injEq] at h; subst h; exact ⟨List.suffix_refl _, by simp⟩
    | cons t r =>
      rw [seqTail.eq_def] at h
      simp only at h
      split at h
      · cases hel : elem r with
        | none => rw [hel] at h; cases h
        | some y =>
          rw [hel] at h; simp only at h
          cases hs : seqTail elem f y.2 with
          | none => rw [hs] at h; cases h
          | some z =>
            rw [hs] at h; simp only [Option.some.injEq] at h; subst h
            obtain ⟨h1, h2⟩ := ih y.2 z hs
            have hy : y.2 <:+ t :: r := (he r y hel).trans (List.suffix_cons _ _)
            refine ⟨h1.trans hy, fun v hv => ?_⟩
            simp only [List.mem_cons] at hv
            rcases hv with rfl | hv
            · exact ⟨r, y.2, List.suffix_cons _ _, hel⟩
            · obtain ⟨r1, r2, hr, hv'⟩ := h2 v hv
              exact ⟨r1, r2, hr.trans hy, hv'⟩
      · simp only [Option.some.injEq] at h; subst h; exact ⟨List.suffix_refl _, by simp⟩

theorem seqP_spec {α : Type} (elem : List Tok → Option (α × List Tok))
    (he : ∀ toks x, elem toks = some x → x.2 <:+ toks)
    {toks : List Tok} {x : List α × List Tok} (h : seqP elem toks = some x) :
    x.2 <:+ toks ∧ ∀ v ∈ x.1, ∃ r r', r <:+ toks ∧ elem r = some (v, r') := by
  unfold seqP at h
  split at h
  · rename_i y r hy
    split at h
    · rename_i xs r' hs
      simp only [Option.some.injEq] at h; subst h
      obtain ⟨h1, h2⟩ := seqTail_spec elem he _ r (xs, r') hs
      refine ⟨h1.trans (he toks (y, r) hy), fun v hv => ?_⟩
      simp only [List.mem_cons] at hv
      rcases hv with rfl | hv
      · exact ⟨toks, r, List.suffix_refl _, hy⟩
      · obtain ⟨r1, r2, hr, hv'⟩ := h2 v hv
        exact ⟨r1, r2, hr.trans (he toks (y, r) hy), hv'⟩
    · simp at h
  · exact seqTail_spec elem he _ toks x h

theorem identSeq_suffix {toks : List Tok} {x : List Name × List Tok} (h : seqP identAt toks = some x) : x.2 <:+ toks :=
  (seqP_spec identAt (fun _ _ h => (identAt_eats h).suffix) h).1

theorem attrSeq_suffix {toks : List Tok} {x : List (Name × Name) × List Tok} (h : seqP attrAt toks = some x) : x.2 <:+ toks :=
  (seqP_spec attrAt (fun _ _ h => (attrAt_eats h).suffix) h).1

theorem valueSeq_spec {toks : List Tok} {x : List Text × List Tok} (h : seqP valueAt toks = some x) :
    x.2 <:+ toks ∧ ∀ v ∈ x.1, ∃ r r', r <:+ toks ∧ valueAt r = some (v, r') :=
  seqP_spec valueAt (fun _ _ h => (valueAt_eats h).suffix) h

/-- FUEL of `(COMMA x)*`: one unit per remaining token always suffices -- every round consumes the comma, and the element
    parser never returns more tokens than it got -- so `none` from `seqTail` (hence from `seqP`, which starts it with the
    number of remaining tokens) is always a syntax error, never exhaustion -/
theorem seqTail_fuel_stable {α : Type} (elem : List Tok → Option (α × List Tok))
    (he : ∀ toks x, elem toks = some x → x.2.length ≤ toks.length) :
    ∀ (fuel fuel' : Nat) (toks : List Tok), toks.length ≤ fuel → toks.length ≤ fuel' →
      seqTail elem fuel toks = seqTail elem fuel' toks :=
  fuel_agree List.length (seqTail elem)
    (fun n m toks h => by obtain rfl := List.eq_nil_of_length_eq_zero h; rw [seqTail.eq_def, seqTail.eq_def])
    fun n m toks ih => by
      cases toks with
      | nil => rw [seqTail.eq_def, seqTail.eq_def]
      | cons t r =>
        rw [seqTail.eq_def elem (n + 1), seqTail.eq_def elem (m + 1)]
        simp only
        split
        · cases hel : elem r with
          | none => rfl
          | some y => simp only [ih y.2 (Nat.lt_succ_of_le (he r y hel))]
        · rfl

theorem endAt_eats {toks : List Tok} {x : EndP × List Tok} (h : endAt toks = some x) : Eats toks x.2 := by
  simp only [endAt, Option.bind_eq_bind, Option.bind_eq_some_iff] at h
  obtain ⟨a, h1, b, h2, c, h3, d, h4, e, h5, h6⟩ := h
  have l := (cardAt_eats h1).then ((((expectK_eats h5).suffix.trans (identSeq_suffix h4)).trans (expectK_eats h3).suffix).trans
    (identAt_eats h2).suffix)
  split at h6
  · simp only [Option.some.injEq] at h6; subst h6
    exact l.then ((List.suffix_cons _ _).trans (List.suffix_cons _ _))
  · simp only [Option.some.injEq] at h6; subst h6; exact l

def ValuesFrom (toks : List Tok) : Stmt → Prop
  | .insert _ values _ => ∀ v ∈ values, ∃ r r', r <:+ toks ∧ valueAt r = some (v, r')
  | _ => True

theorem pCreateTable_spec {toks : List Tok} {x : Stmt × List Tok} (h : pCreateTable toks = some x) :
    Eats toks x.2 ∧ ValuesFrom toks x.1 := by
  simp only [pCreateTable, Option.bind_eq_bind, Option.bind_eq_some_iff] at h
  obtain ⟨a, h1, b, h2, c, h3, d, h4, e, h5, f, h6, g, h7, h8⟩ := h
  simp only [Option.some.injEq] at h8; subst h8
  exact ⟨(expectK_eats h1).then ((((((expectK_eats h7).suffix.trans (expectK_eats h6).suffix).trans (attrSeq_suffix h5)).trans
    (expectK_eats h4).suffix).trans (identAt_eats h3).suffix).trans (expectK_eats h2).suffix), trivial⟩

theorem pCreateRop_spec {toks : List Tok} {x : Stmt × List Tok} (h : pCreateRop toks = some x) :
    Eats toks x.2 ∧ ValuesFrom toks x.1 := by
  simp only [pCreateRop, Option.bind_eq_bind, Option.bind_eq_some_iff] at h
  obtain ⟨a, h1, b, h2, c, h3, d, h4, e, h5, f, h6, g, h7, i, h8, j, h9, h10⟩ := h
  simp only [Option.some.injEq] at h10; subst h10
  exact ⟨(expectK_eats h1).then ((((((((expectK_eats h9).suffix.trans (endAt_eats h8).suffix).trans (expectK_eats h7).suffix).trans
    (endAt_eats h6).suffix).trans (expectK_eats h5).suffix).trans (relidAt_eats h4).suffix).trans (expectK_eats h3).suffix).trans
    (expectK_eats h2).suffix), trivial⟩

theorem pCreateIndex_spec {toks : List Tok} {x : Stmt × List Tok} (h : pCreateIndex toks = some x) :
    Eats toks x.2 ∧ ValuesFrom toks x.1 := by
  simp only [pCreateIndex, Option.bind_eq_bind, Option.bind_eq_some_iff] at h
  obtain ⟨a, h1, b, h2, c, h3, d, h4, e, h5, f, h6, g, h7, i, h8, j, h9, k, h10, h11⟩ := h
  simp only [Option.some.injEq] at h11; subst h11
  exact ⟨(expectK_eats h1).then (((((((((expectK_eats h10).suffix.trans (expectK_eats h9).suffix).trans (identSeq_suffix h8)).trans
    (expectK_eats h7).suffix).trans (identAt_eats h6).suffix).trans (expectK_eats h5).suffix).trans (identAt_eats h4).suffix).trans
    (expectK_eats h3).suffix).trans (expectK_eats h2).suffix), trivial⟩

theorem pInsertOrdered_spec {toks : List Tok} {x : Stmt × List Tok} (h : pInsertOrdered toks = some x) :
    Eats toks x.2 ∧ ValuesFrom toks x.1 := by
  simp only [pInsertOrdered, Option.bind_eq_bind, Option.bind_eq_some_iff] at h
  obtain ⟨a, h1, b, h2, c, h3, d, h4, e, h5, f, h6, g, h7, i, h8, h9⟩ := h
  simp only [Option.some.injEq] at h9; subst h9
  have hv : e <:+ toks := ((((expectK_eats h5).suffix.trans (expectK_eats h4).suffix).trans (identAt_eats h3).suffix).trans
    (expectK_eats h2).suffix).trans (expectK_eats h1).suffix
  exact ⟨(expectK_eats h1).then ((((((expectK_eats h8).suffix.trans (expectK_eats h7).suffix).trans (valueSeq_spec h6).1).trans
    (expectK_eats h5).suffix).trans (expectK_eats h4).suffix).trans ((identAt_eats h3).suffix.trans (expectK_eats h2).suffix)),
    fun v hm => by obtain ⟨r, r', hr, hv'⟩ := (valueSeq_spec h6).2 v hm; exact ⟨r, r', hr.trans hv, hv'⟩⟩

theorem pInsertNamed_spec {toks : List Tok} {x : Stmt × List Tok} (h : pInsertNamed toks = some x) :
    Eats toks x.2 ∧ ValuesFrom toks x.1 := by
  simp only [pInsertNamed, Option.bind_eq_bind, Option.bind_eq_some_iff] at h
  obtain ⟨a, h1, b, h2, c, h3, d, h4, e, h5, f, h6, g, h7, i, h8, j, h9, k, h10, l, h11, h12⟩ := h
  simp only [Option.some.injEq] at h12; subst h12
  have hv : i <:+ a := (((((expectK_eats h8).suffix.trans (expectK_eats h7).suffix).trans (expectK_eats h6).suffix).trans
    (identSeq_suffix h5)).trans (expectK_eats h4).suffix).trans ((identAt_eats h3).suffix.trans (expectK_eats h2).suffix)
  exact ⟨(expectK_eats h1).then ((((expectK_eats h11).suffix.trans (expectK_eats h10).suffix).trans (valueSeq_spec h9).1).trans hv),
    fun v hm => by
      obtain ⟨r, r', hr, hv'⟩ := (valueSeq_spec h9).2 v hm
      exact ⟨r, r', (hr.trans hv).trans (expectK_eats h1).suffix, hv'⟩⟩

theorem stmtAt_spec {toks : List Tok} {x : Stmt × List Tok} (h : stmtAt toks = some x) :
    Eats toks x.2 ∧ ValuesFrom toks x.1 := by
  unfold stmtAt at h
  cases h1 : pCreateTable toks with
  | some y => simp [h1] at h; subst h; exact pCreateTable_spec h1
  | none =>
    cases h2 : pCreateRop toks with
    | some y => simp [h1, h2] at h; subst h; exact pCreateRop_spec h2
    | none =>
      cases h3 : pCreateIndex toks with
      | some y => simp [h1, h2, h3] at h; subst h; exact pCreateIndex_spec h3
      | none =>
        cases h4 : pInsertOrdered toks with
        | some y => simp [h1, h2, h3, h4] at h; subst h; exact pInsertOrdered_spec h4
        | none => simp [h1, h2, h3, h4] at h; exact pInsertNamed_spec h

theorem stmtAt_shorter (toks : List Tok) (x : Stmt × List Tok) (h : stmtAt toks = some x) : x.2.length < toks.length :=
  (stmtAt_spec h).1.2

theorem parseFuel_eq : ∀ (n m : Nat) (toks : List Tok), toks.length ≤ n → toks.length ≤ m → parseFuel n toks = parseFuel m toks :=
  fuel_agree List.length parseFuel
    (fun n m toks h => by obtain rfl := List.eq_nil_of_length_eq_zero h; cases n <;> cases m <;> rfl)
    fun n m toks ih => by
      cases toks with
      | nil => rfl
      | cons t r =>
        simp only [parseFuel]
        cases hs : stmtAt (t :: r) with
        | none => rfl
        | some x => simp only [ih x.2 (stmtAt_shorter _ x hs)]

theorem parseFuel_stable (toks : List Tok) (n : Nat) (h : toks.length ≤ n) : parseFuel n toks = parse toks :=
  parseFuel_eq n toks.length toks h (Nat.le_refl _)

/-- `statement+`: one statement, then the rest -/
theorem parse_of_stmtAt {toks rest : List Tok} {st : Stmt} (h : stmtAt toks = some (st, rest)) :
    parse toks = (parse rest).map (st :: ·) := by
  have hl := stmtAt_shorter toks _ h
  cases toks with
  | nil => cases hl
  | cons t r =>
    -- `rw`, not `simp only`: `parse rest` on the right stays folded
    rw [parse, List.length_cons, parseFuel]
    simp only [h, parseFuel_stable rest r.length (by simpa [Nat.lt_succ_iff] using hl)]
    cases parse rest <;> rfl

end Pyx.Sql
