import PyxModel.Sql.Links
import Proofs.SqlReloadRoutes

/-! the links of the reloaded metamodel are the links of the original (spec join of PyxModel/Sql/Links.lean) -/
namespace Pyx.Sql
open Gen.Persist (Ty)

theorem nullOf_eq (t : Ty) : nullOf t = some (documentedNull t) := by cases t <;> rfl

/-- a key cell as it is after a reload: an unset value has become the null value of the column type -/
def canonCell (c : Option Ty × Option Val) : Option Ty × Option Val :=
  (c.1, match c.1 with
        | some t => resolveVal t c.2
        | none => c.2)

theorem canonCell_some (t : Option Ty) (x : Val) : canonCell (t, some x) = (t, some x) := by
  cases t <;> rfl

/-- for the types that HAVE a null value (UNIQUE_ID: 0, STRING: ''), an unset cell stays null -/
theorem isNull_canon_nullable (t : Ty) (h : t = .UNIQUE_ID ∨ t = .STRING) :
    isNullL (canonCell (some t, none)).1 (canonCell (some t, none)).2 = true := by
  rcases h with rfl | rfl <;> rfl

/-- a pair of cells one of which is unset does not match before the reload; it does not match afterwards either
    unless the typed default it turns into meets an equal value on the other side -/
theorem cellMatch_canon (s t : Option Ty × Option Val)
    (h : (s.2 = none ∨ t.2 = none) → cellMatch (canonCell s) (canonCell t) = false) :
    cellMatch (canonCell s) (canonCell t) = cellMatch s t := by
  obtain ⟨s1, s2⟩ := s; obtain ⟨t1, t2⟩ := t
  cases s2 with
  | none => rw [h (Or.inl rfl)]; rfl
  | some x =>
    cases t2 with
    | none => rw [h (Or.inr rfl)]; exact (Bool.and_eq_false_iff.mpr (Or.inl (Bool.and_false _))).symm
    | some y => rw [canonCell_some, canonCell_some]

theorem cellMatch_canon_unset_left (t : Option Ty) (h : t = some .UNIQUE_ID ∨ t = some .STRING ∨ t = none)
    (c : Option Ty × Option Val) : cellMatch (canonCell (t, none)) c = false := by
  rcases h with rfl | rfl | rfl <;> rfl

theorem cellMatch_canon_unset_right (t : Option Ty) (h : t = some .UNIQUE_ID ∨ t = some .STRING ∨ t = none)
    (c : Option Ty × Option Val) : cellMatch c (canonCell (t, none)) = false := by
  rcases h with rfl | rfl | rfl <;> exact Bool.and_eq_false_iff.mpr (Or.inl (Bool.and_false _))

theorem findIdx?_map_fst (p : Name → Bool) (g : Name → Name) : ∀ (attrs : List (Name × Name)),
    (attrs.map fun a => (a.1, g a.2)).findIdx? (fun a => p a.1) = attrs.findIdx? (fun a => p a.1) := by
  intro attrs
  rw [List.findIdx?_map]
  rfl

theorem colExact_up (u : UC) (attrs : List (Name × Name)) (k : Name) : colExact (upAttrs u attrs) k = colExact attrs k := by
  unfold colExact upAttrs
  exact findIdx?_map_fst (fun n => n == k) u.upper attrs

theorem colCI_up (u : UC) (attrs : List (Name × Name)) (k : Name) : colCI u (upAttrs u attrs) k = colCI u attrs k := by
  unfold colCI
  rw [colExact_up]
  cases colExact attrs k with
  | some i => rfl
  | none =>
    simp only [upAttrs]
    exact findIdx?_map_fst (fun n => u.upper n == u.upper k) u.upper attrs

theorem canonVals_get (u : UC) : ∀ (attrs : List (Name × Name)) (row : List (Option Val)) (i : Nat),
    row.length = attrs.length →
    (canonVals u attrs row)[i]? = (attrs[i]?).bind (fun a => (row[i]?).map (fun v => canonVal u a.2 v)) := by
  intro attrs
  induction attrs with
  | nil => intro row i h; cases row with
    | nil => rfl
    | cons _ _ => cases h
  | cons a attrs ih =>
    intro row i h
    cases row with
    | nil => cases h
    | cons v vs =>
      cases i with
      | zero => rfl
      | succ i => exact ih vs i (Nat.succ.inj h)

theorem keyCell_canon (u : UC) (c : ClassM) (htypes : ∀ a ∈ c.attrs, (tyOfName u a.2).isSome = true)
    (row : List (Option Val)) (hlen : row.length = c.attrs.length) (col : Option Nat) :
    keyCell u (canonClass u c) (canonVals u c.attrs row) col = canonCell (keyCell u c row col) := by
  cases col with
  | none => rfl
  | some i =>
    simp only [keyCell, canonClass, canonCell]
    rw [canonVals_get u c.attrs row i hlen]
    cases ha : c.attrs[i]? with
    | none =>
      have hr : row[i]? = none := by
        rw [List.getElem?_eq_none_iff] at ha ⊢; omega
      simp [upAttrs, ha, hr]
    | some a =>
      have hmem : a ∈ c.attrs := List.mem_of_getElem? ha
      have hsome := htypes a hmem
      cases ht : tyOfName u a.2 with
      | none => rw [ht] at hsome; simp at hsome
      | some t =>
        -- upper-casing a core type name keeps the type; `canonVals_get` has read the i-th cell
        have hup : tyOfName u (u.upper a.2) = some t := tyOfName_upper_of_some u a.2 t ht
        simp only [upAttrs, List.getElem?_map, ha, Option.map_some, Option.bind_some, hup, ht]
        cases hv : row[i]? with
        | none =>
          exfalso
          have : i < c.attrs.length := (List.getElem?_eq_some_iff.mp ha).1
          rw [List.getElem?_eq_none_iff] at hv; omega
        | some v => simp [canonVal, ht]

/-- an unset key cell never meets its own typed default: whenever one cell of a key pair is unset, the pair does not
    match after the reload either.  Automatic for key columns of type UNIQUE_ID or STRING (their null value IS null);
    for INTEGER, REAL and BOOLEAN key columns it says that no row on the other side carries 0 / 0.0 / False (or is
    unset too) in that key column. -/
def UnsetSafe (u : UC) (m : MM) : Prop :=
  ∀ a ∈ m.assocs, ∀ sc tc, m.findClass u a.src.kind = some sc → m.findClass u a.tgt.kind = some tc →
    ∀ s ∈ sc.rows, ∀ t ∈ tc.rows, ∀ kk ∈ a.src.keys.zip a.tgt.keys,
      ((keyCell u sc s (colExact sc.attrs kk.1)).2 = none ∨ (keyCell u tc t (colCI u tc.attrs kk.2)).2 = none) →
      cellMatch (canonCell (keyCell u sc s (colExact sc.attrs kk.1))) (canonCell (keyCell u tc t (colCI u tc.attrs kk.2))) = false

/-- FIXED POINT OF READING THROUGH LINKS: what `getattr` returns for every cell after the load (`readRow`: referential
    attributes are read from the partner across the association, `None` without partner) is the stored cell, up to unset ≡
    null value of the type.  This is the condition under which the model's `BState.toMM` (which keeps the INSERT value of a
    referential cell) is what the implementation shows.  A hand-written `INSERT INTO B VALUES (7, 5)` whose 5 refers to no
    `A` violates it (the implementation reads 0, the model 5). -/
def MM.ReadsFixed (u : UC) (m : MM) : Prop :=
  ∀ c ∈ m.classes, ∀ s ∈ c.rows, canonVals u c.attrs (readRow u m c s) = canonVals u c.attrs s

/-- what makes a metamodel a fixed point, in terms of its links: (partner) whenever a row has a partner across an
    association, the partner's identifying value IS the row's stored referential value; (alone) a referential cell of a
    row that has no partner across any of the associations it belongs to holds nothing or the null value of its type -/
structure ReadsResolved (u : UC) (m : MM) : Prop where
  partner : ∀ c ∈ m.classes, ∀ s ∈ c.rows, ∀ (i : Nat) (a : Name × Name), c.attrs[i]? = some a →
    ∀ ap ∈ refOccurrences u m c.kind a.1, ∀ tc t, m.findClass u ap.1.tgt.kind = some tc →
      tc.rows.find? (rowsMatch u ap.1 c tc s) = some t →
      canonVal u a.2 (keyCell u tc t (colCI u tc.attrs ap.2)).2 = canonVal u a.2 ((s[i]?).join)
  alone : ∀ c ∈ m.classes, ∀ s ∈ c.rows, ∀ (i : Nat) (a : Name × Name), c.attrs[i]? = some a →
    refOccurrences u m c.kind a.1 ≠ [] →
    (∀ ap ∈ refOccurrences u m c.kind a.1, ∀ tc, m.findClass u ap.1.tgt.kind = some tc →
      tc.rows.find? (rowsMatch u ap.1 c tc s) = none) →
    canonVal u a.2 none = canonVal u a.2 ((s[i]?).join)

theorem readRef_canon (u : UC) (m : MM) (c : ClassM) (s : List (Option Val)) (ty : Name) (v : Option Val) :
    ∀ (occ : List (AssocM × Name)),
    (∀ ap ∈ occ, ∀ tc t, m.findClass u ap.1.tgt.kind = some tc → tc.rows.find? (rowsMatch u ap.1 c tc s) = some t →
      canonVal u ty (keyCell u tc t (colCI u tc.attrs ap.2)).2 = canonVal u ty v) →
    ((∀ ap ∈ occ, ∀ tc, m.findClass u ap.1.tgt.kind = some tc → tc.rows.find? (rowsMatch u ap.1 c tc s) = none) →
      canonVal u ty none = canonVal u ty v) →
    canonVal u ty (readRef u m c s occ) = canonVal u ty v := by
  intro occ
  induction occ with
  | nil => intro _ h2; exact h2 (by intro ap h; cases h)
  | cons ap rest ih =>
    intro h1 h2
    obtain ⟨a, p⟩ := ap
    simp only [readRef]
    -- the first occurrence with a partner decides (`h1`); each fall-through adds one "no partner" to what `h2` is owed
    have ih' := fun hx => ih (fun ap hap => h1 ap (List.mem_cons_of_mem _ hap)) hx
    cases hf : m.findClass u a.tgt.kind with
    | none =>
      apply ih'
      intro hrest
      apply h2
      intro ap hap tc htc
      simp only [List.mem_cons] at hap
      rcases hap with rfl | hap
      · rw [hf] at htc; cases htc
      · exact hrest ap hap tc htc
    | some tc =>
      simp only
      cases hp : tc.rows.find? (rowsMatch u a c tc s) with
      | some t => exact h1 (a, p) (by simp) tc t hf hp
      | none =>
        apply ih'
        intro hrest
        apply h2
        intro ap hap tc' htc
        simp only [List.mem_cons] at hap
        rcases hap with rfl | hap
        · rw [hf] at htc; simp only [Option.some.injEq] at htc; subst htc; exact hp
        · exact hrest ap hap tc' htc

theorem readCells_canon (u : UC) (m : MM) (c : ClassM) (s : List (Option Val)) :
    ∀ (as : List (Name × Name)) (vs : List (Option Val)),
    (∀ (j : Nat) (a : Name × Name) (v : Option Val), as[j]? = some a → vs[j]? = some v →
      canonVal u a.2 (readCell u m c s a.1 v) = canonVal u a.2 v) →
    canonVals u as (readCells u m c s as vs) = canonVals u as vs := by
  intro as
  induction as with
  | nil => intro vs _; cases vs <;> rfl
  | cons a as ih =>
    intro vs h
    cases vs with
    | nil => rfl
    | cons v vs =>
      simp only [readCells, canonVals]
      rw [h 0 a v rfl rfl, ih vs (fun j a' v' ha hv => h (j + 1) a' v' (by simpa using ha) (by simpa using hv))]

theorem readsFixed_of_resolved (u : UC) (m : MM) (h : ReadsResolved u m) : m.ReadsFixed u := by
  intro c hc s hs
  unfold readRow
  apply readCells_canon
  intro j a v ha hv
  have hvj : (s[j]?).join = v := by rw [hv]; rfl
  unfold readCell
  by_cases he : (refOccurrences u m c.kind a.1).isEmpty = true
  · simp [he]
  · simp only [he, Bool.false_eq_true, if_false]
    have hne : refOccurrences u m c.kind a.1 ≠ [] := by intro e; rw [e] at he; simp at he
    apply readRef_canon
    · intro ap hap tc t htc ht
      rw [← hvj]; exact h.partner c hc s hs j a ha ap hap tc t htc ht
    · intro hall
      rw [← hvj]; exact h.alone c hc s hs j a ha hne hall

theorem readsFixed_no_assocs (u : UC) (m : MM) (h : m.assocs = []) : m.ReadsFixed u := by
  intro c _ s _
  unfold readRow
  apply readCells_canon
  intro j a v _ _
  simp [readCell, refOccurrences, h]

def colType (u : UC) (c : ClassM) (col : Option Nat) : Option Ty :=
  match col with
  | none => none
  | some i => (c.attrs[i]?).bind (fun a => tyOfName u a.2)

theorem keyCell_fst (u : UC) (c : ClassM) (row : List (Option Val)) (col : Option Nat) :
    (keyCell u c row col).1 = colType u c col := by
  cases col <;> rfl

/-- associations whose key columns all have type UNIQUE_ID or STRING need no side condition -/
theorem unsetSafe_of_nullable_keys (u : UC) (m : MM)
    (h : ∀ a ∈ m.assocs, ∀ sc tc, m.findClass u a.src.kind = some sc → m.findClass u a.tgt.kind = some tc →
      ∀ kk ∈ a.src.keys.zip a.tgt.keys,
        (colType u sc (colExact sc.attrs kk.1) = some .UNIQUE_ID ∨ colType u sc (colExact sc.attrs kk.1) = some .STRING ∨
          colType u sc (colExact sc.attrs kk.1) = none) ∧
        (colType u tc (colCI u tc.attrs kk.2) = some .UNIQUE_ID ∨ colType u tc (colCI u tc.attrs kk.2) = some .STRING ∨
          colType u tc (colCI u tc.attrs kk.2) = none)) : UnsetSafe u m := by
  intro a ha sc tc hsc htc s _ t _ kk hkk hnone
  obtain ⟨h1, h2⟩ := h a ha sc tc hsc htc kk hkk
  rcases hnone with hn | hn
  · have e : keyCell u sc s (colExact sc.attrs kk.1) = (colType u sc (colExact sc.attrs kk.1), none) := by
      rw [← keyCell_fst u sc s, ← hn]
    rw [e]; exact cellMatch_canon_unset_left _ h1 _
  · have e : keyCell u tc t (colCI u tc.attrs kk.2) = (colType u tc (colCI u tc.attrs kk.2), none) := by
      rw [← keyCell_fst u tc t, ← hn]
    rw [e]; exact cellMatch_canon_unset_right _ h2 _

def nullableCol : Option Ty → Bool
  | some .UNIQUE_ID | some .STRING | none => true
  | _ => false

def nullableKeysB (u : UC) (m : MM) : Bool :=
  m.assocs.all fun a => (m.findClass u a.src.kind).all fun sc => (m.findClass u a.tgt.kind).all fun tc =>
    (a.src.keys.zip a.tgt.keys).all fun kk =>
      nullableCol (colType u sc (colExact sc.attrs kk.1)) && nullableCol (colType u tc (colCI u tc.attrs kk.2))

theorem unsetSafe_of_test (u : UC) (m : MM) (h : nullableKeysB u m = true) : UnsetSafe u m := by
  have hn : ∀ t, nullableCol t = true → t = some .UNIQUE_ID ∨ t = some .STRING ∨ t = none := by
    intro t ht
    rcases t with _ | t
    · exact Or.inr (Or.inr rfl)
    · cases t <;> first | exact Or.inl rfl | exact Or.inr (Or.inl rfl) | cases ht
  refine unsetSafe_of_nullable_keys u m fun a ha sc tc hsc htc kk hkk => ?_
  have := List.all_eq_true.mp h a ha
  rw [hsc, htc] at this
  have := Bool.and_eq_true_iff.mp (List.all_eq_true.mp this kk hkk)
  exact ⟨hn _ this.1, hn _ this.2⟩

theorem rowsMatch_canon (u : UC) (a : AssocM) (sc tc : ClassM)
    (hs : ∀ x ∈ sc.attrs, (tyOfName u x.2).isSome = true) (ht : ∀ x ∈ tc.attrs, (tyOfName u x.2).isSome = true)
    (s t : List (Option Val)) (hls : s.length = sc.attrs.length) (hlt : t.length = tc.attrs.length)
    (hsafe : ∀ kk ∈ a.src.keys.zip a.tgt.keys,
      ((keyCell u sc s (colExact sc.attrs kk.1)).2 = none ∨ (keyCell u tc t (colCI u tc.attrs kk.2)).2 = none) →
      cellMatch (canonCell (keyCell u sc s (colExact sc.attrs kk.1))) (canonCell (keyCell u tc t (colCI u tc.attrs kk.2))) = false) :
    rowsMatch u a (canonClass u sc) (canonClass u tc) (canonVals u sc.attrs s) (canonVals u tc.attrs t) =
      rowsMatch u a sc tc s t := by
  unfold rowsMatch
  apply all_congr_mem
  intro kk hkk
  have e1 : (canonClass u sc).attrs = upAttrs u sc.attrs := rfl
  have e2 : (canonClass u tc).attrs = upAttrs u tc.attrs := rfl
  rw [e1, e2, colExact_up, colCI_up, keyCell_canon u sc hs s hls, keyCell_canon u tc ht t hlt]
  exact cellMatch_canon _ _ (hsafe kk hkk)

theorem partnersOf_eq (p : List (Option Val) → Bool) : ∀ (T : List (List (Option Val))) (j0 : Nat),
    partnersOf p j0 T = ((T.zipIdx j0).filter fun x => p x.1).map (·.2)
  | [], _ => rfl
  | t :: ts, j0 => by
    rw [partnersOf, partnersOf_eq p ts, List.zipIdx_cons, List.filter_cons]
    cases p t <;> rfl

theorem joinRows_eq (f : List (Option Val) → List (Option Val) → Bool) (T : List (List (Option Val))) :
    ∀ (S : List (List (Option Val))) (i0 : Nat),
    joinRows f T i0 S = (S.zipIdx i0).flatMap fun x => (partnersOf (f x.1) 0 T).map fun j => (x.2, j)
  | [], _ => rfl
  | s :: ss, i0 => by rw [joinRows, joinRows_eq f T ss, List.zipIdx_cons, List.flatMap_cons]

theorem joinRows_congr (f f' : List (Option Val) → List (Option Val) → Bool) (g h : List (Option Val) → List (Option Val))
    (T S : List (List (Option Val))) (i : Nat)
    (hst : ∀ s ∈ S, ∀ t ∈ T, f' (h s) (g t) = f s t) : joinRows f' (T.map g) i (S.map h) = joinRows f T i S := by
  simp only [joinRows_eq, partnersOf_eq, List.zipIdx_map, List.filter_map, List.map_map, List.flatMap_def]
  refine congrArg _ (List.map_congr_left fun x hx => congrArg _ (List.filter_congr fun y hy => ?_))
  exact hst x.1 (List.fst_mem_of_mem_zipIdx hx) y.1 (List.fst_mem_of_mem_zipIdx hy)

theorem findClass_reloaded (u : UC) (m : MM) (hm : m.Closed u) (A : List AssocM) (kind : Name) :
    (m.reloaded u A).findClass u kind = (m.findClass u kind).map (canonClass u) := by
  unfold MM.findClass MM.reloaded
  simp only
  rw [List.find?_map]
  -- sorting permutes; with distinct kinds `find?` does not see the order
  have hperm : (m.sortedClasses u).Perm m.classes := sortBy_perm _ _
  have e : ((fun c : ClassM => u.upper c.kind == u.upper kind) ∘ canonClass u) = fun c => u.upper c.kind == u.upper kind := by
    funext c; rfl
  rw [e]
  rw [← find?_perm_key (fun c : ClassM => u.upper c.kind) hperm.symm hm.distinct]

/-- LINKS SURVIVE THE RELOAD: for a closed metamodel in which no unset key cell meets its typed default, every
    association has, in the reloaded metamodel, exactly the link pairs (source row, target row) it has in the original -/
theorem linksOfAssoc_reloaded (u : UC) (m : MM) (hm : m.Closed u) (hsafe : UnsetSafe u m) (A : List AssocM) (a : AssocM)
    (ha : a ∈ m.assocs) : linksOfAssoc u (m.reloaded u A) a = linksOfAssoc u m a := by
  unfold linksOfAssoc
  rw [findClass_reloaded u m hm A, findClass_reloaded u m hm A]
  cases hsc : m.findClass u a.src.kind with
  | none => rfl
  | some sc =>
    cases htc : m.findClass u a.tgt.kind with
    | none => rfl
    | some tc =>
      have hscm : sc ∈ m.classes := List.mem_of_find?_eq_some hsc
      have htcm : tc ∈ m.classes := List.mem_of_find?_eq_some htc
      simp only [Option.map_some, canonClass]
      exact joinRows_congr (rowsMatch u a sc tc) (rowsMatch u a (canonClass u sc) (canonClass u tc))
        (canonVals u tc.attrs) (canonVals u sc.attrs) tc.rows sc.rows 0 (by
          intro s hs t ht
          exact rowsMatch_canon u a sc tc (hm.types sc hscm) (hm.types tc htcm) s t (hm.rows sc hscm s hs) (hm.rows tc htcm t ht)
            (fun kk hkk => hsafe a ha sc tc hsc htc s hs t ht kk hkk))

theorem keys_resolve_reloaded (u : UC) (m : MM) (hm : m.Closed u) (hsafe : UnsetSafe u m) {A : List AssocM}
    (hA : ∀ a ∈ A, a ∈ m.assocs) {L : AssocM → List (Nat × Nat)}
    (hL : ∀ a ∈ m.assocs, ∀ p, p ∈ L a ↔ p ∈ linksOfAssoc u m a) :
    ∀ a ∈ (m.reloaded u A).assocs, ∀ p, p ∈ L a ↔ p ∈ linksOfAssoc u (m.reloaded u A) a :=
  fun a ha p => (linksOfAssoc_reloaded u m hm hsafe A a (hA a ha)).symm ▸ hL a (hA a ha) p

theorem linksOf_reloaded (u : UC) (m : MM) (hm : m.Closed u) (hsafe : UnsetSafe u m) (A : List AssocM)
    (hA : ∀ a ∈ A, a ∈ m.assocs) : linksOf u (m.reloaded u A) = A.map (fun a => (a, linksOfAssoc u m a)) := by
  unfold linksOf
  show A.map _ = _
  apply List.map_congr_left
  intro a ha
  rw [linksOfAssoc_reloaded u m hm hsafe A a (hA a ha)]

end Pyx.Sql
