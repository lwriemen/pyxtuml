import Proofs.LoadChain

/-! C03: a whole population created through `new`, referred rows first.

    `ApiInv ss pre m` is the invariant of the run: after the rows `pre` the state `m` holds their stripped rows and, per
    association, the nested-loop join of their raw rows; `apiInv_init` starts it, `apiNew_step` preserves it, `apiRun_spec`
    iterates.  `apiNew_step` allows `new` to be handed, in place of the written row `o`, any row that stands for it
    (`ReadOf`: values the written ones or `None`, the written referential values kept wherever the row refers to some row):
    such a row matches the referred rows the written one matches (`matches_of_weak`, `readOf_matches_src`); that is how
    `clone` comes under the same invariant (Proofs/LoadClone.lean).  Inside one `new`, `relateLinks_spec` (LoadApi) needs a
    `LinkReady` per association; `apiNew_step` builds it from `ApiGuards` and `ApiInv`, its two fields about reads being
    `linkReady_reads` and `linkReady_srcSkip`.  Those speak of every state `m'` the batch relate passes through, described
    by `Agrees m0 m'` (only links of the new row differ): there the read step at an existing row is the read step on the
    loaded metamodel (`readNext_existing`), where the guards `readsTerminate` / `resolved` apply (`rowMatches_existing`). -/

namespace Pyx.Load

/-- the row a positional INSERT (or `new` with the same arguments) denotes -/
def rawRow (ss : List Stmt) (o : String × List Val) : Row := mkRow (attrsOf ss o.1) none o.2

/-- the rows of one kind among the rows created so far, in creation order -/
def rawRows (ss : List Stmt) (order : List (String × List Val)) (k : String) : List Row :=
  (order.filter (fun o => o.1 = k)).map (rawRow ss)

def insertsOf (order : List (String × List Val)) : List Stmt := order.map (fun o => Stmt.insert o.1 none o.2)

/-- the metamodel the loader builds from the schema statements followed by the INSERTs of the rows -/
def loaded (ss : List Stmt) (order : List (String × List Val)) : Model := buildCore (ss ++ insertsOf order)

theorem rawRows_snoc (ss : List Stmt) (pre : List (String × List Val)) (o : String × List Val) (k : String) :
    rawRows ss (pre ++ [o]) k = rawRows ss pre k ++ (if o.1 = k then [rawRow ss o] else []) := by
  unfold rawRows
  by_cases h : o.1 = k <;> simp [List.filter_append, h]

theorem rawRows_append (ss : List Stmt) (l1 l2 : List (String × List Val)) (k : String) :
    rawRows ss (l1 ++ l2) k = rawRows ss l1 k ++ rawRows ss l2 k := by
  unfold rawRows
  simp [List.filter_append]

theorem rawRows_getElem?_prefix (ss : List Stmt) {order pre suf : List (String × List Val)} (horder : order = pre ++ suf)
    {k : String} {u : Nat} (hu : u < (rawRows ss pre k).length) :
    (rawRows ss order k)[u]? = some (rawRows ss pre k)[u] := by
  rw [horder, rawRows_append, List.getElem?_append_left hu]
  exact List.getElem?_eq_getElem hu

theorem rawRows_nil_of_not_mem (ss : List Stmt) (l : List (String × List Val)) (k : String)
    (h : ∀ o ∈ l, o.1 ≠ k) : rawRows ss l k = [] := by
  unfold rawRows
  have : l.filter (fun o => o.1 = k) = [] := by
    rw [List.filter_eq_nil_iff]
    intro o ho
    simpa using h o ho
  rw [this]; rfl

theorem rowsOf_addRow (cs : List Cls) (k : String) (r : Row) (k' : String) :
    rowsOf (addRow cs k r) k' =
      if k' = k then (match findCls cs k with | some c => c.rows ++ [r] | none => []) else rowsOf cs k' := by
  unfold rowsOf
  rw [findCls_addRow]
  by_cases h : k' = k
  · subst h
    cases findCls cs k' <;> simp
  · simp only [h, if_false]
    cases findCls cs k' <;> simp

/-- one step per attribute of a class, plus one per class -/
def attrSum (cs : List Cls) : Nat := (cs.map (fun c => c.attrs.length + 1)).sum

/-- the depth the guards about reads speak of: the number of (class, attribute) pairs of the schema plus the number
    of classes (every intermediate state of the API route gives a read more fuel than this: `attrSum_lt_fuelOf`) -/
def readBound (ss : List Stmt) : Nat := attrSum (popClasses ss)

theorem attrSum_map_rows (cs : List Cls) (f : Cls → Cls) (h : ∀ c, (f c).attrs = c.attrs) :
    attrSum (cs.map f) = attrSum cs := by
  unfold attrSum
  rw [List.map_map]
  congr 1
  apply List.map_congr_left
  intro c _
  simp [h c]

theorem attrSum_addRow (cs : List Cls) (k : String) (r : Row) : attrSum (addRow cs k r) = attrSum cs := by
  unfold addRow
  apply attrSum_map_rows
  intro c; by_cases h : c.kind = k <;> simp [h]

theorem attrSum_append (l1 l2 : List Cls) : attrSum (l1 ++ l2) = attrSum l1 + attrSum l2 := by
  simp [attrSum]

theorem attrSum_lt_fuelOf (m : Model) : attrSum m.classes + 1 ≤ fuelOf m := by
  have := sum_map_le m.classes (fun c => c.attrs.length + 1) (fun c => (c.rows.length + 1) * (c.attrs.length + 1))
    fun c _ => Nat.le_mul_of_pos_left _ (Nat.succ_pos _)
  unfold fuelOf attrSum
  omega

/-- the guards of `api_equiv` -/
structure ApiGuards (ss : List Stmt) (order : List (String × List Val)) : Prop where
  /-- the statements are the schema; the rows come through `new` -/
  schemaOnly : ∀ s ∈ ss, ∀ k ns vs, s ≠ .insert k ns vs
  accepted : accepted ss = true
  /-- key lists without repeats, of equal non-zero length; no reflexive association -/
  keys : ∀ a ∈ popAssocs ss, KeysOk a ∧ a.srcKeys.length = a.tgtKeys.length ∧ a.srcKeys ≠ [] ∧ a.srcKind ≠ a.tgtKind
  /-- chained keys (an identifying attribute that is itself referential in its class is read through the chain of
      referential properties): on the loaded metamodel every attribute read ends within `readBound ss` steps — the
      number of (class, attribute) pairs plus the number of classes; a SUFFICIENT condition for "no cyclic chain of
      key attributes" that depends on the schema only (`fuelOf_sufficient`: a read that ends at all ends within
      `fuelOf`, the bound the model runs with) ... -/
  readsTerminate : ∀ k i x, i < (rawRows ss order k).length →
    (readAttr (loaded ss order) (readBound ss) k i x).isSome = true
  /-- ... and the identifying values of a referred row that some row refers to can be read back (the referred row's
      own references are not dangling) -/
  resolved : ∀ a ∈ popAssocs ss, ∀ (i j : Nat) s t, (rawRows ss order a.srcKind)[i]? = some s →
    (rawRows ss order a.tgtKind)[j]? = some t → matchesB a s t = true →
    ∀ tk ∈ a.tgtKeys, readAttr (loaded ss order) (readBound ss) a.tgtKind j tk = some (t.get tk)
  /-- referential attributes are declared attributes of the referring class -/
  srcDeclared : ∀ a ∈ popAssocs ss, ∀ k ∈ a.srcKeys, k ∈ (attrsOf ss a.srcKind).map (·.1)
  /-- `_find_link(referred, referring, rel, link.phrase)` answers with the association itself, unswapped -/
  resolves : ∀ n a, (popAssocs ss)[n]? = some a → ResolvesAt (popAssocs ss) n a
  /-- every row is of a declared class and carries one value per attribute -/
  declared : ∀ o ∈ order, (findCls (popClasses ss) o.1).isSome = true ∧ o.2.length = (attrsOf ss o.1).length
  /-- referred rows first: when a row of a referred class is created, no row created before it refers to it
      (every referred ROW is created before the rows referring to it — a topological order of the rows) -/
  referredFirst : ∀ a ∈ popAssocs ss, ∀ pre o suf, order = pre ++ o :: suf → o.1 = a.tgtKind →
    ∀ s ∈ rawRows ss pre a.srcKind, matchesB a s (rawRow ss o) = false
  /-- no cardinality-violating duplicates -/
  cardSrc : ∀ a ∈ popAssocs ss, a.srcMany = false → ∀ t ∈ rawRows ss order a.tgtKind,
    (selectIdx 0 (rawRows ss order a.srcKind) (fun s => matchesB a s t)).length ≤ 1
  cardTgt : ∀ a ∈ popAssocs ss, a.tgtMany = false → ∀ s ∈ rawRows ss order a.srcKind,
    (selectIdx 0 (rawRows ss order a.tgtKind) (fun t => matchesB a s t)).length ≤ 1

/-- the state after the rows `pre` have been created.  `asum` is there for the fuel: the guards speak of reads at depth
    `readBound ss`, the API route reads with `fuelOf` of the state it is in, and creating rows leaves `attrSum` as it is
    (`attrSum_addRow`) — so every intermediate state gives a read more fuel than `readBound ss` (`attrSum_lt_fuelOf`) -/
structure ApiInv (ss : List Stmt) (pre : List (String × List Val)) (m : Model) : Prop where
  attrs : ∀ k, (findCls m.classes k).map (·.attrs) = (findCls (popClasses ss) k).map (·.attrs)
  rows : ∀ k, rowsOf m.classes k = (rawRows ss pre k).map (stripRow (referential (popAssocs ss) k))
  assocs : m.assocs = (popAssocs ss).map (fun a =>
    (a, nestedJoin a (rawRows ss pre a.srcKind) (rawRows ss pre a.tgtKind)))
  asum : attrSum m.classes = readBound ss

theorem map_fst_assocs (ss : List Stmt) (f : AssocStmt → Links) :
    ((popAssocs ss).map (fun a => (a, f a))).map (·.1) = popAssocs ss := by
  simp [List.map_map, Function.comp_def]

theorem names_mkRow_none (attrs : List (String × Ty)) (vs : List Val) (h : vs.length = attrs.length) :
    (mkRow attrs none vs).map (·.1) = attrs.map (·.1) := by
  simp only [mkRow, List.map_map]
  induction attrs generalizing vs with
  | nil => simp
  | cons x xs ih =>
    cases vs with
    | nil => simp at h
    | cons v vs =>
      simp only [List.length_cons, Nat.add_right_cancel_iff] at h
      simp [ih vs h]

/-- the arguments of `new` paired with the attribute names -/
def newGiven (c : Cls) (vs : List Val) : Row := (c.attrs.zip vs).map (fun p => (p.1.1, p.2))

def withRow (m : Model) (kind : String) (r : Row) : Model := { m with classes := addRow m.classes kind r }

theorem apiNew_of_findCls {m : Model} {kind : String} {c : Cls} (hc : findCls m.classes kind = some c) (vs : List Val) :
    apiNew m kind vs =
      if (refsOf (m.assocs.map (·.1)) kind (newGiven c vs)).isEmpty then
        (withRow m kind (stripRow (referential (m.assocs.map (·.1)) kind) (newGiven c vs)), .ok)
      else relateLinks (refsOf (m.assocs.map (·.1)) kind (newGiven c vs)) kind c.rows.length
        (linksOfKind (m.assocs.map (·.1)) kind)
        (withRow m kind (stripRow (referential (m.assocs.map (·.1)) kind) (newGiven c vs))) := by
  simp only [apiNew, hc]
  rfl

/-- `MetaClass.new` in one formula, given what `relateLinks` needs to know about every association -/
theorem apiNew_eq (m : Model) (kind : String) (vs : List Val) (c : Cls) (hc : findCls m.classes kind = some c)
    (rowsRaw : String → List Row)
    (hready : ∀ q p, m.assocs[q]? = some p →
      LinkReady (m.assocs.map (·.1)) kind (newGiven c vs) c.rows.length
        (withRow m kind (stripRow (referential (m.assocs.map (·.1)) kind) (newGiven c vs))) rowsRaw q p.1 p.2) :
    apiNew m kind vs =
      (⟨addRow m.classes kind (stripRow (referential (m.assocs.map (·.1)) kind) (newGiven c vs)),
        m.assocs.map (stepAssoc kind (newGiven c vs) c.rows.length rowsRaw)⟩, .ok) := by
  rw [apiNew_of_findCls hc]
  by_cases hemp : (refsOf (m.assocs.map (·.1)) kind (newGiven c vs)).isEmpty
  · -- no association has the new row's class as its referring class: one of its keys would be among the values given
    have hid : ∀ p ∈ m.assocs, stepAssoc kind (newGiven c vs) c.rows.length rowsRaw p = p := by
      intro p hp
      obtain ⟨q, hq⟩ := List.getElem?_of_mem hp
      have hr := hready q p hq
      refine if_neg fun hk => ?_
      obtain ⟨sk, hsk⟩ := List.exists_mem_of_ne_nil _ hr.ne
      obtain ⟨x, hx, hxk⟩ := List.mem_map.mp (hr.given hk sk hsk)
      have hx' : x ∈ refsOf (m.assocs.map (·.1)) kind (newGiven c vs) :=
        List.mem_filter.mpr ⟨hx, by rw [hxk, ← hk]; simpa using mem_referential hr.mem hsk⟩
      rw [List.isEmpty_iff.mp hemp] at hx'
      cases hx'
    rw [if_pos hemp, List.map_congr_left hid, List.map_id']
    rfl
  · rw [if_neg hemp]
    refine relateLinks_spec kind _ _ rowsRaw _ (withRow m kind _) m.assocs [] (withRow m kind _) rfl rfl
      (Agrees.refl _ _ _) fun q p hq => ?_
    rw [List.length_nil, Nat.zero_add]
    exact hready q p hq

theorem filterMap_insertsOf {β : Type} (g : Stmt → Option β) (h : ∀ k ns vs, g (.insert k ns vs) = none)
    (order : List (String × List Val)) : (insertsOf order).filterMap g = [] := by
  rw [insertsOf, List.filterMap_map]
  exact List.filterMap_eq_nil_iff.mpr fun o _ => h o.1 none o.2

theorem popClasses_inserts (order : List (String × List Val)) : popClasses (insertsOf order) = [] :=
  filterMap_insertsOf _ (fun _ _ _ => rfl) order

theorem popAssocs_inserts (order : List (String × List Val)) : popAssocs (insertsOf order) = [] :=
  filterMap_insertsOf _ (fun _ _ _ => rfl) order

theorem uniqOf_inserts (order : List (String × List Val)) (k : String) : uniqOf (insertsOf order) k = [] :=
  filterMap_insertsOf _ (fun _ _ _ => rfl) order

theorem insOf_inserts (order : List (String × List Val)) (k : String) :
    insOf (insertsOf order) k = (order.filter (fun o => o.1 = k)).map (fun o => (none, o.2)) := by
  induction order with
  | nil => rfl
  | cons o os ih =>
    simp only [insOf, insertsOf, List.map_cons, List.filterMap_cons, List.filter_cons] at ih ⊢
    by_cases h : o.1 = k <;> simp only [h, if_true, if_false, decide_true, decide_false, Bool.false_eq_true, List.map_cons, ih]

theorem insOf_schema (ss : List Stmt) (h : ∀ s ∈ ss, ∀ k ns vs, s ≠ .insert k ns vs) (k : String) : insOf ss k = [] := by
  unfold insOf
  rw [List.filterMap_eq_nil_iff]
  intro s hs
  cases s with
  | insert k' ns vs => exact absurd rfl (h _ hs k' ns vs)
  | cls _ _ => rfl
  | assoc _ => rfl
  | uniq _ _ _ => rfl

theorem popClasses_append (s1 s2 : List Stmt) : popClasses (s1 ++ s2) = popClasses s1 ++ popClasses s2 := by
  unfold popClasses; rw [List.filterMap_append]

theorem popAssocs_append (s1 s2 : List Stmt) : popAssocs (s1 ++ s2) = popAssocs s1 ++ popAssocs s2 := by
  unfold popAssocs; rw [List.filterMap_append]

theorem insOf_append (s1 s2 : List Stmt) (k : String) : insOf (s1 ++ s2) k = insOf s1 k ++ insOf s2 k := by
  unfold insOf; rw [List.filterMap_append]

theorem loaded_rows' (ss : List Stmt) (order : List (String × List Val))
    (hschema : ∀ s ∈ ss, ∀ k ns vs, s ≠ .insert k ns vs)
    (hdecl : ∀ o ∈ order, (findCls (popClasses ss) o.1).isSome = true ∧ o.2.length = (attrsOf ss o.1).length)
    (k : String) : rowsOf (loaded ss order).classes k = rawRows ss order k := by
  unfold loaded
  rw [rowsOf_buildCore]
  unfold clsSpec
  rw [popClasses_append, popClasses_inserts, List.append_nil, insOf_append, insOf_schema ss hschema,
    List.nil_append, insOf_inserts]
  cases hc : findCls (popClasses ss) k with
  | some c =>
    simp only [rawRows, List.map_map]
    apply List.map_congr_left
    intro o ho
    have hk : o.1 = k := by simpa using (List.mem_filter.mp ho).2
    simp [rawRow, attrsOf, hk, hc]
  | none =>
    simp only
    have hnil : order.filter (fun o => o.1 = k) = [] := by
      rw [List.filter_eq_nil_iff]
      intro o ho hk
      have := (hdecl o ho).1
      simp only [decide_eq_true_eq] at hk
      rw [hk, hc] at this
      cases this
    simp [rawRows, hnil]

theorem loaded_assocs' (ss : List Stmt) (order : List (String × List Val))
    (hschema : ∀ s ∈ ss, ∀ k ns vs, s ≠ .insert k ns vs)
    (hkeys : ∀ a ∈ popAssocs ss, KeysOk a)
    (hdecl : ∀ o ∈ order, (findCls (popClasses ss) o.1).isSome = true ∧ o.2.length = (attrsOf ss o.1).length) :
    (loaded ss order).assocs = (popAssocs ss).map (fun a =>
      (a, nestedJoin a (rawRows ss order a.srcKind) (rawRows ss order a.tgtKind))) := by
  have hk : ∀ a ∈ popAssocs (ss ++ insertsOf order), KeysOk a := by
    intro a ha
    rw [popAssocs_append, popAssocs_inserts, List.append_nil] at ha
    exact hkeys a ha
  have hr := loaded_rows' ss order hschema hdecl
  unfold loaded at hr ⊢
  rw [buildCore_assocs _ hk, popAssocs_append, popAssocs_inserts, List.append_nil]
  simp only [hr]

section loadedFacts
variable {ss : List Stmt} {order : List (String × List Val)} (g : ApiGuards ss order)
include g

theorem loaded_assocs :
    (loaded ss order).assocs = (popAssocs ss).map (fun a =>
      (a, nestedJoin a (rawRows ss order a.srcKind) (rawRows ss order a.tgtKind))) :=
  loaded_assocs' ss order g.schemaOnly (fun a ha => (g.keys a ha).1) g.declared

theorem loaded_assocs_fst : (loaded ss order).assocs.map (·.1) = popAssocs ss := by
  rw [loaded_assocs g]; exact map_fst_assocs ss _

theorem loaded_rows (k : String) : rowsOf (loaded ss order).classes k = rawRows ss order k :=
  loaded_rows' ss order g.schemaOnly g.declared k

theorem joined_loaded : Joined (loaded ss order) (popAssocs ss) := by
  unfold Joined
  rw [loaded_assocs g]
  simp only [loaded_rows g]

theorem readAttr_loaded_value : ∀ (f : Nat) (k : String) (u : Nat) (x : String) (r : Row) (v : Val),
    (rawRows ss order k)[u]? = some r → readAttr (loaded ss order) f k u x = some v → v = r.get x ∨ v = .none := by
  intro f
  induction f with
  | zero => intro k u x r v _ h; simp [readAttr] at h
  | succ f ih =>
    intro k u x r v hr h
    by_cases hx : x ∈ referential (popAssocs ss) k
    · rcases readAttr_joined (joined_loaded g) f k u x hx with
        ⟨h1, _⟩ | ⟨a, _, _, tk, j, s, t, hmem, hs, ht, hm, hval⟩
      · rw [h1] at h; cases h; exact Or.inr rfl
      · rw [loaded_rows g, hr] at hs
        cases hs
        rw [loaded_rows g] at ht
        rw [hval] at h
        rcases ih a.tgtKind j tk t v ht h with hv | hv
        · exact Or.inl (by rw [hv, ((matchesB_iff a r t).mp hm (x, tk) hmem).2])
        · exact Or.inr hv
    · rw [readAttr_stored _ f k u x (by rw [loaded_assocs_fst g]; exact hx), loaded_rows g, hr] at h
      exact Or.inl (Option.some.inj h).symm

theorem later_nomatch (pre suf : List (String × List Val)) (horder : order = pre ++ suf) (a : AssocStmt)
    (ha : a ∈ popAssocs ss) (s t : Row) (hs : s ∈ rawRows ss pre a.srcKind) (ht : t ∈ rawRows ss suf a.tgtKind) :
    matchesB a s t = false := by
  unfold rawRows at ht
  obtain ⟨r, hr, rfl⟩ := List.mem_map.mp ht
  obtain ⟨hrm, hrk⟩ := List.mem_filter.mp hr
  obtain ⟨s1, s2, hsplit⟩ := List.append_of_mem hrm
  have hord : order = (pre ++ s1) ++ r :: s2 := by rw [horder, hsplit]; simp
  apply g.referredFirst a ha (pre ++ s1) r s2 hord (by simpa using hrk)
  rw [rawRows_append]
  exact List.mem_append_left _ hs

theorem final_tgt_eq (pre suf : List (String × List Val)) (horder : order = pre ++ suf) (a : AssocStmt)
    (ha : a ∈ popAssocs ss) (u : Nat) (hu : u < (rawRows ss pre a.srcKind).length) :
    (nestedJoin a (rawRows ss order a.srcKind) (rawRows ss order a.tgtKind)).tgt u =
      (nestedJoin a (rawRows ss pre a.srcKind) (rawRows ss pre a.tgtKind)).tgt u := by
  rw [nestedJoin_tgt_some (rawRows_getElem?_prefix ss horder hu), nestedJoin_tgt_some (List.getElem?_eq_getElem hu),
    horder, rawRows_append, selectIdx_append, selectIdx_congr _ (rawRows ss suf a.tgtKind) _ (fun _ => false)
      (fun t ht => later_nomatch g pre suf horder a ha _ t (List.getElem_mem hu) ht),
    selectIdx_false, List.append_nil]

end loadedFacts

theorem rawRows_split (ss : List Stmt) (pre suf : List (String × List Val)) {o : String × List Val} {k : String}
    (h : k = o.1) : rawRows ss (pre ++ o :: suf) k = rawRows ss pre k ++ rawRow ss o :: rawRows ss suf k := by
  simp [rawRows, h]

theorem sum_ge_length (l : List Nat) (h : ∀ x ∈ l, 1 ≤ x) : l.length ≤ l.sum := by
  have := sum_map_le l (fun _ => 1) id h
  simpa [List.map_const', List.sum_replicate_nat] using this

theorem fuelOf_ge (m : Model) : m.classes.length + 1 ≤ fuelOf m := by
  unfold fuelOf
  have := sum_ge_length (m.classes.map (fun c => (c.rows.length + 1) * (c.attrs.length + 1)))
    (by
      intro x hx
      obtain ⟨c, _, rfl⟩ := List.mem_map.mp hx
      exact Nat.mul_pos (by omega) (by omega))
  simp only [List.length_map] at this
  omega

theorem rawRows_at_split (ss : List Stmt) (pre suf : List (String × List Val)) (o : String × List Val) :
    (rawRows ss (pre ++ o :: suf) o.1)[(rawRows ss pre o.1).length]? = some (rawRow ss o) := by
  rw [rawRows_split ss pre suf rfl]
  simp

/-- `new` may be handed the row `o'` in place of the written row `o`: same kind, same stored row, every value the
    written one or `None`, and the written referential values wherever the written row refers to some row (what
    `clone` reads from a loaded instance is of this kind: `readOf_read`) -/
structure ReadOf (ss : List Stmt) (order : List (String × List Val)) (o' o : String × List Val) : Prop where
  kind : o'.1 = o.1
  len : o'.2.length = o.2.length
  stored : stripRow (referential (popAssocs ss) o.1) (rawRow ss o') =
    stripRow (referential (popAssocs ss) o.1) (rawRow ss o)
  weak : ∀ x, (rawRow ss o').get x = (rawRow ss o).get x ∨ (rawRow ss o').get x = .none
  linked : ∀ a ∈ popAssocs ss, a.srcKind = o.1 → ∀ t ∈ rawRows ss order a.tgtKind, matchesB a (rawRow ss o) t = true →
    ∀ x ∈ a.srcKeys, (rawRow ss o').get x = (rawRow ss o).get x

theorem readOf_refl (ss : List Stmt) (order : List (String × List Val)) (o : String × List Val) : ReadOf ss order o o :=
  ⟨rfl, rfl, rfl, fun _ => Or.inl rfl, fun _ _ _ _ _ _ _ _ => rfl⟩

/-- the key test on values that are the rows' own or `None` succeeds only where the rows match: a value that passes
    the null test is the row's own, and so is a value equal to it -/
theorem matches_of_weak (a : AssocStmt) (s t : Row) (S T : String → Val)
    (hS : ∀ x, S x = s.get x ∨ S x = .none) (hT : ∀ x, T x = t.get x ∨ T x = .none)
    (h : ∀ p ∈ keyPairs a, isNull (S p.1) = false ∧ S p.1 = T p.2) : matchesB a s t = true := by
  rw [matchesB_iff]
  intro p hp
  obtain ⟨hnn, heq⟩ := h p hp
  rcases hS p.1 with hs | hs
  · rcases hT p.2 with ht | ht
    · rw [← hs, ← ht]; exact ⟨hnn, heq⟩
    · rw [heq, ht] at hnn; cases hnn
  · rw [hs] at hnn; cases hnn

/-- as a referring row, `o'` matches the referred rows the written row matches: a value that passes the null test is
    the written one, and a written row that matches keeps its values -/
theorem readOf_matches_src {ss : List Stmt} {order : List (String × List Val)} {o' o : String × List Val}
    (h : ReadOf ss order o' o) {a : AssocStmt} (ha : a ∈ popAssocs ss) (hk : a.srcKind = o.1) {t : Row}
    (ht : t ∈ rawRows ss order a.tgtKind) : matchesB a (rawRow ss o') t = matchesB a (rawRow ss o) t := by
  rw [Bool.eq_iff_iff]
  refine ⟨fun hm => matches_of_weak a _ t _ _ h.weak (fun _ => Or.inl rfl) ((matchesB_iff a _ t).mp hm), fun hm => ?_⟩
  rw [matchesB_iff] at hm ⊢
  intro p hp
  rw [h.linked a ha hk t ht ((matchesB_iff a _ t).mpr hm) p.1 (List.of_mem_zip hp).1]
  exact hm p hp

section linkReadyFields
variable {ss : List Stmt} {order pre suf : List (String × List Val)} {o : String × List Val}
variable (g : ApiGuards ss order) (horder : order = pre ++ o :: suf) {m : Model} (inv : ApiInv ss pre m)
include g horder inv

/-- in every state the batch relate of the new row passes through, the read step at an existing row is the read step
    on the loaded metamodel, and leads to an existing row: the row is stored with its values, the rows it refers to are
    those it refers to in the end (`final_tgt_eq`), and they exist -/
theorem readNext_existing (r : Row) (m' : Model) (hag : Agrees (withRow m o.1 r) m' o.1 (rawRows ss pre o.1).length)
    (s : RState) (hs : s.2.1 < (rawRows ss pre s.1).length) :
    readNext m' s = readNext (loaded ss order) s ∧
      ∀ s', readNext (loaded ss order) s = .inr s' → s'.2.1 < (rawRows ss pre s'.1).length := by
  obtain ⟨k, u, x⟩ := s
  have hst : m'.assocs.map (·.1) = popAssocs ss := by
    rw [hag.stmts]; show m.assocs.map _ = _; rw [inv.assocs]; exact map_fst_assocs ss _
  have hu : u < (rawRows ss pre k).length := hs
  -- two steps: `m'` to `m` by `Agrees` (the chain of an existing row never looks at the new row's `tgt`), `m` to the loaded
  -- metamodel by `final_tgt_eq`
  have hview : m'.assocs.map (chainView k u) = (loaded ss order).assocs.map (chainView k u) := by
    rw [agrees_map_eq hag (chainView k u) fun a L L' h => by
      unfold chainView
      by_cases hk : a.srcKind = k
      · rw [if_pos hk, if_pos hk, h u]
        by_cases ho : k = o.1
        · subst ho; exact Or.inr (Nat.ne_of_lt hu)
        · exact Or.inl (hk ▸ ho)
      · rw [if_neg hk, if_neg hk]]
    show m.assocs.map _ = _
    rw [inv.assocs, loaded_assocs g, List.map_map, List.map_map]
    apply List.map_congr_left
    intro a ha
    simp only [Function.comp, chainView]
    by_cases hk : a.srcKind = k
    · rw [if_pos hk, if_pos hk, final_tgt_eq g pre (o :: suf) horder a ha u (hk ▸ hu)]
    · rw [if_neg hk, if_neg hk]
  simp only [readNext, hst, loaded_assocs_fst g]
  by_cases hx : (referential (popAssocs ss) k).contains x
  · simp only [hx, if_true]
    rw [chainNext_congr k u x m'.assocs.reverse (loaded ss order).assocs.reverse
      (by rw [List.map_reverse, List.map_reverse, hview])]
    refine ⟨rfl, fun s' hs' => ?_⟩
    cases hc : chainNext k u x (loaded ss order).assocs.reverse with
    | none => rw [hc] at hs'; cases hs'
    | some st =>
      rw [hc] at hs'
      cases hs'
      obtain ⟨p, hp, hpk, hk', hhead, _⟩ := chainNext_some hc
      rw [List.mem_reverse, loaded_assocs g] at hp
      obtain ⟨a, ha, rfl⟩ := List.mem_map.mp hp
      have hj := List.mem_of_mem_head? hhead
      rw [final_tgt_eq g pre (o :: suf) horder a ha u (hpk ▸ hu)] at hj
      obtain ⟨_, t, _, ht, _⟩ := (mem_nestedJoin_tgt a _ _ u _).mp hj
      rw [hk']
      exact (List.getElem?_eq_some_iff.mp ht).1
  · simp only [hx, Bool.false_eq_true, if_false]
    refine ⟨?_, fun s' hs' => by cases hs'⟩
    have hrow : (rowsOf m'.classes k)[u]? = some (stripRow (referential (popAssocs ss) k) (rawRows ss pre k)[u]) := by
      rw [hag.classes]
      simp only [withRow, rowsOf_addRow]
      have hk := inv.rows k
      split
      · rename_i hko
        subst hko
        unfold rowsOf at hk
        cases hc : findCls m.classes o.1 with
        | none => rw [hc] at hk; have := congrArg List.length hk; simp at this; omega
        | some c =>
          rw [hc] at hk
          simp only at hk ⊢
          rw [hk, List.getElem?_append_left (by simpa using hu), List.getElem?_map, List.getElem?_eq_getElem hu]
          rfl
      · rw [hk, List.getElem?_map, List.getElem?_eq_getElem hu]
        rfl
    rw [hrow, loaded_rows g, rawRows_getElem?_prefix ss horder hu]
    simp only [Option.getD_some]
    exact congrArg _ (get_stripRow _ _ _ (by simpa using hx))

/-- in every state the batch relate of the new row passes through, the query's test on an existing row `(k, j)` compares
    the wanted values with what the row's attributes read on the loaded metamodel (`R`): the values the row was created
    with, or `None` -/
theorem rowMatches_existing (r : Row) (m' : Model) (hag : Agrees (withRow m o.1 r) m' o.1 (rawRows ss pre o.1).length)
    (k : String) (j : Nat) (hj : j < (rawRows ss pre k).length) (kwargs : List (String × Val)) :
    ∃ R : String → Val, (∀ x, R x = (rawRows ss pre k)[j].get x ∨ R x = .none) ∧
      (∀ x v, readAttr (loaded ss order) (readBound ss) k j x = some v → R x = v) ∧
      rowMatches m' (fuelOf (withRow m o.1 r)) k j kwargs = some (kwargs.all fun kv => R kv.1 == kv.2) := by
  have hD : readBound ss ≤ fuelOf m' := by
    have := attrSum_lt_fuelOf m'
    have hl : attrSum m'.classes = readBound ss := by
      rw [hag.classes]; simp only [withRow]; rw [attrSum_addRow]; exact inv.asum
    omega
  have hfin := rawRows_getElem?_prefix ss horder hj
  have hterm := fun x => g.readsTerminate k j x (List.getElem?_eq_some_iff.mp hfin).1
  have hR : ∀ x, readAttr (loaded ss order) (fuelOf m') k j x =
      some ((readAttr (loaded ss order) (readBound ss) k j x).getD .none) := fun x => by
    obtain ⟨v, hv⟩ := Option.isSome_iff_exists.mp (hterm x)
    rw [hv]
    exact readAttr_mono (loaded ss order) hD k j x v hv
  refine ⟨fun x => (readAttr (loaded ss order) (readBound ss) k j x).getD .none,
    fun x => readAttr_loaded_value g _ _ _ _ _ _ hfin (hR x), fun x v hv => by show Option.getD _ _ = v; rw [hv]; rfl, ?_⟩
  rw [← fuelOf_classes hag.classes]
  refine rowMatches_of_reads m' _ k j kwargs (fun x => (readAttr (loaded ss order) (readBound ss) k j x).getD .none)
    fun kv _ => ?_
  -- the existing rows are closed under the read step, and on them `m'` steps as the loaded metamodel does
  rw [readAttr_eq_run, runSteps_congr _ _ (fun s : RState => s.2.1 < (rawRows ss pre s.1).length)
    (readNext_existing g horder inv r m' hag) _ (k, j, kv.1) hj, ← readAttr_eq_run]
  exact hR kv.1

/-- the query's test on an existing referred row answers the key predicate, chained keys included -/
theorem linkReady_reads {o' : String × List Val} (hro : ReadOf ss order o' o) (a : AssocStmt) (ha : a ∈ popAssocs ss)
    (hk : a.srcKind = o.1) (hnn : ∀ p ∈ keyPairs a, isNull ((rawRow ss o').get p.1) = false)
    (r : Row) (m' : Model) (hag : Agrees (withRow m o.1 r) m' o.1 (rawRows ss pre o.1).length)
    (j : Nat) (t : Row) (htj : (rawRows ss pre a.tgtKind)[j]? = some t) :
    rowMatches m' (fuelOf (withRow m o.1 r)) a.tgtKind j (kwargsOf a (rawRow ss o')) = some (matchesB a (rawRow ss o') t) := by
  obtain ⟨hjlt, rfl⟩ := List.getElem?_eq_some_iff.mp htj
  obtain ⟨R, hweak, hres, hrm⟩ := rowMatches_existing g horder inv r m' hag a.tgtKind j hjlt (kwargsOf a (rawRow ss o'))
  rw [hrm]
  congr 1
  rw [Bool.eq_iff_iff, kwargsOf_all a _ R, matchesB_iff]
  constructor
  · -- the value read equals the (non-null) value given: it is not `None`, so it is the row's own value
    intro h
    exact (matchesB_iff a _ _).mp (matches_of_weak a _ _ _ R (fun _ => Or.inl rfl) hweak
      fun p hp => ⟨hnn p hp, (h p hp).symm⟩)
  · -- a matching referred row: its identifying values can be read back (guard `resolved`)
    intro h p hp
    have hsfin : (rawRows ss order a.srcKind)[(rawRows ss pre a.srcKind).length]? = some (rawRow ss o) := by
      rw [horder, hk]; exact rawRows_at_split ss pre suf o
    have hfin := rawRows_getElem?_prefix ss horder hjlt
    have hm : matchesB a (rawRow ss o) _ = true :=
      (readOf_matches_src hro ha hk (List.mem_of_getElem? hfin)).symm.trans ((matchesB_iff a _ _).mpr h)
    rw [hres p.2 _ (g.resolved a ha _ j _ _ hsfin hfin hm p.2 (List.of_mem_zip hp).2)]
    exact ((h p hp).2).symm

/-- the new row as a REFERRED row of `a` (all its identifying attributes for `a` being referential attributes it was
    given): the query over the referring class tests the existing referring rows — none of them reads the new row's
    key, because none of them matches it -/
theorem linkReady_srcSkip {o' : String × List Val} (hro : ReadOf ss order o' o) (a : AssocStmt) (ha : a ∈ popAssocs ss)
    (hk : a.tgtKind = o.1) (r : Row) (m' : Model) (hag : Agrees (withRow m o.1 r) m' o.1 (rawRows ss pre o.1).length) :
    relateLink (refsOf (popAssocs ss) o.1 (rawRow ss o')) (keyMap a) a.srcKind o.1 (rawRows ss pre o.1).length
      a.rel a.tgtPhrase m' = (m', .ok) := by
  obtain ⟨hk1, _, _, hk4⟩ := g.keys a ha
  unfold relateLink
  rw [keyMap_eq a hk1.src]
  by_cases hgiven : (keyPairs a).all (fun p => ((refsOf (popAssocs ss) o.1 (rawRow ss o')).map (·.1)).contains p.2)
  · simp only [hgiven, Bool.not_true, Bool.false_eq_true, if_false]
    by_cases hnull : (keyPairs a).any (fun p => isNull (((refsOf (popAssocs ss) o.1 (rawRow ss o')).lookup p.2).getD .none))
    · rw [if_pos hnull]
    · rw [if_neg hnull]
      by_cases hemp : (keyPairs a).isEmpty
      · rw [if_pos hemp]
      · rw [if_neg hemp]
        apply relateQuery_none
        intro j hj
        have hne : ¬ a.srcKind = o.1 := fun h => hk4 (h.trans hk.symm)
        have hjlt : j < (rawRows ss pre a.srcKind).length := by
          have := List.mem_range.mp hj
          rw [hag.classes] at this
          simp only [withRow, rowsOf_addRow, hne, if_false] at this
          rw [inv.rows a.srcKind] at this
          simpa using this
        obtain ⟨R, hweak, _, hrm⟩ := rowMatches_existing g horder inv r m' hag a.srcKind j hjlt
          ((keyPairs a).map fun p => (p.1, ((refsOf (popAssocs ss) o.1 (rawRow ss o')).lookup p.2).getD .none))
        rw [fuelOf_classes hag.classes, hrm]
        congr 1
        rw [Bool.eq_false_iff]
        intro hall
        -- then the existing referring row would match the new row
        have hm : matchesB a (rawRows ss pre a.srcKind)[j] (rawRow ss o) = true := by
          refine matches_of_weak a _ _ R _ hweak hro.weak fun p hp => ?_
          rw [List.all_map] at hall
          simp only [List.all_eq_true, Function.comp, beq_iff_eq] at hall
          have hval : ((refsOf (popAssocs ss) o.1 (rawRow ss o')).lookup p.2).getD .none = (rawRow ss o').get p.2 := by
            obtain ⟨e, he, hek⟩ := List.mem_map.mp (List.contains_iff_mem.mp (List.all_eq_true.mp hgiven p hp))
            exact refsOf_get _ (by simpa [hek] using (List.mem_filter.mp he).2)
          refine ⟨?_, (hall p hp).trans hval⟩
          rw [hall p hp]
          cases hq : isNull (((refsOf (popAssocs ss) o.1 (rawRow ss o')).lookup p.2).getD .none) with
          | false => rfl
          | true => exact absurd (List.any_eq_true.mpr ⟨p, hp, hq⟩) hnull
        have := g.referredFirst a ha pre o suf horder hk.symm _ (List.getElem_mem hjlt)
        rw [hm] at this
        cases this
  · simp only [hgiven, Bool.not_false, if_true]

end linkReadyFields

theorem apiNew_step (ss : List Stmt) (order pre suf : List (String × List Val)) (o : String × List Val)
    (g : ApiGuards ss order) (horder : order = pre ++ o :: suf) (m : Model) (inv : ApiInv ss pre m)
    (o' : String × List Val) (hro : ReadOf ss order o' o) :
    ∃ m', apiNew m o'.1 o'.2 = (m', .ok) ∧ ApiInv ss (pre ++ [o]) m' := by
  have ho : o ∈ order := by rw [horder]; simp
  obtain ⟨hdecl, hlen⟩ := g.declared o ho
  obtain ⟨c0, hc0⟩ := Option.isSome_iff_exists.mp hdecl
  have hattrsOf : attrsOf ss o.1 = c0.attrs := by simp [attrsOf, hc0]
  have hcm := inv.attrs o.1
  rw [hc0] at hcm
  obtain ⟨c, hc, hca⟩ : ∃ c, findCls m.classes o.1 = some c ∧ c.attrs = c0.attrs := by
    cases h : findCls m.classes o.1 with
    | none => simp [h] at hcm
    | some c => exact ⟨c, rfl, by simpa [h] using hcm⟩
  have hall : m.assocs.map (·.1) = popAssocs ss := by rw [inv.assocs]; exact map_fst_assocs ss _
  have hs : newGiven c o'.2 = rawRow ss o' := by simp [newGiven, rawRow, mkRow, hro.kind, hattrsOf, hca]
  have hrows : c.rows = (rawRows ss pre o.1).map (stripRow (referential (popAssocs ss) o.1)) := by
    have := inv.rows o.1
    simpa [rowsOf, hc] using this
  have hi : c.rows.length = (rawRows ss pre o.1).length := by rw [hrows]; simp
  have hnames : (rawRow ss o').map (·.1) = (attrsOf ss o.1).map (·.1) := by
    rw [rawRow, hro.kind]; exact names_mkRow_none _ _ (hro.len.trans hlen)
  -- the referred rows `o'` matches are those the written row matches
  have hsel : ∀ a ∈ popAssocs ss, a.srcKind = o.1 →
      selectIdx 0 (rawRows ss pre a.tgtKind) (fun t => matchesB a (rawRow ss o') t) =
        selectIdx 0 (rawRows ss pre a.tgtKind) (fun t => matchesB a (rawRow ss o) t) := fun a ha hk =>
    selectIdx_congr 0 _ _ _ fun t ht => readOf_matches_src hro ha hk (by
      rw [horder, rawRows_append]; exact List.mem_append_left _ ht)
  rw [hro.kind]
  have hready : ∀ q p, m.assocs[q]? = some p →
      LinkReady (m.assocs.map (·.1)) o.1 (newGiven c o'.2) c.rows.length
        (withRow m o.1 (stripRow (referential (m.assocs.map (·.1)) o.1) (newGiven c o'.2))) (rawRows ss pre) q p.1 p.2 := by
    intro q p hq
    rw [inv.assocs, List.getElem?_map] at hq
    cases haq : (popAssocs ss)[q]? with
    | none => simp [haq] at hq
    | some a =>
      simp only [haq, Option.map_some, Option.some.injEq] at hq
      subst hq
      have ha : a ∈ popAssocs ss := List.mem_of_getElem? haq
      obtain ⟨hk1, hk2, hk3, hk4⟩ := g.keys a ha
      rw [hall, hs]
      refine ⟨hk1, hk2, hk3, hk4, ha, fun _ => g.resolves q a haq, ?_, ?_, ?_, ?_, ?_, ?_⟩
      · intro hk sk hsk
        rw [hnames, ← hk]
        exact g.srcDeclared a ha sk hsk
      · intro hk
        have hne : ¬ a.tgtKind = o.1 := fun h => hk4 (hk.trans h.symm)
        simp only [withRow, rowsOf_addRow, hne, if_false]
        rw [inv.rows a.tgtKind]; simp
      · -- the query's test answers the key predicate (identifying attributes may be read through chains)
        intro hk hnn m' hag j t htj
        rw [hi] at hag
        exact linkReady_reads g horder inv hro a ha hk hnn _ m' hag j t htj
      · -- as a referred row the new row is matched by no existing referring row: nothing to relate
        intro hk m' hag
        rw [hi] at hag ⊢
        exact linkReady_srcSkip g horder inv hro a ha hk _ m' hag
      · intro hk j hj
        have hk : a.srcKind = o.1 := hk
        simp only at hj ⊢
        rw [hsel a ha hk] at hj
        refine ⟨?_, ?_, ?_⟩
        · intro hmem
          obtain ⟨_, _, hs, _, _⟩ := (mem_nestedJoin_src a _ _ _ j).mp hmem
          have := (List.getElem?_eq_some_iff.mp hs).1
          rw [hi, ← hk] at this
          exact Nat.lt_irrefl _ this
        · intro hsm
          -- the referred row `j` may have at most one referring row: none so far, since the new one matches
          obtain ⟨t, htj, hmt⟩ := (mem_selectIdx_zero _ _ j).mp hj
          have hcard := g.cardSrc a ha hsm t (by
            rw [horder, rawRows_append]
            exact List.mem_append_left _ (List.mem_of_getElem? htj))
          rw [horder, rawRows_split ss pre suf hk, selectIdx_append, List.length_append] at hcard
          have hone : 1 ≤ (selectIdx (0 + (rawRows ss pre a.srcKind).length) (rawRow ss o :: rawRows ss suf a.srcKind)
              (fun s => matchesB a s t)).length := by
            simp [selectIdx, enumFrom, hmt]
          rw [nestedJoin_src_some htj]
          exact List.eq_nil_of_length_eq_zero (by omega)
        · rw [hi, ← hk, nestedJoin_tgt_out]
          exact List.not_mem_nil
      · intro hk htm hne
        have hk : a.srcKind = o.1 := hk
        simp only at hne ⊢
        rw [hsel a ha hk] at hne ⊢
        refine ⟨by rw [hi, ← hk]; exact nestedJoin_tgt_out a _ _, ?_⟩
        have hsm : rawRow ss o ∈ rawRows ss order a.srcKind := by
          rw [horder, rawRows_split ss pre suf hk]; simp
        have := g.cardTgt a ha htm (rawRow ss o) hsm
        rw [horder, rawRows_append, selectIdx_append, List.length_append] at this
        omega
  refine ⟨_, apiNew_eq m o.1 o'.2 c hc (rawRows ss pre) hready, ?_⟩
  rw [hall, hs]
  refine ⟨?_, ?_, ?_, by rw [attrSum_addRow]; exact inv.asum⟩
  · intro k
    simp only [findCls_addRow]
    rw [← inv.attrs k]
    cases findCls m.classes k with
    | none => rfl
    | some d => by_cases hk : k = o.1 <;> simp [hk]
  · intro k
    simp only [rowsOf_addRow, rawRows_snoc, hc]
    by_cases hk : k = o.1
    · subst hk
      simp [hrows, hro.stored]
    · have : ¬ o.1 = k := fun e => hk e.symm
      simp only [hk, this, if_false, List.append_nil]
      exact inv.rows k
  · simp only
    rw [inv.assocs, List.map_map]
    apply List.map_congr_left
    intro a ha
    obtain ⟨hk1, hk2, hk3, hk4⟩ := g.keys a ha
    simp only [Function.comp, stepAssoc, rawRows_snoc]
    by_cases hk : a.srcKind = o.1
    · have hne : ¬ o.1 = a.tgtKind := fun h => hk4 (hk.trans h)
      rw [if_pos hk, if_pos hk.symm, if_neg hne, List.append_nil]
      rw [hsel a ha hk, hi, ← hk, nestedJoin_snoc_src]
    · have hne' : ¬ o.1 = a.srcKind := fun e => hk e.symm
      rw [if_neg hk, if_neg hne', List.append_nil]
      by_cases ht : o.1 = a.tgtKind
      · rw [if_pos ht]
        rw [nestedJoin_snoc_tgt_nomatch a _ _ _ (g.referredFirst a ha pre o suf horder ht)]
      · rw [if_neg ht, List.append_nil]

theorem apiRun_spec (ss : List Stmt) (order : List (String × List Val)) (g : ApiGuards ss order)
    (suf : List (String × List Val)) :
    ∀ (pre : List (String × List Val)) (m : Model), order = pre ++ suf → ApiInv ss pre m →
      ∃ m', apiRun suf m = (m', suf.map (fun _ => Outcome.ok)) ∧ ApiInv ss order m' := by
  induction suf with
  | nil =>
    intro pre m horder inv
    refine ⟨m, rfl, ?_⟩
    rw [horder, List.append_nil]
    exact inv
  | cons o suf ih =>
    intro pre m horder inv
    obtain ⟨m1, h1, inv1⟩ := apiNew_step ss order pre suf o g horder m inv o (readOf_refl ss order o)
    obtain ⟨m', h2, inv'⟩ := ih (pre ++ [o]) m1 (by rw [horder]; simp) inv1
    refine ⟨m', ?_, inv'⟩
    simp only [apiRun, h1, h2, List.map_cons]

theorem attrSum_popUniques (ss : List Stmt) (cs : List Cls) : attrSum (popUniques ss cs) = attrSum cs := by
  rw [popUniques_eq_map]
  exact attrSum_map_rows cs _ fun _ => rfl

theorem apiInv_init (ss : List Stmt) : ApiInv ss [] (schemaModel ss) := by
  refine ⟨?_, ?_, ?_, attrSum_popUniques ss _⟩
  · intro k
    simp only [schemaModel, findCls_popUniques]
    cases findCls (popClasses ss) k <;> simp [applyUniqs]
  · intro k
    simp only [schemaModel, rowsOf, findCls_popUniques, rawRows, List.filter_nil, List.map_nil]
    cases h : findCls (popClasses ss) k with
    | none => rfl
    | some c =>
      have := (popClasses_rows_nil ss c (List.mem_of_find?_eq_some h)).1
      simp [applyUniqs, this]
  · simp only [schemaModel]
    apply List.map_congr_left
    intro a _
    simp [rawRows, nestedJoin_nil_src]

theorem length_ge_two_of_mem {α : Type} {l : List α} {x y : α} (hx : x ∈ l) (hy : y ∈ l) (hne : x ≠ y) : 2 ≤ l.length := by
  match l, hx, hy with
  | [], hx, _ => cases hx
  | [z], hx, hy =>
    simp only [List.mem_singleton] at hx hy
    exact absurd (hx.trans hy.symm) hne
  | _ :: _ :: _, _, _ => simp

theorem length_le_readBound (ss : List Stmt) : (popClasses ss).length ≤ readBound ss := by
  unfold readBound attrSum
  have := sum_ge_length ((popClasses ss).map (fun c => c.attrs.length + 1))
    (by intro x hx; obtain ⟨c, _, rfl⟩ := List.mem_map.mp hx; omega)
  simpa using this

/-- the guards `readsTerminate` and `resolved` for a schema without chained keys (every identifying attribute used
    as a key is stored, none is referential in its own class): reads end after at most two steps, and an association
    has two distinct declared classes, so the bound is at least two wherever two steps are needed -/
theorem reads_of_noChain (ss : List Stmt) (order : List (String × List Val))
    (hschema : ∀ s ∈ ss, ∀ k ns vs, s ≠ .insert k ns vs) (hacc : accepted ss = true)
    (hkeys : ∀ a ∈ popAssocs ss, KeysOk a ∧ a.srcKeys.length = a.tgtKeys.length ∧ a.srcKeys ≠ [] ∧ a.srcKind ≠ a.tgtKind)
    (hdecl : ∀ o ∈ order, (findCls (popClasses ss) o.1).isSome = true ∧ o.2.length = (attrsOf ss o.1).length)
    (hnc : ∀ a ∈ popAssocs ss, ∀ t ∈ a.tgtKeys, t ∉ referential (popAssocs ss) a.tgtKind) :
    (∀ k i x, i < (rawRows ss order k).length →
      (readAttr (loaded ss order) (readBound ss) k i x).isSome = true) ∧
    (∀ a ∈ popAssocs ss, ∀ (i j : Nat) s t, (rawRows ss order a.srcKind)[i]? = some s →
      (rawRows ss order a.tgtKind)[j]? = some t → matchesB a s t = true →
      ∀ tk ∈ a.tgtKeys, readAttr (loaded ss order) (readBound ss) a.tgtKind j tk = some (t.get tk)) := by
  have hrowsM := loaded_rows' ss order hschema hdecl
  have hassM := loaded_assocs' ss order hschema (fun a ha => (hkeys a ha).1) hdecl
  have hfstM : (loaded ss order).assocs.map (·.1) = popAssocs ss := by rw [hassM]; exact map_fst_assocs ss _
  have hjM : Joined (loaded ss order) (popAssocs ss) := by
    unfold Joined; rw [hassM]; simp only [hrowsM]
  have htwo : ∀ a ∈ popAssocs ss, ∃ d, readBound ss = d + 1 + 1 := by
    intro a ha
    obtain ⟨hsk, htk, _⟩ := assoc_declared ss hacc a ha
    have h2 := length_ge_two_of_mem hsk htk (hkeys a ha).2.2.2
    have := length_le_readBound ss
    simp only [List.length_map] at h2
    exact ⟨readBound ss - 2, by omega⟩
  have hstored : ∀ (d : Nat) (a : AssocStmt), a ∈ popAssocs ss → ∀ (j : Nat) (t : Row),
      (rawRows ss order a.tgtKind)[j]? = some t → ∀ tk ∈ a.tgtKeys,
      readAttr (loaded ss order) (d + 1) a.tgtKind j tk = some (t.get tk) := by
    intro d a ha j t ht tk htk
    rw [readAttr_stored _ d _ _ _ (by rw [hfstM]; exact hnc a ha tk htk), hrowsM, ht]
    rfl
  constructor
  · intro k i x hi
    by_cases hx : x ∈ referential (popAssocs ss) k
    · obtain ⟨b, hb, _⟩ : ∃ b ∈ popAssocs ss, b.srcKind = k := by
        simp only [referential, List.mem_flatMap, List.mem_filter, decide_eq_true_eq] at hx
        obtain ⟨b, ⟨hb, hbk⟩, _⟩ := hx
        exact ⟨b, hb, hbk⟩
      obtain ⟨d, hd⟩ := htwo b hb
      rw [hd]
      rcases readAttr_joined hjM (d + 1) k i x hx with ⟨h1, _⟩ | ⟨a, ha, _, tk, j, s, t, hmem, _, ht, _, hval⟩
      · rw [h1]; rfl
      · rw [hval, hstored d a ha j t (hrowsM _ ▸ ht) tk (List.of_mem_zip hmem).2]
        rfl
    · -- the class has a row, so it is declared and the bound is positive
      obtain ⟨o, ho, _⟩ := List.mem_map.mp (List.getElem_mem hi)
      obtain ⟨c, hc⟩ := Option.isSome_iff_exists.mp (hdecl o (List.mem_filter.mp ho).1).1
      have hpos : 0 < (popClasses ss).length := List.length_pos_of_mem (List.mem_of_find?_eq_some hc)
      obtain ⟨d, hd⟩ : ∃ d, readBound ss = d + 1 := ⟨readBound ss - 1, by have := length_le_readBound ss; omega⟩
      rw [hd, readAttr_stored _ d k i x (by rw [hfstM]; exact hx)]
      rfl
  · intro a ha i j s t _ ht _ tk htk
    obtain ⟨d, hd⟩ := htwo a ha
    rw [hd]
    exact hstored (d + 1) a ha j t ht tk htk

theorem schemaOnly_of_all {ss : List Stmt}
    (h : ss.all (fun s => match s with | .insert .. => false | _ => true) = true) :
    ∀ s ∈ ss, ∀ k ns vs, s ≠ .insert k ns vs := by
  intro s hs k ns vs he
  subst he
  simpa using List.all_eq_true.mp h _ hs

theorem referredFirst_of_positions (ss : List Stmt) (order : List (String × List Val))
    (h : ∀ a ∈ popAssocs ss, ∀ n (hn : n < order.length), order[n].1 = a.tgtKind →
      ∀ s ∈ rawRows ss (order.take n) a.srcKind, matchesB a s (rawRow ss order[n]) = false) :
    ∀ a ∈ popAssocs ss, ∀ pre o suf, order = pre ++ o :: suf → o.1 = a.tgtKind →
      ∀ s ∈ rawRows ss pre a.srcKind, matchesB a s (rawRow ss o) = false := by
  intro a ha pre o suf hord
  subst hord
  simpa using h a ha pre.length (by simp)

theorem resolved_of_positions (ss : List Stmt) (order : List (String × List Val))
    (h : ∀ a ∈ popAssocs ss, ∀ i (hi : i < (rawRows ss order a.srcKind).length) j
      (hj : j < (rawRows ss order a.tgtKind).length),
      matchesB a (rawRows ss order a.srcKind)[i] (rawRows ss order a.tgtKind)[j] = true → ∀ tk ∈ a.tgtKeys,
      readAttr (loaded ss order) (readBound ss) a.tgtKind j tk = some ((rawRows ss order a.tgtKind)[j].get tk)) :
    ∀ a ∈ popAssocs ss, ∀ (i j : Nat) s t, (rawRows ss order a.srcKind)[i]? = some s →
      (rawRows ss order a.tgtKind)[j]? = some t → matchesB a s t = true →
      ∀ tk ∈ a.tgtKeys, readAttr (loaded ss order) (readBound ss) a.tgtKind j tk = some (t.get tk) := by
  intro a ha i j s t hs ht
  obtain ⟨hi, rfl⟩ := List.getElem?_eq_some_iff.mp hs
  obtain ⟨hj, rfl⟩ := List.getElem?_eq_some_iff.mp ht
  exact h a ha i hi j hj

/-- `readsTerminate`: an attribute that is not referential is read from the row; the referential ones of the classes that
    have rows are finitely many -/
theorem readsTerminate_of_referential (ss : List Stmt) (order : List (String × List Val))
    (hst : (loaded ss order).assocs.map (·.1) = popAssocs ss) (hpos : 0 < readBound ss)
    (h : ∀ o ∈ order, ∀ i, i < (rawRows ss order o.1).length → ∀ x ∈ referential (popAssocs ss) o.1,
      (readAttr (loaded ss order) (readBound ss) o.1 i x).isSome = true) :
    ∀ k i x, i < (rawRows ss order k).length → (readAttr (loaded ss order) (readBound ss) k i x).isSome = true := by
  intro k i x hi
  by_cases hx : x ∈ referential (popAssocs ss) k
  · obtain ⟨o, ho, _⟩ := List.mem_map.mp (List.getElem_mem hi)
    obtain ⟨hom, hok⟩ := List.mem_filter.mp ho
    have hk : o.1 = k := by simpa using hok
    exact hk ▸ h o hom i (hk ▸ hi) x (hk ▸ hx)
  · obtain ⟨f, hf⟩ : ∃ f, readBound ss = f + 1 := ⟨readBound ss - 1, by omega⟩
    rw [hf, readAttr_stored _ f k i x (by rw [hst]; exact hx)]
    rfl

end Pyx.Load
