import Proofs.OalExpr
import Proofs.OalSuffE  -- nothing of it is cited: both modules make Lean generate the same auxiliary match equations of the parser functions, so one has to import the other

/-!
  Minimality of `render` (C07): NO opening parenthesis of the rendering is redundant.

  `render_minimal`: for an ARBITRARY token list `ts` (not only printer output) and a well-formed table, if the
  parser reads the tree `e` from `ts` (at minimal level `m ≤ ulevel`, leaving `rest`), then `ts` contains at
  least as many `(` tokens as `render t e m` does (plus those of `rest`).  Hence a token list with fewer `(`
  than `render t e 0` — in particular the rendering with any one `(` erased, and anything else erased as well
  (its `)`, say) — is rejected or parses to a DIFFERENT tree (`render_erase_paren`).

  The proof follows the parser (induction on the fuel); the operator loop carries the invariant that the
  left operand built so far, rendered at any level up to `cap`, costs at most the `(` consumed so far, and that
  the next operator the loop can accept asks its left operand for a level ≤ `cap`.
-/

namespace Pyx.Oal

def lp1 (a : Tok) : Nat := if a.kind = .LPAREN then 1 else 0

def lp : List Tok → Nat
  | [] => 0
  | a :: ts => lp1 a + lp ts

@[simp] theorem lp_nil : lp [] = 0 := rfl
@[simp] theorem lp_cons (a : Tok) (ts : List Tok) : lp (a :: ts) = lp1 a + lp ts := rfl

theorem lp_eq_countP (ts : List Tok) : lp ts = ts.countP (fun a => a.kind = .LPAREN) := by
  induction ts with
  | nil => rfl
  | cons a ts ih =>
    simp only [lp_cons, ih, List.countP_cons, lp1, decide_eq_true_eq]
    exact Nat.add_comm _ _

theorem lp_append (a b : List Tok) : lp (a ++ b) = lp a + lp b := by
  simp only [lp_eq_countP, List.countP_append]

theorem lp1_of_kind {a : Tok} (h : a.kind = .LPAREN) : lp1 a = 1 := by simp [lp1, h]
theorem lp1_of_ne {a : Tok} (h : a.kind ≠ .LPAREN) : lp1 a = 0 := by simp [lp1, h]
@[simp] theorem lp1_LP : lp1 LP = 1 := rfl
@[simp] theorem lp1_RP : lp1 RP = 0 := rfl
theorem lp1_tk (k : Kind) (s : String) : lp1 (tk k s) = if k = .LPAREN then 1 else 0 := rfl

theorem lp_drop1_le (ts : List Tok) : lp (ts.drop 1) ≤ lp ts := by
  cases ts with
  | nil => simp
  | cons a ts => simp only [List.drop_succ_cons, List.drop_zero, lp_cons]; omega

theorem lp_drop1_lparen {ts : List Tok} (h : hk ts = some .LPAREN) : lp ts = 1 + lp (ts.drop 1) := by
  cases ts with
  | nil => simp at h
  | cons a ts =>
    simp only [hk_cons, Option.some.injEq] at h
    simp only [List.drop_succ_cons, List.drop_zero, lp_cons, lp1_of_kind h]

theorem lp_wrap (b : Bool) (ts : List Tok) : lp (wrap b ts) = (if b then 1 else 0) + lp ts := by
  cases b
  · simp [wrap]
  · simp only [wrap, ↓reduceIte, lp_cons, lp_append, lp1_LP, lp1_RP, lp_nil]; omega

theorem lp_render (t : Tbl) (e : Expr) (n : Nat) :
    lp (render t e n) = (if e.level t < n then 1 else 0) + lp (renderRaw t e) := by
  simp only [render, lp_wrap, decide_eq_true_eq]

theorem lp_render_le (t : Tbl) (e : Expr) (n : Nat) : lp (render t e n) ≤ 1 + lp (render t e 0) := by
  simp only [lp_render, Nat.not_lt_zero, ↓reduceIte]
  split <;> omega

theorem level_of_not_op (t : Tbl) {e : Expr} (h : e.isOp = false) : e.level t = t.ulevel + 1 := by
  cases e <;> first | rfl | simp [Expr.isOp] at h

theorem lp_render_atom (t : Tbl) {e : Expr} (h : e.isOp = false) {n : Nat} (hn : n ≤ t.ulevel) :
    lp (render t e n) = lp (renderRaw t e) := by
  have := level_of_not_op t h
  simp only [lp_render]
  rw [if_neg (by omega)]
  omega

theorem lp_renderParams_cons (t : Tbl) (n : Tok) (e : Expr) (ps : Params) :
    lp (renderParams t (.cons n e ps)) = lp1 n + lp (render t e 0) + lp (renderParams t ps) := by
  cases ps with
  | nil =>
    simp only [renderParams_one, renderParams_nil, lp_cons, lp_nil, lp1_tk]
    simp
  | cons n' e' ps' =>
    simp only [renderParams_more, lp_cons, lp_append, lp1_tk]
    simp only [reduceCtorEq, ↓reduceIte, Nat.zero_add]
    omega

section
variable {t : Tbl}

structure MinE (t : Tbl) (f : Nat) : Prop where
  params : ∀ ts ps rest, parseParams t f ts = some (ps, rest) → lp (renderParams t ps) + lp rest ≤ lp ts
  suffix : ∀ h ts e rest, parseSuffix t f h ts = some (e, rest) → h.isOp = false →
    e.isOp = false ∧ lp (renderRaw t e) + lp rest ≤ lp (renderRaw t h) + lp ts
  pre : ∀ ts e rest, parsePrefix t f ts = some (e, rest) → ∀ n, n ≤ t.ulevel → lp (render t e n) + lp rest ≤ lp ts
  expr : ∀ m ts e rest, parseExpr t f m ts = some (e, rest) → m ≤ t.ulevel →
    lp (render t e m) + lp rest ≤ lp ts ∧ OpsBelow t m rest
  loop : ∀ m na lhs ts e rest, parseLoop t f m na lhs ts = some (e, rest) → ∀ c cap, m ≤ cap →
    (∀ n, n ≤ cap → lp (render t lhs n) ≤ c) →
    (∀ k l a, hk ts = some k → t.bin k = some (l, a) → na ≠ some l → lmin l a ≤ cap) →
    lp (render t e m) + lp rest ≤ c + lp ts ∧ OpsBelow t m rest

/-- `h : some (a, b) = some (x, rest)`: substitute -/
local macro "fin_inj " h:ident : tactic =>
  `(tactic| (simp only [Option.some.injEq, Prod.mk.injEq] at $h:ident; obtain ⟨rfl, rfl⟩ := $h:ident))

theorem minE (wf : t.WF) : ∀ f, MinE t f
  | 0 =>
    { params := fun ts ps rest h => by simp [parseParams] at h
      suffix := fun h ts e rest hp => by simp [parseSuffix] at hp
      pre := fun ts e rest h => by simp [parsePrefix] at h
      expr := fun m ts e rest h => by simp [parseExpr] at h
      loop := fun m na lhs ts e rest h => by simp [parseLoop] at h }
  | f + 1 => by
    have ih := minE wf f
    refine ⟨?_, ?_, ?_, ?_, ?_⟩
    · intro ts ps rest
      generalize hn : f + 1 = n
      fun_cases parseParams t n ts
      all_goals try (intro h; cases h; done)
      all_goals cases hn
      all_goals intro h
      next nm col ts hc e ts' hcm ps' ts'' h1 h2 =>
        fin_inj h
        obtain ⟨hl1, _⟩ := ih.expr _ _ _ _ h1 (Nat.zero_le _)
        have hl2 := ih.params _ _ _ h2
        have := lp_drop1_le ts'
        simp only [lp_renderParams_cons, lp_cons]
        omega
      next nm col ts hc e ts' hcm h1 =>
        fin_inj h
        obtain ⟨hl1, _⟩ := ih.expr _ _ _ _ h1 (Nat.zero_le _)
        simp only [lp_renderParams_cons, lp_cons, renderParams_nil, lp_nil]
        omega
      all_goals
        fin_inj h
        simp [renderParams_nil]
    · intro h ts e rest
      generalize hn : f + 1 = n
      fun_cases parseSuffix t n h ts
      all_goals try (intro hp; cases hp; done)
      all_goals cases hn
      all_goals intro hp hop
      next tok hk' nm ts1 hid hlp ps ts2 hrp hs h1 =>
        fin_inj hp
        have hl1 := ih.params _ _ _ h1
        have := lp_drop1_lparen hlp
        have := lp_drop1_le ts2
        refine ⟨rfl, ?_⟩
        simp only [renderRaw_ocall, lp_append, lp_cons, lp1_LP, lp1_RP, lp_nil, lp1_tk, reduceCtorEq, ↓reduceIte]
        omega
      next tok hk' nm ts1 hid hlp hc =>
        obtain ⟨ho, hl⟩ := ih.suffix _ _ _ _ hp rfl
        refine ⟨ho, ?_⟩
        simp only [renderRaw_field, lp_append, lp_cons, lp_nil, lp1_tk, reduceCtorEq, ↓reduceIte] at hl
        simp only [lp_cons]
        omega
      next tok ts hk' i ts1 hr hi h1 =>
        obtain ⟨hl1, _⟩ := ih.expr _ _ _ _ h1 (Nat.zero_le _)
        obtain ⟨ho, hl⟩ := ih.suffix _ _ _ _ hp rfl
        have := lp_drop1_le ts1
        refine ⟨ho, ?_⟩
        simp only [renderRaw_index, lp_append, lp_cons, lp_nil, lp1_tk, reduceCtorEq, ↓reduceIte] at hl
        simp only [lp_cons]
        omega
      all_goals
        fin_inj hp
        exact ⟨hop, Nat.le_refl _⟩
    · intro ts e rest
      generalize hk : f + 1 = k
      fun_cases parsePrefix t k ts
      all_goals try (intro hp; cases hp; done)
      all_goals cases hk
      all_goals intro hp n hn
      all_goals simp only [lp_cons]
      next tok ts hu e1 ts' h1 =>
        fin_inj hp
        obtain ⟨hl1, _⟩ := ih.expr _ _ _ _ h1 (Nat.le_refl _)
        rw [render_un t tok e1 hn]
        simp only [lp_cons]
        omega
      -- an access chain: it begins with a name, …
      next =>
        obtain ⟨ho, hl⟩ := ih.suffix _ _ _ _ hp rfl
        rw [lp_render_atom t ho hn]
        simp only [renderRaw, lp_cons, lp_nil] at hl
        omega
      -- a literal
      iterate 5
        next =>
          fin_inj hp
          rw [lp_render_atom t rfl hn]
          simp only [renderRaw, lp_cons, lp_nil, lp1_tk, reduceCtorEq, ↓reduceIte]
          omega
      -- … with `self`, `selected`, `param.x`, `rcvd_evt.x`
      iterate 4
        next =>
          obtain ⟨ho, hl⟩ := ih.suffix _ _ _ _ hp rfl
          rw [lp_render_atom t ho hn]
          simp only [renderRaw, lp_cons, lp_nil, lp1_tk, reduceCtorEq, ↓reduceIte] at hl
          omega
      next tok hu hv hk' dc nm ts' hc hlp ps ts2 hrp h1 =>
        fin_inj hp
        have hl1 := ih.params _ _ _ h1
        have := lp_drop1_lparen hlp
        have := lp_drop1_le ts2
        rw [lp_render_atom t rfl hn]
        simp only [renderRaw_icall, lp_append, lp_cons, lp1_LP, lp1_RP, lp_nil, lp1_tk, reduceCtorEq, ↓reduceIte]
        omega
      next =>
        fin_inj hp
        rw [lp_render_atom t rfl hn]
        simp only [renderRaw, lp_cons, lp_nil, lp1_tk, reduceCtorEq, ↓reduceIte]
        omega
      next tok hu hv hk' nm lpt ts' hc ps ts2 hrp h1 =>
        fin_inj hp
        have hl1 := ih.params _ _ _ h1
        have := lp1_of_kind hc.2
        have := lp_drop1_le ts2
        rw [lp_render_atom t rfl hn]
        simp only [renderRaw_fcall, lp_append, lp_cons, lp1_LP, lp1_RP, lp_nil, lp1_tk, reduceCtorEq, ↓reduceIte]
        omega
      -- the parentheses of the input pay for the parentheses `render` may need
      next tok ts hu hv hk' e1 ts' hrp h1 =>
        fin_inj hp
        obtain ⟨hl1, _⟩ := ih.expr _ _ _ _ h1 (Nat.zero_le _)
        have := lp_render_le t e n
        have := lp_drop1_le ts'
        have := lp1_of_kind hk'
        omega
    · intro m ts e rest h hm
      simp only [parseExpr] at h
      split at h <;> try contradiction
      rename_i lhs ts' h1
      have hpre := ih.pre _ _ _ h1
      have h0 := hpre 0 (Nat.zero_le _)
      -- the loop starts with `c` = the `(` the operand consumed and `cap := ulevel`: the operand renders within that budget
      -- at EVERY level up to `ulevel` (`hpre`), and every operator asks at most `ulevel` of its left operand (`binLt`)
      obtain ⟨hl, hob⟩ := ih.loop _ _ _ _ _ _ h (lp ts - lp ts') t.ulevel hm
        (fun n hn => by have := hpre n hn; omega)
        (fun k l a _ hb _ => by
          have := wf.binLt k l a hb
          cases a <;> simp only [lmin] <;> omega)
      exact ⟨by omega, hob⟩
    · intro m na lhs ts e rest
      generalize hn : f + 1 = n
      fun_cases parseLoop t n m na lhs ts
      all_goals try (intro h; cases h; done)
      all_goals cases hn
      all_goals intro h c cap hmc hcov hnext
      next =>
        fin_inj h
        exact ⟨by have := hcov m hmc; simp only [lp_nil]; omega, fun k l a hk' => by simp at hk'⟩
      next tok ts l a hb hlt =>
        -- an operator below the minimal level: stop
        fin_inj h
        exact ⟨by have := hcov m hmc; omega, (opsBelow_cons hb).2 fun _ _ e => by cases e; exact hlt⟩
      next tok ts l a hb rhs ts' hge hna h1 =>
        have hul := wf.binLt _ _ _ hb
        obtain ⟨hl1, hob1⟩ := ih.expr _ _ _ _ h1 (by cases a <;> simp only [rmin] <;> omega)
        have hlm : lmin l a ≤ cap := hnext tok.kind l a rfl hb hna
        have hcl := hcov _ hlm
        have hcov' : ∀ n, n ≤ l → lp (render t (.bin lhs tok rhs) n) ≤
            lp (render t lhs (lmin l a)) + lp1 tok + lp (render t rhs (rmin l a)) := by
          intro n hn
          rw [render_bin t lhs tok rhs hb hn]
          simp only [lp_append, lp_cons]
          omega
        -- the next operator the loop can accept asks for a left operand of level ≤ `l`
        have hnext' : ∀ k l2 a2, hk ts' = some k → t.bin k = some (l2, a2) →
            (if a = .nonassoc then some l else none) ≠ some l2 → lmin l2 a2 ≤ l := by
          intro k l2 a2 hk' hb2 hna2
          refine (wf.left_operand_iff hb hb2).2 ⟨hob1 k l2 a2 hk' hb2, fun ha => ?_⟩
          simpa [ha] using hna2
        obtain ⟨hl, hob⟩ := ih.loop _ _ _ _ _ _ h _ l (by omega) hcov' hnext'
        refine ⟨?_, hob⟩
        simp only [lp_cons]
        omega
      next tok ts hb =>
        fin_inj h
        exact ⟨by have := hcov m hmc; omega, (opsBelow_cons hb).2 nofun⟩

theorem render_minimal (wf : t.WF) {f m : Nat} {ts : List Tok} {e : Expr} {rest : List Tok}
    (h : parseExpr t f m ts = some (e, rest)) (hm : m ≤ t.ulevel) : lp (render t e m) + lp rest ≤ lp ts :=
  ((minE wf f).expr m ts e rest h hm).1

theorem render_minimal_top (wf : t.WF) {ts : List Tok} {e : Expr} {rest : List Tok}
    (h : parseExprTop t ts = some (e, rest)) : lp (render t e 0) + lp rest ≤ lp ts :=
  render_minimal wf h (Nat.zero_le _)

theorem fewer_parens_differ (wf : t.WF) {ts : List Tok} {e : Expr} (hlt : lp ts < lp (render t e 0))
    (f : Nat) (rest : List Tok) : parseExpr t f 0 ts ≠ some (e, rest) := by
  intro h
  have := render_minimal wf h (Nat.zero_le _)
  omega

theorem lp_sublist {a b : List Tok} (h : a.Sublist b) : lp a ≤ lp b := by
  simpa only [lp_eq_countP] using h.countP_le

theorem lp_eraseIdx {ts : List Tok} {i : Nat} {a : Tok} (h : ts[i]? = some a) (ha : a.kind = .LPAREN) :
    lp (ts.eraseIdx i) + 1 = lp ts := by
  obtain ⟨hi, rfl⟩ := List.getElem?_eq_some_iff.mp h
  have hts : lp ts = lp (ts.take i ++ ts[i] :: ts.drop (i + 1)) := by
    rw [← List.drop_eq_getElem_cons hi, List.take_append_drop]
  rw [hts, List.eraseIdx_eq_take_drop_succ, lp_append, lp_append, lp_cons, lp1_of_kind ha]
  omega

/-- no parenthesis of the rendering is redundant: erase any one `(` of `render t e 0` — and, with it, any
    other tokens (its `)`, for instance): what remains is rejected or parses to a different tree, whatever the
    fuel and the remainder -/
theorem render_erase_paren (wf : t.WF) (e : Expr) (i : Nat) (a : Tok) (hi : (render t e 0)[i]? = some a)
    (ha : a.kind = .LPAREN) (ts : List Tok) (hsub : ts.Sublist ((render t e 0).eraseIdx i)) (f : Nat)
    (rest : List Tok) : parseExpr t f 0 ts ≠ some (e, rest) := by
  apply fewer_parens_differ wf
  have := lp_sublist hsub
  have := lp_eraseIdx hi ha
  omega

/-- the parentheses `render` emits around an operand are exactly those the operand's level calls for -/
theorem render_parens_iff (t : Tbl) (e : Expr) (need : Nat) :
    (render t e need = LP :: (renderRaw t e ++ [RP]) ∧ e.level t < need) ∨
    (render t e need = renderRaw t e ∧ need ≤ e.level t) := by
  by_cases h : e.level t < need
  · exact Or.inl ⟨render_paren t h, h⟩
  · exact Or.inr ⟨render_raw t h, by omega⟩

end
end Pyx.Oal
