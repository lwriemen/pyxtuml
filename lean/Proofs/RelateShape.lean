import PyxModel.Meta
import Gen.RelateShape

/-!
  C02 source tie, one level above Link.connect/disconnect: a GENERIC interpreter of the first-order IR that
  translator/gen_relateshape.py extracts from xtuml/meta.py (define_association, _find_link, relate, unrelate,
  MetaClass.delete, MetaClass.new, Association.formalize's getter), and the lemmas showing that the model of
  PyxModel/Meta.lean equals that interpretation of the IR generated from xtuml/meta.py.

  The interpreter is defined once, for ANY IR value; only the `…_eq` lemmas mention the generated constants.
-/
namespace Pyx.Shape
open Pyx.Meta Pyx.Gen.RelateShape

def evalB {α : Type} (v : α → Bool) : BExp α → Bool
  | .atom a => v a
  | .and l r => evalB v l && evalB v r
  | .or l r => evalB v l || evalB v r
  | .not e => !(evalB v e)

/-! ### define_association: which argument each link receives -/

def endKind (a : AssocSpec) : End → Kind
  | .source => a.srcKind
  | .target => a.tgtKind

def endMany (a : AssocSpec) : End → Bool
  | .source => a.srcMany
  | .target => a.tgtMany

def endPhrase (a : AssocSpec) : End → String
  | .source => a.srcPhrase
  | .target => a.tgtPhrase

def endKeys (a : AssocSpec) : End → List String
  | .source => a.srcKeys
  | .target => a.tgtKeys

def linkDefOf (defs : List LinkDef) (isSrc : Bool) : Option LinkDef := defs.find? (fun d => d.isSourceLink == isSrc)

/-- `metaclass.links.values()` of class `k` when no two links of the class share a key (`add_link` stores under
    `(kind, rel_id, phrase)`, and an equal key would replace the earlier link; here every call is listed): every
    association contributes, in the order of its add_link calls, the links that start at `k`: (association index, is it
    the source_link?, phrase of the link) -/
def iLinksOfFrom (defs : List LinkDef) (k : Kind) : Nat → Schema → List (Nat × Bool × String)
  | _, [] => []
  | i, a :: rest =>
    defs.flatMap (fun d => if endKind a d.fromCls = k then [(i, d.isSourceLink, endPhrase a d.phrase)] else []) ++
      iLinksOfFrom defs k (i + 1) rest

def evalFindAtom (defs : List LinkDef) (a : AssocSpec) (k1 k2 : Kind) (rel phrase : String) : FindAtom → Bool
  | .relDiffers => decide (a.rel ≠ rel)
  | .srcFrom1 => match linkDefOf defs true with | some d => decide (endKind a d.fromCls = k1) | none => false
  | .srcTo2 => match linkDefOf defs true with | some d => decide (endKind a d.toCls = k2) | none => false
  | .srcPhrase => match linkDefOf defs true with | some d => decide (endPhrase a d.phrase = phrase) | none => false
  | .tgtFrom1 => match linkDefOf defs false with | some d => decide (endKind a d.fromCls = k1) | none => false
  | .tgtTo2 => match linkDefOf defs false with | some d => decide (endKind a d.toCls = k2) | none => false
  | .tgtPhrase => match linkDefOf defs false with | some d => decide (endPhrase a d.phrase = phrase) | none => false

/-- the first guard of the loop body that fires decides; none firing = fall through to the next association -/
def firstAct (body : List (BExp FindAtom × FindAct)) (v : FindAtom → Bool) : Option FindAct :=
  (body.find? (fun g => evalB v g.1)).map (·.2)

/-- `some (i, swapped)`; `none` = the exception after the loop -/
def iFindFrom (defs : List LinkDef) (body : List (BExp FindAtom × FindAct)) (k1 k2 : Kind) (rel phrase : String) :
    Nat → Schema → Option (Nat × Bool)
  | _, [] => none
  | i, a :: rest =>
    match firstAct body (evalFindAtom defs a k1 k2 rel phrase) with
    | some (.found sw) => some (i, sw)
    | _ => iFindFrom defs body k1 k2 rel phrase (i + 1) rest

/-! ### relate / unrelate: a list of guarded link calls -/

structure Env where
  inst1 : Inst
  inst2 : Inst
  fromI : Inst
  toI : Inst

def Env.get (e : Env) : Arg → Inst
  | .inst1 => e.inst1
  | .inst2 => e.inst2
  | .fromInst => e.fromI
  | .toInst => e.toI

def linkMany (defs : List LinkDef) (a : AssocSpec) (isSrc : Bool) : Bool :=
  match linkDefOf defs isSrc with
  | some d => endMany a d.many
  | none => false

/-- one `ass.<link>.<op>(a1, a2)`; `none` = it returned False -/
def applyCall (defs : List LinkDef) (a : AssocSpec) (env : Env) (l : ALinks) (c : Call) : Option ALinks :=
  match c.link, c.op with
  | .sourceLink, .connect => (connect (linkMany defs a true) l.src (env.get c.a1) (env.get c.a2)).map (fun m => { l with src := m })
  | .sourceLink, .disconnect => (disconnect l.src (env.get c.a1) (env.get c.a2)).map (fun m => { l with src := m })
  | .targetLink, .connect => (connect (linkMany defs a false) l.tgt (env.get c.a1) (env.get c.a2)).map (fun m => { l with tgt := m })
  | .targetLink, .disconnect => (disconnect l.tgt (env.get c.a1) (env.get c.a2)).map (fun m => { l with tgt := m })

/-- an undo call is an expression statement: its result is ignored -/
def applyUndo (defs : List LinkDef) (a : AssocSpec) (env : Env) (l : ALinks) (c : Call) : ALinks :=
  (applyCall defs a env l c).getD l

def excOut : Exc → Out
  | .relateExc => .relateExc
  | .unrelateExc => .unrelateExc
  | .unknownLink => .unknownLink
  | .deleteExc => .deleteExc

def iSteps (defs : List LinkDef) (a : AssocSpec) (env : Env) : List GuardedCall → ALinks → ALinks × Out
  | [], l => (l, .ok)
  | g :: rest, l =>
    match applyCall defs a env l g.call with
    | some l' => iSteps defs a env rest l'
    | none => (g.undo.foldl (applyUndo defs a env) l, excOut g.raises)

/-- does `MetaClass.delete` add the instance it removes from `storage` to `self.deleted`? -/
def marksDeleted : List DStmt → Bool
  | [] => false
  | .removeFromStorageElseRaise _ adds :: rest => adds || marksDeleted rest
  | _ :: rest => marksDeleted rest

/-- `inst in get_metaclass(inst).deleted`, given the body of `MetaClass.delete`: the set `deleted` of a metaclass
    receives exactly the instances `delete` removes from `storage` (if `delete` adds them at all: `marksDeleted`), and
    `MetaClass.new` appends every instance it creates to `storage`; so a handle is in `deleted` iff it is not (no
    longer) in the pool of its class.  (A handle that was never created is in no pool either.) -/
def inDeleted (dbody : List DStmt) (s : State) (x : Inst) : Bool := marksDeleted dbody && !decide (live s x)

/-- `relate` / `unrelate`: `_find_link` on the program's arguments, then the guards
    `for inst in (…): if inst in get_metaclass(inst).deleted: raise …`, then the guarded calls on the association found -/
def iPair (defs : List LinkDef) (body : List (BExp FindAtom × FindAct)) (els : Exc) (dbody : List DStmt) (prog : PairProg)
    (sch : Schema) (s : State) (fromI toI : Inst) (rel phrase : String) : State × Out :=
  let env0 : Env := { inst1 := fromI, inst2 := toI, fromI := fromI, toI := toI }
  let a1 := env0.get prog.findArgs.1
  let a2 := env0.get prog.findArgs.2
  match iFindFrom defs body (s.kindOf a1) (s.kindOf a2) rel phrase 0 sch with
  | none => (s, excOut els)
  | some (i, sw) =>
    let env : Env := { inst1 := if sw then a2 else a1, inst2 := if sw then a1 else a2, fromI := fromI, toI := toI }
    match prog.guards.find? (fun g => g.over.any (fun a => inDeleted dbody s (env.get a))) with
    | some g => (s, excOut g.raises)
    | none =>
      let r := iSteps defs (specAt sch i) env prog.steps (s.links i)
      ({ s with links := upd s.links i r.1 }, r.2)

def dArg (x other : Inst) : DArg → Inst
  | .instance => x
  | .other => other

/-- `for other in link[instance]: unrelate(a1, a2, rel, phrase)` over the snapshot of the partner list -/
def iPartners (unrel : State → Inst → Inst → String → String → State × Out) (a1 a2 : DArg) (x : Inst)
    (rel phrase : String) : List Inst → State → State × Out
  | [], s => (s, .ok)
  | y :: ys, s =>
    let r := unrel s (dArg x y a1) (dArg x y a2) rel phrase
    if r.2 = .ok then iPartners unrel a1 a2 x rel phrase ys r.1 else r

def iLinkLoop (unrel : State → Inst → Inst → String → String → State × Out) (sch : Schema) (skipAbsent : Bool)
    (a1 a2 : DArg) (x : Inst) : List (Nat × Bool × String) → State → State × Out
  | [], s => (s, .ok)
  | (i, isSrc, phrase) :: rest, s =>
    let partners := if isSrc then (s.links i).src x else (s.links i).tgt x
    if skipAbsent && partners.isEmpty then iLinkLoop unrel sch skipAbsent a1 a2 x rest s
    else
      let r := iPartners unrel a1 a2 x (specAt sch i).rel phrase partners s
      if r.2 = .ok then iLinkLoop unrel sch skipAbsent a1 a2 x rest r.1 else r

def iDelete (defs : List LinkDef) (unrel : State → Inst → Inst → String → String → State × Out) (sch : Schema)
    (x : Inst) (disconnectFlag : Bool) : List DStmt → State → State × Out
  | [], s => (s, .ok)
  | .removeFromStorageElseRaise e _ :: rest, s =>
    if x ∈ s.pool (s.kindOf x) ∧ x < s.count then
      iDelete defs unrel sch x disconnectFlag rest
        { s with pool := upd s.pool (s.kindOf x) ((s.pool (s.kindOf x)).erase x) }
    else (s, excOut e)
  | .returnUnlessDisconnect :: rest, s =>
    if disconnectFlag then iDelete defs unrel sch x disconnectFlag rest s else (s, .ok)
  | .forLinksUnrelate skip a1 a2 :: rest, s =>
    let r := iLinkLoop unrel sch skip a1 a2 x (iLinksOfFrom defs (s.kindOf x) 0 sch) s
    if r.2 = .ok then iDelete defs unrel sch x disconnectFlag rest r.1 else r

/-! ### MetaClass.new (the part C02's model has: allocation, storage, generated id) -/

def iNewPhase (k : Kind) (hasId : Bool) (x : Inst) (s : State) : NewPhase → State
  | .construct => { s with kindOf := upd s.kindOf x k, count := x + 1 }
  | .appendStorage => { s with pool := upd s.pool k (s.pool k ++ [x]) }
  | .defaults => { s with idOf := upd s.idOf x (if hasId then s.nextId else 0),
                          nextId := if hasId then s.nextId + 1 else s.nextId }
  | _ => s

def iNew (phases : List NewPhase) (s : State) (k : Kind) (hasId : Bool) : State × Inst :=
  (phases.foldl (iNewPhase k hasId s.count) s, s.count)

def iKeyPairs (z : End × End) (a : AssocSpec) : List (String × String) := (endKeys a z.1).zip (endKeys a z.2)

mutual
  def iGetAttr (lk : LinkSel) (fb : BExp FgetAtom) (sch : Schema) (at_ : Attrs) (s : State) : Nat → Inst → String → Option Nat
    | 0, _, _ => none
    | fuel + 1, x, name =>
      let layers := (formalFrom (s.kindOf x) name 0 sch).reverse
      match layers with
      | [] => if at_.idName (s.kindOf x) = some name then some (s.idOf x) else none
      | _ => iReadLayers lk fb sch at_ s fuel x layers
  /-- `fget`: `other = <link>.navigate_one(inst)`; `if <fallback>: return alt_prop.fget(inst)`;
      `return getattr(other, ref_name, None)` -/
  def iReadLayers (lk : LinkSel) (fb : BExp FgetAtom) (sch : Schema) (at_ : Attrs) (s : State) :
      Nat → Inst → List (Nat × String) → Option Nat
    | 0, _, _ => none
    | _, _, [] => none
    | fuel + 1, x, (i, pk) :: rest =>
      let other := (match lk with
        | .targetLink => (s.links i).tgt x
        | .sourceLink => (s.links i).src x).head?
      if evalB (fun at' => match at' with
          | .otherIsNone => other.isNone
          | .hasAlt => !rest.isEmpty) fb
      then iReadLayers lk fb sch at_ s fuel x rest
      else
        match other with
        | some o => iGetAttr lk fb sch at_ s fuel o pk
        | none => none
end

def dirOf (sw : Bool) : Dir := if sw then .rev else .fwd

theorem firstAct_eq (a : AssocSpec) (k1 k2 : Kind) (rel phrase : String) :
    firstAct findBody (evalFindAtom linkDefs a k1 k2 rel phrase) =
      if a.rel ≠ rel then some .next
      else if a.tgtKind = k1 ∧ a.srcKind = k2 ∧ a.tgtPhrase = phrase then some (.found false)
      else if a.srcKind = k1 ∧ a.tgtKind = k2 ∧ a.srcPhrase = phrase then some (.found true)
      else none := by
  -- the three tests as the Booleans the interpretation of `findBody` computes, then Bool to Prop
  show Option.map _ (bif decide (a.rel ≠ rel) then some _
    else bif decide (a.tgtKind = k1) && (decide (a.srcKind = k2) && decide (a.tgtPhrase = phrase)) then some _
    else bif decide (a.srcKind = k1) && (decide (a.tgtKind = k2) && decide (a.srcPhrase = phrase)) then some _
    else none) = _
  simp only [cond_eq_ite, Bool.and_eq_true, decide_eq_true_eq]
  split
  · rfl
  split
  · rfl
  split <;> rfl

theorem findLinkFrom_eq (k1 k2 : Kind) (rel phrase : String) (sch : Schema) (i : Nat) :
    findLinkFrom k1 k2 rel phrase i sch =
      (iFindFrom linkDefs findBody k1 k2 rel phrase i sch).map (fun r => (r.1, dirOf r.2)) := by
  induction sch generalizing i with
  | nil => rfl
  | cons a rest ih =>
    rw [findLinkFrom, iFindFrom, firstAct_eq, ih]
    split
    · rfl
    split
    · rfl
    split <;> rfl

theorem findLink_eq (sch : Schema) (k1 k2 : Kind) (rel phrase : String) :
    findLink sch k1 k2 rel phrase = (iFindFrom linkDefs findBody k1 k2 rel phrase 0 sch).map (fun r => (r.1, dirOf r.2)) :=
  findLinkFrom_eq k1 k2 rel phrase sch 0

theorem linksOfFrom_eq (k : Kind) (sch : Schema) (i : Nat) : linksOfFrom k i sch = iLinksOfFrom linkDefs k i sch := by
  induction sch generalizing i with
  | nil => rfl
  | cons a rest ih =>
    rw [linksOfFrom, iLinksOfFrom, ih]
    simp only [linkDefs, List.flatMap_cons, List.flatMap_nil, endKind, endPhrase, List.append_nil]
    rfl

theorem linkMany_src (a : AssocSpec) : linkMany linkDefs a true = a.srcMany := rfl
theorem linkMany_tgt (a : AssocSpec) : linkMany linkDefs a false = a.tgtMany := rfl

theorem relateOn_eq (a : AssocSpec) (l : ALinks) (x y : Inst) (fromI toI : Inst) :
    relateOn a l x y = iSteps linkDefs a { inst1 := x, inst2 := y, fromI := fromI, toI := toI } relateProg.steps l := by
  unfold relateOn
  simp only [relateProg, iSteps, applyCall, Env.get, linkMany_src, linkMany_tgt]
  cases h1 : connect a.srcMany l.src x y with
  | none => simp [excOut]
  | some s' =>
    simp only [Option.map_some]
    cases h2 : connect a.tgtMany l.tgt y x with
    | none =>
      simp only [Option.map_none, List.foldl_cons, List.foldl_nil, applyUndo, applyCall, Env.get, excOut]
      cases h3 : disconnect s' x y <;> simp
    | some t' => simp

theorem unrelateOn_eq (a : AssocSpec) (l : ALinks) (x y : Inst) (fromI toI : Inst) :
    unrelateOn l x y = iSteps linkDefs a { inst1 := x, inst2 := y, fromI := fromI, toI := toI } unrelateProg.steps l := by
  unfold unrelateOn
  simp only [unrelateProg, iSteps, applyCall, Env.get]
  cases h1 : disconnect l.src x y with
  | none => simp [excOut]
  | some s' =>
    simp only [Option.map_some]
    cases h2 : disconnect l.tgt y x with
    | none => simp [excOut]
    | some t' => simp

theorem inDeleted_eq (s : State) (x : Inst) : inDeleted deleteBody s x = !decide (live s x) := by
  simp [inDeleted, deleteBody, marksDeleted]

/-- the guard loop of `relate`, over the pair as `_find_link` oriented it: it raises iff one of the two is not live -/
theorem relateGuards_eq (s : State) (sw : Bool) (i1 i2 fromI toI : Inst) :
    relateProg.guards.find? (fun g => g.over.any (fun a => inDeleted deleteBody s
      (Env.get { inst1 := if sw then i2 else i1, inst2 := if sw then i1 else i2, fromI := fromI, toI := toI } a))) =
      if live s i1 ∧ live s i2 then none else some { over := [.inst1, .inst2], raises := .relateExc } := by
  simp only [relateProg, List.find?_cons, List.find?_nil, List.any_cons, List.any_nil, Env.get, inDeleted_eq,
    Bool.or_false]
  rw [← Bool.not_and, ← Bool.decide_and]
  by_cases hl : live s i1 ∧ live s i2 <;> cases sw <;> simp [hl, and_comm]

theorem relate_eq (sch : Schema) (s : State) (i1 i2 : Inst) (rel phrase : String) :
    relate sch s i1 i2 rel phrase = iPair linkDefs findBody findElse deleteBody relateProg sch s i1 i2 rel phrase := by
  unfold relate iPair
  rw [findLink_eq]
  -- `↓`: the guard loop is rewritten as a whole, before `Env.get` unfolds under its binder
  simp only [↓relateGuards_eq, relateProg, Env.get]
  cases h : iFindFrom linkDefs findBody (s.kindOf i1) (s.kindOf i2) rel phrase 0 sch with
  | none => rfl
  | some r =>
    obtain ⟨i, sw⟩ := r
    by_cases hl : live s i1 ∧ live s i2
    · simp only [Option.map_some, hl, and_self, ↓reduceIte]
      rw [relateOn_eq (specAt sch i) (s.links i) _ _ i1 i2]
      cases sw <;> rfl
    · simp only [Option.map_some, hl, ↓reduceIte, excOut]

theorem unrelate_eq (sch : Schema) (s : State) (i1 i2 : Inst) (rel phrase : String) :
    unrelate sch s i1 i2 rel phrase = iPair linkDefs findBody findElse deleteBody unrelateProg sch s i1 i2 rel phrase := by
  unfold unrelate iPair
  rw [findLink_eq]
  simp only [unrelateProg, Env.get, List.find?_nil]
  cases h : iFindFrom linkDefs findBody (s.kindOf i1) (s.kindOf i2) rel phrase 0 sch with
  | none => rfl
  | some r =>
    obtain ⟨i, sw⟩ := r
    simp only [Option.map_some]
    rw [unrelateOn_eq (specAt sch i) (s.links i) _ _ i1 i2]
    cases sw <;> rfl

theorem unrelateAll_eq (sch : Schema) (x : Inst) (rel phrase : String) (ys : List Inst) (s : State) :
    unrelateAll sch x rel phrase ys s = iPartners (unrelate sch) .instance .other x rel phrase ys s := by
  induction ys generalizing s with
  | nil => rfl
  | cons y ys ih => simp only [unrelateAll, iPartners, dArg, ih]; rfl

theorem deleteLinks_eq (sch : Schema) (x : Inst) (ls : List (Nat × Bool × String)) (s : State) :
    deleteLinks sch x ls s = iLinkLoop (unrelate sch) sch true .instance .other x ls s := by
  induction ls generalizing s with
  | nil => rfl
  | cons e rest ih =>
    obtain ⟨i, isSrc, phrase⟩ := e
    rw [deleteLinks, iLinkLoop, ← unrelateAll_eq, Bool.true_and]
    generalize (if isSrc then (s.links i).src x else (s.links i).tgt x) = ps
    cases ps with
    | nil => exact ih s
    | cons p ps => simp only [ih]; rfl

theorem delete_eq (sch : Schema) (s : State) (x : Inst) :
    delete sch s x = iDelete linkDefs (iPair linkDefs findBody findElse deleteBody unrelateProg sch) sch x true deleteBody s := by
  have hun : iPair linkDefs findBody findElse deleteBody unrelateProg sch = unrelate sch := by
    funext s' a b r p; exact (unrelate_eq sch s' a b r p).symm
  rw [hun]
  unfold delete
  simp only [deleteBody, iDelete]
  by_cases h : x ∈ s.pool (s.kindOf x) ∧ x < s.count
  · simp only [h, and_self, ↓reduceIte]
    rw [deleteLinks_eq sch x, linksOf, linksOfFrom_eq]
    generalize iLinkLoop (unrelate sch) sch true _ _ x _ _ = r
    split
    · exact Prod.ext rfl ‹_›
    · rfl
  · simp only [h, ↓reduceIte, excOut]

theorem new_eq (s : State) (k : Kind) (hasId : Bool) : new s k hasId = iNew newPhases s k hasId := by
  unfold new iNew
  simp only [newPhases, List.foldl_cons, List.foldl_nil, iNewPhase]

theorem getAttr_readLayers_eq (sch : Schema) (at_ : Attrs) (s : State) (fuel : Nat) :
    (∀ x name, getAttr sch at_ s fuel x name = iGetAttr fgetLink fgetFallback sch at_ s fuel x name) ∧
    (∀ x layers, readLayers sch at_ s fuel x layers = iReadLayers fgetLink fgetFallback sch at_ s fuel x layers) := by
  induction fuel with
  | zero => exact ⟨fun _ _ => by rw [getAttr, iGetAttr], fun _ _ => by rw [readLayers, iReadLayers]⟩
  | succ fuel ih =>
    refine ⟨fun x name => ?_, fun x layers => ?_⟩
    · rw [getAttr, iGetAttr]
      simp only [ih.2]
      rfl
    · match layers with
      | [] => simp only [readLayers, iReadLayers]
      | (i, pk) :: rest =>
        simp only [readLayers, iReadLayers, fgetLink, fgetFallback, evalB, ih.1, ih.2]
        cases ((s.links i).tgt x).head? with
        | some o => rfl
        | none => cases rest <;> rfl

end Pyx.Shape
