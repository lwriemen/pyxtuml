import PyxModel.Extract.Xsd
import Proofs.Extract

/-!
  C20 — the `while S_UDT` loop of build_class: relational spec `BaseName`, the fuel is never exhausted on acyclic
  user-type chains.
-/

namespace Pyx.Extract

/-- the name of the base data type of a data type: user types followed over R18, then a core type 1..5 or an
    enumeration, with a non-empty name (Python tests `if type_name`) -/
inductive BaseName (dts : List DataType) : Nat → String → Prop where
  | core {i : Nat} {t : DataType} {n : Nat} : findDt dts i = some t → t.kind = .core n → 1 ≤ n → n ≤ 5 → t.name ≠ "" →
      BaseName dts i t.name
  | enum {i : Nat} {t : DataType} {es : List String} : findDt dts i = some t → t.kind = .enum es → t.name ≠ "" →
      BaseName dts i t.name
  | user {i b : Nat} {t : DataType} {s : String} : findDt dts i = some t → t.kind = .user b → BaseName dts b s →
      BaseName dts i s

theorem baseTypeFuel_sound (dts : List DataType) : ∀ (f i : Nat) (s : String), baseTypeFuel dts f i = some s →
    BaseName dts i s := by
  intro f
  induction f with
  | zero => intro i s h; simp [baseTypeFuel] at h
  | succ f ih =>
    intro i s h
    simp only [baseTypeFuel] at h
    cases hf : findDt dts i with
    | none => simp [hf] at h
    | some t =>
      rw [hf] at h
      simp only at h
      cases hk : t.kind with
      | core n =>
        rw [hk] at h
        simp only at h
        split at h
        · rename_i hn; cases h; exact .core hf hk hn.1 hn.2.1 hn.2.2
        · cases h
      | enum es =>
        rw [hk] at h
        simp only at h
        split at h
        · cases h
        · rename_i hn; cases h; exact .enum hf hk hn
      | user b => rw [hk] at h; exact .user hf hk (ih b s h)
      | other => rw [hk] at h; cases h

theorem baseTypeFuel_complete {dts : List DataType} (depth : Nat → Nat)
    (hdec : ∀ t ∈ dts, ∀ b, t.kind = .user b → depth b < depth t.id) {i : Nat} {s : String} (h : BaseName dts i s) :
    ∀ f, depth i < f → baseTypeFuel dts f i = some s := by
  induction h with
  | @core i t n hf hk h1 h5 hne =>
    intro f hlt
    cases f with
    | zero => omega
    | succ f => simp [baseTypeFuel, hf, hk, h1, h5, hne]
  | @enum i t es hf hk hne =>
    intro f hlt
    cases f with
    | zero => omega
    | succ f => simp [baseTypeFuel, hf, hk, hne]
  | @user i b t s hf hk _ ih =>
    -- a `user` step costs one unit of fuel and lowers `depth` (`hdec`), so the hypothesis applies one unit lower
    intro f hlt
    cases f with
    | zero => omega
    | succ f =>
      simp only [baseTypeFuel, hf, hk]
      obtain ⟨hm, hid⟩ := findDt_mem' hf
      have := hdec t hm b hk
      rw [hid] at this
      exact ih f (by omega)

theorem baseTypeFuel_iff {dts : List DataType} (chain : DtChainOk dts) (i : Nat) (s : String) {f : Nat} (hf : dts.length < f) :
    baseTypeFuel dts f i = some s ↔ BaseName dts i s := by
  obtain ⟨depth, hdec, hb⟩ := chain.ex
  exact ⟨baseTypeFuel_sound dts f i s, fun h => baseTypeFuel_complete depth hdec h f (by have := hb i; omega)⟩

theorem baseTypeName_iff {dts : List DataType} (chain : DtChainOk dts) (i : Nat) (s : String) :
    baseTypeName dts i = some s ↔ BaseName dts i s :=
  baseTypeFuel_iff chain i s (Nat.lt_succ_self _)

end Pyx.Extract
