import Proofs.InterpAttr
import Proofs.InterpEffects

/-!
  Program execution meets the mechanism.

  `Proofs/InterpEffects.lean`: the final state of a program run is reached by a history of successful state
  operations on named instances.  `Proofs/InterpAttr.lean` (`attr_refines`): histories of mechanism operations
  (new / relate / unrelate / delete / setattr on global instance indices) keep the mechanism state (`Pyx.Meta.State` +
  the attribute dicts) and the Spec state in correspondence.  Here the two are joined: every successful Spec operation
  on a state that corresponds to a mechanism state IS (the Spec image of) a mechanism operation of the refinement's
  domain — the instances it names are named by the correspondence — so the final state of a program run corresponds
  to the mechanism state after that history of mechanism operations.

  A write to a class's own identifying attribute corresponds too (`write_id`: the mechanism model keeps ids in
  `idOf : Inst → Nat`), for NON-NEGATIVE integers; the conclusion is stated under the condition that the history
  assigns only such values to id attributes (`IdWritesNonneg`), and unconditionally for models without id attributes.
-/
namespace Pyx.Interp

/-- instances live only in classes the context knows -/
def Closed (kname : Nat → String) (kinds : List Nat) (st : State) : Prop :=
  ∀ c, st.live c ≠ [] → ∃ k ∈ kinds, c = kname k

/-- where the history assigns a class's own identifying attribute, the value is a non-negative integer (the mechanism
    model keeps ids in `idOf : Inst → Nat`) -/
def IdWritesNonneg (kname : Nat → String) (at_ : Pyx.Meta.Attrs) : Eff → Prop
  | .set X name v => ∀ k, X.cls = kname k → at_.idName k = some name → ∃ i : Int, v = .int i ∧ 0 ≤ i
  | _ => True

theorem live_ne_nil_of_upd {f : String → List Nat} {a : String} {l : List Nat} {c : String}
    (h : upd f a l c ≠ []) : c = a ∨ f c ≠ [] := by
  unfold upd at h
  by_cases e : c = a
  · exact .inl e
  · rw [if_neg e] at h; exact .inr h

theorem findClass_ctxOfA_some {kname : Nat → String} {decl : Nat → List AttrDecl} {kinds : List Nat} {sch : MSchema}
    {cls : String} {c : ClassDecl} (h : findClass (ctxOfA kname decl kinds sch) cls = some c) :
    ∃ k ∈ kinds, cls = kname k := by
  unfold findClass ctxOfA at h
  obtain ⟨k, hk, rfl⟩ := List.mem_map.1 (List.mem_of_find?_eq_some h)
  exact ⟨k, hk, (by simpa using List.find?_some h : kname k = cls).symm⟩

section
variable {kname : Nat → String} {decl : Nat → List AttrDecl} {at_ : Pyx.Meta.Attrs} {sch : MSchema}
variable {ι : Nat → Inst} {s : MState} {d : MDict} {st : State}

theorem named {kinds : List Nat} (R : Refines kname ι s st) (hp : Pyx.Meta.PoolInv s) (hc : Closed kname kinds st)
    {X : Inst} (hl : st.isLive X = true) :
    ∃ x, Pyx.Meta.live s x ∧ ι x = X ∧ s.kindOf x ∈ kinds := by
  rw [State.isLive, decide_eq_true_eq] at hl
  obtain ⟨k, hkin, hk⟩ := hc X.cls (fun e => by rw [e] at hl; cases hl)
  rw [hk, R.pool k] at hl
  obtain ⟨z, hz, hzi⟩ := List.mem_map.1 hl
  have hz' := (hp k).2 z hz
  have hcls := R.cls z hz'.1
  rw [hz'.2] at hcls
  exact ⟨z, ⟨hz'.1, by rw [hz'.2]; exact hz⟩, inst_eq (hcls.trans hk.symm) hzi, by rw [hz'.2]; exact hkin⟩

/-- one successful Spec operation on corresponding states is the Spec image of a mechanism operation of the domain -/
theorem eff_step (hk : Function.Injective kname) (kinds : List Nat)
    (hD : ∀ k ∈ kinds, DeclOk decl at_ sch k)
    (R : RefinesA kname decl at_ sch ι s d st) (A : Pyx.Meta.AllInv sch s) (hc : Closed kname kinds st)
    (e : Eff) (st' : State) (h : applyEff (ctxOfA kname decl kinds sch) e st = .ok st') (hno : IdWritesNonneg kname at_ e) :
    ∃ op, OpOkA decl at_ sch kinds s op ∧
      (specStepA kname (ctxOfA kname decl kinds sch) ι s st op).2 = st' ∧ Closed kname kinds st' := by
  cases e with
  | new cls =>
    simp only [applyEff] at h
    cases hn : newInst (ctxOfA kname decl kinds sch) cls st with
    | error err => rw [hn] at h; cases h
    | ok r =>
      obtain ⟨i, st1⟩ := r
      rw [hn] at h
      cases h
      obtain ⟨c, hcl, _, hst⟩ := newInst_inv hn
      obtain ⟨k, hkin, rfl⟩ := findClass_ctxOfA_some hcl
      refine ⟨.store (.new k (at_.idName k).isSome), ⟨hkin, hD k hkin, rfl⟩, ?_, ?_⟩
      · simp only [specStepA, specStep, hn]
      · intro c' hc'
        rw [hst] at hc'
        rcases live_ne_nil_of_upd hc' with e | e
        · exact ⟨k, hkin, e⟩
        · exact hc c' e
  | delete X =>
    simp only [applyEff] at h
    obtain ⟨hl, hst⟩ := deleteInst_inv h
    -- here and in every arm below: `named` turns the live Spec handle into a created index, which is all `OpOkA` asks
    obtain ⟨x, hx, rfl, _⟩ := named R.store A.pool hc hl
    refine ⟨.store (.delete x), hx.1, ?_, fun c hc' => ?_⟩
    · simp only [specStepA, specStep, h]
    · rw [hst] at hc'
      rcases live_ne_nil_of_upd hc' with e | e
      · refine hc c fun hnil => hc' ?_
        show upd st.live _ _ c = []
        unfold upd
        rw [if_pos e, ← e, hnil]; rfl
      · exact hc c e
  | relate X Y r p =>
    simp only [applyEff] at h
    obtain ⟨hlx, hly, _, _, _, _, _, hst⟩ := relate_inv h
    have hlv : st'.live = st.live := by rcases hst with ⟨rfl, _⟩ | ⟨_, rfl⟩ <;> rfl
    obtain ⟨x, hx, rfl, _⟩ := named R.store A.pool hc hlx
    obtain ⟨y, hy, rfl, _⟩ := named R.store A.pool hc hly
    refine ⟨.store (.relate x y r p), ⟨hx.1, hy.1⟩, ?_, fun c hc' => hc c (by rw [← hlv]; exact hc')⟩
    simp only [specStepA, specStep, h]
  | unrelate X Y r p =>
    simp only [applyEff] at h
    obtain ⟨hlx, hly, _, _, _, _, _, _, hst⟩ := unrelate_inv h
    have hlv : st'.live = st.live := by rw [hst]
    obtain ⟨x, hx, rfl, _⟩ := named R.store A.pool hc hlx
    obtain ⟨y, hy, rfl, _⟩ := named R.store A.pool hc hly
    refine ⟨.store (.unrelate x y r p), ⟨hx.1, hy.1⟩, ?_, fun c hc' => hc c (by rw [← hlv]; exact hc')⟩
    simp only [specStepA, specStep, h]
  | set X name v =>
    simp only [applyEff] at h
    obtain ⟨hlx, ⟨a, hfa, hnr, hty⟩, hst⟩ := setAttr_inv h
    have hlv : st'.live = st.live := by rw [hst]
    obtain ⟨x, hx, rfl, hkin⟩ := named R.store A.pool hc hlx
    have hcls := R.store.cls x hx.1
    rw [hcls, findAttr_ctxOfA hk decl sch _ kinds hkin] at hfa
    have hmem : a ∈ decl (s.kindOf x) := List.mem_of_find?_eq_some hfa
    have hname : a.name = name := by simpa using List.find?_some hfa
    have hform : Pyx.Meta.formalFrom (s.kindOf x) name 0 sch = [] := by
      apply Classical.byContradiction
      intro hne
      have := ((hD _ hkin).refs a hmem).2 (by rw [hname]; exact hne)
      rw [hnr] at this; cases this
    by_cases hid : at_.idName (s.kindOf x) = some name
    · obtain ⟨i, hv, hi⟩ := hno _ hcls hid
      refine ⟨.set x name v, ⟨hx, hkin, a, hfa, Or.inr (Or.inr ⟨hnr, hform, hid, hty, i, hv, hi⟩)⟩, ?_,
        fun c hc' => hc c (by rw [← hlv]; exact hc')⟩
      simp only [specStepA, h]
    · refine ⟨.set x name v, ⟨hx, hkin, a, hfa, Or.inr (Or.inl ⟨hnr, ⟨hform, hid⟩, hty⟩)⟩, ?_,
        fun c hc' => hc c (by rw [← hlv]; exact hc')⟩
      simp only [specStepA, h]

/-- **a history of successful Spec operations is the image of a mechanism history of the domain**, and the states
    after both correspond -/
theorem effs_refine (hk : Function.Injective kname) (kinds : List Nat) (hok : Pyx.Meta.SchemaOk sch)
    (hD : ∀ k ∈ kinds, DeclOk decl at_ sch k) :
    ∀ (es : List Eff) (ι : Nat → Inst) (s : MState) (d : MDict) (st st' : State),
      RefinesA kname decl at_ sch ι s d st → Pyx.Meta.AllInv sch s → Closed kname kinds st →
      applyEffs (ctxOfA kname decl kinds sch) es st = .ok st' → (∀ e ∈ es, IdWritesNonneg kname at_ e) →
      ∃ ops, DomA decl at_ sch kinds s d ops ∧
        (specRunA kname decl at_ (ctxOfA kname decl kinds sch) sch ops s d ι st).2 = st' ∧
        RefinesA kname decl at_ sch (specRunA kname decl at_ (ctxOfA kname decl kinds sch) sch ops s d ι st).1
          (mRunA decl at_ sch ops s d).1 (mRunA decl at_ sch ops s d).2 st' ∧
        Closed kname kinds st'
  | [], ι, s, d, st, st', R, A, hc, h, _ => by
    simp [applyEffs] at h; subst h
    exact ⟨[], trivial, rfl, R, hc⟩
  | e :: es, ι, s, d, st, st', R, A, hc, h, hno => by
    simp only [applyEffs] at h
    cases he : applyEff (ctxOfA kname decl kinds sch) e st with
    | error err => rw [he] at h; cases h
    | ok st1 =>
      rw [he] at h
      simp only at h
      obtain ⟨op, hop, hst1, hc1⟩ := eff_step hk kinds hD R A hc e st1 he (hno e List.mem_cons_self)
      have R1 := stepA_refines hk kinds hok R A op hop
      rw [hst1] at R1
      have A1 := allInv_stepA hok kinds A d op hop
      obtain ⟨ops, hdom, hrun, R2, hc2⟩ := effs_refine hk kinds hok hD es _ _ _ st1 st' R1 A1 hc1 h
        (fun e' he' => hno e' (List.mem_cons_of_mem _ he'))
      refine ⟨op :: ops, ⟨hop, hdom⟩, ?_, ?_, hc2⟩
      · simp only [specRunA]; rw [hst1]; exact hrun
      · simp only [specRunA, mRunA]; rw [hst1]; exact R2

/-- **program execution meets the mechanism.**  Let the Spec state `st` correspond to the mechanism state `(s, d)`
    (`RefinesA`, e.g. both initial, or both after any history of the domain — `attr_refines`).  A program run from `st`
    that ends normally in `st'` — any statements, nesting, loops, fuel — reaches `st'` through a history `es` of successful
    state operations, and (if `es` assigns only non-negative integers to identifying id attributes) there is a history `ops` of mechanism operations
    of the refinement's domain such that the mechanism state after `ops` corresponds to `st'`: what the mechanism holds
    (pools in creation order, both directions of every association in link order, attribute values, the id counter) is
    what the program's final Spec state says.  The context `ctxOfA` declares classes and associations and NO callables: the
    programs covered are those that invoke nothing (no function, bridge, operation or derived attribute). -/
theorem program_refines (hk : Function.Injective kname) (kinds : List Nat) (hok : Pyx.Meta.SchemaOk sch)
    (hD : ∀ k ∈ kinds, DeclOk decl at_ sch k)
    (R : RefinesA kname decl at_ sch ι s d st) (A : Pyx.Meta.AllInv sch s) (hc : Closed kname kinds st)
    (fuel : Nat) (body : Block) (kw : List (String × Val)) (v : Val) (st' : State)
    (h : runFunction (ctxOfA kname decl kinds sch) fuel body kw st = some (.ok (v, st'))) :
    ∃ es, applyEffs (ctxOfA kname decl kinds sch) es st = .ok st' ∧
      ((∀ e ∈ es, IdWritesNonneg kname at_ e) →
        ∃ ops ι', DomA decl at_ sch kinds s d ops ∧
          RefinesA kname decl at_ sch ι' (mRunA decl at_ sch ops s d).1 (mRunA decl at_ sch ops s d).2 st') := by
  obtain ⟨es, hes⟩ := runFunction_effects _ fuel body kw st st' v h
  refine ⟨es, hes, fun hno => ?_⟩
  obtain ⟨ops, hdom, _, R', _⟩ := effs_refine hk kinds hok hD es ι s d st st' R A hc hes hno
  exact ⟨ops, _, hdom, R'⟩

/-- **the syntactic form — nothing hidden in the premise**: a program whose attribute assignments (at any depth) never
    name a class's own identifying attribute (`StmtOk`, with `N name := no kind has `name` as its id attribute`), run
    from a Spec state that corresponds to a mechanism state, reaches its final state through a history `es` that IS the
    image of a history `ops` of mechanism operations of the refinement's domain (`specRunA … ops` ends in that very
    state), and the mechanism state after `ops` corresponds to it.  As in `program_refines`, `ctxOfA` has no callables:
    programs without calls. -/
theorem program_refines_syntactic (hk : Function.Injective kname) (kinds : List Nat) (hok : Pyx.Meta.SchemaOk sch)
    (hD : ∀ k ∈ kinds, DeclOk decl at_ sch k)
    (R : RefinesA kname decl at_ sch ι s d st) (A : Pyx.Meta.AllInv sch s) (hc : Closed kname kinds st)
    (fuel : Nat) (body : Block) (hbody : ∀ s ∈ body, StmtOk (fun name => ∀ k, at_.idName k ≠ some name) s)
    (kw : List (String × Val)) (v : Val) (st' : State)
    (h : runFunction (ctxOfA kname decl kinds sch) fuel body kw st = some (.ok (v, st'))) :
    ∃ es ops, applyEffs (ctxOfA kname decl kinds sch) es st = .ok st' ∧
      DomA decl at_ sch kinds s d ops ∧
      (specRunA kname decl at_ (ctxOfA kname decl kinds sch) sch ops s d ι st).2 = st' ∧
      RefinesA kname decl at_ sch (specRunA kname decl at_ (ctxOfA kname decl kinds sch) sch ops s d ι st).1
        (mRunA decl at_ sch ops s d).1 (mRunA decl at_ sch ops s d).2 st' := by
  obtain ⟨es, hN, hes⟩ := runFunction_effectsN (ctxOfA kname decl kinds sch) _
    (fun f hf => by simp [ctxOfA] at hf) fuel body hbody kw st st' v h
  have hno : ∀ e ∈ es, IdWritesNonneg kname at_ e := by
    intro e he
    have := hN e he
    cases e with
    | set X name w => intro k _ hid; exact absurd hid (this k)
    | _ => trivial
  obtain ⟨ops, hdom, hrun, R', _⟩ := effs_refine hk kinds hok hD es ι s d st st' R A hc hes hno
  exact ⟨es, ops, hes, hdom, hrun, R'⟩

/-- without identifying id attributes in the model the condition is void -/
theorem program_refines_noid (hk : Function.Injective kname) (kinds : List Nat) (hok : Pyx.Meta.SchemaOk sch)
    (hD : ∀ k ∈ kinds, DeclOk decl at_ sch k) (hid : ∀ k, at_.idName k = none)
    (R : RefinesA kname decl at_ sch ι s d st) (A : Pyx.Meta.AllInv sch s) (hc : Closed kname kinds st)
    (fuel : Nat) (body : Block) (kw : List (String × Val)) (v : Val) (st' : State)
    (h : runFunction (ctxOfA kname decl kinds sch) fuel body kw st = some (.ok (v, st'))) :
    ∃ ops ι', DomA decl at_ sch kinds s d ops ∧
      RefinesA kname decl at_ sch ι' (mRunA decl at_ sch ops s d).1 (mRunA decl at_ sch ops s d).2 st' := by
  obtain ⟨es, _, hrest⟩ := program_refines hk kinds hok hD R A hc fuel body kw v st' h
  apply hrest
  intro e _
  cases e <;> first | trivial | (intro k _ hh; rw [hid k] at hh; cases hh)

theorem closed_init (kinds : List Nat) : Closed kname kinds initState := by
  intro c hc; exact absurd rfl hc

end

end Pyx.Interp
