import Proofs.MetaDelete

/-! The association shapes of the harness (the descriptions it builds real metamodels from, harness/meta_common.py
    `SHAPES`; among them the seven of the C02 quantifier) satisfy `SchemaOk`, the hypothesis of the delete / liveness
    theorems, and admit an attribute rank — so those theorems are not vacuous on any shape the property names
    (`shapes_all_schemaOk`, `shapes_attrRank`: every member of `allShapes`).  The conjunction `shapes_schemaOk` spells out ten of
    the eleven: `shapePrefixRels` is not in it. -/
namespace Pyx.Meta

private def mk (rel : String) (src : Kind) (sk : List String) (sm sc : Bool) (sp : String)
    (tgt : Kind) (tk : List String) (tm tc : Bool) (tp : String) : AssocSpec :=
  { rel := rel, srcKind := src, srcKeys := sk, srcMany := sm, srcCond := sc, srcPhrase := sp,
    tgtKind := tgt, tgtKeys := tk, tgtMany := tm, tgtCond := tc, tgtPhrase := tp }

def shapeOneOne : Schema := [mk "R1" 0 ["B_Id"] false true "" 1 ["Id"] false true ""]
def shapeOneMany : Schema := [mk "R1" 0 ["B_Id"] true true "" 1 ["Id"] false true ""]
def shapeManyOneUncond : Schema := [mk "R1" 0 ["B_Id"] true false "" 1 ["Id"] false false ""]
def shapeReflexive : Schema := [mk "R2" 0 ["Next_Id"] false true "precedes" 0 ["Id"] false true "succeeds"]
def shapeAssocClass : Schema :=
  [mk "R3" 2 ["A_Id"] true true "" 0 ["Id"] false false "", mk "R3" 2 ["B_Id"] true true "" 1 ["Id"] false false ""]
def shapeSubsuper : Schema :=
  [mk "R4" 1 ["Id"] false true "" 0 ["Id"] false false "", mk "R4" 2 ["Id"] false true "" 0 ["Id"] false false ""]
def shapeSharedRef : Schema :=
  [mk "R5" 0 ["X_Id"] true true "" 1 ["Id"] false true "", mk "R6" 0 ["X_Id"] false true "" 2 ["Id"] true true ""]
/-- a non-reflexive association whose ends carry phrases -/
def shapePhrased : Schema := [mk "R1" 0 ["B_Id"] true true "is owned by" 1 ["Id"] false true "owns"]
/-- A.B_Id → B.Id → C.Id: a referential attribute that is the identifying attribute another class refers to -/
def shapeRefIdChain : Schema :=
  [mk "R8" 0 ["B_Id"] true true "" 1 ["Id"] false true "", mk "R9" 1 ["Id"] false true "" 2 ["Id"] false true ""]
/-- a class with two reflexive associations carrying the same phrases (`r2s` of harness/prop_C16.py) -/
def shapeTwoReflexive : Schema :=
  [mk "R2" 0 ["Next_Id"] false true "precedes" 0 ["Id"] false true "succeeds",
   mk "R7" 0 ["Other_Id"] false true "precedes" 0 ["Id"] false true "succeeds"]

/-- two associations whose numbers share a prefix (R1 / R12), both formalised in class 0 (harness shape `prefix_rels`) -/
def shapePrefixRels : Schema :=
  [mk "R1" 0 ["B_Id"] true true "" 1 ["Id"] false false "", mk "R12" 0 ["D_Id"] true true "" 2 ["Id"] false false ""]

/-- the ten shapes of harness/meta_common.py `SHAPES`, and `shapeTwoReflexive` -/
def allShapes : List Schema :=
  [shapeOneOne, shapeOneMany, shapeManyOneUncond, shapeReflexive, shapeAssocClass, shapeSubsuper, shapeSharedRef,
   shapeTwoReflexive, shapePhrased, shapeRefIdChain, shapePrefixRels]

theorem shapes_all_schemaOk : ∀ sch ∈ allShapes, SchemaOk sch :=
  fun sch h => schemaOk_of_check (List.all_eq_true.1 (by decide +kernel : allShapes.all schemaOkB = true) sch h)

theorem shapes_schemaOk :
    SchemaOk shapeOneOne ∧ SchemaOk shapeOneMany ∧ SchemaOk shapeManyOneUncond ∧ SchemaOk shapeReflexive ∧
    SchemaOk shapeAssocClass ∧ SchemaOk shapeSubsuper ∧ SchemaOk shapeSharedRef ∧ SchemaOk shapeTwoReflexive ∧
    SchemaOk shapePhrased ∧ SchemaOk shapeRefIdChain := by
  have h := shapes_all_schemaOk
  simp only [allShapes, List.forall_mem_cons] at h
  obtain ⟨h1, h2, h3, h4, h5, h6, h7, h8, h9, h10, _⟩ := h
  exact ⟨h1, h2, h3, h4, h5, h6, h7, h8, h9, h10⟩

/-- a reflexive association whose two phrases are EQUAL is not `SchemaOk` (the link dict of the real code is
    keyed by (kind, rel, phrase): the two directions would collide) — the hypothesis is a real restriction -/
example : ¬ SchemaOk [mk "R2" 0 ["Next_Id"] false true "" 0 ["Id"] false true ""] := by
  intro h
  have := (h 0 _ rfl).2
  revert this
  decide



/-- a rank on the attributes of a shape: an own id that no association formalises ranks 0, an `Id` that is itself
    referential (subtype ids, the middle of the A.B_Id → B.Id → C.Id chain) 1, every other referential attribute 2 -/
def shapeRank (sch : Schema) (k : Kind) (name : String) : Nat :=
  if name = "Id" then (if sch.any (fun a => a.srcKind == k && a.srcKeys.contains "Id") then 1 else 0) else 2

theorem shapeRank_le (sch : Schema) (k : Kind) (name : String) : shapeRank sch k name ≤ 2 := by
  unfold shapeRank
  split
  · split <;> omega
  · omega

def attrRankCheck (sch : Schema) : Bool :=
  sch.all (fun a => (keyPairs a).all (fun p => decide (shapeRank sch a.tgtKind p.2 < shapeRank sch a.srcKind p.1)))

theorem attrRank_of_check {sch : Schema} (h : attrRankCheck sch = true) : AttrRank sch (shapeRank sch) := by
  intro a ha p hp
  have := List.all_eq_true.mp h a ha
  have := List.all_eq_true.mp this p hp
  simpa using this

/-- the referential keys of no harness shape refer to one another in a cycle: `shapeRank` drops along every key pair, it never
    exceeds 2, every shape has at least one referential key — so with one instance or more the driver's fuel bound
    `rank ≤ count + layerBound` holds for every read -/
theorem shapes_attrRank : ∀ sch ∈ allShapes, AttrRank sch (shapeRank sch) ∧ 1 ≤ layerBound sch := by
  intro sch h
  have := List.all_eq_true.1 (by decide +kernel : allShapes.all (fun s => attrRankCheck s && decide (1 ≤ layerBound s)) = true) sch h
  rw [Bool.and_eq_true] at this
  exact ⟨attrRank_of_check this.1, of_decide_eq_true this.2⟩

end Pyx.Meta
