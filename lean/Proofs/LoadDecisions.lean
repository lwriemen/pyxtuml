import PyxModel.LoadApi
import Gen.LoadDecisions
import Gen.LinkDecisions

/-! C03: how the decisions translated from the source (Gen/LoadDecisions.lean, Gen/LinkDecisions.lean) are read on the
    model's values: the Python tests behind the null rule (`Val.truthy`, `Val.isNone`, `Val.eqZero`, `Val.lenZero`,
    `Ty.upperChars`), a `KeySpec` on a key map and a row (`evalKey`), a generated `connect` call (`applyConnect`), one link of
    the batch relate of `new` (`relateLinkBy`).  That the model computes the same is proved in Props/C03.lean. -/

namespace Pyx.Load
open Pyx.Gen.LoadDecisions

/-- `bool(value)` -/
def Val.truthy : Val → Bool
  | .int i => decide (i ≠ 0)
  | .str s => decide (s ≠ "")
  | .bool b => b
  | .id n => decide (n ≠ 0)
  | .real r => decide (r ≠ 0)
  | .none => false

/-- `value is None` -/
def Val.isNone : Val → Bool
  | .none => true
  | _ => false

/-- `value == 0` (False == 0 and 0.0 == 0 hold in Python) -/
def Val.eqZero : Val → Bool
  | .int i => decide (i = 0)
  | .id n => decide (n = 0)
  | .real r => decide (r = 0)
  | .bool b => !b
  | _ => false

/-- `len(value) == 0` (asked of strings only) -/
def Val.lenZero : Val → Bool
  | .str s => decide (s = "")
  | _ => false

/-- the declared type name as the source compares it: upper-cased -/
def Ty.upperChars : Ty → List Char
  | .boolean => ['B', 'O', 'O', 'L', 'E', 'A', 'N']
  | .integer => ['I', 'N', 'T', 'E', 'G', 'E', 'R']
  | .real => ['R', 'E', 'A', 'L']
  | .string => ['S', 'T', 'R', 'I', 'N', 'G']
  | .uniqueId => ['U', 'N', 'I', 'Q', 'U', 'E', '_', 'I', 'D']

def pickVar (v : Var) (e : String × String) : String :=
  match v with
  | .fst => e.1
  | .snd => e.2

/-- the loop entries: `items()` gives (key, value), `keys()` / `values()` one variable -/
def keyEntries (it : Iter) (km : List (String × String)) : List (String × String) :=
  match it with
  | .items => km
  | .keys => km.map (fun p => (p.1, p.1))
  | .values => km.map (fun p => (p.2, p.2))

/-- what a `KeySpec` computes on a key map and an instance -/
def evalKey (spec : KeySpec) (km : List (String × String)) (r : Row) : Option Key :=
  let entries := keyEntries spec.iter km
  if entries.any (fun e => isNull (r.get (pickVar spec.nullOn e))) then none
  else
    match spec.result with
    | .frozensetOfItems =>
      some (dictOfPairs (entries.map (fun e => (pickVar spec.name e, r.get (pickVar spec.valueFrom e)))))

/-- `Link.connect(x, y, check)` driven by the decision translated from the source (Gen/LinkDecisions.lean) -/
def connectBy (m : Nat → List Nat) (many check : Bool) (x y : Nat) : Nat → List Nat :=
  match Pyx.Gen.LinkDecisions.connect (decide (y ∈ m x)) (decide (m x ≠ [])) many check with
  | .mutate => fun z => if z = x then m x ++ [y] else m z
  | _ => m

/-- with `check=False` the cardinality plays no role: the model's unchecked `connect` -/
theorem connectBy_unchecked (m : Nat → List Nat) (many : Bool) (x y : Nat) :
    connectBy m many false x y = connect m x y := by
  funext z
  by_cases h : y ∈ m x <;> by_cases hz : z = x <;>
    simp [connectBy, Pyx.Gen.LinkDecisions.connect, connect, osetAdd, h, hz]

/-- one generated `connect` call for the probing instance `i` and the indexed instance `j` -/
def applyConnect (a : AssocStmt) (c : LinkName × ArgOrder × Bool) (L : Links) (i j : Nat) : Links :=
  let x := match c.2.1 with | .indexedThenProbing => j | .probingThenIndexed => i
  let y := match c.2.1 with | .indexedThenProbing => i | .probingThenIndexed => j
  match c.1 with
  | .sourceLink => ⟨connectBy L.src a.srcMany c.2.2 x y, L.tgt⟩
  | .targetLink => ⟨L.src, connectBy L.tgt a.tgtMany c.2.2 x y⟩

/-- one entry of `self.links.values()` in `new`, driven by the translated decisions: which names must have been given,
    what a null value does, which loop variable names the query attribute / the given value -/
def relateLinkBy (given : Iter) (onNull : OnNull) (qn vf : Var)
    (refs : List (String × Val)) (km : List (String × String))
    (okind kind : String) (i : Nat) (rel phrase : String) (m : Model) : Model × Outcome :=
  let names := (keyEntries given km).map (·.2)
  let nullAt : String × String → Bool := fun p => isNull ((refs.lookup (pickVar vf p)).getD .none)
  let query : List (String × String) → Model × Outcome := fun km' =>
    if km'.isEmpty then (m, .ok)                                          -- `if not kwargs: continue`
    else relateQuery (fuelOf m) (km'.map (fun p => (pickVar qn p, (refs.lookup (pickVar vf p)).getD .none)))
      okind kind i rel phrase (List.range (rowsOf m.classes okind).length) m
  if !(names.all (fun x => (refs.map (·.1)).contains x)) then (m, .ok)
  else match onNull with
    | .skipLink => if km.any nullAt then (m, .ok) else query km
    | .skipValue => query (km.filter (fun p => !nullAt p))

end Pyx.Load
