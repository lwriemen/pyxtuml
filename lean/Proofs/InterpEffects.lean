import Proofs.InterpStep

/-!
  Every change a program makes to the relational state is made by one of the state operations
  (`newInst`, `deleteInst`, `relate`, `unrelate`, `setAttr`; `relate … using` / `unrelate … using` are two of them).

  An ARBITRARY reflexive-transitive relation `P` on states that the state operations respect (`StateOps C N P`;
  attribute writes only for the attribute names `N` allows) is an invariant of runs (`StateOps.step`): every evaluation, every
  ALLOWED statement (`Ok`, a predicate closed under sub-statements whose attribute assignments name `N`-attributes only —
  `OkClosed`) and every whole run respects `P` — whatever the nesting, the calls, the fuel.
  `P` is then instantiated with "reachable by a history of successful state operations" (`Reach C`, every statement
  allowed; one operation is an `Eff` run by `applyEff`, Proofs/InterpStep.lean) and with "… whose attribute writes name
  `N`-attributes only" (`ReachN C N`, the statements `StmtOk N`).
-/
namespace Pyx.Interp
open M

structure StateOps (C : Ctx) (N : String → Prop) (P : State → State → Prop) : Prop where
  refl : ∀ st, P st st
  trans : ∀ a b c, P a b → P b c → P a c
  newInst : ∀ {cls st i st'}, newInst C cls st = .ok (i, st') → P st st'
  deleteInst : ∀ {i st st'}, deleteInst i st = .ok st' → P st st'
  relate : ∀ {x y rel phrase st st'}, relate C x y rel phrase st = .ok st' → P st st'
  unrelate : ∀ {x y rel phrase st st'}, unrelate C x y rel phrase st = .ok st' → P st st'
  setAttr : ∀ {i name v st st'}, N name → setAttr C i name v st = .ok st' → P st st'

/-- `P` lifted to configurations (the frame is free) -/
def RS (P : State → State → Prop) (c c' : Cfg) : Prop := P c.st c'.st

section
variable {C : Ctx} {N : String → Prop} {P : State → State → Prop} (H : StateOps C N P)
include H

theorem rs_po : PreOrder (RS P) := ⟨fun c => H.refl c.st, fun _ _ _ h1 h2 => H.trans _ _ _ h1 h2⟩

theorem StateOps.relateUsing {x y w : Inst} {rel phrase : String} {st st' : State}
    (h : relateUsing C x y w rel phrase st = .ok st') : P st st' := by
  unfold Pyx.Interp.relateUsing at h
  split at h
  · cases h
  · rename_i st1 h1
    exact H.trans _ _ _ (H.relate h1) (H.relate h)

theorem StateOps.unrelateUsing {x y w : Inst} {rel phrase : String} {st st' : State}
    (h : unrelateUsing C x y w rel phrase st = .ok st') : P st st' := by
  unfold Pyx.Interp.unrelateUsing at h
  split at h
  · cases h
  · rename_i st1 h1
    exact H.trans _ _ _ (H.unrelate h1) (H.unrelate h)

/-- the five fields as one: `P` respects every successful operation, named by its `Eff` -/
theorem StateOps.apply {e : Eff} {st st' : State} (hN : SetsOnly N e) (h : applyEff C e st = .ok st') : P st st' := by
  cases e with
  | new cls =>
    simp only [applyEff] at h
    split at h
    · next hn => cases h; exact H.newInst hn
    · cases h
  | delete i => exact H.deleteInst h
  | relate x y r p => exact H.relate h
  | unrelate x y r p => exact H.unrelate h
  | set i n v => exact H.setAttr hN h

theorem StateOps.step : StepRules C N (RS P) (fun _ => RS P) where
  po := rs_po H
  ofRe := id
  refl := fun c _ => H.refl c.st
  seq := fun _ h1 h2 => H.trans _ _ _ h1 h2
  install := fun _ _ c => H.refl c.st
  bracket := id
  retv := fun _ c => H.refl c.st
  reg := fun _ _ => H.refl _
  op := fun _ => H.apply
  invoke := id

set_option linter.unusedSectionVars false in
theorem rs_modifySt {f : State → Except Err State}
    (hf : ∀ st st', f st = .ok st' → P st st') : Pres (RS P) (modifySt f) :=
  step_modifySt fun _ _ h => hf _ _ h

set_option linter.unusedSectionVars false in
theorem rs_modifyGet {α : Type} {f : State → Except Err (α × State)}
    (hf : ∀ st a st', f st = .ok (a, st') → P st st') : Pres (RS P) (M.modifyGet f) :=
  step_modifyGet fun _ _ _ h => hf _ _ _ h

section
variable {Ok : Stmt → Prop} (K : OkClosed N Ok) (COk : ∀ f ∈ C.callables, ∀ s ∈ f.body, Ok s)
include K COk

theorem rs_run (n : Nat) : (∀ e, Pres (RS P) ((run C n).eval e)) ∧ (∀ s, Ok s → Pres (RS P) ((run C n).exec s)) :=
  step_run (StateOps.step H) K COk n

theorem runFunction_rs (fuel : Nat) (body : Block) (hbody : ∀ s ∈ body, Ok s) (kw : List (String × Val)) (st st' : State) (v : Val)
    (h : runFunction C fuel body kw st = some (.ok (v, st'))) : P st st' := by
  unfold runFunction at h
  split at h
  · cases h
  · cases h
  · rename_i u c hb
    obtain ⟨o, h1⟩ := runBody_inv hb
    cases Option.some.inj h
    have ih := rs_run H K COk fuel
    exact step_execBlock (StateOps.step H).toStepBase ih.2 body hbody _ _ _ h1

end

end

/-- a history: every operation has to succeed -/
def applyEffs (C : Ctx) : List Eff → State → Except Err State
  | [], st => .ok st
  | e :: es, st => match applyEff C e st with | .ok st1 => applyEffs C es st1 | .error err => .error err

def Reach (C : Ctx) (st st' : State) : Prop := ∃ es, applyEffs C es st = .ok st'

theorem applyEffs_append (C : Ctx) : ∀ (es1 es2 : List Eff) (st st1 st2 : State),
    applyEffs C es1 st = .ok st1 → applyEffs C es2 st1 = .ok st2 → applyEffs C (es1 ++ es2) st = .ok st2
  | [], _, _, _, _, h1, h2 => by simp [applyEffs] at h1; subst h1; exact h2
  | e :: es1, es2, st, st1, st2, h1, h2 => by
    simp only [applyEffs, List.cons_append] at h1 ⊢
    cases he : applyEff C e st with
    | error err => rw [he] at h1; cases h1
    | ok sta =>
      rw [he] at h1
      simp only at h1 ⊢
      exact applyEffs_append C es1 es2 sta st1 st2 h1 h2

theorem reach_one {C : Ctx} {e : Eff} {st st' : State} (h : applyEff C e st = .ok st') : Reach C st st' :=
  ⟨[e], by simp [applyEffs, h]⟩

theorem reach_ops (C : Ctx) : StateOps C (fun _ => True) (Reach C) where
  refl := fun st => ⟨[], rfl⟩
  trans := fun a b c ⟨e1, h1⟩ ⟨e2, h2⟩ => ⟨e1 ++ e2, applyEffs_append C e1 e2 a b c h1 h2⟩
  newInst := fun {cls st i st'} h => reach_one (e := .new cls) (by simp [applyEff, h])
  deleteInst := fun {i st st'} h => reach_one (e := .delete i) h
  relate := fun {x y rel phrase st st'} h => reach_one (e := .relate x y rel phrase) h
  unrelate := fun {x y rel phrase st st'} h => reach_one (e := .unrelate x y rel phrase) h
  setAttr := fun {i name v st st'} _ h => reach_one (e := .set i name v) h

theorem reach_run (C : Ctx) (n : Nat) :
    (∀ e, Pres (RS (Reach C)) ((run C n).eval e)) ∧ (∀ s, Pres (RS (Reach C)) ((run C n).exec s)) :=
  ⟨(rs_run (reach_ops C) okTrue (fun _ _ _ _ => trivial) n).1,
   fun s => (rs_run (reach_ops C) okTrue (fun _ _ _ _ => trivial) n).2 s trivial⟩

/-- **whatever a program does to the relational state is a history of state operations**: a run (any nesting, calls,
    loops, any fuel) that ends normally reaches its final state from the initial one through a finite list of
    successful `create` / `delete` / `relate` / `unrelate` / attribute-write operations on named instances -/
theorem runFunction_effects (C : Ctx) (fuel : Nat) (body : Block) (kw : List (String × Val)) (st st' : State) (v : Val)
    (h : runFunction C fuel body kw st = some (.ok (v, st'))) : ∃ es, applyEffs C es st = .ok st' :=
  runFunction_rs (reach_ops C) okTrue (fun _ _ _ _ => trivial) fuel body (fun _ _ => trivial) kw st st' v h

theorem exec_effects (C : Ctx) (n : Nat) (s : Stmt) (c c' : Cfg) (o : Out)
    (h : (run C n).exec s c = some (.ok (o, c'))) : ∃ es, applyEffs C es c.st = .ok c'.st :=
  (reach_run C n).2 s c o c' h

theorem eval_effects (C : Ctx) (n : Nat) (e : Expr) (c c' : Cfg) (v : Val)
    (h : (run C n).eval e c = some (.ok (v, c'))) : ∃ es, applyEffs C es c.st = .ok c'.st :=
  (reach_run C n).1 e c v c' h

/-- the statements whose attribute assignments (at any depth) name an attribute `N` allows -/
inductive StmtOk (N : String → Prop) : Stmt → Prop
  | assignVar (x e) : StmtOk N (.assignVar x e)
  | assignField (h name e) : N name → StmtOk N (.assignField h name e)
  | ifS (c thn elifs els) : (∀ s ∈ thn, StmtOk N s) → (∀ p ∈ elifs, ∀ s ∈ p.2, StmtOk N s) →
      (∀ b, els = some b → ∀ s ∈ b, StmtOk N s) → StmtOk N (.ifS c thn elifs els)
  | whileS (c body) : (∀ s ∈ body, StmtOk N s) → StmtOk N (.whileS c body)
  | forEach (v setv body) : (∀ s ∈ body, StmtOk N s) → StmtOk N (.forEach v setv body)
  | brk : StmtOk N .brk
  | cont : StmtOk N .cont
  | stop : StmtOk N .stop
  | ret (e) : StmtOk N (.ret e)
  | create (v cls) : StmtOk N (.create v cls)
  | delete (v) : StmtOk N (.delete v)
  | relate (a b rel phrase) : StmtOk N (.relate a b rel phrase)
  | relateUsing (a b rel phrase u) : StmtOk N (.relateUsing a b rel phrase u)
  | unrelate (a b rel phrase) : StmtOk N (.unrelate a b rel phrase)
  | unrelateUsing (a b rel phrase u) : StmtOk N (.unrelateUsing a b rel phrase u)
  | selectFrom (many v cls wh) : StmtOk N (.selectFrom many v cls wh)
  | selectRelated (many v hx chain wh) : StmtOk N (.selectRelated many v hx chain wh)
  | invoke (e) : StmtOk N (.invoke e)

theorem stmtOk_closed (N : String → Prop) : OkClosed N (StmtOk N) where
  assignField := fun h => by cases h; assumption
  ifThen := fun h => by cases h; assumption
  ifElif := fun h => by cases h; assumption
  ifElse := fun h => by cases h with | ifS _ _ _ _ _ _ he => exact he _ rfl
  whileB := fun h => by cases h; assumption
  forB := fun h => by cases h; assumption

def ReachN (C : Ctx) (N : String → Prop) (st st' : State) : Prop :=
  ∃ es, (∀ e ∈ es, SetsOnly N e) ∧ applyEffs C es st = .ok st'

theorem reachN_one {C : Ctx} {N : String → Prop} {e : Eff} {st st' : State} (hN : SetsOnly N e)
    (h : applyEff C e st = .ok st') : ReachN C N st st' :=
  ⟨[e], fun e' he' => by simp at he'; subst he'; exact hN, by simp [applyEffs, h]⟩

theorem reachN_ops (C : Ctx) (N : String → Prop) : StateOps C N (ReachN C N) where
  refl := fun st => ⟨[], fun _ h => (by cases h), rfl⟩
  trans := fun a b c ⟨e1, n1, h1⟩ ⟨e2, n2, h2⟩ =>
    ⟨e1 ++ e2, fun e he => by
        rcases List.mem_append.1 he with h | h
        · exact n1 e h
        · exact n2 e h,
      applyEffs_append C e1 e2 a b c h1 h2⟩
  newInst := fun {cls st i st'} h => reachN_one (e := .new cls) trivial (by simp [applyEff, h])
  deleteInst := fun {i st st'} h => reachN_one (e := .delete i) trivial h
  relate := fun {x y rel phrase st st'} h => reachN_one (e := .relate x y rel phrase) trivial h
  unrelate := fun {x y rel phrase st st'} h => reachN_one (e := .unrelate x y rel phrase) trivial h
  setAttr := fun {i name v st st'} hN h => reachN_one (e := .set i name v) hN h

/-- **the history of a program whose attribute assignments name `N`-attributes only** (its own statements and the
    bodies of the callables of the context, at any depth) **writes `N`-attributes only** -/
theorem runFunction_effectsN (C : Ctx) (N : String → Prop) (hC : ∀ f ∈ C.callables, ∀ s ∈ f.body, StmtOk N s)
    (fuel : Nat) (body : Block) (hbody : ∀ s ∈ body, StmtOk N s) (kw : List (String × Val)) (st st' : State) (v : Val)
    (h : runFunction C fuel body kw st = some (.ok (v, st'))) :
    ∃ es, (∀ e ∈ es, SetsOnly N e) ∧ applyEffs C es st = .ok st' :=
  runFunction_rs (reachN_ops C N) (stmtOk_closed N) hC fuel body hbody kw st st' v h

end Pyx.Interp
