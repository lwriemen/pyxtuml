import PyxModel.LoadApi
import Gen.RelateShape
import Gen.QueryShape

/-! C03: the API route of the model against the statement-shape tables translated from xtuml/meta.py
    (Gen/RelateShape.lean, Gen/QueryShape.lean).  Each table gets an interpreter (`findLinkBy`, `runSteps'`, `rowMatchesBy`),
    and the model's function equals the interpreter run on the table (`*_eq_generated`): a change of `_find_link`, of the
    link calls of `relate` or of `WhereEqual` that alters a table breaks the equality.  LoadShapesMore does the same for
    `relate` as a whole, the query loop and the phases of `MetaClass.new`. -/

namespace Pyx.Load
open Pyx.Gen.RelateShape

def endKind (a : AssocStmt) : End → String
  | .source => a.srcKind
  | .target => a.tgtKind

def endPhrase (a : AssocStmt) : End → String
  | .source => a.srcPhrase
  | .target => a.tgtPhrase

def endMany (a : AssocStmt) : End → Bool
  | .source => a.srcMany
  | .target => a.tgtMany

def evalBExp {α : Type} (atom : α → Bool) : BExp α → Bool
  | .atom a => atom a
  | .and l r => evalBExp atom l && evalBExp atom r
  | .or l r => evalBExp atom l || evalBExp atom r
  | .not e => !evalBExp atom e

/-- the atoms of `_find_link` for association `a`, read through the link definitions: `ass.source_link.from_metaclass`
    is the class at the end `fromCls` of the source link, and so on -/
def findAtom (a : AssocStmt) (k1 k2 rel phrase : String) (sd td : LinkDef) : FindAtom → Bool
  | .relDiffers => decide (a.rel ≠ rel)
  | .srcFrom1 => decide (endKind a sd.fromCls = k1)
  | .srcTo2 => decide (endKind a sd.toCls = k2)
  | .srcPhrase => decide (endPhrase a sd.phrase = phrase)
  | .tgtFrom1 => decide (endKind a td.fromCls = k1)
  | .tgtTo2 => decide (endKind a td.toCls = k2)
  | .tgtPhrase => decide (endPhrase a td.phrase = phrase)

/-- the first test of the loop body that holds decides; `none`: the body falls through to the next association -/
def findStep (body : List (BExp FindAtom × FindAct)) (atom : FindAtom → Bool) : Option FindAct :=
  match body with
  | [] => none
  | (c, act) :: rest => if evalBExp atom c then some act else findStep rest atom

def findLinkBy (body : List (BExp FindAtom × FindAct)) (sd td : LinkDef) (k1 k2 rel phrase : String) :
    Nat → List AssocStmt → Option (Nat × Bool)
  | _, [] => none
  | n, a :: rest =>
    match findStep body (findAtom a k1 k2 rel phrase sd td) with
    | some (.found sw) => some (n, sw)
    | _ => findLinkBy body sd td k1 k2 rel phrase (n + 1) rest

theorem findStep_findBody (a : AssocStmt) (k1 k2 rel phrase : String) (sd td : LinkDef) (hd : linkDefs = [sd, td]) :
    findStep findBody (findAtom a k1 k2 rel phrase sd td) =
      if a.rel ≠ rel then some .next
      else if a.tgtKind = k1 ∧ a.srcKind = k2 ∧ a.tgtPhrase = phrase then some (.found false)
      else if a.srcKind = k1 ∧ a.tgtKind = k2 ∧ a.srcPhrase = phrase then some (.found true)
      else none := by
  simp only [linkDefs, List.cons.injEq, and_true] at hd
  obtain ⟨rfl, rfl⟩ := hd
  -- the three tests as the Booleans the interpretation of `findBody` computes, then Bool to Prop
  show (if decide (a.rel ≠ rel) then some FindAct.next
    else if decide (a.tgtKind = k1) && (decide (a.srcKind = k2) && decide (a.tgtPhrase = phrase)) then some (.found false)
    else if decide (a.srcKind = k1) && (decide (a.tgtKind = k2) && decide (a.srcPhrase = phrase)) then some (.found true)
    else none) = _
  simp only [Bool.and_eq_true, decide_eq_true_eq]

theorem findLinkFrom_eq_generated (k1 k2 rel phrase : String) (sd td : LinkDef) (hd : linkDefs = [sd, td]) :
    ∀ (l : List AssocStmt) (n : Nat),
      findLinkFrom k1 k2 rel phrase n l = findLinkBy findBody sd td k1 k2 rel phrase n l := by
  intro l
  induction l with
  | nil => intro n; rfl
  | cons a rest ih =>
    intro n
    rw [findLinkFrom, findLinkBy, findStep_findBody a k1 k2 rel phrase sd td hd, ih]
    split
    · rfl
    split
    · rfl
    split <;> rfl

/-- a call of the program on the pair (inst1, inst2) = (t, s) that `_find_link` returned -/
def argOf (t s : Nat) : Arg → Nat
  | .inst1 => t
  | .inst2 => s
  | .fromInst => t
  | .toInst => s

def linkMap (L : Links) : LinkSel → (Nat → List Nat)
  | .sourceLink => L.src
  | .targetLink => L.tgt

def setLink (L : Links) (sel : LinkSel) (m : Nat → List Nat) : Links :=
  match sel with
  | .sourceLink => ⟨m, L.tgt⟩
  | .targetLink => ⟨L.src, m⟩

/-- one `connect` / `disconnect` call; `none` = it returned False -/
def runCall (a : AssocStmt) (sd td : LinkDef) (c : Call) (L : Links) (t s : Nat) : Option Links :=
  let many := match c.link with
    | .sourceLink => endMany a sd.many
    | .targetLink => endMany a td.many
  match c.op with
  | .connect => (connectChecked (linkMap L c.link) many (argOf t s c.a1) (argOf t s c.a2)).map (setLink L c.link)
  | .disconnect => some (setLink L c.link (disconnect (linkMap L c.link) (argOf t s c.a1) (argOf t s c.a2)))

/-- `if not <call>: <undo…>; raise` for every step; the Bool says whether nothing was raised -/
def runSteps' (a : AssocStmt) (sd td : LinkDef) : List GuardedCall → Links → Nat → Nat → Links × Bool
  | [], L, _, _ => (L, true)
  | g :: rest, L, t, s =>
    match runCall a sd td g.call L t s with
    | some L' => runSteps' a sd td rest L' t s
    | none => (g.undo.foldl (fun L u => (runCall a sd td u L t s).getD L) L, false)

theorem relateAt_eq_generated (a : AssocStmt) (L : Links) (t s : Nat) (sd td : LinkDef) (hd : linkDefs = [sd, td]) :
    relateAt a L t s = runSteps' a sd td relateProg.steps L t s := by
  simp only [linkDefs, List.cons.injEq, and_true] at hd
  obtain ⟨rfl, rfl⟩ := hd
  simp only [relateAt, relateProg, runSteps', runCall, endMany, linkMap, argOf, setLink]
  cases h1 : connectChecked L.src a.srcMany t s with
  | none => rfl
  | some src' =>
    simp only [Option.map_some]
    have e : (setLink L LinkSel.sourceLink src').tgt = L.tgt := rfl
    rw [e]
    cases h2 : connectChecked L.tgt a.tgtMany s t with
    | none => simp [List.foldl, setLink]
    | some tgt' => simp [setLink]

open Pyx.Gen.QueryShape in
/-- `for name, value in items: if getattr(inst, name) <breakWhen> value: break` / `else: yield`; `none` = the read
    did not end -/
def rowMatchesBy (w : WhereShape) (m : Model) (fuel : Nat) (kind : String) (j : Nat) :
    List (String × Val) → Option Bool
  | [] => some (w.yieldWhen == .completed)
  | (n, v) :: rest =>
    match readAttr m fuel kind j n with
    | none => none
    | some r =>
      let brk := match w.breakWhen with
        | .ne => !(r == v)
        | .eq => r == v
      if brk then some (w.yieldWhen == .broke) else rowMatchesBy w m fuel kind j rest

theorem rowMatches_eq_generated (m : Model) (fuel : Nat) (kind : String) (j : Nat) (kw : List (String × Val)) :
    rowMatches m fuel kind j kw = rowMatchesBy Pyx.Gen.QueryShape.whereShape m fuel kind j kw := by
  induction kw with
  | nil => rfl
  | cons p rest ih =>
    obtain ⟨n, v⟩ := p
    simp only [rowMatches, rowMatchesBy, Pyx.Gen.QueryShape.whereShape]
    cases readAttr m fuel kind j n with
    | none => rfl
    | some r =>
      simp only
      by_cases h : (r == v) = true
      · simp only [h, if_true, Bool.not_true, Bool.false_eq_true, if_false]; exact ih
      · have h' : (r == v) = false := by simpa using h
        simp [h']

end Pyx.Load
