import PyxModel.Reflexive
import Gen.QueryShape

/-!
  Source tie of the QUERY side (C09, C16): a GENERIC interpreter of the first-order IR that
  translator/gen_queryshape.py extracts from xtuml/meta.py, and the lemmas showing that the models of
  PyxModel/Query.lean and PyxModel/Reflexive.lean equal that interpretation of the IR generated from
  xtuml/meta.py.  The interpreter is defined once, for ANY IR value; only the `…_eq` lemmas mention the
  generated constants.
-/
namespace Pyx.QShape
open Pyx.Meta Pyx.Query Pyx.Reflexive Pyx.Gen.QueryShape

def evalB {α : Type} (v : α → Bool) : BExp α → Bool
  | .atom a => v a
  | .and l r => evalB v l && evalB v r
  | .or l r => evalB v l || evalB v r
  | .not e => !(evalB v e)

/-- the Python type of an operator value -/
inductive PyType where
  | whereEqual          -- WhereEqual (a dict subclass), what where_eq(...) returns
  | orderBy             -- OrderBy (a list subclass)
  | callable            -- a plain filter function
  deriving DecidableEq, Repr

def typeOf : QOp → PyType
  | .whereEq _ => .whereEqual
  | .orderBy _ _ => .orderBy
  | .pred _ => .callable

def testHolds : OpTest → PyType → Bool
  | .isWhereEqual, t => decide (t = .whereEqual)
  | .isOrderBy, t => decide (t = .orderBy)
  | .isDict, t => decide (t = .whereEqual)           -- WhereEqual is a dict

/-- the first test of the chain that holds decides, else the `else:` branch -/
def pickAct (dispatch : List (OpTest × OpAct)) (els : OpAct) (t : PyType) : OpAct :=
  ((dispatch.find? (fun d => testHolds d.1 t)).map (·.2)).getD els

/-- `WhereEqual.__call__`: for each instance in order, the inner loop over the items breaks on the first item whose
    comparison holds; the instance is yielded according to how the loop ended -/
def iWhere (ws : WhereShape) (val : Valuation) (pairs : List (String × Option Int)) (l : List Inst) : List Inst :=
  l.filter (fun x =>
    let broke := pairs.any (fun p => match ws.breakWhen with
      | .ne => !(val x p.1 == p.2)
      | .eq => val x p.1 == p.2)
    match ws.yieldWhen with
    | .completed => !broke
    | .broke => broke)

/-- `OrderBy.__call__`: a stable sort on the lexicographic key; the reverse flag, when it is passed to `sorted`,
    reverses the comparison INSIDE the stable sort (ties keep their order) -/
def iOrder (os : OrderShape) (val : Valuation) (attrs : List String) (rev : Bool) (l : List Inst) : List Inst :=
  if os.passesReverseFlag && rev then sortStable (fun a b => keyLt (keyOf val attrs b) (keyOf val attrs a)) l
  else sortStable (fun a b => keyLt (keyOf val attrs a) (keyOf val attrs b)) l

def iApplyOp (dispatch : List (OpTest × OpAct)) (els : OpAct) (ws : WhereShape) (os : OrderShape)
    (val : Valuation) (l : List Inst) (op : QOp) : List Inst :=
  match pickAct dispatch els (typeOf op), op with
  | .callOp, .whereEq pairs => iWhere ws val pairs l
  | .callOp, .orderBy attrs rev => iOrder os val attrs rev l
  | .wrapWhereEqual, .whereEq pairs => iWhere ws val pairs l
  | .filterWith, .pred p => l.filter (fun x => evalPred val x p)
  | _, _ => l                                       -- combinations the source never produces

def iApplyOps (dispatch : List (OpTest × OpAct)) (els : OpAct) (ws : WhereShape) (os : OrderShape)
    (val : Valuation) (l : List Inst) (ops : List QOp) : List Inst :=
  ops.foldl (iApplyOp dispatch els ws os val) l

def iMany : ResultForm → List Inst → List Inst
  | .querySet, l => dedupFirst l
  | .firstOrNone, l => l.head?.toList

def iOne : ResultForm → List Inst → Option Inst
  | .firstOrNone, l => l.head?
  | .querySet, l => (dedupFirst l).head?

def iNavigate (skip : BExp AssocAtom) (sch : Schema) (s : State) (x : Inst) (toKind : Kind) (rel phrase : String) :
    Option (List Inst) :=
  let d := linkDict sch (s.kindOf x)
  match lookupKey d toKind rel phrase with
  | some e => some (followEntry s e x)
  | none =>
    match d.findSome? (fun l1 =>
        if !(evalB (fun a => match a with
            | .relDiffers => l1.rel != rel
            | .phraseDiffers => l1.phrase != phrase) skip) then
          (lookupKey (linkDict sch l1.toKind) toKind rel phrase).map (fun l2 => (l1, l2))
        else none) with
    | some (l1, l2) => some (unionAll ((followEntry s l1 x).map (followEntry s l2)))
    | none => none

/-- one `_nav` step: for each handle element in order, every result of the per-instance navigation is yielded
    (duplicates kept); an exception in any of them aborts -/
def iNavStep (inner : NavInner) (nav : Inst → Option (List Inst)) (l : List Inst) : Option (List Inst) :=
  match inner with
  | .yieldEach => l.foldl (fun acc x => match acc, nav x with
      | some a, some r => some (a ++ r)
      | _, _ => none) (some [])

def iNavSeq (inner : NavInner) (skip : BExp AssocAtom) (sch : Schema) (s : State) (h : List Inst) (steps : List Step) :
    Option (List Inst) :=
  steps.foldl (fun acc st => match acc with
    | some l => iNavStep inner (fun x => iNavigate skip sch s x st.toKind st.rel st.phrase) l
    | none => none) (some h)

def iNavSubtypeFrom (skip : BExp SubAtom) (nav : Kind → Option (List Inst)) (rel : String) :
    List LinkEntry → Option (Option Inst)
  | [] => some none
  | e :: rest =>
    if !(evalB (fun a => match a with | .relDiffers => e.rel != rel) skip) then
      match nav e.toKind with
      | none => none
      | some l =>
        match l.head? with
        | some y => some (some y)
        | none => iNavSubtypeFrom skip nav rel rest
    else iNavSubtypeFrom skip nav rel rest

def navFn (across back : Inst → Option Inst) : PhraseSel → Inst → Option Inst
  | .given => across
  | .other => back

structure WState where
  inst : Option Inst
  out : List Inst
  broke : Bool

def iWStmt (across back : Inst → Option Inst) (set : List Inst) (first : Inst) (st : WState) : WStmt → WState
  | .yieldIfInSet =>
    match st.inst with
    | some x => if x ∈ set then { st with out := st.out ++ [x] } else st
    | none => st
  | .advance p => { st with inst := st.inst.bind (navFn across back p) }       -- navigate_one(None)…() is None
  | .breakIfIsFirst => if st.inst = some first then { st with broke := true } else st

/-- one pass through the body of `while inst:`; after a `break` the remaining statements are not executed -/
def iBody (body : List WStmt) (across back : Inst → Option Inst) (set : List Inst) (first cur : Inst) : WState :=
  body.foldl (fun st w => if st.broke then st else iWStmt across back set first st w) ⟨some cur, [], false⟩

def iWalk (body : List WStmt) (across back : Inst → Option Inst) (set : List Inst) (first : Inst) : Nat → Inst → List Inst
  | 0, _ => []
  | fuel + 1, cur =>
    let st := iBody body across back set first cur
    st.out ++ (if st.broke then [] else
      match st.inst with
      | some n => iWalk body across back set first fuel n
      | none => [])

def iFirsts (neg : Bool) (p : PhraseSel) (across back : Inst → Option Inst) (set : List Inst) : List Inst :=
  let fs := set.filter (fun x => if neg then !(navFn across back p x).isSome else (navFn across back p x).isSome)
  if fs.isEmpty then set.take 1 else fs

def iSort (neg : Bool) (p : PhraseSel) (body : List WStmt) (across back : Inst → Option Inst) (set : List Inst)
    (fuel : Nat) : List Inst :=
  dedupFirst ((iFirsts neg p across back set).flatMap (fun first => iWalk body across back set first fuel first))

/-- the other-phrase search: the first link of the class that none of the skip conditions rejects -/
def iOtherPhrase (skips : List (BExp OtherAtom)) (sch : Schema) (k : Kind) (rel phrase : String) : Option String :=
  ((linkDict sch k).find? (fun e => !(skips.any (evalB (fun a => match a with
      | .leadsElsewhere => e.toKind != k
      | .relDiffers => e.rel != rel
      | .phraseSame => e.phrase == phrase))))).map (·.phrase)

theorem applyOp_eq (val : Valuation) (l : List Inst) (op : QOp) :
    applyOp val l op = iApplyOp opDispatch opElse whereShape orderShape val l op := by
  cases op with
  | whereEq pairs =>
    simp only [applyOp, iApplyOp, pickAct, opDispatch, typeOf, testHolds, List.find?_cons, decide_true,
      Option.map_some, Option.getD_some, iWhere, whereShape]
    simp only [List.not_any_eq_all_not, Bool.not_not]
  | orderBy attrs rev =>
    cases rev <;> rfl
  | pred p => rfl

theorem applyOps_eq (val : Valuation) (l : List Inst) (ops : List QOp) :
    applyOps val l ops = iApplyOps opDispatch opElse whereShape orderShape val l ops := by
  unfold applyOps iApplyOps
  congr 1
  funext l' op
  exact applyOp_eq val l' op

theorem navigate_eq (sch : Schema) (s : State) (x : Inst) (toKind : Kind) (rel phrase : String) :
    navigate sch s x toKind rel phrase = iNavigate assocSkip sch s x toKind rel phrase := by
  simp only [navigate, iNavigate, assocSkip, evalB, bne, Bool.not_or, Bool.not_not]
  rfl

theorem navStep_eq (sch : Schema) (s : State) (l : List Inst) (st : Step) :
    navStep sch s l st = iNavStep navInner (fun x => iNavigate assocSkip sch s x st.toKind st.rel st.phrase) l := by
  unfold navStep iNavStep
  show List.foldl _ _ _ = List.foldl _ _ _
  congr 1
  funext acc x
  unfold navAcc
  rw [navigate_eq]
  rfl

theorem navSeq_eq (sch : Schema) (s : State) (h : List Inst) (steps : List Step) :
    navSeq sch s h steps = iNavSeq navInner assocSkip sch s h steps := by
  unfold navSeq iNavSeq
  congr 1
  funext acc st
  cases acc with
  | none => rfl
  | some l => exact navStep_eq sch s l st

theorem iBody_walkBody (across back : Inst → Option Inst) (set : List Inst) (first x : Inst) :
    iBody walkBody across back set first x =
      ⟨back x, if x ∈ set then [x] else [], decide (back x = some first)⟩ := by
  by_cases hx : x ∈ set <;> by_cases hb : back x = some first <;> simp [iBody, walkBody, iWStmt, navFn, hx, hb]

theorem walk_eq (across back : Inst → Option Inst) (set : List Inst) (first : Inst) (fuel : Nat) (x : Inst) :
    walk back set first fuel x = iWalk walkBody across back set first fuel x := by
  induction fuel generalizing x with
  | zero => rfl
  | succ fuel ih =>
    rw [walk, iWalk, iBody_walkBody]
    cases hb : back x with
    | none => simp
    | some y => by_cases hy : y = first <;> simp [hy, ih]

theorem firsts_eq (across back : Inst → Option Inst) (set : List Inst) :
    firsts across set = iFirsts firstFiltNegated firstFiltPhrase across back set := by
  simp only [firsts, iFirsts, firstFiltNegated, firstFiltPhrase, navFn, ↓reduceIte, Option.not_isSome]

theorem sortReflexive_eq (across back : Inst → Option Inst) (set : List Inst) (fuel : Nat) :
    sortReflexive across back set fuel = iSort firstFiltNegated firstFiltPhrase walkBody across back set fuel := by
  unfold sortReflexive iSort
  rw [firsts_eq across back]
  congr 2
  funext first
  exact walk_eq across back set first fuel first

theorem otherPhrase_eq (sch : Schema) (k : Kind) (rel phrase : String) :
    otherPhrase sch k rel phrase = iOtherPhrase otherSkips sch k rel phrase := by
  simp only [otherPhrase, iOtherPhrase, otherSkips, List.any_cons, List.any_nil, evalB, Bool.or_false, bne, Bool.not_or,
    Bool.not_not, Bool.and_assoc]

end Pyx.QShape
