import Proofs.InterpLaws

/-!
  Loop unrolling as an equivalence of outcomes, errors included.

  `while_unroll`: the outcome `r` of `while c body` — a completed outcome OR a domain error — is EXACTLY one of:
  the condition fails to evaluate (its error), the condition is not a boolean (error), the condition is false (normal
  completion in the configuration after the condition), the condition is true and the body fails (its error), the
  condition is true, the body completes with outcome `o` and `r` is what `whileAfter` prescribes for `o` (go round
  again for normal / continue — i.e. the outcome of the SAME loop started in the configuration after the body —, end
  normally for break, pass return / stop on).  Both directions, for every amount of fuel.
  `while_inv`: its left-to-right half for a completed outcome, where the three error cases cannot arise.
-/
namespace Pyx.Interp
open M

def boolOf : Val → Option Bool
  | .bool b => some b
  | _ => none

theorem while_unroll {C : Ctx} {c : Expr} {body : Block} {cfg : Cfg} {r : Except Err (Out × Cfg)} :
    Execs C (.whileS c body) cfg r ↔
      (∃ e, Evals C c cfg (.error e) ∧ r = .error e) ∨
      (∃ v c1 e, Evals C c cfg (.ok (v, c1)) ∧ boolOf v = none ∧ asBool v c1 = some (.error e) ∧ r = .error e) ∨
      (∃ c1, Evals C c cfg (.ok (.bool false, c1)) ∧ r = .ok (.normal, c1)) ∨
      (∃ c1 e, Evals C c cfg (.ok (.bool true, c1)) ∧ BlockExecs C body c1 (.error e) ∧ r = .error e) ∨
      (∃ c1 c2 o, Evals C c cfg (.ok (.bool true, c1)) ∧ BlockExecs C body c1 (.ok (o, c2)) ∧
        whileAfter C c body o c2 r) := by
  constructor
  · intro h
    rw [execs_iff_step] at h
    obtain ⟨n, hn⟩ := h
    -- one level of the interpreter at fuel `n + 1`: the same `n` witnesses every part
    simp only [execStep] at hn
    rcases bind_inv hn with ⟨e, he, rfl⟩ | ⟨v, c1, hv, hrest⟩
    · exact .inl ⟨e, ⟨n, he⟩, rfl⟩
    · cases v with
      | bool t =>
        rw [bind_ok (asBool_run t c1)] at hrest
        cases t with
        | false => exact .inr (.inr (.inl ⟨c1, ⟨n, hv⟩, (Option.some.inj hrest).symm⟩))
        | true =>
          rw [if_pos rfl] at hrest
          rcases bind_inv hrest with ⟨e, he, rfl⟩ | ⟨o, c2, ho, hafter⟩
          · exact .inr (.inr (.inr (.inl ⟨c1, e, ⟨n, hv⟩, ⟨n, he⟩, rfl⟩)))
          · refine .inr (.inr (.inr (.inr ⟨c1, c2, o, ⟨n, hv⟩, ⟨n, ho⟩, ?_⟩)))
            cases o <;> first | exact ⟨n, hafter⟩ | exact (Option.some.inj hafter).symm
      | _ =>
        refine .inr (.inl ⟨_, c1, _, ⟨n, hv⟩, rfl, rfl, ?_⟩)
        exact (Option.some.inj ((bind_err (show asBool _ c1 = some (.error _) from rfl)).symm.trans hrest)).symm
  · rintro (⟨e, ⟨n, hn⟩, rfl⟩ | ⟨v, c1, e, ⟨n, hn⟩, _, he, rfl⟩ | ⟨c1, hc, rfl⟩ | ⟨c1, e, ⟨m, hm⟩, ⟨k, hk⟩, rfl⟩ |
        ⟨c1, c2, o, hc, hb, ha⟩)
    · exact execs_iff_step.2 ⟨n, by simp only [execStep]; exact bind_err hn⟩
    · exact execs_iff_step.2 ⟨n, by simp only [execStep]; rw [bind_ok hn]; exact bind_err he⟩
    · exact while_false hc
    -- the parts come with fuels of their own: lift them to the larger (`Runs.lift`); `while_true` does so for three
    · refine execs_iff_step.2 ⟨max m k, ?_⟩
      simp only [execStep]
      rw [bind_ok (Runs.lift (monoF_eval c) hm (Nat.le_max_left m k)), bind_ok (asBool_run true c1), if_pos rfl]
      exact bind_err (Runs.lift (monoF_block body) hk (Nat.le_max_right m k))
    · exact while_true hc hb ha

theorem while_inv {C : Ctx} {c : Expr} {body : Block} {cfg c' : Cfg} {o' : Out}
    (h : Execs C (.whileS c body) cfg (.ok (o', c'))) :
    (Evals C c cfg (.ok (.bool false, c')) ∧ o' = .normal) ∨
    (∃ c1 c2 o, Evals C c cfg (.ok (.bool true, c1)) ∧ BlockExecs C body c1 (.ok (o, c2)) ∧
      whileAfter C c body o c2 (.ok (o', c'))) := by
  rcases while_unroll.1 h with ⟨_, _, h⟩ | ⟨_, _, _, _, _, _, h⟩ | ⟨c1, hc, h⟩ | ⟨_, _, _, _, h⟩ | h
  · cases h
  · cases h
  · cases h
    exact .inl ⟨hc, rfl⟩
  · cases h
  · exact .inr h

end Pyx.Interp
