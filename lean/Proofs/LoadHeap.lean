import PyxModel.LoadHeap
import Proofs.Load

/-! C18: a mutator changes the object groups of its write set only (`applyMut_frame`, group by group through `Unchanged`).
    On a metamodel that owns its attribute lists (`AllOwn`) a mutator does not look at the loader's statements and keeps
    `AllOwn` (`applyMut_allOwn`), and what is observed of the metamodel stays the same when statements are appended
    (`observeMeta_append`, given `KeysBound`); a build that shares no attribute list yields both invariants
    (`hbuild_allOwn`). -/

namespace Pyx.Heap
open Pyx.Load

theorem map_modifyCls {β : Type} (cs : List HCls) (kind : String) (f : HCls → HCls) (g : HCls → β)
    (h : ∀ c, g (f c) = g c) : (modifyCls cs kind f).map g = cs.map g := by
  unfold modifyCls
  rw [List.map_map]
  apply List.map_congr_left
  intro c _
  by_cases hk : c.kind = kind <;> simp [hk, h]

theorem map_updateAt {α β : Type} (l : List α) (n : Nat) (f : α → α) (g : α → β)
    (h : ∀ a, g (f a) = g a) : (updateAt l n f).map g = l.map g := by
  induction l generalizing n with
  | nil => rfl
  | cons x xs ih =>
    cases n with
    | zero => simp [updateAt, h]
    | succ n => simp [updateAt, ih]

theorem mem_modifyCls {cs : List HCls} {kind : String} {f : HCls → HCls} {c : HCls}
    (h : c ∈ modifyCls cs kind f) : ∃ d ∈ cs, c = d ∨ c = f d := by
  unfold modifyCls at h
  simp only [List.mem_map] at h
  obtain ⟨d, hd, rfl⟩ := h
  by_cases hk : d.kind = kind
  · exact ⟨d, hd, Or.inr (by simp [hk])⟩
  · exact ⟨d, hd, Or.inl (by simp [hk])⟩

/-! `Unchanged f o o'`: the mutable objects grouped under `f` hold the same content in `o'` as in `o`. -/

def Unchanged : Field → HMeta → HMeta → Prop
  | .clsAttributes, o, o' => o'.classes.map (·.attrs) = o.classes.map (·.attrs)
  | .clsIndices, o, o' => o'.classes.map (·.indices) = o.classes.map (·.indices)
  | .instances, o, o' => o'.classes.map (fun c => (c.rows, c.created)) = o.classes.map (fun c => (c.rows, c.created))
  | .linkItems, o, o' => o'.assocs.map (·.links) = o.assocs.map (·.links)
  | .idGenerator, o, o' => o'.idNext = o.idNext
  | .assocKeys, o, o' => o'.assocs.map (fun a => (a.stmt, a.keysRef)) = o.assocs.map (fun a => (a.stmt, a.keysRef))

def LinksOnly (o o' : HMeta) : Prop :=
  o'.classes = o.classes ∧
  o'.assocs.map (fun a => (a.stmt, a.keysRef)) = o.assocs.map (fun a => (a.stmt, a.keysRef)) ∧
  o'.idNext = o.idNext

theorem LinksOnly.refl (o : HMeta) : LinksOnly o o := ⟨rfl, rfl, rfl⟩

theorem LinksOnly.trans {o1 o2 o3 : HMeta} (h1 : LinksOnly o1 o2) (h2 : LinksOnly o2 o3) : LinksOnly o1 o3 :=
  ⟨h2.1.trans h1.1, h2.2.1.trans h1.2.1, h2.2.2.trans h1.2.2⟩

theorem relateH_linksOnly (o : HMeta) (k1 : String) (i1 : Nat) (k2 : String) (i2 : Nat) (rel phrase : String) :
    LinksOnly o (relateH o k1 i1 k2 i2 rel phrase).1 := by
  unfold relateH
  cases findLink (o.assocs.map (·.stmt)) k1 k2 rel phrase with
  | none => exact LinksOnly.refl o
  | some ns =>
    obtain ⟨n, swapped⟩ := ns
    simp only
    cases o.assocs[n]? with
    | none => exact LinksOnly.refl o
    | some a => exact ⟨rfl, map_updateAt _ _ _ _ (fun _ => rfl), rfl⟩

theorem relateHitsH_linksOnly (okind kind : String) (i : Nat) (rel phrase : String) (hs : List Nat) :
    ∀ o, LinksOnly o (relateHitsH okind kind i rel phrase hs o).1 := by
  induction hs with
  | nil => intro o; exact LinksOnly.refl o
  | cons j js ih =>
    intro o
    simp only [relateHitsH]
    have h1 := relateH_linksOnly o okind j kind i rel phrase
    cases hr : relateH o okind j kind i rel phrase with
    | mk o' res =>
      rw [hr] at h1
      cases res <;> first
        | exact h1.trans (ih o')
        | exact h1

theorem LinksOnly.ite {o : HMeta} {c : Prop} [Decidable c] {x y : HMeta × Res} (hx : LinksOnly o x.1)
    (hy : LinksOnly o y.1) : LinksOnly o (if c then x else y).1 := by
  split <;> assumption

theorem relateLinkH_linksOnly (refs : List (String × Val)) (km : List (String × String)) (okind kind : String)
    (i : Nat) (rel phrase : String) (o : HMeta) :
    LinksOnly o (relateLinkH refs km okind kind i rel phrase o).1 :=
  .ite (.refl o) (.ite (.refl o) (.ite (.refl o) (.ite (.refl o) (relateHitsH_linksOnly _ _ _ _ _ _ o))))

theorem relateLinksH_linksOnly (refs : List (String × Val)) (kind : String) (i : Nat)
    (ls : List (List (String × String) × String × String × String)) :
    ∀ o, LinksOnly o (relateLinksH refs kind i ls o).1 := by
  induction ls with
  | nil => intro o; exact LinksOnly.refl o
  | cons e rest ih =>
    intro o
    obtain ⟨km, okind, rel, phrase⟩ := e
    simp only [relateLinksH]
    have h1 := relateLinkH_linksOnly refs km okind kind i rel phrase o
    cases hr : relateLinkH refs km okind kind i rel phrase o with
    | mk o' res =>
      rw [hr] at h1
      cases res <;> first
        | exact h1.trans (ih o')
        | exact h1

/-- `new` with arguments: the state after the row has been stored and before the batch relate -/
def newStored (attrsOf : Ref (List (String × Ty)) → List (String × Ty)) (o : HMeta) (kind : String) (args : List Val)
    (c : HCls) : HMeta :=
  let refNames := referential (o.assocs.map (·.stmt)) kind
  let d := defaultRow refNames (attrsOf c.attrs) o.idNext
  let sp := splitArgs refNames ((attrsOf c.attrs).zip args) d.1 []
  { o with
    classes := modifyCls o.classes kind (fun c' => { c' with rows := c'.rows ++ [(c'.created, sp.1)], created := c'.created + 1 }),
    idNext := d.2 }

theorem newArgs_shape (attrsOf : Ref (List (String × Ty)) → List (String × Ty)) (o : HMeta) (kind : String)
    (args : List Val) (c : HCls) (hc : findHCls o.classes kind = some c) :
    LinksOnly (newStored attrsOf o kind args c) (applyOwn attrsOf o (.newArgs kind args)).1 := by
  simp only [applyOwn, hc]
  split
  · exact LinksOnly.refl _
  · exact relateLinksH_linksOnly _ _ _ _ _

theorem Unchanged.refl (f : Field) (o : HMeta) : Unchanged f o o := by
  cases f <;> rfl

/-- `o'` has the class kinds of `o` and differs from it in the object groups `ws` only -/
def Framed (ws : List Field) (o o' : HMeta) : Prop :=
  o'.classes.map (·.kind) = o.classes.map (·.kind) ∧ ∀ f, f ∉ ws → Unchanged f o o'

theorem Framed.refl (ws : List Field) (o : HMeta) : Framed ws o o := ⟨rfl, fun f _ => .refl f o⟩

theorem writes_of_attrEdit (μ : Mut) (h : μ.isAttrEdit = true) : μ.writes = [.clsAttributes] := by
  cases μ <;> simp [Mut.isAttrEdit] at h <;> rfl

theorem not_writes_attrs_of_own (μ : Mut) (h : μ.isAttrEdit = false) : Field.clsAttributes ∉ μ.writes := by
  cases μ <;> simp [Mut.isAttrEdit] at h <;> simp [Mut.writes]

/-- the frame of the mutators that do not edit an attribute list: in every branch the classes are as before or one of
    them is modified in fields of the write set, the associations are as before or change their links.  Field by field
    (`cases f`) there are three reasons: the field's projection is untouched definitionally (`rfl`), it is preserved
    under `modifyCls` / `updateAt` because the modifying function keeps it (`map_modifyCls`, `map_updateAt`), or the
    field is in the write set and the hypothesis `f ∉ μ.writes` is absurd -/
theorem applyOwn_frame (attrsOf : Ref (List (String × Ty)) → List (String × Ty)) (o : HMeta) (μ : Mut)
    (hμ : μ.isAttrEdit = false) : Framed μ.writes o (applyOwn attrsOf o μ).1 := by
  cases μ with
  | appendAttr _ _ _ => simp [Mut.isAttrEdit] at hμ
  | insertAttr _ _ _ _ => simp [Mut.isAttrEdit] at hμ
  | deleteAttr _ _ => simp [Mut.isAttrEdit] at hμ
  | defineUnique kind name attrs =>
    simp only [applyOwn]
    split
    · exact .refl _ o
    · cases findHCls o.classes kind with
      | none => exact .refl _ o
      | some c =>
        refine ⟨map_modifyCls _ _ _ _ (fun _ => rfl), fun f hf => ?_⟩
        cases f <;> first
          | rfl
          | exact map_modifyCls _ _ _ _ (fun _ => rfl)
          | exact absurd (by simp [Mut.writes]) hf
  | new kind =>
    simp only [applyOwn]
    cases findHCls o.classes kind with
    | none => exact .refl _ o
    | some c =>
      refine ⟨map_modifyCls _ _ _ _ (fun _ => rfl), fun f hf => ?_⟩
      cases f <;> first
        | rfl
        | exact map_modifyCls _ _ _ _ (fun _ => rfl)
        | exact absurd (by simp [Mut.writes]) hf
  | newArgs kind args =>
    cases hc : findHCls o.classes kind with
    | none => simp only [applyOwn, hc]; exact .refl _ o
    | some c =>
      -- the row is stored as by `new`; the batch relate then touches links only
      obtain ⟨h1, h2, _⟩ := newArgs_shape attrsOf o kind args c hc
      refine ⟨by rw [h1]; exact map_modifyCls _ _ _ _ (fun _ => rfl), fun f hf => ?_⟩
      cases f <;> first
        | exact (congrArg _ h1).trans (map_modifyCls _ _ _ _ (fun _ => rfl))
        | exact h2
        | exact absurd (by simp [Mut.writes]) hf
  | delete kind id =>
    simp only [applyOwn]
    cases findHCls o.classes kind with
    | none => exact .refl _ o
    | some c =>
      dsimp only
      split
      · refine ⟨map_modifyCls _ _ _ _ (fun _ => rfl), fun f hf => ?_⟩
        cases f <;> first
          | rfl
          | exact map_modifyCls _ _ _ _ (fun _ => rfl)
          | exact (List.map_map ..).trans rfl
          | exact absurd (by simp [Mut.writes]) hf
      · exact .refl _ o
  | setAttr kind id attr v =>
    simp only [applyOwn]
    cases findHCls o.classes kind with
    | none => exact .refl _ o
    | some c =>
      refine ⟨map_modifyCls _ _ _ _ (fun _ => rfl), fun f hf => ?_⟩
      cases f <;> first
        | rfl
        | exact map_modifyCls _ _ _ _ (fun _ => rfl)
        | exact absurd (by simp [Mut.writes]) hf
  | relate n s t =>
    simp only [applyOwn]
    cases o.assocs[n]? with
    | none => exact .refl _ o
    | some a =>
      simp only
      split
      · exact .refl _ o
      · cases connectChecked a.links.src a.stmt.srcMany t s with
        | none => exact .refl _ o
        | some src' =>
          cases connectChecked a.links.tgt a.stmt.tgtMany s t with
          | none => exact .refl _ o
          | some tgt' =>
            refine ⟨rfl, fun f hf => ?_⟩
            cases f <;> first
              | rfl
              | exact map_updateAt _ _ _ _ (fun _ => rfl)
              | exact absurd (by simp [Mut.writes]) hf
  | unrelate n s t =>
    simp only [applyOwn]
    cases o.assocs[n]? with
    | none => exact .refl _ o
    | some a =>
      simp only
      cases disconnect a.links.src t s with
      | none => exact .refl _ o
      | some src' =>
        cases disconnect a.links.tgt s t with
        | none => exact .refl _ o
        | some tgt' =>
          refine ⟨rfl, fun f hf => ?_⟩
          cases f <;> first
            | rfl
            | exact map_updateAt _ _ _ _ (fun _ => rfl)
            | exact absurd (by simp [Mut.writes]) hf

theorem applyMut_frame (stmts : List Stmt) (o : HMeta) (μ : Mut) : Framed μ.writes o (applyMut stmts o μ).1 := by
  unfold applyMut
  by_cases h : μ.isAttrEdit
  · simp only [h, if_true]
    unfold applyAttrEdit
    cases findHCls o.classes μ.attrKind with
    | none => exact .refl _ o
    | some c =>
      refine ⟨map_modifyCls _ _ _ _ (fun _ => rfl), fun f hf => ?_⟩
      rw [writes_of_attrEdit μ h] at hf
      cases f <;> first
        | rfl
        | exact map_modifyCls _ _ _ _ (fun _ => rfl)
        | exact absurd (List.mem_singleton.mpr rfl) hf
  · simp only [h, Bool.false_eq_true, if_false]
    exact applyOwn_frame _ o μ (by simpa using h)

/-- one mutator per constructor: `Mut.name` and `Mut.writes` look at nothing else -/
def Mut.samples : List Mut :=
  [.appendAttr "" "" .string, .insertAttr "" 0 "" .string, .deleteAttr "" "", .defineUnique "" "" [], .new "",
   .newArgs "" [], .delete "" 0, .setAttr "" 0 "" .none, .relate 0 0 0, .unrelate 0 0 0]

theorem Mut.of_samples {P : String → List Field → Prop} (h : ∀ ν ∈ Mut.samples, P ν.name ν.writes) (μ : Mut) :
    P μ.name μ.writes := by
  simp only [Mut.samples, List.forall_mem_cons, Mut.name, Mut.writes] at h
  cases μ <;> simp only [Mut.name, Mut.writes, h]

/-- every class owns its attribute list -/
def AllOwn (o : HMeta) : Prop := ∀ c ∈ o.classes, ∃ v, c.attrs = .own v

theorem getAttrs_own (s1 s2 : List Stmt) (r : Ref (List (String × Ty))) (h : ∃ v, r = .own v) :
    getAttrs s1 r = getAttrs s2 r := by
  obtain ⟨v, rfl⟩ := h
  rfl

theorem findHCls_mem {cs : List HCls} {kind : String} {c : HCls} (h : findHCls cs kind = some c) : c ∈ cs :=
  List.mem_of_find?_eq_some h

theorem applyOwn_congr (f g : Ref (List (String × Ty)) → List (String × Ty)) (o : HMeta) (μ : Mut)
    (h : ∀ c ∈ o.classes, f c.attrs = g c.attrs) : applyOwn f o μ = applyOwn g o μ := by
  cases μ with
  | new kind =>
    simp only [applyOwn]
    cases hc : findHCls o.classes kind with
    | none => rfl
    | some c => simp only [h c (findHCls_mem hc)]
  | newArgs kind args =>
    simp only [applyOwn]
    cases hc : findHCls o.classes kind with
    | none => rfl
    | some c => simp only [h c (findHCls_mem hc)]
  | _ => rfl

theorem applyMut_allOwn (s1 s2 : List Stmt) (o : HMeta) (μ : Mut) (ho : AllOwn o) :
    (applyMut s1 o μ).2.1 = s1 ∧ (applyMut s1 o μ).1 = (applyMut s2 o μ).1 ∧ AllOwn (applyMut s1 o μ).1 := by
  unfold applyMut
  by_cases h : μ.isAttrEdit
  · simp only [h, if_true]
    unfold applyAttrEdit
    cases hc : findHCls o.classes μ.attrKind with
    | none => exact ⟨rfl, rfl, ho⟩
    | some c =>
      obtain ⟨v, hv⟩ := ho c (findHCls_mem hc)
      simp only [hv, setAttrs, getAttrs]
      refine ⟨trivial, trivial, ?_⟩
      intro d hd
      obtain ⟨e, he, hde⟩ := mem_modifyCls hd
      rcases hde with rfl | rfl
      · exact ho _ he
      · exact ⟨_, rfl⟩
  · simp only [h, Bool.false_eq_true, if_false]
    have hcongr := applyOwn_congr (getAttrs s1) (getAttrs s2) o μ
      (fun c hc => getAttrs_own s1 s2 c.attrs (ho c hc))
    refine ⟨trivial, by rw [hcongr], ?_⟩
    -- `AllOwn` survives because `.clsAttributes` is outside the write set of every mutator that is no attribute edit
    have hfr := (applyOwn_frame (getAttrs s1) o μ (by simpa using h)).2 .clsAttributes
      (not_writes_attrs_of_own μ (by simpa using h))
    simp only [Unchanged] at hfr
    intro d hd
    have : d.attrs ∈ (applyOwn (getAttrs s1) o μ).1.classes.map (·.attrs) := List.mem_map.mpr ⟨d, hd, rfl⟩
    rw [hfr] at this
    obtain ⟨e, he, hde⟩ := List.mem_map.mp this
    obtain ⟨v, hv⟩ := ho e he
    exact ⟨v, by rw [← hde, hv]⟩

/-- every by-reference key pointer designates one of the first `n` statements -/
def KeysBound (o : HMeta) (n : Nat) : Prop := ∀ a ∈ o.assocs, ∀ idx, a.keysRef = some idx → idx < n

theorem observeMeta_append (s more : List Stmt) (o : HMeta) (ho : AllOwn o) (hk : KeysBound o s.length) :
    observeMeta (s ++ more) o = observeMeta s o := by
  unfold observeMeta
  congr 1
  · apply List.map_congr_left
    intro c hc
    rw [getAttrs_own (s ++ more) s c.attrs (ho c hc)]
  · apply List.map_congr_left
    intro a ha
    have : assocKeys (s ++ more) a = assocKeys s a := by
      unfold assocKeys
      cases hr : a.keysRef with
      | none => rfl
      | some idx =>
        have := hk a ha idx hr
        simp only [List.getElem?_append_left this]
    rw [this]

theorem applyMut_keysBound (s : List Stmt) (o : HMeta) (μ : Mut) (n : Nat) (hk : KeysBound o n) :
    KeysBound (applyMut s o μ).1 n := by
  have hfr := (applyMut_frame s o μ).2 .assocKeys (by cases μ <;> simp [Mut.writes])
  simp only [Unchanged] at hfr
  intro a ha idx hidx
  have : (a.stmt, a.keysRef) ∈ (applyMut s o μ).1.assocs.map (fun a => (a.stmt, a.keysRef)) :=
    List.mem_map.mpr ⟨a, ha, rfl⟩
  rw [hfr] at this
  obtain ⟨b, hb, hbe⟩ := List.mem_map.mp this
  simp only [Prod.mk.injEq] at hbe
  exact hk b hb idx (by rw [hbe.2]; exact hidx)

theorem mem_enumFrom_lt {α : Type} {n i : Nat} {x : α} {l : List α} (h : (i, x) ∈ enumFrom n l) : i < n + l.length := by
  have := List.snd_lt_add_of_mem_zipIdx (mem_enumFrom.mp h)
  omega

theorem assocStmtIdxs_lt (stmts : List Stmt) : ∀ i ∈ assocStmtIdxs stmts, i < stmts.length := by
  intro i hi
  unfold assocStmtIdxs at hi
  simp only [List.mem_filterMap] at hi
  obtain ⟨p, hp, hpi⟩ := hi
  have hlt : p.1 < 0 + stmts.length := mem_enumFrom_lt (x := p.2) (by simpa using hp)
  cases hs : p.2 with
  | assoc a => simp only [hs, Option.some.injEq] at hpi; omega
  | cls _ _ => simp [hs] at hpi
  | uniq _ _ _ => simp [hs] at hpi
  | insert _ _ _ => simp [hs] at hpi

theorem hbuild_allOwn (sh : Sharing) (hs : sh.classAttrsByRef = false) (stmts : List Stmt) (o : HMeta)
    (h : hbuild sh stmts = some o) : AllOwn o ∧ KeysBound o stmts.length := by
  unfold hbuild at h
  cases hb : build stmts with
  | none => simp [hb] at h
  | some m =>
    simp only [hb, Option.some.injEq] at h
    subst h
    constructor
    · intro c hc
      simp only [List.mem_map] at hc
      obtain ⟨d, _, rfl⟩ := hc
      simp only [wrapCls, hs]
      exact ⟨_, rfl⟩
    · intro a ha idx hidx
      simp only [List.mem_map] at ha
      obtain ⟨p, hp, rfl⟩ := ha
      simp only [wrapAssoc] at hidx
      by_cases hk : sh.assocKeysByRef
      · simp only [hk, if_true, Option.some.injEq] at hidx
        subst hidx
        exact assocStmtIdxs_lt stmts _ (List.of_mem_zip hp).2
      · simp [hk] at hidx

end Pyx.Heap
