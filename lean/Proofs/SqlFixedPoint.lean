import PyxModel.Sql.Build
import Proofs.SqlParser
import Proofs.Lib.CharLower

/-! the canonical form after one reload (type names upper-cased, unset values replaced by the null value): of an item
    (`canonItem`: it denotes the same statement as the original and is its own canonical form, `canon_stmt`, `canon_idem`)
    and of the attributes and rows of a class (`upAttrs`, `canonVals`: idempotent, and what `rowTexts` prints of them), in
    which SqlReload, SqlLinks and SqlTextFixed state the reloaded metamodel.  At the end: an ASCII text under every view
    `u` (`UC.upper_of_ascii` and its two consequences). -/
namespace Pyx.Sql
open Gen.SqlLex (Rule Kw)
open Gen.Persist (Ty)

def AsciiText (w : Text) : Prop := ∀ c ∈ w, c.toNat < 128

theorem asciiUpper_plain (c : Char) (h : c.toNat < 128) :
    (decide ((asciiUpper c).toNat < 128) && !isAsciiLower (asciiUpper c)) = true := by
  unfold asciiUpper
  split
  · rename_i hl
    simp only [isAsciiLower, Bool.and_eq_true, decide_eq_true_eq] at hl
    have hn : (Char.ofNat (c.toNat - 32)).toNat = c.toNat - 32 := toNat_ofNat (.inl (by omega))
    simp only [isAsciiLower, hn, Bool.and_eq_true, decide_eq_true_eq, Bool.not_eq_true', Bool.and_eq_false_iff,
      decide_eq_false_iff_not]
    omega
  · rename_i hl
    simp only [h, hl, decide_true, Bool.not_false, Bool.and_self]

theorem upper_ascii (u : UC) (w : Text) (h : AsciiText w) : u.upper w = w.map asciiUpper := by
  induction w with
  | nil => rfl
  | cons c cs ih =>
    rw [upper_cons_ascii u c cs (h c List.mem_cons_self), ih fun x hx => h x (List.mem_cons_of_mem _ hx), List.map_cons]

theorem upper_idem (u : UC) (w : Text) (h : AsciiText w) : u.upper (u.upper w) = u.upper w := by
  rw [upper_ascii u w h]
  exact u.upper_eq_self (List.all_map.trans (List.all_eq_true.mpr fun c hc => asciiUpper_plain c (h c hc)))

def upAttrs (u : UC) (attrs : List (Name × Name)) : List (Name × Name) := attrs.map fun a => (a.1, u.upper a.2)

/-- the value a cell holds after a reload: an unset cell holds the null value of its type -/
def canonVal (u : UC) (ty : Name) (v : Option Val) : Option Val :=
  match tyOfName u ty with
  | some t => resolveVal t v
  | none => v

def canonVals (u : UC) : List (Name × Name) → List (Option Val) → List (Option Val)
  | a :: attrs, v :: vs => canonVal u a.2 v :: canonVals u attrs vs
  | _, vs => vs

/-- the item as it is printed from the reloaded metamodel -/
def canonItem (u : UC) : Item → Item
  | .cls kind attrs => .cls kind (attrs.map fun a => (a.1, u.upper a.2))
  | .inst kind attrs vals => .inst kind (attrs.map fun a => (a.1, u.upper a.2)) (canonVals u attrs vals)
  | it => it

theorem resolveVal_idem (t : Ty) (v : Option Val) : resolveVal t (resolveVal t v) = resolveVal t v := by
  cases v with
  | some x => rfl
  | none =>
    simp only [resolveVal]
    cases h : nullOf t with
    | none => simp
    | some x => rfl

theorem cellText_inv {u : UC} {ty : Name} {v : Option Val} {txt : Text} (h : cellText u ty v = some txt) :
    ∃ t x, tyOfName u ty = some t ∧ resolveVal t v = some x ∧ fmtValue t x = some txt := by
  unfold cellText at h
  cases ht : tyOfName u ty with
  | none => rw [ht] at h; cases h
  | some t =>
    simp only [ht, printValue_eq] at h
    cases hx : resolveVal t v with
    | none => rw [hx] at h; cases h
    | some x => exact ⟨t, x, rfl, hx, by rw [hx] at h; exact h⟩

theorem rowTexts_cons {u : UC} {a : Name × Name} {attrs : List (Name × Name)} {v : Option Val} {vs : List (Option Val)}
    {texts : List Text} (h : rowTexts u (a :: attrs) (v :: vs) = some texts) :
    ∃ txt rest, cellText u a.2 v = some txt ∧ rowTexts u attrs vs = some rest ∧ texts = txt :: rest := by
  obtain ⟨nm, ty⟩ := a
  simp only [rowTexts] at h
  split at h <;> cases h
  exact ⟨_, _, ‹_›, ‹_›, rfl⟩

/-! Upper-casing a type name twice is upper-casing it once, for ASCII names (`upper_idem`) and for the names of the core
    types (`upper_upper_of_core`); what follows needs no more than that. -/

theorem tyOfName_upper (u : UC) (ty : Name) (h : u.upper (u.upper ty) = u.upper ty) : tyOfName u (u.upper ty) = tyOfName u ty := by
  simp only [tyOfName, h]

theorem canonVal_idem (u : UC) (ty : Name) (h : u.upper (u.upper ty) = u.upper ty) (v : Option Val) :
    canonVal u (u.upper ty) (canonVal u ty v) = canonVal u ty v := by
  unfold canonVal
  rw [tyOfName_upper u ty h]
  cases tyOfName u ty with
  | none => rfl
  | some t => exact resolveVal_idem t v

theorem cellText_canon (u : UC) (ty : Name) (h : u.upper (u.upper ty) = u.upper ty) (v : Option Val) :
    cellText u (u.upper ty) (canonVal u ty v) = cellText u ty v := by
  unfold cellText canonVal
  rw [tyOfName_upper u ty h]
  cases tyOfName u ty with
  | none => rfl
  | some t => simp only [printValue_eq, resolveVal_idem]

theorem canonVals_canon (u : UC) : ∀ (attrs : List (Name × Name)) (vals : List (Option Val)),
    (∀ a ∈ attrs, u.upper (u.upper a.2) = u.upper a.2) →
    canonVals u (upAttrs u attrs) (canonVals u attrs vals) = canonVals u attrs vals := by
  intro attrs
  induction attrs with
  | nil => intro vals _; cases vals <;> rfl
  | cons a attrs ih =>
    intro vals h
    cases vals with
    | nil => rfl
    | cons v vs =>
      simp only [upAttrs, List.map_cons, canonVals, canonVal_idem u a.2 (h a List.mem_cons_self) v]
      exact congrArg _ (ih vs fun a ha => h a (List.mem_cons_of_mem _ ha))

theorem canonVals_idem (u : UC) : ∀ (attrs : List (Name × Name)) (vals : List (Option Val)),
    (∀ a ∈ attrs, AsciiText a.2) →
    canonVals u (attrs.map fun a => (a.1, u.upper a.2)) (canonVals u attrs vals) = canonVals u attrs vals :=
  fun attrs vals h => canonVals_canon u attrs vals fun a ha => upper_idem u a.2 (h a ha)

theorem rowTexts_canon (u : UC) (attrs : List (Name × Name)) (vals : List (Option Val))
    (h : ∀ a ∈ attrs, u.upper (u.upper a.2) = u.upper a.2) :
    rowTexts u (upAttrs u attrs) (canonVals u attrs vals) = rowTexts u attrs vals := by
  induction attrs generalizing vals with
  | nil => rfl
  | cons a attrs ih =>
    obtain ⟨_, ty⟩ := a
    cases vals with
    | nil => rfl
    | cons v vs =>
      simp only [upAttrs, List.map_cons, canonVals, rowTexts, cellText_canon u ty (h _ List.mem_cons_self) v]
      rw [show attrs.map (fun a => (a.1, u.upper a.2)) = upAttrs u attrs from rfl,
        ih vs fun a ha => h a (List.mem_cons_of_mem _ ha)]

theorem canonVals_length (u : UC) : ∀ (attrs : List (Name × Name)) (vals : List (Option Val)),
    (canonVals u attrs vals).length = vals.length
  | [], _ => rfl
  | _ :: _, [] => rfl
  | _ :: attrs, _ :: vs => congrArg (· + 1) (canonVals_length u attrs vs)

theorem upAttrs_idem (u : UC) (attrs : List (Name × Name)) (h : ∀ a ∈ attrs, u.upper (u.upper a.2) = u.upper a.2) :
    upAttrs u (upAttrs u attrs) = upAttrs u attrs := by
  simp only [upAttrs, List.map_map]
  exact List.map_congr_left fun a ha => by simp only [Function.comp, h a ha]

/-- type names are ASCII (true of every identifier of the persistable domain) -/
def Item.AsciiTypes : Item → Prop
  | .cls _ attrs => ∀ a ∈ attrs, AsciiText a.2
  | .inst _ attrs _ => ∀ a ∈ attrs, AsciiText a.2
  | _ => True

/-- the reloaded form of an item denotes the SAME statement as the original: loading the text written from the
    reloaded metamodel gives the same statements again -/
theorem canon_stmt (u : UC) (it : Item) (h : it.AsciiTypes) : (canonItem u it).stmt u = it.stmt u := by
  cases it with
  | cls kind attrs =>
    exact congrArg (fun l => some (Stmt.createTable kind l)) (upAttrs_idem u attrs fun a ha => upper_idem u a.2 (h a ha))
  | inst kind attrs vals =>
    exact congrArg (fun o => match o with
      | some texts => some (Stmt.insert kind texts none)
      | none => none) (rowTexts_canon u attrs vals fun a ha => upper_idem u a.2 (h a ha))
  | assoc _ _ _ => rfl
  | index _ _ _ => rfl

/-- canonicalising twice is canonicalising once: the text written from the reloaded metamodel is reproduced by
    loading and writing it again -/
theorem canon_idem (u : UC) (it : Item) (h : it.AsciiTypes) : canonItem u (canonItem u it) = canonItem u it := by
  have hup : ∀ attrs : List (Name × Name), (∀ a ∈ attrs, AsciiText a.2) → ∀ a ∈ attrs, u.upper (u.upper a.2) = u.upper a.2 :=
    fun _ h a ha => upper_idem u a.2 (h a ha)
  cases it with
  | cls kind attrs => exact congrArg (Item.cls kind) (upAttrs_idem u attrs (hup attrs h))
  | inst kind attrs vals =>
    show Item.inst kind (upAttrs u (upAttrs u attrs)) (canonVals u (upAttrs u attrs) (canonVals u attrs vals)) = _
    rw [upAttrs_idem u attrs (hup attrs h), canonVals_canon u attrs vals (hup attrs h)]
    rfl
  | assoc _ _ _ => rfl
  | index _ _ _ => rfl

/-! ### an ASCII text under every view `u`

`u` is consulted only for code points ≥ 128, so what the model computes from an ASCII text through `upper` is what it computes
at `UC.ascii`: a statement "for every `u`" about a literal is one evaluation there. -/

instance (w : Text) : Decidable (AsciiText w) := by unfold AsciiText; infer_instance

theorem UC.upper_of_ascii (u : UC) {w : Text} (h : AsciiText w) : u.upper w = UC.ascii.upper w := by
  rw [upper_ascii u w h, upper_ascii UC.ascii w h]

theorem tyOfName_of_ascii (u : UC) {w : Text} (h : AsciiText w) : tyOfName u w = tyOfName UC.ascii w := by
  rw [tyOfName, tyOfName, u.upper_of_ascii h]

theorem attrNamesOk_of_ascii (u : UC) {attrs : List (Name × Name)} (h : ∀ a ∈ attrs, AsciiText a.1) :
    attrNamesOk u attrs = attrNamesOk UC.ascii attrs := by
  rw [attrNamesOk, attrNamesOk, List.map_congr_left fun a ha => u.upper_of_ascii (h a ha)]

end Pyx.Sql
