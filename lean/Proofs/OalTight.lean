import Proofs.OalLayout

/-!
  Tight layout (for property C07, re-exported there): lexemes written WITHOUT a separator where the pairwise,
  decidable test `tightOk u v` (PyxModel/Oal/LexClass.lean) allows it - `a+b`, `f(x)`, `x.y[1]`, `->B[R1]`,
  `self.A=1;`, `f(p:1)` - and with any non-empty layout elsewhere, are returned by the lexer of the generated
  rule table exactly: no token is split, merged or swallowed.

    layout_irrelevant_sem    every unit is followed by a text its follow condition `Fol.ok` accepts (`SemOk`; the
                             lexer on such a sequence is `lexAll_sem` of Proofs/OalLayout.lean)
    layout_irrelevant_tight  pairwise form: between two units either a non-empty layout string or nothing,
                             nothing only where `tightOk u v` (`PairOk`; `pair_sem` reduces it to `SemOk`: a follow
                             condition that accepts the next unit's lexeme accepts it with what follows, `fol_combine`)

  `tightOk` is sufficient, not necessary.  Refused although the real lexer splits them correctly (measured by
  the C13 harness on every pair of 62 representative units: 247 of 3844 pairs, all with a numeric literal on the
  left): NUMBER or FRACTION directly followed by a letter / `end if` / another numeric literal (`0x`, `1.5x`), and
  FRACTION directly followed by `+ - . -> ::` (the FRACTION regex has a sign and a dot class; `1.5+x` lexes fine).
  Every other refused pair really merges or splits differently (`a b`, `- >`, `= =`, `: :`, `1 .5`, `/ /`, `/ *`).
-/
namespace Pyx.OalLex

theorem layout_irrelevant_sem (sep0 : List Char) (units : List (LexUnit × List Char))
    (h0 : Layout0 sep0) (h : SemOk units) :
    (lex (sep0 ++ renderT units)).map (fun t => (t.kind, t.lexeme)) = (units.map (fun p => p.1.toks)).flatten := by
  unfold lex
  rw [lexWith_kl, lexAll_skip sep0 h0, lexAll_sem units h]

/-- the lexer returns at least one token for a unit, so its text is not empty -/
theorem text_cons (u : LexUnit) (hw : u.Well) : ∃ c vr, u.text = c :: vr := by
  cases h : u.text with
  | cons c vr => exact ⟨c, vr, rfl⟩
  | nil =>
    have := lexAll_unit u hw [] (fol_ok_nil _)
    rw [h] at this
    cases u <;> simp [LexUnit.toks, lexAll_nil] at this

theorem step_dblColon (r : List Char) : firstMatch Gen.OalLex.rules (':' :: ':' :: r) = some (R 11, 2) := by
  rw [firstMatch_cands, show cands (charClass ':') = [(R 11, .lit [':', ':']), (R 23, .lit [':'])] from by decide +kernel]
  simp [firstMatchK, runKey, scanLit, hasPrefix]

/-- after the one-character lexeme `:` no colon can follow: the lexer would have read `::`, not the unit's token -/
theorem colon_unit_follow (v : LexUnit) (hv : v.Well) (hvt : v.text = [':']) (t' : List Char)
    (ht' : v.fol.ok t' = true) : hasPrefix [':'] t' = false := by
  cases t' with
  | nil => rfl
  | cons d r =>
    cases hd : d == ':' with
    | false => simp [hasPrefix, hd]
    | true =>
      rw [beq_iff_eq] at hd
      subst hd
      have h1 := lexAll_unit v hv _ ht'
      -- `s`, `t` given: left to unification, `?s.length =?= 2` against the literal text is slow
      rw [hvt, show [':'] ++ ':' :: r = [':', ':'] ++ r from rfl,
        lexAll_step (s := [':', ':']) (t := r) (step_dblColon r), if_pos (by decide)] at h1
      -- the lexeme of the unit's first token is its text (the word, for `NS::`); here it would be `::`
      have h2 := congrArg (fun l => l.head?.map (·.2)) h1
      cases v <;> simp [LexUnit.toks, LexUnit.text] at h2 hvt <;> simp [← h2] at hvt

theorem fol_combine (f : Fol) (v : LexUnit) (hv : v.Well) (h : f.ok v.text = true) (t' : List Char)
    (ht' : v.fol.ok t' = true) : f.ok (v.text ++ t') = true := by
  obtain ⟨c, vr, hvt⟩ := text_cons v hv
  -- `dblColon` reads two characters: only a one-character lexeme lets it see `t'`, and after the lexeme `:` no `:` follows
  have key : dblColon (c :: vr) = false → dblColon (c :: (vr ++ t')) = false := by
    cases vr with
    | cons y ys => exact id
    | nil =>
      intro _
      by_cases hcc : c = ':'
      · simpa [dblColon, hasPrefix, hcc] using colon_unit_follow v hv (by rw [hvt, hcc]) t' ht'
      · simp [dblColon, hasPrefix, hcc]
  rw [hvt] at h ⊢
  rw [List.cons_append]
  cases f with
  | word | number | fraction =>
    simp only [Fol.ok, Bool.and_eq_true, Bool.not_eq_true'] at h ⊢
    exact ⟨h.1, key h.2⟩
  | any => simp [Fol.ok]
  | div | lit x => simpa [Fol.ok] using h

/-- pairwise form: between two units a layout string; where it is empty the pair must satisfy `tightOk`;
    a `/` token is not directly followed by a comment -/
inductive PairOk : List (LexUnit × List Char) → Prop
  | nil : PairOk []
  | single (u : LexUnit) (sep : List Char) :
      u.Well → Layout0 sep → (u.text = ['/'] → ∀ r, sep ≠ '/' :: r) → PairOk [(u, sep)]
  | cons (u : LexUnit) (sep : List Char) (v : LexUnit) (sepv : List Char) (rest : List (LexUnit × List Char)) :
      u.Well → Layout0 sep → (sep = [] → tightOk u v = true) → (u.text = ['/'] → ∀ r, sep ≠ '/' :: r) →
      PairOk ((v, sepv) :: rest) → PairOk ((u, sep) :: (v, sepv) :: rest)

theorem pair_sem (units : List (LexUnit × List Char)) (h : PairOk units) : SemOk units := by
  induction h with
  | nil => exact .nil
  | single u sep hw hsep hd =>
    exact .cons u sep [] hw hsep (fol_sep u hw sep _ hsep hd fun _ => fol_ok_nil _) .nil
  | cons u sep v sepv rest hw hsep ht hd _ ih =>
    refine .cons u sep _ hw hsep (fol_sep u hw sep _ hsep hd fun he => ?_) ih
    cases ih with
    | cons _ _ _ hvw _ hvf _ =>
      simp only [renderT, List.append_assoc]
      exact fol_combine u.fol v hvw (ht he) _ hvf

/-- layout_irrelevant_tight: units written with a non-empty layout string or - where `tightOk` allows it - with
    nothing between them are returned by the lexer of the generated rule table exactly, in order -/
theorem layout_irrelevant_tight (sep0 : List Char) (units : List (LexUnit × List Char))
    (h0 : Layout0 sep0) (h : PairOk units) :
    (lex (sep0 ++ renderT units)).map (fun t => (t.kind, t.lexeme)) = (units.map (fun p => p.1.toks)).flatten :=
  layout_irrelevant_sem sep0 units h0 (pair_sem units h)

/-- pairs that `tightOk` refuses because they would merge or split differently -/
example : tightOk (.word ['a']) (.word ['b']) = false ∧ tightOk (.lit 31) (.lit 29) = false ∧
    tightOk (.lit 18) (.lit 18) = false ∧ tightOk (.lit 23) (.lit 23) = false ∧
    tightOk (.number ['1']) (.lit 19) = false ∧ tightOk .div (.lit 22) = false ∧ tightOk .div .div = false ∧
    tightOk (.word ['x']) (.lit 11) = false ∧ tightOk (.lit 28) (.lit 18) = false := by decide +kernel

end Pyx.OalLex
