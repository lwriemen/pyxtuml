import Proofs.MetaState

/-! C02: on a schema whose `_find_link` look-ups are unambiguous (`SchemaOk`), `MetaClass.delete` disconnects every link of
    the deleted instance and touches no other pair (`delete_char`); all invariants through every history -/
namespace Pyx.Meta

/-- schema well-formedness under which `_find_link` resolves every association's own
    (kinds, number, phrase) to that association in the right direction; a reflexive association
    carries two distinct phrases -/
def SchemaOk (sch : Schema) : Prop :=
  ∀ i a, sch[i]? = some a →
    findLink sch a.tgtKind a.srcKind a.rel a.tgtPhrase = some (i, .fwd) ∧
    findLink sch a.srcKind a.tgtKind a.rel a.srcPhrase = some (i, .rev)

def schemaOkB (sch : Schema) : Bool :=
  (List.range sch.length).all fun i =>
    match sch[i]? with
    | none => true
    | some a =>
      findLink sch a.tgtKind a.srcKind a.rel a.tgtPhrase == some (i, .fwd) &&
      findLink sch a.srcKind a.tgtKind a.rel a.srcPhrase == some (i, .rev)

theorem schemaOk_of_check {sch : Schema} (h : schemaOkB sch = true) : SchemaOk sch := by
  intro i a ha
  have := (List.all_eq_true.mp h) i (List.mem_range.mpr (List.getElem?_eq_some_iff.1 ha).1)
  simp only [ha, Bool.and_eq_true, beq_iff_eq] at this
  exact this

def Typed (sch : Schema) (s : State) : Prop :=
  ∀ i x y, y ∈ (s.links i).src x → ∃ a, sch[i]? = some a ∧ s.kindOf x = a.tgtKind ∧ s.kindOf y = a.srcKind

theorem specAt_of_get {sch : Schema} {i : Nat} {a : AssocSpec} (h : sch[i]? = some a) : specAt sch i = a := by
  unfold specAt; simp [List.getD, h]

theorem Shrinks.typed {sch : Schema} {u : Inst} {s s' : State} (h : Shrinks sch u s' s) (ht : Typed sch s) : Typed sch s' := by
  intro i x y hm
  rw [h.kindOf]
  exact ht i x y (h.src hm)

theorem linksOfFrom_eq_flatMap (k : Kind) (sch : Schema) (n : Nat) : linksOfFrom k n sch =
    (sch.zipIdx n).flatMap fun p =>
      (if p.1.tgtKind = k then [(p.2, true, p.1.tgtPhrase)] else []) ++
      (if p.1.srcKind = k then [(p.2, false, p.1.srcPhrase)] else []) := by
  induction sch generalizing n with
  | nil => rfl
  | cons a rest ih => rw [linksOfFrom, ih, List.zipIdx_cons, List.flatMap_cons]

theorem mem_linksOf {sch : Schema} {k : Kind} {i : Nat} {b : Bool} {ph : String} :
    (i, b, ph) ∈ linksOf sch k ↔
      ∃ a, sch[i]? = some a ∧
        ((b = true ∧ a.tgtKind = k ∧ ph = a.tgtPhrase) ∨ (b = false ∧ a.srcKind = k ∧ ph = a.srcPhrase)) := by
  rw [linksOf, linksOfFrom_eq_flatMap, List.mem_flatMap]
  constructor
  · rintro ⟨⟨a, j⟩, hm, h⟩
    rw [List.mk_mem_zipIdx_iff_getElem?] at hm
    rcases List.mem_append.1 h with h | h <;> split at h <;> simp at h
    · obtain ⟨rfl, rfl, rfl⟩ := h; exact ⟨a, hm, Or.inl ⟨rfl, ‹_›, rfl⟩⟩
    · obtain ⟨rfl, rfl, rfl⟩ := h; exact ⟨a, hm, Or.inr ⟨rfl, ‹_›, rfl⟩⟩
  · rintro ⟨a, ha, h⟩
    refine ⟨(a, i), List.mk_mem_zipIdx_iff_getElem?.2 ha, List.mem_append.2 ?_⟩
    rcases h with ⟨rfl, hk, rfl⟩ | ⟨rfl, hk, rfl⟩
    · exact Or.inl (by simp [hk])
    · exact Or.inr (by simp [hk])

/-- the partner list that `MetaClass.delete` iterates for the link entry `e` of the class of `x` -/
def partners (s : State) (x : Inst) (e : Nat × Bool × String) : List Inst :=
  if e.2.1 then (s.links e.1).src x else (s.links e.1).tgt x

theorem unrelate_partner {sch : Schema} {s : State} (hok : SchemaOk sch) (hinv : Inv sch s) (ht : Typed sch s)
    {x y : Inst} {e : Nat × Bool × String} (he : e ∈ linksOf sch (s.kindOf x)) (hm : y ∈ partners s x e) :
    (unrelate sch s x y (specAt sch e.1).rel e.2.2).2 = .ok ∧
    partners (unrelate sch s x y (specAt sch e.1).rel e.2.2).1 x e = (partners s x e).erase y := by
  obtain ⟨i, b, ph⟩ := e
  obtain ⟨a, ha, hc⟩ := mem_linksOf.1 he
  have hsym := (hinv i).1
  show (unrelate sch s x y (specAt sch i).rel ph).2 = .ok ∧ _
  rw [specAt_of_get ha]
  rcases hc with ⟨rfl, hk, rfl⟩ | ⟨rfl, hk, rfl⟩
  · have hm' : y ∈ (s.links i).src x := hm
    -- `Typed` gives the kind of `y`, so the `_find_link` call of this `unrelate` is the one `SchemaOk` resolves to `i` itself
    obtain ⟨a', ha', _, hy⟩ := ht i x y hm'
    cases ha.symm.trans ha'
    have hf := (hok i a ha).1
    rw [hk, ← hy] at hf
    rw [unrelate_found hf]
    simp only [orient, unrelateOn_of_sym hsym, if_pos hm', partners, upd_same, if_true]
    exact ⟨trivial, trivial⟩
  · have hm' : x ∈ (s.links i).src y := (hsym y x).2 hm
    obtain ⟨a', ha', hy, _⟩ := ht i y x hm'
    cases ha.symm.trans ha'
    have hf := (hok i a ha).2
    rw [hk, ← hy] at hf
    rw [unrelate_found hf]
    simp only [orient, unrelateOn_of_sym hsym, if_pos hm', partners, upd_same, Bool.false_eq_true, if_false]
    exact ⟨trivial, trivial⟩

theorem unrelateAll_clears {sch : Schema} (hok : SchemaOk sch) {x : Inst} {e : Nat × Bool × String}
    (ys : List Inst) (s : State) (hinv : Inv sch s) (ht : Typed sch s) (he : e ∈ linksOf sch (s.kindOf x))
    (h : partners s x e = ys) :
    (unrelateAll sch x (specAt sch e.1).rel e.2.2 ys s).2 = .ok ∧
    partners (unrelateAll sch x (specAt sch e.1).rel e.2.2 ys s).1 x e = [] := by
  induction ys generalizing s with
  | nil => exact ⟨rfl, h⟩
  | cons y ys ih =>
    have hstep := unrelate_partner hok hinv ht he (h ▸ List.mem_cons_self)
    have hsh := unrelate_shrinks sch s x y (specAt sch e.1).rel e.2.2
    rw [unrelateAll]
    simp only [hstep.1, if_true]
    exact ih _ (hsh.inv hinv) (hsh.typed ht) (hsh.kindOf ▸ he) (by rw [hstep.2, h, List.erase_cons_head])

theorem partners_sub {sch : Schema} {u : Inst} {s' s : State} (h : Shrinks sch u s' s) {x y : Inst} {e : Nat × Bool × String}
    (hy : y ∈ partners s' x e) : y ∈ partners s x e := by
  unfold partners at hy ⊢
  split
  · exact ((h.links _).1 _).1.subset (by simpa [*] using hy)
  · exact ((h.links _).2 _).1.subset (by simpa [*] using hy)

theorem deleteLinks_clears {sch : Schema} (hok : SchemaOk sch) (x : Inst) (ls : List (Nat × Bool × String)) (s : State)
    (hinv : Inv sch s) (ht : Typed sch s) (hls : ∀ e ∈ ls, e ∈ linksOf sch (s.kindOf x)) :
    (deleteLinks sch x ls s).2 = .ok ∧ ∀ e ∈ ls, partners (deleteLinks sch x ls s).1 x e = [] := by
  induction ls generalizing s with
  | nil => exact ⟨rfl, nofun⟩
  | cons e rest ih =>
    have hin := unrelateAll_clears hok (partners s x e) s hinv ht (hls e List.mem_cons_self) rfl
    have hsh := unrelateAll_shrinks sch x (specAt sch e.1).rel e.2.2 (partners s x e) s
    have ih := ih _ (hsh.inv hinv) (hsh.typed ht) fun e' he' => hsh.kindOf ▸ hls e' (List.mem_cons_of_mem _ he')
    have h1 := hin.1
    unfold partners at h1
    rw [deleteLinks, if_pos h1]
    refine ⟨ih.1, fun e' he' => ?_⟩
    rcases List.mem_cons.1 he' with rfl | he'
    · -- the rest of the loop adds no link
      exact List.eq_nil_iff_forall_not_mem.2 fun y hy => nomatch hin.2 ▸ partners_sub (deleteLinks_shrinks sch x rest _) hy
    · exact ih.2 e' he'

theorem sublist_eq_filter {l' l : List Nat} (p : Nat → Bool) (hs : l'.Sublist l) (hn : l.Nodup)
    (hm : ∀ w, w ∈ l' ↔ w ∈ l ∧ p w = true) : l' = l.filter p :=
  have h1 : l'.Sublist (l.filter p) := (List.filter_eq_self.2 fun w hw => ((hm w).1 hw).2) ▸ hs.filter p
  h1.eq_of_length_le (List.Nodup.length_le_of_subset (hn.filter p) fun w hw => (hm w).2 (List.mem_filter.1 hw))

/-- THE effect of an accepted delete: it succeeds (no UnrelateException from the loop), the instance leaves its pool and
    every partner list loses exactly the deleted instance (its own lists become empty), in the order it had -/
theorem delete_char {sch : Schema} (hok : SchemaOk sch) {s : State} (hinv : Inv sch s) (ht : Typed sch s) {x : Inst}
    (hx : live s x) :
    (delete sch s x).2 = .ok ∧
    (delete sch s x).1.pool = upd s.pool (s.kindOf x) ((s.pool (s.kindOf x)).erase x) ∧
    (∀ j z, ((delete sch s x).1.links j).src z = ((s.links j).src z).filter (fun w => decide (w ≠ x ∧ z ≠ x))) ∧
    (∀ j z, ((delete sch s x).1.links j).tgt z = ((s.links j).tgt z).filter (fun w => decide (w ≠ x ∧ z ≠ x))) := by
  have hsh := deleteLinks_shrinks sch x (linksOf sch (s.kindOf x))
    { s with pool := upd s.pool (s.kindOf x) ((s.pool (s.kindOf x)).erase x) }
  have hsym := fun j => (hsh.inv hinv j).1
  rw [delete_of_live hx]
  have hcl := deleteLinks_clears hok x (linksOf sch (s.kindOf x))
    { s with pool := upd s.pool (s.kindOf x) ((s.pool (s.kindOf x)).erase x) } hinv ht fun _ he => he
  generalize deleteLinks sch x _ _ = r at hsh hsym hcl ⊢
  -- no pair of the result involves `x`: the lists of `x` were cleared, on both sides of every association of its class
  have gone : ∀ j z w, w ∈ (r.1.links j).src z → w ≠ x ∧ z ≠ x := by
    intro j z w hm
    obtain ⟨a, ha, hkz, hkw⟩ := ht j z w (hsh.src hm)
    constructor
    · rintro rfl
      have := hcl.2 _ (mem_linksOf.2 ⟨a, ha, Or.inr ⟨rfl, hkw.symm, rfl⟩⟩)
      have hm' := (hsym j z w).1 hm
      rw [show (r.1.links j).tgt w = [] from this] at hm'
      cases hm'
    · rintro rfl
      have := hcl.2 _ (mem_linksOf.2 ⟨a, ha, Or.inl ⟨rfl, hkz.symm, rfl⟩⟩)
      rw [show (r.1.links j).src z = [] from this] at hm
      cases hm
  refine ⟨hcl.1, hsh.pool, fun j z => ?_, fun j z => ?_⟩
  · refine sublist_eq_filter _ ((hsh.links j).1 z).1 ((hinv j).2.1.1 z) fun w => ?_
    rw [decide_eq_true_eq]
    exact ⟨fun hw => ⟨((hsh.links j).1 z).1.subset hw, gone j z w hw⟩, fun ⟨hw, hwx, hzx⟩ => ((hsh.links j).1 z).2 w hzx hwx hw⟩
  · refine sublist_eq_filter _ ((hsh.links j).2 z).1 ((hinv j).2.1.2 z) fun w => ?_
    rw [decide_eq_true_eq]
    exact ⟨fun hw => ⟨((hsh.links j).2 z).1.subset hw, (gone j w z ((hsym j w z).2 hw)).symm⟩,
      fun ⟨hw, hwx, hzx⟩ => ((hsh.links j).2 z).2 w hzx hwx hw⟩

/-- hence only live instances stay reachable: a remaining pair is an old pair of two other instances, which keep their
    liveness -/
theorem delete_liveOnly {sch : Schema} (hok : SchemaOk sch) {s : State} (hinv : Inv sch s) (ht : Typed sch s)
    (hl : LiveOnly s) (hp : PoolInv s) {x : Inst} (hx : live s x) :
    (delete sch s x).2 = .ok ∧ LiveOnly (delete sch s x).1 := by
  obtain ⟨hok', hpool, hsrc, _⟩ := delete_char hok hinv ht hx
  have hsh := delete_shrinks sch s x
  refine ⟨hok', fun j z w hm => ?_⟩
  rw [hsrc, List.mem_filter, decide_eq_true_eq] at hm
  have hlive : ∀ u, live s u → u ≠ x → live (delete sch s x).1 u := by
    intro u hu hne
    unfold live
    rw [hsh.kindOf, hsh.count, hpool]
    exact ⟨hu.1, (mem_upd_erase (hp _).1).2 ⟨hu.2, fun h => hne h.2⟩⟩
  exact ⟨hlive z (hl j z w hm.1).1 hm.2.2, hlive w (hl j z w hm.1).2 hm.2.1⟩

/-- the domain of `run_allInv_from`: relate applied to live instances only.  `relate` itself rejects an instance that is
    not in its pool, so the invariants hold for EVERY history (`step_allInv'`, `run_allInv_any`) and the domain is not
    needed for them. -/
def OpOk (s : State) : Op → Prop
  | .relate x y _ _ => live s x ∧ live s y
  | _ => True

def Dom (sch : Schema) : State → List Op → Prop
  | _, [] => True
  | s, op :: ops => OpOk s op ∧ Dom sch (step sch s op).1 ops

structure AllInv (sch : Schema) (s : State) : Prop where
  inv : Inv sch s
  typed : Typed sch s
  liveOnly : LiveOnly s
  pool : PoolInv s

theorem allInv_init (sch : Schema) : AllInv sch init :=
  ⟨inv_init sch, (fun _ _ _ h => nomatch h), (fun _ _ _ h => nomatch h), poolInv_init⟩

theorem step_allInv' {sch : Schema} (hok : SchemaOk sch) {s : State} (h : AllInv sch s) (op : Op) :
    AllInv sch (step sch s op).1 := by
  refine ⟨step_inv h.inv op, ?_, ?_, step_poolInv h.pool op⟩
  · cases op with
    | new k hid =>
      have ht := h.typed
      have hl := h.liveOnly
      show Typed sch (new s k hid).1
      intro i x y hm
      -- linked instances are live, hence below `count`: the fresh index overwrites neither kind
      obtain ⟨a, ha, h1, h2⟩ := ht i x y hm
      refine ⟨a, ha, ?_, ?_⟩
      · show upd s.kindOf s.count k x = _
        rw [upd_other _ _ (Nat.ne_of_lt (hl i x y hm).1.1), h1]
      · show upd s.kindOf s.count k y = _
        rw [upd_other _ _ (Nat.ne_of_lt (hl i x y hm).2.1), h2]
    | relate x y r p =>
      have ht := h.typed
      show Typed sch (relate sch s x y r p).1
      intro j z w hm
      rw [(relate_frame sch s x y r p).kindOf]
      rcases mem_relate_src hm with h | ⟨d, hf, _, rfl, rfl⟩
      · exact ht j z w h
      -- the one new pair has the kinds `_find_link` matched on
      · obtain ⟨a, ha, _, _, hfw, hrv⟩ := findLinkFrom_sound sch 0 j d hf
        refine ⟨a, ha, ?_⟩
        cases d
        · exact ⟨(hfw rfl).1.symm, (hfw rfl).2.1.symm⟩
        · exact ⟨(hrv rfl).2.1.symm, (hrv rfl).1.symm⟩
    | unrelate x y r p => exact (unrelate_shrinks sch s x y r p).typed h.typed
    | delete x => exact (delete_shrinks sch s x).typed h.typed
  · cases op with
    | new k hid => exact new_liveOnly h.pool h.liveOnly k hid
    | relate x y r p => exact relate_liveOnly h.liveOnly
    | unrelate x y r p => exact (unrelate_shrinks sch s x y r p).liveOnly h.liveOnly
    | delete x =>
      by_cases hx : live s x
      · exact (delete_liveOnly hok h.inv h.typed h.liveOnly h.pool hx).2
      · simp only [step]; rw [delete_dead_rejected sch s x hx]; exact h.liveOnly

theorem run_allInv_any {sch : Schema} (hok : SchemaOk sch) : ∀ (ops : List Op) (s : State), AllInv sch s →
    AllInv sch (ops.foldl (fun s op => (step sch s op).1) s) :=
  fun ops _ h => List.foldlRecOn ops _ h fun _ h op _ => step_allInv' hok h op

theorem run_allInv_from {sch : Schema} (hok : SchemaOk sch) : ∀ (ops : List Op) (s : State), AllInv sch s → Dom sch s ops →
    AllInv sch (ops.foldl (fun s op => (step sch s op).1) s) :=
  fun ops s h _ => run_allInv_any hok ops s h

end Pyx.Meta
