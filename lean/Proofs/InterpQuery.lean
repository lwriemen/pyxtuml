import Proofs.InterpPres
import Proofs.InterpLaws
import Proofs.Lib.Dedup

/-!
  Selection and navigation:
    * `select … where` is a filter (`filterAll_eq_filter`, `filterFirst_eq_find`);
    * `select many` is the duplicate-free result in encounter order (`dedup_nodup`, `mem_dedup`),
      `select any/one` its first element;
    * a navigation chain is the relational composition of its steps (`mem_navChain`), and one direct step is
      the image under the association's pair list (`mem_follow`).
-/
namespace Pyx.Interp
open M

section
variable {α : Type} [DecidableEq α]

/-- `select many`: no duplicates … -/
theorem dedup_nodup (l : List α) : (dedup l).Nodup := Dedup.nodup_foldl_step l

/-- … and exactly the instances found -/
theorem mem_dedup (l : List α) (y : α) : y ∈ dedup l ↔ y ∈ l := Dedup.mem_foldl_step l y

/-- … in encounter order: a duplicate-free result is kept as it is -/
theorem dedup_of_nodup (l : List α) (h : l.Nodup) : dedup l = l := Dedup.foldl_step_of_nodup l h

end

theorem filterAll_eq_filter {rec : Oracle} {wh : Expr} {p : Inst → Bool} {c : Cfg} :
    ∀ (cands : List Inst), (∀ i ∈ cands, evalWhere rec wh i c = some (.ok (p i, c))) →
      filterAll rec wh cands c = some (.ok (cands.filter p, c))
  | [], _ => rfl
  | i :: rest, hp => by
    have hi := hp i List.mem_cons_self
    have hrest := filterAll_eq_filter rest (fun j hj => hp j (List.mem_cons_of_mem _ hj))
    simp only [filterAll]
    rw [bind_ok hi, bind_ok hrest]
    cases hpi : p i <;> simp [List.filter, hpi, pure_run]

theorem filterFirst_eq_find {rec : Oracle} {wh : Expr} {p : Inst → Bool} {c : Cfg} :
    ∀ (cands : List Inst), (∀ i ∈ cands, evalWhere rec wh i c = some (.ok (p i, c))) →
      filterFirst rec wh cands c = some (.ok (cands.find? p, c))
  | [], _ => rfl
  | i :: rest, hp => by
    have hi := hp i List.mem_cons_self
    have hrest := filterFirst_eq_find rest (fun j hj => hp j (List.mem_cons_of_mem _ hj))
    simp only [filterFirst]
    rw [bind_ok hi]
    cases hpi : p i
    · simp only [Bool.false_eq_true, if_false, List.find?, hpi]; exact hrest
    · simp only [if_true, List.find?, hpi]; rfl

/-- `select many … where`: the candidates that satisfy the clause, each evaluated with `selected` bound to it -/
theorem select_many_where {rec : Oracle} {wh : Expr} {p : Inst → Bool} {c : Cfg} (cands : List Inst)
    (hp : ∀ i ∈ cands, evalWhere rec wh i c = some (.ok (p i, c))) :
    selectResult rec true cands (some wh) c = some (.ok (.set (dedup (cands.filter p)), c)) := by
  simp only [selectResult]
  rw [bind_ok (filterAll_eq_filter cands hp)]
  rfl

/-- `select any/one … where`: the first candidate that satisfies the clause, none if there is none -/
theorem select_any_where {rec : Oracle} {wh : Expr} {p : Inst → Bool} {c : Cfg} (cands : List Inst)
    (hp : ∀ i ∈ cands, evalWhere rec wh i c = some (.ok (p i, c))) :
    selectResult rec false cands (some wh) c =
      some (.ok ((match cands.find? p with | none => Val.none | some i => .inst i), c)) := by
  simp only [selectResult]
  rw [bind_ok (filterFirst_eq_find cands hp)]
  rfl

theorem select_many_plain (rec : Oracle) (cands : List Inst) (c : Cfg) :
    selectResult rec true cands none c = some (.ok (.set (dedup cands), c)) := rfl

theorem select_any_plain (rec : Oracle) (cands : List Inst) (c : Cfg) :
    selectResult rec false cands none c = some (.ok ((match cands with | [] => Val.none | i :: _ => .inst i), c)) := rfl

theorem mem_follow (st : State) (l : LinkRef) (i y : Inst) :
    y ∈ follow st l i ↔ (if l.toSource then (y, i) ∈ st.links l.k else (i, y) ∈ st.links l.k) := by
  unfold follow
  by_cases hl : l.toSource = true
  · rw [if_pos hl, if_pos hl, List.mem_filterMap]
    constructor
    · rintro ⟨⟨a, b⟩, hm, hp⟩
      by_cases hab : b = i
      · simp only [] at hp
        rw [if_pos hab] at hp
        cases hp
        rw [← hab]; exact hm
      · simp only [] at hp
        rw [if_neg hab] at hp; cases hp
    · intro hm; exact ⟨(y, i), hm, by simp⟩
  · rw [if_neg hl, if_neg hl, List.mem_filterMap]
    constructor
    · rintro ⟨⟨a, b⟩, hm, hp⟩
      by_cases hab : a = i
      · simp only [] at hp
        rw [if_pos hab] at hp
        cases hp
        rw [← hab]; exact hm
      · simp only [] at hp
        rw [if_neg hab] at hp; cases hp
    · intro hm; exact ⟨(i, y), hm, by simp⟩

def StepRel (C : Ctx) (st : State) (s : NavStep) (x y : Inst) : Prop := ∃ l, navStep C st x s = .ok l ∧ y ∈ l

def PathRel (C : Ctx) (st : State) : List NavStep → Inst → Inst → Prop
  | [], x, y => x = y
  | s :: rest, x, y => ∃ z, StepRel C st s x z ∧ PathRel C st rest z y

theorem mem_navStepList {C : Ctx} {st : State} {s : NavStep} : ∀ {l l' : List Inst},
    navStepList C st l s = .ok l' → ∀ z, z ∈ l' ↔ ∃ x ∈ l, StepRel C st s x z
  | [], l', h, z => by
    simp [navStepList] at h; subst h; simp
  | i :: rest, l', h, z => by
    unfold navStepList at h
    split at h
    · cases h
    · rename_i li hli
      split at h
      · cases h
      · rename_i lr hlr
        simp only [Except.ok.injEq] at h
        subst h
        have ih := mem_navStepList hlr z
        rw [List.mem_append, ih]
        constructor
        · rintro (hz | ⟨x, hx, hxz⟩)
          · exact ⟨i, List.mem_cons_self, li, hli, hz⟩
          · exact ⟨x, List.mem_cons_of_mem _ hx, hxz⟩
        · rintro ⟨x, hx, hxz⟩
          rcases List.mem_cons.1 hx with rfl | hx
          · obtain ⟨l2, h2, hz⟩ := hxz
            rw [hli] at h2
            simp only [Except.ok.injEq] at h2
            subst h2; exact Or.inl hz
          · exact Or.inr ⟨x, hx, hxz⟩

/-- chain navigation = relational composition of the steps, started from every element of the handle -/
theorem mem_navChain {C : Ctx} {st : State} : ∀ {steps : List NavStep} {start res : List Inst},
    navChain C st start steps = .ok res → ∀ y, y ∈ res ↔ ∃ x ∈ start, PathRel C st steps x y
  | [], start, res, h, y => by
    simp [navChain] at h; subst h
    simp [PathRel]
  | s :: rest, start, res, h, y => by
    unfold navChain at h
    split at h
    · cases h
    · rename_i l' hl'
      rw [mem_navChain h y]
      constructor
      · rintro ⟨z, hz, hp⟩
        obtain ⟨x, hx, hxz⟩ := (mem_navStepList hl' z).1 hz
        exact ⟨x, hx, z, hxz, hp⟩
      · rintro ⟨x, hx, z, hxz, hp⟩
        exact ⟨z, (mem_navStepList hl' z).2 ⟨x, hx, hxz⟩, hp⟩

theorem card_none : unop .card .none = .ok (.int 0) := rfl
theorem card_inst (i : Inst) : unop .card (.inst i) = .ok (.int 1) := rfl
theorem card_set (l : List Inst) : unop .card (.set l) = .ok (.int l.length) := rfl
theorem empty_none : unop .empty .none = .ok (.bool true) := rfl
theorem empty_inst (i : Inst) : unop .empty (.inst i) = .ok (.bool false) := rfl
theorem empty_set (l : List Inst) : unop .empty (.set l) = .ok (.bool l.isEmpty) := rfl
theorem notEmpty_is_not_empty (v : Val) (b : Bool) (h : unop .empty v = .ok (.bool b)) :
    unop .notEmpty v = .ok (.bool (!b)) := by
  cases v <;> simp [unop] at h ⊢ <;> simp [← h]

end Pyx.Interp
