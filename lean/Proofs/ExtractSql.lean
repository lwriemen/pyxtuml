import Proofs.SqlWfCheck
import Proofs.ExtractFuel
import PyxModel.Extract.ToSql

/-!
  C14, last clause — the SQL written for an extracted component is accepted by the loader and parses back to exactly the
  statements of its definitions (connection of `Pyx.Extract.extract` with the SQL model `Pyx.Sql`).
-/

namespace Pyx.Extract
open Pyx.Sql

/-- the lexical domain of the SQL dialect (C01): key letters, attribute names and (upper-cased) core type names
    are identifiers `[A-Za-z_][A-Za-z0-9_]*` that do not begin with `R<digit>` -/
structure NamesOk (u : UC) (d : ClassDiagram) : Prop where
  kls : ∀ c ∈ d.classes, IdentOk c.kl.toList
  attrs : ∀ c ∈ d.classes, ∀ a ∈ c.attrs, IdentOk a.name.toList
  types : ∀ t ∈ d.dts, ∀ n, t.kind = .core n → 1 ≤ n → n ≤ 5 → IdentOk (u.upper (upper t.name).toList)

/-- the quantifier prefix of `NamesOk.types` (and of `ReloadOk.coreTypes`) from a Boolean test `p` over the data types -/
theorem forall_core_of_test {dts : List DataType} {P : DataType → Prop} (p : DataType → Bool) (hp : ∀ t, p t = true → P t)
    (h : dts.all (fun t => match t.kind with
      | .core n => !(decide (1 ≤ n) && decide (n ≤ 5)) || p t
      | _ => true) = true) :
    ∀ t ∈ dts, ∀ n, t.kind = .core n → 1 ≤ n → n ≤ 5 → P t := by
  intro t ht n hk h1 h5
  have := List.all_eq_true.mp h t ht
  simp only [hk, h1, h5, decide_true, Bool.and_self, Bool.not_true, Bool.false_or] at this
  exact hp t this

theorem identOk_indexName (n : Nat) : IdentOk (indexName n) := by
  refine ⟨by simp [indexName], ?_, ?_, ?_⟩
  · intro c hc
    simp only [indexName, List.head?_cons, Option.some.injEq] at hc
    subst hc; decide
  · intro x hx
    simp only [indexName, List.tail_cons] at hx
    exact isAsciiWord_of_digit (natText_all_digit n x hx)
  · intro h
    simp only [indexName, List.head?_cons, Option.some.injEq] at h
    exact absurd h (by decide)

theorem relOk_relName (n : Nat) : RelOk (relName n) := by
  obtain ⟨d, ds, h⟩ := natText_cons n
  refine ⟨d, ds, by simp [relName, h], ?_⟩
  rw [← h]; exact natText_all_digit n

theorem identOk_INTEGER (u : UC) : IdentOk (u.upper "INTEGER".toList) := by
  rw [u.upper_of_ascii (by decide)]
  exact identOk_of_test (by decide)

theorem typeOk_of_attrTy {u : UC} {d : ClassDiagram} (names : NamesOk u d) {a : Attr} {ty : String}
    (h : attrTy d a = some ty) : IdentOk (u.upper ty.toList) := by
  obtain ⟨_, m⟩ := attrTy_mapsTo h
  rcases m.origin with rfl | ⟨t, ht, n, hk, h1, h5, rfl⟩
  · exact identOk_INTEGER u
  · exact names.types t ht n hk h1 h5

theorem classItem_wf {u : UC} {d : ClassDiagram} (names : NamesOk u d) (drv : Bool) {c : Class} (hc : c ∈ d.classes) :
    ((classOf d drv c).toM).item.WF u := by
  refine ⟨names.kls c hc, ?_⟩
  intro p hp
  simp only [SClass.toM, List.mem_map] at hp
  obtain ⟨s, hs, rfl⟩ := hp
  obtain ⟨a, ha, hn, _, hty⟩ := classOf_attr_mem.mp hs
  exact ⟨by rw [← hn]; exact names.attrs c hc a ha, typeOk_of_attrTy names hty⟩

theorem indexItems_wf {u : UC} {d : ClassDiagram} (names : NamesOk u d) (drv : Bool) {c : Class} (hc : c ∈ d.classes) :
    ∀ it ∈ ((classOf d drv c).toM).indexItems, it.WF u := by
  intro it hit
  simp only [ClassM.indexItems, SClass.toM, List.mem_map] at hit
  obtain ⟨ix, ⟨si, hsi, rfl⟩, rfl⟩ := hit
  refine ⟨identOk_indexName _, names.kls c hc, ?_⟩
  intro nm hnm
  obtain ⟨i, _, _, hnames, _, _⟩ := classOf_ident_mem.mp hsi
  simp only [List.mem_map] at hnm
  obtain ⟨s, hs, rfl⟩ := hnm
  rw [hnames] at hs
  obtain ⟨a, ha, rfl⟩ := List.mem_map.mp hs
  obtain ⟨j, _, hj⟩ := List.mem_filterMap.mp ha
  exact names.attrs c hc a (findAttr_mem hj)

def EndFrom (d : ClassDiagram) (e : SEnd) : Prop :=
  ∃ k ∈ d.classes, e.kind = k.kl ∧ ∀ key ∈ e.keys, ∃ a ∈ k.attrs, key = a.name

theorem endFrom_mk {d : ClassDiagram} {k : Class} (hk : k ∈ d.classes) (ids : List Nat) (m cd : Bool) (ph : String) :
    EndFrom d { kind := k.kl, keys := keyNames k ids, many := m, cond := cd, phrase := ph } := by
  refine ⟨k, hk, rfl, ?_⟩
  intro key hkey
  simp only [keyNames] at hkey
  obtain ⟨i, _, hi⟩ := List.mem_filterMap.mp hkey
  cases hf : k.findAttr i with
  | none => simp [hf] at hi
  | some a =>
    simp only [hf, Option.map_some, Option.some.injEq] at hi
    exact ⟨a, findAttr_mem hf, hi.symm⟩

theorem groupOf_ends {d : ClassDiagram} {r : Rel} {g : SGroup} (h : groupOf d r = some g) :
    ∀ a ∈ g.items, EndFrom d a.src ∧ EndFrom d a.tgt := by
  intro a ha
  obtain ⟨s, _, rc, tc, h1, h2, rfl⟩ := groupOf_mem h ha
  exact ⟨endFrom_mk (findClass_mem h1) _ _ _ _, endFrom_mk (findClass_mem h2) _ _ _ _⟩

theorem endOk_of_from {u : UC} {d : ClassDiagram} (names : NamesOk u d) {e : SEnd} (h : EndFrom d e) : EndOk e.toM := by
  obtain ⟨k, hk, hkind, hkeys⟩ := h
  refine ⟨by simp only [SEnd.toM, hkind]; exact names.kls k hk, ?_⟩
  intro key hkey
  simp only [SEnd.toM, List.mem_map] at hkey
  obtain ⟨s, hs, rfl⟩ := hkey
  obtain ⟨a, ha, rfl⟩ := hkeys s hs
  exact names.attrs k hk a ha

theorem mem_toMM_classes {d : ClassDiagram} {comp : Option Nat} {drv : Bool} {cm : ClassM}
    (h : cm ∈ ((extract d comp drv).toMM).classes) :
    ∃ c ∈ d.classes, inScope d.containers d.pkgrefs comp c.parent = true ∧ cm = (classOf d drv c).toM := by
  simp only [Schema.toMM, extract, List.mem_map] at h
  obtain ⟨s, ⟨c, hc, rfl⟩, rfl⟩ := h
  exact ⟨c, (List.mem_filter.mp hc).1, (List.mem_filter.mp hc).2, rfl⟩

theorem toMM_wf {u : UC} {d : ClassDiagram} (names : NamesOk u d) (comp : Option Nat) (drv : Bool) :
    ((extract d comp drv).toMM).WF u := by
  refine ⟨?_, ?_, ?_, ?_⟩
  · intro cm hcm
    obtain ⟨c, hc, _, rfl⟩ := mem_toMM_classes hcm
    exact classItem_wf names drv hc
  · intro cm hcm
    obtain ⟨c, hc, _, rfl⟩ := mem_toMM_classes hcm
    exact indexItems_wf names drv hc
  · intro cm hcm it hit
    obtain ⟨c, _, _, rfl⟩ := mem_toMM_classes hcm
    simp [ClassM.instItems, SClass.toM] at hit
  · intro am ham
    simp only [Schema.toMM, extract, List.mem_flatMap] at ham
    obtain ⟨g, hg, hag⟩ := ham
    obtain ⟨r, _, hr⟩ := List.mem_filterMap.mp hg
    simp only [SGroup.toM, List.mem_map] at hag
    obtain ⟨a, ha, rfl⟩ := hag
    obtain ⟨h1, h2⟩ := groupOf_ends hr a ha
    exact ⟨relOk_relName _, endOk_of_from names h1, endOk_of_from names h2⟩

def isDefItem : Item → Bool
  | .inst _ _ _ => false
  | _ => true

theorem printItems_defs (u : UC) : ∀ items : List Item, (∀ it ∈ items, isDefItem it = true) →
    ∃ text, printItems u items = some text :=
  fun items h => printItems_some_of_all u items fun it hit => by
    have hd := h it hit
    cases it <;> first | rfl | cases hd

theorem toMM_routes_defs (u : UC) (s : Schema) : ∀ r ∈ (s.toMM).routes u, ∀ it ∈ r, isDefItem it = true := by
  intro r hr it hit
  have h := itemOf_route u s.toMM r hr it hit
  match it, h with
  | .inst _ _ _, ⟨c, hc, _, _, hv⟩ =>
    -- a row of a class of `s.toMM`: there is none
    simp only [Schema.toMM, List.mem_map] at hc
    obtain ⟨sc, _, rfl⟩ := hc
    cases hv
  | .cls _ _, _ => rfl
  | .index _ _ _, _ => rfl
  | .assoc _ _ _, _ => rfl

/-- what `populate_classes` / `populate_unique_identifiers` / `populate_associations` pass on to `define_class`,
    `define_unique_identifier` and `define_association` for one statement (`'M' in cardinality`,
    `'C' in cardinality`), as an item again -/
def stmtDef : Stmt → Option Item
  | .createTable kind attrs => some (.cls kind attrs)
  | .createRop rel sk sc skeys sp tk tc tkeys tp =>
    some (.assoc rel ⟨sc.contains 'M', sc.contains 'C', sk, skeys, sp⟩ ⟨tc.contains 'M', tc.contains 'C', tk, tkeys, tp⟩)
  | .createIndex kind name attrs => some (.index name kind attrs)
  | .insert _ _ _ => none

theorem stmtDef_stmt (u : UC) (it : Item) (h : isDefItem it = true) :
    (it.stmt u).bind stmtDef = some (canonItem u it) := by
  cases it with
  | inst k a v => simp [isDefItem] at h
  | cls k a => rfl
  | index n k a => rfl
  | assoc r s t =>
    cases s; cases t
    simp only [Item.stmt, Option.bind_some, stmtDef, canonItem, cardText_M, cardText_C]

theorem itemsStmts_defs (u : UC) (items : List Item) (stmts : List Stmt) (hd : ∀ it ∈ items, isDefItem it = true)
    (h : itemsStmts u items = some stmts) : stmts.filterMap stmtDef = items.map (canonItem u) := by
  have : stmts.filterMap stmtDef = (stmts.map some).filterMap (·.bind stmtDef) := by rw [List.filterMap_map]; rfl
  rw [this, ← itemsStmts_eq_some.mp h, List.filterMap_map, ← List.filterMap_eq_map]
  exact filterMap_congr' fun it hit => stmtDef_stmt u it (hd it hit)

/-- THE RELOAD THEOREM at statement level: every writer route of an extracted component prints, the loader accepts
    the text, the statements are those of the route's items, and the definitions they carry are the route's items
    (type names upper-cased) -/
theorem reload_routes {u : UC} {d : ClassDiagram} (names : NamesOk u d) (comp : Option Nat) (drv : Bool)
    (r : List Item) (hr : r ∈ ((extract d comp drv).toMM).routes u) :
    ∃ text stmts, printItems u r = some text ∧ itemsStmts u r = some stmts ∧ classify u text = .accepted stmts ∧
      stmts.filterMap stmtDef = r.map (canonItem u) := by
  have hdefs := toMM_routes_defs u (extract d comp drv) r hr
  obtain ⟨text, ht⟩ := printItems_defs u r hdefs
  obtain ⟨stmts, hs, hc⟩ := Pyx.Sql.route_roundtrip u _ (toMM_wf names comp drv) r hr text ht
  exact ⟨text, stmts, ht, hs, hc, itemsStmts_defs u r stmts hdefs hs⟩

end Pyx.Extract
