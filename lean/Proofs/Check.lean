import PyxModel.Check

/-! C11: the counts of PyxModel/Check.lean in closed form — sums over the associations; per identifier, the instances
    repeating an earlier key -/
namespace Pyx.Check
open Pyx.Meta

theorem checkAssocFrom_eq (w : World) (rel : Option String) : ∀ (l : Schema) (n : Nat),
    checkAssocFrom w rel n l =
      ((List.range l.length).map (fun j =>
        if rel = none ∨ rel = some (specAt l j).rel then checkLink w (n + j) true + checkLink w (n + j) false
        else 0)).sum
  | [], n => by simp [checkAssocFrom]
  | a :: rest, n => by
    rw [checkAssocFrom, checkAssocFrom_eq w rel rest (n + 1)]
    simp only [specAt, List.length_cons, List.range_succ_eq_map, List.map_cons, List.sum_cons, List.map_map,
      List.getD_cons_zero, Nat.add_zero]
    congr 2
    apply List.map_congr_left
    intro j _
    simp only [Function.comp, List.getD_cons_succ]
    have : n + 1 + j = n + (j + 1) := by omega
    rw [this]
    rfl

theorem checkAssoc_eq (w : World) (rel : Option String) :
    checkAssoc w rel = ((List.range w.sch.length).map fun j =>
      if rel = none ∨ rel = some (specAt w.sch j).rel then checkLink w j true + checkLink w j false else 0).sum := by
  unfold checkAssoc
  rw [checkAssocFrom_eq]
  simp only [Nat.zero_add]

theorem sum_pos_iff {α : Type} (f : α → Nat) (l : List α) : 0 < (l.map f).sum ↔ ∃ x ∈ l, 0 < f x := by
  rw [List.sum_pos_iff_exists_pos_nat]
  constructor
  · rintro ⟨_, hm, hp⟩
    obtain ⟨x, hx, rfl⟩ := List.mem_map.mp hm
    exact ⟨x, hx, hp⟩
  · rintro ⟨x, hx, hp⟩
    exact ⟨f x, List.mem_map_of_mem hx, hp⟩

theorem sum_eq_zero_iff {α : Type} (f : α → Nat) (l : List α) : (l.map f).sum = 0 ↔ ∀ x ∈ l, f x = 0 := by
  rw [List.sum_eq_zero_iff_forall_eq_nat, List.forall_mem_map]

/-- "instances repeating an earlier instance's identifier": an instance counts when its key equals
    the key of an instance seen before it -/
def repeatsSpec {κ : Type} [BEq κ] (key : Inst → κ) : List Inst → List κ → Nat
  | [], _ => 0
  | x :: xs, seen => (if seen.contains (key x) then 1 else 0) + repeatsSpec key xs (key x :: seen)

abbrev Key := List (String × Option Int)

/-- the tagged seen-list restricted to one identifier -/
def seenOf (name : String) (seen : List (String × Key)) : List Key :=
  (seen.filter (fun p => p.1 == name)).map (·.2)

theorem seenOf_cons (name n : String) (k : Key) (seen : List (String × Key)) :
    seenOf name ((n, k) :: seen) = if n = name then k :: seenOf name seen else seenOf name seen := by
  unfold seenOf
  by_cases h : n = name
  · subst h; simp
  · have : (n == name) = false := by simpa using h
    simp [this, h]

theorem contains_tagged (name : String) (k : Key) (seen : List (String × Key)) :
    seen.contains (name, k) = (seenOf name seen).contains k := by
  induction seen with
  | nil => rfl
  | cons p ps ih =>
    obtain ⟨n, k'⟩ := p
    rw [seenOf_cons, List.contains_cons, ih]
    by_cases hn : n = name
    · subst hn
      rw [if_pos rfl, List.contains_cons]
      congr 1
      exact Bool.eq_iff_iff.mpr (by simp)
    · rw [if_neg hn]
      have : ((name, k) == (n, k')) = false := by
        simp only [beq_eq_false_iff_ne, ne_eq, Prod.mk.injEq, not_and]
        exact fun h => absurd h.symm hn
      rw [this, Bool.false_or]

def uStep (val : Inst → String → Option Int) (x : Inst) (acc : Nat × List (String × Key)) (idn : String × List String) :
    Nat × List (String × Key) :=
  ((if acc.2.contains (idn.1, identKey val x idn.2) then acc.1 + 1 else acc.1), (idn.1, identKey val x idn.2) :: acc.2)

theorem uniqStep_eq (ci : ClassInfo) (val : Inst → String → Option Int) (x : Inst) (seen : List (String × Key)) :
    uniqStep ci val x seen = ci.idents.foldl (uStep val x) (0, seen) := rfl

theorem foldl_uStep (val : Inst → String → Option Int) (x : Inst) : ∀ (ids : List (String × List String))
    (c : Nat) (seen : List (String × Key)), (ids.map (·.1)).Nodup →
    (ids.foldl (uStep val x) (c, seen)).1 =
      c + (ids.map (fun idn => if (seenOf idn.1 seen).contains (identKey val x idn.2) then 1 else 0)).sum ∧
    (∀ nm, nm ∉ ids.map (·.1) → seenOf nm (ids.foldl (uStep val x) (c, seen)).2 = seenOf nm seen) ∧
    (∀ idn ∈ ids, seenOf idn.1 (ids.foldl (uStep val x) (c, seen)).2 = identKey val x idn.2 :: seenOf idn.1 seen)
  | [], c, seen, _ => by simp
  | i0 :: rest, c, seen, hnd => by
    have hnd' : (rest.map (·.1)).Nodup := (List.nodup_cons.mp hnd).2
    have hi0 : i0.1 ∉ rest.map (·.1) := (List.nodup_cons.mp hnd).1
    have ih := foldl_uStep val x rest
      (if seen.contains (i0.1, identKey val x i0.2) then c + 1 else c) ((i0.1, identKey val x i0.2) :: seen) hnd'
    simp only [List.foldl_cons, uStep] at ih ⊢
    refine ⟨?_, ?_, ?_⟩
    · rw [ih.1]
      -- identifier names are distinct, so the seen-list of one name changes only at that identifier's own step
      have hrest : ∀ idn ∈ rest, seenOf idn.1 ((i0.1, identKey val x i0.2) :: seen) = seenOf idn.1 seen := by
        intro idn hidn
        rw [seenOf_cons]
        have : i0.1 ≠ idn.1 := fun h => hi0 (h ▸ List.mem_map.mpr ⟨idn, hidn, rfl⟩)
        simp [this]
      have hsum : (rest.map (fun idn => if (seenOf idn.1 ((i0.1, identKey val x i0.2) :: seen)).contains
            (identKey val x idn.2) then 1 else 0)).sum =
          (rest.map (fun idn => if (seenOf idn.1 seen).contains (identKey val x idn.2) then 1 else 0)).sum := by
        congr 1
        apply List.map_congr_left
        intro idn hidn; rw [hrest idn hidn]
      rw [hsum, contains_tagged]
      simp only [List.map_cons, List.sum_cons]
      split <;> omega
    · intro nm hnm
      simp only [List.map_cons, List.mem_cons, not_or] at hnm
      rw [ih.2.1 nm hnm.2, seenOf_cons]
      have : i0.1 ≠ nm := fun h => hnm.1 h.symm
      simp [this]
    · intro idn hidn
      rcases List.mem_cons.mp hidn with rfl | hidn
      · rw [ih.2.1 _ hi0, seenOf_cons]; simp
      · rw [ih.2.2 idn hidn, seenOf_cons]
        have : i0.1 ≠ idn.1 := fun h => hi0 (h ▸ List.mem_map.mpr ⟨idn, hidn, rfl⟩)
        simp [this]

/-- what `check_uniqueness_constraint` must report for one class: null identifying values plus, per
    identifier, the instances repeating an earlier instance's identifier -/
def uniqSpec (ci : ClassInfo) (val : Inst → String → Option Int) (pool : List Inst) (seen : List (String × Key)) : Nat :=
  (pool.map (nullCount ci val)).sum +
    (ci.idents.map (fun idn => repeatsSpec (fun x => identKey val x idn.2) pool (seenOf idn.1 seen))).sum

theorem sum_map_add {α : Type} (f g : α → Nat) : ∀ (l : List α),
    (l.map (fun a => f a + g a)).sum = (l.map f).sum + (l.map g).sum
  | [] => rfl
  | a :: l => by simp only [List.map_cons, List.sum_cons, sum_map_add f g l]; omega

theorem uniqLoop_eq (ci : ClassInfo) (val : Inst → String → Option Int) (hnd : (ci.idents.map (·.1)).Nodup) :
    ∀ (pool : List Inst) (seen : List (String × Key)), uniqLoop ci val pool seen = uniqSpec ci val pool seen
  | [], seen => by
    have hz : ∀ (l : List (String × List String)),
        (l.map (fun idn => repeatsSpec (fun x => identKey val x idn.2) [] (seenOf idn.1 seen))).sum = 0 := by
      intro l
      induction l with
      | nil => rfl
      | cons a l ih =>
        rw [List.map_cons, List.sum_cons, ih]; rfl
    unfold uniqLoop uniqSpec
    rw [hz]; rfl
  | x :: xs, seen => by
    have hf := foldl_uStep val x ci.idents 0 seen hnd
    rw [uniqLoop, uniqStep_eq, uniqLoop_eq ci val hnd xs, hf.1]
    unfold uniqSpec
    have hseen : ∀ idn ∈ ci.idents, seenOf idn.1 (ci.idents.foldl (uStep val x) (0, seen)).2 =
        identKey val x idn.2 :: seenOf idn.1 seen := hf.2.2
    have hmap : (ci.idents.map (fun idn => repeatsSpec (fun x => identKey val x idn.2) xs
          (seenOf idn.1 (ci.idents.foldl (uStep val x) (0, seen)).2))) =
        (ci.idents.map (fun idn => repeatsSpec (fun x => identKey val x idn.2) xs
          (identKey val x idn.2 :: seenOf idn.1 seen))) := by
      apply List.map_congr_left
      intro idn hidn; rw [hseen idn hidn]
    rw [hmap]
    simp only [List.map_cons, List.sum_cons, repeatsSpec, Nat.zero_add]
    rw [sum_map_add]
    omega

theorem repeatsSpec_zero {κ : Type} [BEq κ] [LawfulBEq κ] (key : Inst → κ) : ∀ (l : List Inst) (seen : List κ),
    (l.map key).Nodup → (∀ x ∈ l, key x ∉ seen) → repeatsSpec key l seen = 0
  | [], _, _, _ => rfl
  | x :: xs, seen, hnd, hs => by
    have hx : key x ∉ seen := hs x (by simp)
    have hnd' : key x ∉ xs.map key ∧ (xs.map key).Nodup := by
      rw [List.map_cons] at hnd; exact List.nodup_cons.mp hnd
    unfold repeatsSpec
    have : seen.contains (key x) = false := by simpa using hx
    rw [this, repeatsSpec_zero key xs (key x :: seen) hnd'.2]
    · rfl
    · intro y hy
      simp only [List.mem_cons, not_or]
      refine ⟨?_, hs y (by simp [hy])⟩
      intro h
      exact hnd'.1 (h ▸ List.mem_map.mpr ⟨y, hy, rfl⟩)

end Pyx.Check

/-! ### `check_subtype_integrity` counts the supertype instances without any subtype partner -/
namespace Pyx.Check
open Pyx.Meta Pyx.Query

/-- does navigating from `x` to the link key's class over `rel` (phrase '') yield nothing? (`false` if it raises) -/
def keyEmpty (sch : Schema) (s : State) (x : Inst) (rel : String) (e : LinkEntry) : Bool :=
  match navigate sch s x e.toKind rel "" with
  | some l => l.isEmpty
  | none => false

/-- every link key with the rel id has an empty partner list for `x` -/
def noSubtype (sch : Schema) (s : State) (x : Inst) (rel : String) (d : List LinkEntry) : Bool :=
  d.all (fun e => !(e.rel == rel) || keyEmpty sch s x rel e)

theorem navSubtypeFrom_nothing_iff (sch : Schema) (s : State) (x : Inst) (rel : String) : ∀ (d : List LinkEntry),
    (∀ e ∈ d, e.rel = rel → ∃ l, navigate sch s x e.toKind rel "" = some l) →
    (match navSubtypeFrom sch s x rel d with
      | some (some _) => false
      | _ => true) = noSubtype sch s x rel d
  | [], _ => rfl
  | e :: r, h => by
    have ih := navSubtypeFrom_nothing_iff sch s x rel r (fun e' he' => h e' (by simp [he']))
    unfold navSubtypeFrom noSubtype
    by_cases he : e.rel = rel
    · obtain ⟨l, hl⟩ := h e (by simp) he
      simp only [he, beq_self_eq_true, ↓reduceIte, hl, List.all_cons, Bool.not_true, Bool.false_or, keyEmpty]
      cases l with
      | nil =>
        simp only [List.head?_nil, List.isEmpty_nil, Bool.true_and]
        exact ih
      | cons y t => simp
    · have hb : (e.rel == rel) = false := by simpa using he
      simp only [hb, Bool.false_eq_true, ↓reduceIte, List.all_cons, Bool.not_false, Bool.true_or, Bool.true_and]
      exact ih

/-- DECLARATIVE reading of "instances repeating an earlier instance's identifier": the number of positions `j`
    of the pool whose key also occurs at some EARLIER position (or in `seen`) -/
def repeatsDecl {κ : Type} [BEq κ] (key : Inst → κ) (l : List Inst) (seen : List κ) : Nat :=
  (List.range l.length).countP fun j =>
    seen.contains (key (l.getD j 0)) || ((l.take j).map key).contains (key (l.getD j 0))

theorem repeatsSpec_eq_decl {κ : Type} [BEq κ] (key : Inst → κ) (l : List Inst) (seen : List κ) :
    repeatsSpec key l seen = repeatsDecl key l seen := by
  induction l generalizing seen with
  | nil => simp [repeatsSpec, repeatsDecl]
  | cons x xs ih =>
    unfold repeatsSpec
    rw [ih]
    unfold repeatsDecl
    simp only [List.length_cons, List.range_succ_eq_map, List.countP_cons, List.countP_map]
    have h0 : (seen.contains (key ((x :: xs).getD 0 0)) || (((x :: xs).take 0).map key).contains (key ((x :: xs).getD 0 0)))
        = seen.contains (key x) := by simp
    rw [h0]
    have hfun : ((fun j => seen.contains (key ((x :: xs).getD j 0)) ||
          (((x :: xs).take j).map key).contains (key ((x :: xs).getD j 0))) ∘ Nat.succ)
        = fun j => (key x :: seen).contains (key (xs.getD j 0)) || ((xs.take j).map key).contains (key (xs.getD j 0)) := by
      funext j
      simp only [Function.comp, List.getD_cons_succ, List.take_succ_cons, List.map_cons, List.contains_cons]
      cases (key (xs.getD j 0) == key x) <;> cases seen.contains (key (xs.getD j 0)) <;> simp
    rw [hfun]
    omega

end Pyx.Check
