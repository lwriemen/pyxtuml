import Proofs.OSetShape
import Proofs.OSetPtr

/-!
  C17 source tie, second part: the observers `first` / `last`, the whole op language `applyP` / `runP` of the pointer-level
  model, and `pop(last)` are the generic interpretation (Proofs/OSetShape.lean) of the IR generated from `OrderedSet`.
-/
namespace Pyx.OShape
open Pyx.OSetPtr Pyx.Gen.OSetShape

/-- `next(<generator of shape w>, None)`: the first key the walk yields -/
def iFirst (w : WalkShape) (s : Store) : Option Nat := (iToList w s).head?

theorem iFirst_eq (w : WalkShape) (s : Store) (h : 0 < s.fresh) :
    iFirst w s = if fieldOf s w.startField 0 = 0 then none else some (s.key (fieldOf s w.startField 0)) := by
  unfold iFirst iToList
  obtain ⟨f, hf⟩ : ∃ f, s.fresh = f + 1 := ⟨s.fresh - 1, by omega⟩
  rw [hf]
  unfold iWalkCells
  by_cases hc : fieldOf s w.startField 0 = 0 <;> simp [hc]

theorem ptrFirst_eq (s : Store) (h : 0 < s.fresh) : ptrFirst s = iFirst iterShape s := by
  rw [iFirst_eq _ _ h]; simp [ptrFirst, iterShape, fieldOf]

theorem ptrLast_eq (s : Store) (h : 0 < s.fresh) : ptrLast s = iFirst reversedShape s := by
  rw [iFirst_eq _ _ h]; simp [ptrLast, reversedShape, fieldOf]

/-- the op language of the pointer-level model over ANY add / discard programs and walk shapes -/
def iApplyP (addP dis : Guarded) (it rev : WalkShape) : POp → Store → Store
  | .add k, s => iGuarded addP k s
  | .discard k, s => iGuarded dis k s
  | .iterRm ks, s => (iIterRem it dis (fun k => decide (k ∈ ks)) s.fresh s (fieldOf s it.startField 0)).2
  | .riterRm ks, s => (iIterRem rev dis (fun k => decide (k ∈ ks)) s.fresh s (fieldOf s rev.startField 0)).2

def iRunP (addP dis : Guarded) (it rev : WalkShape) (ops : List POp) : Store :=
  ops.foldl (fun s op => iApplyP addP dis it rev op s) empty

theorem applyP_eq (op : POp) (s : Store) : applyP op s = iApplyP addProg discardProg iterShape reversedShape op s := by
  cases op with
  | add k => exact add_eq k s
  | discard k => exact discard_eq k s
  | iterRm ks => simp only [applyP, iApplyP, iterRem_eq]; simp [iterShape, fieldOf]
  | riterRm ks => simp only [applyP, iApplyP, reversedRem_eq]; simp [reversedShape, fieldOf]

theorem runP_eq (ops : List POp) : runP ops = iRunP addProg discardProg iterShape reversedShape ops := by
  unfold runP iRunP
  congr 1
  funext s op
  exact applyP_eq op s

/-- `pop(last)`: `if not self: raise KeyError`; `key = self.end[1][0]` (last) / `self.end[2][0]` (first);
    `self.discard(key)`; `return key`.  `none` = KeyError.  The body of `pop` is compared verbatim by the translator (it is not
    part of the IR); `discard` is the generated program, the emptiness test is the model's `len`. -/
def iPop (dis : Guarded) (last : Bool) (s : Store) : Option (Nat × Store) :=
  if len s = 0 then none
  else
    let key := s.key (fieldOf s (if last then 1 else 2) 0)
    some (key, iGuarded dis key s)

theorem iPop_refines (s : Store) (L : List Nat) (h : Repr s L) (last : Bool) :
    (L = [] → iPop discardProg last s = none) ∧
    (∀ k, (if last then L.getLast? else L.head?) = some k →
      iPop discardProg last s = some (k, OSetPtr.discard k s) ∧ Repr (OSetPtr.discard k s) (L.erase k)) := by
  obtain ⟨as, ha⟩ := h
  obtain ⟨h1, h2, _, h4⟩ := reprA_observers ha
  refine ⟨fun hL => by simp [iPop, h4, hL], fun k hk => ?_⟩
  have hne : L.length ≠ 0 := by
    intro h0
    have : L = [] := List.eq_nil_of_length_eq_zero h0
    subst this
    cases last <;> simp at hk
  -- `ptrLast` / `ptrFirst` read the key off the cell in field 1 / 2 of the sentinel, as `iPop` does
  have hkey : s.key (fieldOf s (if last = true then 1 else 2) 0) = k := by
    have hp : (if fieldOf s (if last = true then 1 else 2) 0 = 0 then none
        else some (s.key (fieldOf s (if last = true then 1 else 2) 0))) = some k := by
      cases last
      · exact h1.trans hk
      · exact h2.trans hk
    generalize fieldOf s (if last = true then 1 else 2) 0 = c at hp ⊢
    split at hp
    · cases hp
    · exact Option.some.inj hp
  refine ⟨?_, repr_discard ⟨as, ha⟩ k⟩
  unfold iPop
  rw [h4, if_neg hne]
  simp only [hkey, ← discard_eq]

end Pyx.OShape
