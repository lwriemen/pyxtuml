import Proofs.InterpPres

/-!
  Fuel monotonicity of the reference interpreter `Spec`.

  `M.le m m'`: every result `m` delivers (a value or an error — anything but "out of fuel") is
  delivered by `m'` too.  Each level of the interpreter is monotone in its oracle, hence
  `run C n ≤ run C m` for `n ≤ m`.
-/
namespace Pyx.Interp
open M

def M.le {α : Type} (m m' : M α) : Prop := ∀ c r, m c = some r → m' c = some r

def Oracle.le (r r' : Oracle) : Prop :=
  (∀ e, M.le (r.eval e) (r'.eval e)) ∧ (∀ s, M.le (r.exec s) (r'.exec s))

theorem M.le_refl {α : Type} (m : M α) : M.le m m := fun _ _ h => h

theorem M.le_trans {α : Type} {a b c : M α} (h1 : M.le a b) (h2 : M.le b c) : M.le a c :=
  fun x r h => h2 x r (h1 x r h)

theorem Oracle.le_refl (r : Oracle) : Oracle.le r r := ⟨fun _ => M.le_refl _, fun _ => M.le_refl _⟩

theorem Oracle.le_trans {a b c : Oracle} (h1 : Oracle.le a b) (h2 : Oracle.le b c) : Oracle.le a c :=
  ⟨fun e => M.le_trans (h1.1 e) (h2.1 e), fun s => M.le_trans (h1.2 s) (h2.2 s)⟩

theorem M.bind_le {α β : Type} {m m' : M α} {f f' : α → M β}
    (hm : M.le m m') (hf : ∀ a, M.le (f a) (f' a)) : M.le (m >>= f) (m' >>= f') := fun c r h => by
  rcases bind_inv h with ⟨e, he, rfl⟩ | ⟨a, c1, h1, h2⟩
  · exact bind_err (hm c _ he)
  · exact (bind_ok (hm c _ h1)).trans (hf a c1 r h2)

theorem M.bind_le_right {α β : Type} (m : M α) {f f' : α → M β}
    (hf : ∀ a, M.le (f a) (f' a)) : M.le (m >>= f) (m >>= f') := M.bind_le (M.le_refl m) hf

section
variable {r r' : Oracle} (h : Oracle.le r r')
include h

theorem execList_le : ∀ l, M.le (execList r l) (execList r' l)
  | [] => M.le_refl _
  | s :: rest => by
    unfold execList
    apply M.bind_le (h.2 s)
    intro o
    cases o <;> first | exact execList_le rest | exact M.le_refl _

theorem execBlock_le (b : Block) : M.le (execBlock r b) (execBlock r' b) := by
  unfold execBlock
  apply M.bind_le_right; intro _
  apply M.bind_le (execList_le h b); intro _
  exact M.le_refl _

theorem execElifs_le : ∀ l els, M.le (execElifs r l els) (execElifs r' l els)
  | [], none => M.le_refl _
  | [], some b => execBlock_le h b
  | (c, b) :: rest, els => by
    unfold execElifs
    apply M.bind_le (h.1 c); intro v
    apply M.bind_le_right; intro t
    cases t
    · exact execElifs_le rest els
    · exact execBlock_le h b

theorem forItems_le (v : String) (body : Block) : ∀ l, M.le (forItems r v body l) (forItems r' v body l)
  | [] => M.le_refl _
  | i :: rest => by
    unfold forItems
    apply M.bind_le_right; intro _
    apply M.bind_le (execBlock_le h body); intro o
    cases o <;> first | exact forItems_le v body rest | exact M.le_refl _

theorem evalWhere_le (wh : Expr) (c : Inst) : M.le (evalWhere r wh c) (evalWhere r' wh c) := by
  unfold evalWhere
  apply M.bind_le_right; intro _
  apply M.bind_le_right; intro _
  apply M.bind_le (h.1 wh); intro _
  exact M.le_refl _

theorem filterAll_le (wh : Expr) : ∀ l, M.le (filterAll r wh l) (filterAll r' wh l)
  | [] => M.le_refl _
  | c :: rest => by
    unfold filterAll
    apply M.bind_le (evalWhere_le h wh c); intro t
    apply M.bind_le (filterAll_le wh rest); intro _
    exact M.le_refl _

theorem filterFirst_le (wh : Expr) : ∀ l, M.le (filterFirst r wh l) (filterFirst r' wh l)
  | [] => M.le_refl _
  | c :: rest => by
    unfold filterFirst
    apply M.bind_le (evalWhere_le h wh c); intro t
    cases t
    · exact filterFirst_le wh rest
    · exact M.le_refl _

theorem selectResult_le (many : Bool) (cands : List Inst) (wh : Option Expr) :
    M.le (selectResult r many cands wh) (selectResult r' many cands wh) := by
  unfold selectResult
  cases many <;> cases wh <;> simp only
  · exact M.le_refl _
  · apply M.bind_le (filterFirst_le h _ _); intro _; exact M.le_refl _
  · exact M.le_refl _
  · apply M.bind_le (filterAll_le h _ _); intro _; exact M.le_refl _

theorem evalArgs_le : ∀ l, M.le (evalArgs r l) (evalArgs r' l)
  | [] => M.le_refl _
  | (n, e) :: rest => by
    unfold evalArgs
    apply M.bind_le (h.1 e); intro _
    apply M.bind_le (evalArgs_le rest); intro _
    exact M.le_refl _

theorem runBody_le (body : Block) : M.le (runBody r body) (runBody r' body) := by
  unfold runBody
  apply M.bind_le (execBlock_le h body); intro _
  exact M.le_refl _

theorem invoke_le (kind : WalkerKind) (body : Block) (kw : List (String × Val)) (self : Val) :
    M.le (invoke r kind body kw self) (invoke r' kind body kw self) := by
  intro c res hres
  unfold invoke at hres ⊢
  cases hb : runBody r body { fr := mkFrame kind kw self, st := c.st } with
  | none => rw [hb] at hres; cases hres
  | some x => rw [hb] at hres; rw [runBody_le h body _ _ hb]; exact hres

theorem readField_le (C : Ctx) (i : Inst) (name : String) :
    M.le (readField C r i name) (readField C r' i name) := by
  unfold readField
  apply M.bind_le_right; intro fr
  cases regHit fr i name
  · simp only [Bool.false_eq_true, if_false]
    split
    · exact invoke_le h _ _ _ _
    · exact M.le_refl _
  · exact M.le_refl _

theorem evalStep_le (C : Ctx) (e : Expr) : M.le (evalStep C r e) (evalStep C r' e) := by
  cases e with
  | field hx name =>
    unfold evalStep
    apply M.bind_le (h.1 hx); intro _
    apply M.bind_le_right; intro _
    exact readField_le h C _ _
  | bin op l rr =>
    unfold evalStep
    apply M.bind_le (h.1 l); intro _
    apply M.bind_le (h.1 rr); intro _
    exact M.le_refl _
  | un op e =>
    unfold evalStep
    apply M.bind_le (h.1 e); intro _
    exact M.le_refl _
  | call k name args =>
    cases k with
    | function =>
      simp only [evalStep]
      apply M.bind_le (evalArgs_le h args); intro kw
      split
      · exact invoke_le h _ _ _ _
      · exact M.le_refl _
    | implicit ns =>
      simp only [evalStep]
      apply M.bind_le (evalArgs_le h args); intro kw
      split
      · split <;> exact invoke_le h _ _ _ _
      · exact M.le_refl _
    | classOp ns =>
      simp only [evalStep]
      split
      · apply M.bind_le (evalArgs_le h args); intro kw
        exact invoke_le h _ _ _ _
      · exact M.le_refl _
    | bridge ns =>
      simp only [evalStep]
      apply M.bind_le (evalArgs_le h args); intro kw
      split
      · split <;> exact invoke_le h _ _ _ _
      · exact M.le_refl _
  | callInst hx name args =>
    unfold evalStep
    apply M.bind_le (h.1 hx); intro _
    apply M.bind_le_right; intro i
    split
    · apply M.bind_le (evalArgs_le h args); intro _
      exact invoke_le h _ _ _ _
    · exact M.le_refl _
  | _ => unfold evalStep; exact M.le_refl _

theorem execStep_le (C : Ctx) (s : Stmt) : M.le (execStep C r s) (execStep C r' s) := by
  cases s with
  | assignVar x e =>
    unfold execStep
    apply M.bind_le (h.1 e); intro _
    exact M.le_refl _
  | assignField hx name e =>
    unfold execStep
    apply M.bind_le (h.1 e); intro _
    apply M.bind_le (h.1 hx); intro _
    exact M.le_refl _
  | ifS c thn elifs els =>
    unfold execStep
    apply M.bind_le (h.1 c); intro _
    apply M.bind_le_right; intro t
    cases t
    · exact execElifs_le h _ _
    · exact execBlock_le h _
  | whileS c body =>
    unfold execStep
    apply M.bind_le (h.1 c); intro _
    apply M.bind_le_right; intro t
    cases t
    · exact M.le_refl _
    · simp only [if_true]
      apply M.bind_le (execBlock_le h body); intro o
      cases o <;> first | exact h.2 _ | exact M.le_refl _
  | forEach v setv body =>
    unfold execStep
    apply M.bind_le_right; intro s
    cases s <;> first | exact forItems_le h _ _ _ | exact M.le_refl _
  | ret e =>
    cases e with
    | none => unfold execStep; exact M.le_refl _
    | some e =>
      unfold execStep
      apply M.bind_le (h.1 e); intro _
      exact M.le_refl _
  | selectFrom many v cls wh =>
    unfold execStep
    apply M.bind_le_right; intro _
    apply M.bind_le (selectResult_le h _ _ _); intro _
    exact M.le_refl _
  | selectRelated many v hx chain wh =>
    unfold execStep
    apply M.bind_le (h.1 hx); intro _
    apply M.bind_le_right; intro _
    apply M.bind_le_right; intro _
    apply M.bind_le (selectResult_le h _ _ _); intro _
    exact M.le_refl _
  | invoke e =>
    unfold execStep
    apply M.bind_le (h.1 e); intro _
    exact M.le_refl _
  | _ => unfold execStep; exact M.le_refl _

end

theorem run_le_succ (C : Ctx) : ∀ n, Oracle.le (run C n) (run C (n + 1))
  | 0 => ⟨fun _ _ _ h => by simp [run] at h, fun _ _ _ h => by simp [run] at h⟩
  | n + 1 =>
    have ih := run_le_succ C n
    ⟨fun e => by show M.le (evalStep C (run C n) e) (evalStep C (run C (n + 1)) e); exact evalStep_le ih C e,
     fun s => by show M.le (execStep C (run C n) s) (execStep C (run C (n + 1)) s); exact execStep_le ih C s⟩

theorem run_mono (C : Ctx) {n m : Nat} (hnm : n ≤ m) : Oracle.le (run C n) (run C m) := by
  induction hnm with
  | refl => exact Oracle.le_refl _
  | step _ ih => exact Oracle.le_trans ih (run_le_succ C _)

end Pyx.Interp
