import Proofs.SqlTextFixed
import Proofs.SqlAttrNames
import Proofs.SqlLinks

/-! the INSERT-only route: classes inferred by `_populate_matching_class` from the first row of each kind
    (names `_0 … _n`, types guessed by `guess_type_name`) -/
namespace Pyx.Sql
open Gen.Persist (Ty)
open Gen.SqlLex (Kw)

/-- the type `guess_type_name` gives to the printed values of a column declared with type `t`: booleans are written
    `0` / `1` and are therefore guessed INTEGER; every other type is guessed as itself -/
def guessedTy : Ty → Ty
  | .BOOLEAN => .INTEGER
  | t => t

def inferVal : Ty → Val → Val
  | .BOOLEAN, .bool b => .int (if b then 1 else 0)
  | _, v => v

theorem not_bool_word (u : UC) (c : Char) (rest : Text) (h : c.toNat < 128) (hl : isAsciiLower c = false)
    (hT : c ≠ 'T') (hF : c ≠ 'F') :
    ¬ (u.upper (c :: rest) = Kw.TRUE.chars ∨ u.upper (c :: rest) = Kw.FALSE.chars) := by
  rw [upper_cons_ascii u c rest h]
  have : asciiUpper c = c := by simp [asciiUpper, hl]
  rw [this]
  intro hh
  rcases hh with hh | hh
  · have := (List.cons.inj hh).1; exact hT this
  · have := (List.cons.inj hh).1; exact hF this

theorem digit_facts {c : Char} (h : isAsciiDigit c = true) :
    c.toNat < 128 ∧ isAsciiLower c = false ∧ c ≠ 'T' ∧ c ≠ 'F' ∧ c ≠ '-' := by
  refine ⟨isAsciiDigit_lt_128 h, ?_, ne_of_isAsciiDigit h (by decide), ne_of_isAsciiDigit h (by decide),
    ne_of_isAsciiDigit h (by decide)⟩
  simp only [isAsciiDigit, Bool.and_eq_true, decide_eq_true_eq] at h
  simp only [isAsciiLower, Bool.and_eq_false_iff, decide_eq_false_iff_not]; omega

theorem guessType_number (u : UC) (sign : Bool) (d : Char) (ds tail : Text) (hd : ∀ c ∈ d :: ds, isAsciiDigit c = true)
    (ht : ∀ c, tail.head? = some c → u.isDigit c = false) :
    (tail = [] → guessType u ((if sign then ['-'] else []) ++ (d :: ds ++ tail)) = some .INTEGER) ∧
    (∀ e es, tail = '.' :: e :: es → u.isDigit e = true →
      guessType u ((if sign then ['-'] else []) ++ (d :: ds ++ tail)) = some .REAL) := by
  obtain ⟨f1, f2, f3, f4, f5⟩ := digit_facts (hd d List.mem_cons_self)
  obtain ⟨t1, t2⟩ := takeWhile_digits_run u (d :: ds) tail hd ht
  -- the sign is exactly what `stripMinus` removes; a text that opens with a digit or `-` is not TRUE / FALSE in any case
  have hbody : stripMinus ((if sign then ['-'] else []) ++ (d :: ds ++ tail)) = d :: ds ++ tail := by
    cases sign
    · simp only [Bool.false_eq_true, if_false, List.nil_append, List.cons_append, stripMinus, f5]
    · rfl
  have hword : ¬ (u.upper ((if sign then ['-'] else []) ++ (d :: ds ++ tail)) = Kw.TRUE.chars ∨
      u.upper ((if sign then ['-'] else []) ++ (d :: ds ++ tail)) = Kw.FALSE.chars) := by
    cases sign
    · exact not_bool_word u d _ f1 f2 f3 f4
    · exact not_bool_word u '-' _ (by decide) (by decide) (by decide) (by decide)
  simp only [guessType, hword, if_false, hbody, t1, t2, List.isEmpty_cons, Bool.not_false, if_true]
  refine ⟨fun h => by rw [h], fun e es h he => ?_⟩
  simp only [h, List.takeWhile_cons, he, if_true, List.isEmpty_cons, Bool.false_eq_true, if_false]

theorem guessType_intText (u : UC) (z : Int) : guessType u (intText z) = some .INTEGER := by
  cases z with
  | ofNat n =>
    obtain ⟨d, ds, h⟩ := natText_cons n
    have := (guessType_number u false d ds [] (h ▸ natText_all_digit n) nofun).1 rfl
    rwa [List.append_nil, ← h] at this
  | negSucc n =>
    obtain ⟨d, ds, h⟩ := natText_cons (n + 1)
    have := (guessType_number u true d ds [] (h ▸ natText_all_digit _) nofun).1 rfl
    rwa [List.append_nil, ← h] at this

theorem guessType_realText (u : UC) (neg : Bool) (micro : Nat) : guessType u (realText neg micro) = some .REAL := by
  obtain ⟨d, ds, h⟩ := natText_cons (micro / 1000000)
  obtain ⟨e, es, h'⟩ := fracText_cons micro
  rw [realText_eq, h, h']
  exact (guessType_number u neg d ds _ (h ▸ natText_all_digit _) (by
    intro c hc; cases hc; simp [UC.isDigit, isAsciiDigit])).2 e es rfl
      (u.isDigit_of_ascii (fracText_all_digit micro e (h' ▸ List.mem_cons_self)))

theorem guessType_quoted (u : UC) (c : Char) (rest : Text) (hc : c = '\'' ∨ c = '"') :
    guessType u (c :: rest) = if (mString (c :: rest)).isSome then some .STRING
      else if (mGuid (c :: rest)).isSome then some .UNIQUE_ID else none := by
  have h1 : (stripMinus (c :: rest)).takeWhile u.isDigit = [] := by
    rcases hc with rfl | rfl <;> simp [stripMinus, UC.isDigit, isAsciiDigit]
  have hw : ¬ (u.upper (c :: rest) = Kw.TRUE.chars ∨ u.upper (c :: rest) = Kw.FALSE.chars) := by
    rcases hc with rfl | rfl <;> exact not_bool_word u _ _ (by decide) (by decide) (by decide) (by decide)
  simp only [guessType, hw, if_false, h1, List.isEmpty_nil, Bool.not_true, Bool.false_eq_true]

theorem guessType_strText (u : UC) (s : Text) : guessType u (strText s) = some .STRING := by
  rw [strText, guessType_quoted u _ _ (Or.inl rfl)]
  simp only [mString, if_true, scanStr_escapeQ s [] nofun]
  rfl

theorem guessType_guidText (u : UC) (n : Nat) : guessType u (guidText n) = some .UNIQUE_ID := by
  rw [guidText, guessType_quoted u _ _ (Or.inr rfl)]
  simp only [mString, mGuid, if_true, scanGuid_plain (guidBody n) [] (guidBody_plain n)]
  rfl

theorem guessType_fmt (u : UC) (t : Ty) (x : Val) (txt : Text) (h : fmtValue t x = some txt) :
    guessType u txt = some (guessedTy t) := by
  cases printed_of_fmt h with
  | bool b => exact guessType_intText u (Int.ofNat _)
  | int z => exact guessType_intText u z
  | real neg micro => exact guessType_realText u neg micro
  | str s => exact guessType_strText u s
  | id n _ => exact guessType_guidText u n

theorem deserialize_guessed (u : UC) (t : Ty) (x : Val) (txt : Text) (h : fmtValue t x = some txt) :
    deserialize u (guessedTy t).chars txt = some (inferVal t x) := by
  cases printed_of_fmt h with
  | bool b =>
    cases b
    · exact deserialize_integer u _ (tyOfName_chars u .INTEGER) 0
    · exact deserialize_integer u _ (tyOfName_chars u .INTEGER) 1
  | int z => exact deserialize_fmt u .INTEGER _ _ _ (tyOfName_chars u .INTEGER) h
  | real neg micro => exact deserialize_fmt u .REAL _ _ _ (tyOfName_chars u .REAL) h
  | str s => exact deserialize_fmt u .STRING _ _ _ (tyOfName_chars u .STRING) h
  | id n _ => exact deserialize_fmt u .UNIQUE_ID _ _ _ (tyOfName_chars u .UNIQUE_ID) h

theorem fmt_inferVal (t : Ty) (x : Val) (txt : Text) (h : fmtValue t x = some txt) :
    fmtValue (guessedTy t) (inferVal t x) = some txt := by
  cases printed_of_fmt h with
  | bool b => cases b <;> rfl
  | int z => exact h
  | real neg micro => exact h
  | str s => exact h
  | id n _ => exact h

/-- the type name `_populate_matching_class` gives a column whose values were printed under the declared type `ty` -/
def guessedName (u : UC) (ty : Name) : Name :=
  match tyOfName u ty with
  | some t => (guessedTy t).chars
  | none => []

/-- attributes of the inferred class: `_0 … _n` with the guessed types -/
def inferAttrs (u : UC) (attrs : List (Name × Name)) : List (Name × Name) :=
  (positionalNames attrs.length).zip (attrs.map fun a => guessedName u a.2)

/-- a cell of the inferred class: the null value for an unset cell, 0 / 1 for a boolean -/
def inferCell (u : UC) (ty : Name) (v : Option Val) : Option Val :=
  match tyOfName u ty with
  | some t => (resolveVal t v).map (inferVal t)
  | none => v

def inferVals (u : UC) : List (Name × Name) → List (Option Val) → List (Option Val)
  | a :: attrs, v :: vs => inferCell u a.2 v :: inferVals u attrs vs
  | _, vs => vs

theorem rowTexts_length (u : UC) (attrs : List (Name × Name)) (vals : List (Option Val)) (texts : List Text)
    (h : rowTexts u attrs vals = some texts) : texts.length = attrs.length := by
  induction attrs generalizing vals texts with
  | nil => cases h; rfl
  | cons a attrs ih =>
    cases vals with
    | nil => cases h
    | cons v vs =>
      obtain ⟨_, rest, _, hr, rfl⟩ := rowTexts_cons h
      exact congrArg (· + 1) (ih vs rest hr)

theorem cell_infer (u : UC) (ty : Name) (v : Option Val) (txt : Text) (h : cellText u ty v = some txt) :
    (match guessType u txt with | some t => t.chars | none => []) = guessedName u ty ∧
    (guessType u txt).isSome = true ∧
    ∃ x, deserialize u (guessedName u ty) txt = some x ∧ inferCell u ty v = some x := by
  obtain ⟨t, x, ht, hx, hf⟩ := cellText_inv h
  simp only [guessedName, inferCell, ht, hx, guessType_fmt u t x txt hf, Option.map_some, Option.isSome_some, true_and]
  exact ⟨inferVal t x, deserialize_guessed u t x txt hf, rfl⟩

theorem row_infer (u : UC) (c : ClassB) (attrs : List (Name × Name)) (names : List Name) (vals : List (Option Val))
    (texts : List Text) (hn : names.length = attrs.length) (hv : vals.length = attrs.length)
    (h : rowTexts u attrs vals = some texts) :
    inferredAttrs u names texts = names.zip (attrs.map fun a => guessedName u a.2) ∧
    CellsOk u (names.zip (attrs.map fun a => guessedName u a.2)) texts ∧
    (specCells u c (names.zip (attrs.map fun a => guessedName u a.2)) texts).map cellVal = inferVals u attrs vals ∧
    texts.all (fun v => (guessType u v).isSome) = true := by
  -- `names` is a variable because `positionalNames (n + 1)` is no cons; the one cell fact `cell_infer` feeds all four conjuncts
  induction attrs generalizing names vals texts with
  | nil =>
    cases h
    cases names with
    | nil => cases vals with
      | nil => exact ⟨rfl, trivial, rfl, rfl⟩
      | cons _ _ => cases hv
    | cons _ _ => cases hn
  | cons a attrs ih =>
    cases names with
    | nil => cases hn
    | cons n ns =>
      cases vals with
      | nil => cases hv
      | cons v vs =>
        obtain ⟨txt, rest, hc, hr, rfl⟩ := rowTexts_cons h
        obtain ⟨g1, g0, x, g2, g3⟩ := cell_infer u a.2 v txt hc
        obtain ⟨i1, i2, i3, i5⟩ := ih ns vs rest (Nat.succ.inj hn) (Nat.succ.inj hv) hr
        refine ⟨?_, ⟨by rw [g2]; rfl, i2⟩, ?_, by rw [List.all_cons, g0, i5]; rfl⟩
        · show (n, match guessType u txt with | some t => t.chars | none => []) :: inferredAttrs u ns rest = _
          rw [g1, i1]; rfl
        · simp only [List.map_cons, List.zip_cons_cons, specCells, g2, cellVal, inferVals, g3]
          exact congrArg _ i3

theorem find?_pre_last (u : UC) (k : Name) (pre : List ClassB) (cls : ClassB) (as : List AssocB)
    (hpre : ∀ c ∈ pre, sameKind u c.kind k = false) (hk : cls.kind = k) :
    (⟨pre ++ [cls], as⟩ : BState).find? u k = some cls := by
  simp only [BState.find?, List.find?_append]
  have h1 : pre.find? (fun c => u.upper c.kind == u.upper k) = none := by
    rw [List.find?_eq_none]; intro c hc
    have := hpre c hc; simp only [sameKind] at this; simp [this]
  rw [h1]
  simp [hk]

theorem update_pre_last (u : UC) (k : Name) (pre : List ClassB) (cls : ClassB) (as : List AssocB) (f : ClassB → ClassB)
    (hpre : ∀ c ∈ pre, sameKind u c.kind k = false) (hk : cls.kind = k) :
    (⟨pre ++ [cls], as⟩ : BState).update u k f = ⟨pre ++ [f cls], as⟩ := by
  simp only [BState.update, List.map_append, List.map_cons, List.map_nil, BState.mk.injEq, and_true]
  congr 1
  · conv => rhs; rw [← List.map_id pre]
    apply List.map_congr_left
    intro c hc
    have := hpre c hc; simp only [sameKind] at this; simp [this]
  · simp [hk]

theorem popInstance_last (u : UC) (k : Name) (attrs' : List (Name × Name)) (pre : List ClassB) (R : List (List Cell))
    (as : List AssocB) (t : List Text) (hpre : ∀ c ∈ pre, sameKind u c.kind k = false)
    (hrow : ∀ a ∈ attrs', (tyOfName u a.2).isSome = true) (hcells : CellsOk u attrs' t) :
    popInstance u ⟨pre ++ [⟨k, attrs', [], [], R⟩], as⟩ k t none =
      .ok ⟨pre ++ [⟨k, attrs', [], [], R ++ [specCells u ⟨k, attrs', [], [], []⟩ attrs' t]⟩], as⟩ := by
  have hf := find?_pre_last u k pre ⟨k, attrs', [], [], R⟩ as hpre rfl
  have hnew : newRowOk u ⟨k, attrs', [], [], R⟩ = true := by
    simp only [newRowOk, List.all_eq_true, Bool.or_eq_true]
    intro a ha; exact Or.inr (hrow a ha)
  have hc := positionalCells_ok u ⟨k, attrs', [], [], R⟩ attrs' t hcells
  have hcong : specCells u ⟨k, attrs', [], [], R⟩ attrs' t = specCells u ⟨k, attrs', [], [], []⟩ attrs' t := by
    apply specCells_congr; rfl
  have hgs : guessOk u ⟨pre ++ [⟨k, attrs', [], [], R⟩], as⟩ k t = true := by simp [guessOk, hf]
  simp only [popInstance, isNamed, Bool.false_and, Bool.false_eq_true, if_false, inferOk_positional, hgs, ensureClass, hf, hnew,
    Bool.not_true, cellsOf, hc, hcong]
  rw [update_pre_last u k pre _ as _ hpre rfl]

theorem popInstances_block_tail (u : UC) (k : Name) (attrs' : List (Name × Name))
    (hrow : ∀ a ∈ attrs', (tyOfName u a.2).isSome = true) :
    ∀ (rows : List (List Text)) (pre : List ClassB) (R : List (List Cell)) (as : List AssocB) (rest : List Stmt),
    (∀ c ∈ pre, sameKind u c.kind k = false) → (∀ t ∈ rows, CellsOk u attrs' t) →
    popInstances u (rows.map (fun t => Stmt.insert k t none) ++ rest) ⟨pre ++ [⟨k, attrs', [], [], R⟩], as⟩ =
      popInstances u rest ⟨pre ++ [⟨k, attrs', [], [], R ++ rows.map (specCells u ⟨k, attrs', [], [], []⟩ attrs')⟩], as⟩ := by
  intro rows
  induction rows with
  | nil => intro pre R as rest _ _; simp
  | cons t ts ih =>
    intro pre R as rest hpre hcells
    simp only [List.map_cons, List.cons_append, popInstances,
      popInstance_last u k attrs' pre R as t hpre hrow (hcells t (by simp))]
    rw [ih pre _ as rest hpre (fun x hx => hcells x (by simp [hx]))]
    simp [List.append_assoc]

/-- a whole block: the first row creates the class from its values, the others fill it -/
theorem popInstances_block (u : UC) (k : Name) (t1 : List Text) (ts : List (List Text)) (pre : List ClassB)
    (as : List AssocB) (rest : List Stmt) (hpre : ∀ c ∈ pre, sameKind u c.kind k = false)
    (hguess : t1.all (fun v => (guessType u v).isSome) = true)
    (hcells : ∀ t ∈ t1 :: ts, CellsOk u (inferredAttrs u (positionalNames t1.length) t1) t) :
    popInstances u ((t1 :: ts).map (fun t => Stmt.insert k t none) ++ rest) ⟨pre, as⟩ =
      popInstances u rest ⟨pre ++ [⟨k, inferredAttrs u (positionalNames t1.length) t1, [], [],
        (t1 :: ts).map (specCells u ⟨k, inferredAttrs u (positionalNames t1.length) t1, [], [], []⟩
          (inferredAttrs u (positionalNames t1.length) t1))⟩], as⟩ := by
  have hnone : (⟨pre, as⟩ : BState).find? u k = none := find?_none_of_forall u ⟨pre, as⟩ k hpre
  have hrow : ∀ a ∈ inferredAttrs u (positionalNames t1.length) t1, (tyOfName u a.2).isSome = true := by
    intro a ha
    obtain ⟨nv, hnv, rfl⟩ := List.mem_map.mp ha
    obtain ⟨t, ht⟩ := Option.isSome_iff_exists.mp (List.all_eq_true.mp hguess nv.2 (List.of_mem_zip hnv).2)
    simp only [ht, tyOfName_chars, Option.isSome_some]
  -- the first statement: the class is inferred and appended, then `popInstance_last` applies with no rows yet
  have hfirst : popInstance u ⟨pre, as⟩ k t1 none =
      popInstance u ⟨pre ++ [⟨k, inferredAttrs u (positionalNames t1.length) t1, [], [], []⟩], as⟩ k t1 none := by
    have hf := find?_pre_last u k pre ⟨k, inferredAttrs u (positionalNames t1.length) t1, [], [], []⟩ as hpre rfl
    have hg1 : guessOk u ⟨pre, as⟩ k t1 = true := by simp only [guessOk, hnone, hguess]
    have hg2 : guessOk u ⟨pre ++ [⟨k, inferredAttrs u (positionalNames t1.length) t1, [], [], []⟩], as⟩ k t1 = true := by
      simp [guessOk, hf]
    simp only [popInstance, isNamed, Bool.false_and, Bool.false_eq_true, if_false, inferOk_positional, Bool.not_true, hg1, hg2,
      ensureClass, inferredFor, hnone, hf]
  simp only [List.map_cons, List.cons_append, popInstances, hfirst,
    popInstance_last u k _ pre [] as t1 hpre hrow (hcells t1 (by simp))]
  rw [popInstances_block_tail u k _ hrow ts pre _ as rest hpre (fun x hx => hcells x (by simp [hx]))]
  simp

def inferClass (u : UC) (c : ClassM) : ClassM := ⟨c.kind, inferAttrs u c.attrs, [], c.rows.map (inferVals u c.attrs)⟩

/-- the metamodel the INSERT statements alone build: one class per kind that has rows, in the order of first
    appearance, attributes `_0 … _n` with the guessed types, no identifiers, no associations -/
def MM.inferred (u : UC) (m : MM) : MM := ⟨(m.classes.filter fun c => !c.rows.isEmpty).map (inferClass u), []⟩

theorem positionalNames_length (n : Nat) : (positionalNames n).length = n := by simp [positionalNames]

theorem instItems_stmts (u : UC) (kind : Name) (attrs : List (Name × Name)) : ∀ (rows : List (List (Option Val))) (sa : List Stmt),
    itemsStmts u (rows.map fun r => Item.inst kind attrs r) = some sa →
    ∃ textsL : List (List Text), sa = textsL.map (fun t => Stmt.insert kind t none) ∧
      textsL.map some = rows.map (rowTexts u attrs) := by
  intro rows
  induction rows with
  | nil => intro sa h; simp only [List.map_nil, itemsStmts, Option.some.injEq] at h; subst h; exact ⟨[], rfl, rfl⟩
  | cons r rs ih =>
    intro sa h
    obtain ⟨st, rest, h1, h2, rfl⟩ := itemsStmts_cons u _ _ sa h
    obtain ⟨tl, rfl, htl⟩ := ih rest h2
    simp only [Item.stmt] at h1
    cases hr : rowTexts u attrs r with
    | none => simp [hr] at h1
    | some t =>
      simp only [hr, Option.some.injEq] at h1; subst h1
      exact ⟨t :: tl, rfl, by simp only [List.map_cons, hr, htl]⟩

theorem rows_infer (u : UC) (c : ClassM) (cb : ClassB) (rr : List (List (Option Val))) (tt : List (List Text))
    (h : tt.map some = rr.map (rowTexts u c.attrs)) (hl : ∀ r ∈ rr, r.length = c.attrs.length) :
    (∀ t ∈ tt, CellsOk u (inferAttrs u c.attrs) t) ∧
    (tt.map (specCells u cb (inferAttrs u c.attrs))).map (fun r => r.map cellVal) = rr.map (inferVals u c.attrs) := by
  induction rr generalizing tt with
  | nil => cases tt with
    | nil => exact ⟨nofun, rfl⟩
    | cons _ _ => cases h
  | cons r rr ih =>
    cases tt with
    | nil => cases h
    | cons t tt =>
      obtain ⟨h1, h2⟩ := List.cons.inj h
      obtain ⟨_, i2, i3, _⟩ := row_infer u cb c.attrs (positionalNames c.attrs.length) r t (positionalNames_length _)
        (hl r List.mem_cons_self) h1.symm
      obtain ⟨j1, j2⟩ := ih tt h2 fun x hx => hl x (List.mem_cons_of_mem _ hx)
      exact ⟨List.forall_mem_cons.mpr ⟨i2, j1⟩, (congrArg (· :: _) i3).trans (congrArg (_ :: ·) j2)⟩

theorem popInstances_classes (u : UC) (L : List ClassM) (pre : List ClassB) (as : List AssocB) (stmts : List Stmt)
    (hnd : (L.map fun c => u.upper c.kind).Nodup) (hpre : ∀ c ∈ L, ∀ p ∈ pre, sameKind u p.kind c.kind = false)
    (hlen : ∀ c ∈ L, ∀ r ∈ c.rows, r.length = c.attrs.length) (hs : itemsStmts u (L.flatMap ClassM.instItems) = some stmts) :
    ∃ new, popInstances u stmts ⟨pre, as⟩ = .ok ⟨pre ++ new, as⟩ ∧
      new.map ClassB.toM = (L.filter fun c => !c.rows.isEmpty).map (inferClass u) := by
  induction L generalizing pre stmts with
  | nil => cases hs; exact ⟨[], by rw [List.append_nil]; rfl, rfl⟩
  | cons c cs ih =>
    rw [List.flatMap_cons] at hs
    obtain ⟨sa, sb, hsa, hsb, rfl⟩ := itemsStmts_append_inv u _ _ stmts hs
    obtain ⟨textsL, rfl, htl⟩ := instItems_stmts u c.kind c.attrs c.rows sa hsa
    obtain ⟨hnd1, hnd2⟩ := List.nodup_cons.mp hnd
    have hpre' := fun c' hc' => hpre c' (List.mem_cons_of_mem _ hc')
    have hlen' := fun c' hc' => hlen c' (List.mem_cons_of_mem _ hc')
    cases hrows : c.rows with
    | nil =>
      rw [hrows] at htl
      cases List.map_eq_nil_iff.mp htl
      obtain ⟨new, h1, h2⟩ := ih pre sb hnd2 hpre' hlen' hsb
      exact ⟨new, h1, by rw [List.filter_cons, hrows]; exact h2⟩
    | cons r1 rs =>
      rw [hrows] at htl
      cases textsL with
      | nil => cases htl
      | cons t1 ts =>
        have hl1 := hlen c List.mem_cons_self r1 (hrows ▸ List.mem_cons_self)
        have ht1 : rowTexts u c.attrs r1 = some t1 := (List.cons.inj htl).1.symm
        -- the first row decides the inferred attributes; every row is then read under them (`rows_infer`)
        obtain ⟨hattrs', _, _, hguess⟩ := row_infer u ⟨c.kind, [], [], [], []⟩ c.attrs
          (positionalNames c.attrs.length) r1 t1 (positionalNames_length _) hl1 ht1
        have hattrs : inferredAttrs u (positionalNames t1.length) t1 = inferAttrs u c.attrs := by
          rw [rowTexts_length u c.attrs r1 t1 ht1]; exact hattrs'
        obtain ⟨hcells, hvals⟩ := rows_infer u c ⟨c.kind, inferAttrs u c.attrs, [], [], []⟩ (r1 :: rs) (t1 :: ts) htl
          fun r hr => hlen c List.mem_cons_self r (hrows ▸ hr)
        have hblock := popInstances_block u c.kind t1 ts pre as sb (hpre c List.mem_cons_self) hguess
          (by rw [hattrs]; exact hcells)
        rw [hattrs] at hblock
        obtain ⟨new, h1, h2⟩ := ih (pre ++ [⟨c.kind, inferAttrs u c.attrs, [], [],
            (t1 :: ts).map (specCells u ⟨c.kind, inferAttrs u c.attrs, [], [], []⟩ (inferAttrs u c.attrs))⟩]) sb hnd2
          (fun c' hc' p hp => by
            rcases List.mem_append.mp hp with hp | hp
            · exact hpre' c' hc' p hp
            · cases List.mem_singleton.mp hp -- the new class differs in kind from the later ones by `hnd1`
              exact beq_eq_false_iff_ne.mpr fun e => hnd1 (List.mem_map.mpr ⟨c', hc', e.symm⟩))
          hlen' hsb
        refine ⟨_ :: new, by rw [hblock, h1, List.append_assoc]; rfl, ?_⟩
        rw [List.filter_cons, hrows, List.map_cons, h2]
        exact congrArg (· :: _) (congrArg (ClassM.mk c.kind (inferAttrs u c.attrs) []) (hrows ▸ hvals))

theorem build_inserts (u : UC) (stmts : List Stmt) (h : ∀ st ∈ stmts, ∃ k t, st = .insert k t none) :
    build u stmts = popInstances u stmts BState.empty := by
  have skip : ∀ s, popClasses u stmts s = .ok s ∧ popIdents u stmts s = .ok s ∧ popAssocs u stmts s = .ok s := by
    induction stmts with
    | nil => exact fun _ => ⟨rfl, rfl, rfl⟩
    | cons st rest ih =>
      obtain ⟨k, t, rfl⟩ := h st List.mem_cons_self
      exact ih fun x hx => h x (List.mem_cons_of_mem _ hx)
  rw [build_eq_core u stmts, buildCore]
  simp only [(skip _).1, (skip _).2.1, (skip _).2.2]

theorem instances_stmts_are_inserts (u : UC) (m : MM) (stmts : List Stmt) (hs : itemsStmts u m.serializeInstances = some stmts) :
    ∀ st ∈ stmts, ∃ k t, st = .insert k t none := by
  intro st hst
  obtain ⟨it, hit, hst'⟩ := mem_itemsStmts u _ stmts hs st hst
  obtain ⟨c, _, hin⟩ := List.mem_flatMap.mp hit
  obtain ⟨r, _, rfl⟩ := List.mem_map.mp hin
  simp only [Item.stmt] at hst'
  split at hst' <;> cases hst'
  exact ⟨_, _, rfl⟩

/-- WITHOUT CREATE TABLE: the INSERT statements of a metamodel whose class kinds are distinct after upper-casing and whose
    rows are as long as their attribute lists (that the statements exist, `hs`, says that every cell prints, so the
    columns of a class with rows have core types) alone build, and the built metamodel is `m.inferred`: per kind that has
    rows (in the order of first appearance) a class with attributes `_0 … _n` whose types are guessed from the first row — the declared core type, except BOOLEAN which is guessed INTEGER — and the rows in
    order with their values (unset ≡ null; a boolean as 0 / 1) -/
theorem reload_instances_only (u : UC) (m : MM) (hd : (m.classes.map fun c => u.upper c.kind).Nodup)
    (hr : ∀ c ∈ m.classes, ∀ r ∈ c.rows, r.length = c.attrs.length) (stmts : List Stmt)
    (hs : itemsStmts u m.serializeInstances = some stmts) :
    ∃ bs, build u stmts = .ok bs ∧ bs.toMM u = m.inferred u := by
  rw [build_inserts u stmts (instances_stmts_are_inserts u m stmts hs)]
  obtain ⟨new, h1, h2⟩ := popInstances_classes u m.classes [] [] stmts hd (fun _ _ _ => nofun) hr hs
  refine ⟨_, h1, ?_⟩
  simp only [BState.toMM, List.nil_append, h2, MM.inferred, List.map_nil]

theorem guessedTy_idem (t : Ty) : guessedTy (guessedTy t) = guessedTy t := by cases t <;> rfl

theorem inferVal_guessed (t : Ty) (x : Val) : inferVal (guessedTy t) x = x := by
  cases t <;> cases x <;> rfl

theorem guessedName_core (u : UC) (ty : Name) (t : Ty) (h : tyOfName u ty = some t) :
    guessedName u ty = (guessedTy t).chars ∧ tyOfName u (guessedName u ty) = some (guessedTy t) := by
  simp only [guessedName, h, tyOfName_chars, and_self]

theorem guessedName_idem (u : UC) (ty : Name) (h : (tyOfName u ty).isSome = true) :
    guessedName u (guessedName u ty) = guessedName u ty := by
  obtain ⟨t, ht⟩ := Option.isSome_iff_exists.mp h
  obtain ⟨e1, e2⟩ := guessedName_core u ty t ht
  rw [(guessedName_core u (guessedName u ty) (guessedTy t) e2).1, guessedTy_idem, e1]

theorem inferCell_idem (u : UC) (ty : Name) (h : (tyOfName u ty).isSome = true) (v : Option Val) :
    inferCell u (guessedName u ty) (inferCell u ty v) = inferCell u ty v := by
  obtain ⟨t, ht⟩ := Option.isSome_iff_exists.mp h
  obtain ⟨x, hx⟩ : ∃ x, resolveVal t v = some x := by
    cases v with
    | some x => exact ⟨x, rfl⟩
    | none => exact ⟨documentedNull t, by simp only [resolveVal, nullOf_eq]⟩
  have h1 : inferCell u ty v = some (inferVal t x) := by simp only [inferCell, ht, hx, Option.map_some]
  rw [h1]
  simp only [inferCell, (guessedName_core u ty t ht).2, resolveVal, Option.map_some, inferVal_guessed]

theorem inferVals_idem_zip (u : UC) (attrs : List (Name × Name)) (names : List Name) (vals : List (Option Val))
    (hn : names.length = attrs.length) (hv : vals.length = attrs.length) (hcore : ∀ a ∈ attrs, (tyOfName u a.2).isSome = true) :
    inferVals u (names.zip (attrs.map fun a => guessedName u a.2)) (inferVals u attrs vals) = inferVals u attrs vals := by
  induction attrs generalizing names vals with
  | nil => cases vals with
    | nil => cases names <;> rfl
    | cons _ _ => cases hv
  | cons a attrs ih =>
    cases names with
    | nil => cases hn
    | cons n ns =>
      cases vals with
      | nil => cases hv
      | cons v vs =>
        simp only [List.map_cons, List.zip_cons_cons, inferVals, inferCell_idem u a.2 (hcore a List.mem_cons_self) v]
        exact congrArg _ (ih ns vs (Nat.succ.inj hn) (Nat.succ.inj hv) fun x hx => hcore x (List.mem_cons_of_mem _ hx))

theorem inferAttrs_length (u : UC) (attrs : List (Name × Name)) : (inferAttrs u attrs).length = attrs.length := by
  simp [inferAttrs, positionalNames_length]

theorem inferAttrs_snd (u : UC) (attrs : List (Name × Name)) :
    (inferAttrs u attrs).map (fun a => a.2) = attrs.map (fun a => guessedName u a.2) := by
  unfold inferAttrs
  rw [List.map_snd_zip]
  simp [positionalNames_length]

theorem inferAttrs_idem (u : UC) (attrs : List (Name × Name)) (h : ∀ a ∈ attrs, (tyOfName u a.2).isSome = true) :
    inferAttrs u (inferAttrs u attrs) = inferAttrs u attrs := by
  have e : (inferAttrs u attrs).map (fun a => guessedName u a.2) = attrs.map (fun a => guessedName u a.2) := by
    rw [show (inferAttrs u attrs).map (fun a => guessedName u a.2) = ((inferAttrs u attrs).map (·.2)).map (guessedName u) by
      rw [List.map_map]; rfl, inferAttrs_snd, List.map_map]
    exact List.map_congr_left fun a ha => guessedName_idem u a.2 (h a ha)
  show (positionalNames (inferAttrs u attrs).length).zip ((inferAttrs u attrs).map fun a => guessedName u a.2) = inferAttrs u attrs
  rw [inferAttrs_length, e]; rfl

theorem inferVals_length (u : UC) : ∀ (attrs : List (Name × Name)) (vals : List (Option Val)),
    (inferVals u attrs vals).length = vals.length
  | [], _ => rfl
  | _ :: _, [] => rfl
  | _ :: attrs, _ :: vs => congrArg (· + 1) (inferVals_length u attrs vs)

theorem inferClass_idem (u : UC) (c : ClassM) (hcore : ∀ a ∈ c.attrs, (tyOfName u a.2).isSome = true)
    (hlen : ∀ r ∈ c.rows, r.length = c.attrs.length) : inferClass u (inferClass u c) = inferClass u c := by
  simp only [inferClass, inferAttrs_idem u c.attrs hcore, List.map_map, ClassM.mk.injEq, true_and]
  apply List.map_congr_left
  intro r hr
  simp only [Function.comp]
  exact inferVals_idem_zip u c.attrs (positionalNames c.attrs.length) r (positionalNames_length _) (hlen r hr) hcore

theorem inferred_idem (u : UC) (m : MM) (hm : m.Closed u) : (m.inferred u).inferred u = m.inferred u := by
  simp only [MM.inferred, MM.mk.injEq, and_true]
  -- `inferClass` keeps the rows, so the non-empty filter is the identity the second time
  have hf : ((m.classes.filter fun c => !c.rows.isEmpty).map (inferClass u)).filter (fun c => !c.rows.isEmpty) =
      (m.classes.filter fun c => !c.rows.isEmpty).map (inferClass u) := by
    rw [List.filter_eq_self]
    intro c' hc'
    obtain ⟨c, hc, rfl⟩ := List.mem_map.mp hc'
    have := (List.mem_filter.mp hc).2
    cases hr : c.rows with
    | nil => rw [hr] at this; simp at this
    | cons _ _ => simp [inferClass, hr]
  rw [hf, List.map_map]
  apply List.map_congr_left
  intro c hc
  have hc0 := (List.mem_filter.mp hc).1
  exact inferClass_idem u c (hm.types c hc0) (hm.rows c hc0)

theorem cellText_infer (u : UC) (ty : Name) (v : Option Val) (txt : Text) (h : cellText u ty v = some txt) :
    cellText u (guessedName u ty) (inferCell u ty v) = some txt := by
  obtain ⟨t, x, ht, hx, hf⟩ := cellText_inv h
  have h1 : inferCell u ty v = some (inferVal t x) := by simp only [inferCell, ht, hx, Option.map_some]
  simp only [cellText, h1, (guessedName_core u ty t ht).2, printValue_eq, resolveVal, Option.bind_some]
  exact fmt_inferVal t x txt hf

theorem rowTexts_infer_zip (u : UC) (attrs : List (Name × Name)) (names : List Name) (vals : List (Option Val))
    (texts : List Text) (hn : names.length = attrs.length) (h : rowTexts u attrs vals = some texts) :
    rowTexts u (names.zip (attrs.map fun a => guessedName u a.2)) (inferVals u attrs vals) = some texts := by
  induction attrs generalizing names vals texts with
  | nil => cases names with
    | nil => exact h
    | cons _ _ => cases hn
  | cons a attrs ih =>
    cases names with
    | nil => cases hn
    | cons n ns =>
      cases vals with
      | nil => cases h
      | cons v vs =>
        obtain ⟨txt, rest, hc, hr, rfl⟩ := rowTexts_cons h
        simp only [List.map_cons, List.zip_cons_cons, inferVals, rowTexts, cellText_infer u a.2 v txt hc,
          ih ns vs rest (Nat.succ.inj hn) hr]

theorem noNewline_positional (i : Nat) : NoNewline ('_' :: natText i) := by
  intro c hc
  rcases List.mem_cons.mp hc with rfl | hc
  · decide
  · exact ne_of_isAsciiDigit (natText_all_digit i c hc) (by decide)

theorem mem_inferred_instances {u : UC} {m : MM} {it : Item} (hit : it ∈ (m.inferred u).serializeInstances) :
    ∃ c ∈ m.classes, ∃ r ∈ c.rows, it = .inst c.kind (inferAttrs u c.attrs) (inferVals u c.attrs r) := by
  obtain ⟨c', hc', hx⟩ := List.mem_flatMap.mp hit
  obtain ⟨c, hc, rfl⟩ := List.mem_map.mp hc'
  obtain ⟨r', hr', rfl⟩ := List.mem_map.mp hx
  obtain ⟨r, hr, rfl⟩ := List.mem_map.mp hr'
  exact ⟨c, (List.mem_filter.mp hc).1, r, hr, rfl⟩

theorem inferred_instances_wf (u : UC) (m : MM) (hw : m.WF u) (hm : m.Closed u) :
    ∀ it ∈ (m.inferred u).serializeInstances, it.WF u := by
  intro it hit
  obtain ⟨c, hc, r, hr, rfl⟩ := mem_inferred_instances hit
  refine ⟨(hw.rows c hc (.inst c.kind c.attrs r) (List.mem_map.mpr ⟨r, hr, rfl⟩)).1, fun a ha => ?_⟩
  have hmem := List.of_mem_zip ha
  refine ⟨?_, ?_⟩
  · obtain ⟨i, _, hi⟩ := List.mem_map.mp hmem.1
    exact hi ▸ noNewline_positional i
  · obtain ⟨a0, ha0, he⟩ := List.mem_map.mp hmem.2
    obtain ⟨t, ht⟩ := Option.isSome_iff_exists.mp (hm.types c hc a0 ha0)
    rw [← he, (guessedName_core u a0.2 t ht).1]
    exact noNewline_tyChars _

theorem inferred_instances_print (u : UC) (m : MM)
    (hrow : ∀ c ∈ m.classes, ∀ row ∈ c.rows, (rowTexts u c.attrs row).isSome = true) :
    ∃ text, printItems u (m.inferred u).serializeInstances = some text := by
  apply printItems_some_of_all
  intro it hit
  obtain ⟨c, hc, r, hr, rfl⟩ := mem_inferred_instances hit
  obtain ⟨texts, hrt⟩ := Option.isSome_iff_exists.mp (hrow c hc r hr)
  rw [inst_print_isSome, inferAttrs,
    rowTexts_infer_zip u c.attrs (positionalNames c.attrs.length) r texts (positionalNames_length _) hrt]
  rfl

/-- TEXT LEVEL, INSERT-only route, both rounds: the instance text of a closed metamodel is accepted and builds to
    `m.inferred`; the instance text written from `m.inferred` is accepted and builds to `m.inferred` again -/
theorem instances_only_text (u : UC) (m : MM) (hw : m.WF u) (hm : m.Closed u) (text1 : Text)
    (hp : printItems u m.serializeInstances = some text1) :
    (∃ stmts bs, classify u text1 = .accepted stmts ∧ build u stmts = .ok bs ∧ bs.toMM u = m.inferred u) ∧
    ∃ text2, printItems u (m.inferred u).serializeInstances = some text2 ∧
      ∃ stmts2 bs2, classify u text2 = .accepted stmts2 ∧ build u stmts2 = .ok bs2 ∧ bs2.toMM u = m.inferred u := by
  obtain ⟨stmts, hs, hc⟩ := route_roundtrip u m hw m.serializeInstances (by simp [MM.routes]) text1 hp
  obtain ⟨bs, hb, he⟩ := reload_instances_only u m hm.distinct hm.rows stmts hs
  refine ⟨⟨stmts, bs, hc, hb, he⟩, ?_⟩
  have hrow : ∀ c ∈ m.classes, ∀ row ∈ c.rows, (rowTexts u c.attrs row).isSome = true :=
    rows_print_of_route u m _ text1 hp fun c hc' row hr =>
      List.mem_flatMap.mpr ⟨c, hc', List.mem_map.mpr ⟨row, hr, rfl⟩⟩
  obtain ⟨text2, h2⟩ := inferred_instances_print u m hrow
  obtain ⟨stmts2, hs2, hc2⟩ := classify_items u _ text2 (inferred_instances_wf u m hw hm) h2
  have hd2 : ((m.inferred u).classes.map fun c => u.upper c.kind).Nodup := by
    show (((m.classes.filter fun c => !c.rows.isEmpty).map (inferClass u)).map fun c => u.upper c.kind).Nodup
    rw [List.map_map]
    exact (List.filter_sublist.map _).nodup hm.distinct
  have hr2 : ∀ c' ∈ (m.inferred u).classes, ∀ r' ∈ c'.rows, r'.length = c'.attrs.length := by
    intro c' hc' r' hr'
    obtain ⟨c, hc, rfl⟩ := List.mem_map.mp hc'
    obtain ⟨r, hr, rfl⟩ := List.mem_map.mp hr'
    exact (inferVals_length u c.attrs r).trans
      ((hm.rows c (List.mem_filter.mp hc).1 r hr).trans (inferAttrs_length u c.attrs).symm)
  obtain ⟨bs2, hb2, he2⟩ := reload_instances_only u (m.inferred u) hd2 hr2 stmts2 hs2
  exact ⟨text2, h2, stmts2, bs2, hc2, hb2, he2.trans (inferred_idem u m hm)⟩

end Pyx.Sql
