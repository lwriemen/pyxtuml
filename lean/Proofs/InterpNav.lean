import Proofs.InterpStore
import Proofs.Query

/-!
  Chain navigation over the refined store.

  `Pyx.Query.navigate` (one step: the direct link stored under (kind, rel, phrase), else the two-hop
  `_find_assoc_links` through an association class with its `OrderedSet` union), `Pyx.Query.navStep` (one step over
  a sequence, duplicates kept) and `Pyx.Query.navSeq` (a chain `a->B[R1]->C[R2]…`) return — instance for instance,
  in the same order — what `Spec`'s `navStep` / `navStepList` / `navChain` return on the named instances.
  First the links themselves: a class's link entries, the look-up under a key and the partners across a link are the
  named ones of `Spec` (`toRef`, `linksOfFrom_corr`, `lookup_corr`, `follow_corr`), which settles the direct step
  (`navigate_refines`).
  Guard: distinct link keys per class (`KeysDistinct`: no dict overwrite), handles of created instances.
-/
namespace Pyx.Interp
open Pyx.Query (LinkEntry)

section
variable {kname : Nat → String} {ι : Nat → Inst} {s : MState} {st : State}

def toRef (kname : Nat → String) (e : Pyx.Query.LinkEntry) : LinkRef := ⟨e.assoc, e.isSrc, kname e.toKind, e.rel, e.phrase⟩

theorem linksOfFrom_corr (hk : Function.Injective kname) (k : Nat) : ∀ (sch : MSchema) (n : Nat),
    linksOfFrom (kname k) n (sch.map (toAssoc kname)) = (Pyx.Query.linkEntriesFrom k n sch).map (toRef kname)
  | [], _ => rfl
  | a :: rest, n => by
    simp only [List.map_cons, linksOfFrom, Pyx.Query.linkEntriesFrom, List.map_append]
    rw [linksOfFrom_corr hk k rest (n + 1)]
    have e1 : ((toAssoc kname a).tgt = kname k) ↔ (a.tgtKind = k) := by simp only [toAssoc, hk.eq_iff]
    have e2 : ((toAssoc kname a).src = kname k) ↔ (a.srcKind = k) := by simp only [toAssoc, hk.eq_iff]
    by_cases h1 : a.tgtKind = k <;> by_cases h2 : a.srcKind = k <;>
      simp [h1, h2, hk.eq_iff, toRef, toAssoc]

set_option linter.unusedVariables false in
theorem follow_corr {sch : MSchema} (R : Refines kname ι s st) (e : Pyx.Query.LinkEntry) {x : Nat} (hx : x < s.count) :
    follow st (toRef kname e) (ι x) = (Pyx.Query.followEntry s e x).map ι := by
  unfold follow Pyx.Query.followEntry toRef
  by_cases h : e.isSrc = true
  · simp only [h, if_true]; exact R.srcOrd e.assoc x hx
  · simp only [h]; exact R.tgtOrd e.assoc x hx

/-- the link a class keeps under (kind, rel, phrase) is the first link `Spec` finds with that end, rel id and phrase -/
theorem lookup_corr (hk : Function.Injective kname) (sch : MSchema) (k toKind : Nat) (rel phrase : String)
    (hd : Pyx.Query.KeysDistinct (Pyx.Query.linkEntriesFrom k 0 sch)) (kinds : List Nat) :
    (linksOf (ctxOf kname kinds sch) (kname k)).find? (fun l => decide (l.to = kname toKind ∧ l.rel = rel ∧ l.phrase = phrase)) =
      (Pyx.Query.lookupKey (Pyx.Query.linkDict sch k) toKind rel phrase).map (toRef kname) := by
  rw [Pyx.Query.linkDict_distinct sch k hd]
  unfold linksOf ctxOf
  simp only
  rw [linksOfFrom_corr hk k sch 0, List.find?_map]
  have hpred : ((fun l : LinkRef => decide (l.to = kname toKind ∧ l.rel = rel ∧ l.phrase = phrase)) ∘ toRef kname) =
      (fun e : Pyx.Query.LinkEntry => e.toKind == toKind && e.rel == rel && e.phrase == phrase) := by
    funext e'
    simp only [Function.comp, toRef, hk.eq_iff]
    by_cases h1 : e'.toKind = toKind <;> by_cases h2 : e'.rel = rel <;> by_cases h3 : e'.phrase = phrase <;>
      simp [h1, h2, h3]
  rw [hpred]
  rfl

/-- a navigation step over a direct link (`Query.navigate`, `Query.navigate_direct'`) returns exactly the
    Spec image of the instance under the association's pair list, in the same order.
    Guard: the link keys of the instance's class are distinct (`KeysDistinct`: no dict overwrite). -/
theorem navigate_refines (hk : Function.Injective kname) (kinds : List Nat) (sch : MSchema)
    (R : Refines kname ι s st) {x : Nat} (hx : x < s.count)
    (hd : Pyx.Query.KeysDistinct (Pyx.Query.linkEntriesFrom (s.kindOf x) 0 sch))
    (toKind : Nat) (rel phrase : String) (e : Pyx.Query.LinkEntry)
    (h : Pyx.Query.lookupKey (Pyx.Query.linkDict sch (s.kindOf x)) toKind rel phrase = some e) :
    Pyx.Query.navigate sch s x toKind rel phrase = some (Pyx.Query.followEntry s e x) ∧
    navStep (ctxOf kname kinds sch) st (ι x) ⟨kname toKind, rel, phrase⟩ = .ok ((Pyx.Query.followEntry s e x).map ι) := by
  refine ⟨Pyx.Query.navigate_direct' sch s x toKind rel phrase e h, ?_⟩
  unfold navStep
  simp only
  rw [R.cls x hx, lookup_corr hk sch (s.kindOf x) toKind rel phrase hd kinds, h]
  simp only [Option.map_some]
  rw [follow_corr (sch := sch) R e hx]

def toStep (kname : Nat → String) (stp : Pyx.Query.Step) : NavStep := ⟨kname stp.toKind, stp.rel, stp.phrase⟩

/-- `QuerySet(iterable)` of the named instances = the named `OrderedSet` of the instances, if the naming is injective
    on them -/
theorem dedup_map_of_inj (l : List Nat) (hinj : ∀ a ∈ l, ∀ b ∈ l, ι a = ι b → a = b) :
    dedup (l.map ι) = (Pyx.Query.dedupFirst l).map ι :=
  (Dedup.foldl_step_map ι l hinj).trans (congrArg (List.map ι) (Pyx.OSet.fromIter_eq_dedupFirst l))

theorem followEntry_lt {sch : MSchema} (A : Pyx.Meta.AllInv sch s) (e : LinkEntry) {x y : Nat}
    (h : y ∈ Pyx.Query.followEntry s e x) : y < s.count := by
  unfold Pyx.Query.followEntry at h
  by_cases he : e.isSrc = true
  · rw [if_pos he] at h; exact ((links_lt A).1 h).2
  · rw [if_neg he] at h; exact ((links_lt A).2 h).1

/-- **one navigation step** (`MetaClass.navigate`), direct or two-hop: the Spec step on the named instance returns the
    named result, in the same order; an unknown link is rejected on both sides -/
theorem navigate_step_refines (hk : Function.Injective kname) (kinds : List Nat) {sch : MSchema}
    (R : Refines kname ι s st) (A : Pyx.Meta.AllInv sch s)
    (hd : ∀ k, Pyx.Query.KeysDistinct (Pyx.Query.linkEntriesFrom k 0 sch))
    {x : Nat} (hx : x < s.count) (stp : Pyx.Query.Step) :
    (∀ l, Pyx.Query.navigate sch s x stp.toKind stp.rel stp.phrase = some l →
        navStep (ctxOf kname kinds sch) st (ι x) (toStep kname stp) = .ok (l.map ι) ∧ ∀ y ∈ l, y < s.count) ∧
    (Pyx.Query.navigate sch s x stp.toKind stp.rel stp.phrase = none →
        ∃ e, navStep (ctxOf kname kinds sch) st (ι x) (toStep kname stp) = .error e) := by
  have hlook := lookup_corr hk sch (s.kindOf x) stp.toKind stp.rel stp.phrase (hd _) kinds
  cases hl : Pyx.Query.lookupKey (Pyx.Query.linkDict sch (s.kindOf x)) stp.toKind stp.rel stp.phrase with
  | some e =>
    obtain ⟨hnav, hspec⟩ := navigate_refines hk kinds sch R hx (hd _) stp.toKind stp.rel stp.phrase e hl
    rw [hnav]
    exact ⟨fun l hle => by cases hle; exact ⟨hspec, fun y hy => followEntry_lt A e hy⟩, nofun⟩
  | none =>
    have hnav := Pyx.Query.navigate_indirect sch s x stp.toKind stp.rel stp.phrase hl
    rw [hnav]
    -- the Spec side: no direct link either, then the same probe over the same entries
    have hdict := Pyx.Query.linkDict_distinct sch (s.kindOf x) (hd _)
    have hls : linksOf (ctxOf kname kinds sch) (kname (s.kindOf x)) =
        (Pyx.Query.linkEntriesFrom (s.kindOf x) 0 sch).map (toRef kname) := by
      unfold linksOf ctxOf; simp only; exact linksOfFrom_corr hk _ sch 0
    have hprobe : ∀ e1 : LinkEntry, viaProbe (ctxOf kname kinds sch) (toStep kname stp) (toRef kname e1) =
        (Pyx.Query.assocHop sch stp.toKind stp.rel stp.phrase e1).map (fun p => (toRef kname p.1, toRef kname p.2)) := by
      intro e1
      unfold Pyx.Query.assocHop viaProbe toStep
      have hl2 := lookup_corr hk sch e1.toKind stp.toKind stp.rel stp.phrase (hd _) kinds
      by_cases hc : e1.rel = stp.rel ∧ e1.phrase = stp.phrase
      · have hc' : (e1.rel == stp.rel && e1.phrase == stp.phrase) = true := by simp [hc.1, hc.2]
        rw [if_pos (by simpa [toRef] using hc), if_pos hc']
        show (match (linksOf (ctxOf kname kinds sch) (kname e1.toKind)).find? _ with | some l2 => _ | none => none) = _
        rw [hl2]
        cases Pyx.Query.lookupKey (Pyx.Query.linkDict sch e1.toKind) stp.toKind stp.rel stp.phrase <;> rfl
      · have hc' : ¬ ((e1.rel == stp.rel && e1.phrase == stp.phrase) = true) := by
          simpa using fun h1 => (fun h2 => hc ⟨h1, h2⟩)
        rw [if_neg (by simpa [toRef] using hc), if_neg hc']
        rfl
    unfold navStep
    simp only
    rw [R.cls x hx]
    have hlook' : (linksOf (ctxOf kname kinds sch) (kname (s.kindOf x))).find?
        (fun l => decide (l.to = (toStep kname stp).kl ∧ l.rel = (toStep kname stp).rel ∧ l.phrase = (toStep kname stp).phrase)) = none := by
      show (linksOf _ _).find? (fun l => decide (l.to = kname stp.toKind ∧ l.rel = stp.rel ∧ l.phrase = stp.phrase)) = none
      rw [hlook, hl]; rfl
    rw [hlook']
    simp only
    rw [hls, List.filterMap_map]
    have hfm : (Pyx.Query.linkEntriesFrom (s.kindOf x) 0 sch).filterMap
        (viaProbe (ctxOf kname kinds sch) (toStep kname stp) ∘ toRef kname) =
        ((Pyx.Query.linkEntriesFrom (s.kindOf x) 0 sch).filterMap (Pyx.Query.assocHop sch stp.toKind stp.rel stp.phrase)).map
          (fun p => (toRef kname p.1, toRef kname p.2)) := by
      rw [List.map_filterMap]
      congr 1
      funext e1
      exact hprobe e1
    rw [hfm]
    have hhead := List.head?_filterMap (f := Pyx.Query.assocHop sch stp.toKind stp.rel stp.phrase)
      (l := Pyx.Query.linkEntriesFrom (s.kindOf x) 0 sch)
    rw [hdict]
    cases hfs : (Pyx.Query.linkEntriesFrom (s.kindOf x) 0 sch).filterMap (Pyx.Query.assocHop sch stp.toKind stp.rel stp.phrase) with
    | nil =>
      rw [hfs] at hhead
      rw [← hhead]
      simp only [List.head?_nil, List.map_nil]
      exact ⟨fun l h => (by cases h), fun _ => ⟨_, rfl⟩⟩
    | cons p rest =>
      rw [hfs] at hhead
      rw [← hhead]
      obtain ⟨e1, e2⟩ := p
      simp only [List.head?_cons, List.map_cons]
      refine ⟨fun l hle => ?_, fun h => by cases h⟩
      simp only [Option.some.injEq] at hle
      subst hle
      have hL : ∀ y ∈ Pyx.Query.followEntry s e1 x, y < s.count := fun y hy => followEntry_lt A e1 hy
      have hflat : (follow st (toRef kname e1) (ι x)).flatMap (follow st (toRef kname e2)) =
          ((Pyx.Query.followEntry s e1 x).flatMap (Pyx.Query.followEntry s e2)).map ι := by
        rw [follow_corr (sch := sch) R e1 hx, List.flatMap_map, List.map_flatMap]
        apply Query.flatMap_congr'
        intro y hy
        exact follow_corr (sch := sch) R e2 (hL y hy)
      have hlt : ∀ y ∈ (Pyx.Query.followEntry s e1 x).flatMap (Pyx.Query.followEntry s e2), y < s.count := by
        intro y hy
        obtain ⟨z, _, hz⟩ := List.mem_flatMap.1 hy
        exact followEntry_lt A e2 hz
      constructor
      · show Except.ok (dedup ((follow st (toRef kname e1) (ι x)).flatMap (follow st (toRef kname e2)))) = _
        rw [hflat, Pyx.Query.unionAll_map]
        congr 1
        exact dedup_map_of_inj _ (fun a ha b hb e => R.inj a b (hlt a ha) (hlt b hb) e)
      · intro y hy
        rw [Pyx.Query.unionAll_map] at hy
        exact hlt y (Pyx.OSet.mem_dedupFirst.1 hy)

/-- **a navigation step over a sequence** (`NavChain._nav`, duplicates kept); the bound on the result is part of the
    statement because the next step of a chain needs it -/
theorem navStep_seq_refines (hk : Function.Injective kname) (kinds : List Nat) {sch : MSchema}
    (R : Refines kname ι s st) (A : Pyx.Meta.AllInv sch s)
    (hd : ∀ k, Pyx.Query.KeysDistinct (Pyx.Query.linkEntriesFrom k 0 sch)) (stp : Pyx.Query.Step) :
    ∀ (l r : List Nat), (∀ x ∈ l, x < s.count) → Pyx.Query.navStep sch s l stp = some r →
      navStepList (ctxOf kname kinds sch) st (l.map ι) (toStep kname stp) = .ok (r.map ι) ∧ ∀ y ∈ r, y < s.count
  | [], r, _, h => by cases h; exact ⟨rfl, nofun⟩
  | x :: l, r, hl, h => by
    rw [Pyx.Query.navStep_cons] at h
    obtain ⟨rx, hn, h⟩ := Option.bind_eq_some_iff.1 h
    obtain ⟨r', hr, rfl⟩ := Option.map_eq_some_iff.1 h
    obtain ⟨hsx, hltx⟩ := (navigate_step_refines hk kinds R A hd (hl x List.mem_cons_self) stp).1 rx hn
    obtain ⟨hspec, hlt⟩ := navStep_seq_refines hk kinds R A hd stp l r' (fun y hy => hl y (List.mem_cons_of_mem _ hy)) hr
    rw [List.map_cons, navStepList, hsx, hspec, List.map_append]
    exact ⟨rfl, fun y hy => (List.mem_append.1 hy).elim (hltx y) (hlt y)⟩

/-- **chain navigation** `h->K1[R1]->K2[R2]…` (`Pyx.Query.navSeq`): the Spec chain over the named handle returns the
    named result, in the same order (duplicates included — de-duplication is the select's business), and the result
    holds created instances only -/
theorem navChain_refines_lt (hk : Function.Injective kname) (kinds : List Nat) {sch : MSchema}
    (R : Refines kname ι s st) (A : Pyx.Meta.AllInv sch s)
    (hd : ∀ k, Pyx.Query.KeysDistinct (Pyx.Query.linkEntriesFrom k 0 sch)) :
    ∀ (steps : List Pyx.Query.Step) (h r : List Nat), (∀ x ∈ h, x < s.count) →
      Pyx.Query.navSeq sch s h steps = some r →
      navChain (ctxOf kname kinds sch) st (h.map ι) (steps.map (toStep kname)) = .ok (r.map ι) ∧ ∀ y ∈ r, y < s.count
  | [], h, r, hl, hq => by
    simp only [Pyx.Query.navSeq, List.foldl_nil, Option.some.injEq] at hq
    subst hq; exact ⟨rfl, hl⟩
  | stp :: rest, h, r, hl, hq => by
    unfold Pyx.Query.navSeq at hq
    simp only [List.foldl_cons] at hq
    cases hn : Pyx.Query.navStep sch s h stp with
    | none =>
      rw [hn] at hq
      cases (Pyx.Query.navSeq_foldl_none sch s rest).symm.trans hq
    | some l1 =>
      rw [hn] at hq
      obtain ⟨hs1, hlt1⟩ := navStep_seq_refines hk kinds R A hd stp h l1 hl hn
      simp only [List.map_cons, navChain]
      rw [hs1]
      exact navChain_refines_lt hk kinds R A hd rest l1 r hlt1 hq

theorem navChain_refines (hk : Function.Injective kname) (kinds : List Nat) {sch : MSchema}
    (R : Refines kname ι s st) (A : Pyx.Meta.AllInv sch s)
    (hd : ∀ k, Pyx.Query.KeysDistinct (Pyx.Query.linkEntriesFrom k 0 sch)) :
    ∀ (steps : List Pyx.Query.Step) (h r : List Nat), (∀ x ∈ h, x < s.count) →
      Pyx.Query.navSeq sch s h steps = some r →
      navChain (ctxOf kname kinds sch) st (h.map ι) (steps.map (toStep kname)) = .ok (r.map ι) :=
  fun steps h r hl hq => (navChain_refines_lt hk kinds R A hd steps h r hl hq).1

/-- the select over a chain: `select many` = `QuerySet(chain result)`, on both sides -/
theorem navMany_refines (hk : Function.Injective kname) (kinds : List Nat) {sch : MSchema}
    (R : Refines kname ι s st) (A : Pyx.Meta.AllInv sch s)
    (hd : ∀ k, Pyx.Query.KeysDistinct (Pyx.Query.linkEntriesFrom k 0 sch))
    (steps : List Pyx.Query.Step) (h r : List Nat) (hl : ∀ x ∈ h, x < s.count)
    (hq : Pyx.Query.navSeq sch s h steps = some r) :
    (navChain (ctxOf kname kinds sch) st (h.map ι) (steps.map (toStep kname))).map dedup =
      .ok ((Pyx.Query.dedupFirst r).map ι) := by
  obtain ⟨hc, hlt⟩ := navChain_refines_lt hk kinds R A hd steps h r hl hq
  rw [hc]
  show Except.ok (dedup (r.map ι)) = _
  congr 1
  exact dedup_map_of_inj r (fun a ha b hb e => R.inj a b (hlt a ha) (hlt b hb) e)

end

end Pyx.Interp
