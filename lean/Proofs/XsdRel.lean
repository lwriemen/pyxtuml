import Proofs.XsdComplete
import Proofs.XsdEdits
import Proofs.ExtractFuel

/-!
  C20 — the declarations against a RELATIONAL specification: `Reaches` (containment chain reaches the component),
  `InComp` (a component on the chain), `BaseName` (base data type over R18), instead of the model's own functions.
-/

namespace Pyx.Extract

/-- an attribute is declared iff it is not derived and the data type of the attribute (for a referential one: of
    the base attribute it refers to) has a base name; it is named as modeled and typed by that name -/
theorem xattr_rel {d : ClassDiagram} (chain : DtChainOk d.dts) (a : Attr) (x : XAttr) :
    xattr d a = some x ↔
      a.isDerived = false ∧ x.name = a.name ∧ ∃ dt, attrDt d a = some dt ∧ BaseName d.dts dt x.ty := by
  rw [xattr_eq_some]
  constructor
  · rintro ⟨h1, h2, dt, h3, h4⟩
    exact ⟨h1, h2, dt, h3, (baseTypeName_iff chain dt x.ty).mp h4⟩
  · rintro ⟨h1, h2, dt, h3, h4⟩
    exact ⟨h1, h2, dt, h3, (baseTypeName_iff chain dt x.ty).mpr h4⟩

/-- the name under which a data type can be the base of a user type -/
theorem typeNameOf_rel (dts : List DataType) (b : Nat) (n : String) :
    typeNameOf dts b = some n ↔
      ∃ t, findDt dts b = some t ∧ t.name = n ∧ n ≠ "" ∧
        ((∃ k, t.kind = .core k ∧ 1 ≤ k ∧ k ≤ 5) ∨ (∃ es, t.kind = .enum es) ∨ (∃ b', t.kind = .user b')) := by
  unfold typeNameOf
  cases hf : findDt dts b with
  | none => simp
  | some t =>
    simp only [Option.some.injEq, exists_eq_left']
    by_cases hn : t.name = ""
    · simp only [hn, beq_self_eq_true, if_true]
      constructor
      · intro h; cases h
      · rintro ⟨h1, h2, _⟩; exact absurd h1.symm h2
    · have hb : (t.name == "") = false := by simp [hn]
      simp only [hb, Bool.false_eq_true, if_false]
      cases hk : t.kind with
      | core k =>
        simp only
        constructor
        · intro h
          split at h
          · rename_i hk'; cases h; exact ⟨rfl, hn, Or.inl ⟨k, rfl, hk'.1, hk'.2⟩⟩
          · cases h
        · rintro ⟨h1, _, h3⟩
          rcases h3 with ⟨k', hk', h1', h5'⟩ | ⟨es, he⟩ | ⟨b', hb'⟩
          · cases hk'; simp [h1', h5', h1]
          · cases he
          · cases hb'
      | enum es =>
        simp only [Option.some.injEq]
        constructor
        · intro h; exact ⟨h, h ▸ hn, Or.inr (Or.inl ⟨es, rfl⟩)⟩
        · rintro ⟨h1, _, _⟩; exact h1
      | user b' =>
        simp only [Option.some.injEq]
        constructor
        · intro h; exact ⟨h, h ▸ hn, Or.inr (Or.inr ⟨b', rfl⟩)⟩
        · rintro ⟨h1, _, _⟩; exact h1
      | other =>
        simp only
        constructor
        · intro h; cases h
        · rintro ⟨_, _, h3⟩
          rcases h3 with ⟨k', hk', _⟩ | ⟨es, he⟩ | ⟨b', hb'⟩
          · cases hk'
          · cases he
          · cases hb'

/-- the declared class elements, relationally: exactly the classes whose containment chain reaches the component -/
theorem xsd_classes_rel {d : ClassDiagram} (tree : TreeOk d.containers d.pkgrefs) (comp : Nat) (xc : XClass) :
    xc ∈ (xsdSpec d comp).classes ↔ ∃ c ∈ d.classes, Reaches d.containers d.pkgrefs comp c.parent ∧ xc = xclassAll d c := by
  simp only [xsdSpec, List.mem_map, List.mem_filter]
  constructor
  · rintro ⟨c, ⟨hc, hs⟩, rfl⟩
    exact ⟨c, hc, (contained_iff tree comp _).mp hs, rfl⟩
  · rintro ⟨c, hc, hr, rfl⟩
    exact ⟨c, ⟨hc, (contained_iff tree comp _).mpr hr⟩, rfl⟩

/-- without package references, an element inside a component has a C_C row on its OWN containment chain: it is not global
    (`global_iff`) -/
theorem global_contained_disjoint {cs : List Container} {root : Nat} {p : Parent} (h : Reaches cs [] root p) : InComp cs p :=
  (reaches_inComp_or_ref h).resolve_right fun ⟨_, hr, _⟩ => nomatch hr

theorem contained_not_global_plain (cs : List Container) (root : Nat) (p : Parent) (h : containedIn cs [] root p = true) :
    isGlobal cs p = false := by
  cases hg : isGlobal cs p with
  | false => rfl
  | true => rw [containedIn, global_not_contained cs root _ p hg] at h; cases h

/-- the S_DT rows `build_schema` declares, in the order of its two loops: the global ones, then those contained in the
    component that are NOT global -/
def declaredDts (d : ClassDiagram) (comp : Nat) : List DataType :=
  d.dts.filter (fun t => isGlobal d.containers t.parent) ++
    d.dts.filter (fun t => containedIn d.containers d.pkgrefs comp t.parent && !isGlobal d.containers t.parent)

theorem xsdSpec_types_eq (d : ClassDiagram) (comp : Nat) :
    (xsdSpec d comp).types = (declaredDts d comp).filterMap (xtypeOf d.dts) := by
  unfold xsdSpec declaredDts
  simp only [List.filterMap_append]

theorem declaredDts_mem {d : ClassDiagram} {comp : Nat} {t : DataType} :
    t ∈ declaredDts d comp ↔
      t ∈ d.dts ∧ (isGlobal d.containers t.parent = true ∨ containedIn d.containers d.pkgrefs comp t.parent = true) := by
  unfold declaredDts
  simp only [List.mem_append, List.mem_filter, Bool.and_eq_true, Bool.not_eq_true']
  constructor
  · rintro (⟨h, hg⟩ | ⟨h, hc, _⟩)
    · exact ⟨h, Or.inl hg⟩
    · exact ⟨h, Or.inr hc⟩
  · rintro ⟨h, hs⟩
    cases hg : isGlobal d.containers t.parent with
    | true => exact Or.inl ⟨h, rfl⟩
    | false =>
      rcases hs with hs | hs
      · rw [hs] at hg; cases hg
      · exact Or.inr ⟨h, hs, rfl⟩

/-- the declared simple types, relationally: the declarable data types that have no component on their containment
    chain (global) or whose chain — continued over package references — reaches the requested component -/
theorem xsd_types_rel {d : ClassDiagram} (tree : TreeOk d.containers d.pkgrefs) (comp : Nat) (x : XType) :
    x ∈ (xsdSpec d comp).types ↔
      ∃ t ∈ d.dts, (¬ InComp d.containers t.parent ∨ Reaches d.containers d.pkgrefs comp t.parent) ∧ xtypeOf d.dts t = some x := by
  simp only [xsdSpec_types_eq, List.mem_filterMap, declaredDts_mem, global_iff tree, contained_iff tree, and_assoc]

/-- no S_DT row is taken by both loops — whether or not it is global AND contained (a data type of a global package
    that a package of the component refers to is): the names of the declared rows are distinct when the names of the
    data types are -/
theorem declaredDts_names_nodup {d : ClassDiagram} (comp : Nat) (hn : (d.dts.map (·.name)).Nodup) :
    ((declaredDts d comp).map (·.name)).Nodup := by
  unfold declaredDts
  rw [List.map_append, List.nodup_append]
  refine ⟨List.Nodup.sublist (List.Sublist.map _ List.filter_sublist) hn,
    List.Nodup.sublist (List.Sublist.map _ List.filter_sublist) hn, ?_⟩
  intro a ha b hb hab
  obtain ⟨x, hx, rfl⟩ := List.mem_map.mp ha
  obtain ⟨y, hy, rfl⟩ := List.mem_map.mp hb
  obtain ⟨hxm, hxg⟩ := List.mem_filter.mp hx
  obtain ⟨hym, hyg⟩ := List.mem_filter.mp hy
  have := inj_of_nodup_map (fun (t : DataType) => t.name) hn hxm hym hab
  subst this
  simp only [Bool.and_eq_true, Bool.not_eq_true'] at hyg
  rw [hyg.2] at hxg
  cases hxg

theorem xtypeOf_name {dts : List DataType} {t : DataType} {x : XType} (h : xtypeOf dts t = some x) : x.name = t.name := by
  unfold xtypeOf at h
  cases hk : t.kind with
  | core n =>
    rw [hk] at h
    cases hc : coreXs t.name with
    | none => simp [hc] at h
    | some b => simp only [hc, Option.map_some, Option.some.injEq] at h; subst h; rfl
  | enum es => rw [hk] at h; simp only [Option.some.injEq] at h; subst h; rfl
  | user b =>
    rw [hk] at h
    cases hc : typeNameOf dts b with
    | none => simp [hc] at h
    | some bn => simp only [hc, Option.map_some, Option.some.injEq] at h; subst h; rfl
  | other => rw [hk] at h; cases h

/-- DECLARED EXACTLY ONCE: a declarable data type that is global or contained in the component — or both — has exactly
    one `xs:simpleType` of its name in the schema -/
theorem xsd_declared_once {d : ClassDiagram} (comp : Nat) (hn : (d.dts.map (·.name)).Nodup) {t : DataType} {x : XType}
    (ht : t ∈ d.dts)
    (hs : isGlobal d.containers t.parent = true ∨ containedIn d.containers d.pkgrefs comp t.parent = true)
    (hx : xtypeOf d.dts t = some x) :
    ((xsdSpec d comp).types.map XType.name).count t.name = 1 ∧ x ∈ (xsdSpec d comp).types := by
  rw [xsdSpec_types_eq]
  have hnd : (((declaredDts d comp).filterMap (xtypeOf d.dts)).map XType.name).Nodup :=
    List.Nodup.sublist (filterMap_map_sublist (fun _ _ h => xtypeOf_name h) _) (declaredDts_names_nodup comp hn)
  have hmem : x ∈ (declaredDts d comp).filterMap (xtypeOf d.dts) :=
    List.mem_filterMap.mpr ⟨t, declaredDts_mem.mpr ⟨ht, hs⟩, hx⟩
  refine ⟨?_, hmem⟩
  rw [hnd.count, if_pos]
  exact List.mem_map.mpr ⟨x, hmem, xtypeOf_name hx⟩

/-- CONSERVATIVE EXTENSION: without EP_PKGREF rows the second loop's `and not is_global(...)` filters nothing — `xsdSpec`
    is what the reference-free model (`containedFuelPlain`) computes: global types, then the types contained in the component -/
theorem xsdSpec_no_pkgref (d : ClassDiagram) (comp : Nat) (h : d.pkgrefs = []) :
    (xsdSpec d comp).types =
      (d.dts.filter (fun t => isGlobal d.containers t.parent)).filterMap (xtypeOf d.dts) ++
      (d.dts.filter (fun t => containedFuelPlain d.containers comp (d.containers.length + 1) t.parent)).filterMap (xtypeOf d.dts) ∧
    (xsdSpec d comp).classes =
      (d.classes.filter (fun c => containedFuelPlain d.containers comp (d.containers.length + 1) c.parent)).map (xclassAll d) := by
  unfold xsdSpec
  simp only [h]
  constructor
  · congr 2
    apply List.filter_congr
    intro t _
    cases hc : containedIn d.containers [] comp t.parent with
    | false =>
      have := containedFuel_no_pkgref d.containers comp (d.containers.length + 1) t.parent
      unfold containedIn at hc
      rw [← this, hc]; rfl
    | true =>
      have := containedFuel_no_pkgref d.containers comp (d.containers.length + 1) t.parent
      rw [contained_not_global_plain _ _ _ hc]
      unfold containedIn at hc
      rw [← this, hc]; rfl
  · congr 1
    apply List.filter_congr
    intro c _
    exact containedFuel_no_pkgref d.containers comp _ c.parent

end Pyx.Extract
