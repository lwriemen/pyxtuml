/-!
  OAL expressions at TOKEN level (bridgepoint/oal.py): token kinds, the expression syntax tree
  with exactly the node classes of oal.py, a precedence-climbing parser parameterised by a
  precedence table (the table of the real grammar is GENERATED: Gen/OalPrec.lean), and two
  renderers: `render` (only the parentheses the table requires) and `renderFull` (every operator
  node parenthesised, as bridgepoint/sourcegen.py writes expressions).

  The interface to the text is the token stream of the real PLY lexer (kind + lexeme); the
  character level is modelled elsewhere (C13/C08).  No Mathlib, no `import Lean`.

  Grammar modelled (p_* productions of oal.py):
    expression : constant | variable_access | self_access | selected_access | invocation
               | LPAREN expression RPAREN                       (grouping dropped: p[0] = p[2])
               | unary_operator expression %prec UNARY
               | expression <binary operator token> expression
    constant   : FRACTION | NUMBER | STRING | TRUE | FALSE | namespace DOUBLECOLON identifier
    variable_access : variable_name | field_access | index_access | param_access
    field_access : (structure|index_access|field_access|param_access) DOT identifier
    index_access : (array|index_access|field_access|param_access) LSQBR expression RSQBR
    structure  : variable_name | SELF | SELECTED ;  array : variable_name
    param_access : (PARAM|RCVD_EVT) DOT variable_name
    invocation : namespace DOUBLECOLON identifier LPAREN parameter_list RPAREN
               | DOUBLECOLON identifier LPAREN parameter_list RPAREN
               | structure DOT identifier LPAREN parameter_list RPAREN
    parameter_list : parameter | parameter COMMA parameter_list | <empty>     (so `f(a:1,)` is accepted)
    parameter  : identifier COLON expression
  Names: `variable_name` / `rel_id` (= `limited_identifier : ID | kw_as_identifier_1`) and `identifier`
  (`limited_identifier | kw_as_identifier_2 | _3 | _4`) are modelled with their keyword alternatives: a name
  in the tree is the TOKEN that was written (kind + lexeme; oal.py keeps the lexeme), `Kind.isVarName` /
  `Kind.isIdent` are the two classes (tied to the kw_as_identifier productions by Props/C07 `name_classes`).
-/
namespace Pyx.Oal

/-- the token kinds of `OALParser.tokens` that the lexer returns (COMMENT / SL_STRING never are) -/
inductive Kind where
  | ASSIGN | ASSIGNER | BREAK | BRIDGE | SEND | CONTROL | STOP | CONTINUE | CREATE | EVENT
  | INSTANCE | OF | OBJECT | DELETE | FOR | EACH | IN | GENERATE | IF | ELIF | ELSE | RELATE
  | TO | ACROSS | USING | RETURN | SELECT | ONE | ANY | MANY | TRANSFORM | UNRELATE | FROM
  | WHILE | CLASS | CREATOR | RELATED | BY | INSTANCES | WHERE | CARDINALITY | EMPTY | FALSE
  | NOT | NOT_EMPTY | TRUE | AND | OR | PARAM | RCVD_EVT | SELF | SELECTED | LOOP | THEN
  | SEMICOLON | EQUAL | DOT | DOUBLECOLON | LPAREN | RPAREN | TIMES | COLON | COMMA | ARROW
  | LSQBR | RSQBR | ID | NAMESPACE | END_FOR | END_IF | END_WHILE | TICKED_PHRASE | QMARK
  | FRACTION | NUMBER | STRING | DOUBLEEQUAL | NOTEQUAL | LESSTHAN | LE | GT | GE | PLUS
  | MINUS | PIPE | DIV | MOD | AMP | CARET
  deriving DecidableEq, Repr, Inhabited

inductive Assoc where
  | left | right | nonassoc
  deriving DecidableEq, Repr

/-- one token of the PLY lexer: `tok.type`, `tok.value` -/
structure Tok where
  kind : Kind
  lex : String
  deriving DecidableEq, Repr

/-- kind of the first token, if any -/
def hk : List Tok → Option Kind
  | [] => none
  | tok :: _ => some tok.kind

@[simp] theorem hk_nil : hk [] = none := rfl
@[simp] theorem hk_cons (tok : Tok) (ts : List Tok) : hk (tok :: ts) = some tok.kind := rfl

/-- `limited_identifier : ID | kw_as_identifier_1` — what `variable_name` and `rel_id` accept -/
def Kind.isVarName : Kind → Bool
  | .ID | .ACROSS | .ANY | .ASSIGN | .ASSIGNER | .BREAK | .BY | .CLASS | .CONTINUE | .CONTROL | .CREATE | .CREATOR
  | .DELETE | .EACH | .EVENT | .FOR | .FROM | .GENERATE | .IN | .INSTANCES | .INSTANCE | .MANY | .OBJECT | .ONE
  | .RELATED | .RELATE | .SELECT | .STOP | .TO | .WHERE | .UNRELATE | .USING => true
  | _ => false

/-- `identifier : limited_identifier | kw_as_identifier_2 | kw_as_identifier_3 | kw_as_identifier_4` -/
def Kind.isIdent : Kind → Bool
  | .BRIDGE | .CARDINALITY | .EMPTY | .FALSE | .NOT | .NOT_EMPTY | .SEND | .TRANSFORM | .TRUE | .OF
  | .PARAM | .RCVD_EVT | .SELECTED | .SELF
  | .AND | .ELIF | .ELSE | .IF | .OR | .RETURN | .WHILE => true
  | k => k.isVarName

/-! ### syntax tree (node classes of oal.py; the field order is the constructor's).
    A name field holds the token that was written; the oal.py node holds its lexeme. -/

mutual
inductive Expr where
  /-- `IntegerNode(value)` : NUMBER lexeme -/
  | int (v : String)
  /-- `RealNode(value)` : FRACTION lexeme -/
  | real (v : String)
  /-- `StringNode(value)` : STRING lexeme, quotes included -/
  | str (v : String)
  /-- `BooleanNode(value)` : the TRUE / FALSE keyword as spelled -/
  | bool (b : Bool) (v : String)
  /-- `EnumOrNamedConstantNode(namespace, name)` -/
  | enumc (ns : String) (name : Tok)
  /-- `VariableAccessNode(variable_name)` -/
  | var (n : Tok)
  /-- `SelfAccessNode()` -/
  | self
  /-- `SelectedAccessNode()` -/
  | selected
  /-- `ParamAccessNode(variable_name)` : `param.n` / `rcvd_evt.n` -/
  | param (n : Tok)
  /-- `FieldAccessNode(handle, name)` -/
  | field (h : Expr) (n : Tok)
  /-- `IndexAccessNode(handle, expression)` -/
  | index (h : Expr) (i : Expr)
  /-- `FunctionInvocationNode(action_name, parameter_list)` : `::f(...)` -/
  | fcall (name : Tok) (ps : Params)
  /-- `ImplicitInvocationNode(namespace, action_name, parameter_list)` : `NS::f(...)` -/
  | icall (ns : String) (name : Tok) (ps : Params)
  /-- `InstanceInvocationNode(handle, action_name, parameter_list)` : `x.op(...)` -/
  | ocall (h : Expr) (name : Tok) (ps : Params)
  /-- `UnaryOperationNode(operator, operand)`; the operator token as lexed -/
  | un (op : Tok) (e : Expr)
  /-- `BinaryOperationNode(left, operator, right)` -/
  | bin (l : Expr) (op : Tok) (r : Expr)
/-- `ParameterListNode` of `ParameterNode(name, expression)` -/
inductive Params where
  | nil
  | cons (name : Tok) (e : Expr) (rest : Params)
end

instance : Inhabited Expr := ⟨.self⟩

/-! ### precedence table -/

/-- what the parser and the renderer need to know about operators.  `bin k = some (level, assoc)`
    for the binary operator tokens, `un k` for the tokens of `unary_operator`, `ulevel` the effective
    precedence level of the production `expression : unary_operator expression`. -/
structure Tbl where
  bin : Kind → Option (Nat × Assoc)
  un : Kind → Bool
  ulevel : Nat

/-- table from association lists (the shape the translator emits) -/
def Tbl.ofLists (bins : List (Kind × Nat × Assoc)) (uns : List Kind) (ulevel : Nat) : Tbl where
  bin k := bins.lookup k
  un k := uns.contains k
  ulevel := ulevel

/-- tokens after which / before which an operand is never an operator: closing and separating
    punctuation and the three tokens that continue an access chain or open an argument list -/
def Kind.isStructural : Kind → Bool
  | .DOT | .LSQBR | .LPAREN | .RPAREN | .RSQBR | .COMMA => true
  | _ => false

/-- tokens that start an operand -/
def Kind.isAtomStart : Kind → Bool
  | .NUMBER | .FRACTION | .STRING | .TRUE | .FALSE | .SELF | .SELECTED | .PARAM | .RCVD_EVT
  | .NAMESPACE | .DOUBLECOLON | .LPAREN => true
  | k => k.isVarName

/-- minimal level of the right operand: PLY reduces `e op e . op'` when `op'` is lower, or equal
    and `left`; errors when equal and `nonassoc`; shifts otherwise -/
def rmin (l : Nat) : Assoc → Nat
  | .right => l
  | _ => l + 1

/-- minimal level of an unparenthesised left operand -/
def lmin (l : Nat) : Assoc → Nat
  | .left => l
  | _ => l + 1

/-! ### parser -/

def Expr.isStruct : Expr → Bool
  | .var _ | .self | .selected => true
  | _ => false

/-- what may stand before `[` : array (a variable name), index_access, field_access, param_access -/
def Expr.isIndexable : Expr → Bool
  | .var _ | .param _ | .field _ _ | .index _ _ => true
  | _ => false

/-- what may stand before `.name` : structure, index_access, field_access, param_access -/
def Expr.isChain : Expr → Bool
  | .var _ | .self | .selected | .param _ | .field _ _ | .index _ _ => true
  | _ => false

mutual
/-- `parameter_list` up to (not including) the closing parenthesis -/
def parseParams (t : Tbl) : Nat → List Tok → Option (Params × List Tok)
  | 0, _ => none
  | f+1, nm :: col :: ts =>
    if nm.kind.isIdent = true ∧ col.kind = .COLON then
      match parseExpr t f 0 ts with
      | some (e, ts') =>
        if hk ts' = some .COMMA then
          match parseParams t f (ts'.drop 1) with
          | some (ps, ts'') => some (.cons nm e ps, ts'')
          | none => none
        else some (.cons nm e .nil, ts')
      | none => none
    else some (.nil, nm :: col :: ts)
  | _+1, ts => some (.nil, ts)
/-- the suffixes of an access chain after the handle `h` -/
def parseSuffix (t : Tbl) : Nat → Expr → List Tok → Option (Expr × List Tok)
  | 0, _, _ => none
  | f+1, h, tok :: ts =>
    match tok.kind with
    | .DOT =>
      match ts with
      | nm :: ts1 =>
        if nm.kind.isIdent then
          if hk ts1 = some .LPAREN then
            -- instance_invocation : structure DOT identifier LPAREN parameter_list RPAREN
            if h.isStruct then
              match parseParams t f (ts1.drop 1) with
              | some (ps, ts2) =>
                if hk ts2 = some .RPAREN then some (.ocall h nm ps, ts2.drop 1) else none
              | none => none
            else none
          else if h.isChain then parseSuffix t f (.field h nm) ts1 else none
        else none
      | [] => none
    | .LSQBR =>
      if h.isIndexable then
        match parseExpr t f 0 ts with
        | some (i, ts1) =>
          if hk ts1 = some .RSQBR then parseSuffix t f (.index h i) (ts1.drop 1) else none
        | none => none
      else none
    | _ => some (h, tok :: ts)
  | _+1, h, [] => some (h, [])
/-- one operand: a constant, an access chain, an invocation, a parenthesised expression or a
    unary operator applied to an expression parsed at the unary level -/
def parsePrefix (t : Tbl) : Nat → List Tok → Option (Expr × List Tok)
  | 0, _ => none
  | _+1, [] => none
  | f+1, tok :: ts =>
    if t.un tok.kind then
      match parseExpr t f t.ulevel ts with
      | some (e, ts') => some (.un tok e, ts')
      | none => none
    else if tok.kind.isVarName then parseSuffix t f (.var tok) ts
    else
      match tok.kind with
      | .NUMBER => some (.int tok.lex, ts)
      | .FRACTION => some (.real tok.lex, ts)
      | .STRING => some (.str tok.lex, ts)
      | .TRUE => some (.bool true tok.lex, ts)
      | .FALSE => some (.bool false tok.lex, ts)
      | .SELF => parseSuffix t f .self ts
      | .SELECTED => parseSuffix t f .selected ts
      | .PARAM | .RCVD_EVT =>
        match ts with
        | d :: nm :: ts' =>
          if d.kind = .DOT ∧ nm.kind.isVarName = true then parseSuffix t f (.param nm) ts' else none
        | _ => none
      | .NAMESPACE =>
        match ts with
        | dc :: nm :: ts' =>
          if dc.kind = .DOUBLECOLON ∧ nm.kind.isIdent = true then
            if hk ts' = some .LPAREN then
              match parseParams t f (ts'.drop 1) with
              | some (ps, ts2) =>
                if hk ts2 = some .RPAREN then some (.icall tok.lex nm ps, ts2.drop 1) else none
              | none => none
            else some (.enumc tok.lex nm, ts')
          else none
        | _ => none
      | .DOUBLECOLON =>
        match ts with
        | nm :: lp :: ts' =>
          if nm.kind.isIdent = true ∧ lp.kind = .LPAREN then
            match parseParams t f ts' with
            | some (ps, ts2) =>
              if hk ts2 = some .RPAREN then some (.fcall nm ps, ts2.drop 1) else none
            | none => none
          else none
        | _ => none
      | .LPAREN =>
        match parseExpr t f 0 ts with
        | some (e, ts') => if hk ts' = some .RPAREN then some (e, ts'.drop 1) else none
        | none => none
      | _ => none
/-- an expression all of whose top-level binary operators have level ≥ `minL` -/
def parseExpr (t : Tbl) : Nat → Nat → List Tok → Option (Expr × List Tok)
  | 0, _, _ => none
  | f+1, minL, ts =>
    match parsePrefix t f ts with
    | some (lhs, ts') => parseLoop t f minL none lhs ts'
    | none => none
/-- the operator loop; `na = some l` when `lhs` was just built by a non-associative operator of
    level `l` (a second operator of that level is then a syntax error, as in PLY) -/
def parseLoop (t : Tbl) : Nat → Nat → Option Nat → Expr → List Tok → Option (Expr × List Tok)
  | 0, _, _, _, _ => none
  | _+1, _, _, lhs, [] => some (lhs, [])
  | f+1, minL, na, lhs, tok :: ts =>
    match t.bin tok.kind with
    | some (l, a) =>
      if l < minL then some (lhs, tok :: ts)
      else if na = some l then none
      else
        match parseExpr t f (rmin l a) ts with
        | some (rhs, ts') =>
          parseLoop t f minL (if a = .nonassoc then some l else none) (.bin lhs tok rhs) ts'
        | none => none
    | none => some (lhs, tok :: ts)
end

/-- fuel that is enough for EVERY token list: `Proofs/OalFuel.lean` proves that a result obtained with any amount of
    fuel is obtained with every amount ≥ 2·|ts| + 2 (`parseExpr_fuel_indep`), so `parseExprTop` rejects only what
    every fuel rejects (`parseExprTop_complete`) -/
def fuelFor (ts : List Tok) : Nat := 8 * ts.length + 8

/-- the expression parser as the driver and the statement parser use it -/
def parseExprTop (t : Tbl) (ts : List Tok) : Option (Expr × List Tok) :=
  parseExpr t (fuelFor ts) 0 ts

/-! ### renderers -/

def tk (k : Kind) (s : String) : Tok := ⟨k, s⟩

def LP : Tok := ⟨.LPAREN, "("⟩
def RP : Tok := ⟨.RPAREN, ")"⟩

/-- precedence level of the top node -/
def Expr.level (t : Tbl) : Expr → Nat
  | .un _ _ => t.ulevel
  | .bin _ op _ => match t.bin op.kind with | some (l, _) => l | none => 0
  | _ => t.ulevel + 1

def wrap (b : Bool) (ts : List Tok) : List Tok :=
  if b then LP :: (ts ++ [RP]) else ts

mutual
/-- the tokens of `e` without parentheses around `e` itself; an operand gets parentheses exactly
    when its level is below what its position requires -/
def renderRaw (t : Tbl) : Expr → List Tok
  | .int v => [tk .NUMBER v]
  | .real v => [tk .FRACTION v]
  | .str v => [tk .STRING v]
  | .bool b v => [tk (if b then .TRUE else .FALSE) v]
  | .enumc ns n => [tk .NAMESPACE ns, tk .DOUBLECOLON "::", n]
  | .var n => [n]
  | .self => [tk .SELF "self"]
  | .selected => [tk .SELECTED "selected"]
  | .param n => [tk .PARAM "param", tk .DOT ".", n]
  | .field h n => renderRaw t h ++ [tk .DOT ".", n]
  | .index h i =>
    renderRaw t h ++ tk .LSQBR "[" :: (wrap (decide (i.level t < 0)) (renderRaw t i) ++ [tk .RSQBR "]"])
  | .fcall n ps => tk .DOUBLECOLON "::" :: n :: LP :: (renderParams t ps ++ [RP])
  | .icall ns n ps =>
    tk .NAMESPACE ns :: tk .DOUBLECOLON "::" :: n :: LP :: (renderParams t ps ++ [RP])
  | .ocall h n ps => renderRaw t h ++ tk .DOT "." :: n :: LP :: (renderParams t ps ++ [RP])
  | .un op e => op :: wrap (decide (e.level t < t.ulevel)) (renderRaw t e)
  | .bin l op r =>
    match t.bin op.kind with
    | some (lv, a) =>
      wrap (decide (l.level t < lmin lv a)) (renderRaw t l) ++
        op :: wrap (decide (r.level t < rmin lv a)) (renderRaw t r)
    | none => []
def renderParams (t : Tbl) : Params → List Tok
  | .nil => []
  | .cons n e .nil => n :: tk .COLON ":" :: wrap (decide (e.level t < 0)) (renderRaw t e)
  | .cons n e ps =>
    n :: tk .COLON ":" :: (wrap (decide (e.level t < 0)) (renderRaw t e) ++ tk .COMMA "," :: renderParams t ps)
end

/-- `e` as an operand that must have level ≥ `need` -/
def render (t : Tbl) (e : Expr) (need : Nat) : List Tok :=
  wrap (decide (e.level t < need)) (renderRaw t e)

mutual
/-- every unary / binary node in its own parentheses (bridgepoint/sourcegen.py: `( l op r )`, `( op e )`) -/
def renderFull : Expr → List Tok
  | .int v => [tk .NUMBER v]
  | .real v => [tk .FRACTION v]
  | .str v => [tk .STRING v]
  | .bool b v => [tk (if b then .TRUE else .FALSE) v]
  | .enumc ns n => [tk .NAMESPACE ns, tk .DOUBLECOLON "::", n]
  | .var n => [n]
  | .self => [tk .SELF "self"]
  | .selected => [tk .SELECTED "selected"]
  | .param n => [tk .PARAM "param", tk .DOT ".", n]
  | .field h n => renderFull h ++ [tk .DOT ".", n]
  | .index h i => renderFull h ++ tk .LSQBR "[" :: (renderFull i ++ [tk .RSQBR "]"])
  | .fcall n ps => tk .DOUBLECOLON "::" :: n :: LP :: (renderFullParams ps ++ [RP])
  | .icall ns n ps =>
    tk .NAMESPACE ns :: tk .DOUBLECOLON "::" :: n :: LP :: (renderFullParams ps ++ [RP])
  | .ocall h n ps => renderFull h ++ tk .DOT "." :: n :: LP :: (renderFullParams ps ++ [RP])
  | .un op e => LP :: op :: (renderFull e ++ [RP])
  | .bin l op r => LP :: (renderFull l ++ op :: (renderFull r ++ [RP]))
def renderFullParams : Params → List Tok
  | .nil => []
  | .cons n e .nil => n :: tk .COLON ":" :: renderFull e
  | .cons n e ps => n :: tk .COLON ":" :: (renderFull e ++ tk .COMMA "," :: renderFullParams ps)
end

/-! ### which trees are expressions of the language (under a table) -/

mutual
/-- operators are known to the table in their role; handles are what the grammar allows there -/
def Expr.Ok (t : Tbl) : Expr → Prop
  | .enumc _ n => n.kind.isIdent = true
  | .var n => n.kind.isVarName = true
  | .param n => n.kind.isVarName = true
  | .field h n => h.isChain = true ∧ h.Ok t ∧ n.kind.isIdent = true
  | .index h i => h.isIndexable = true ∧ h.Ok t ∧ i.Ok t
  | .fcall n ps => n.kind.isIdent = true ∧ ps.Ok t
  | .icall _ n ps => n.kind.isIdent = true ∧ ps.Ok t
  | .ocall h n ps => h.isStruct = true ∧ h.Ok t ∧ n.kind.isIdent = true ∧ ps.Ok t
  | .un op e => t.un op.kind = true ∧ e.Ok t
  | .bin l op r => (t.bin op.kind).isSome = true ∧ l.Ok t ∧ r.Ok t
  | _ => True
def Params.Ok (t : Tbl) : Params → Prop
  | .nil => True
  | .cons n e ps => n.kind.isIdent = true ∧ e.Ok t ∧ ps.Ok t
end

/-! ### grammar productions as data (what the translator reads from the `p_*` functions) -/

/-- one production: the `p_*` function it stands in, `lhs : rhs [%prec prec]`, and the function body with
    `p[i]` written `$i` -/
structure Prod where
  fn : String
  lhs : String
  rhs : List String
  prec : Option String
  body : String
  deriving DecidableEq, Repr

/-- the grammar content of a production (the name of the `p_*` function is not part of it) -/
def Prod.sem (p : Prod) : String × List String × Option String × String := (p.lhs, p.rhs, p.prec, p.body)

/-- the expression sub-grammar this model implements, in the same format (see `stmtGrammar` in Stmt.lean) -/
def exprGrammar : List (String × List String × Option String × String) := [
  -- parsePrefix
  ("array", ["variable_name"], none,
    "$0 = VariableAccessNode(variable_name=$1)"),
  -- parsePrefix
  ("constant", ["FALSE"], none,
    "$0 = BooleanNode(value=$1)"),
  -- parsePrefix
  ("constant", ["FRACTION"], none,
    "$0 = RealNode(value=$1)"),
  -- parsePrefix
  ("constant", ["NUMBER"], none,
    "$0 = IntegerNode(value=$1)"),
  -- parsePrefix
  ("constant", ["STRING"], none,
    "$0 = StringNode(value=$1)"),
  -- parsePrefix
  ("constant", ["TRUE"], none,
    "$0 = BooleanNode(value=$1)"),
  -- parsePrefix
  ("constant", ["namespace", "DOUBLECOLON", "identifier"], none,
    "$0 = EnumOrNamedConstantNode(namespace=$1, name=$3)"),
  -- parsePrefix
  ("expression", ["LPAREN", "expression", "RPAREN"], none,
    "$0 = $2"),
  -- parsePrefix
  ("expression", ["constant"], none,
    "$0 = $1"),
  -- parseLoop (table: Gen binOps)
  ("expression", ["expression", "AMP", "expression"], none,
    "$0 = BinaryOperationNode(left=$1, operator=$2, right=$3)"),
  -- parseLoop (table: Gen binOps)
  ("expression", ["expression", "AND", "expression"], none,
    "$0 = BinaryOperationNode(left=$1, operator=$2, right=$3)"),
  -- parseLoop (table: Gen binOps)
  ("expression", ["expression", "CARET", "expression"], none,
    "$0 = BinaryOperationNode(left=$1, operator=$2, right=$3)"),
  -- parseLoop (table: Gen binOps)
  ("expression", ["expression", "DIV", "expression"], none,
    "$0 = BinaryOperationNode(left=$1, operator=$2, right=$3)"),
  -- parseLoop (table: Gen binOps)
  ("expression", ["expression", "DOUBLEEQUAL", "expression"], none,
    "$0 = BinaryOperationNode(left=$1, operator=$2, right=$3)"),
  -- parseLoop (table: Gen binOps)
  ("expression", ["expression", "GE", "expression"], none,
    "$0 = BinaryOperationNode(left=$1, operator=$2, right=$3)"),
  -- parseLoop (table: Gen binOps)
  ("expression", ["expression", "GT", "expression"], none,
    "$0 = BinaryOperationNode(left=$1, operator=$2, right=$3)"),
  -- parseLoop (table: Gen binOps)
  ("expression", ["expression", "LE", "expression"], none,
    "$0 = BinaryOperationNode(left=$1, operator=$2, right=$3)"),
  -- parseLoop (table: Gen binOps)
  ("expression", ["expression", "LESSTHAN", "expression"], none,
    "$0 = BinaryOperationNode(left=$1, operator=$2, right=$3)"),
  -- parseLoop (table: Gen binOps)
  ("expression", ["expression", "MINUS", "expression"], none,
    "$0 = BinaryOperationNode(left=$1, operator=$2, right=$3)"),
  -- parseLoop (table: Gen binOps)
  ("expression", ["expression", "MOD", "expression"], none,
    "$0 = BinaryOperationNode(left=$1, operator=$2, right=$3)"),
  -- parseLoop (table: Gen binOps)
  ("expression", ["expression", "NOTEQUAL", "expression"], none,
    "$0 = BinaryOperationNode(left=$1, operator=$2, right=$3)"),
  -- parseLoop (table: Gen binOps)
  ("expression", ["expression", "OR", "expression"], none,
    "$0 = BinaryOperationNode(left=$1, operator=$2, right=$3)"),
  -- parseLoop (table: Gen binOps)
  ("expression", ["expression", "PIPE", "expression"], none,
    "$0 = BinaryOperationNode(left=$1, operator=$2, right=$3)"),
  -- parseLoop (table: Gen binOps)
  ("expression", ["expression", "PLUS", "expression"], none,
    "$0 = BinaryOperationNode(left=$1, operator=$2, right=$3)"),
  -- parseLoop (table: Gen binOps)
  ("expression", ["expression", "TIMES", "expression"], none,
    "$0 = BinaryOperationNode(left=$1, operator=$2, right=$3)"),
  -- parsePrefix
  ("expression", ["invocation"], none,
    "$0 = $1"),
  -- parsePrefix
  ("expression", ["selected_access"], none,
    "$0 = $1"),
  -- parsePrefix
  ("expression", ["self_access"], none,
    "$0 = $1"),
  -- parsePrefix (table: Gen unOps / unaryProd)
  ("expression", ["unary_operator", "expression"], some "UNARY",
    "$0 = UnaryOperationNode(operator=$1, operand=$2)"),
  -- parsePrefix
  ("expression", ["variable_access"], none,
    "$0 = $1"),
  -- parseSuffix
  ("field_access", ["field_access", "DOT", "identifier"], none,
    "$0 = FieldAccessNode(handle=$1, name=$3)"),
  -- parseSuffix
  ("field_access", ["index_access", "DOT", "identifier"], none,
    "$0 = FieldAccessNode(handle=$1, name=$3)"),
  -- parseSuffix
  ("field_access", ["param_access", "DOT", "identifier"], none,
    "$0 = FieldAccessNode(handle=$1, name=$3)"),
  -- parseSuffix
  ("field_access", ["structure", "DOT", "identifier"], none,
    "$0 = FieldAccessNode(handle=$1, name=$3)"),
  -- parsePrefix
  ("function_invocation", ["DOUBLECOLON", "identifier", "LPAREN", "parameter_list", "RPAREN"], none,
    "$0 = FunctionInvocationNode(action_name=$2, parameter_list=$4)"),
  -- parsePrefix
  ("implicit_invocation", ["namespace", "DOUBLECOLON", "identifier", "LPAREN", "parameter_list", "RPAREN"], none,
    "$0 = ImplicitInvocationNode(namespace=$1, action_name=$3, parameter_list=$5)"),
  -- parseSuffix
  ("index_access", ["array", "LSQBR", "expression", "RSQBR"], none,
    "$0 = IndexAccessNode(handle=$1, expression=$3)"),
  -- parseSuffix
  ("index_access", ["field_access", "LSQBR", "expression", "RSQBR"], none,
    "$0 = IndexAccessNode(handle=$1, expression=$3)"),
  -- parseSuffix
  ("index_access", ["index_access", "LSQBR", "expression", "RSQBR"], none,
    "$0 = IndexAccessNode(handle=$1, expression=$3)"),
  -- parseSuffix
  ("index_access", ["param_access", "LSQBR", "expression", "RSQBR"], none,
    "$0 = IndexAccessNode(handle=$1, expression=$3)"),
  -- parseSuffix
  ("instance_invocation", ["structure", "DOT", "identifier", "LPAREN", "parameter_list", "RPAREN"], none,
    "$0 = InstanceInvocationNode(handle=$1, action_name=$3, parameter_list=$5)"),
  -- parsePrefix
  ("invocation", ["function_invocation"], none,
    "$0 = $1"),
  -- parsePrefix
  ("invocation", ["implicit_invocation"], none,
    "$0 = $1"),
  -- parsePrefix
  ("invocation", ["instance_invocation"], none,
    "$0 = $1"),
  -- parsePrefix
  ("param", ["PARAM"], none,
    "$0 = $1"),
  -- parsePrefix
  ("param", ["RCVD_EVT"], none,
    "$0 = $1"),
  -- parsePrefix
  ("param_access", ["param", "DOT", "variable_name"], none,
    "$0 = ParamAccessNode(variable_name=$3)"),
  -- parseParams
  ("parameter", ["identifier", "COLON", "expression"], none,
    "$0 = ParameterNode(name=$1, expression=$3)"),
  -- parseParams
  ("parameter_list", [], none,
    "$0 = ParameterListNode()"),
  -- parseParams
  ("parameter_list", ["parameter"], none,
    "$0 = ParameterListNode(); $0.children.append($1)"),
  -- parseParams
  ("parameter_list", ["parameter", "COMMA", "parameter_list"], none,
    "$0 = $3; $0.children.insert(0, $1)"),
  -- parsePrefix
  ("selected_access", ["SELECTED"], none,
    "$0 = SelectedAccessNode()"),
  -- parsePrefix
  ("self_access", ["SELF"], none,
    "$0 = SelfAccessNode()"),
  -- parsePrefix
  ("structure", ["SELECTED"], none,
    "$0 = SelectedAccessNode()"),
  -- parsePrefix
  ("structure", ["SELF"], none,
    "$0 = SelfAccessNode()"),
  -- parsePrefix
  ("structure", ["variable_name"], none,
    "$0 = VariableAccessNode(variable_name=$1)"),
  -- table: Gen unOps
  ("unary_operator", ["CARDINALITY"], none,
    "$0 = $1"),
  -- table: Gen unOps
  ("unary_operator", ["EMPTY"], none,
    "$0 = $1"),
  -- table: Gen unOps
  ("unary_operator", ["MINUS"], none,
    "$0 = $1"),
  -- table: Gen unOps
  ("unary_operator", ["NOT"], none,
    "$0 = $1"),
  -- table: Gen unOps
  ("unary_operator", ["NOT_EMPTY"], none,
    "$0 = $1"),
  -- table: Gen unOps
  ("unary_operator", ["PLUS"], none,
    "$0 = $1"),
  -- parsePrefix
  ("variable_access", ["field_access"], none,
    "$0 = $1"),
  -- parsePrefix
  ("variable_access", ["index_access"], none,
    "$0 = $1"),
  -- parsePrefix
  ("variable_access", ["param_access"], none,
    "$0 = $1"),
  -- parsePrefix
  ("variable_access", ["variable_name"], none,
    "$0 = VariableAccessNode(variable_name=$1)") ]

/-! ### re-spelling of keywords (used for C08: letter case of keywords does not matter to the parser)

  The parser looks at token KINDS only and copies lexemes into the tree.  `mapTok g` rewrites the lexeme of
  every token by a function of its kind; `Expr.mapKw g` rewrites exactly the fields of a tree that hold a
  token or the lexeme of a keyword-kind token: the boolean literal value, the operator of unary / binary nodes,
  and the name tokens (for `g` that leaves non-keyword lexemes alone — `KwOnly` — a name is changed only when
  it is a keyword used as a name; oal.py keeps such a name's spelling, identifiers being case-sensitive). -/

/-- the token kinds whose lexeme is a keyword (any letter case), incl. the `end if|for|while` tokens -/
def Kind.isKeyword : Kind → Bool
  | .ASSIGN | .ASSIGNER | .BREAK | .BRIDGE | .SEND | .CONTROL | .STOP | .CONTINUE | .CREATE | .EVENT
  | .INSTANCE | .OF | .OBJECT | .DELETE | .FOR | .EACH | .IN | .GENERATE | .IF | .ELIF | .ELSE | .RELATE
  | .TO | .ACROSS | .USING | .RETURN | .SELECT | .ONE | .ANY | .MANY | .TRANSFORM | .UNRELATE | .FROM
  | .WHILE | .CLASS | .CREATOR | .RELATED | .BY | .INSTANCES | .WHERE | .CARDINALITY | .EMPTY | .FALSE
  | .NOT | .NOT_EMPTY | .TRUE | .AND | .OR | .PARAM | .RCVD_EVT | .SELF | .SELECTED | .LOOP | .THEN
  | .END_FOR | .END_IF | .END_WHILE => true
  | _ => false

/-- rewrite the lexeme of a token by a function of its kind -/
def mapTok (g : Kind → String → String) (tok : Tok) : Tok := ⟨tok.kind, g tok.kind tok.lex⟩

mutual
def Expr.mapKw (g : Kind → String → String) : Expr → Expr
  | .bool b v => .bool b (g (if b then .TRUE else .FALSE) v)
  | .enumc ns n => .enumc ns (mapTok g n)
  | .var n => .var (mapTok g n)
  | .param n => .param (mapTok g n)
  | .field h n => .field (h.mapKw g) (mapTok g n)
  | .index h i => .index (h.mapKw g) (i.mapKw g)
  | .fcall n ps => .fcall (mapTok g n) (ps.mapKw g)
  | .icall ns n ps => .icall ns (mapTok g n) (ps.mapKw g)
  | .ocall h n ps => .ocall (h.mapKw g) (mapTok g n) (ps.mapKw g)
  | .un op e => .un (mapTok g op) (e.mapKw g)
  | .bin l op r => .bin (l.mapKw g) (mapTok g op) (r.mapKw g)
  | e => e
def Params.mapKw (g : Kind → String → String) : Params → Params
  | .nil => .nil
  | .cons n e ps => .cons (mapTok g n) (e.mapKw g) (ps.mapKw g)
end

/-- ASCII lower case, character by character (`A`–`Z` only, as the keyword test of `t_ID` folds case) -/
def lowerStr (s : String) : String := String.ofList (s.toList.map Char.toLower)

/-- lower-case the lexeme of keyword-kind tokens, leave every other lexeme alone -/
def lowerKw (k : Kind) (s : String) : String := if k.isKeyword then lowerStr s else s

/-- forget the lexeme of keyword-kind tokens, leave every other lexeme alone -/
def eraseKw (k : Kind) (s : String) : String := if k.isKeyword then "" else s

/-- all token kinds (completeness: `Kind.mem_all`, Proofs/OalKind.lean) -/
def Kind.all : List Kind := [.ASSIGN, .ASSIGNER, .BREAK, .BRIDGE, .SEND, .CONTROL, .STOP, .CONTINUE, .CREATE, .EVENT, .INSTANCE, .OF, .OBJECT, .DELETE, .FOR, .EACH, .IN, .GENERATE, .IF, .ELIF, .ELSE, .RELATE, .TO, .ACROSS, .USING, .RETURN, .SELECT, .ONE, .ANY, .MANY, .TRANSFORM, .UNRELATE, .FROM, .WHILE, .CLASS, .CREATOR, .RELATED, .BY, .INSTANCES, .WHERE, .CARDINALITY, .EMPTY, .FALSE, .NOT, .NOT_EMPTY, .TRUE, .AND, .OR, .PARAM, .RCVD_EVT, .SELF, .SELECTED, .LOOP, .THEN, .SEMICOLON, .EQUAL, .DOT, .DOUBLECOLON, .LPAREN, .RPAREN, .TIMES, .COLON, .COMMA, .ARROW, .LSQBR, .RSQBR, .ID, .NAMESPACE, .END_FOR, .END_IF, .END_WHILE, .TICKED_PHRASE, .QMARK, .FRACTION, .NUMBER, .STRING, .DOUBLEEQUAL, .NOTEQUAL, .LESSTHAN, .LE, .GT, .GE, .PLUS, .MINUS, .PIPE, .DIV, .MOD, .AMP, .CARET]

end Pyx.Oal
