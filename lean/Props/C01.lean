import Proofs.SqlInfer
import Proofs.SqlLoadBridge
import Proofs.SqlRegex
import Proofs.SqlTemplates

/-!
  C01 — Persisted models load back unchanged (schema, values, links).
  Model: PyxModel/Sql — character-level lexer following the rule order of Gen/SqlLex.lean; its hand-written matchers are
  PROVED to be the generic regex engine (Python `re` semantics) on the parse trees generated from the `t_*` regexes of the
  source (`lexer_is_source_regex`; rule by rule in Props/C12.lean), parser, value printers and readers, the writers of
  xtuml/persist.py.
  `u : UC` is Python's view of the non-ASCII characters (`\d`, `\w`, `str.upper`); every theorem holds for all of them,
  except that `lexer_is_source_regex` takes `u.PyTables` (the `\d` / `\w` tables of `u` outside ASCII are CPython's).
  Not modelled: the conversion between binary floats and decimal numerals (a REAL value is its six-decimal numeral);
  the key-matching join that recomputes links (C03) -- `linksOfAssoc` (PyxModel/Sql/Links.lean) is its SPECIFICATION (the
  nested loop over the key values), compared with the implementation by the correspondence runs; `loader_links_are_spec_links`
  (Proofs/SqlLoadBridge.lean) proves that C03's loader model (`Pyx.Load`) builds exactly these links.
  Open finding `unset-referential-relinks`: an unrelated referrer whose INTEGER / REAL / BOOLEAN referential attribute is
  unset is written with the type default 0 / 0.000000 / 0, which the loader does not treat as null; if an instance of the
  referred class carries that value as identifying value, the reload links them.  `UnsetSafe` is the exact guard of the
  link theorems against it; the harness generates the case and D reports it under that signature.
-/
namespace PyxProps.C01
open Pyx.Sql
open Gen.Persist (Ty)
open Gen.SqlLex (Kw Rule)

/-- the value formats `fmtValue` implements are the ones `transfer_fn` states -/
theorem transfer_tie (t : Ty) : Gen.Persist.transfer t = modelledTransfer t := by cases t <;> rfl
theorem serialize_value_shape :
    Gen.Persist.typeUpperCasedFirst = true ∧ Gen.Persist.unsetUsesNullValue = true ∧ Gen.Persist.returnsTransfer = true := by
  decide

/-- the statement templates, loop orders and call structure the writers were modelled from -/
theorem templates_tie : Gen.Persist.templates = modelledTemplates := rfl
theorem orderings_tie : Gen.Persist.orderings = modelledOrderings := rfl
theorem calls_tie : Gen.Persist.calls = modelledCalls := rfl

/-- for EVERY class (any kind, any attribute list, any `u`) the text the model prints is what
    Python's `%` (`pyFmt`: a generic interpreter of `%s` templates), `str.join` and `+=` make of the string constants that
    Gen/Persist.lean reads off `serialize_class`, composed as the function composes them (`srcSerializeClass`); it never
    raises.  A changed constant in xtuml/persist.py changes the right-hand side. -/
theorem serialize_class_as_in_source (u : UC) (kind : Name) (attrs : List (Name × Name)) :
    (Item.cls kind attrs).print u = srcSerializeClass u kind attrs ∧ ((Item.cls kind attrs).print u).isSome :=
  ⟨(srcSerializeClass_eq u kind attrs).symm, rfl⟩

/-- for EVERY association the printed text is the generated constants of
    `serialize_association` filled in by `%`, `', '.join`, the phrase test (`if phrase:` = not empty) and the generic
    `str.replace` on the constants `'` / `''` (`srcSerializeAssociation`); each end is `endText` -/
theorem serialize_association_as_in_source (u : UC) (rel : Name) (s t : EndM) :
    (Item.assoc rel s t).print u = srcSerializeAssociation rel s t ∧
    srcEnd 0 s = some (endText s) ∧ srcEnd 5 t = some (endText t) :=
  ⟨(srcSerializeAssociation_eq u rel s t).symm, srcEnd_eq 0 (Or.inl rfl) s, srcEnd_eq 5 (Or.inr rfl) t⟩

/-- for EVERY row (any values, set or unset, also when a value cannot be printed: then
    both sides are `none`, and `inst_print_none_iff` below says exactly when) the printed text is the head constant
    filled with the kind, the loop of `serialize_instance` with its counter (`attr_count < len(attributes)` selects the
    `, -- %s : %s` constant, otherwise ` -- %s : %s`) and the tail constant -/
theorem serialize_instance_as_in_source (u : UC) (kind : Name) (attrs : List (Name × Name)) (vals : List (Option Val)) :
    (Item.inst kind attrs vals).print u = srcSerializeInstance u kind attrs vals :=
  (srcSerializeInstance_eq u kind attrs vals).symm

/-- the error ending of the previous theorem made explicit: a row prints unless its value lines do not -/
theorem inst_print_none_iff (u : UC) (kind : Name) (attrs : List (Name × Name)) (vals : List (Option Val)) :
    srcSerializeInstance u kind attrs vals = none ↔ valueLines u attrs vals = none := by
  rw [srcSerializeInstance_eq, Item.print]
  cases valueLines u attrs vals with
  | none => exact Iff.rfl
  | some _ => exact ⟨nofun, nofun⟩

/-- the `CREATE UNIQUE INDEX` line is written out separately in three functions of
    xtuml/persist.py; for EVERY index each of the three texts is the model's one -/
theorem index_line_as_in_source (u : UC) (name kind : Name) (attrs : List Name) :
    srcIndexLine "serialize_unique_identifiers" 1 name kind attrs = (Item.index name kind attrs).print u ∧
    srcIndexLine "persist_unique_identifiers" 1 name kind attrs = (Item.index name kind attrs).print u ∧
    srcIndexLine "persist_database" 1 name kind attrs = (Item.index name kind attrs).print u :=
  ⟨srcIndexLine_of_row u row_serialize_unique_identifiers name kind attrs,
   srcIndexLine_of_row u row_persist_unique_identifiers name kind attrs, srcIndexLine_of_row u row_persist_database name kind attrs⟩

/-- for EVERY metamodel each writer route of the model is the iteration the generated `orderings`
    name, in the nesting of the function: the iterable expressions are interpreted (`srcClassIter`: sorted keys / dict
    values, `srcAssocIter`: the sort with the key lambda the table gives, `srcInstIter`, `srcIndexIter`), so another
    iterable or sort key in the source gives `none` or another list on the left -/
theorem routes_as_in_source (u : UC) (m : MM) :
    (srcClassIter u m (ord "serialize_classes" 0)).map (·.map ClassM.item) = some (m.serializeClasses u) ∧
    (srcAssocIter m (ord "serialize_associations" 1) (ord "serialize_associations" 0)).map (·.map AssocM.item) =
      some m.serializeAssociations ∧
    srcInstIter m (ord "serialize_instances" 0) = some m.serializeInstances ∧
    (srcClassIter u m (ord "serialize_unique_identifiers" 0)).bind
        (fun cs => (mapOpt (fun c => srcIndexIter c (ord "serialize_unique_identifiers" 1)) cs).map List.flatten) =
      some (m.serializeUniqueIdentifiers u) ∧
    srcInstIter m (ord "persist_instances" 0) = some m.persistInstances ∧
    ((srcClassIter u m (ord "persist_schema" 0)).bind fun cs =>
      (srcAssocIter m (ord "persist_schema" 1) (ord "persist_schema" 2)).map fun as =>
        cs.map ClassM.item ++ as.map AssocM.item) = some (m.persistSchema u) ∧
    (srcClassIter u m (ord "persist_unique_identifiers" 0)).bind
        (fun cs => (mapOpt (fun c => srcIndexIter c (ord "persist_unique_identifiers" 1)) cs).map List.flatten) =
      some m.persistUniqueIdentifiers ∧
    ((srcClassIter u m (ord "persist_database" 0)).bind fun cs =>
      (mapOpt (fun c => (srcIndexIter c (ord "persist_database" 1)).map (c.item :: ·)) cs).bind fun cis =>
      (srcAssocIter m (ord "persist_database" 2) (ord "persist_database" 3)).bind fun as =>
      (srcInstIter m (ord "persist_database" 4)).map fun is =>
        cis.flatten ++ as.map AssocM.item ++ is) = some (m.persistDatabase u) :=
  routes_orderings u m

/-- non-vacuity: the interpreter really formats, rejects a wrong argument count and an uninterpreted conversion, and the
    interpretation of a concrete class / association / row is the expected text -/
example : pyFmt "a %s b %s".toList ["X".toList, "Y".toList] = some "a X b Y".toList ∧
    pyFmt "%s %s".toList ["X".toList] = none ∧ pyFmt "%s".toList ["X".toList, "Y".toList] = none ∧
    pyFmt "%d".toList ["X".toList] = none := by decide +kernel
example : srcSerializeClass UC.ascii "A".toList [("Id".toList, "integer".toList), ("N".toList, "string".toList)] =
    some "CREATE TABLE A (\n    Id INTEGER,\n    N STRING\n);\n".toList := by
  rw [srcSerializeClass_eq]
  exact eq_some_toList (by decide +kernel)
example : srcSerializeAssociation "R1".toList ⟨false, true, "A".toList, ["x".toList, "y".toList], "it's".toList⟩
      ⟨true, false, "B".toList, ["Id".toList], []⟩ =
    some "CREATE ROP REF_ID R1 FROM 1C A (x, y) PHRASE 'it''s' TO M B (Id);\n".toList := by
  rw [srcSerializeAssociation_eq UC.ascii]
  exact eq_some_toList (by decide +kernel)
example : srcSerializeInstance UC.ascii "A".toList [("M".toList, "String".toList), ("N".toList, "string".toList)]
      [some (.str "o'k".toList), none] =
    some "INSERT INTO A VALUES (\n    'o''k', -- M : String\n    '' -- N : string\n);\n".toList := by
  rw [srcSerializeInstance_eq]
  exact eq_some_toList (by decide +kernel)

/-- the regular expressions and the grammar the lexer / parser were modelled from -/
theorem regex_tie (r : Rule) : Rule.regex r = modelledRegex r := by cases r <;> rfl
theorem grammar_tie : Gen.SqlLex.grammar = modelledGrammar ∧ Gen.SqlLex.cardinalityChecks = modelledCardinalityChecks :=
  ⟨rfl, rfl⟩

/-- the lexer of all the theorems below IS the source regexes: its token stream is the one the generic regex engine produces on
    the parse trees generated from the `t_*` regexes of xtuml/load.py (every rule: Props/C12.lean `sql_scanner_is_regex_*`) -/
theorem lexer_is_source_regex (u : UC) (hu : u.PyTables) (cs : Text) : lexRx u cs = lex u cs := lexRx_eq_lex u hu cs

/-- strings: for EVERY list of characters `s` (quotes, doubled quotes, `--`, newlines, NUL, non-ASCII …) and every
    continuation that does not start with a quote, the string rule lexes the printed literal to exactly one STRING
    token, and reading it back gives `s` -/
theorem str_codec (u : UC) (s rest : Text) (h : ∀ c, rest.head? = some c → c ≠ '\'') :
    step u (strText s ++ rest) = .emit ⟨.STRING, strText s⟩ rest ∧ unescapeQ (escapeQ s) = s ∧
    ∀ ty, tyOfName u ty = some .STRING → deserialize u ty (strText s) = some (.str s) :=
  ⟨step_string u s rest h, unescapeQ_escapeQ s, fun ty hty => deserialize_string u ty hty s⟩

/-- integers of any size and sign: the decimal text lexes as NUMBER or MINUS NUMBER, `p_value` rebuilds the text,
    reading it back gives `z`; the numeral functions are inverse -/
theorem int_codec (u : UC) (z : Int) (rest : Text) (h : NumFollow u rest) :
    lex u (intText z ++ rest) = (lex u rest).map (fun ts => intToks z ++ ts) ∧
    (∀ ts, valueAt (intToks z ++ ts) = some (intText z, ts)) ∧
    (∀ ty, tyOfName u ty = some .INTEGER → deserialize u ty (intText z) = some (.int z)) ∧
    (∀ n, ofDigits (digits n) = n) :=
  ⟨lex_intText u z rest h, valueAt_intToks z, fun ty hty => deserialize_integer u ty hty z, ofDigits_digits⟩

/-- ids below 2^128: the 8-4-4-4-12 text lexes as ONE GUID token and parses back to `n` -/
theorem uuid_codec (u : UC) (n : Nat) (hn : n < 2 ^ 128) (rest : Text) :
    step u (guidText n ++ rest) = .emit ⟨.GUID, guidText n⟩ rest ∧ uuidParse (guidBody n) = some n ∧
    ∀ ty, tyOfName u ty = some .UNIQUE_ID → deserialize u ty (guidText n) = some (.id n) :=
  ⟨step_guidText u n rest, uuidParse_guidBody n hn, fun ty hty => deserialize_unique_id u ty hty n hn⟩

/-- booleans are printed `1` / `0`, lexed as NUMBER and read back -/
theorem bool_codec (u : UC) (b : Bool) (rest : Text) (h : NumFollow u rest) :
    fmtValue .BOOLEAN (.bool b) = some (natText (if b then 1 else 0)) ∧
    lex u (natText (if b then 1 else 0) ++ rest) = (lex u rest).map (fun ts => ⟨.NUMBER, natText (if b then 1 else 0)⟩ :: ts) ∧
    ∀ ty, tyOfName u ty = some .BOOLEAN → deserialize u ty (natText (if b then 1 else 0)) = some (.bool b) :=
  ⟨rfl, lex_natText u _ rest h, fun ty hty => deserialize_boolean u ty hty b⟩

/-- reals at text level: sign, digits, `.`, six digits lexes as FRACTION / MINUS FRACTION and reads back as the
    same six-decimal value (the binary <-> decimal conversion of Python floats is NOT part of the model) -/
theorem real_text_codec (u : UC) (neg : Bool) (micro : Nat) (rest : Text) (h : ∀ c, rest.head? = some c → u.isDigit c = false) :
    lex u (realText neg micro ++ rest) = (lex u rest).map (fun ts => realToks neg micro ++ ts) ∧
    (∀ ts, valueAt (realToks neg micro ++ ts) = some (realText neg micro, ts)) ∧
    ∀ ty, tyOfName u ty = some .REAL → deserialize u ty (realText neg micro) = some (.real neg micro) :=
  ⟨lex_realText u neg micro rest h, valueAt_realToks neg micro, fun ty hty => deserialize_real u ty hty neg micro⟩

/-- an unset value is printed exactly like the null value of its type (over the generated `null_value` table) -/
theorem null_unset (t : Ty) : printValue t none = printValue t (some (documentedNull t)) := by
  cases t <;> rfl

/-- every attribute type spelling that upper-cases to a core type name selects that type -/
theorem type_names (u : UC) (t : Ty) : tyOfName u t.chars = some t := tyOfName_chars u t

/-- every well-typed value is read back from its printed text, and printing is stable after one round -/
theorem value_roundtrip (u : UC) (t : Ty) (v : Val) (txt : Text) (ty : Text) (hty : tyOfName u ty = some t)
    (h : fmtValue t v = some txt) : deserialize u ty txt = some v ∧ (deserialize u ty txt).bind (fmtValue t) = some txt := by
  have key := deserialize_fmt u t v txt ty hty h
  exact ⟨key, by rw [key]; exact h⟩

/-- every identifier `[A-Za-z_][A-Za-z0-9_]*` that does not start with `R<digit>` lexes (before blank, comma,
    parenthesis, semicolon, newline or the end) to a single token carrying exactly the identifier: an ID token, or
    the reserved-word token when its upper-case form is reserved; `p_identifier` accepts it either way -/
theorem ident_lex (u : UC) (w : Text) (hw : IdentOk w) (rest : Text) (hs : Safe rest) :
    lex u (w ++ rest) = (lex u rest).map (fun ts => wordTok u w :: ts) ∧ (wordTok u w).text = w ∧
    ((wordTok u w).kind = .ID ∨ ∃ k, (wordTok u w).kind = .kw k) ∧ isIdentTok (wordTok u w) = true :=
  ⟨lex_word u w hw rest hs, wordTok_text u w, mkTok_ID_kind u w, isIdentTok_wordTok u w⟩

/-- `p_identifier` lists every reserved word (generated table) -/
theorem identifier_accepts_reserved (k : Kw) : Gen.SqlLex.identifierKws.contains k = true ∧ Gen.SqlLex.identifierAllowsID = true :=
  ⟨identifierKws_all k, rfl⟩

/-- every reserved word, printed in upper case, lexes to its own token -/
theorem keyword_lex (u : UC) (k : Kw) (rest : Text) (hs : Safe rest) :
    lex u (k.chars ++ rest) = (lex u rest).map (fun ts => kwTok k :: ts) := lex_kw_safe u k rest hs

/-- association numbers `R<n>` lex as one RELID token (the RELID rule stands before the ID rule) -/
theorem relid_lex (u : UC) (n : Nat) (rest : Text) (h : ∀ c, rest.head? = some c → isAsciiDigit c = false) :
    step u ('R' :: (natText n ++ rest)) = .emit ⟨.RELID, 'R' :: natText n⟩ rest := by
  obtain ⟨d, ds, hd⟩ := natText_cons n
  have hall : ∀ c ∈ d :: ds, isAsciiDigit c = true := by rw [← hd]; exact natText_all_digit n
  rw [hd]; exact step_relid u d ds rest hall h

/-- the four cardinalities are read back: `1` and `1C` by their own rules, `M` and `MC` as identifiers -/
theorem cardinality_tokens (u : UC) (many cond : Bool) (r : List Tok) :
    cardAt (cardToks u many cond ++ r) = some (cardText many cond, r) := cardAt_cardToks u many cond r

/-- association phrases use the string codec: any phrase (quotes, doubled quotes, `--`, newlines …) is written
    escaped after `PHRASE`, lexed as one STRING token, and un-escaped to itself by `p_phrased_association_end` -/
theorem phrase_codec (u : UC) (p rest : Text) (hs : Safe rest) :
    lex u (phraseText p ++ rest) = (lex u rest).map (fun more => phraseToks p ++ more) ∧
    unescapeQ (stripEnds (strText p)) = p :=
  ⟨lexTo_phrase u p rest hs, stripEnds_phrase p⟩

/-- a trailing comment can never swallow a value: everything up to and including the newline is discarded,
    lexing continues with what follows the line -/
theorem comment_skip (u : UC) (c rest : Text) (h : ∀ x ∈ c, x ≠ '\n') :
    lex u ('-' :: '-' :: (c ++ '\n' :: rest)) = lex u rest := lex_comment u c rest h

/-- blanks and newlines between tokens are skipped -/
theorem layout_skip (u : UC) (rest : Text) : lex u (' ' :: rest) = lex u rest ∧ lex u ('\n' :: rest) = lex u rest :=
  ⟨lex_space u rest, lex_newline u rest⟩

/-- token level: for every list of printed items (classes, associations, instances, identifiers, in any order —
    every writer route is such a list), parsing the token list of the items gives back exactly their statements -/
theorem stmt_roundtrip_tokens (u : UC) (items : List Item) (toks : List Tok) (h : itemsToks u items = some toks) :
    ∃ stmts, itemsStmts u items = some stmts ∧ parse toks = some stmts := parse_items u items toks h

/-- one printed value lexes to the tokens the token-level theorem starts from -/
theorem value_lex (u : UC) (t : Ty) (v : Val) (txt : Text) (ts : List Tok) (hf : fmtValue t v = some txt)
    (hv : valueToks t v = some ts) (rest : Text) (hs : Safe rest) :
    lex u (txt ++ rest) = (lex u rest).map (fun more => ts ++ more) := lex_value u t v txt ts hf hv rest hs

/-- character level, one item: the text `serialize_class` / `serialize_association` / `serialize_instance` / the
    identifier line prints for a well-formed item lexes, whatever text follows, to the item's token list -/
theorem item_lex (u : UC) (it : Item) (hw : it.WF u) (txt : Text) (hp : it.print u = some txt) :
    ∃ toks, it.toks u = some toks ∧ ∀ rest, lex u (txt ++ rest) = (lex u rest).map (fun more => toks ++ more) :=
  lexTo_item u it hw txt hp

/-- round trip, any list of well-formed items in any order (classes, associations, instances, identifiers; with or
    without the CREATE TABLE items): the loader accepts the printed text and the statements it parses are exactly the
    statements of the items — `parse (lex (print items)) = stmts items` at CHARACTER level -/
theorem stmt_roundtrip (u : UC) (items : List Item) (text : Text) (hw : ∀ it ∈ items, it.WF u)
    (hp : printItems u items = some text) :
    ∃ stmts, itemsStmts u items = some stmts ∧ classify u text = .accepted stmts :=
  classify_items u items text hw hp

/-- every writer route (serialize_database, serialize_schema, serialize_instances, serialize_unique_identifiers,
    persist_database, persist_schema, persist_instances, persist_unique_identifiers — each with its own ordering) of a
    well-formed metamodel reloads to exactly the statements of its items -/
theorem route_roundtrip (u : UC) (m : MM) (hw : m.WF u) (r : List Item) (hr : r ∈ m.routes u) (text : Text)
    (hp : printItems u r = some text) : ∃ stmts, itemsStmts u r = some stmts ∧ classify u text = .accepted stmts :=
  Pyx.Sql.route_roundtrip u m hw r hr text hp

/-- concatenating texts concatenates statements: the three separately written parts may be fed in any order -/
theorem concat_roundtrip (u : UC) (a b : List Item) (ta tb : Text) (ha : ∀ it ∈ a, it.WF u) (hb : ∀ it ∈ b, it.WF u)
    (hpa : printItems u a = some ta) (hpb : printItems u b = some tb) :
    ∃ sa sb, itemsStmts u a = some sa ∧ itemsStmts u b = some sb ∧ classify u (ta ++ tb) = .accepted (sa ++ sb) :=
  classify_concat u a b ta tb ha hb hpa hpb

/-- fixed point (item level).  `canonItem` is the item as it is printed from the reloaded metamodel: type names
    upper-cased, unset values replaced by the null value of their type.  It denotes the same statement as the original
    (so loading text₂ gives the statements of text₁ again) and it is its own canonical form (so text₃ = text₂). -/
theorem fixed_point (u : UC) (it : Item) (h : it.AsciiTypes) :
    (canonItem u it).stmt u = it.stmt u ∧ canonItem u (canonItem u it) = canonItem u it :=
  ⟨canon_stmt u it h, canon_idem u it h⟩

/-- … and the tie to the model level: the items printed from a class of the RELOADED metamodel (`canonClass`, the classes
    of `MM.reloaded`) are the canonical items of the original class — its CREATE TABLE item, its INSERT items, its
    identifier items — so `fixed_point` applies to every item of `m.reloaded` -/
theorem reloaded_items_canonical (u : UC) (c : ClassM) :
    (canonClass u c).item = canonItem u c.item ∧
    (canonClass u c).instItems = c.instItems.map (canonItem u) ∧
    (canonClass u c).indexItems = c.indexItems.map (canonItem u) := by
  refine ⟨rfl, ?_, ?_⟩
  · simp only [canonClass, ClassM.instItems, List.map_map]; rfl
  · simp only [canonClass, ClassM.indexItems, List.map_map]; rfl

/-- reload (all but links), `serialize_database`: for every well-formed, closed metamodel (class names distinct after
    upper-casing, attribute names of a class distinct after upper-casing — `define_class` accepts no other class —,
    no attribute name or association key of the form `__x__` — `define_class` / `define_association` raise for them, so no
    such metamodel can be built —, core attribute types, identifier names distinct per class, association ends naming classes of the model
    with key lists of equal length and existing target keys, rows as long as the attribute list) the written text is
    accepted, builds, and the built metamodel — as the writers see it — is `m.reloaded`: the same classes (in sorted
    order) with the same attributes (type names upper-cased), the same identifiers, the same rows in order with equal
    values (an unset value is the null value of its type; a REAL value is its six-decimal numeral), and the same
    associations (rel id, kinds, keys, multiplicity, conditionality, phrases; in the order written).
    GETATTR VALUES.  `bs.toMM` keeps the value an INSERT carried for a referential cell, while the implementation deletes
    referential attributes from `__dict__` at the end of the load and reads them through the link.  The last conjunct says
    that this makes no difference: the built metamodel is a FIXED POINT of reading through links (`MM.ReadsFixed`:
    `getattr` returns every stored cell, up to unset ≡ null value) -- provided the canonical form of `m` is one
    (hypothesis `hread`, USED).  `reads_fixed_of_links` says when that is: whenever a row has a partner the partner's
    identifying value is the stored referential value, and a referential cell of a row without partner is empty or null;
    everything the writers produce from an API-built model is like that, a hand-written `B(7, A_Id=5)` without an
    `A(Id=5)` is not (the implementation reads 0 there; example below). -/
theorem reload_same_partial (u : UC) (m : MM) (hw : m.WF u) (hm : m.Closed u)
    (hread : (m.reloaded u m.assocsByIdKind).ReadsFixed u) (text : Text)
    (hp : printItems u (m.serializeDatabase u) = some text) :
    ∃ stmts bs, classify u text = .accepted stmts ∧ build u stmts = .ok bs ∧ bs.toMM u = m.reloaded u m.assocsByIdKind ∧
      (bs.toMM u).ReadsFixed u := by
  obtain ⟨stmts, bs, hc, hb, he⟩ := reload_serializeDatabase u m hw hm text hp
  exact ⟨stmts, bs, hc, hb, he, by rw [he]; exact hread⟩

/-- … `persist_database` (identifiers interleaved after each class, associations sorted by rel id only) -/
theorem reload_same_partial_persist (u : UC) (m : MM) (hw : m.WF u) (hm : m.Closed u)
    (hread : (m.reloaded u m.assocsById).ReadsFixed u) (text : Text)
    (hp : printItems u (m.persistDatabase u) = some text) :
    ∃ stmts bs, classify u text = .accepted stmts ∧ build u stmts = .ok bs ∧ bs.toMM u = m.reloaded u m.assocsById ∧
      (bs.toMM u).ReadsFixed u := by
  obtain ⟨stmts, bs, hc, hb, he⟩ := reload_persistDatabase u m hw hm text hp
  exact ⟨stmts, bs, hc, hb, he, by rw [he]; exact hread⟩

/-- … the three parts of `serialize_schema / serialize_instances / serialize_unique_identifiers` and of the
    `persist_*` writers in ANY of the six orders: the statements build to the same reloaded metamodel -/
theorem reload_same_partial_parts (u : UC) (m : MM) (hm : m.Closed u)
    (hread1 : (m.reloaded u m.assocsByIdKind).ReadsFixed u) (hread2 : (m.reloaded u m.assocsById).ReadsFixed u)
    (items : List Item) (stmts : List Stmt) (hs : itemsStmts u items = some stmts) :
    (items ∈ serializeOrders u m →
      ∃ bs, build u stmts = .ok bs ∧ bs.toMM u = m.reloaded u m.assocsByIdKind ∧ (bs.toMM u).ReadsFixed u) ∧
    (items ∈ persistOrders u m →
      ∃ bs, build u stmts = .ok bs ∧ bs.toMM u = m.reloaded u m.assocsById ∧ (bs.toMM u).ReadsFixed u) := by
  constructor
  · intro h
    obtain ⟨bs, hb, he⟩ := (reload_parts u m hm items stmts hs).1 h
    exact ⟨bs, hb, he, by rw [he]; exact hread1⟩
  · intro h
    obtain ⟨bs, hb, he⟩ := (reload_parts u m hm items stmts hs).2 h
    exact ⟨bs, hb, he, by rw [he]; exact hread2⟩

/-- WHEN a metamodel is a fixed point of reading through links (the hypothesis `hread` of the reload theorems), in terms of
    its links: (partner) whenever a row has a partner across an association, the partner's identifying value is the row's
    stored referential value; (alone) a referential cell of a row without any partner holds nothing or the null value of
    its type.  Without associations nothing is read through links. -/
theorem reads_fixed_of_links (u : UC) (m : MM) :
    (ReadsResolved u m → m.ReadsFixed u) ∧ (m.assocs = [] → m.ReadsFixed u) :=
  ⟨readsFixed_of_resolved u m, readsFixed_no_assocs u m⟩

/-- the reloaded metamodel is a fixed point of reloading as far as classes, identifiers and associations go:
    canonicalising a class twice is canonicalising it once (type names ASCII) -/
theorem reloaded_class_idem (u : UC) (c : ClassM) (h : ∀ a ∈ c.attrs, AsciiText a.2) :
    canonClass u (canonClass u c) = canonClass u c :=
  canonClass_idem u c fun a ha => upper_idem u a.2 (h a ha)

/-- `MM` has no link component (it is the metamodel as the writers see it: classes, rows, associations), so the links an
    in-memory model holds are a separate parameter `L` of the theorems below; `KeysResolve` relates the two: the links
    (per association: pairs of source row index and target row index, each within
    its class) are exactly the links its key values denote under the loader's rule: every key pair non-null (`None`;
    UNIQUE_ID 0; STRING '') and equal.  A model built with `relate` meets it when the referred instances carry non-null
    key tuples that are unique in their class (a related referrer then READS the keys of its target, an unrelated one
    reads `None`); a model with hand-set contradictory referential values does not. -/
def KeysResolve (u : UC) (m : MM) (L : AssocM → List (Nat × Nat)) : Prop :=
  ∀ a ∈ m.assocs, ∀ p, p ∈ L a ↔ p ∈ linksOfAssoc u m a

/-- link clause: the links of the reloaded metamodel (spec join of PyxModel/Sql/Links.lean, which C03 proves the batch
    loader computes) are the links of the original, association by association and row by row.  `UnsetSafe`: an unset
    key cell of type INTEGER / REAL / BOOLEAN — written as 0 / 0.000000 / 0, which the loader does not treat as null —
    meets no equal value on the other side; automatic for UNIQUE_ID and STRING keys.  Outside `UnsetSafe` the
    implementation really gains a link on reload: OPEN FINDING `unset-referential-relinks` (KNOWN_FINDINGS.txt), which the
    harness generates and D reports; `UnsetSafe` is the exact guard, not a convenience. -/
theorem reload_links (u : UC) (m : MM) (hm : m.Closed u) (hsafe : UnsetSafe u m) (A : List AssocM) (a : AssocM)
    (ha : a ∈ m.assocs) : linksOfAssoc u (m.reloaded u A) a = linksOfAssoc u m a :=
  linksOfAssoc_reloaded u m hm hsafe A a ha

/-- unset key cells of the types that have a null value never need the side condition -/
theorem unset_nullable_safe (t : Option Gen.Persist.Ty) (h : t = some .UNIQUE_ID ∨ t = some .STRING ∨ t = none)
    (c : Option Gen.Persist.Ty × Option Val) :
    cellMatch (canonCell (t, none)) c = false ∧ cellMatch c (canonCell (t, none)) = false :=
  ⟨cellMatch_canon_unset_left t h c, cellMatch_canon_unset_right t h c⟩

/-- reload, the two halves together (a repackaging of `reload_same_partial` and `reload_links`, no new content): what
    `serialize_database` writes for a well-formed, closed metamodel whose links `L` are the ones its keys denote is
    accepted, builds, the built metamodel is `m.reloaded` (classes, attribute types, identifiers, rows, associations) and
    its keys denote the SAME links `L` — under the spec join `linksOfAssoc`; `reload_same` below states it on the loader
    model. -/
theorem reload_same_spec (u : UC) (m : MM) (hw : m.WF u) (hm : m.Closed u) (hsafe : UnsetSafe u m)
    (L : AssocM → List (Nat × Nat)) (hL : KeysResolve u m L) (text : Text)
    (hp : printItems u (m.serializeDatabase u) = some text) :
    ∃ stmts bs, classify u text = .accepted stmts ∧ build u stmts = .ok bs ∧
      bs.toMM u = m.reloaded u m.assocsByIdKind ∧ KeysResolve u (bs.toMM u) L := by
  obtain ⟨stmts, bs, hc, hb, he⟩ := reload_serializeDatabase u m hw hm text hp
  exact ⟨stmts, bs, hc, hb, he, he ▸ keys_resolve_reloaded u m hm hsafe (fun _ => (mem_sortBy _ _ _).mp) hL⟩

theorem reload_same_persist_spec (u : UC) (m : MM) (hw : m.WF u) (hm : m.Closed u) (hsafe : UnsetSafe u m)
    (L : AssocM → List (Nat × Nat)) (hL : KeysResolve u m L) (text : Text)
    (hp : printItems u (m.persistDatabase u) = some text) :
    ∃ stmts bs, classify u text = .accepted stmts ∧ build u stmts = .ok bs ∧
      bs.toMM u = m.reloaded u m.assocsById ∧ KeysResolve u (bs.toMM u) L := by
  obtain ⟨stmts, bs, hc, hb, he⟩ := reload_persistDatabase u m hw hm text hp
  exact ⟨stmts, bs, hc, hb, he, he ▸ keys_resolve_reloaded u m hm hsafe (fun _ => (mem_sortBy _ _ _).mp) hL⟩

/-- links agree (Proofs/SqlLoadBridge.lean): `toLoad` maps a metamodel to the statement list of C03's loader model
    (`Pyx.Load`: CREATE TABLE per class, CREATE ROP per association, one positional INSERT per row).  For every metamodel
    in the bridge domain `LoadDom` -- closed; key attributes spelled exactly as declared (that model compares names
    exactly); no attribute twice in a key list; corresponding key attributes of the same declared type (it has no
    cross-type `1 == 1.0 == True`); every cell empty or of its column's type -- that model's `build` (five phases, hashed
    index with its cache, `connect` in both directions; C03 proves hash join = nested join on it) ACCEPTS the statements,
    keeps the associations in order, and both directed links it builds for an association hold exactly the pairs of the
    spec join `linksOfAssoc`.  What remains between the loader model and `populate_connections` itself is C03's part:
    its correspondence runs and the shape tie of its LoadDecisions table. -/
theorem loader_links_are_spec_links (u : UC) (m : MM) (h : LoadDom u m) :
    ∃ lm, Pyx.Load.build (toLoad u m) = some lm ∧ lm.assocs.map (fun x => x.1) = m.assocs.map toLAssoc ∧
      ∀ a ∈ m.assocs, ∀ L, (toLAssoc a, L) ∈ lm.assocs → ∀ i j,
        ((i, j) ∈ linksOfAssoc u m a ↔ j ∈ L.tgt i) ∧ ((i, j) ∈ linksOfAssoc u m a ↔ i ∈ L.src j) :=
  links_agree u m h

/-- … as a relation (`LoaderLinked u m a i j`: the loader model, built from the statements of `m`, links source row `i` and
    target row `j` across `a` in both directions), and the domain is kept by reloading -/
theorem loader_linked_iff_spec (u : UC) (m : MM) (h : LoadDom u m) (A : List AssocM) (hA : ∀ a ∈ A, a ∈ m.assocs) :
    (∀ a ∈ m.assocs, ∀ i j, LoaderLinked u m a i j ↔ (i, j) ∈ linksOfAssoc u m a) ∧ LoadDom u (m.reloaded u A) :=
  ⟨fun a ha i j => loaderLinked_iff u m h a ha i j, loadDom_reloaded u m h A hA⟩

/-- reload, both halves, with the link clause on the loader model (corollary of `reload_same_partial`, `reload_links` and the
    bridge): what `serialize_database` writes for a well-formed metamodel of the bridge domain is accepted, builds, the built
    metamodel is `m.reloaded`, and the loader model builds from ITS statements exactly the links `L` the original holds
    (`hL`: `L` is what the loader model builds from the statements of `m`) -- under `UnsetSafe`, the guard against the open
    finding `unset-referential-relinks` -/
theorem reload_same (u : UC) (m : MM) (hw : m.WF u) (hd : LoadDom u m) (hsafe : UnsetSafe u m)
    (L : AssocM → List (Nat × Nat)) (hL : ∀ a ∈ m.assocs, ∀ i j, (i, j) ∈ L a ↔ LoaderLinked u m a i j) (text : Text)
    (hp : printItems u (m.serializeDatabase u) = some text) :
    ∃ stmts bs, classify u text = .accepted stmts ∧ build u stmts = .ok bs ∧
      bs.toMM u = m.reloaded u m.assocsByIdKind ∧
      ∀ a ∈ m.assocs, ∀ i j, (i, j) ∈ L a ↔ LoaderLinked u (bs.toMM u) a i j := by
  obtain ⟨stmts, bs, hc, hb, he⟩ := reload_serializeDatabase u m hw hd.closed text hp
  exact ⟨stmts, bs, hc, hb, he, he ▸ loader_links_kept u m hd hsafe (fun _ => (mem_sortBy _ _ _).mp)
    (fun _ => (mem_sortBy _ _ _).mpr) hL⟩

theorem reload_same_persist (u : UC) (m : MM) (hw : m.WF u) (hd : LoadDom u m) (hsafe : UnsetSafe u m)
    (L : AssocM → List (Nat × Nat)) (hL : ∀ a ∈ m.assocs, ∀ i j, (i, j) ∈ L a ↔ LoaderLinked u m a i j) (text : Text)
    (hp : printItems u (m.persistDatabase u) = some text) :
    ∃ stmts bs, classify u text = .accepted stmts ∧ build u stmts = .ok bs ∧
      bs.toMM u = m.reloaded u m.assocsById ∧
      ∀ a ∈ m.assocs, ∀ i j, (i, j) ∈ L a ↔ LoaderLinked u (bs.toMM u) a i j := by
  obtain ⟨stmts, bs, hc, hb, he⟩ := reload_persistDatabase u m hw hd.closed text hp
  exact ⟨stmts, bs, hc, hb, he, he ▸ loader_links_kept u m hd hsafe (fun _ => (mem_sortBy _ _ _).mp)
    (fun _ => (mem_sortBy _ _ _).mpr) hL⟩

/-- text fixed point, `serialize_database`: let R = `m.reloaded` be the metamodel reloaded from the text of a well-formed,
    closed metamodel m.  The text₂ written from R is accepted, builds, and the metamodel built from it is R again, so the
    text₃ written from that is text₂: `serialize (reload m) = serialize (reload (reload m))`.  Covers the whole value
    canonicalisation (unset → null value, six-decimal reals, booleans as 0 / 1, string and phrase escaping, type names
    upper-cased, classes sorted). -/
theorem text_fixed_point (u : UC) (m : MM) (hw : m.WF u) (hm : m.Closed u)
    (hread : (m.reloaded u m.assocsByIdKind).ReadsFixed u) (text1 : Text)
    (hp : printItems u (m.serializeDatabase u) = some text1) :
    ∃ text2, printItems u ((m.reloaded u m.assocsByIdKind).serializeDatabase u) = some text2 ∧
      ∃ stmts2 bs2, classify u text2 = .accepted stmts2 ∧ build u stmts2 = .ok bs2 ∧
        bs2.toMM u = m.reloaded u m.assocsByIdKind ∧ printItems u ((bs2.toMM u).serializeDatabase u) = some text2 ∧
        (bs2.toMM u).ReadsFixed u := by
  obtain ⟨text2, h1, stmts2, bs2, h2, h3, h4, h5⟩ := text_fixed_point_serializeDatabase u m hw hm text1 hp
  exact ⟨text2, h1, stmts2, bs2, h2, h3, h4, h5, by rw [h4]; exact hread⟩

theorem text_fixed_point_persist (u : UC) (m : MM) (hw : m.WF u) (hm : m.Closed u)
    (hread : (m.reloaded u m.assocsById).ReadsFixed u) (text1 : Text)
    (hp : printItems u (m.persistDatabase u) = some text1) :
    ∃ text2, printItems u ((m.reloaded u m.assocsById).persistDatabase u) = some text2 ∧
      ∃ stmts2 bs2, classify u text2 = .accepted stmts2 ∧ build u stmts2 = .ok bs2 ∧
        bs2.toMM u = m.reloaded u m.assocsById ∧ printItems u ((bs2.toMM u).persistDatabase u) = some text2 ∧
        (bs2.toMM u).ReadsFixed u := by
  obtain ⟨text2, h1, stmts2, bs2, h2, h3, h4, h5⟩ := text_fixed_point_persistDatabase u m hw hm text1 hp
  exact ⟨text2, h1, stmts2, bs2, h2, h3, h4, h5, by rw [h4]; exact hread⟩

/-- … the three separately written parts of the RELOADED metamodel, in any of the six orders, build to the reloaded
    metamodel again (so every part is written identically once more) -/
theorem text_fixed_point_parts (u : UC) (m : MM) (hm : m.Closed u)
    (hread1 : (m.reloaded u m.assocsByIdKind).ReadsFixed u) (hread2 : (m.reloaded u m.assocsById).ReadsFixed u)
    (items : List Item) (stmts : List Stmt) (hs : itemsStmts u items = some stmts) :
    (items ∈ serializeOrders u (m.reloaded u m.assocsByIdKind) →
      ∃ bs, build u stmts = .ok bs ∧ bs.toMM u = m.reloaded u m.assocsByIdKind ∧ (bs.toMM u).ReadsFixed u) ∧
    (items ∈ persistOrders u (m.reloaded u m.assocsById) →
      ∃ bs, build u stmts = .ok bs ∧ bs.toMM u = m.reloaded u m.assocsById ∧ (bs.toMM u).ReadsFixed u) := by
  have hA1 : ∀ a ∈ m.assocsByIdKind, a ∈ m.assocs := fun a ha => (mem_sortBy _ _ _).mp ha
  have hA2 : ∀ a ∈ m.assocsById, a ∈ m.assocs := fun a ha => (mem_sortBy _ _ _).mp ha
  constructor
  · intro h
    obtain ⟨bs, hb, he⟩ := (reload_parts u _ (closed_reloaded u m hm _ hA1) items stmts hs).1 h
    have e := reloaded_reloaded_byIdKind u m hm
    exact ⟨bs, hb, by rw [he, e], by rw [he, e]; exact hread1⟩
  · intro h
    obtain ⟨bs, hb, he⟩ := (reload_parts u _ (closed_reloaded u m hm _ hA2) items stmts hs).2 h
    have e := reloaded_reloaded_byId u m hm
    exact ⟨bs, hb, by rw [he, e], by rw [he, e]; exact hread2⟩

/-- when the first text is already the fixed point: `serialize (reload m) = serialize m` holds when the classes of m are
    already in sorted order and its attribute type names are already upper-case.  It can fail only through the order of
    the INSERT blocks (the class dict order of m versus the sorted order after a reload) and the spelling of the type
    names in the per-value comments; never through values (unset is written as the null value both times, a REAL value
    of the model is its six-decimal numeral). -/
theorem text_first_equals_second (u : UC) (m : MM) (hm : m.Closed u) (hsorted : SortedBy (classLe u) m.classes)
    (hup : ∀ c ∈ m.classes, ∀ a ∈ c.attrs, u.upper a.2 = a.2) :
    printItems u ((m.reloaded u m.assocsByIdKind).serializeDatabase u) = printItems u (m.serializeDatabase u) :=
  serialize_reload_eq u m hm hsorted hup

/-- which types the INSERT-only route infers: the declared one, except that BOOLEAN columns (written 0 / 1) become
    INTEGER; the guess depends only on the declared type of the column, not on the row -/
theorem insert_only_types (u : UC) (t : Gen.Persist.Ty) (x : Val) (txt : Text) (h : fmtValue t x = some txt) :
    guessType u txt = some (guessedTy t) ∧ (t ≠ .BOOLEAN → guessedTy t = t) ∧ guessedTy .BOOLEAN = .INTEGER ∧
    deserialize u (guessedTy t).chars txt = some (inferVal t x) ∧ fmtValue (guessedTy t) (inferVal t x) = some txt :=
  ⟨guessType_fmt u t x txt h, by intro hne; cases t <;> first | rfl | exact absurd rfl hne, rfl,
    deserialize_guessed u t x txt h, fmt_inferVal t x txt h⟩

/-- without CREATE TABLE: the instance text of a well-formed, closed metamodel alone is accepted and builds to
    `m.inferred` — per kind that has rows, in the order of first appearance, a class with attributes `_0 … _n` of the
    guessed types and the rows in their order with their values (unset ≡ null, a boolean as 0 / 1); identifiers,
    associations and classes without rows are not there.  Writing the instances of that metamodel and loading them again
    gives the same metamodel: a fixed point after one round.  There are no associations, so nothing is read through links
    (`ReadsFixed` holds outright). -/
theorem insert_only_reload (u : UC) (m : MM) (hw : m.WF u) (hm : m.Closed u) (text1 : Text)
    (hp : printItems u m.serializeInstances = some text1) :
    (∃ stmts bs, classify u text1 = .accepted stmts ∧ build u stmts = .ok bs ∧ bs.toMM u = m.inferred u) ∧
    (∃ text2, printItems u (m.inferred u).serializeInstances = some text2 ∧
      ∃ stmts2 bs2, classify u text2 = .accepted stmts2 ∧ build u stmts2 = .ok bs2 ∧ bs2.toMM u = m.inferred u) ∧
    (m.inferred u).ReadsFixed u :=
  ⟨(instances_only_text u m hw hm text1 hp).1, (instances_only_text u m hw hm text1 hp).2,
    readsFixed_no_assocs u _ rfl⟩

theorem insert_only_idem (u : UC) (m : MM) (hm : m.Closed u) : (m.inferred u).inferred u = m.inferred u :=
  inferred_idem u m hm

/-! non-vacuity: concrete instances -/

example (u : UC) : step u (strText "it's -- \n".toList ++ ", -- s : STRING\n".toList) =
    .emit ⟨.STRING, strText "it's -- \n".toList⟩ ", -- s : STRING\n".toList :=
  (str_codec u _ _ (by intro c hc; simp at hc; subst hc; decide)).1
example : escapeQ "it's".toList = "it''s".toList := by decide +kernel
private theorem numFollow_ex (u : UC) : NumFollow u ", -- x\n".toList := (Safe.cons_comma _).numFollow u
example (u : UC) : lex u (intText (-18446744073709551617) ++ ", -- x\n".toList) =
    (lex u ", -- x\n".toList).map (fun ts => intToks (-18446744073709551617) ++ ts) :=
  (int_codec u _ _ (numFollow_ex u)).1
example (u : UC) : NumFollow u ", -- x\n".toList := numFollow_ex u
example : guidBody 0x0123456789abcdef0123456789abcdef = "01234567-89ab-cdef-0123-456789abcdef".toList := by decide +kernel
example : realText true 1500000 = "-1.500000".toList := by decide +kernel
example : IdentOk "CREATE".toList ∧ IdentOk "R".toList ∧ IdentOk "Rx1".toList ∧ IdentOk "_t".toList :=
  ⟨identOk_of_test (by decide +kernel), identOk_of_test (by decide +kernel), identOk_of_test (by decide +kernel),
    identOk_of_test (by decide +kernel)⟩
example : ¬ IdentOk "R5".toList := by intro h; exact absurd (h.notRelid rfl '5' rfl) (by decide +kernel)
example (u : UC) : itemsToks u [.cls ['A'] [(['i'], "integer".toList)], .index ['I'] ['A'] [['i']]] ≠ none := by
  simp [itemsToks, Item.toks]

/-- a class named by a reserved word, a reflexive association with phrases and a row with an unset value are
    well-formed items -/
example (u : UC) : (Item.cls "TABLE".toList [("Id".toList, "unique_id".toList)]).WF u :=
  Item.wf_of_test u (by decide +kernel)

example (u : UC) : (Item.assoc "R1".toList ⟨false, true, "TABLE".toList, ["next".toList], "owner's -- \n".toList⟩
    ⟨false, true, "TABLE".toList, ["Id".toList], "succeeds".toList⟩).WF u :=
  Item.wf_of_test u (by decide +kernel)

example : (Item.inst "TABLE".toList [("Id".toList, "unique_id".toList)] [none]).AsciiTypes := by
  unfold Item.AsciiTypes; decide +kernel

/-- a closed metamodel: one class with an identifier, an unset row and a reflexive association over its id -/
def mEx : MM :=
  ⟨[⟨"A".toList, [("Id".toList, "unique_id".toList)], [("I1".toList, ["Id".toList])], [[none]]⟩],
   [⟨"R1".toList, ⟨false, true, "A".toList, ["Id".toList], []⟩, ⟨false, true, "A".toList, ["Id".toList], "x".toList⟩⟩]⟩

example : mEx.Closed UC.ascii :=
  ⟨by decide +kernel, by decide +kernel, by decide +kernel, by decide +kernel, by decide +kernel, by decide +kernel,
    by decide +kernel, by decide +kernel⟩

/-- a root that is its own parent and a child of it: the keys denote the links (0,0) and (1,0); the unset parent of a
    third row denotes none; all key columns are UNIQUE_ID, so `UnsetSafe` holds -/
def mTree : MM :=
  ⟨[⟨"N".toList, [("Id".toList, "unique_id".toList), ("Parent".toList, "UNIQUE_ID".toList)], [],
     [[some (.id 1), some (.id 1)], [some (.id 2), some (.id 1)], [some (.id 3), none]]⟩],
   [⟨"R1".toList, ⟨true, true, "N".toList, ["Parent".toList], "child".toList⟩,
     ⟨false, true, "N".toList, ["Id".toList], "parent".toList⟩⟩]⟩

example : linksOf UC.ascii mTree = [(mTree.assocs.head!, [(0, 0), (1, 0)])] := by decide +kernel

example : UnsetSafe UC.ascii mTree := unsetSafe_of_test _ _ (by decide +kernel)

/-! ### a metamodel that meets EVERY hypothesis of the reload theorems, and the theorems applied to it -/

/-- Owner (Id, Name; identifier I1 over Id) with a name holding a quote, a comment marker and a newline, and an owner without
    name (unset); Dog (Tag, Owner_Id referential) with a linked dog and a dog with nothing set; R1 Dog -> Owner over
    UNIQUE_ID keys, with a phrase holding a quote -/
def mPets : MM :=
  ⟨[⟨"Owner".toList, [("Id".toList, "unique_id".toList), ("Name".toList, "STRING".toList)], [("I1".toList, ["Id".toList])],
     [[some (.id 1), some (.str "it's -- \n".toList)], [some (.id 2), none]]⟩,
    ⟨"Dog".toList, [("Tag".toList, "string".toList), ("Owner_Id".toList, "UNIQUE_ID".toList)], [],
     [[some (.str "rex".toList), some (.id 1)], [none, none]]⟩],
   [⟨"R1".toList, ⟨true, true, "Dog".toList, ["Owner_Id".toList], []⟩,
     ⟨false, true, "Owner".toList, ["Id".toList], "owner's".toList⟩⟩]⟩

theorem mPets_wf (u : UC) : mPets.WF u := MM.wf_of_test u (by decide +kernel)

theorem mPets_closed : mPets.Closed UC.ascii :=
  ⟨by decide +kernel, by decide +kernel, by decide +kernel, by decide +kernel, by decide +kernel, by decide +kernel,
    by decide +kernel, by decide +kernel⟩

theorem mPets_assoc_classes {a : AssocM} (ha : a ∈ mPets.assocs) {sc tc : ClassM}
    (hsc : mPets.findClass UC.ascii a.src.kind = some sc) (htc : mPets.findClass UC.ascii a.tgt.kind = some tc) :
    a = mPets.assocs.head! ∧ sc = mPets.classes[1]! ∧ tc = mPets.classes[0]! :=
  (by decide +kernel : ∀ a ∈ mPets.assocs, ∀ sc ∈ mPets.findClass UC.ascii a.src.kind,
    ∀ tc ∈ mPets.findClass UC.ascii a.tgt.kind, a = mPets.assocs.head! ∧ sc = mPets.classes[1]! ∧ tc = mPets.classes[0]!)
    a ha sc hsc tc htc

theorem mPets_unsetSafe : UnsetSafe UC.ascii mPets := unsetSafe_of_test _ _ (by decide +kernel)

/-- the canonical form of `mPets` is a fixed point of reading through links: the linked dog reads the id of its owner, the
    dog without owner reads `None` where the null id 0 is stored -/
theorem mPets_readsFixed : (mPets.reloaded UC.ascii mPets.assocsByIdKind).ReadsFixed UC.ascii := by
  unfold MM.ReadsFixed; decide +kernel

/-- the dangling case is excluded by the hypothesis: a dog whose Owner_Id 5 refers to no owner -- `getattr` reads `None`
    (written 0), the stored cell is 5 -- is no fixed point -/
example : ¬ (MM.ReadsFixed UC.ascii
    ⟨[⟨"Owner".toList, [("Id".toList, "UNIQUE_ID".toList)], [], [[some (.id 1)]]⟩,
      ⟨"Dog".toList, [("Tag".toList, "STRING".toList), ("Owner_Id".toList, "UNIQUE_ID".toList)], [],
       [[some (.str "rex".toList), some (.id 5)]]⟩],
     [⟨"R1".toList, ⟨true, true, "Dog".toList, ["Owner_Id".toList], []⟩, ⟨false, true, "Owner".toList, ["Id".toList], []⟩⟩]⟩) := by
  unfold MM.ReadsFixed; decide +kernel

private theorem mPets_prints : (printItems UC.ascii (mPets.serializeDatabase UC.ascii)).isSome = true := by decide +kernel
private theorem mPets_links : linksOfAssoc UC.ascii mPets mPets.assocs.head! = [(0, 0)] := by decide +kernel

/-- the links its keys denote: the first dog belongs to the first owner -/
example : linksOf UC.ascii mPets = [(mPets.assocs.head!, [(0, 0)])] := by
  rw [← mPets_links]
  rfl

/-- `reload_same_spec` APPLIED: the text `serialize_database` writes for `mPets` (it exists: every cell holds a value of its
    column's type) is accepted, builds, the built metamodel is `mPets.reloaded` and its keys denote the same links -/
example : ∃ text stmts bs, printItems UC.ascii (mPets.serializeDatabase UC.ascii) = some text ∧
    classify UC.ascii text = .accepted stmts ∧ build UC.ascii stmts = .ok bs ∧
    bs.toMM UC.ascii = mPets.reloaded UC.ascii mPets.assocsByIdKind ∧
    KeysResolve UC.ascii (bs.toMM UC.ascii) (fun a => linksOfAssoc UC.ascii mPets a) := by
  obtain ⟨text, hp⟩ := Option.isSome_iff_exists.mp mPets_prints
  obtain ⟨stmts, bs, h⟩ := reload_same_spec UC.ascii mPets (mPets_wf _) mPets_closed mPets_unsetSafe
    (fun a => linksOfAssoc UC.ascii mPets a) (fun _ _ _ => Iff.rfl) text hp
  exact ⟨text, stmts, bs, hp, h⟩

/-- `mPets` is in the bridge domain: keys spelled as declared, both key columns UNIQUE_ID, every cell typed -/
theorem mPets_loadDom : LoadDom UC.ascii mPets := by
  refine ⟨mPets_closed, by decide +kernel, by decide +kernel, by decide +kernel, by decide +kernel, ?_⟩
  intro c hc r hr
  apply typed_of_rowTypedM
  revert r hr c hc
  decide +kernel

/-- the bridge applied: C03's loader model accepts the statements of `mPets` and links exactly dog 0 to owner 0 -/
example : ∀ i j, LoaderLinked UC.ascii mPets mPets.assocs.head! i j ↔ (i, j) ∈ [(0, 0)] := by
  intro i j
  rw [loaderLinked_iff UC.ascii mPets mPets_loadDom mPets.assocs.head! (List.Mem.head _), mPets_links]

/-- `reload_same` APPLIED: written, loaded and handed to the loader model again, `mPets` keeps exactly that link -/
example : ∃ text stmts bs, printItems UC.ascii (mPets.serializeDatabase UC.ascii) = some text ∧
    classify UC.ascii text = .accepted stmts ∧ build UC.ascii stmts = .ok bs ∧
    ∀ a ∈ mPets.assocs, ∀ i j, LoaderLinked UC.ascii mPets a i j ↔ LoaderLinked UC.ascii (bs.toMM UC.ascii) a i j := by
  obtain ⟨text, hp⟩ := Option.isSome_iff_exists.mp mPets_prints
  obtain ⟨stmts, bs, h1, h2, _, h4⟩ := reload_same UC.ascii mPets (mPets_wf _) mPets_loadDom mPets_unsetSafe
    (fun a => linksOfAssoc UC.ascii mPets a)
    (fun a ha i j => (loaderLinked_iff UC.ascii mPets mPets_loadDom a ha i j).symm) text hp
  exact ⟨text, stmts, bs, hp, h1, h2, fun a ha i j =>
    (loaderLinked_iff UC.ascii mPets mPets_loadDom a ha i j).trans (h4 a ha i j)⟩

/-- `reload_same_partial` and `text_fixed_point` APPLIED to `mPets`: the text is accepted and builds to the canonical form,
    whose cells are what `getattr` returns; the second text exists, is accepted, builds to the same metamodel and is
    written again unchanged -/
example : ∃ text1 text2, printItems UC.ascii (mPets.serializeDatabase UC.ascii) = some text1 ∧
    (∃ stmts bs, classify UC.ascii text1 = .accepted stmts ∧ build UC.ascii stmts = .ok bs ∧ (bs.toMM UC.ascii).ReadsFixed UC.ascii) ∧
    printItems UC.ascii ((mPets.reloaded UC.ascii mPets.assocsByIdKind).serializeDatabase UC.ascii) = some text2 ∧
    ∃ stmts2 bs2, classify UC.ascii text2 = .accepted stmts2 ∧ build UC.ascii stmts2 = .ok bs2 ∧
      printItems UC.ascii ((bs2.toMM UC.ascii).serializeDatabase UC.ascii) = some text2 := by
  obtain ⟨text1, hp⟩ := Option.isSome_iff_exists.mp mPets_prints
  obtain ⟨stmts, bs, h1, h2, _, h4⟩ := reload_same_partial UC.ascii mPets (mPets_wf _) mPets_closed mPets_readsFixed text1 hp
  obtain ⟨text2, g1, stmts2, bs2, g2, g3, _, g5, _⟩ := text_fixed_point UC.ascii mPets (mPets_wf _) mPets_closed mPets_readsFixed text1 hp
  exact ⟨text1, text2, hp, ⟨stmts, bs, h1, h2, h4⟩, g1, stmts2, bs2, g2, g3, g5⟩

end PyxProps.C01
