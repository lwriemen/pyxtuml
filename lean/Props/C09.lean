import Proofs.Query
import Proofs.QueryShapeMore
import Proofs.MetaState

/-!
  C09 — Queries and navigations return exactly the matching instances in model order.
  Property theorems only.  Model: PyxModel/Query.lean over the state of PyxModel/Meta.lean.
-/
namespace PyxProps.C09
open Pyx.Meta Pyx.Query

/-- with equality filters and predicate filters only, in any number and order, `select_many` returns
    precisely the instances of the pool that satisfy ALL filters, in pool (creation) order -/
theorem select_spec (val : Valuation) (s : State) (k : Kind) (ops : List QOp)
    (hf : ∀ op ∈ ops, isFilter op = true) (hp : (s.pool k).Nodup) :
    selectMany val s k ops = (s.pool k).filter (fun x => ops.all (opHolds val x)) := by
  unfold selectMany
  rw [applyOps_filters val ops _ hf]
  exact Pyx.OSet.dedupFirst_of_nodup (hp.filter _)

/-- the pool of every reachable state is duplicate-free, so `select_spec` applies in every reachable state -/
theorem pool_nodup_reachable (sch : Schema) (hist : List Op) (k : Kind) : ((run sch hist).pool k).Nodup :=
  (run_poolInv_from sch hist init poolInv_init k).1

/-- an ordering operator returns a permutation of its input that is sorted by the key tuple
    (ascending for order_by, descending for reverse_order_by) … -/
theorem order_spec (val : Valuation) (l : List Inst) (attrs : List String) :
    (applyOp val l (.orderBy attrs false)).Perm l ∧
    Sorted (fun a b => keyLt (keyOf val attrs a) (keyOf val attrs b)) (applyOp val l (.orderBy attrs false)) ∧
    (applyOp val l (.orderBy attrs true)).Perm l ∧
    Sorted (fun a b => keyLt (keyOf val attrs b) (keyOf val attrs a)) (applyOp val l (.orderBy attrs true)) := by
  have h1 := sortStable_perm_sorted (keyOrder_strict (keyOf val attrs)) l [] List.Pairwise.nil
  have h2 := sortStable_perm_sorted (keyOrder_strict_rev (keyOf val attrs)) l [] List.Pairwise.nil
  exact ⟨h1.1, h1.2, h2.1, h2.2⟩

/-- … and it is stable in both directions: the elements of any one key keep their incoming order -/
theorem order_stable (val : Valuation) (l : List Inst) (attrs : List String) (k : List Int) (rev : Bool) :
    (applyOp val l (.orderBy attrs rev)).filter (fun x => decide (keyOf val attrs x = k)) =
      l.filter (fun x => decide (keyOf val attrs x = k)) := by
  cases rev with
  | false =>
    exact sortStable_filter_key (keyOf val attrs) keyLt (keyOrder_strict (keyOf val attrs)) k l []
      List.Pairwise.nil
  | true =>
    exact sortStable_filter_key (keyOf val attrs) (fun a b => keyLt b a) (keyOrder_strict_rev (keyOf val attrs))
      k l [] List.Pairwise.nil

/-- operators compose left to right, whatever their kinds -/
theorem ops_compose (val : Valuation) (l : List Inst) (ops₁ ops₂ : List QOp) :
    applyOps val l (ops₁ ++ ops₂) = applyOps val (applyOps val l ops₁) ops₂ := by
  simp [applyOps, List.foldl_append]

/-- selecting one / any returns the first element of the sequence select_many returns, or nothing -/
theorem select_one_spec (val : Valuation) (s : State) (k : Kind) (ops : List QOp) :
    selectOne val s k ops = (selectMany val s k ops).head? := by
  unfold selectOne selectMany; rw [head_dedupFirst]

/-- navigation along a chain (every step given by its link's partner function, when no step raises):
    the result is duplicate-free, and it contains `y` exactly when `y` is reachable from some handle
    element through the relational composition of the steps -/
theorem nav_spec (fs : List (Inst → List Inst)) (h : List Inst) (y : Inst) :
    (dedupFirst (chainSeq fs h)).Nodup ∧
    (y ∈ dedupFirst (chainSeq fs h) ↔ ∃ x ∈ h, Reach fs x y) := by
  refine ⟨Pyx.OSet.nodup_dedupFirst _, ?_⟩
  rw [Pyx.OSet.mem_dedupFirst, mem_chainSeq]

/-- one model step over a sequence is exactly the concatenation of the per-instance results
    (`flatMap`), provided no instance raises UnknownLinkException -/
theorem nav_step_flatMap (sch : Schema) (s : State) (st : Step) (f : Inst → List Inst) (l : List Inst)
    (h : ∀ x ∈ l, navigate sch s x st.toKind st.rel st.phrase = some (f x)) :
    navStep sch s l st = some (l.flatMap f) := navStep_flatMap sch s st f l h

/-- from `None` (the empty handle) every chain yields nothing; the single-result forms return the
    head of the sequence or nothing; filters commute with the final de-duplication -/
theorem nav_from_none (fs : List (Inst → List Inst)) : chainSeq fs [] = [] := by
  induction fs with
  | nil => rfl
  | cons f fs ih => simpa [chainSeq] using ih

theorem nav_one_spec (sch : Schema) (val : Valuation) (s : State) (h : List Inst) (steps : List Step) (ops : List QOp) :
    navOne sch val s h steps ops = (navMany sch val s h steps ops).map List.head? := by
  unfold navOne navMany
  cases navSeq sch s h steps with
  | none => rfl
  | some l => simp [head_dedupFirst]

theorem filter_dedup_commute (p : Nat → Bool) (l : List Nat) :
    dedupFirst (l.filter p) = (dedupFirst l).filter p := dedupFirst_filter p l

/-- de-duplication between steps changes nothing: navigating from a handle WITH duplicates (a generator) gives
    the same result as from the de-duplicated handle, for one step and for any chain; and a chain that
    de-duplicates after every step (`chainSeqDedup`) ends in the same sequence as the real one, which keeps
    duplicates until the final `QuerySet(...)` -/
theorem nav_dedup_commute (l : List Inst) (f : Inst → List Inst) (fs : List (Inst → List Inst)) (h : List Inst) :
    dedupFirst ((dedupFirst l).flatMap f) = dedupFirst (l.flatMap f) ∧
    dedupFirst (chainSeq fs (dedupFirst h)) = dedupFirst (chainSeq fs h) ∧
    chainSeqDedup fs h = dedupFirst (chainSeq fs h) :=
  ⟨dedup_flatMap l f, dedup_chainSeq fs h, chainSeqDedup_eq fs h⟩

/-- direct navigation: when the class's `links` dict has an entry under the key (kind, rel, phrase), `navigate`
    is exactly that entry's partner list -/
theorem navigate_direct (sch : Schema) (s : State) (x : Inst) (toKind : Kind) (rel phrase : String) (e : LinkEntry)
    (h : lookupKey (linkDict sch (s.kindOf x)) toKind rel phrase = some e) :
    navigate sch s x toKind rel phrase = some (followEntry s e x) := navigate_direct' sch s x toKind rel phrase e h

/-- … and which entry that is, in terms of the schema: if the link keys (toKind, rel, phrase) of class `k` are
    pairwise distinct, the dict is the list of the class's links in definition order, every link is found under
    its own key, and association number `i` contributes its source_link to its target class (key: source kind,
    rel, target phrase) and its target_link to its source class (key: target kind, rel, source phrase) -/
theorem link_dict_spec (sch : Schema) (k : Kind) (hd : KeysDistinct (linkEntriesFrom k 0 sch)) :
    linkDict sch k = linkEntriesFrom k 0 sch ∧
    (∀ e ∈ linkEntriesFrom k 0 sch, lookupKey (linkDict sch k) e.toKind e.rel e.phrase = some e) ∧
    (∀ i a, sch[i]? = some a →
      (a.tgtKind = k → lookupKey (linkDict sch k) a.srcKind a.rel a.tgtPhrase =
        some { toKind := a.srcKind, rel := a.rel, phrase := a.tgtPhrase, assoc := i, isSrc := true }) ∧
      (a.srcKind = k → lookupKey (linkDict sch k) a.tgtKind a.rel a.srcPhrase =
        some { toKind := a.tgtKind, rel := a.rel, phrase := a.srcPhrase, assoc := i, isSrc := false })) := by
  have hdict := linkDict_distinct sch k hd
  refine ⟨hdict, ?_, ?_⟩
  · intro e he
    rw [hdict]; exact lookupKey_of_mem _ e hd he
  · intro i a hi
    rw [hdict]
    exact ⟨fun hk => lookupKey_of_mem _ (srcEntry a i) hd (mem_linkEntries.2 ⟨i, a, hi, Or.inl ⟨hk, rfl⟩⟩),
      fun hk => lookupKey_of_mem _ (tgtEntry a i) hd (mem_linkEntries.2 ⟨i, a, hi, Or.inr ⟨hk, rfl⟩⟩)⟩

/-- two-hop navigation (through an association class): when there is no direct entry, `_find_assoc_links` takes
    the first link `l1` of the class with that rel id and phrase whose far class has an entry `l2` under the
    requested key; the result is the duplicate-free union, in encounter order, of the second-hop partners of the
    first-hop partners — i.e. the two-step chain — and it contains `y` exactly when `y` is related to `x` by the
    relational composition of the two links; without such a pair UnknownLinkException (`none`) -/
theorem navigate_two_hop (sch : Schema) (s : State) (x : Inst) (toKind : Kind) (rel phrase : String)
    (hno : lookupKey (linkDict sch (s.kindOf x)) toKind rel phrase = none) :
    (∀ l1 l2, (linkDict sch (s.kindOf x)).findSome? (assocHop sch toKind rel phrase) = some (l1, l2) →
      navigate sch s x toKind rel phrase = some (unionAll ((followEntry s l1 x).map (followEntry s l2))) ∧
      unionAll ((followEntry s l1 x).map (followEntry s l2)) =
        dedupFirst (chainSeq [followEntry s l1, followEntry s l2] [x]) ∧
      (unionAll ((followEntry s l1 x).map (followEntry s l2))).Nodup ∧
      (∀ y, y ∈ unionAll ((followEntry s l1 x).map (followEntry s l2)) ↔
        ∃ z ∈ followEntry s l1 x, y ∈ followEntry s l2 z) ∧
      l1 ∈ linkDict sch (s.kindOf x) ∧ l1.rel = rel ∧ l1.phrase = phrase ∧
      lookupKey (linkDict sch l1.toKind) toKind rel phrase = some l2) ∧
    ((linkDict sch (s.kindOf x)).findSome? (assocHop sch toKind rel phrase) = none →
      navigate sch s x toKind rel phrase = none) := by
  have hnav := navigate_indirect sch s x toKind rel phrase hno
  constructor
  · intro l1 l2 hfs
    rw [hfs] at hnav
    have hu := unionAll_map (followEntry s l2) (followEntry s l1 x)
    refine ⟨hnav, ?_, ?_, ?_, ?_⟩
    · rw [hu]; simp [chainSeq]
    · rw [hu]; exact Pyx.OSet.nodup_dedupFirst _
    · intro y
      rw [hu, Pyx.OSet.mem_dedupFirst, List.mem_flatMap]
    · obtain ⟨pre, l, post, hsplit, hl, _⟩ := List.findSome?_eq_some_iff.mp hfs
      unfold assocHop at hl
      split at hl
      · rename_i hc
        obtain ⟨l2', hl2, he⟩ := Option.map_eq_some_iff.1 hl
        cases he
        exact ⟨by rw [hsplit]; simp, beq_iff_eq.1 (Bool.and_eq_true_iff.1 hc).1, beq_iff_eq.1 (Bool.and_eq_true_iff.1 hc).2, hl2⟩
      · cases hl
  · intro hfs
    rw [hfs] at hnav
    exact hnav

/-- `navigate_subtype(x, rel)` when no navigation raises: if no link key of the class with that rel id yields an
    instance the result is `None`; if the keys that yield anything all yield `y` first (in particular when at most
    one key yields an instance — one supertype instance has one subtype instance) the result is `y` -/
theorem nav_subtype_spec (sch : Schema) (s : State) (x : Inst) (rel : String) (y : Inst) :
    ((∀ e ∈ linkDict sch (s.kindOf x), e.rel = rel → navigate sch s x e.toKind rel "" = some []) →
      navSubtype sch s x rel = some none) ∧
    ((∀ e ∈ linkDict sch (s.kindOf x), e.rel = rel →
        ∃ l, navigate sch s x e.toKind rel "" = some l ∧ (l = [] ∨ l.head? = some y)) →
      (∃ e ∈ linkDict sch (s.kindOf x), e.rel = rel ∧ ∃ l, navigate sch s x e.toKind rel "" = some l ∧ l.head? = some y) →
      navSubtype sch s x rel = some (some y)) := by
  unfold navSubtype
  generalize linkDict sch (s.kindOf x) = d
  constructor
  · intro h
    induction d with
    | nil => rfl
    | cons e r ih =>
      have ih := ih fun e' he' => h e' (List.mem_cons_of_mem _ he')
      rw [navSubtypeFrom]
      split
      · rw [h e List.mem_cons_self (beq_iff_eq.1 ‹_›)]; exact ih
      · exact ih
  · intro hall hex
    induction d with
    | nil => obtain ⟨_, he, _⟩ := hex; cases he
    | cons e r ih =>
      obtain ⟨e0, hm, hr, l0, hl0, hh0⟩ := hex
      -- unless the head entry decides, the witness lies in the tail
      have ih : e0 ≠ e → navSubtypeFrom sch s x rel r = some (some y) := fun hne =>
        ih (fun e' he' => hall e' (List.mem_cons_of_mem _ he'))
          ⟨e0, (List.mem_cons.1 hm).resolve_left hne, hr, l0, hl0, hh0⟩
      rw [navSubtypeFrom]
      split
      · rename_i he
        obtain ⟨l, hl, hcase⟩ := hall e List.mem_cons_self (beq_iff_eq.1 he)
        rw [hl]
        rcases hcase with rfl | hh
        · exact ih fun e' => by subst e'; rw [hl] at hl0; cases hl0; cases hh0
        · simp only [hh]
      · rename_i he
        exact ih fun e' => he (e' ▸ beq_iff_eq.2 hr)

/-- whatever the operators (filters, orderings) and whatever the handle and steps: the results of `select_many`
    and of `navigate_many(...)…(...)` are duplicate-free -/
theorem select_many_nodup (sch : Schema) (val : Valuation) (s : State) (k : Kind) (ops : List QOp) (h : List Inst)
    (steps : List Step) :
    (selectMany val s k ops).Nodup ∧ ∀ r, navMany sch val s h steps ops = some r → r.Nodup := by
  refine ⟨Pyx.OSet.nodup_dedupFirst _, ?_⟩
  intro r hr
  unfold navMany at hr
  cases hn : navSeq sch s h steps with
  | none => simp [hn] at hr
  | some l =>
    simp only [hn, Option.map_some, Option.some.injEq] at hr
    rw [← hr]; exact Pyx.OSet.nodup_dedupFirst _

example : applyOp (fun x _ => some (Int.ofNat (x % 2))) [3, 1, 4, 2, 6] (.orderBy ["P"] false) = [4, 2, 6, 3, 1] := by decide
example : applyOp (fun x _ => some (Int.ofNat (x % 2))) [3, 1, 4, 2, 6] (.orderBy ["P"] true) = [3, 1, 4, 2, 6] := by decide
example : Reach [fun x => [x + 1, x + 2], fun x => [x * 2]] 1 6 := ⟨3, by simp, 6, by simp, rfl⟩


def mkAssoc (rel : String) (src tgt : Kind) : AssocSpec :=
  { rel := rel, srcKind := src, srcKeys := [], srcMany := true, srcCond := true, srcPhrase := "",
    tgtKind := tgt, tgtKeys := [], tgtMany := false, tgtCond := true, tgtPhrase := "" }
/-- an association class AB (kind 2) between A (kind 0) and B (kind 1): two associations with the rel id R2 -/
def schAB : Schema := [mkAssoc "R2" 2 0, mkAssoc "R2" 2 1]
/-- a = 0; ab = 10, 11, 12; b = 20, 21; a—{10, 11, 12}; 10—20, 11—21, 12—20 -/
def stAB : State :=
  { init with
    kindOf := fun x => if x = 0 then 0 else if x < 20 then 2 else 1
    links := fun i =>
      if i = 0 then { src := fun x => if x = 0 then [10, 11, 12] else [], tgt := fun x => if 10 ≤ x ∧ x ≤ 12 then [0] else [] }
      else { src := fun x => if x = 20 then [10, 12] else if x = 21 then [11] else [],
             tgt := fun x => if x = 10 ∨ x = 12 then [20] else if x = 11 then [21] else [] } }

example : dedupFirst ((dedupFirst [3, 1, 3, 2, 1]).flatMap fun x => [x % 2, x]) = [1, 3, 0, 2] ∧
    dedupFirst (([3, 1, 3, 2, 1] : List Nat).flatMap fun x => [x % 2, x]) = [1, 3, 0, 2] := by decide +kernel
example : KeysDistinct (linkEntriesFrom 2 0 schAB) ∧ KeysDistinct (linkEntriesFrom 0 0 schAB) := by
  unfold KeysDistinct; decide
/-- direct: from a to its association-class instances; from ab 11 to its b -/
example : navigate schAB stAB 0 2 "R2" "" = some [10, 11, 12] ∧ navigate schAB stAB 11 1 "R2" "" = some [21] := by decide
/-- two-hop: A has no entry for (B, R2); through AB the union in encounter order, 20 only once -/
example : lookupKey (linkDict schAB 0) 1 "R2" "" = none ∧ navigate schAB stAB 0 1 "R2" "" = some [20, 21] ∧
    navigate schAB stAB 0 1 "R9" "" = none := by decide
/-- supertype S (kind 0) with subtypes T1 (kind 1) and T2 (kind 2) over R3; instance 0 is a T2 (instance 7) -/
def schSub : Schema := [mkAssoc "R3" 1 0, mkAssoc "R3" 2 0]
def stSub : State :=
  { init with
    kindOf := fun x => if x = 7 then 2 else 0
    links := fun i => if i = 1 then { src := fun x => if x = 0 then [7] else [], tgt := fun x => if x = 7 then [0] else [] }
                      else emptyLinks }
example : navSubtype schSub stSub 0 "R3" = some (some 7) ∧ navSubtype schSub stSub 3 "R3" = some none := by decide
example : (selectMany (fun x _ => some (Int.ofNat x)) { init with pool := fun _ => [4, 2, 9] } 0
    [.orderBy ["v"] true, .pred (.geC "v" 3)]) = [9, 4] := by decide

end PyxProps.C09

/-!
  Source tie of the query side.

  translator/gen_queryshape.py reads apply_query_operators, WhereEqual.__call__, OrderBy.__call__, MetaClass /
  MetaModel select_one / select_many (select_any), QuerySet.first / last, the NavChain family, MetaClass.navigate,
  _find_assoc_links, Link.navigate and navigate_subtype with `ast` on every run and emits their statement structure
  as a first-order IR (lean/Gen/QueryShape.lean); statements the IR does not parameterise are compared exactly, any
  other shape makes the generator raise (broken tie).  Proofs/QueryShape.lean defines ONE generic interpreter of
  that IR (`Pyx.QShape.i…`).  The theorems below state that the model of PyxModel/Query.lean IS the interpretation
  of the IR generated from the current source.
-/
namespace PyxProps.C09
open Pyx.Meta Pyx.Query Pyx.QShape Pyx.Gen.QueryShape

/-- apply_query_operators: every operator is dispatched as the source's isinstance chain says (a where_eq / an
    order_by is called on the sequence, a plain function filters it) and the operators are folded left to right;
    where_eq keeps, in order, the instances for which no item compares unequal; order_by is the stable sort on the
    attribute list, the reverse flag being handled inside `sorted` -/
theorem query_ops_as_in_source (val : Valuation) (l : List Inst) (op : QOp) (ops : List QOp) :
    applyOp val l op = iApplyOp opDispatch opElse whereShape orderShape val l op ∧
    applyOps val l ops = iApplyOps opDispatch opElse whereShape orderShape val l ops :=
  ⟨applyOp_eq val l op, applyOps_eq val l ops⟩

/-- select_many / select_one (= select_any): the operators applied to the storage in creation order, then a
    QuerySet resp. the first element or None -/
theorem select_as_in_source (val : Valuation) (s : State) (k : Kind) (ops : List QOp) :
    selectMany val s k ops =
      iMany selectManyResult (iApplyOps opDispatch opElse whereShape orderShape val (s.pool k) ops) ∧
    selectOne val s k ops =
      iOne selectOneResult (iApplyOps opDispatch opElse whereShape orderShape val (s.pool k) ops) := by
  rw [selectMany, selectOne, applyOps_eq]
  exact ⟨rfl, rfl⟩

/-- MetaClass.navigate with _find_assoc_links: the direct entry, else the first link of the class that the source's
    skip test lets through and whose far class has the key -/
theorem navigate_as_in_source (sch : Schema) (s : State) (x : Inst) (toKind : Kind) (rel phrase : String) :
    navigate sch s x toKind rel phrase = iNavigate assocSkip sch s x toKind rel phrase :=
  navigate_eq sch s x toKind rel phrase

/-- the navigation chains: one step visits the handle in order and yields every result of the per-instance
    navigation (duplicates kept), steps are chained, the operators are applied to the final sequence, and the
    result is a QuerySet (navigate_many) resp. the first element or None (navigate_one / navigate_any) -/
theorem nav_chain_as_in_source (sch : Schema) (val : Valuation) (s : State) (h : List Inst) (st : Step)
    (steps : List Step) (ops : List QOp) :
    navStep sch s h st = iNavStep navInner (fun x => iNavigate assocSkip sch s x st.toKind st.rel st.phrase) h ∧
    navSeq sch s h steps = iNavSeq navInner assocSkip sch s h steps ∧
    navMany sch val s h steps ops = (iNavSeq navInner assocSkip sch s h steps).map
      (fun l => iMany navManyResult (iApplyOps opDispatch opElse whereShape orderShape val l ops)) ∧
    navOne sch val s h steps ops = (iNavSeq navInner assocSkip sch s h steps).map
      (fun l => iOne navOneResult (iApplyOps opDispatch opElse whereShape orderShape val l ops)) := by
  refine ⟨navStep_eq sch s h st, navSeq_eq sch s h steps, ?_, ?_⟩
  · rw [navMany, navSeq_eq]
    exact congrArg (Option.map · _) (funext fun l => by rw [applyOps_eq]; rfl)
  · rw [navOne, navSeq_eq]
    exact congrArg (Option.map · _) (funext fun l => by rw [applyOps_eq]; rfl)

/-- navigate_subtype: the link keys in dict order, skipped as the source's test says, the first that yields wins -/
theorem nav_subtype_as_in_source (sch : Schema) (s : State) (x : Inst) (rel : String) :
    navSubtype sch s x rel =
      iNavSubtypeFrom subtypeSkip (fun k => iNavigate assocSkip sch s x k rel "") rel (linkDict sch (s.kindOf x)) := by
  unfold navSubtype
  generalize linkDict sch (s.kindOf x) = d
  induction d with
  | nil => rfl
  | cons e rest ih =>
    simp only [navSubtypeFrom, iNavSubtypeFrom, ih, navigate_eq, subtypeSkip, evalB, bne, Bool.not_not]
    rfl

/-! non-vacuity: the interpreter runs the generated IR (it is not a renaming of the model), and another IR gives
    another function -/
example : iApplyOps opDispatch opElse whereShape orderShape (fun x n => if n = "P" then some (Int.ofNat (x % 2)) else some (Int.ofNat x))
    [3, 1, 4, 2, 6] [.orderBy ["P"] true, .whereEq [("P", some 0)], .pred (.geC "v" 4)] = [4, 6] := by decide +kernel
example : iNavigate assocSkip schAB stAB 0 1 "R2" "" = some [20, 21] ∧ iNavigate assocSkip schAB stAB 0 2 "R2" "" = some [10, 11, 12] ∧
    iNavSeq navInner assocSkip schAB stAB [0, 0] [⟨2, "R2", ""⟩, ⟨1, "R2", ""⟩] = some [20, 21, 20, 20, 21, 20] := by decide +kernel
/-- a where_eq that broke on EQUAL items, or an order_by that did not pass the reverse flag, would be different functions -/
example : iWhere { breakWhen := .eq, yieldWhen := .completed } (fun x _ => some (Int.ofNat x)) [("v", some 3)] [3, 4] = [4] ∧
    iWhere whereShape (fun x _ => some (Int.ofNat x)) [("v", some 3)] [3, 4] = [3] ∧
    iOrder { key := .listOfGetattr, passesReverseFlag := false } (fun x _ => some (Int.ofNat x)) ["v"] true [1, 3, 2] = [1, 2, 3] ∧
    iOrder orderShape (fun x _ => some (Int.ofNat x)) ["v"] true [1, 3, 2] = [3, 2, 1] := by decide

end PyxProps.C09

namespace PyxProps.C09
open Pyx.Meta Pyx.Query

/-- the ordering attributes are SET on every element: the domain of the ordering theorems.  Python compares the key
    lists element-wise and raises TypeError when an unset value (None) meets an integer; the model's `keyOf` reads an
    unset value as 0, so `order_spec` / `order_stable` above describe the code only inside this domain -/
def KeysSet (val : Valuation) (l : List Inst) (attrs : List String) : Prop := ∀ x ∈ l, ∀ a ∈ attrs, val x a ≠ none

/-- the ordering theorems with their domain made explicit: when every ordering attribute is set on every
    element, the key the model sorts by is the list of the attribute VALUES (no default stands in for an unset one), the
    result is a permutation sorted by that key (ascending / descending), and ties keep their incoming order -/
theorem order_spec_guarded (val : Valuation) (l : List Inst) (attrs : List String) (hset : KeysSet val l attrs) :
    (∀ x ∈ l, (keyOf val attrs x).map some = attrs.map (val x)) ∧
    (applyOp val l (.orderBy attrs false)).Perm l ∧
    Sorted (fun a b => keyLt (keyOf val attrs a) (keyOf val attrs b)) (applyOp val l (.orderBy attrs false)) ∧
    (applyOp val l (.orderBy attrs true)).Perm l ∧
    Sorted (fun a b => keyLt (keyOf val attrs b) (keyOf val attrs a)) (applyOp val l (.orderBy attrs true)) ∧
    (∀ k rev, (applyOp val l (.orderBy attrs rev)).filter (fun x => decide (keyOf val attrs x = k)) =
      l.filter (fun x => decide (keyOf val attrs x = k))) := by
  refine ⟨?_, (order_spec val l attrs).1, (order_spec val l attrs).2.1, (order_spec val l attrs).2.2.1,
    (order_spec val l attrs).2.2.2, fun k rev => order_stable val l attrs k rev⟩
  intro x hx
  unfold keyOf
  rw [List.map_map]
  apply List.map_congr_left
  intro a ha
  have := hset x hx a ha
  cases hv : val x a with
  | none => exact absurd hv this
  | some v => simp [hv]

/-- a WHOLE chain at state level: when every step can be navigated (no UnknownLinkException) from every element
    reached so far (`ChainOk`, with the steps' partner functions `fs`), the sequence the driver's `navSeq` computes is
    `chainSeq fs h`; hence `navigate_many(h).nav(…)…()` is duplicate-free and contains `y` exactly when `y` is reachable
    from a handle element through the relational composition of the steps (`nav_spec` is about what the driver runs) -/
theorem nav_seq_is_chain (sch : Schema) (val : Valuation) (s : State) (h : List Inst) (steps : List Step)
    (fs : List (Inst → List Inst)) (hc : ChainOk sch s steps fs h) (y : Inst) :
    navSeq sch s h steps = some (chainSeq fs h) ∧
    navMany sch val s h steps [] = some (dedupFirst (chainSeq fs h)) ∧
    (y ∈ dedupFirst (chainSeq fs h) ↔ ∃ x ∈ h, Reach fs x y) := by
  have h1 := navSeq_chainSeq sch s steps fs h hc
  refine ⟨h1, ?_, (nav_spec fs h y).2⟩
  unfold navMany
  rw [h1]
  rfl

/-- the single-result forms and laziness.  `navigate_one/any(h)…()` is `next(iter(…), None)` over LAZY
    generators: the code stops at the first result and never navigates from the handle elements after it.  The model's
    `navOne` evaluates the whole sequence first and is an exception as soon as ANY element raises.  The two agree when no
    element raises — the domain of `nav_one_spec` above: handles whose elements all have the navigated link (in
    particular single-class handles; the correspondence also generates handles of mixed classes that all have the link,
    such as the subtypes of one supertype).  Inside it: -/
theorem nav_one_domain (sch : Schema) (val : Valuation) (s : State) (h : List Inst) (steps : List Step)
    (fs : List (Inst → List Inst)) (hc : ChainOk sch s steps fs h) (ops : List QOp) :
    navOne sch val s h steps ops = some ((applyOps val (chainSeq fs h) ops).head?) ∧
    navOne sch val s h steps ops = (navMany sch val s h steps ops).map List.head? := by
  refine ⟨?_, nav_one_spec sch val s h steps ops⟩
  unfold navOne
  rw [navSeq_chainSeq sch s steps fs h hc]
  rfl

/-! examples: the two-step chain a → ab → b of the schema above satisfies `ChainOk`; an unknown link makes `navSeq` an exception -/
example : ChainOk schAB stAB [⟨2, "R2", ""⟩, ⟨1, "R2", ""⟩]
    [fun x => if x = 0 then [10, 11, 12] else [], fun x => if x = 10 ∨ x = 12 then [20] else if x = 11 then [21] else []] [0] := by
  refine ⟨?_, ?_, trivial⟩
  · intro x hx; simp at hx; subst hx; decide
  · intro x hx
    simp at hx
    rcases hx with rfl | rfl | rfl <;> decide
example : navSeq schAB stAB [0, 20] [⟨2, "R9", ""⟩] = none ∧ navigate schAB stAB 0 2 "R2" "" = some [10, 11, 12] := by decide
example : KeysSet (fun x _ => some (Int.ofNat x)) [3, 1, 2] ["v"] := by intro x _ a _; simp

end PyxProps.C09

/-! "a different IR gives a different function": the interpreters of Proofs/QueryShape.lean run on statement structures
  OTHER than the generated ones compute other results, so the `…_as_in_source` equalities above are not equalities that
  any IR would satisfy -/
namespace PyxProps.C09
open Pyx.Meta Pyx.Query Pyx.QShape Pyx.Gen.QueryShape

def valPQ : Valuation := fun x a => if a = "P" then some (Int.ofNat (x % 2)) else some (Int.ofNat x)

/-- where_eq: breaking on EQUAL items / yielding the instances whose loop BROKE selects the complement;
    order_by: a `sorted` call that does not pass the reverse flag sorts ascending where the source sorts descending;
    result forms: `next(iter(…), None)` for a set-valued selection keeps one instance, a QuerySet for select_one is the
    same FIRST element (equivalent) -/
example : iWhere whereShape valPQ [("P", some 1)] [1, 2, 3, 4] = [1, 3] ∧
    iWhere { whereShape with breakWhen := .eq } valPQ [("P", some 1)] [1, 2, 3, 4] = [2, 4] ∧
    iWhere { whereShape with yieldWhen := .broke } valPQ [("P", some 1)] [1, 2, 3, 4] = [2, 4] ∧
    iOrder orderShape valPQ ["P"] true [1, 2, 3, 4] = [1, 3, 2, 4] ∧
    iOrder { orderShape with passesReverseFlag := false } valPQ ["P"] true [1, 2, 3, 4] = [2, 4, 1, 3] ∧
    iMany selectManyResult [3, 1, 3, 2] = [3, 1, 2] ∧ iMany .firstOrNone [3, 1, 3, 2] = [3] ∧
    iOne selectOneResult [3, 1, 3, 2] = some 3 := by decide

/-- the dispatch of apply_query_operators: the generated chain calls a where_eq / order_by operator and wraps a dict; a chain
    without tests sends everything to the `else:` branch (filter with the operator as a predicate) -/
example : pickAct opDispatch opElse .whereEqual = .callOp ∧ pickAct opDispatch opElse .callable = .filterWith ∧
    pickAct [] opElse .whereEqual = .filterWith ∧
    pickAct [(.isDict, .wrapWhereEqual), (.isWhereEqual, .callOp)] opElse .whereEqual = .wrapWhereEqual := by decide

/-- navigation through an association class: a skip test that ignores the relation id of the first hop finds the same
    two-hop route here, a skip test that is always true finds none (UnknownLinkException) -/
example : iNavigate assocSkip schAB stAB 0 1 "R2" "" = some [20, 21] ∧
    iNavigate (.or (.atom .relDiffers) (.not (.atom .relDiffers))) schAB stAB 0 1 "R2" "" = none := by decide

/-- the `links` dict every navigation consults (`MetaClass.navigate`, `_find_assoc_links`, `navigate_subtype`,
    `sort_reflexive`): for every schema and class, the model's entries are the `add_link` calls of
    `define_association` read from the source (Gen/RelateShape.lean `linkDefs`) — a link is filed under the class it
    STARTS at, keyed by the class it LEADS TO, the rel id and the phrase handed to that call, the source link before
    the target link — followed by the dict semantics of assignment (`dictInsert`) -/
theorem link_dict_as_in_source (sch : Schema) (k : Kind) (i : Nat) :
    linkEntriesFrom k i sch = iLinkEntriesFrom Pyx.Gen.RelateShape.linkDefs k i sch ∧
    linkDict sch k = iLinkDict Pyx.Gen.RelateShape.linkDefs sch k :=
  ⟨linkEntriesFrom_eq k sch i, linkDict_eq sch k⟩

/-! non-vacuity: the interpreted `add_link` calls give the association class (2) of the schema above its two links
    and class 0 its one; on a reflexive association the source link (stored under the TARGET phrase) comes first, and
    link definitions added in the other order are another dict -/
def aRefl : AssocSpec :=
  { rel := "R1", srcKind := 0, srcKeys := [], srcMany := false, srcCond := true, srcPhrase := "succeeds",
    tgtKind := 0, tgtKeys := [], tgtMany := false, tgtCond := true, tgtPhrase := "precedes" }
example : (iLinkDict Pyx.Gen.RelateShape.linkDefs schAB 2).map (fun e => (e.toKind, e.rel, e.phrase, e.assoc, e.isSrc)) =
      [(0, "R2", "", 0, false), (1, "R2", "", 1, false)] ∧
    (iLinkDict Pyx.Gen.RelateShape.linkDefs schAB 0).map (fun e => (e.toKind, e.rel, e.phrase, e.assoc, e.isSrc)) =
      [(2, "R2", "", 0, true)] ∧
    (iLinkDict Pyx.Gen.RelateShape.linkDefs [aRefl] 0).map (fun e => (e.phrase, e.isSrc)) =
      [("precedes", true), ("succeeds", false)] ∧
    (iLinkDict Pyx.Gen.RelateShape.linkDefs.reverse [aRefl] 0).map (fun e => (e.phrase, e.isSrc)) =
      [("succeeds", false), ("precedes", true)] := by decide +kernel

end PyxProps.C09
