import Proofs.ExtractPerm
import Proofs.ExtractSql
import Proofs.ExtractReload
import Proofs.ExtractRows
import Proofs.ExtractPkgRef
import Proofs.ExtractShapeSubsup
import Proofs.ExtractShapeScope
import Proofs.ExtractShapeClass
import Proofs.ExtractShapeAttrs
import Proofs.SqlReloadRoutes
import Proofs.ExtractScript

/-!
  C14 — Component extraction mirrors the BridgePoint class model.

  Model: PyxModel/Extract/Diagram.lean (what an ooaofooa population denotes), Schema.lean
  (`extract` = the arguments of define_class / define_unique_identifier / define_association made by
  `mk_component`, written from bridgepoint/ooaofooa.py), Edit.lean (`applyEdit` on the diagram,
  `schemaEdit` on the result, `resolve` from one to the other).
  `WF d`: Obj_ID, key letters, Attr_ID and attribute names per class, Rel_ID and relationship
  numbers are unique.  `EditOk d e`: the edit is applicable (fresh name / supported types /
  a permutation).  All statements hold for every diagram, every component and both settings of
  the derived-attributes flag.
  Package references (EP_PKGREF rows, R1402; `ClassDiagram.pkgrefs`) are part of the diagram: `is_contained_in`
  follows them, so every statement about the scope of a component (`inScope`, `containedIn`, `Reaches`, `TreeOk`) is
  about containment AND references; `restrict_no_pkgref` says what a diagram without such rows reduces to,
  `restrict_follows_reference` … `restrict_selected_once` say what the rows add.
-/

namespace PyxProps.C14
open Pyx.Extract

/-! ### extract_shape: what is defined for a diagram -/

/-- one class per modeled class in scope (all classes when no component is given), in modeled order,
    each built by `classOf` -/
theorem extract_shape (d : ClassDiagram) (comp : Option Nat) (drv : Bool) :
    (extract d comp drv).classes.map (·.kl) =
      (d.classes.filter (fun c => inScope d.containers d.pkgrefs comp c.parent)).map (·.kl) ∧
    (extract d comp drv).classes.length =
      (d.classes.filter (fun c => inScope d.containers d.pkgrefs comp c.parent)).length ∧
    (∀ s ∈ (extract d comp drv).classes, ∃ c ∈ d.classes, inScope d.containers d.pkgrefs comp c.parent = true ∧
      s = classOf d drv c) := by
  unfold extract
  refine ⟨?_, ?_, ?_⟩
  · simp only [List.map_map]; rfl
  · simp
  · intro s hs
    obtain ⟨c, hc, rfl⟩ := List.mem_map.mp hs
    exact ⟨c, (List.mem_filter.mp hc).1, (List.mem_filter.mp hc).2, rfl⟩

/-- the attributes of a class are the kept modeled attributes (not a left-out derived one, of a
    supported type), in modeled (R103) order -/
theorem extract_shape_attr_order (d : ClassDiagram) (drv : Bool) (c : Class) :
    (classOf d drv c).attrs.map (·.name) = (c.attrs.filter (Attr.kept d drv)).map (·.name) :=
  classOf_attr_names d drv c

/-- … and each one carries the mapped type of its (referred) data type; nothing else is declared -/
theorem extract_shape_attr_types {d : ClassDiagram} {drv : Bool} {c : Class} {s : SAttr} :
    s ∈ (classOf d drv c).attrs ↔
      ∃ a ∈ c.attrs, a.name = s.name ∧ (drv = true ∨ a.isDerived = false) ∧ attrTy d a = some s.ty :=
  classOf_attr_mem

/-- derived attributes exactly on request -/
theorem extract_shape_derived_iff_requested (d : ClassDiagram) (drv : Bool) (a : Attr) (h : a.isDerived = true) :
    (sattr d drv a).isSome = (drv && (attrTy d a).isSome) := by
  rw [sattr_isSome]; unfold Attr.kept; rw [h]; cases drv <;> rfl

/-- type mapping, on `dtTypeName` itself (= `_get_data_type_name`): core types 1..5 -> the upper-cased name (an EMPTY name
    counts as unsupported: `elif not ty:`) -/
theorem type_of_core (dts : List DataType) (t : DataType) (n : Nat) (h : findDt dts t.id = some t)
    (hk : t.kind = .core n) : dtTypeName dts t.id = if 1 ≤ n ∧ n ≤ 5 ∧ t.name ≠ "" then some (upper t.name) else none := by
  unfold dtTypeName
  simp only [dtTypeFuel, h, hk]

/-- enumerations -> INTEGER -/
theorem type_of_enum (dts : List DataType) (t : DataType) (es : List String)
    (h : findDt dts t.id = some t) (hk : t.kind = .enum es) : dtTypeName dts t.id = some "INTEGER" := by
  unfold dtTypeName
  simp only [dtTypeFuel, h, hk]

/-- user types -> whatever their base type maps to, for acyclic R18 chains (`DtChainOk`; on a cyclic chain Python
    recurses without end) -/
theorem type_of_user (dts : List DataType) (chain : DtChainOk dts) (t : DataType) (b : Nat)
    (h : findDt dts t.id = some t) (hk : t.kind = .user b) : dtTypeName dts t.id = dtTypeName dts b :=
  -- both sides decide the same relation: `MapsTo` at a user type is `MapsTo` at its base
  Option.ext fun s => by
    rw [dtTypeName_iff chain, dtTypeName_iff chain]
    refine ⟨fun m => ?_, .user h hk⟩
    cases m with
    | user hf' hk' hm => rw [h] at hf'; cases hf'; rw [hk] at hk'; cases hk'; exact hm
    | _ hf' hk' => rw [h] at hf'; cases hf'; rw [hk] at hk'; cases hk'

/-- anything else (structured types, instance references, a dangling DT_ID) is unsupported -/
theorem type_of_other (dts : List DataType) (id : Nat) :
    (findDt dts id = none → dtTypeName dts id = none) ∧
    (∀ t, findDt dts id = some t → t.kind = .other → dtTypeName dts id = none) := by
  unfold dtTypeName
  constructor
  · intro h; simp only [dtTypeFuel, h]
  · intro t h hk; simp only [dtTypeFuel, h, hk]

/-- `_get_data_type_name` against a relational specification (`MapsTo`: core 1..5 -> NAME, enumeration -> INTEGER,
    user type -> the type of its base): the model decides exactly that relation and its fuel is never exhausted on
    acyclic chains -/
theorem type_mapping_rel {dts : List DataType} (chain : DtChainOk dts) (i : Nat) (s : String) :
    dtTypeName dts i = some s ↔ MapsTo dts i s :=
  dtTypeName_iff chain i s

/-- a referential attribute has the type of the base attribute it refers to over R113 -/
theorem type_of_referential (d : ClassDiagram) (a ba : Attr) (c b : Nat) (k : Class) (hk : a.kind = .ref c b)
    (hc : findClass d c = some k) (hb : k.findAttr b = some ba) (hnr : ∀ c' b', ba.kind ≠ .ref c' b') :
    attrTy d a = attrTy d ba :=
  attrTy_dependent hc hb hnr hk

/-- one unique identifier `I<Oid_ID+1>` per modeled identifier that has attributes and (unless derived
    attributes are requested) no derived attribute; its names are the names of the O_OIDA attributes -/
theorem extract_shape_identifiers {drv : Bool} {d : ClassDiagram} {c : Class} {si : SIdent} :
    si ∈ (classOf d drv c).idents ↔
      ∃ i ∈ c.idents, si.num = i.num + 1 ∧ si.names = (i.attrs.filterMap c.findAttr).map (·.name) ∧
        (i.attrs.filterMap c.findAttr) ≠ [] ∧
        (drv = true ∨ ∀ a ∈ i.attrs.filterMap c.findAttr, a.isDerived = false) :=
  classOf_ident_mem

/-- the associations: one group per relationship in scope (whose classes exist), in modeled order,
    numbered by R_REL.Numb -/
theorem extract_shape_groups (d : ClassDiagram) (comp : Option Nat) (drv : Bool) :
    (extract d comp drv).groups =
      (d.rels.filter (fun r => inScope d.containers d.pkgrefs comp r.parent)).filterMap (groupOf d) ∧
    (∀ r g, groupOf d r = some g → g.rel = r.numb) :=
  ⟨rfl, fun _ _ h => groupOf_rel h⟩

/-- formalised simple relationship: ONE association, from the R_FORM class to the R_PART class.
    R_FORM.Mult/Cond -> source_many/source_conditional, R_PART.Mult/Cond -> target_many/
    target_conditional; phrases only when both ends are the same class, and then crosswise:
    source_phrase = R_PART.Txt_Phrs, target_phrase = R_FORM.Txt_Phrs. -/
theorem extract_shape_simple (d : ClassDiagram) (r : Rel) (form part : End) (refs : List Ref) (fc pc : Class)
    (hk : r.kind = .simple form part refs) (hf : findClass d form.cls = some fc)
    (hp : findClass d part.cls = some pc) :
    groupOf d r = some { rel := r.numb, items := [
      { src := { kind := fc.kl, keys := keyNames fc (refs.map (·.rattr)), many := form.mult, cond := form.cond,
                 phrase := if form.cls = part.cls then part.phrase else "" },
        tgt := { kind := pc.kl, keys := keyNames pc (refs.map (·.iattr)), many := part.mult, cond := part.cond,
                 phrase := if form.cls = part.cls then form.phrase else "" } } ] } := by
  unfold groupOf
  simp only [hk, hf, hp, phraseIf, beq_iff_eq]

/-- linked relationship: TWO associations from the link class (R_ASSR), first to the R_AONE class,
    then to the R_AOTH class.  The multiplicity / conditionality of the link class towards one side is
    the OTHER side's Mult / Cond; the referred side is always unconditional one.  Phrases only when
    both sides are the same class: the association to a side carries that side's phrase as
    source_phrase and the other side's as target_phrase. -/
theorem extract_shape_linked (d : ClassDiagram) (r : Rel) (one oth : End) (link : Nat) (r1 r2 : List Ref)
    (lc oc tc : Class) (hk : r.kind = .linked one oth link r1 r2) (hl : findClass d link = some lc)
    (ho : findClass d one.cls = some oc) (ht : findClass d oth.cls = some tc) :
    groupOf d r = some { rel := r.numb, items := [
      { src := { kind := lc.kl, keys := keyNames lc (r1.map (·.rattr)), many := oth.mult, cond := oth.cond,
                 phrase := if one.cls = oth.cls then one.phrase else "" },
        tgt := { kind := oc.kl, keys := keyNames oc (r1.map (·.iattr)), many := false, cond := false,
                 phrase := if one.cls = oth.cls then oth.phrase else "" } },
      { src := { kind := lc.kl, keys := keyNames lc (r2.map (·.rattr)), many := one.mult, cond := one.cond,
                 phrase := if one.cls = oth.cls then oth.phrase else "" },
        tgt := { kind := tc.kl, keys := keyNames tc (r2.map (·.iattr)), many := false, cond := false,
                 phrase := if one.cls = oth.cls then one.phrase else "" } } ] } := by
  unfold groupOf
  simp only [hk, hl, ho, ht, phraseIf, beq_iff_eq]

/-- subtype relationship: one association per subtype, from the subtype (conditional one) to the
    supertype (unconditional one), no phrases -/
theorem extract_shape_subsup (d : ClassDiagram) (r : Rel) (sup : Nat) (subs : List (Nat × List Ref)) (pc : Class)
    (hk : r.kind = .subsup sup subs) (hs : findClass d sup = some pc)
    (hsubs : ∀ s ∈ subs, (findClass d s.1).isSome = true) :
    ∃ items, groupOf d r = some { rel := r.numb, items := items } ∧ items.length = subs.length ∧
      ∀ a ∈ items, a.src.many = false ∧ a.src.cond = true ∧ a.src.phrase = "" ∧
        a.tgt.kind = pc.kl ∧ a.tgt.many = false ∧ a.tgt.cond = false ∧ a.tgt.phrase = "" ∧
        ∃ s ∈ subs, ∃ sc, findClass d s.1 = some sc ∧ a.src.kind = sc.kl ∧
          a.src.keys = keyNames sc (s.2.map (·.rattr)) ∧ a.tgt.keys = keyNames pc (s.2.map (·.iattr)) := by
  unfold groupOf
  simp only [hk, hs]
  refine ⟨_, rfl, ?_, ?_⟩
  · clear hk
    induction subs with
    | nil => rfl
    | cons s t ih =>
      obtain ⟨sc, hsc⟩ := Option.isSome_iff_exists.mp (hsubs s (by simp))
      simp only [List.filterMap_cons, hsc, Option.map_some, List.length_cons]
      rw [ih (fun x hx => hsubs x (List.mem_cons_of_mem _ hx))]
  · intro a ha
    obtain ⟨s, hsm, hsa⟩ := List.mem_filterMap.mp ha
    obtain ⟨sc, hsc⟩ := Option.isSome_iff_exists.mp (hsubs s hsm)
    rw [hsc] at hsa
    simp only [Option.map_some, Option.some.injEq] at hsa
    subst hsa
    exact ⟨rfl, rfl, rfl, rfl, rfl, rfl, rfl, s, hsm, sc, hsc, rfl, rfl, rfl⟩

/-- a derived relationship (R_COMP) defines nothing -/
theorem extract_shape_derived_rel (d : ClassDiagram) (r : Rel) (hk : r.kind = .derived) :
    groupOf d r = some { rel := r.numb, items := [] } := by
  unfold groupOf; simp only [hk]

/-- whole model or a named component: no name -> everything; the name of a component -> that
    component; an unknown non-empty name -> OoaOfOoaException (`none`) -/
theorem component_selection (d : ClassDiagram) (drv : Bool) :
    extractByName d none drv = some (extract d none drv) ∧
    (∀ n k, d.containers.find? (fun k => k.isComp && k.name == n) = some k →
      extractByName d (some n) drv = some (extract d (some k.id) drv)) ∧
    (∀ n, n ≠ "" → d.containers.find? (fun k => k.isComp && k.name == n) = none →
      extractByName d (some n) drv = none) := by
  refine ⟨rfl, ?_, ?_⟩
  · intro n k h; simp [extractByName, selectComp, h]
  · intro n hn h; simp [extractByName, selectComp, h, hn]

/-! ### edit_commutes: an edit of the model changes exactly the corresponding part of the result -/

/-- for EVERY edit (rename / retype / reorder attributes, set Mult / Cond / Txt_Phrs of an end, move a
    class or a relationship) applicable to a well-formed diagram: extracting from the edited diagram is
    the same as applying the predicted schema edit to the schema extracted before -/
theorem edit_commutes {d : ClassDiagram} (wf : WF d) (e : Edit) (ok : EditOk d e) (comp : Option Nat) (drv : Bool) :
    extract (applyEdit e d) comp drv = schemaEdit (resolve d comp drv e) (extract d comp drv) :=
  edit_commutes_all wf e ok comp drv

/-- edits keep the diagram well-formed, so they can be chained -/
theorem edit_keeps_wellformed {d : ClassDiagram} (wf : WF d) (e : Edit) (ok : EditOk d e) : WF (applyEdit e d) :=
  applyEdit_wf wf e ok

/-- edit scripts of any length -/
theorem edit_script_commutes {d : ClassDiagram} (wf : WF d) (es : List Edit) (ok : ScriptOk d es)
    (comp : Option Nat) (drv : Bool) :
    extract (applyEdits es d) comp drv = schemaEdits (resolveAll d comp drv es) (extract d comp drv) :=
  script_commutes wf es ok comp drv

/-- frame: a rename keeps the classes, all attribute types and orders, and every association's kinds,
    multiplicities, conditionalities and phrases; classes with other key letters are untouched -/
theorem edit_frame_rename (kl old new : String) (s : Schema) :
    (schemaEdit (.renameAttr kl old new) s).classes.map (·.kl) = s.classes.map (·.kl) ∧
    (schemaEdit (.renameAttr kl old new) s).classes.map (fun c => c.attrs.map (·.ty)) =
      s.classes.map (fun c => c.attrs.map (·.ty)) ∧
    (∀ c ∈ s.classes, c.kl ≠ kl → c ∈ (schemaEdit (.renameAttr kl old new) s).classes) ∧
    (schemaEdit (.renameAttr kl old new) s).groups.map
        (fun g => (g.rel, g.items.map (fun a => (a.src.kind, a.src.many, a.src.cond, a.src.phrase,
          a.tgt.kind, a.tgt.many, a.tgt.cond, a.tgt.phrase)))) =
      s.groups.map (fun g => (g.rel, g.items.map (fun a => (a.src.kind, a.src.many, a.src.cond, a.src.phrase,
          a.tgt.kind, a.tgt.many, a.tgt.cond, a.tgt.phrase)))) := by
  unfold schemaEdit
  refine ⟨?_, ?_, ?_, ?_⟩
  · exact map_map_key (fun c => by split <;> rfl) _
  · exact map_map_key (fun c => by split <;> simp [SClass.rename, List.map_map, Function.comp]) _
  · exact fun c hc hne => mem_map_of_fix hc (by simp [hne])
  · exact map_map_key (fun g => congrArg (Prod.mk g.rel) (map_map_key (fun a => by
      simp only [SEnd.renameIn]; split <;> split <;> rfl) _)) _

/-- frame: a rename keeps every identifier's number and size, and the class named `kl` becomes its renamed self -/
theorem edit_frame_rename_idents (kl old new : String) (s : Schema) :
    (schemaEdit (.renameAttr kl old new) s).classes.map (fun c => c.idents.map (fun i => (i.num, i.names.length))) =
      s.classes.map (fun c => c.idents.map (fun i => (i.num, i.names.length))) ∧
    (∀ c ∈ s.classes, c.kl = kl → c.rename old new ∈ (schemaEdit (.renameAttr kl old new) s).classes) := by
  unfold schemaEdit
  constructor
  · exact map_map_key (fun c => by split <;> simp [SClass.rename, List.map_map, Function.comp]) _
  · intro c hc hk
    apply List.mem_map.mpr
    refine ⟨c, hc, ?_⟩
    have : (c.kl == kl) = true := by simp [hk]
    simp [this]

/-- frame: a retype keeps the associations, the classes' names, attribute names / order and identifiers;
    attributes outside the listed sites keep their type -/
theorem edit_frame_retype (sites : List (String × String)) (ty : String) (s : Schema) :
    (schemaEdit (.retype sites ty) s).groups = s.groups ∧
    (schemaEdit (.retype sites ty) s).classes.map (fun c => (c.kl, c.attrs.map (·.name), c.idents)) =
      s.classes.map (fun c => (c.kl, c.attrs.map (·.name), c.idents)) ∧
    (∀ c ∈ (schemaEdit (.retype sites ty) s).classes, ∀ a ∈ c.attrs,
      (c.kl, a.name) ∉ sites → ∃ c' ∈ s.classes, c'.kl = c.kl ∧ a ∈ c'.attrs) := by
  unfold schemaEdit
  refine ⟨rfl, ?_, ?_⟩
  · exact map_map_key (fun c => congrArg (fun x => (c.kl, x, c.idents)) (map_map_key (fun a => by split <;> rfl) _)) _
  · intro c hc a ha hns
    simp only at hc
    obtain ⟨c', hc', rfl⟩ := List.mem_map.mp hc
    refine ⟨c', hc', rfl, ?_⟩
    have hkl : (SClass.retype sites ty c').kl = c'.kl := rfl
    rw [hkl] at hns
    simp only [SClass.retype] at ha
    obtain ⟨a', ha', rfl⟩ := List.mem_map.mp ha
    by_cases hin : sites.contains (c'.kl, a'.name) = true
    · simp only [hin, if_true] at hns
      exact absurd (by simpa using hin) hns
    · simp only [hin]
      exact ha'

/-- frame: a reorder keeps the associations, every class's identifiers, the other classes, and adds no
    attribute -/
theorem edit_frame_reorder (kl : String) (names : List String) (s : Schema) :
    (schemaEdit (.reorder kl names) s).groups = s.groups ∧
    (schemaEdit (.reorder kl names) s).classes.map (fun c => (c.kl, c.idents)) =
      s.classes.map (fun c => (c.kl, c.idents)) ∧
    (∀ c ∈ s.classes, c.kl ≠ kl → c ∈ (schemaEdit (.reorder kl names) s).classes) ∧
    (∀ c ∈ (schemaEdit (.reorder kl names) s).classes, ∀ a ∈ c.attrs, ∃ c' ∈ s.classes, c'.kl = c.kl ∧ a ∈ c'.attrs) := by
  unfold schemaEdit mapSClass
  refine ⟨rfl, ?_, ?_, ?_⟩
  · exact map_map_key (fun c => by split <;> rfl) _
  · exact fun c hc hne => mem_map_of_fix hc (by simp [hne])
  · intro c hc a ha
    simp only at hc
    obtain ⟨c', hc', rfl⟩ := List.mem_map.mp hc
    refine ⟨c', hc', ?_, ?_⟩
    · split <;> rfl
    · split at ha
      · simp only [SClass.reorder] at ha
        obtain ⟨n, _, hn⟩ := List.mem_filterMap.mp ha
        exact List.mem_of_find?_eq_some hn
      · exact ha

/-- frame: a reorder by a permutation of the attribute names loses nothing and adds nothing -/
theorem edit_frame_reorder_perm (names : List String) (c : SClass) (nd : (c.attrs.map (·.name)).Nodup)
    (hp : names.Perm (c.attrs.map (·.name))) : (c.reorder names).attrs.Perm c.attrs := by
  exact Pyx.perm_filterMap_find? (fun (a : SAttr) => a.name) nd hp

/-- WHICH field an end edit changes, everything else of the association being literally kept: R_FORM -> source end,
    R_PART -> target end of the one association; R_AONE -> source end of the SECOND, R_AOTH -> of the FIRST association -/
theorem edit_end_table (a b : SAssoc) (v : Bool) :
    itemsSetMult .form v [a] = [{ a with src := { a.src with many := v } }] ∧
    itemsSetMult .part v [a] = [{ a with tgt := { a.tgt with many := v } }] ∧
    itemsSetMult .one v [a, b] = [a, { b with src := { b.src with many := v } }] ∧
    itemsSetMult .oth v [a, b] = [{ a with src := { a.src with many := v } }, b] ∧
    itemsSetCond .form v [a] = [{ a with src := { a.src with cond := v } }] ∧
    itemsSetCond .part v [a] = [{ a with tgt := { a.tgt with cond := v } }] ∧
    itemsSetCond .one v [a, b] = [a, { b with src := { b.src with cond := v } }] ∧
    itemsSetCond .oth v [a, b] = [{ a with src := { a.src with cond := v } }, b] :=
  ⟨rfl, rfl, rfl, rfl, rfl, rfl, rfl, rfl⟩

/-- … and for phrases (only reflexive relationships show them; crosswise) -/
theorem edit_phrase_table (a b : SAssoc) (v : String) :
    (a.src.kind = a.tgt.kind →
      itemsSetPhrase .form v [a] = [{ a with tgt := { a.tgt with phrase := v } }] ∧
      itemsSetPhrase .part v [a] = [{ a with src := { a.src with phrase := v } }]) ∧
    (a.src.kind ≠ a.tgt.kind → ∀ sel, itemsSetPhrase sel v [a] = [a]) ∧
    (a.tgt.kind = b.tgt.kind →
      itemsSetPhrase .one v [a, b] =
        [{ a with src := { a.src with phrase := v } }, { b with tgt := { b.tgt with phrase := v } }] ∧
      itemsSetPhrase .oth v [a, b] =
        [{ a with tgt := { a.tgt with phrase := v } }, { b with src := { b.src with phrase := v } }]) ∧
    (a.tgt.kind ≠ b.tgt.kind → ∀ sel, itemsSetPhrase sel v [a, b] = [a, b]) := by
  refine ⟨?_, ?_, ?_, ?_⟩
  · intro h; simp [itemsSetPhrase, h, SAssoc.mapSrc, SAssoc.mapTgt]
  · intro h sel; simp [itemsSetPhrase, h]
  · intro h; simp [itemsSetPhrase, h, SAssoc.mapSrc, SAssoc.mapTgt]
  · intro h sel; simp [itemsSetPhrase, h]

/-- frame: setting a multiplicity keeps the classes, the other relationships' associations, and in the
    edited relationship every field except `many` -/
theorem edit_frame_mult (rel : Nat) (sel : EndSel) (v : Bool) (s : Schema) :
    (schemaEdit (.setMult rel sel v) s).classes = s.classes ∧
    (∀ g ∈ s.groups, g.rel ≠ rel → g ∈ (schemaEdit (.setMult rel sel v) s).groups) ∧
    (schemaEdit (.setMult rel sel v) s).groups.map
        (fun g => (g.rel, g.items.map (fun a => (a.src.kind, a.src.keys, a.src.cond, a.src.phrase,
          a.tgt.kind, a.tgt.keys, a.tgt.cond, a.tgt.phrase)))) =
      s.groups.map (fun g => (g.rel, g.items.map (fun a => (a.src.kind, a.src.keys, a.src.cond, a.src.phrase,
          a.tgt.kind, a.tgt.keys, a.tgt.cond, a.tgt.phrase)))) :=
  ⟨rfl, fun _ hg hne => mapGroup_mem hg hne, mapGroup_proj _ (fun l => by
    unfold itemsSetMult; split <;> cases sel <;> rfl) s rel⟩

/-- frame: … every field except `cond` -/
theorem edit_frame_cond (rel : Nat) (sel : EndSel) (v : Bool) (s : Schema) :
    (schemaEdit (.setCond rel sel v) s).classes = s.classes ∧
    (∀ g ∈ s.groups, g.rel ≠ rel → g ∈ (schemaEdit (.setCond rel sel v) s).groups) ∧
    (schemaEdit (.setCond rel sel v) s).groups.map
        (fun g => (g.rel, g.items.map (fun a => (a.src.kind, a.src.keys, a.src.many, a.src.phrase,
          a.tgt.kind, a.tgt.keys, a.tgt.many, a.tgt.phrase)))) =
      s.groups.map (fun g => (g.rel, g.items.map (fun a => (a.src.kind, a.src.keys, a.src.many, a.src.phrase,
          a.tgt.kind, a.tgt.keys, a.tgt.many, a.tgt.phrase)))) :=
  ⟨rfl, fun _ hg hne => mapGroup_mem hg hne, mapGroup_proj _ (fun l => by
    unfold itemsSetCond; split <;> cases sel <;> rfl) s rel⟩

/-- frame: … every field except `phrase` -/
theorem edit_frame_phrase (rel : Nat) (sel : EndSel) (v : String) (s : Schema) :
    (schemaEdit (.setPhrase rel sel v) s).classes = s.classes ∧
    (∀ g ∈ s.groups, g.rel ≠ rel → g ∈ (schemaEdit (.setPhrase rel sel v) s).groups) ∧
    (schemaEdit (.setPhrase rel sel v) s).groups.map
        (fun g => (g.rel, g.items.map (fun a => (a.src.kind, a.src.keys, a.src.many, a.src.cond,
          a.tgt.kind, a.tgt.keys, a.tgt.many, a.tgt.cond)))) =
      s.groups.map (fun g => (g.rel, g.items.map (fun a => (a.src.kind, a.src.keys, a.src.many, a.src.cond,
          a.tgt.kind, a.tgt.keys, a.tgt.many, a.tgt.cond)))) :=
  ⟨rfl, fun _ hg hne => mapGroup_mem hg hne, mapGroup_proj _ (fun l => by
    unfold itemsSetPhrase; split <;> (try split) <;> cases sel <;> rfl) s rel⟩

/-- frame: moving a class out of / into the component removes / adds that class and nothing else;
    moving a relationship removes / adds its associations and nothing else -/
theorem edit_frame_move (kl : String) (pos rel : Nat) (c : SClass) (g : SGroup) (s : Schema) :
    ((schemaEdit (.dropClass kl) s).groups = s.groups ∧
      (schemaEdit (.dropClass kl) s).classes = s.classes.filter (fun c => c.kl != kl)) ∧
    ((schemaEdit (.insertClass pos c) s).groups = s.groups ∧
      (schemaEdit (.insertClass pos c) s).classes.Perm (c :: s.classes)) ∧
    ((schemaEdit (.dropGroup rel) s).classes = s.classes ∧
      (schemaEdit (.dropGroup rel) s).groups = s.groups.filter (fun g => g.rel != rel)) ∧
    ((schemaEdit (.insertGroup pos g) s).classes = s.classes ∧
      (schemaEdit (.insertGroup pos g) s).groups.Perm (g :: s.groups)) :=
  ⟨frame_dropClass kl s, frame_insertClass pos c s, frame_dropGroup rel s, frame_insertGroup pos g s⟩

/-! ### the order of the rows does not matter -/

/-- permuting the class, relationship, data type and container rows (identifiers being unique) permutes the
    defined classes and the association groups and changes nothing else.  (Row orders below that level —
    O_ID, O_OIDA, O_REF, R_SUB rows — only permute identifiers, identifier attributes, key pairs and the
    associations of a subtype relationship; that part is tied by correspondence: the encoder shuffles all rows
    and the observations are canonicalised accordingly.) -/
theorem extract_deterministic_under_row_order {d d' : ClassDiagram} (hp : RowPerm d d') (wf : RowWF d)
    (comp : Option Nat) (drv : Bool) :
    (extract d comp drv).classes.Perm (extract d' comp drv).classes ∧
    (extract d comp drv).groups.Perm (extract d' comp drv).groups := by
  unfold extract
  simp only
  rw [funext (perm_classOf hp wf drv), funext (perm_groupOf hp wf)]
  have hs : (fun (c : Class) => inScope d'.containers d'.pkgrefs comp c.parent) = fun c => inScope d.containers d.pkgrefs comp c.parent := by
    funext c; exact perm_inScope hp wf comp c.parent
  have hr : (fun (r : Rel) => inScope d'.containers d'.pkgrefs comp r.parent) = fun r => inScope d.containers d.pkgrefs comp r.parent := by
    funext r; exact perm_inScope hp wf comp r.parent
  rw [hs, hr]
  exact ⟨(hp.classes.filter _).map _, (hp.rels.filter _).filterMap _⟩

/-! ### restricting to a component -/

/-- `is_contained_in(pe_pe, c_c)` decides exactly "the containment chain PE_PE -> EP_PKG | C_C -> its PE_PE -> …
    reaches the component" (`Reaches`), through packages, nested components and packages inside components — and from a
    package over every EP_PKGREF row that refers to it on to the PE_PE of the REFERRING package (`Reaches.ref`) —, for
    every acyclic container + reference graph (`TreeOk`: the fuel of the model covers the depth; Python recurses
    unboundedly and never returns on a containment or reference cycle) -/
theorem restrict_contained_iff {cs : List Container} {rf : List PkgRef} (tree : TreeOk cs rf) (root : Nat) (p : Parent) :
    containedIn cs rf root p = true ↔ Reaches cs rf root p :=
  contained_iff tree root p

/-- the fuel is sufficient on the domain: ANY larger recursion budget gives the answer `containedIn` gives — exhaustion
    (the model's `false` at fuel 0) is unreachable on acyclic container + reference graphs -/
theorem restrict_fuel_sufficient {cs : List Container} {rf : List PkgRef} (tree : TreeOk cs rf) (root : Nat) (p : Parent)
    (f : Nat) (hf : cs.length < f) : containedFuel cs rf root f p = containedIn cs rf root p :=
  Bool.eq_iff_iff.mpr ((contained_fuel_iff tree root p hf).trans (contained_iff tree root p).symm)

/-- THE DOMAIN IS ACYCLICITY, nothing more: `TreeOk` holds iff SOME natural-valued rank drops from every container row to
    its parent and from every (existing) referred package to the parent of every (existing) package referring to it — the
    graph `is_contained_in` walks has no cycle.  The bound `rank ≤ number of container rows` inside `TreeOk` (which makes
    the fuel `cs.length + 1` enough) can always be met (`TreeOk.of_acyclic`: count the container rows of rank at most
    one's own). -/
theorem restrict_domain_is_acyclicity {cs : List Container} {rf : List PkgRef} :
    TreeOk cs rf ↔ ∃ depth : Parent → Nat,
      (∀ k ∈ cs, depth k.parent < depth (if k.isComp then .comp k.id else .pkg k.id)) ∧
      (∀ r ∈ rf, ∀ k kq, findContainer cs false r.referred = some k → findContainer cs false r.referring = some kq →
        depth kq.parent < depth (.pkg r.referred)) :=
  ⟨fun ⟨depth, h1, h2, _⟩ => ⟨depth, h1, h2⟩, fun ⟨depth, h1, h2⟩ => TreeOk.of_acyclic depth h1 h2⟩

/-- CONSERVATIVE EXTENSION: without EP_PKGREF rows `is_contained_in` is the plain walk up the containment
    (`containedFuelPlain`: the walk that knows no package references), the domain is the
    containment forest alone, and `Reaches` has no reference step -/
theorem restrict_no_pkgref (cs : List Container) (root : Nat) (p : Parent) :
    containedIn cs [] root p = containedFuelPlain cs root (cs.length + 1) p ∧
    (TreeOk cs [] ↔ ∃ depth : Parent → Nat,
      (∀ k ∈ cs, depth k.parent < depth (if k.isComp then .comp k.id else .pkg k.id)) ∧ ∀ p, depth p ≤ cs.length) ∧
    (Reaches cs [] root p →
      (∃ k, p = .comp root ∧ findContainer cs true root = some k) ∨
      (∃ q k, p = .pkg q ∧ findContainer cs false q = some k ∧ Reaches cs [] root k.parent) ∨
      (∃ c k, p = .comp c ∧ findContainer cs true c = some k ∧ Reaches cs [] root k.parent)) :=
  ⟨containedFuel_no_pkgref cs root _ p, TreeOk.no_pkgref, reaches_no_pkgref_cases⟩

/-- … and for one element already when no reference row targets a package on ITS OWN containment chain: references
    elsewhere in the diagram do not matter (no hypothesis on cycles needed) -/
theorem restrict_untargeted (cs : List Container) (rf : List PkgRef) (root : Nat) (p : Parent)
    (h : ∀ q, OnChain cs p q → ∀ r ∈ rf, r.referred ≠ q) :
    containedIn cs rf root p = containedFuelPlain cs root (cs.length + 1) p :=
  containedFuel_untargeted cs rf root _ p h

/-- WHAT A REFERENCE ADDS: package `r.referring` lies inside the component and refers to package `r.referred` — every
    element of `r.referred` is inside the component; `is_contained_in` of an element of a package, unfolded once: its
    package is inside, or a package referring to its package is; and the content below comes along (sub-packages) -/
theorem restrict_follows_reference {cs : List Container} {rf : List PkgRef} (tree : TreeOk cs rf) (root : Nat) :
    (∀ r ∈ rf, ∀ k kq, findContainer cs false r.referred = some k → findContainer cs false r.referring = some kq →
      containedIn cs rf root kq.parent = true → containedIn cs rf root (.pkg r.referred) = true) ∧
    (∀ p k, findContainer cs false p = some k → containedIn cs rf root k.parent = true →
      containedIn cs rf root (.pkg p) = true) ∧
    (∀ p, containedIn cs rf root (.pkg p) = true ↔
      ∃ k, findContainer cs false p = some k ∧
        (containedIn cs rf root k.parent = true ∨
          ∃ r ∈ rf, r.referred = p ∧ ∃ kq, findContainer cs false r.referring = some kq ∧
            containedIn cs rf root kq.parent = true)) :=
  ⟨fun _ hr _ _ hk hq hc => contained_of_reference tree hr hk hq hc,
   fun _ _ hk hc => contained_of_parent tree hk hc,
   fun p => contained_pkg_iff tree root p⟩

/-- a class of a package referred to from a package of the component IS defined by the restricted build, as in the
    whole model; a relationship of such a package brings its associations -/
theorem restrict_reference_selected {d : ClassDiagram} (tree : TreeOk d.containers d.pkgrefs) (c : Nat) (drv : Bool)
    {r : PkgRef} {kp kq : Container} (hr : r ∈ d.pkgrefs) (hp : findContainer d.containers false r.referred = some kp)
    (hq : findContainer d.containers false r.referring = some kq)
    (hc : containedIn d.containers d.pkgrefs c kq.parent = true) :
    (∀ k ∈ d.classes, k.parent = .pkg r.referred → classOf d drv k ∈ (extract d (some c) drv).classes) ∧
    (∀ x ∈ d.rels, x.parent = .pkg r.referred → ∀ g, groupOf d x = some g → g ∈ (extract d (some c) drv).groups) := by
  have hin : containedIn d.containers d.pkgrefs c (.pkg r.referred) = true := contained_of_reference tree hr hp hq hc
  have hreach := (contained_iff tree c _).mp hin
  constructor
  · intro k hk hpar
    exact ((restrict_exact' tree c drv).1 _).mpr ⟨k, hk, hpar ▸ hreach, rfl⟩
  · intro x hx hpar g hg
    exact ((restrict_exact' tree c drv).2 _).mpr ⟨x, hx, hpar ▸ hreach, hg⟩

/-- EXACTLY ONCE: a class (relationship) in scope — along however many chains: its own containment, one or several
    references — is defined exactly once (key letters / relationship numbers unique, `WF`) -/
theorem restrict_selected_once {d : ClassDiagram} (wf : WF d) (comp : Option Nat) (drv : Bool) :
    (∀ k ∈ d.classes, inScope d.containers d.pkgrefs comp k.parent = true →
      ((extract d comp drv).classes.map (·.kl)).count k.kl = 1) ∧
    (∀ r ∈ d.rels, inScope d.containers d.pkgrefs comp r.parent = true → ∀ g, groupOf d r = some g →
      ((extract d comp drv).groups.map (·.rel)).count r.numb = 1) :=
  ⟨fun _ hk hs => extract_class_once wf comp drv hk hs, fun _ hr hs _ hg => extract_group_once wf comp drv hr hs hg⟩

/-- the restricted build defines exactly the classes whose containment chain (continued over package references:
    `Reaches`) reaches the requested component, each one as in the whole model; an association is kept iff the chain of ITS R_REL reaches the component —
    the position of its classes plays no role (see `build_raises_on_dangling` for what follows) -/
theorem restrict_exact {d : ClassDiagram} (tree : TreeOk d.containers d.pkgrefs) (c : Nat) (drv : Bool) :
    (∀ s, s ∈ (extract d (some c) drv).classes ↔
      ∃ k ∈ d.classes, Reaches d.containers d.pkgrefs c k.parent ∧ s = classOf d drv k) ∧
    (∀ g, g ∈ (extract d (some c) drv).groups ↔
      ∃ r ∈ d.rels, Reaches d.containers d.pkgrefs c r.parent ∧ groupOf d r = some g) :=
  restrict_exact' tree c drv

/-- monotone: component ⊆ enclosing component ⊆ whole model (as sublists: same definitions, same order) -/
theorem restrict_monotone {d : ClassDiagram} (tree : TreeOk d.containers d.pkgrefs) {c1 c2 : Nat}
    (h12 : Reaches d.containers d.pkgrefs c2 (.comp c1)) (drv : Bool) :
    (extract d (some c1) drv).classes.Sublist (extract d (some c2) drv).classes ∧
    (extract d (some c2) drv).classes.Sublist (extract d none drv).classes ∧
    (extract d (some c1) drv).groups.Sublist (extract d (some c2) drv).groups ∧
    (extract d (some c2) drv).groups.Sublist (extract d none drv).groups :=
  restrict_monotone' tree h12 drv

/-- restricting a restriction is the restriction to the inner component; with `c1 = c2` (`Reaches.here`):
    restricting twice is restricting once -/
theorem restrict_compose {d : ClassDiagram} (tree : TreeOk d.containers d.pkgrefs) {c1 c2 : Nat}
    (h12 : Reaches d.containers d.pkgrefs c2 (.comp c1)) (drv : Bool) :
    ((d.classes.filter (fun k => inScope d.containers d.pkgrefs (some c2) k.parent)).filter
        (fun k => inScope d.containers d.pkgrefs (some c1) k.parent)).map (classOf d drv) = (extract d (some c1) drv).classes ∧
    ((d.rels.filter (fun r => inScope d.containers d.pkgrefs (some c2) r.parent)).filter
        (fun r => inScope d.containers d.pkgrefs (some c1) r.parent)).filterMap (groupOf d) = (extract d (some c1) drv).groups :=
  restrict_compose' tree h12 drv

/-- a relationship inside the component with a class outside it: `define_association` cannot find the class,
    `mk_component` RAISES (UnknownClassException ⊂ MetaModelException; model: `mkComponent … = none`) — no
    dangling association is ever returned, so nothing unloadable is ever written -/
theorem build_raises_on_dangling {d : ClassDiagram} {comp : Option Nat} {drv : Bool} {g : SGroup} {a : SAssoc}
    (hg : g ∈ (extract d comp drv).groups) (ha : a ∈ g.items)
    (hno : (∀ c ∈ (extract d comp drv).classes, upper c.kl ≠ upper a.src.kind) ∨
           (∀ c ∈ (extract d comp drv).classes, upper c.kl ≠ upper a.tgt.kind)) :
    mkComponent d comp drv = none := by
  cases h : mkComponent d comp drv with
  | none => rfl
  | some s =>
    obtain ⟨rfl, _, hall⟩ := mkComponent_some h
    obtain ⟨⟨c1, hc1, he1⟩, ⟨c2, hc2, he2⟩, _, _⟩ := hall g hg a ha
    rcases hno with hno | hno
    · exact absurd he1 (hno c1 hc1)
    · exact absurd he2 (hno c2 hc2)

/-- conversely a component that builds is `extract`, has distinct class names and only associations between its
    own classes over existing target attributes -/
theorem built_component_closed {d : ClassDiagram} {comp : Option Nat} {drv : Bool} {s : Schema}
    (h : mkComponent d comp drv = some s) :
    s = extract d comp drv ∧ (s.classes.map (fun c => upper c.kl)).Nodup ∧
    ∀ g ∈ s.groups, ∀ a ∈ g.items,
      (∃ c ∈ s.classes, upper c.kl = upper a.src.kind) ∧
      (∃ c ∈ s.classes, upper c.kl = upper a.tgt.kind) ∧
      a.src.keys.length = a.tgt.keys.length ∧
      (∃ c ∈ s.classes, upper c.kl = upper a.tgt.kind ∧
        ∀ k ∈ a.tgt.keys, upper k ∈ c.attrs.map (fun x => upper x.name)) :=
  mkComponent_some h

/-- the model's functions are total where the Python code dereferences None (a relationship naming a class or an
    attribute row that does not exist: AttributeError).  `resolvedRel` excludes exactly that, and then nothing is
    dropped: `groupOf` is defined, has 1 / 2 / one-per-subtype / 0 associations and every key list has one entry per
    O_REF.  `buildOutcome` reports AttributeError for an unresolved relationship in scope; the shape and edit theorems
    describe the Python code on resolved diagrams (`resolvedIn d comp = true`). -/
theorem resolved_nothing_dropped {d : ClassDiagram} {r : Rel} (h : resolvedRel d r = true) :
    ∃ g, groupOf d r = some g ∧
      g.items.length = (match r.kind with
        | .simple _ _ _ => 1 | .linked _ _ _ _ _ => 2 | .subsup _ subs => subs.length | .derived => 0) ∧
      ∀ a ∈ g.items, a.src.keys.length = a.tgt.keys.length :=
  resolved_group h

/-- the three endings of `mk_component`: AttributeError iff class names are distinct and some relationship in scope
    is unresolved; otherwise MetaModelException iff some definition is refused; otherwise the extracted schema -/
theorem build_outcome_cases (d : ClassDiagram) (comp : Option Nat) (drv : Bool) :
    (∀ s, buildOutcome d comp drv = .ok s → s = extract d comp drv ∧ resolvedIn d comp = true ∧ s.definable = true) ∧
    (buildOutcome d comp drv = .attributeError → resolvedIn d comp = false) ∧
    (resolvedIn d comp = true → (extract d comp drv).definable = true →
      buildOutcome d comp drv = .ok (extract d comp drv)) := by
  have hdn : (extract d comp drv).definable = true →
      ((extract d comp drv).classes.map (fun c => upper c.kl)).Nodup := by
    intro hd
    unfold Schema.definable at hd
    simp only [Bool.and_eq_true, decide_eq_true_eq] at hd
    exact hd.1
  by_cases hn : ((extract d comp drv).classes.map (fun c => upper c.kl)).Nodup
  · cases hr : resolvedIn d comp <;> cases hd : (extract d comp drv).definable <;>
      simp [buildOutcome, mkComponent, hn, hr, hd]
  · have hdf : (extract d comp drv).definable = false := by
      cases hd : (extract d comp drv).definable
      · rfl
      · exact absurd (hdn hd) hn
    simp [buildOutcome, hn, hdf]

/-- derived attributes only on request: with the flag off NO declared attribute stems from a derived one, and the
    result is the flag-on result of the non-derived attributes (nothing else moves); with the flag on the declared
    attributes are exactly the modeled ones of a supported type, derived or not, in modeled position -/
theorem derived_only_on_request (d : ClassDiagram) (c : Class) :
    (∀ s ∈ (classOf d false c).attrs, ∃ a ∈ c.attrs, a.name = s.name ∧ a.isDerived = false ∧ attrTy d a = some s.ty) ∧
    (classOf d false c).attrs = (c.attrs.filter (fun a => !a.isDerived)).filterMap (sattr d true) ∧
    (classOf d true c).attrs.map (·.name) = (c.attrs.filter (fun a => (attrTy d a).isSome)).map (·.name) :=
  ⟨fun s h => derived_off' d c s h, (derived_flag' d c).1, (derived_flag' d c).2⟩

/-! ### schema_reload: the SQL written for the component loads back to the same definitions -/

/-- `gen_sql_schema.main` ends with `xtuml.persist_database(component, path)`.  For EVERY diagram whose key
    letters, attribute names and core type names are identifiers of the SQL dialect (`NamesOk`; the lexical
    domain of C01), every component and both settings of the derived flag: the text of that route — per class in
    sorted order its CREATE TABLE and CREATE UNIQUE INDEX lines, then the CREATE ROP lines sorted by rel_id —
    exists, the loader's lexer and parser (`Pyx.Sql.classify`, character level) accept it, the statements
    parsed are exactly the statements of the written items, and the definitions those statements carry
    (`stmtDef`: the arguments `populate_classes` / `populate_unique_identifiers` / `populate_associations` pass to
    define_class / define_unique_identifier / define_association, cardinalities decoded by `'M' in c`, `'C' in c`)
    are the written items again, type names upper-cased.  Rests on C01's `route_roundtrip` (the SQL
    model), instantiated with `(extract d comp drv).toMM`. -/
theorem schema_reload {u : Pyx.Sql.UC} {d : ClassDiagram} (names : NamesOk u d) (comp : Option Nat) (drv : Bool) :
    ∃ text stmts,
      Pyx.Sql.printItems u (((extract d comp drv).toMM).persistDatabase u) = some text ∧
      Pyx.Sql.classify u text = .accepted stmts ∧
      Pyx.Sql.itemsStmts u (((extract d comp drv).toMM).persistDatabase u) = some stmts ∧
      stmts.filterMap stmtDef = (((extract d comp drv).toMM).persistDatabase u).map (Pyx.Sql.canonItem u) := by
  obtain ⟨text, stmts, h1, h2, h3, h4⟩ := reload_routes names comp drv _
    (by simp [Pyx.Sql.MM.routes] : ((extract d comp drv).toMM).persistDatabase u ∈ ((extract d comp drv).toMM).routes u)
  exact ⟨text, stmts, h1, h3, h2, h4⟩

/-- the same for each of the eight writer routes of xtuml/persist.py (serialize_schema,
    serialize_unique_identifiers, persist_schema, …) -/
theorem schema_reload_routes {u : Pyx.Sql.UC} {d : ClassDiagram} (names : NamesOk u d) (comp : Option Nat) (drv : Bool)
    (r : List Pyx.Sql.Item) (hr : r ∈ ((extract d comp drv).toMM).routes u) :
    ∃ text stmts, Pyx.Sql.printItems u r = some text ∧ Pyx.Sql.itemsStmts u r = some stmts ∧
      Pyx.Sql.classify u text = .accepted stmts ∧ stmts.filterMap stmtDef = r.map (Pyx.Sql.canonItem u) :=
  reload_routes names comp drv r hr

/-- … and for `serialize_schema(c) + serialize_unique_identifiers(c)`, the text the check's harness reloads -/
theorem schema_reload_serialized {u : Pyx.Sql.UC} {d : ClassDiagram} (names : NamesOk u d) (comp : Option Nat) (drv : Bool) :
    ∃ ta tb sa sb,
      Pyx.Sql.printItems u (((extract d comp drv).toMM).serializeSchema u) = some ta ∧
      Pyx.Sql.printItems u (((extract d comp drv).toMM).serializeUniqueIdentifiers u) = some tb ∧
      Pyx.Sql.itemsStmts u (((extract d comp drv).toMM).serializeSchema u) = some sa ∧
      Pyx.Sql.itemsStmts u (((extract d comp drv).toMM).serializeUniqueIdentifiers u) = some sb ∧
      Pyx.Sql.classify u (ta ++ tb) = .accepted (sa ++ sb) := by
  have hwf := toMM_wf names comp drv
  have hr1 : ((extract d comp drv).toMM).serializeSchema u ∈ ((extract d comp drv).toMM).routes u := by
    simp [Pyx.Sql.MM.routes]
  have hr2 : ((extract d comp drv).toMM).serializeUniqueIdentifiers u ∈ ((extract d comp drv).toMM).routes u := by
    simp [Pyx.Sql.MM.routes]
  obtain ⟨ta, hta⟩ := printItems_defs u _ (toMM_routes_defs u _ _ hr1)
  obtain ⟨tb, htb⟩ := printItems_defs u _ (toMM_routes_defs u _ _ hr2)
  obtain ⟨sa, sb, hsa, hsb, hc⟩ := Pyx.Sql.classify_concat u _ _ ta tb
    (Pyx.Sql.MM.route_items_wf u _ hwf _ hr1) (Pyx.Sql.MM.route_items_wf u _ hwf _ hr2) hta htb
  exact ⟨ta, tb, sa, sb, hta, htb, hsa, hsb, hc⟩

/-- BUILD LEVEL (`Pyx.Sql.reload_persistDatabase` instantiated with the extracted component): under `NamesOk`
    and `ReloadOk` — key letters distinct after upper-casing, core type names are pyxtuml type names, identifier
    numbers unique per class, every relationship in scope has its classes in scope, resolving O_REFs and kept
    referred attributes (what `define_class` / `define_association` check when the component itself is built) —
    the text `gen_sql_schema.main` writes exists, the loader accepts it, `ModelLoader.build_metamodel`
    (`Pyx.Sql.build`: duplicate-class, unknown-class, key-length and unknown-target-key checks, identifier dict,
    referential bookkeeping) succeeds on the parsed statements, and the metamodel it builds, seen through the
    writers' eyes, is the extracted schema in canonical form: the classes in sorted order with their attribute
    lists (type names upper-cased) and identifiers, the associations sorted by rel_id with cardinalities, keys
    and phrases — "the SQL schema written for the component loads back to the same definitions".
    (Identifiers without attributes never reach the schema: `identOf` drops them exactly as
    `define_unique_identifier` returns early for them.) -/
theorem schema_reload_build {u : Pyx.Sql.UC} {d : ClassDiagram} {comp : Option Nat} {drv : Bool}
    (names : NamesOk u d) (ok : ReloadOk u d comp drv) :
    ∃ text stmts bs,
      Pyx.Sql.printItems u (((extract d comp drv).toMM).persistDatabase u) = some text ∧
      Pyx.Sql.classify u text = .accepted stmts ∧ Pyx.Sql.build u stmts = .ok bs ∧
      bs.toMM u = ((extract d comp drv).toMM).reloaded u ((extract d comp drv).toMM).assocsById := by
  have hr : ((extract d comp drv).toMM).persistDatabase u ∈ ((extract d comp drv).toMM).routes u := by
    simp [Pyx.Sql.MM.routes]
  obtain ⟨text, ht⟩ := printItems_defs u _ (toMM_routes_defs u _ _ hr)
  obtain ⟨stmts, bs, hc, hb, he⟩ :=
    Pyx.Sql.reload_persistDatabase u _ (toMM_wf names comp drv) (toMM_closed ok) text ht
  exact ⟨text, stmts, bs, ht, hc, hb, he⟩

/-- the build conditions are met by construction of the model: the metamodel of ANY extracted component under
    `ReloadOk` is closed in the sense of the SQL build model -/
theorem schema_reload_closed {u : Pyx.Sql.UC} {d : ClassDiagram} {comp : Option Nat} {drv : Bool}
    (ok : ReloadOk u d comp drv) : ((extract d comp drv).toMM).Closed u :=
  toMM_closed ok

/-- what the file written by `gen_sql_schema.main` (`persist_database`) consists of: for every class of the component
    its CREATE TABLE item and one CREATE UNIQUE INDEX item per kept identifier, one CREATE ROP item per
    association, and nothing else — the route only sorts them (classes by upper-cased key letters, each followed by
    its identifiers; associations by rel_id).  Dropping the identifier lines (e.g. writing `persist_schema`
    instead) is a different text: the model's text is compared with the real file character by character. -/
theorem sql_file_contents (u : Pyx.Sql.UC) (d : ClassDiagram) (comp : Option Nat) (drv : Bool) :
    (((extract d comp drv).toMM).persistDatabase u).Perm
      (((extract d comp drv).toMM).classes.flatMap (fun c => c.item :: c.indexItems) ++
        ((extract d comp drv).toMM).assocs.map Pyx.Sql.AssocM.item) := by
  unfold Pyx.Sql.MM.persistDatabase
  rw [toMM_no_rows, List.append_nil]
  exact (List.Perm.flatMap_right _ (Pyx.Sql.sortBy_perm _ _)).append (List.Perm.map _ (Pyx.Sql.sortBy_perm _ _))

/-! ### non-vacuity: a concrete diagram meets the hypotheses, and the edits really change the result -/

/-- Owner (id, name, derived age; I1 = id) and Dog (tag : user type of integer, color : enumeration,
    owner_id -> Owner.id; I1 = tag), R1 Dog (many, conditional) -> Owner, everything in package
    Pkg inside component Comp; a reflexive linked relationship R2 on Dog through Leash -/
def d0 : ClassDiagram :=
  { containers := [⟨false, 5, "Pkg", .comp 6⟩, ⟨true, 6, "Comp", .none⟩, ⟨false, 7, "Other", .none⟩],
    dts := [⟨102, "integer", .core 2, .none⟩, ⟨104, "string", .core 4, .none⟩, ⟨107, "same_as<Base_Attribute>", .core 7, .none⟩,
            ⟨50, "Color", .enum ["red", "green"], .pkg 5⟩, ⟨51, "MyInt", .user 102, .pkg 5⟩],
    classes := [
      ⟨1, "OWN", [⟨11, "id", .base 102⟩, ⟨12, "name", .base 104⟩, ⟨13, "age", .derived 102⟩], [⟨0, [11]⟩], .pkg 5⟩,
      ⟨2, "DOG", [⟨21, "tag", .base 51⟩, ⟨22, "color", .base 50⟩, ⟨23, "owner_id", .ref 1 11⟩], [⟨0, [21]⟩, ⟨1, []⟩], .pkg 5⟩,
      ⟨3, "LSH", [⟨31, "front", .ref 2 21⟩, ⟨32, "back", .ref 2 21⟩], [⟨0, [31, 32]⟩], .pkg 5⟩],
    rels := [
      ⟨41, 1, .simple ⟨2, true, true, "is owned by"⟩ ⟨1, false, false, "owns"⟩ [⟨23, 11⟩], .pkg 5⟩,
      ⟨42, 2, .linked ⟨2, false, true, "leads"⟩ ⟨2, true, false, "follows"⟩ 3 [⟨31, 21⟩] [⟨32, 21⟩], .pkg 5⟩] }

theorem d0_wf : WF d0 := by
  constructor <;> decide +kernel

example : extract d0 (some 6) false =
    { classes := [
        ⟨"OWN", [⟨"id", "INTEGER"⟩, ⟨"name", "STRING"⟩], [⟨1, ["id"]⟩]⟩,
        ⟨"DOG", [⟨"tag", "INTEGER"⟩, ⟨"color", "INTEGER"⟩, ⟨"owner_id", "INTEGER"⟩], [⟨1, ["tag"]⟩]⟩,
        ⟨"LSH", [⟨"front", "INTEGER"⟩, ⟨"back", "INTEGER"⟩], [⟨1, ["front", "back"]⟩]⟩],
      groups := [
        ⟨1, [⟨⟨"DOG", ["owner_id"], true, true, ""⟩, ⟨"OWN", ["id"], false, false, ""⟩⟩]⟩,
        ⟨2, [⟨⟨"LSH", ["front"], true, false, "leads"⟩, ⟨"DOG", ["tag"], false, false, "follows"⟩⟩,
             ⟨⟨"LSH", ["back"], false, true, "follows"⟩, ⟨"DOG", ["tag"], false, false, "leads"⟩⟩]⟩] } := by
  decide +kernel

/-- with derived attributes the derived `age` appears -/
example : ((extract d0 none true).classes.map (fun c => c.attrs.map (·.name))).head? = some ["id", "name", "age"] := by
  decide +kernel

private theorem d0_class1 : findClass d0 1 =
    some ⟨1, "OWN", [⟨11, "id", .base 102⟩, ⟨12, "name", .base 104⟩, ⟨13, "age", .derived 102⟩], [⟨0, [11]⟩], .pkg 5⟩ := by decide +kernel

/-- the applicability conditions are satisfiable … -/
example : EditOk d0 (.renameAttr 1 11 "ident") := by
  intro kc hc x hx hn
  have : kc = ⟨1, "OWN", [⟨11, "id", .base 102⟩, ⟨12, "name", .base 104⟩, ⟨13, "age", .derived 102⟩], [⟨0, [11]⟩], .pkg 5⟩ := by
    rw [d0_class1] at hc; exact (Option.some.inj hc).symm
  subst this
  simp only [List.mem_cons, List.not_mem_nil, or_false] at hx
  rcases hx with rfl | rfl | rfl <;> simp at hn

example : ScriptOk d0 [.setMult 41 .form false, .setPhrase 42 .one "pulls", .moveClass 1 (.pkg 7), .moveRel 41 .none] :=
  ⟨trivial, trivial, trivial, trivial, trivial⟩

/-- … and the edits are visible in the result: renaming the identifying attribute changes the class, its
    identifier and the target key of R1 -/
example : extract (applyEdit (.renameAttr 1 11 "ident") d0) none false ≠ extract d0 none false := by decide +kernel

example : ((extract (applyEdit (.renameAttr 1 11 "ident") d0) none false).groups.map
    (fun g => g.items.map (fun a => a.tgt.keys))).head? = some [["ident"]] := by decide +kernel

/-- retyping Owner.id to string changes Owner.id AND the referential Dog.owner_id -/
example : (extract (applyEdit (.retypeAttr 1 11 104) d0) none false).classes.map (fun c => c.attrs.map (·.ty)) =
    [["STRING", "STRING"], ["INTEGER", "INTEGER", "STRING"], ["INTEGER", "INTEGER"]] := by decide +kernel

/-- R_AONE.Mult lands in the SECOND association of the linked relationship -/
example : ((extract (applyEdit (.setMult 42 .one true) d0) none false).groups.map
    (fun g => g.items.map (fun a => a.src.many))) = [[true], [true, true]] := by decide +kernel

/-- nested containers: package 9 inside component 8 inside package 5 inside component 6 -/
def nested : List Container :=
  [⟨false, 5, "Pkg", .comp 6⟩, ⟨true, 6, "Comp", .none⟩, ⟨false, 7, "Other", .none⟩, ⟨true, 8, "Inner", .pkg 5⟩,
   ⟨false, 9, "Deep", .comp 8⟩]

theorem nested_tree : TreeOk nested [] :=
  ⟨⟨fun p => match p with
      | .none => 0 | .comp 6 => 1 | .pkg 5 => 2 | .comp 8 => 3 | .pkg 9 => 4 | .pkg 7 => 1 | _ => 0,
    by decide +kernel, (fun r hr => by cases hr), by
      intro p
      simp only [nested, List.length_cons, List.length_nil]
      split <;> omega⟩⟩

example : Reaches nested [] 6 (.pkg 9) ∧ Reaches nested [] 6 (.comp 8) ∧ containedIn nested [] 6 (.pkg 9) = true ∧
    containedIn nested [] 8 (.pkg 5) = false ∧ containedIn nested [] 6 (.pkg 7) = false :=
  ⟨.pkg (k := ⟨false, 9, "Deep", .comp 8⟩) (by decide +kernel)
      (.comp (k := ⟨true, 8, "Inner", .pkg 5⟩) (by decide +kernel) (.pkg (k := ⟨false, 5, "Pkg", .comp 6⟩) (by decide +kernel) (.here (k := ⟨true, 6, "Comp", .none⟩) (by decide +kernel)))),
   .comp (k := ⟨true, 8, "Inner", .pkg 5⟩) (by decide +kernel) (.pkg (k := ⟨false, 5, "Pkg", .comp 6⟩) (by decide +kernel) (.here (k := ⟨true, 6, "Comp", .none⟩) (by decide +kernel))),
   by decide +kernel, by decide +kernel, by decide +kernel⟩

/-- Owner moved out of the component while R1 stays inside: the build raises; moved together with R1: it builds -/
example : mkComponent (applyEdit (.moveClass 1 (.pkg 7)) d0) (some 6) false = none ∧
    (mkComponent (applyEdits [.moveRel 41 .none, .moveClass 1 (.pkg 7)] d0) (some 6) false).isSome = true ∧
    (mkComponent d0 (some 6) true).isSome = true := by decide +kernel

/-- the applicability conditions of retype and reorder are satisfiable too -/
example : EditOk d0 (.retypeAttr 1 11 104) := by
  intro kc xa hc ha _
  rw [d0_class1] at hc; cases hc
  have h2 : (⟨1, "OWN", [⟨11, "id", .base 102⟩, ⟨12, "name", .base 104⟩, ⟨13, "age", .derived 102⟩], [⟨0, [11]⟩], .pkg 5⟩ : Class).findAttr 11 =
      some ⟨11, "id", .base 102⟩ := by decide +kernel
  rw [h2] at ha; cases ha
  exact ⟨by decide +kernel, by decide +kernel⟩

private theorem d0_class2 : findClass d0 2 =
    some ⟨2, "DOG", [⟨21, "tag", .base 51⟩, ⟨22, "color", .base 50⟩, ⟨23, "owner_id", .ref 1 11⟩], [⟨0, [21]⟩, ⟨1, []⟩], .pkg 5⟩ := by decide +kernel

example : EditOk d0 (.reorderAttrs 2 [23, 21, 22]) := by
  intro kc hc
  rw [d0_class2] at hc; cases hc
  decide +kernel

/-- a subtype relationship: Sup with the subtypes SB1 and SB2; one association per subtype, subtype side conditional -/
def dSub : ClassDiagram :=
  { containers := [], dts := [⟨102, "integer", .core 2, .none⟩],
    classes := [⟨1, "SUP", [⟨11, "id", .base 102⟩], [⟨0, [11]⟩], .none⟩,
                ⟨2, "SB1", [⟨21, "id", .ref 1 11⟩], [⟨0, [21]⟩], .none⟩,
                ⟨3, "SB2", [⟨31, "sup_id", .ref 1 11⟩, ⟨32, "x", .base 102⟩], [⟨0, [31]⟩], .none⟩],
    rels := [⟨41, 7, .subsup 1 [(2, [⟨21, 11⟩]), (3, [⟨31, 11⟩])], .none⟩] }

example : (extract dSub none false).groups =
    [⟨7, [⟨⟨"SB1", ["id"], false, true, ""⟩, ⟨"SUP", ["id"], false, false, ""⟩⟩,
          ⟨⟨"SB2", ["sup_id"], false, true, ""⟩, ⟨"SUP", ["id"], false, false, ""⟩⟩]⟩] ∧
    resolvedIn dSub none = true ∧ (mkComponent dSub none false).isSome = true := by decide +kernel

/-- a relationship naming a class that does not exist: the model reports the AttributeError of the Python code -/
example : (match buildOutcome { dSub with rels := [⟨41, 7, .subsup 9 [(2, [⟨21, 11⟩])], .none⟩] } none false with
    | .attributeError => true | _ => false) = true := by decide +kernel

example : RowWF d0 ∧ RowPerm d0 ⟨d0.containers.reverse, d0.dts.reverse, d0.classes.reverse, d0.rels.reverse, [], [], []⟩ :=
  ⟨⟨by decide +kernel, by decide +kernel, by decide +kernel⟩,
   ⟨(List.reverse_perm _).symm, (List.reverse_perm _).symm, (List.reverse_perm _).symm, (List.reverse_perm _).symm,
    List.Perm.refl _⟩⟩

/-- the names of d0 are in the lexical domain of the SQL dialect, for every view `u` of the non-ASCII characters -/
theorem d0_namesOk (u : Pyx.Sql.UC) : NamesOk u d0 :=
  ⟨fun c hc => Pyx.Sql.identOk_of_test ((by decide +kernel : ∀ c ∈ d0.classes, Pyx.Sql.identOkB c.kl.toList = true) c hc),
   fun c hc a ha => Pyx.Sql.identOk_of_test
     ((by decide +kernel : ∀ c ∈ d0.classes, ∀ a ∈ c.attrs, Pyx.Sql.identOkB a.name.toList = true) c hc a ha),
   forall_core_of_test
     (fun t => decide (Pyx.Sql.AsciiText (upper t.name).toList) && Pyx.Sql.identOkB (Pyx.Sql.UC.ascii.upper (upper t.name).toList))
     (fun t h => by
       rw [Bool.and_eq_true, decide_eq_true_eq] at h
       rw [u.upper_of_ascii h.1]; exact Pyx.Sql.identOk_of_test h.2)
     (by decide +kernel)⟩

/-- d0's component can be rebuilt from its SQL: the build conditions hold for every view `u` of the non-ASCII
    characters -/
theorem d0_reloadOk (u : Pyx.Sql.UC) : ReloadOk u d0 (some 6) false := by
  have hlsh : findClass d0 3 = some ⟨3, "LSH", [⟨31, "front", .ref 2 21⟩, ⟨32, "back", .ref 2 21⟩], [⟨0, [31, 32]⟩], .pkg 5⟩ := by decide +kernel
  refine ⟨?_, ?_, by decide +kernel, ?_, ?_, by decide +kernel, by decide +kernel⟩
  -- the names of d0 are ASCII: a field that reads `u` is first taken to `UC.ascii`, where it is evaluated
  · rw [List.map_congr_left fun c hc => u.upper_of_ascii
      ((by decide +kernel : ∀ c ∈ d0.classes, Pyx.Sql.AsciiText c.kl.toList) c hc)]
    decide +kernel
  · exact forall_core_of_test
      (fun t => decide (Pyx.Sql.AsciiText (upper t.name).toList) && (Pyx.Sql.tyOfName Pyx.Sql.UC.ascii (upper t.name).toList).isSome)
      (fun t h => by
        rw [Bool.and_eq_true, decide_eq_true_eq] at h
        rw [Pyx.Sql.tyOfName_of_ascii u h.1]; exact h.2)
      (by decide +kernel)
  · intro r hr _
    simp only [d0, List.mem_cons, List.not_mem_nil, or_false] at hr
    rcases hr with rfl | rfl
    · exact ⟨_, _, d0_class2, d0_class1, by decide +kernel, by decide +kernel, by decide +kernel⟩
    · exact ⟨⟨_, _, hlsh, d0_class2, by decide +kernel, by decide +kernel, by decide +kernel⟩, ⟨_, _, hlsh, d0_class2, by decide +kernel, by decide +kernel, by decide +kernel⟩⟩
  · intro c hc
    rw [Pyx.Sql.attrNamesOk_of_ascii u ((by decide +kernel :
      ∀ c ∈ d0.classes, ∀ a ∈ (classOf d0 false c).toM.attrs, Pyx.Sql.AsciiText a.1) c hc)]
    exact (by decide +kernel : ∀ c ∈ d0.classes, Pyx.Sql.attrNamesOk Pyx.Sql.UC.ascii (classOf d0 false c).toM.attrs = true) c hc

/-- the metamodel the writers see for d0's component: three classes, three associations (R2 twice) -/
example : ((extract d0 (some 6) false).toMM).classes.map (fun c => (c.kind, c.attrs.map (·.1), c.indices.map (·.2))) =
      [("OWN".toList, ["id".toList, "name".toList], [["id".toList]]),
       ("DOG".toList, ["tag".toList, "color".toList, "owner_id".toList], [["tag".toList]]),
       ("LSH".toList, ["front".toList, "back".toList], [["front".toList, "back".toList]])] ∧
    ((extract d0 (some 6) false).toMM).assocs.map (fun a => (a.src.kind, a.src.keys, a.src.many, a.src.cond, a.tgt.kind)) =
      [("DOG".toList, ["owner_id".toList], true, true, "OWN".toList),
       ("LSH".toList, ["front".toList], true, false, "DOG".toList),
       ("LSH".toList, ["back".toList], false, true, "DOG".toList)] := by decide +kernel

/-- moving Owner and R1 out of the component removes exactly them -/
example : (extract (applyEdits [.moveRel 41 .none, .moveClass 1 (.pkg 7)] d0) (some 6) false).classes.map (·.kl) =
    ["DOG", "LSH"] := by decide +kernel

/-! ### mk_association as a total function: every R_REL row, whatever hangs on it

  `RelRows` (Diagram.lean) holds the rows of one R_REL as the code reads them, `mkAssociation` (Rows.lean) is
  `mk_association` with every ending, `buildAll` is `mk_component` over the relationships of the diagram and the ones given
  row by row.  What the code does (bridgepoint/ooaofooa.py, probed against the implementation by the harness family `rows`):

    R206 subtype row(s)        first of R_ASSOC, R_COMP, R_SIMP, R_SUBSUP that exists decides; none: TypeError
    R_COMP                     nothing
    R_SUBSUP                   one association per R_SUB (none without R_SUB rows — R_SUPER is then not looked at);
                               R_SUB rows without R_SUPER: AttributeError
    R_ASSOC                    two associations when R_AONE, R_AOTH and R_ASSR all exist, whether or not the link class
                               holds referential attributes (key lists then empty); a row missing: AttributeError
    R_SIMP, R_FORM + R_PART    one association (first R_PART when there are several)
    R_SIMP, no R_FORM          UNFORMALISED: two R_PART rows -> one association WITHOUT keys from the second R_PART row to
                               the first (so its direction follows the row order); fewer: AttributeError
    R_SIMP, R_FORM, no R_PART  AttributeError
    a class / attribute row named by an end or an O_REF is missing: AttributeError

  The property's clause "one association per FORMALISED simple, linked and subtype relationship" is
  `formalised_relationship_produces`.  About relationships that are NOT formalised the property says nothing; what the code
  does for them is documented here: unformalised simple and linked relationships and subtypes without referential attributes
  get associations with EMPTY key lists (`unformalised_simple_still_defined`, `unformalised_linked_still_defined`), and the
  direction of an unformalised simple one follows the order of its R_PART rows
  (`unformalised_direction_follows_row_order`) — the one place where the result depends on the row order. -/

/-- the four shapes of `RelKind`, given row by row, end exactly as `groupOf` / `resolvedRel` say -/
theorem mk_association_wellformed (d : ClassDiagram) (r : Rel) (h : resolvedRel d r = true) :
    rowGroup d { id := r.id, numb := r.numb, rows := rowsOf r.kind, parent := r.parent } = groupOf d r := by
  have hres : resolvedRel d r.kind.asRel = true := h
  have hsub : ∀ s, r.kind = .subsup s [] → (findClass d s).isSome = true := by
    intro s hk
    unfold resolvedRel at h
    rw [hk] at h
    simp only [Bool.and_eq_true] at h
    exact h.1
  obtain ⟨g, hg⟩ := Option.isSome_iff_exists.mp (resolvedRel_sides.mp h).1
  obtain ⟨g', hg'⟩ := Option.isSome_iff_exists.mp (resolvedRel_sides.mp hres).1
  unfold rowGroup
  -- both groups are the sides' associations; only the number differs, and `rowGroup` puts `r.numb` back
  simp only [mkAssociation_rowsOf d r.kind hsub, kindOutcome, hres, hg', hg, groupOf_sides hg, groupOf_sides hg', if_true]
  rfl

/-- at least one association is defined exactly when the dispatched subtype has all its end rows (simple: R_FORM and a
    participant, or two participants; linked: all three; subtype: R_SUPER and a subtype) and every class and attribute row
    they name exists -/
theorem mk_association_produces_iff (d : ClassDiagram) (w : RelRows) :
    (∃ items, mkAssociation d w = .defined items ∧ items ≠ []) ↔ reachesDefine d w := by
  refine ⟨fun ⟨items, hi, hne⟩ => ?_, reaches_defined⟩
  apply Classical.byContradiction
  intro h
  rw [mkAssociation_of_not_reaches h] at hi
  cases hd : w.dispatch <;> simp only [hd] at hi <;> try cases hi
  · exact hne rfl
  · split at hi <;> cases hi
    exact hne rfl

/-- nothing is defined, silently, exactly for R_COMP and for a subtype relationship without subtypes -/
theorem mk_association_silent_iff (d : ClassDiagram) (w : RelRows) :
    mkAssociation d w = .defined [] ↔ w.dispatch = .comp ∨ (w.dispatch = .subsup ∧ w.subs = []) := by
  by_cases h : reachesDefine d w
  · obtain ⟨items, hi, hne⟩ := reaches_defined h
    rcases h with ⟨hd, _⟩ | ⟨hd, _⟩ | ⟨hd, hs, _⟩ <;> simp [*]
  · rw [mkAssociation_of_not_reaches h]
    cases w.dispatch <;> simp

/-- TypeError exactly for an R_REL without any R206 subtype row -/
theorem mk_association_typeError_iff (d : ClassDiagram) (w : RelRows) :
    mkAssociation d w = .typeError ↔ w.dispatch = .none := by
  by_cases h : reachesDefine d w
  · obtain ⟨items, hi, _⟩ := reaches_defined h
    rcases h with ⟨hd, _⟩ | ⟨hd, _⟩ | ⟨hd, _⟩ <;> simp [hi, hd]
  · rw [mkAssociation_of_not_reaches h]
    cases w.dispatch <;> simp
    split <;> simp

/-- AttributeError in every remaining case -/
theorem mk_association_attributeError_iff (d : ClassDiagram) (w : RelRows) :
    mkAssociation d w = .attributeError ↔
      (w.dispatch = .linked ∨ w.dispatch = .simple ∨ (w.dispatch = .subsup ∧ w.subs ≠ [])) ∧ ¬ reachesDefine d w := by
  by_cases h : reachesDefine d w
  · obtain ⟨items, hi, _⟩ := reaches_defined h
    simp [hi, h]
  · rw [mkAssociation_of_not_reaches h]
    cases w.dispatch <;> simp [h]
/-! ### key lists: one key per O_REF -/

/-- one association per FORMALISED relationship whose rows exist (1 / 2 / one per subtype), each with non-empty key lists
    of equal length -/
theorem formalised_relationship_produces (d : ClassDiagram) (w : RelRows) (hf : w.formalised = true)
    (hr : reachesDefine d w) :
    ∃ items, mkAssociation d w = .defined items ∧ items ≠ [] ∧
      ∀ a ∈ items, a.src.keys ≠ [] ∧ a.src.keys.length = a.tgt.keys.length := by
  obtain ⟨items, hi, hne⟩ := reaches_defined hr
  refine ⟨items, hi, hne, ?_⟩
  obtain ⟨k, hres, hk, _, hrefs⟩ := mkAssociation_of_reaches hr
  obtain ⟨g, hg, hk', _⟩ := kindOutcome_resolved hres
  obtain rfl : items = g.items := AssocOutcome.defined.inj (hi.symm.trans (hk.trans hk'))
  intro a ha
  -- `a` is made from a side of `k`: its keys are as many as the side's O_REF rows, and those are one of `refLists`
  obtain ⟨s, hs, hi⟩ := List.mem_filterMap.mp (groupOf_sides hg ▸ ha)
  obtain ⟨h1, h2⟩ := sideItem_key_lengths ((resolvedRel_sides.mp hres).2 s hs) hi
  refine ⟨fun hnil => ?_, h1.trans h2.symm⟩
  have hlen : ([] : List String).length = s.refs.length := hnil ▸ h1
  exact hrefs hf s.refs (sides_refs k ▸ List.mem_map_of_mem hs) (List.length_eq_zero_iff.mp hlen.symm)

/-- key lists mirror the O_REF rows: one key pair per O_REF, so an association has empty key lists exactly when the
    relationship has no O_REF for it -/
theorem association_keys_per_ref {d : ClassDiagram} {k : RelKind} (h : resolvedRel d k.asRel = true) {g : SGroup}
    (hg : groupOf d k.asRel = some g) :
    g.items.map (fun a => a.src.keys.length) = k.refLists.map List.length ∧
    g.items.map (fun a => a.tgt.keys.length) = k.refLists.map List.length := by
  obtain ⟨items, hg', hm⟩ := resolved_items h
  cases hg.symm.trans hg'
  have key := fun s hs a => sideItem_key_lengths (a := a) ((resolvedRel_sides.mp h).2 s hs)
  rw [← sides_refs, List.map_map]
  exact ⟨Pyx.map_of_map_some hm (fun s hs a hi => (key s hs a hi).1), Pyx.map_of_map_some hm (fun s hs a hi => (key s hs a hi).2)⟩

/-- DOCUMENTED BEHAVIOUR, outside the property's clauses (the property speaks about formalised relationships; a keyless
    association has no referential / identifying pairs to mirror): an unformalised simple relationship is not formalised,
    yet one association is defined for it — no keys, from the second participant row to the first.  Its SQL line
    (`CREATE ROP REF_ID R1 FROM 1C B () TO M A ();`) loads back to the same keyless association (harness family `rows`). -/
theorem unformalised_simple_still_defined (d : ClassDiagram) (w : RelRows) (p q : End) (pc qc : Class)
    (hd : w.dispatch = .simple) (hf : w.form = none) (hp : w.parts = [p, q]) (hr : w.refs = [])
    (hpc : findClass d p.cls = some pc) (hqc : findClass d q.cls = some qc) :
    w.formalised = false ∧
    mkAssociation d w = .defined [
      { src := { kind := qc.kl, keys := [], many := q.mult, cond := q.cond, phrase := phraseIf (q.cls == p.cls) p.phrase },
        tgt := { kind := pc.kl, keys := [], many := p.mult, cond := p.cond, phrase := phraseIf (q.cls == p.cls) q.phrase } } ] := by
  constructor
  · simp [RelRows.formalised, hd, hf]
  · simp only [mkAssociation, hd, RelRows.simpleEnds, hf, hp, hr, kindOutcome_simple_nil, hpc, hqc]

/-- ... and the ORDER OF THE TWO R_PART ROWS decides its direction: the other order gives the mirror image -/
theorem unformalised_direction_follows_row_order (d : ClassDiagram) (w : RelRows) (p q : End)
    (hd : w.dispatch = .simple) (hf : w.form = none) (hp : w.parts = [p, q]) (hr : w.refs = []) :
    mkAssociation d { w with parts := [q, p] } = (mkAssociation d w).mirror := by
  have hc : (p.cls == q.cls) = (q.cls == p.cls) := BEq.comm
  rw [mkAssociation_unformalised d { w with parts := [q, p] } q p hd hf rfl hr,
    mkAssociation_unformalised d w p q hd hf hp hr, kindOutcome_simple_nil, kindOutcome_simple_nil]
  cases findClass d p.cls <;> cases findClass d q.cls <;>
    simp [AssocOutcome.mirror, SAssoc.swap, hc]

/-- the same for a linked relationship whose link class holds no referential attributes: two associations without keys -/
theorem unformalised_linked_still_defined (d : ClassDiagram) (w : RelRows) (o t : End) (l : Nat) (oc tc lc : Class)
    (hd : w.dispatch = .linked) (ho : w.aone = some o) (ht : w.aoth = some t) (hl : w.assr = some l)
    (h1 : w.refsOne = []) (h2 : w.refsOth = [])
    (hoc : findClass d o.cls = some oc) (htc : findClass d t.cls = some tc) (hlc : findClass d l = some lc) :
    w.formalised = false ∧
    ∃ a b, mkAssociation d w = .defined [a, b] ∧ a.src.keys = [] ∧ a.tgt.keys = [] ∧ b.src.keys = [] ∧ b.tgt.keys = [] ∧
      a.src.kind = lc.kl ∧ a.tgt.kind = oc.kl ∧ b.src.kind = lc.kl ∧ b.tgt.kind = tc.kl := by
  constructor
  · simp [RelRows.formalised, hd, h1]
  · simp only [mkAssociation, hd, ho, ht, hl, h1, h2, kindOutcome, resolvedRel, pairResolved, groupOf, RelKind.asRel,
      hoc, htc, hlc, refsResolved, keyNames, List.all_nil, Bool.and_self, if_true, List.map_nil, List.filterMap_nil]
    exact ⟨_, _, rfl, rfl, rfl, rfl, rfl, rfl, rfl, rfl, rfl⟩

/-- `mk_component` over everything: without row-given relationships it is `buildOutcome`; a successful build holds the
    groups of the diagram's relationships followed by one group per row-given relationship in scope, none of which raised;
    TypeError needs an R_REL without subtype row in scope -/
theorem build_all_cases (d : ClassDiagram) (comp : Option Nat) (drv : Bool) :
    (d.rowRels = [] → buildAll d comp drv = (buildOutcome d comp drv).toFull) ∧
    (∀ s, buildAll d comp drv = .ok s →
      ∃ s0, buildOutcome d comp drv = .ok s0 ∧ s.classes = s0.classes ∧ s.groups = s0.groups ++ rowGroups d comp ∧
        (∀ r ∈ rowRelsInScope d comp, ∃ items, mkAssociation d r.rows = .defined items) ∧ s.definable = true) ∧
    (buildAll d comp drv = .typeError → ∃ r ∈ rowRelsInScope d comp, r.rows.dispatch = .none) := by
  unfold buildAll
  cases hb : buildOutcome d comp drv with
  | metaModelException => exact ⟨fun _ => rfl, fun _ h => (nomatch h), fun h => nomatch h⟩
  | attributeError => exact ⟨fun _ => rfl, fun _ h => (nomatch h), fun h => nomatch h⟩
  | ok s0 =>
    refine ⟨fun h => ?_, ?_⟩
    · have hdef : s0.definable = true := buildOutcome_ok_definable hb
      simp only [rowRelsInScope, rowGroups, h, List.filter_nil, List.map_nil, firstRaise, List.filterMap_nil,
        List.append_nil, BuildOutcome.toFull]
      cases s0
      simp [hdef]
    simp only
    cases hfr : firstRaise ((rowRelsInScope d comp).map (fun r => mkAssociation d r.rows)) with
    | some e =>
      simp only
      refine ⟨fun s h => absurd (h ▸ hfr) (firstRaise_ne_ok _ _), fun h => ?_⟩
      obtain ⟨r, hr, hre⟩ := List.mem_map.mp (firstRaise_typeError _ (h ▸ hfr))
      exact ⟨r, hr, (mk_association_typeError_iff d r.rows).mp hre⟩
    | none =>
      simp only
      split
      · rename_i hdef
        refine ⟨fun s h => ?_, fun h => nomatch h⟩
        cases h
        exact ⟨s0, rfl, rfl, rfl, fun r hr => (firstRaise_none_iff _).mp hfr _ (List.mem_map.mpr ⟨r, hr, rfl⟩), hdef⟩
      · exact ⟨fun _ h => (nomatch h), fun h => nomatch h⟩

/-- d0's R1 unformalised: R_SIMP with the participants Owner (first row) and Dog, no R_FORM, no O_REF -/
def wUnformal : RelRows :=
  { simp := true, parts := [⟨1, false, false, "owns"⟩, ⟨2, true, true, "is owned by"⟩] }

example : wUnformal.formalised = false ∧
    mkAssociation d0 wUnformal =
      .defined [⟨⟨"DOG", [], true, true, ""⟩, ⟨"OWN", [], false, false, ""⟩⟩] ∧
    mkAssociation d0 { wUnformal with parts := wUnformal.parts.reverse } =
      .defined [⟨⟨"OWN", [], false, false, ""⟩, ⟨"DOG", [], true, true, ""⟩⟩] := by decide +kernel

example : mkAssociation d0 wUnformal =
    .defined [⟨⟨"DOG", [], true, true, phraseIf ((2 : Nat) == 1) "owns"⟩,
               ⟨"OWN", [], false, false, phraseIf ((2 : Nat) == 1) "is owned by"⟩⟩] :=
  (unformalised_simple_still_defined d0 wUnformal _ _ _ _ rfl rfl rfl rfl rfl rfl).2

example : reachesDefine d0 wUnformal :=
  Or.inr (Or.inl ⟨rfl, _, _, rfl, by decide +kernel⟩)

/-- the formalised R1 of d0 as rows: formalised, reaches define_association, one association with its key pair -/
example : (rowsOf (.simple ⟨2, true, true, "is owned by"⟩ ⟨1, false, false, "owns"⟩ [⟨23, 11⟩])).formalised = true ∧
    mkAssociation d0 (rowsOf (.simple ⟨2, true, true, "is owned by"⟩ ⟨1, false, false, "owns"⟩ [⟨23, 11⟩])) =
      .defined [⟨⟨"DOG", ["owner_id"], true, true, ""⟩, ⟨"OWN", ["id"], false, false, ""⟩⟩] := by decide +kernel

example : ∃ items, mkAssociation d0 (rowsOf (.simple ⟨2, true, true, "is owned by"⟩ ⟨1, false, false, "owns"⟩ [⟨23, 11⟩])) =
    .defined items ∧ items ≠ [] ∧ ∀ a ∈ items, a.src.keys ≠ [] ∧ a.src.keys.length = a.tgt.keys.length :=
  formalised_relationship_produces d0 _ (by decide +kernel) (Or.inr (Or.inl ⟨rfl, _, _, rfl, by decide +kernel⟩))

/-- every other ending on d0: no subtype row, R_COMP, no subtypes, a missing R_AOTH, one participant only, R_FORM without
    R_PART, subtypes without R_SUPER, an unformalised linked relationship, two subtype rows (R_COMP wins over R_SIMP) -/
example :
    mkAssociation d0 {} = .typeError ∧
    mkAssociation d0 { comp := true } = .defined [] ∧
    mkAssociation d0 { subsup := true, super := some 99 } = .defined [] ∧
    mkAssociation d0 { assoc := true, aone := some ⟨2, false, true, "leads"⟩, assr := some 3 } = .attributeError ∧
    mkAssociation d0 { simp := true, parts := [⟨1, false, false, "owns"⟩] } = .attributeError ∧
    mkAssociation d0 { simp := true, form := some ⟨2, true, true, "x"⟩ } = .attributeError ∧
    mkAssociation d0 { subsup := true, subs := [(2, [])] } = .attributeError ∧
    mkAssociation d0 { assoc := true, aone := some ⟨2, false, true, "leads"⟩, aoth := some ⟨1, true, false, "follows"⟩,
                       assr := some 3 } =
      .defined [⟨⟨"LSH", [], true, false, ""⟩, ⟨"DOG", [], false, false, ""⟩⟩,
                ⟨⟨"LSH", [], false, true, ""⟩, ⟨"OWN", [], false, false, ""⟩⟩] ∧
    mkAssociation d0 { wUnformal with comp := true } = .defined [] := by decide +kernel

/-- the whole build with row-given relationships: d0 plus the unformalised R3 in the component -> one more group; plus an
    R_REL without subtype row -> TypeError; outside the component it does no harm -/
example :
    (match buildAll { d0 with rowRels := [⟨43, 3, wUnformal, .pkg 5⟩] } (some 6) false with
      | .ok s => s.groups.map (·.rel) | _ => []) = [1, 2, 3] ∧
    buildAll { d0 with rowRels := [⟨43, 3, wUnformal, .pkg 5⟩, ⟨44, 4, {}, .pkg 5⟩] } (some 6) false = .typeError ∧
    (match buildAll { d0 with rowRels := [⟨44, 4, {}, .pkg 7⟩] } (some 6) false with
      | .ok s => s.groups.map (·.rel) | _ => []) = [1, 2] := by decide +kernel

/-! ### non-vacuity with a PACKAGE REFERENCE: the restriction theorems applied to `dRef` -/

/-- d0 plus: class CAT and relationship R3 (CAT -> Owner) in the GLOBAL package Other (7); package Ref (8) inside
    component Comp refers to Other (EP_PKGREF 8 -> 7); package Far (9) is global and refers to Pkg (5) — a reference from
    OUTSIDE any component, which adds nothing; a second component Comp2 (10) with nothing in it -/
def dRef : ClassDiagram :=
  { d0 with
    containers := d0.containers ++ [⟨false, 8, "Ref", .comp 6⟩, ⟨false, 9, "Far", .none⟩, ⟨true, 10, "Comp2", .none⟩],
    classes := d0.classes ++ [⟨4, "CAT", [⟨41, "id", .base 102⟩, ⟨42, "owner_id", .ref 1 11⟩], [⟨0, [41]⟩], .pkg 7⟩],
    rels := d0.rels ++ [⟨43, 3, .simple ⟨4, true, true, "is fed by"⟩ ⟨1, false, false, "feeds"⟩ [⟨42, 11⟩], .pkg 7⟩],
    pkgrefs := [⟨8, 7⟩, ⟨9, 5⟩] }

theorem dRef_tree : TreeOk dRef.containers dRef.pkgrefs :=
  TreeOk.of_rank (fun p => match p with
      | .none => 0 | .comp 6 => 1 | .pkg 5 => 2 | .pkg 8 => 2 | .pkg 7 => 2 | .pkg 9 => 1 | .comp 10 => 1 | _ => 0)
    (by decide +kernel) (by decide +kernel)
    (by intro p; simp only [dRef, d0, List.length_append, List.length_cons, List.length_nil]; split <;> omega)

theorem dRef_wf : WF dRef := by
  constructor <;> decide +kernel

private theorem dRef_comp6 : findContainer dRef.containers true 6 = some ⟨true, 6, "Comp", .none⟩ := by decide +kernel
private theorem dRef_pkg7 : findContainer dRef.containers false 7 = some ⟨false, 7, "Other", .none⟩ := by decide +kernel
private theorem dRef_pkg8 : findContainer dRef.containers false 8 = some ⟨false, 8, "Ref", .comp 6⟩ := by decide +kernel
private theorem dRef_ref87 : ⟨8, 7⟩ ∈ dRef.pkgrefs := by decide +kernel

/-- `restrict_domain_is_acyclicity` applied: a rank far above the number of rows (10, 20, 30) is as good -/
example : TreeOk dRef.containers dRef.pkgrefs :=
  restrict_domain_is_acyclicity.mpr ⟨fun p => match p with
      | .none => 0 | .comp 6 => 10 | .pkg 5 => 20 | .pkg 8 => 20 | .pkg 7 => 30 | .pkg 9 => 10 | .comp 10 => 10 | _ => 0,
    by decide +kernel, by
      intro r hr k kq hk hq
      simp only [dRef, List.mem_cons, List.not_mem_nil, or_false] at hr
      rcases hr with rfl | rfl
      · rw [dRef_pkg8] at hq; cases hq; decide +kernel
      · have : findContainer dRef.containers false 9 = some ⟨false, 9, "Far", .none⟩ := by decide +kernel
        rw [this] at hq; cases hq; decide +kernel⟩

/-- the model computes it: CAT and R3 are inside Comp (6) through the reference, not inside Comp2 (10); without the
    reference rows they are not inside Comp either -/
example : (extract dRef (some 6) false).classes.map (·.kl) = ["OWN", "DOG", "LSH", "CAT"] ∧
    (extract dRef (some 6) false).groups.map (·.rel) = [1, 2, 3] ∧
    (extract dRef (some 10) false).classes = [] ∧
    (extract { dRef with pkgrefs := [] } (some 6) false).classes.map (·.kl) = ["OWN", "DOG", "LSH"] ∧
    (mkComponent dRef (some 6) false).isSome = true := by decide +kernel

/-- `restrict_contained_iff` on dRef: the relational side, by the reference step -/
example : containedIn dRef.containers dRef.pkgrefs 6 (.pkg 7) = true :=
  (restrict_contained_iff dRef_tree 6 (.pkg 7)).mpr
    (.ref (k := ⟨false, 7, "Other", .none⟩) (r := ⟨8, 7⟩) (kq := ⟨false, 8, "Ref", .comp 6⟩) dRef_pkg7 dRef_ref87 rfl
      dRef_pkg8 (.here (k := ⟨true, 6, "Comp", .none⟩) dRef_comp6))

/-- … and back: what the model answers for Comp2 is a statement about chains -/
example : ¬ Reaches dRef.containers dRef.pkgrefs 10 (.pkg 7) :=
  fun h => absurd ((restrict_contained_iff dRef_tree 10 (.pkg 7)).mpr h) (by decide +kernel)

example : containedFuel dRef.containers dRef.pkgrefs 6 1000 (.pkg 7) = containedIn dRef.containers dRef.pkgrefs 6 (.pkg 7) :=
  restrict_fuel_sufficient dRef_tree 6 (.pkg 7) 1000 (by decide +kernel)

/-- `restrict_follows_reference`, first clause, for the row 8 -> 7 -/
example : containedIn dRef.containers dRef.pkgrefs 6 (.pkg 7) = true :=
  (restrict_follows_reference dRef_tree 6).1 ⟨8, 7⟩ dRef_ref87 ⟨false, 7, "Other", .none⟩ ⟨false, 8, "Ref", .comp 6⟩
    dRef_pkg7 dRef_pkg8 (by decide +kernel)

/-- `restrict_reference_selected`: CAT is defined in Comp as in the whole model, R3 brings its association -/
example : classOf dRef false ⟨4, "CAT", [⟨41, "id", .base 102⟩, ⟨42, "owner_id", .ref 1 11⟩], [⟨0, [41]⟩], .pkg 7⟩ ∈
    (extract dRef (some 6) false).classes :=
  (restrict_reference_selected dRef_tree 6 false (r := ⟨8, 7⟩) (kp := ⟨false, 7, "Other", .none⟩)
    (kq := ⟨false, 8, "Ref", .comp 6⟩) dRef_ref87 dRef_pkg7 dRef_pkg8 (by decide +kernel)).1 _ (by decide +kernel) rfl

/-- `restrict_selected_once`: Owner is inside Comp by its own chain AND Pkg is referred to (from Far): defined once; CAT
    comes over the reference: once -/
example : ((extract dRef (some 6) false).classes.map (·.kl)).count "OWN" = 1 ∧
    ((extract dRef (some 6) false).classes.map (·.kl)).count "CAT" = 1 :=
  ⟨(restrict_selected_once dRef_wf (some 6) false).1
      ⟨1, "OWN", [⟨11, "id", .base 102⟩, ⟨12, "name", .base 104⟩, ⟨13, "age", .derived 102⟩], [⟨0, [11]⟩], .pkg 5⟩ (by decide +kernel) (by decide +kernel),
   (restrict_selected_once dRef_wf (some 6) false).1
      ⟨4, "CAT", [⟨41, "id", .base 102⟩, ⟨42, "owner_id", .ref 1 11⟩], [⟨0, [41]⟩], .pkg 7⟩ (by decide +kernel) (by decide +kernel)⟩

/-- `restrict_exact` on dRef: membership in the restricted build from a chain with a reference step -/
example : ∃ k ∈ dRef.classes, Reaches dRef.containers dRef.pkgrefs 6 k.parent ∧ k.kl = "CAT" := by
  have h : classOf dRef false ⟨4, "CAT", [⟨41, "id", .base 102⟩, ⟨42, "owner_id", .ref 1 11⟩], [⟨0, [41]⟩], .pkg 7⟩ ∈
      (extract dRef (some 6) false).classes := by decide +kernel
  obtain ⟨k, hk, hr, he⟩ := ((restrict_exact dRef_tree 6 false).1 _).mp h
  refine ⟨k, hk, hr, ?_⟩
  have := congrArg SClass.kl he
  simpa [classOf] using this.symm

/-- `restrict_monotone` / `restrict_compose` with c1 = c2 = Comp on dRef (restricting twice = once, references included) -/
example : (extract dRef (some 6) true).classes.Sublist (extract dRef none true).classes :=
  (restrict_monotone dRef_tree (c1 := 6) (c2 := 6) (.here (k := ⟨true, 6, "Comp", .none⟩) dRef_comp6) true).2.1

example : ((dRef.classes.filter (fun k => inScope dRef.containers dRef.pkgrefs (some 6) k.parent)).filter
    (fun k => inScope dRef.containers dRef.pkgrefs (some 6) k.parent)).map (classOf dRef false) =
    (extract dRef (some 6) false).classes :=
  (restrict_compose dRef_tree (c1 := 6) (c2 := 6) (.here (k := ⟨true, 6, "Comp", .none⟩) dRef_comp6) false).1

/-- `restrict_untargeted`: no reference row targets a package on the chain of an element of Ref (8) -/
example : containedIn dRef.containers dRef.pkgrefs 6 (.pkg 8) = containedFuelPlain dRef.containers 6 (dRef.containers.length + 1) (.pkg 8) :=
  restrict_untargeted _ _ 6 (.pkg 8) (by
    intro q hq r hr
    have h8 : q = 8 := by
      cases hq with
      | here _ => rfl
      | up hk h' =>
        rw [dRef_pkg8] at hk; cases hk
        cases h' with
        | upComp hk' h'' =>
          rw [dRef_comp6] at hk'; cases hk'; cases h''
    subst h8
    simp only [dRef, List.mem_cons, List.not_mem_nil, or_false] at hr
    rcases hr with rfl | rfl <;> decide +kernel)

/-- the rows of dRef in another order, the EP_PKGREF rows too: `extract_deterministic_under_row_order` -/
example : (extract dRef (some 6) false).classes.Perm
    (extract { dRef with containers := dRef.containers.reverse, pkgrefs := dRef.pkgrefs.reverse } (some 6) false).classes :=
  (extract_deterministic_under_row_order (d := dRef)
    (d' := { dRef with containers := dRef.containers.reverse, pkgrefs := dRef.pkgrefs.reverse })
    ⟨(List.reverse_perm _).symm, List.Perm.refl _, List.Perm.refl _, List.Perm.refl _, (List.reverse_perm _).symm⟩
    ⟨by decide +kernel, by decide +kernel, by decide +kernel⟩ (some 6) false).1

/-- NOT transitive over references alone: Other2 is referred to by the global package Other, which is only REFERRED to
    from the component (not contained in it) — the content of Other2 is not inside the component; a package nested in
    Other is -/
example :
    let cs : List Container := [⟨true, 6, "Comp", .none⟩, ⟨false, 8, "Ref", .comp 6⟩, ⟨false, 7, "Other", .none⟩,
      ⟨false, 11, "Other2", .none⟩, ⟨false, 12, "Sub", .pkg 7⟩]
    containedIn cs [⟨8, 7⟩, ⟨7, 11⟩] 6 (.pkg 7) = true ∧ containedIn cs [⟨8, 7⟩, ⟨7, 11⟩] 6 (.pkg 11) = false ∧
    containedIn cs [⟨8, 7⟩, ⟨7, 11⟩] 6 (.pkg 12) = true := by decide +kernel

/-- OUTSIDE the domain: Ref lies inside Other and refers to it — `is_contained_in` of an element of Other asks for Ref,
    whose chain passes Other, which asks for Ref … : Python never returns (RecursionError); no rank exists, and the
    model's answer is the exhaustion value `false` for every fuel -/
example : ¬ TreeOk [⟨false, 7, "Other", .none⟩, ⟨false, 8, "Ref", .pkg 7⟩] [⟨8, 7⟩] := by
  rintro ⟨depth, _, href, _⟩
  have := href ⟨8, 7⟩ (by decide +kernel) ⟨false, 7, "Other", .none⟩ ⟨false, 8, "Ref", .pkg 7⟩ (by decide +kernel) (by decide +kernel)
  exact absurd this (Nat.lt_irrefl _)

end PyxProps.C14

/-!
  SOURCE TIE OF THE EXTRACTION FUNCTIONS' STATEMENT STRUCTURE
  translator/gen_extractshape.py re-reads, with `ast`, is_contained_in / is_global / get_attribute_type / _get_data_type_name /
  _get_related_attributes / mk_class / mk_simple_association / mk_linked_association (+ _mk_assoc) / mk_subsuper_association /
  mk_derived_association / mk_association / mk_component / ModelLoader.build_component of bridgepoint/ooaofooa.py into
  Gen/ExtractShape.lean (navigations by class + association number + phrase, filters, loops, conditionals, and for every
  define_* call which expression lands in which parameter).  Proofs/ExtractShapeTie.lean defines ONE generic interpreter of that
  IR (`Pyx.XShape`, for any IR value, over an abstract population `World`) and the populations a diagram denotes (`dtWorld`,
  `relWorld`: hand-written, the reading of harness/ooa_encoder.py in navigation form — the model is stated over the diagram, not
  over rows).  This section: the data-type mapping and the O_REF loop of _get_related_attributes for ALL inputs, and the
  association constructors on fixed two-class diagrams for all Mult / Cond values of both ends (an instance of
  `association_as_in_source` below; a field swap in the SOURCE changes the IR and fails it).  mk_component and build_component
  are generated but not tied by a theorem.
-/
namespace PyxProps.C14
open Pyx.Extract Pyx.XShape Pyx.Gen.ExtractShape

/-- `_get_data_type_name`, for every list of data types, every id and every amount of fuel = depth of the Python recursion: core
    types with Core_Typ in range(1, 6) give the upper-cased name, an S_EDT gives INTEGER, an S_UDT is followed over R18, anything
    else (and a dangling id) gives None — `dtTypeFuel` IS the interpretation of the IR generated from the source (`tyOf`: what
    `elif not ty:` of mk_class makes of the value; an interpretation error counts as no type) -/
theorem type_mapping_as_in_source (dts : List DataType) (f id : Nat) (L : Loc DI) (C : Calls DI) :
    dtTypeFuel dts f id =
      tyOf (callAt (dtWorld dts) defs f "_get_data_type_name" [.inst ((findDt dts id).map DI.dt)] L C) ∧
    dtTypeName dts id =
      tyOf (run (dtWorld dts) defs (dts.length + 1) "_get_data_type_name" [.inst ((findDt dts id).map DI.dt)]) :=
  ⟨(dtType_eq dts f id L C).symm, dtTypeName_eq dts id⟩

/-- the loop of `_get_related_attributes`, for every relationship, every pair (referring end g, referred end t) whose classes
    exist and every list of resolving O_REF rows: the name reached over R108.R106 (the referential attribute, in the REFERRING
    class) is appended to l1, the one over R111.R110.R105 (the identifying attribute, in the REFERRED class) to l2, in row order —
    `keyNames` of the `rattr` / `iattr` columns -/
theorem related_attributes_loop_as_in_source (d : ClassDiagram) (numb : Nat) (w : RelRows) (callF : CallF RI) (fuel : Nat)
    (g t : EndId) (rc tc : Class) (hrc : classOfEnd d w g = some rc) (htc : classOfEnd d w t = some tc)
    (refs : List Ref) (hres : refsResolved rc tc refs = true) (L : Loc RI) (C : Calls RI) (a b : List String)
    (h1 : L "l1" = .strs a) (h2 : L "l2" = .strs b) :
    ∃ L', forLoop (fun x L' C' => iStmts (relWorld d numb w) callF fuel
              (match get_related_attributes.body with
               | [_, _, .forNav _ _ body, _] => body
               | _ => [])
              (L'.set "o_ref" (.inst (some x))) C') (refs.map (RI.ref g t)) L C = .ok (L', C, .next) ∧
        L' "l1" = .strs (a ++ keyNames rc (refs.map (·.rattr))) ∧ L' "l2" = .strs (b ++ keyNames tc (refs.map (·.iattr))) :=
  relLoop d numb w callF fuel g t rc tc hrc htc refs hres L C a b h1 h2

/-- two classes; B.A_Id refers to A.Id -/
def tieA : Class := { id := 1, kl := "A", attrs := [{ id := 1, name := "Id", kind := .base 1 }], idents := [], parent := .none }
def tieB : Class :=
  { id := 2, kl := "B", attrs := [{ id := 1, name := "Id", kind := .base 1 }, { id := 2, name := "A_Id", kind := .ref 1 1 }],
    idents := [], parent := .none }
def tieD : ClassDiagram := { containers := [], dts := [], classes := [tieA, tieB], rels := [] }

/-- a simple relationship B -> A (formalised), a reflexive formalised and a reflexive unformalised one on A, a linked reflexive
    one on A with link class B, a subtype relationship: every end with its own phrase, Mult and Cond free -/
def tieSimple (fm fc pm pc : Bool) : RelRows :=
  { simp := true, form := some { cls := 2, mult := fm, cond := fc, phrase := "has" },
    parts := [{ cls := 1, mult := pm, cond := pc, phrase := "is of" }], refs := [{ rattr := 2, iattr := 1 }] }
def tieReflexive (fm fc pm pc : Bool) : RelRows :=
  { simp := true, form := some { cls := 1, mult := fm, cond := fc, phrase := "has" },
    parts := [{ cls := 1, mult := pm, cond := pc, phrase := "is of" }], refs := [{ rattr := 1, iattr := 1 }] }
def tieUnformalised (fm fc pm pc : Bool) : RelRows :=
  { simp := true, form := none,
    parts := [{ cls := 1, mult := pm, cond := pc, phrase := "first" }, { cls := 1, mult := fm, cond := fc, phrase := "second" }] }
def tieLinked (om oc tm tc : Bool) : RelRows :=
  { assoc := true, aone := some { cls := 1, mult := om, cond := oc, phrase := "p" },
    aoth := some { cls := 1, mult := tm, cond := tc, phrase := "q" }, assr := some 2,
    refsOne := [{ rattr := 2, iattr := 1 }], refsOth := [{ rattr := 1, iattr := 1 }] }
def tieSubsup : RelRows :=
  { subsup := true, super := some 1, subs := [(2, [{ rattr := 2, iattr := 1 }]), (2, [{ rattr := 1, iattr := 1 }])] }

/-- mk_association -> mk_simple_association / mk_linked_association / mk_subsuper_association / mk_derived_association / no
    subtype row, interpreted from the generated IR, ends as `mkAssociation` says — rel_id, both kinds, both key lists, and which
    end's Mult / Cond / Txt_Phrs lands on which side — for all 16 Mult / Cond combinations of the two ends of a formalised, a
    reflexive, an unformalised (second participant = referring end) and a linked relationship, and for a subtype relationship
    with two subtypes (the OIR_ID filter separates their O_REF rows), a derived one, one without subtype row (TypeError) and a
    simple one without participants (AttributeError). -/
theorem association_ends_as_in_source :
    (∀ fm fc pm pc : Bool,
      sameR (iMkAssociation defs tieD 7 (tieSimple fm fc pm pc)) (expected 7 (mkAssociation tieD (tieSimple fm fc pm pc))) = true ∧
      sameR (iMkAssociation defs tieD 7 (tieReflexive fm fc pm pc)) (expected 7 (mkAssociation tieD (tieReflexive fm fc pm pc))) = true ∧
      sameR (iMkAssociation defs tieD 7 (tieUnformalised fm fc pm pc)) (expected 7 (mkAssociation tieD (tieUnformalised fm fc pm pc))) = true ∧
      sameR (iMkAssociation defs tieD 7 (tieLinked fm fc pm pc)) (expected 7 (mkAssociation tieD (tieLinked fm fc pm pc))) = true) ∧
    sameR (iMkAssociation defs tieD 7 tieSubsup) (expected 7 (mkAssociation tieD tieSubsup)) = true ∧
    sameR (iMkAssociation defs tieD 7 { comp := true }) (expected 7 (mkAssociation tieD { comp := true })) = true ∧
    sameR (iMkAssociation defs tieD 7 {}) (expected 7 (mkAssociation tieD {})) = true ∧
    sameR (iMkAssociation defs tieD 7 { simp := true }) (expected 7 (mkAssociation tieD { simp := true })) = true := by
  simp only [← mkAssociation_eq, sameR_self, and_self, implies_true]

/-- non-vacuity: the interpretation is a real association with distinct fields … -/
example : sameR (iMkAssociation defs tieD 7 (tieReflexive true false false true))
    (.ok [(7, { src := { kind := "A", keys := ["Id"], many := true, cond := false, phrase := "is of" },
                tgt := { kind := "A", keys := ["Id"], many := false, cond := true, phrase := "has" } })]) = true := by
  rw [← mkAssociation_eq]; decide +kernel

/-- hand-mutated IR: `source_conditional=r_part.Cond` instead of `r_form.Cond` in mk_simple_association -/
def mutatedSimple : Def :=
  { mk_simple_association with
    body := mk_simple_association.body.map (fun s =>
      match s with
      | .define fn args star bind =>
        .define fn (args.map (fun a => if a.1 = "source_conditional" then (a.1, Expr.attr "r_part" "Cond") else a)) star bind
      | s => s) }
def mutatedDefs : List (String × Def) :=
  defs.map (fun p => if p.1 = "mk_simple_association" then (p.1, mutatedSimple) else p)

/-- … and a mutated IR (the other end's Cond) gives ANOTHER result, so the equalities above do constrain the source -/
example : sameR (iMkAssociation mutatedDefs tieD 7 (tieSimple true false false true))
    (expected 7 (mkAssociation tieD (tieSimple true false false true))) = false := by
  decide +kernel

def tieDts : List DataType := [⟨1, "string", .core 4, .none⟩, ⟨2, "u", .user 1, .none⟩, ⟨3, "v", .user 2, .none⟩]

/-- the data-type mapping applied: a user type over a user type over core type 4 ("string") -/
example : tyOf (run (dtWorld tieDts) defs (tieDts.length + 1) "_get_data_type_name" [.inst ((findDt tieDts 3).map DI.dt)]) =
    some "STRING" :=
  (type_mapping_as_in_source tieDts 0 3 Loc.empty []).2 ▸ (by decide +kernel : dtTypeName tieDts 3 = some "STRING")

/-- a mutated mapping (`range(1, 5)`: core type 5 no longer supported) gives another result -/
example : tyOf (run (dtWorld [⟨1, "inst_ref", .core 5, .none⟩])
      (defs.map (fun p => if p.1 = "_get_data_type_name" then
        (p.1, { get_data_type_name with body := get_data_type_name.body.map (fun s => match s with
          | .ite (.and a (.attrInRange v f lo _)) t e => .ite (.and a (.attrInRange v f lo 5)) t e
          | s => s) }) else p))
      3 "_get_data_type_name" [.inst (some (DI.dt ⟨1, "inst_ref", .core 5, .none⟩))]) = none ∧
    dtTypeName [⟨1, "inst_ref", .core 5, .none⟩] 1 = some "INST_REF" := by
  decide +kernel

/-- the O_REF loop applied: B.A_Id -> A.Id -/
example : True := by
  have _h := related_attributes_loop_as_in_source tieD 7 (tieSimple true true false false) (fun _ _ _ _ => .error .stuck) 0
    .form (.part 0) tieB tieA (by decide +kernel) (by decide +kernel) [{ rattr := 2, iattr := 1 }] (by decide +kernel)
    ((Loc.empty.set "l1" (.strs [])).set "l2" (.strs [])) [] [] [] rfl rfl
  trivial

end PyxProps.C14

/-!
  SOURCE TIE: mk_association.  `mk_association` of the generated IR = `mkAssociation` of the model for ALL diagrams, relationship
  numbers and rows, every ending included: ONE theorem (`mkAssociation_eq`, here `association_as_in_source`).  The theorems before
  it are its five dispatch cases (mk_simple_association, mk_derived_association, no R206 subtype row, mk_linked_association,
  mk_subsuper_association), each under the name of the source function it speaks about, its docstring saying what that function
  does and where it raises.  Underneath: `_get_related_attributes` as a whole function (`relattrs`, Proofs/ExtractShapeAssoc.lean:
  both name lists, or AttributeError as soon as an O_REF row of the pair leads to no attribute; `relattrs_none_rto` /
  `relattrs_none_rgo`: None arguments), `mk_linked_association` with its two `_mk_assoc` calls (Proofs/ExtractShapeLinked.lean), and
  the loop over the R_SUB rows (`subLoop`, Proofs/ExtractShapeSubsup.lean).
-/
namespace PyxProps.C14
open Pyx.Extract Pyx.XShape Pyx.Gen.ExtractShape

/-- mk_association -> mk_simple_association, for every diagram, number and rows of a relationship with an R_SIMP row: rel_id, both
    kinds, both key lists, which end's Mult / Cond lands where, the phrases (crosswise, only when both ends are the same class),
    the unformalised fallback (the SECOND R_PART refers, the first is referred to), and AttributeError exactly when an end, a
    class or an attribute of an O_REF row is missing — `mkAssociation` IS the interpretation of the IR generated from the source -/
theorem simple_association_as_in_source (d : ClassDiagram) (numb : Nat) (w : RelRows) (hd : w.dispatch = .simple) :
    expected numb (mkAssociation d w) = iMkAssociation defs d numb w :=
  mkAssociation_eq d numb w

/-- mk_association on an R_COMP row (mk_derived_association: `pass`) and without any R206 subtype row (`handler.get('NoneType')`
    is None and is called: TypeError), for every diagram and rows -/
theorem derived_and_untyped_association_as_in_source (d : ClassDiagram) (numb : Nat) (w : RelRows) :
    (w.dispatch = .comp → expected numb (mkAssociation d w) = iMkAssociation defs d numb w) ∧
    (w.dispatch = .none → expected numb (mkAssociation d w) = iMkAssociation defs d numb w) :=
  ⟨fun _ => mkAssociation_eq d numb w, fun _ => mkAssociation_eq d numb w⟩

/-- mk_association -> mk_linked_association with its nested _mk_assoc called twice ((R_AONE, R_AOTH) then (R_AOTH, R_AONE)): the
    link class is the source of both, the OTHER side's Mult / Cond are the source's, target never many / conditional, phrases
    side1 / side2 on a reflexive relationship — for every diagram and rows whose three ends exist and resolve.
    The FULL STATEMENT (the AttributeError endings included) is `linked_association_as_in_source` below. -/
theorem linked_association_as_in_source_partial (d : ClassDiagram) (numb : Nat) (w : RelRows) (o t : End) (l : Nat)
    (hd : w.dispatch = .linked) (hone : w.aone = some o) (hoth : w.aoth = some t) (hassr : w.assr = some l)
    (hr : resolvedRel d (RelKind.linked o t l w.refsOne w.refsOth).asRel = true) :
    expected numb (mkAssociation d w) = iMkAssociation defs d numb w :=
  mkAssociation_eq d numb w

/-- mk_association -> mk_linked_association, for EVERY diagram, number and rows of a relationship with an R_ASSOC row, every ending
    included (Proofs/ExtractShapeLinked.lean): next to the two associations of `_partial`, AttributeError exactly when an end row
    (R_AONE / R_AOTH / R_ASSR), a class or an attribute of an O_REF row is missing.  In the order the IR evaluates: without R_AONE
    `side1.Obj_ID` of the first `_mk_assoc` raises (`_get_related_attributes(r_rgo, None)` has returned two empty lists); without
    R_ASSR `r_rgo.OIR_ID` raises in the filter of `_get_related_attributes` when an O_REF hangs on R_AONE's R_RTO, else
    `side2.Obj_ID` (no R_AOTH) or `source_o_obj.Key_Lett`; with R_ASSR an unresolved O_REF raises `o_attr.Name`, then
    `side2.Obj_ID`, `source_o_obj.Key_Lett` (link class), `target_o_obj.Key_Lett` (side1's class), and the same in the second
    `_mk_assoc` — the model reports AttributeError for each of them (the first `define_association` already made is lost with
    the exception in both) -/
theorem linked_association_as_in_source (d : ClassDiagram) (numb : Nat) (w : RelRows) (hd : w.dispatch = .linked) :
    expected numb (mkAssociation d w) = iMkAssociation defs d numb w :=
  mkAssociation_eq d numb w

/-- the theorems applied: the formalised B -> A relationship, the unformalised reflexive one (AttributeError-free), a simple
    relationship without participants (AttributeError) and the linked one of `tieLinked` -/
example : iMkAssociation defs tieD 7 (tieSimple true false false true) =
    expected 7 (mkAssociation tieD (tieSimple true false false true)) :=
  (simple_association_as_in_source tieD 7 _ (by decide +kernel)).symm
example : iMkAssociation defs tieD 7 (tieUnformalised true false false true) =
    expected 7 (mkAssociation tieD (tieUnformalised true false false true)) :=
  (simple_association_as_in_source tieD 7 _ (by decide +kernel)).symm
example : iMkAssociation defs tieD 7 { simp := true } = .error .attributeError :=
  (simple_association_as_in_source tieD 7 { simp := true } (by decide +kernel)).symm
example : iMkAssociation defs tieD 7 (tieLinked true false false true) =
    expected 7 (mkAssociation tieD (tieLinked true false false true)) :=
  (linked_association_as_in_source_partial tieD 7 _ _ _ _ (by decide +kernel) rfl rfl rfl (by decide +kernel)).symm
/-- non-vacuity of the error endings: a linked relationship without its R_ASSR row, one without R_AONE, one whose link class
    does not exist, one whose second O_REF list names a missing attribute (the first `_mk_assoc` has already defined) -/
example : iMkAssociation defs tieD 7 { tieLinked true false false true with assr := none } = .error .attributeError :=
  (linked_association_as_in_source tieD 7 { tieLinked true false false true with assr := none } (by decide +kernel)).symm
example : iMkAssociation defs tieD 7 { tieLinked true false false true with aone := none } = .error .attributeError :=
  (linked_association_as_in_source tieD 7 { tieLinked true false false true with aone := none } (by decide +kernel)).symm
example : iMkAssociation defs tieD 7 { tieLinked true false false true with assr := some 9, refsOne := [], refsOth := [] } =
    .error .attributeError :=
  (linked_association_as_in_source tieD 7
    { tieLinked true false false true with assr := some 9, refsOne := [], refsOth := [] } (by decide +kernel)).symm
example : iMkAssociation defs tieD 7 { tieLinked true false false true with refsOth := [{ rattr := 1, iattr := 5 }] } =
    .error .attributeError :=
  (linked_association_as_in_source tieD 7
    { tieLinked true false false true with refsOth := [{ rattr := 1, iattr := 5 }] } (by decide +kernel)).symm
/-- … and as a Boolean test -/
example : sameR (iMkAssociation defs tieD 7 { tieLinked true false false true with assr := none }) (.error .attributeError) = true := by
  rw [← mkAssociation_eq]; decide +kernel

/-- mk_association -> mk_subsuper_association, for EVERY diagram, number and rows of a relationship dispatched to its R_SUBSUP row,
    the loop `for r_sub in many(r_subsup).R_SUB[213]()` included (Proofs/ExtractShapeSubsup.lean: `subLoop`, induction over the
    row list) and every ending: ONE `define_association` per R_SUB row, in row order, all with the relationship's number — the
    subtype class is the source (conditional, never many, no phrase), the supertype class the target, the keys are the names of
    the O_REF rows of THAT subtype (the OIR_ID filter of `_get_related_attributes` separates the subtypes' rows: `subRefs_at`);
    nothing at all without R_SUB rows (the supertype is never dereferenced then); AttributeError, with at least one R_SUB row,
    exactly when the R_SUPER row, a class or an attribute of an O_REF row is missing.  In the order the IR evaluates: without
    R_SUPER the first pass raises `source_o_obj.Key_Lett` / `target_o_obj.Key_Lett` (`_get_related_attributes(r_rgo, None)` has
    returned two empty lists); with R_SUPER the first row j whose pair does not resolve raises `o_attr.Name` (an O_REF row),
    `source_o_obj.Key_Lett` (subtype class) or `target_o_obj.Key_Lett` (supertype class) — the `define_association` calls of
    the rows before j are lost with the exception, the model reports AttributeError -/
theorem subsuper_association_as_in_source (d : ClassDiagram) (numb : Nat) (w : RelRows) (hd : w.dispatch = .subsup) :
    expected numb (mkAssociation d w) = iMkAssociation defs d numb w :=
  mkAssociation_eq d numb w

/-- CAPSTONE: `mk_association(m, r_rel)` of the generated IR — the dispatch over the R206 subtype row and each of
    mk_simple_association / mk_linked_association (+ _mk_assoc) / mk_subsuper_association / mk_derived_association /
    _get_related_attributes behind it — ends as the model's `mkAssociation` says, for EVERY diagram, relationship number and
    rows, every `define_association` argument and every AttributeError / TypeError ending included -/
theorem association_as_in_source (d : ClassDiagram) (numb : Nat) (w : RelRows) :
    expected numb (mkAssociation d w) = iMkAssociation defs d numb w :=
  mkAssociation_eq d numb w

/-- the theorems applied: two subtype rows on one supertype (two associations B -> A with the number 7, each with its own key) … -/
example : iMkAssociation defs tieD 7 tieSubsup =
    .ok [(7, { src := { kind := "B", keys := ["A_Id"], many := false, cond := true, phrase := "" },
               tgt := { kind := "A", keys := ["Id"], many := false, cond := false, phrase := "" } }),
         (7, { src := { kind := "B", keys := ["Id"], many := false, cond := true, phrase := "" },
               tgt := { kind := "A", keys := ["Id"], many := false, cond := false, phrase := "" } })] :=
  (subsuper_association_as_in_source tieD 7 tieSubsup (by decide +kernel)).symm
/-- … the error endings and the silent one: no R_SUB row (nothing defined, even without R_SUPER), no R_SUPER row, a supertype class
    that does not exist, a SECOND subtype row whose O_REF names a missing attribute (the first row has already defined), a
    missing subtype class -/
example : iMkAssociation defs tieD 7 { subsup := true } = .ok [] :=
  (association_as_in_source tieD 7 { subsup := true }).symm
example : iMkAssociation defs tieD 7 { tieSubsup with super := none } = .error .attributeError :=
  (association_as_in_source tieD 7 { tieSubsup with super := none }).symm
example : iMkAssociation defs tieD 7 { tieSubsup with super := some 9 } = .error .attributeError :=
  (association_as_in_source tieD 7 { tieSubsup with super := some 9 }).symm
example : iMkAssociation defs tieD 7
    { tieSubsup with subs := [(2, [{ rattr := 2, iattr := 1 }]), (2, [{ rattr := 5, iattr := 1 }])] } = .error .attributeError :=
  (association_as_in_source tieD 7 _).symm
example : iMkAssociation defs tieD 7 { tieSubsup with subs := [(2, []), (9, [])] } = .error .attributeError :=
  (association_as_in_source tieD 7 _).symm
/-- … and as a Boolean test -/
example : sameR (iMkAssociation defs tieD 7
    { tieSubsup with subs := [(2, [{ rattr := 2, iattr := 1 }]), (2, [{ rattr := 5, iattr := 1 }])] }) (.error .attributeError) = true := by
  rw [← mkAssociation_eq]; decide +kernel

end PyxProps.C14

/-!
  SOURCE TIE: is_global.  Proofs/ExtractShapeScope.lean: the population `scopeWorld`
  (PE_PE rows by the `Parent` they denote, EP_PKG / C_C rows = containers, R8000 / R8003 / R8001, R1402 'is referenced by' over
  the EP_PKGREF rows) and `is_global` of the generated IR against `globalFuel` / `isGlobal`.  Partial correctness: WHENEVER the
  interpretation returns, it returns the model's value (the reading the `oracle` of Proofs/XsdShape.lean (C20) gives to ooaofooa.is_global).
  For `is_contained_in` the R1402 loop is tied here (`contained_reference_loop_as_in_source`), the whole function in the next section.
-/
namespace PyxProps.C14
open Pyx.Extract Pyx.XShape Pyx.Gen.ExtractShape

/-- `is_global(x)` interpreted from the IR generated from the source, for x a PE_PE, an EP_PKG or a C_C row of ANY container list:
    whenever the call returns at recursion depth f, it returns `globalFuel cs f` of the Parent x stands for and defines nothing
    (a C_C on the way up: False; no package / a Package_ID naming no EP_PKG row: True; else the package's own PE_PE, recursively;
    package references are not followed); on `TreeOk` and with f above the number of containers that is `isGlobal` itself -/
theorem is_global_as_in_source (cs : List Container) (rf : List PkgRef) (f : Nat) (x : SI) (Lc : Loc SI) (C : Calls SI)
    (v : Val SI) (C' : Calls SI) (h : callAt (scopeWorld cs rf) defs f "is_global" [.inst (some x)] Lc C = .ok (v, C'))
    (p : Parent) (hp : parentOf (some x) = some p) :
    (v = .bool (globalFuel cs f p) ∧ C' = C) ∧
    (TreeOk cs rf → cs.length < f → v = .bool (isGlobal cs p)) := by
  have h1 := isGlobal_sound cs rf f x Lc C v C' h p hp
  refine ⟨h1, fun tree hf => ?_⟩
  rw [h1.1]
  congr 1
  obtain ⟨depth, hdec, _, hb⟩ := tree.ex
  have h2 := global_fuel depth hdec f p (by have := hb p; omega)
  have h3 := global_iff tree p
  exact Bool.eq_iff_iff.mpr (h2.trans h3.symm)

/-- what the state a loop ends in says about a disjunction `b`: `return True` = b, fallen through = not b -/
def loopSays (s : Sig SI) (b : Bool) : Prop :=
  match s with
  | .ret v => v = .bool true ∧ b = true
  | .next => b = false
  | .cont => False

/-- a Boolean result without `define_*` calls -/
def boolRun : Except Err (Val SI × Calls SI) → Option Bool
  | .ok (.bool b, []) => some b
  | _ => none

/-- the loop of `is_contained_in` over the packages REFERRING to a package (R1402 'is referenced by'), for every list of referring
    packages: given that the recursive calls return the model's value at depth f, the loop returns True exactly when
    `containedFuel … f` holds for the parent of one of them (in row order, first hit returns), defines nothing and keeps `root`;
    `any_referrers`: that disjunction IS the `rf.any …` clause of `containedFuel` -/
theorem contained_reference_loop_as_in_source (cs : List Container) (rf : List PkgRef) (root : Nat) (kr : Container)
    (cf : CallF SI) (f fuel i : Nat) (hs : SoundF cs rf root kr cf f) (L : Loc SI) (C : Calls SI) (L1 : Loc SI) (C1 : Calls SI)
    (s : Sig SI) (hr : L "root" = .inst (some (SI.comp kr)))
    (h : forLoop (fun x L' C' => iStmts (scopeWorld cs rf) cf fuel
            (match is_contained_in.body.drop 5 with
             | [.forNav _ _ body, _] => body
             | _ => [])
            (L'.set "ep_pkg" (.inst (some x))) C')
          ((referrers cs rf i).map SI.pkg) L C = .ok (L1, C1, s)) :
    C1 = C ∧ loopSays s (rf.any (fun r => r.referred == i &&
      match findContainer cs false r.referring with
      | some kq => containedFuel cs rf root f kq.parent
      | none => false)) := by
  suffices C1 = C ∧ loopSays s ((referrers cs rf i).any fun kq => containedFuel cs rf root f kq.parent) by
    rw [any_referrers] at this
    exact this
  rcases refLoop_sound cs rf root kr cf f fuel hs (referrers cs rf i) L C hr with ⟨e, he⟩ | ⟨L2, he⟩
  · cases he.symm.trans h
  · have h' := he.symm.trans h
    cases hb : (referrers cs rf i).any (fun kq => containedFuel cs rf root f kq.parent) <;> simp only [hb] at h' <;> cases h' <;>
      exact ⟨rfl, by simp [loopSays]⟩

/-- applied: a package inside a component is not global, at depth 3 of a two-container tree -/
example : boolRun (callAt (scopeWorld [⟨true, 1, "C", .none⟩, ⟨false, 2, "P", .comp 1⟩] []) defs 3 "is_global"
    [.inst (some (SI.pe (.pkg 2)))] Loc.empty []) = some false := by decide +kernel
example : isGlobal [⟨true, 1, "C", .none⟩, ⟨false, 2, "P", .comp 1⟩] (.pkg 2) = false := by decide +kernel

private theorem cic_run :
    boolRun (callAt (scopeWorld [⟨true, 1, "C", .none⟩, ⟨false, 2, "P", .comp 1⟩, ⟨false, 3, "Q", .none⟩] [⟨2, 3⟩]) defs 6
      "is_contained_in" [.inst (some (SI.pe (.pkg 3))), .inst (some (SI.comp ⟨true, 1, "C", .none⟩))] Loc.empty []) =
      some true := by decide +kernel

/-- is_contained_in interpreted on a concrete tree with a package reference (package 3, global, is referred to by package 2 inside
    component 1): contained through the reference, as `containedIn` says (a kernel-evaluated instance, not the general theorem) -/
example : boolRun (callAt (scopeWorld [⟨true, 1, "C", .none⟩, ⟨false, 2, "P", .comp 1⟩, ⟨false, 3, "Q", .none⟩] [⟨2, 3⟩]) defs 6
      "is_contained_in" [.inst (some (SI.pe (.pkg 3))), .inst (some (SI.comp ⟨true, 1, "C", .none⟩))] Loc.empty []) =
      some true ∧
    containedIn [⟨true, 1, "C", .none⟩, ⟨false, 2, "P", .comp 1⟩, ⟨false, 3, "Q", .none⟩] [⟨2, 3⟩] 1 (.pkg 3) = true :=
  ⟨cic_run, by decide +kernel⟩

end PyxProps.C14

/-!
  SOURCE TIE: is_contained_in.  Proofs/ExtractShapeScope.lean: the whole function
  `is_contained_in` of the generated IR against `containedFuel` / `containedIn` (`contained_sound_interp`: induction over the
  recursion depth).  Partial correctness:
  WHENEVER the interpretation returns, it returns the model's value — termination of the interpreted recursion (Python:
  RecursionError on cyclic containment) is not proved.  This is the reading the `oracle` of Proofs/XsdShape.lean (C20) gives to
  ooaofooa.is_contained_in.
-/
namespace PyxProps.C14
open Pyx.Extract Pyx.XShape Pyx.Gen.ExtractShape

/-- `is_contained_in(x, root)` interpreted from the IR generated from the source, for ANY containers and EP_PKGREF rows, root the
    C_C row with id `root`, x None / a PE_PE / an EP_PKG / a C_C: whenever the call returns at recursion depth f it returns
    `containedFuel cs rf root f` of the Parent x stands for (False for None) and defines nothing — `root in [ep_pkg, c_c]`, up
    over R8000 / R8003 through the container's own PE_PE (R8001), and from the package over R1402 'is referenced by' to every
    package REFERRING to it; on `TreeOk` and with f above the number of containers that is `containedIn` itself -/
theorem is_contained_in_as_in_source (cs : List Container) (rf : List PkgRef) (root : Nat) (kr : Container)
    (hkr : findContainer cs true root = some kr) (f : Nat) (xo : Option SI) (Lc : Loc SI) (C : Calls SI) (v : Val SI)
    (C' : Calls SI)
    (h : callAt (scopeWorld cs rf) defs f "is_contained_in" [.inst xo, .inst (some (SI.comp kr))] Lc C = .ok (v, C')) :
    (v = .bool (cont cs rf root f xo) ∧ C' = C) ∧
    (∀ p, parentOf xo = some p → TreeOk cs rf → cs.length < f → v = .bool (containedIn cs rf root p)) := by
  have h1 := contained_sound_interp cs rf root kr hkr f xo Lc C v C' h
  refine ⟨h1, fun p hp tree hf => ?_⟩
  rw [h1.1]
  simp only [cont, hp]
  rw [restrict_fuel_sufficient tree root p f hf]

/-- applied to the call of the example above (package 3, global, referred to by package 2 inside component 1) -/
example : boolRun (callAt (scopeWorld [⟨true, 1, "C", .none⟩, ⟨false, 2, "P", .comp 1⟩, ⟨false, 3, "Q", .none⟩] [⟨2, 3⟩]) defs 6
      "is_contained_in" [.inst (some (SI.pe (.pkg 3))), .inst (some (SI.comp ⟨true, 1, "C", .none⟩))] Loc.empty []) =
    some (containedFuel [⟨true, 1, "C", .none⟩, ⟨false, 2, "P", .comp 1⟩, ⟨false, 3, "Q", .none⟩] [⟨2, 3⟩] 1 6 (.pkg 3)) := by
  rw [cic_run]
  decide +kernel

end PyxProps.C14

/-!
  SOURCE TIE: the identifiers of mk_class.  Proofs/ExtractShapeClass.lean: the identifier loop of
  `mk_class` (`for o_id in many(o_obj).O_ID[104](): …`) of the generated IR against `identOf` / `classOf … .idents`, over the
  population `classWorld` (O_ID rows of the class in modeled order, their O_OIDA rows in modeled order, R105 to the attribute with
  that id if the class has it, O_BATTR / O_DBATTR for derived attributes; hand-written).
-/
namespace PyxProps.C14
open Pyx.Extract Pyx.XShape Pyx.Gen.ExtractShape

/-- the identifier loop of mk_class, interpreted from the IR generated from the source, for EVERY class and both settings of
    `derived_attributes`: it ends normally and records, in O_ID row order, exactly one `define_unique_identifier(Key_Lett,
    Oid_ID + 1, *names)` per identifier that holds no left-out derived attribute (such an identifier is dropped AS A WHOLE —
    `continue` before any name is collected), names = the attribute names in O_OIDA order; read as the metamodel keeps them
    (`decodeIdent`: an identifier without attributes is ignored by define_unique_identifier) these are the model's
    `(classOf d drv c).idents` -/
theorem class_identifiers_as_in_source (d : ClassDiagram) (c : Class) (cf : CallF CI) (fuel : Nat) (drv : Bool) (L : Loc CI)
    (C : Calls CI) (h1 : L "o_obj" = .inst (some CI.obj)) (h2 : L "derived_attributes" = .bool drv) :
    ∃ L' new, iStmt (classWorld c) cf fuel
        (match mk_class.body with
         | [_, _, _, _, s, _, _, _] => s
         | _ => .pass) L C = .ok (L', C ++ new, .next) ∧
      new.filterMap decodeIdent = (classOf d drv c).idents ∧
      (∀ k ∈ new, k.fn = "define_unique_identifier" ∧ k.args.lookup "0" = some (.str c.kl)) := by
  obtain ⟨L', hL⟩ := idLoop c cf fuel drv c.idents L C h1 h2
  refine ⟨L', c.idents.filterMap (idCall drv c), ?_, ?_, ?_⟩
  · have hn : eNav (classWorld c) L idNav = .ok (.insts (c.idents.map CI.oid)) := by
      simp only [idNav, xsh, h1]
    show iStmt (classWorld c) cf fuel (.forNav "o_id" idNav idBody) L C = _
    simp only [iStmt, hn]
    exact hL
  · rw [idCalls_identOf]
    rfl
  · intro k hk
    obtain ⟨i, _, hi⟩ := List.mem_filterMap.mp hk
    unfold idCall at hi
    split at hi
    · cases hi
    · cases hi; exact ⟨rfl, rfl⟩

/-- applied: identifier 0 over (Id), identifier 1 over (Code, Total) with Total derived, identifier 2 over (Code): without derived
    attributes *2 is dropped as a whole (not truncated to (Code)), numbers come from Oid_ID (not from the row position) -/
example : (classOf { containers := [], dts := [], classes := [], rels := [] } false
    { id := 1, kl := "ORD", attrs := [⟨1, "Id", .base 1⟩, ⟨2, "Code", .base 1⟩, ⟨3, "Total", .derived 1⟩],
      idents := [⟨0, [1]⟩, ⟨2, [2]⟩, ⟨1, [2, 3]⟩], parent := .none }).idents = [⟨1, ["Id"]⟩, ⟨3, ["Code"]⟩] := by
  decide +kernel
example : True := by
  have _h := class_identifiers_as_in_source { containers := [], dts := [], classes := [], rels := [] }
    { id := 1, kl := "ORD", attrs := [⟨1, "Id", .base 1⟩, ⟨2, "Code", .base 1⟩, ⟨3, "Total", .derived 1⟩],
      idents := [⟨0, [1]⟩, ⟨2, [2]⟩, ⟨1, [2, 3]⟩], parent := .none } (fun _ _ _ _ => .error .stuck) 0 false
    ((Loc.empty.set "o_obj" (.inst (some CI.obj))).set "derived_attributes" (.bool false)) [] rfl rfl
  trivial

end PyxProps.C14

/-!
  SOURCE TIE: the attributes of mk_class.  Proofs/ExtractShapeAttrs.lean: the attribute loop of `mk_class`
  (`while o_attr: …` along R103 'precedes') of the generated IR against `sattr` / `classOf … .attrs`, over the population
  `attrWorld` (the attributes of the class by position on the R103 chain = the model's `Class.attrs`; hand-written).  The two type
  calls get_attribute_type / _get_data_type_name are read through an ORACLE (`TyOracle`: they return the model's `attrTy`;
  `_get_data_type_name` itself is tied by `type_mapping_as_in_source`, get_attribute_type is not).  Not covered: the choice of the
  first attribute (`first_filter`: the one that succeeds none) and the hand-over `list(attributes)` to define_class.
-/
namespace PyxProps.C14
open Pyx.Extract Pyx.XShape Pyx.Gen.ExtractShape

/-- the attribute loop of mk_class, interpreted from the IR generated from the source, for EVERY class of every diagram and both
    settings of `derived_attributes`, started at the first attribute of the R103 chain with `attributes = list()`: it terminates
    (fuel above the number of attributes), defines nothing, and leaves in `attributes`, in R103 order, exactly the (name, type)
    pairs of the model's `(classOf d drv c).attrs` — a derived attribute is skipped unless requested, an attribute without a
    supported type is skipped, the pair is (o_attr.Name, ty) — given that the two type calls return the model's type (`TyOracle`) -/
theorem class_attributes_as_in_source (d : ClassDiagram) (c : Class) (cf : CallF AI) (fuel : Nat) (O : TyOracle d c cf)
    (drv : Bool) (L : Loc AI) (C : Calls AI) (hf : c.attrs.length < fuel)
    (h1 : L "o_attr" = .inst (if c.attrs = [] then none else some (AI.pos 0)))
    (h2 : L "derived_attributes" = .bool drv) (h3 : L "attributes" = .strs []) :
    ∃ L', iStmt (attrWorld c) cf fuel
        (match mk_class.body with
         | [_, _, s, _, _, _, _, _] => s
         | _ => .pass) L C = .ok (L', C, .next) ∧
      L' "attributes" = accVal ((classOf d drv c).attrs.map pairOf) := by
  obtain ⟨L', hL, hacc⟩ := attrLoop d c cf fuel O drv c.attrs [] L C [] fuel (by simp) (by simpa using h1) h2 h3 hf
  refine ⟨L', ?_, by simpa [classOf] using hacc⟩
  show iStmt (attrWorld c) cf fuel (.whileVar "o_attr" attrBody) L C = _
  simp only [iStmt]
  exact hL

/-- applied: Id (integer), Total (derived, left out), Note (no supported type, left out), Code (string) — with an oracle built from
    the model's own `attrTy` -/
def tieAttrD : ClassDiagram :=
  { containers := [], dts := [⟨1, "integer", .core 2, .none⟩, ⟨2, "string", .core 4, .none⟩, ⟨3, "odd", .other, .none⟩],
    classes := [], rels := [] }
def tieAttrC : Class :=
  { id := 1, kl := "ORD", attrs := [⟨1, "Id", .base 1⟩, ⟨2, "Total", .derived 1⟩, ⟨3, "Note", .base 3⟩, ⟨4, "Code", .base 2⟩],
    idents := [], parent := .none }
example : (classOf tieAttrD false tieAttrC).attrs = [⟨"Id", "INTEGER"⟩, ⟨"Code", "STRING"⟩] := by decide +kernel
def tieAttrCf : CallF AI := fun f args _ C =>
  if f = "get_attribute_type" then
    (match args with
     | [.inst (some (AI.pos k))] => .ok (.nat k, C)
     | _ => .error .stuck)
  else if f = "_get_data_type_name" then
    (match args with
     | [.nat k] => .ok (tyVal ((tieAttrC.attrs[k]?).bind (attrTy tieAttrD)), C)
     | _ => .error .stuck)
  else .error .stuck
example : True := by
  have _h := class_attributes_as_in_source tieAttrD tieAttrC tieAttrCf 5
    { tok := fun k => .nat k, h1 := fun _ _ _ => rfl, h2 := fun _ _ _ => rfl } false
    (((Loc.empty.set "o_attr" (.inst (some (AI.pos 0)))).set "derived_attributes" (.bool false)).set "attributes" (.strs [])) []
    (by decide +kernel) (by simp [Loc.set, tieAttrC]) (by simp [Loc.set]) (by simp [Loc.set])
  trivial

end PyxProps.C14
