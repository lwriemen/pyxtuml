import Proofs.InterpQuery
import Proofs.InterpWF
import Proofs.InterpOps
import Proofs.InterpNav
import Proofs.InterpBridge
import Proofs.InterpUnroll
import Proofs.InterpExamples
import Proofs.InterpShapeMore

/-!
  C04 — Interpreted OAL computes what the action language defines.
  Helper lemmas: Proofs/Interp*.lean.

  Model: `PyxModel/Interp/Spec.lean` — the reference semantics `Spec`: a definitional big-step interpreter with
  fuel over a plain relational state (`PyxModel/Interp/State.lean`).  The theorems below say that `Spec` IS the
  language's rules (for programs of any size / nesting, populations of any size, any amount of fuel); that the
  implementation computes what `Spec` computes is decided on every run by the correspondence harness
  (harness/prop_C04.py), and `ops_table` ties the operator tables of `interpret.py` (regenerated into
  `Gen/InterpOps.lean`) to the operations `Spec` uses.  The second half of the file (from "the statement structure of the
  handlers") ties the statement clauses too: each clause of `Spec` equals the generic interpretation (Proofs/InterpShape.lean) of
  the handler body that translator/gen_interpshape.py reads from `interpret.py` into `Gen/InterpShape.lean`.

  Judgements: `Evals C e c r`, `Execs C s c r`, `BlockExecs`, `ListExecs`, `ElifsExecs`, `ItemsExecs` — "some amount
  of fuel delivers the result r" (r is a value/outcome with the next configuration, or a domain error).
-/
namespace PyxProps.C04
open Pyx.Interp

/-- more fuel never changes a defined result (expressions, statements, whole runs) -/
theorem spec_fuel_mono (C : Ctx) {n m : Nat} (h : n ≤ m) :
    (∀ e c r, (run C n).eval e c = some r → (run C m).eval e c = some r) ∧
    (∀ s c r, (run C n).exec s c = some r → (run C m).exec s c = some r) ∧
    (∀ body kw st r, runFunction C n body kw st = some r → runFunction C m body kw st = some r) := by
  have hle := run_mono C h
  refine ⟨fun e c r => hle.1 e c r, fun s c r => hle.2 s c r, ?_⟩
  intro body kw st r hr
  unfold runFunction at hr ⊢
  cases hb : runBody (run C n) body { fr := mkFrame .function kw .none, st := st } with
  | none => rw [hb] at hr; cases hr
  | some x => rw [hb] at hr; rw [runBody_le hle body _ _ hb]; exact hr

/-- hence a program has at most one result, whatever the fuel -/
theorem spec_deterministic (C : Ctx) :
    (∀ e c r r', Evals C e c r → Evals C e c r' → r = r') ∧
    (∀ s c r r', Execs C s c r → Execs C s c r' → r = r') :=
  ⟨fun _ _ _ _ => Evals.det, fun _ _ _ _ => Execs.det⟩

/-- `if` on a true condition runs the then-block, on a false one the elif/else part
    [spec equation: one clause of `execStep`, lifted over fuel] -/
theorem spec_laws_if (C : Ctx) (c : Expr) (thn : Block) (elifs : List (Expr × Block)) (els : Option Block)
    (cfg c1 : Cfg) (r : Except Err (Out × Cfg)) :
    (Evals C c cfg (.ok (.bool true, c1)) → (Execs C (.ifS c thn elifs els) cfg r ↔ BlockExecs C thn c1 r)) ∧
    (Evals C c cfg (.ok (.bool false, c1)) → (Execs C (.ifS c thn elifs els) cfg r ↔ ElifsExecs C elifs els c1 r)) :=
  ⟨fun h => ifS_true h, fun h => ifS_false h⟩

/-- an elif chain is the nested if; the end of the chain is the else block, or nothing
    [spec equation] -/
theorem spec_laws_elif (C : Ctx) (c : Expr) (b : Block) (rest : List (Expr × Block)) (els : Option Block)
    (cfg : Cfg) (r : Except Err (Out × Cfg)) :
    (ElifsExecs C ((c, b) :: rest) els cfg r ↔ Execs C (.ifS c b rest els) cfg r) ∧
    ElifsExecs C [] none cfg (.ok (.normal, cfg)) ∧
    (∀ e, ElifsExecs C [] (some e) cfg r ↔ BlockExecs C e cfg r) :=
  ⟨elif_is_nested_if, elifs_nil_none, fun _ => elifs_nil_else⟩

/-- `while c B` = `if c then (B ; while c B)` with break / continue caught at this loop and return / stop passed on:
    the three rules, and every successful run is an instance of them -/
theorem spec_laws_while (C : Ctx) (c : Expr) (body : Block) (cfg : Cfg) :
    (∀ c1, Evals C c cfg (.ok (.bool false, c1)) → Execs C (.whileS c body) cfg (.ok (.normal, c1))) ∧
    (∀ c1 c2 o r, Evals C c cfg (.ok (.bool true, c1)) → BlockExecs C body c1 (.ok (o, c2)) →
        whileAfter C c body o c2 r → Execs C (.whileS c body) cfg r) ∧
    (∀ o' c', Execs C (.whileS c body) cfg (.ok (o', c')) →
        (Evals C c cfg (.ok (.bool false, c')) ∧ o' = .normal) ∨
        (∃ c1 c2 o, Evals C c cfg (.ok (.bool true, c1)) ∧ BlockExecs C body c1 (.ok (o, c2)) ∧
          whileAfter C c body o c2 (.ok (o', c')))) :=
  ⟨fun _ h => while_false h, fun _ _ _ _ h1 h2 h3 => while_true h1 h2 h3, fun _ _ h => while_inv h⟩

/-- what "go round again / leave the loop" means after one round (`whileAfter`), spelled out
    [spec equation: `whileAfter` unfolded, by definition] -/
theorem spec_laws_while_after (C : Ctx) (c : Expr) (body : Block) (c2 : Cfg) (r : Except Err (Out × Cfg)) :
    (whileAfter C c body .normal c2 r ↔ Execs C (.whileS c body) c2 r) ∧
    (whileAfter C c body .cont c2 r ↔ Execs C (.whileS c body) c2 r) ∧
    (whileAfter C c body .brk c2 r ↔ r = .ok (.normal, c2)) ∧
    (whileAfter C c body .ret c2 r ↔ r = .ok (.ret, c2)) ∧
    (whileAfter C c body .retBare c2 r ↔ r = .ok (.retBare, c2)) ∧
    (whileAfter C c body .stop c2 r ↔ r = .ok (.stop, c2)) :=
  ⟨Iff.rfl, Iff.rfl, Iff.rfl, Iff.rfl, Iff.rfl, Iff.rfl⟩

/-- **loop unrolling, errors included**: the outcome `r` of `while c body` — a completed outcome or a domain error — is
    exactly one of: the condition's error; a non-boolean condition (error); condition false: normal completion; condition
    true and the body's error; condition true, the body completes with outcome `o`, and `r` is what `whileAfter`
    prescribes (normal / continue: the outcome of the same loop started after the body; break: normal; return / stop:
    passed on).  An equivalence, for every amount of fuel. -/
theorem spec_laws_while_unroll (C : Ctx) (c : Expr) (body : Block) (cfg : Cfg) (r : Except Err (Out × Cfg)) :
    Execs C (.whileS c body) cfg r ↔
      (∃ e, Evals C c cfg (.error e) ∧ r = .error e) ∨
      (∃ v c1 e, Evals C c cfg (.ok (v, c1)) ∧ boolOf v = none ∧ asBool v c1 = some (.error e) ∧ r = .error e) ∨
      (∃ c1, Evals C c cfg (.ok (.bool false, c1)) ∧ r = .ok (.normal, c1)) ∨
      (∃ c1 e, Evals C c cfg (.ok (.bool true, c1)) ∧ BlockExecs C body c1 (.error e) ∧ r = .error e) ∨
      (∃ c1 c2 o, Evals C c cfg (.ok (.bool true, c1)) ∧ BlockExecs C body c1 (.ok (o, c2)) ∧
        whileAfter C c body o c2 r) :=
  while_unroll

/-- `for each v in s` reads the set ONCE (a snapshot) and is the sequential composition of the body over its
    elements in set order, the loop variable being assigned in the block that holds the loop
    [spec equation, lifted over fuel] -/
theorem spec_laws_foreach (C : Ctx) (v setv : String) (body : Block) (items : List Inst) (cfg : Cfg)
    (r : Except Err (Out × Cfg)) :
    (selfHit cfg.fr setv = false → envLookup cfg.fr.env setv = some (.set items) →
        (Execs C (.forEach v setv body) cfg r ↔ ItemsExecs C v body items cfg r)) ∧
    ItemsExecs C v body [] cfg (.ok (.normal, cfg)) ∧
    (∀ i rest c2 o,
        BlockExecs C body { cfg with fr := { cfg.fr with env := envInstall cfg.fr.env v (.inst i) } } (.ok (o, c2)) →
        itemsAfter C v body rest o c2 r → ItemsExecs C v body (i :: rest) cfg r) :=
  ⟨fun h0 h => foreach_is_items h0 h, items_nil, fun _ _ _ _ h1 h2 => items_cons h1 h2⟩

/-- [spec equation: `itemsAfter` unfolded, by definition] -/
theorem spec_laws_foreach_after (C : Ctx) (v : String) (body : Block) (rest : List Inst) (c2 : Cfg)
    (r : Except Err (Out × Cfg)) :
    (itemsAfter C v body rest .normal c2 r ↔ ItemsExecs C v body rest c2 r) ∧
    (itemsAfter C v body rest .cont c2 r ↔ ItemsExecs C v body rest c2 r) ∧
    (itemsAfter C v body rest .brk c2 r ↔ r = .ok (.normal, c2)) ∧
    (itemsAfter C v body rest .ret c2 r ↔ r = .ok (.ret, c2)) ∧
    (itemsAfter C v body rest .retBare c2 r ↔ r = .ok (.retBare, c2)) ∧
    (itemsAfter C v body rest .stop c2 r ↔ r = .ok (.stop, c2)) :=
  ⟨Iff.rfl, Iff.rfl, Iff.rfl, Iff.rfl, Iff.rfl, Iff.rfl⟩

/-- sequencing; `break`, `continue`, `return`, `control stop` abort the rest of every enclosing list
    [spec equation] -/
theorem spec_laws_sequence (C : Ctx) (s : Stmt) (rest : List Stmt) (cfg c1 : Cfg) :
    ListExecs C [] cfg (.ok (.normal, cfg)) ∧
    (∀ r, Execs C s cfg (.ok (.normal, c1)) → ListExecs C rest c1 r → ListExecs C (s :: rest) cfg r) ∧
    (∀ o, Execs C s cfg (.ok (o, c1)) → o ≠ .normal → ListExecs C (s :: rest) cfg (.ok (o, c1))) :=
  ⟨list_nil, fun _ h1 h2 => list_cons_normal h1 h2, fun _ h1 h2 => list_cons_abrupt h1 h2⟩

/-- the control statements: their outcome, no effect; `return e` additionally stores the value
    [spec equation] -/
theorem spec_laws_control (C : Ctx) (cfg : Cfg) :
    Execs C .brk cfg (.ok (.brk, cfg)) ∧ Execs C .cont cfg (.ok (.cont, cfg)) ∧
    Execs C .stop cfg (.ok (.stop, cfg)) ∧ Execs C (.ret none) cfg (.ok (.retBare, cfg)) ∧
    (∀ e v c1, Evals C e cfg (.ok (v, c1)) →
        Execs C (.ret (some e)) cfg (.ok (.ret, { c1 with fr := { c1.fr with ret := v } }))) :=
  ⟨exec_break, exec_continue, exec_stop, exec_return_bare, fun _ _ _ h => exec_return_value h⟩

/-- a block is its statement list between entering and leaving a block of variables (`enter_block`, `leave_block`); it
    passes the outcome on
    [spec equation] -/
theorem spec_laws_block (C : Ctx) (b : Block) (cfg c' : Cfg) (o : Out) :
    BlockExecs C b cfg (.ok (o, c')) ↔
      ∃ c2, ListExecs C b { cfg with fr := { cfg.fr with env := [] :: cfg.fr.env } } (.ok (o, c2)) ∧
            c' = { c2 with fr := { c2.fr with env := c2.fr.env.tail } } := by
  constructor
  · rintro ⟨n, hn⟩
    obtain ⟨c2, h2, rfl⟩ := bracket_inv hn
    exact ⟨c2, ⟨n, h2⟩, rfl⟩
  · rintro ⟨c2, ⟨n, hn⟩, rfl⟩
    refine ⟨n, ?_⟩
    simp only [execBlock]
    rw [bind_ok (pushBlock_run cfg), bind_ok hn, bind_ok (popBlock_run c2)]
    rfl

/-- block scoping: whatever a block does and however it is left, afterwards every enclosing block holds exactly
    the variable names it held before (block-local variables vanish, outer variables survive) … -/
theorem spec_laws_block_scope (C : Ctx) (n : Nat) (b : Block) (c c' : Cfg) (o : Out)
    (h : execBlock (run C n) b c = some (.ok (o, c'))) : envNames c'.fr.env = envNames c.fr.env :=
  rblk_execBlock C n b c c' o h

/-- … and a statement changes no NAME in the blocks that enclose the one it runs in (a variable first assigned in a
    nested block is created in that innermost block; an existing variable is updated where it lives) -/
theorem spec_laws_stmt_scope (C : Ctx) (n : Nat) (s : Stmt) (c c' : Cfg) (o : Out)
    (h : (run C n).exec s c = some (.ok (o, c'))) (hne : c.fr.env ≠ []) :
    c'.fr.env ≠ [] ∧ envNames c'.fr.env.tail = envNames c.fr.env.tail :=
  rsh_run C n s c o c' h hne

/-- assignment and lookup
    [spec equation + the two lookup laws of `envInstall`] -/
theorem spec_laws_assign (C : Ctx) (x : String) (e : Expr) (cfg c1 : Cfg) (v : Val)
    (he : Evals C e cfg (.ok (v, c1))) :
    Execs C (.assignVar x e) cfg (.ok (.normal, { c1 with fr := { c1.fr with env := envInstall c1.fr.env x v } })) ∧
    envLookup (envInstall c1.fr.env x v) x = some v ∧
    (∀ y, y ≠ x → envLookup (envInstall c1.fr.env x v) y = envLookup c1.fr.env y) :=
  ⟨exec_assign he, by rw [envLookup_install, if_pos rfl], fun _ hy => by rw [envLookup_install, if_neg hy]⟩

/-- `select … where` is a filter: if the clause evaluates for candidate i (with `selected` bound to i) to `p i`
    and leaves the configuration alone, `select many` yields the satisfying candidates without duplicates in
    encounter order and `select any/one` the first of them -/
theorem spec_laws_select_where (rec : Oracle) (wh : Expr) (p : Inst → Bool) (c : Cfg) (cands : List Inst)
    (hp : ∀ i ∈ cands, evalWhere rec wh i c = some (.ok (p i, c))) :
    selectResult rec true cands (some wh) c = some (.ok (.set (dedup (cands.filter p)), c)) ∧
    selectResult rec false cands (some wh) c =
      some (.ok ((match cands.find? p with | none => Val.none | some i => .inst i), c)) :=
  ⟨select_many_where cands hp, select_any_where cands hp⟩

/-- [spec equation + the laws of `dedup`] -/
theorem spec_laws_select_plain (rec : Oracle) (cands : List Inst) (c : Cfg) :
    selectResult rec true cands none c = some (.ok (.set (dedup cands), c)) ∧
    selectResult rec false cands none c = some (.ok ((match cands with | [] => Val.none | i :: _ => .inst i), c)) ∧
    (dedup cands).Nodup ∧ (∀ y, y ∈ dedup cands ↔ y ∈ cands) ∧ (cands.Nodup → dedup cands = cands) :=
  ⟨rfl, rfl, dedup_nodup _, mem_dedup _, dedup_of_nodup _⟩

/-- chain navigation is the relational composition of its steps; a direct step is the image under the
    association's pair list -/
theorem spec_laws_navigation (C : Ctx) (st : State) (steps : List NavStep) (start res : List Inst)
    (h : navChain C st start steps = .ok res) (y : Inst) :
    (y ∈ res ↔ ∃ x ∈ start, PathRel C st steps x y) ∧
    (∀ (l : LinkRef) (i : Inst),
      y ∈ follow st l i ↔ (if l.toSource then (y, i) ∈ st.links l.k else (i, y) ∈ st.links l.k)) :=
  ⟨mem_navChain h y, fun l i => mem_follow st l i y⟩

/-- cardinality / empty / not_empty
    [spec equation] -/
theorem spec_laws_cardinality (i : Inst) (l : List Inst) :
    unop .card .none = .ok (.int 0) ∧ unop .card (.inst i) = .ok (.int 1) ∧ unop .card (.set l) = .ok (.int l.length) ∧
    unop .empty .none = .ok (.bool true) ∧ unop .empty (.inst i) = .ok (.bool false) ∧
    unop .empty (.set l) = .ok (.bool l.isEmpty) ∧
    (∀ v b, unop .empty v = .ok (.bool b) → unop .notEmpty v = .ok (.bool (!b))) :=
  ⟨rfl, rfl, rfl, rfl, rfl, rfl, notEmpty_is_not_empty⟩

/-- arithmetic: `/` truncates toward zero — exactly what the interpreter's `divide` computes on integers for a non-zero
    divisor — and is an error on a zero divisor; `%` is the remainder of that division (`(x / y) * y + x % y = x`, sign of
    the dividend) — exactly what the interpreter's `modulo` computes on integers for a non-zero divisor —, an error on
    a zero divisor, and coincides with every other convention (floor, Euclid) on non-negative
    operands; `+` on strings concatenates; `and` / `or` / `not` are the boolean operations -/
theorem spec_laws_arithmetic (x y : Int) (s t : String) (a b : Bool) :
    (y ≠ 0 → binop .div (.int x) (.int y) = .ok (.int (Int.tdiv x y))) ∧
    (y ≠ 0 → pyDivide x y = Int.tdiv x y) ∧
    (∃ e, binop .div (.int x) (.int 0) = .error e) ∧
    (y ≠ 0 → binop .mod (.int x) (.int y) = .ok (.int (Int.tmod x y))) ∧
    (y ≠ 0 → pyModulo x y = Int.tmod x y) ∧
    (∃ e, binop .mod (.int x) (.int 0) = .error e) ∧
    Int.tdiv x y * y + Int.tmod x y = x ∧
    (0 ≤ x → 0 < y → Int.tmod x y = x % y ∧ Int.tmod x y = Int.fmod x y) ∧
    binop .add (.str s) (.str t) = .ok (.str (s ++ t)) ∧
    binop .add (.int x) (.int y) = .ok (.int (x + y)) ∧
    binop .and (.bool a) (.bool b) = .ok (.bool (a && b)) ∧
    binop .or (.bool a) (.bool b) = .ok (.bool (a || b)) ∧
    unop .not (.bool a) = .ok (.bool (!a)) := by
  refine ⟨fun hy => by simp [binop, hy], pyDivide_eq_tdiv x y, ⟨_, by simp [binop]; rfl⟩, fun hy => by simp [binop, hy],
    pyModulo_eq_tmod x y, ⟨_, by simp [binop]; rfl⟩, Int.tdiv_mul_add_tmod x y, ?_, rfl, rfl, rfl, rfl, rfl⟩
  intro hx hy
  have := mod_conventions_agree x y hx hy
  exact ⟨this.1.symm, this.1.symm.trans this.2⟩

/-- `relate a to b across R using l` is two relates; `unrelate … using` two unrelates
    [spec equation] -/
theorem spec_laws_relate_using (C : Ctx) (x y w : Inst) (rel phrase : String) (st : State) :
    relateUsing C x y w rel phrase st = (relate C x w rel phrase st).bind (relate C w y rel phrase) ∧
    unrelateUsing C x y w rel phrase st = (unrelate C x w rel phrase st).bind (unrelate C w y rel phrase) := by
  constructor
  · unfold relateUsing; cases relate C x w rel phrase st <;> rfl
  · unfold unrelateUsing; cases unrelate C x w rel phrase st <;> rfl

/-- any program run from a well-formed relational state (links only between live instances, no duplicate pairs,
    duplicate-free instance lists below the creation counter) ends in one -/
theorem exec_preserves_wf (C : Ctx) (fuel : Nat) (body : Block) (kw : List (String × Val)) (st st' : State) (v : Val)
    (h : runFunction C fuel body kw st = some (.ok (v, st'))) (wf : WF st) : WF st' :=
  runFunction_rs (wf_ops C) okTrue (fun _ _ _ _ => trivial) fuel body (fun _ _ => trivial) kw st st' v h wf

/-- … and so does every single statement and expression -/
theorem exec_preserves_wf_stmt (C : Ctx) (n : Nat) :
    (∀ s c o c', (run C n).exec s c = some (.ok (o, c')) → WF c.st → WF c'.st) ∧
    (∀ e c v c', (run C n).eval e c = some (.ok (v, c')) → WF c.st → WF c'.st) :=
  ⟨fun s c o c' h => (rwf_run C n).2 s c o c' h, fun e c v c' h => (rwf_run C n).1 e c v c' h⟩

/-! ## the relational store of `Spec` is an abstraction of the mechanism of xtuml/meta.py

  `Pyx.Meta` (PyxModel/Meta.lean, property C02) models the store the code really keeps: instances are global creation
  indices; an association is TWO directed link maps with cardinality-checked `connect`, resolved by `_find_link` over
  kinds and phrase; a rejected relate is undone; delete unrelates every partner.  `Refines kname ι s st` relates a
  mechanism state `s` and a `Spec` state `st` under a naming of classes (`kname`, injective) and of instances
  (`ι`: global index ↦ (class, index in class)): same pools in the same order; the pair list of every association
  holds exactly the linked pairs, once each; and BOTH projections of the pair list give every instance its partners in
  the order of its directed link set — what navigation observes is identical, order included.
  (A relation, not a function: `Spec` keeps one insertion-ordered list per association, whose global order the two
  directed maps do not determine.)  Hypotheses: the invariants `AllInv` of C02 and its schema condition `SchemaOk`. -/

section Store
open Pyx.Meta (AllInv SchemaOk)
variable {kname : Nat → String} {ι : Nat → Inst} {s : Pyx.Meta.State} {st : State}

/-- the initial states correspond -/
theorem store_init (kname : Nat → String) (ι : Nat → Inst) : Refines kname ι Pyx.Meta.init initState :=
  refines_init kname ι

/-- (a) `new` commutes with the abstraction: Spec creates ⟨class, next index of the class⟩ and the extended naming refines -/
theorem store_new (hk : Function.Injective kname) (kinds : List Nat) (sch : Pyx.Meta.Schema)
    (R : Refines kname ι s st) (A : AllInv sch s) (k : Nat) (hkin : k ∈ kinds) (hasId : Bool) :
    ∃ st', newInst (ctxOf kname kinds sch) (kname k) st = .ok (⟨kname k, st.next (kname k)⟩, st') ∧
      Refines kname (extend ι s.count ⟨kname k, st.next (kname k)⟩) (Pyx.Meta.new s k hasId).1 st' :=
  new_refines hk kinds sch R A k hkin hasId

/-- (b) `relate` of any two CREATED instances: accepted by the mechanism (both connects, or already related) ⇒ accepted by
    Spec with corresponding results; rejected (RelateException after the undo or because an instance is deleted — the
    mechanism keeps the instances it deletes in `deleted` —, UnknownLink) ⇒ rejected by Spec, and neither state changes -/
theorem store_relate (hk : Function.Injective kname) (kinds : List Nat) (sch : Pyx.Meta.Schema)
    (R : Refines kname ι s st) (A : AllInv sch s) {x y : Nat}
    (hx : x < s.count) (hy : y < s.count) (rel phrase : String) :
    ((Pyx.Meta.relate sch s x y rel phrase).2 = .ok →
      ∃ st', relate (ctxOf kname kinds sch) (ι x) (ι y) rel phrase st = .ok st' ∧
        Refines kname ι (Pyx.Meta.relate sch s x y rel phrase).1 st') ∧
    ((Pyx.Meta.relate sch s x y rel phrase).2 ≠ .ok →
      (Pyx.Meta.relate sch s x y rel phrase).1 = s ∧
        ∃ e, relate (ctxOf kname kinds sch) (ι x) (ι y) rel phrase st = .error e) :=
  relate_refines' hk kinds sch R A hx hy rel phrase

/-- (c) `unrelate` of created instances, accepted and rejected (UnrelateException, UnknownLink) alike -/
theorem store_unrelate (hk : Function.Injective kname) (kinds : List Nat) (sch : Pyx.Meta.Schema)
    (R : Refines kname ι s st) (A : AllInv sch s) {x y : Nat} (hx : x < s.count) (hy : y < s.count)
    (rel phrase : String) :
    ((Pyx.Meta.unrelate sch s x y rel phrase).2 = .ok →
      ∃ st', unrelate (ctxOf kname kinds sch) (ι x) (ι y) rel phrase st = .ok st' ∧
        Refines kname ι (Pyx.Meta.unrelate sch s x y rel phrase).1 st') ∧
    ((Pyx.Meta.unrelate sch s x y rel phrase).2 ≠ .ok →
      (Pyx.Meta.unrelate sch s x y rel phrase).1 = s ∧
        ∃ e, unrelate (ctxOf kname kinds sch) (ι x) (ι y) rel phrase st = .error e) :=
  unrelate_refines hk kinds sch R A hx hy rel phrase

/-- (d) `delete`: the mechanism's loop of unrelates over every link of the class leaves exactly what Spec's delete
    leaves (instance out of its pool, all its pairs gone, every other partner list in its old order); a dead
    instance is rejected on both sides -/
theorem store_delete (hk : Function.Injective kname) {sch : Pyx.Meta.Schema} (hok : SchemaOk sch)
    (R : Refines kname ι s st) (A : AllInv sch s) {x : Nat} (hx : x < s.count) :
    ((Pyx.Meta.delete sch s x).2 = .ok →
      ∃ st', deleteInst (ι x) st = .ok st' ∧ Refines kname ι (Pyx.Meta.delete sch s x).1 st') ∧
    ((Pyx.Meta.delete sch s x).2 ≠ .ok →
      (Pyx.Meta.delete sch s x).1 = s ∧ ∃ e, deleteInst (ι x) st = .error e) :=
  delete_refines hk hok R A hx

/-- what an accepted delete leaves behind in the mechanism, exactly -/
theorem store_delete_mechanism {sch : Pyx.Meta.Schema} (hok : SchemaOk sch) (A : AllInv sch s) {x : Nat}
    (hx : Pyx.Meta.live s x) :
    (Pyx.Meta.delete sch s x).2 = .ok ∧
    (Pyx.Meta.delete sch s x).1.pool = Pyx.Meta.upd s.pool (s.kindOf x) ((s.pool (s.kindOf x)).erase x) ∧
    (∀ j z, ((Pyx.Meta.delete sch s x).1.links j).src z = ((s.links j).src z).filter (fun w => decide (w ≠ x ∧ z ≠ x))) ∧
    (∀ j z, ((Pyx.Meta.delete sch s x).1.links j).tgt z = ((s.links j).tgt z).filter (fun w => decide (w ≠ x ∧ z ≠ x))) :=
  Pyx.Meta.delete_char hok A.inv A.typed hx

/-- (e) one navigation step over a direct link (`Query.navigate`, C09) returns exactly the Spec image, in order -/
theorem store_navigate (hk : Function.Injective kname) (kinds : List Nat) (sch : Pyx.Meta.Schema)
    (R : Refines kname ι s st) {x : Nat} (hx : x < s.count)
    (hd : Pyx.Query.KeysDistinct (Pyx.Query.linkEntriesFrom (s.kindOf x) 0 sch))
    (toKind : Nat) (rel phrase : String) (e : Pyx.Query.LinkEntry)
    (h : Pyx.Query.lookupKey (Pyx.Query.linkDict sch (s.kindOf x)) toKind rel phrase = some e) :
    Pyx.Query.navigate sch s x toKind rel phrase = some (Pyx.Query.followEntry s e x) ∧
    navStep (ctxOf kname kinds sch) st (ι x) ⟨kname toKind, rel, phrase⟩ = .ok ((Pyx.Query.followEntry s e x).map ι) :=
  navigate_refines hk kinds sch R hx hd toKind rel phrase e h

/-- (f) every history of new / relate / unrelate / delete in the domain (`Dom'`: relate, unrelate and
    delete on created instances, new on a known class), run by the mechanism and — operation by operation on the named
    instances — by Spec (`specRun`: a rejected operation changes nothing), ends in corresponding states -/
theorem store_refines (hk : Function.Injective kname) (kinds : List Nat) {sch : Pyx.Meta.Schema} (hok : SchemaOk sch)
    (ι0 : Nat → Inst) (ops : List Pyx.Meta.Op) (hd : Dom' kinds sch Pyx.Meta.init ops) :
    Refines kname (specRun kname (ctxOf kname kinds sch) sch ops Pyx.Meta.init ι0 initState).1
      (Pyx.Meta.run sch ops)
      (specRun kname (ctxOf kname kinds sch) sch ops Pyx.Meta.init ι0 initState).2 :=
  Pyx.Interp.store_refines hk kinds hok ι0 ops hd

/-- … and corresponding states are observed alike: same liveness, same pools, same partners in the same order -/
theorem store_observations {sch : Pyx.Meta.Schema} (R : Refines kname ι s st) (A : AllInv sch s) :
    (∀ x, x < s.count → (st.isLive (ι x) = true ↔ Pyx.Meta.live s x)) ∧
    (∀ k, st.live (kname k) = (s.pool k).map (fun x => (ι x).idx)) ∧
    (∀ i x, x < s.count → srcProj (st.links i) (ι x) = ((s.links i).src x).map ι) ∧
    (∀ i y, y < s.count → tgtProj (st.links i) (ι y) = ((s.links i).tgt y).map ι) ∧
    (∀ i, (st.links i).Nodup) :=
  ⟨fun _ hx => live_iff R A.pool hx, R.pool, R.srcOrd, R.tgtOrd, R.nodup⟩

/-! ### attribute values in the refinement (Proofs/InterpAttr.lean)

  The mechanism keeps the class's own id attribute in `Pyx.Meta.State.idOf`, resolves referential attributes through the
  links (`Pyx.Meta.getAttr`, C02's `getAttr_own` / `getAttr_single`) and the plain attributes in the instances'
  dicts (`MDict`); `mGet` / `mSet` / `mNewDict` are getattr / setattr / the defaults of `MetaClass.new`.
  `RefinesA` = `Refines` + equal plain values + id attribute = idOf + equal id generators. -/

/-- reads agree: a plain attribute, the id attribute, and a referential attribute formalised by one association (the
    identifier of the related instance, nothing when there is none) -/
theorem attr_reads {decl : Nat → List AttrDecl} {at_ : Pyx.Meta.Attrs} {sch : Pyx.Meta.Schema} {d : MDict}
    (hk : Function.Injective kname) (kinds : List Nat)
    (R : RefinesA kname decl at_ sch ι s d st) (A : AllInv sch s) {x : Nat} (hx : Pyx.Meta.live s x)
    (hkin : s.kindOf x ∈ kinds) {name : String} {a : AttrDecl}
    (hfa : (decl (s.kindOf x)).find? (fun a => a.name = name) = some a) (fuel : Nat) :
    (a.referential = false → isPlain sch at_ (s.kindOf x) name →
        getAttr (ctxOfA kname decl kinds sch) (ι x) name st = .ok (mGet sch at_ s d fuel x name)) ∧
    (DeclOk decl at_ sch (s.kindOf x) → at_.idName (s.kindOf x) = some name →
        getAttr (ctxOfA kname decl kinds sch) (ι x) name st = .ok (mGet sch at_ s d (fuel + 1) x name) ∧
        mGet sch at_ s d (fuel + 1) x name = .int (s.idOf x)) ∧
    (∀ i pk, a.referential = true → Pyx.Meta.formalFrom (s.kindOf x) name 0 sch = [(i, pk)] →
        (∀ o, o ∈ (s.links i).tgt x → s.kindOf o ∈ kinds ∧ DeclOk decl at_ sch (s.kindOf o) ∧
          at_.idName (s.kindOf o) = some pk) →
        getAttr (ctxOfA kname decl kinds sch) (ι x) name st = .ok (mGet sch at_ s d (fuel + 3) x name)) :=
  ⟨fun hnr hpl => read_plain hk kinds R A hx hkin hfa hnr hpl fuel,
   fun D hid => read_id hk kinds R A hx hkin D hid fuel,
   fun _ _ hr hform hpk => read_ref hk kinds R A hx hkin hfa hr hform hpk fuel⟩

/-- writes: `x.attr = v` on a plain attribute is accepted on both sides with corresponding results; on a referential
    attribute it is rejected on both sides (MetaException / Spec error); on the class's own id attribute with a
    non-negative integer (the mechanism model keeps ids as naturals) it is accepted on both sides, the mechanism
    updating `idOf`, and the states correspond again -/
theorem attr_writes {decl : Nat → List AttrDecl} {at_ : Pyx.Meta.Attrs} {sch : Pyx.Meta.Schema} {d : MDict}
    (hk : Function.Injective kname) (kinds : List Nat)
    (R : RefinesA kname decl at_ sch ι s d st) (A : AllInv sch s) {x : Nat} (hx : Pyx.Meta.live s x)
    (hkin : s.kindOf x ∈ kinds) {name : String} {a : AttrDecl} (v : Val)
    (hfa : (decl (s.kindOf x)).find? (fun a => a.name = name) = some a) :
    (a.referential = false → tyMatches a.ty v = true → isPlain sch at_ (s.kindOf x) name →
        ∃ st' d', setAttr (ctxOfA kname decl kinds sch) (ι x) name v st = .ok st' ∧
          mSet sch at_ s d x name v = some (s, d') ∧ RefinesA kname decl at_ sch ι s d' st') ∧
    (a.referential = true → Pyx.Meta.formalFrom (s.kindOf x) name 0 sch ≠ [] →
        (∃ e, setAttr (ctxOfA kname decl kinds sch) (ι x) name v st = .error e) ∧ mSet sch at_ s d x name v = none) ∧
    (∀ i : Int, v = .int i → 0 ≤ i → a.referential = false → tyMatches a.ty (.int i) = true →
        Pyx.Meta.formalFrom (s.kindOf x) name 0 sch = [] → at_.idName (s.kindOf x) = some name →
        ∃ st', setAttr (ctxOfA kname decl kinds sch) (ι x) name (.int i) st = .ok st' ∧
          mSet sch at_ s d x name (.int i) = some ({ s with idOf := Pyx.Meta.upd s.idOf x i.toNat }, d) ∧
          RefinesA kname decl at_ sch ι { s with idOf := Pyx.Meta.upd s.idOf x i.toNat } d st') :=
  ⟨fun hnr hty hpl => write_plain hk kinds R A hx hkin hfa hnr hty hpl,
   fun hr hform => write_ref hk kinds R A hx hkin v hfa hr hform,
   fun _ _ hi hnr hty hform hid => write_id hk kinds R A hx hkin hfa hnr hty hform hid hi⟩

/-- `new` with attributes: the same defaults on both sides (id attribute = next id of the equal generators) -/
theorem attr_new {decl : Nat → List AttrDecl} {at_ : Pyx.Meta.Attrs} {sch : Pyx.Meta.Schema} {d : MDict}
    (hk : Function.Injective kname) (kinds : List Nat)
    (R : RefinesA kname decl at_ sch ι s d st) (A : AllInv sch s) (k : Nat) (hkin : k ∈ kinds)
    (D : DeclOk decl at_ sch k) (hasId : Bool) (hhas : hasId = (at_.idName k).isSome) :
    ∃ st', newInst (ctxOfA kname decl kinds sch) (kname k) st = .ok (⟨kname k, st.next (kname k)⟩, st') ∧
      RefinesA kname decl at_ sch (extend ι s.count ⟨kname k, st.next (kname k)⟩) (Pyx.Meta.new s k hasId).1
        ⟨mNewDict s.count (at_.idName k) (decl k) d.vals⟩ st' :=
  new_refinesA hk kinds R A k hkin D hasId hhas

/-- every history of new / relate / unrelate / delete AND attribute writes in the domain refines: corresponding stores
    and corresponding valuations at the end (so every later read agrees, by `attr_reads`) -/
theorem attr_refines {decl : Nat → List AttrDecl} {at_ : Pyx.Meta.Attrs} {sch : Pyx.Meta.Schema}
    (hk : Function.Injective kname) (kinds : List Nat) (hok : SchemaOk sch)
    (ι0 : Nat → Inst) (d0 : MDict) (ops : List AOp) (hd : DomA decl at_ sch kinds Pyx.Meta.init d0 ops) :
    RefinesA kname decl at_ sch (specRunA kname decl at_ (ctxOfA kname decl kinds sch) sch ops Pyx.Meta.init d0 ι0 initState).1
      (mRunA decl at_ sch ops Pyx.Meta.init d0).1 (mRunA decl at_ sch ops Pyx.Meta.init d0).2
      (specRunA kname decl at_ (ctxOfA kname decl kinds sch) sch ops Pyx.Meta.init d0 ι0 initState).2 :=
  Pyx.Interp.attr_refines hk kinds hok ι0 d0 ops hd

/-! ### program execution meets the mechanism (Proofs/InterpEffects.lean, Proofs/InterpBridge.lean) -/

/-- whatever a program does to the relational state is a history of state operations: a run — any statements, nesting,
    loops, calls, any fuel — that ends normally reaches its final state from the initial one through a finite list of
    successful `create` / `delete` / `relate` / `unrelate` / attribute-write operations on named instances
    (`relate … using` / `unrelate … using` are two of them); the same for one statement and one expression -/
theorem program_effects (C : Ctx) (fuel : Nat) :
    (∀ body kw st st' v, runFunction C fuel body kw st = some (.ok (v, st')) → ∃ es, applyEffs C es st = .ok st') ∧
    (∀ s c c' o, (run C fuel).exec s c = some (.ok (o, c')) → ∃ es, applyEffs C es c.st = .ok c'.st) ∧
    (∀ e c c' v, (run C fuel).eval e c = some (.ok (v, c')) → ∃ es, applyEffs C es c.st = .ok c'.st) :=
  ⟨fun body kw st st' v h => runFunction_effects C fuel body kw st st' v h,
   fun s c c' o h => exec_effects C fuel s c c' o h, fun e c c' v h => eval_effects C fuel e c c' v h⟩

/-- **a history of Spec operations is the image of a mechanism history** (the strong form: for EVERY history `es`, nothing
    hidden): let the `Spec` state `st` correspond to the mechanism state `(s, d)` (`RefinesA`: both initial, or both after
    any history of the domain).  Every list `es` of successful state operations from `st` to `st'` whose writes to a
    class's own identifying id attribute carry non-negative integers (`IdWritesNonneg`; the mechanism model keeps ids
    as naturals) IS the image of a history `ops` of MECHANISM operations (`Meta.new` / `relate` / `unrelate` / `delete`,
    `setattr`) of the refinement's domain — `specRunA … ops`, Spec run operation by operation on the named instances,
    ends in that very `st'` — and the mechanism state after `ops` corresponds to `st'`: pools in creation order, both
    directions of every association in link order, attribute values, the id counter.
    (`Closed`: instances live only in classes the context declares — true initially, kept by every operation.) -/
theorem history_refines {decl : Nat → List AttrDecl} {at_ : Pyx.Meta.Attrs} {sch : Pyx.Meta.Schema} {d : MDict}
    (hk : Function.Injective kname) (kinds : List Nat) (hok : SchemaOk sch)
    (hD : ∀ k ∈ kinds, DeclOk decl at_ sch k)
    (R : RefinesA kname decl at_ sch ι s d st) (A : AllInv sch s) (hc : Closed kname kinds st)
    (es : List Eff) (st' : State) (hes : applyEffs (ctxOfA kname decl kinds sch) es st = .ok st')
    (hid : ∀ e ∈ es, IdWritesNonneg kname at_ e) :
    ∃ ops, DomA decl at_ sch kinds s d ops ∧
      (specRunA kname decl at_ (ctxOfA kname decl kinds sch) sch ops s d ι st).2 = st' ∧
      RefinesA kname decl at_ sch (specRunA kname decl at_ (ctxOfA kname decl kinds sch) sch ops s d ι st).1
        (mRunA decl at_ sch ops s d).1 (mRunA decl at_ sch ops s d).2 st' ∧
      Closed kname kinds st' :=
  effs_refine hk kinds hok hD es ι s d st st' R A hc hes hid

/-- **program execution meets the mechanism** (nothing hidden in the premise): a program whose attribute assignments —
    at any depth of blocks, ifs, loops — never name a class's own identifying attribute (`StmtOk`, a condition on the
    program TEXT), run from a `Spec` state that corresponds to a mechanism state and ending normally in `st'`, reaches
    `st'` through a history `es` of successful state operations that is the image of a history `ops` of mechanism
    operations of the domain, and the mechanism state after `ops` corresponds to `st'`.  (Programs that do assign id
    attributes: `program_effects` yields their history, `history_refines` applies to it when the assigned values are
    non-negative.) -/
theorem program_refines {decl : Nat → List AttrDecl} {at_ : Pyx.Meta.Attrs} {sch : Pyx.Meta.Schema} {d : MDict}
    (hk : Function.Injective kname) (kinds : List Nat) (hok : SchemaOk sch)
    (hD : ∀ k ∈ kinds, DeclOk decl at_ sch k)
    (R : RefinesA kname decl at_ sch ι s d st) (A : AllInv sch s) (hc : Closed kname kinds st)
    (fuel : Nat) (body : Block) (hbody : ∀ s ∈ body, StmtOk (fun name => ∀ k, at_.idName k ≠ some name) s)
    (kw : List (String × Val)) (v : Val) (st' : State)
    (h : runFunction (ctxOfA kname decl kinds sch) fuel body kw st = some (.ok (v, st'))) :
    ∃ es ops, applyEffs (ctxOfA kname decl kinds sch) es st = .ok st' ∧
      DomA decl at_ sch kinds s d ops ∧
      (specRunA kname decl at_ (ctxOfA kname decl kinds sch) sch ops s d ι st).2 = st' ∧
      RefinesA kname decl at_ sch (specRunA kname decl at_ (ctxOfA kname decl kinds sch) sch ops s d ι st).1
        (mRunA decl at_ sch ops s d).1 (mRunA decl at_ sch ops s d).2 st' :=
  program_refines_syntactic hk kinds hok hD R A hc fuel body hbody kw v st' h

/-- for a model without identifying id attributes the condition is void; and the initial states qualify -/
theorem program_refines_noid {decl : Nat → List AttrDecl} {at_ : Pyx.Meta.Attrs} {sch : Pyx.Meta.Schema} {d : MDict}
    (hk : Function.Injective kname) (kinds : List Nat) (hok : SchemaOk sch)
    (hD : ∀ k ∈ kinds, DeclOk decl at_ sch k) (hid : ∀ k, at_.idName k = none)
    (R : RefinesA kname decl at_ sch ι s d st) (A : AllInv sch s) (hc : Closed kname kinds st)
    (fuel : Nat) (body : Block) (kw : List (String × Val)) (v : Val) (st' : State)
    (h : runFunction (ctxOfA kname decl kinds sch) fuel body kw st = some (.ok (v, st'))) :
    (∃ ops ι', DomA decl at_ sch kinds s d ops ∧
      RefinesA kname decl at_ sch ι' (mRunA decl at_ sch ops s d).1 (mRunA decl at_ sch ops s d).2 st') ∧
    Closed kname kinds initState :=
  ⟨Pyx.Interp.program_refines_noid hk kinds hok hD hid R A hc fuel body kw v st' h, closed_init kinds⟩

/-! ### chain navigation over the refined store (Proofs/InterpNav.lean) -/

/-- one navigation step — the direct link, or the two-hop `_find_assoc_links` through an association class with its
    ordered-set union — returns on the named instance the named result in the same order; an unknown link is rejected
    on both sides.  Guard: distinct link keys per class. -/
theorem nav_step {sch : Pyx.Meta.Schema} (hk : Function.Injective kname) (kinds : List Nat)
    (R : Refines kname ι s st) (A : AllInv sch s)
    (hd : ∀ k, Pyx.Query.KeysDistinct (Pyx.Query.linkEntriesFrom k 0 sch)) {x : Nat} (hx : x < s.count)
    (stp : Pyx.Query.Step) :
    (∀ l, Pyx.Query.navigate sch s x stp.toKind stp.rel stp.phrase = some l →
        navStep (ctxOf kname kinds sch) st (ι x) (toStep kname stp) = .ok (l.map ι) ∧ ∀ y ∈ l, y < s.count) ∧
    (Pyx.Query.navigate sch s x stp.toKind stp.rel stp.phrase = none →
        ∃ e, navStep (ctxOf kname kinds sch) st (ι x) (toStep kname stp) = .error e) :=
  navigate_step_refines hk kinds R A hd hx stp

/-- a chain `h->K1[R1]->K2[R2]…` (`Pyx.Query.navSeq`, C09) over a handle of created instances: the Spec chain returns
    the named result in the same order, duplicates included; and `select many` de-duplicates alike -/
theorem nav_chain {sch : Pyx.Meta.Schema} (hk : Function.Injective kname) (kinds : List Nat)
    (R : Refines kname ι s st) (A : AllInv sch s)
    (hd : ∀ k, Pyx.Query.KeysDistinct (Pyx.Query.linkEntriesFrom k 0 sch))
    (steps : List Pyx.Query.Step) (h r : List Nat) (hl : ∀ x ∈ h, x < s.count)
    (hq : Pyx.Query.navSeq sch s h steps = some r) :
    navChain (ctxOf kname kinds sch) st (h.map ι) (steps.map (toStep kname)) = .ok (r.map ι) ∧
    (navChain (ctxOf kname kinds sch) st (h.map ι) (steps.map (toStep kname))).map dedup =
      .ok ((Pyx.Query.dedupFirst r).map ι) :=
  ⟨navChain_refines hk kinds R A hd steps h r hl hq, navMany_refines hk kinds R A hd steps h r hl hq⟩

end Store

section
open Pyx.Gen.InterpOps

/-- every entry of the two operator dict literals (as the source has them) denotes the operation `Spec`
    uses for that lexeme; the tables hold exactly the 13 + 6 lexemes the decoder knows; keys are normalised by
    `.lower()`; the operands are evaluated left then right and passed in that order -/
theorem ops_table :
    (∀ e ∈ binary, denoteBin helpers e = binOfLexeme e.lexeme ∧ (binOfLexeme e.lexeme).isSome = true) ∧
    (∀ e ∈ unary, denoteUn e = unOfLexeme e.lexeme ∧ (unOfLexeme e.lexeme).isSome = true) ∧
    binary.map (·.lexeme) = ["+", "-", "*", "/", "%", "<", "<=", ">", ">=", "!=", "==", "or", "and"] ∧
    unary.map (·.lexeme) = ["-", "+", "not", "cardinality", "empty", "not_empty"] ∧
    binaryKey = "node.operator.lower()" ∧ unaryKey = "node.operator.lower()" ∧
    binaryApply = "ops[operator](left_value, right_value)" ∧ unaryApply = "ops[operator](value)" ∧
    binaryOperands = ["left_value = self.accept(node.left).fget()", "right_value = self.accept(node.right).fget()"] ∧
    unaryOperands = ["value = self.accept(node.operand).fget()"] := by
  decide +kernel

end

/-- the decoder's lexeme tables are closed under the case normalisation the interpreter applies -/
theorem ops_table_lexemes_lower :
    (∀ op ∈ ["+", "-", "*", "/", "%", "<", "<=", ">", ">=", "!=", "==", "or", "and"], asciiLower op = op) ∧
    (∀ op ∈ ["-", "+", "not", "cardinality", "empty", "not_empty"], asciiLower op = op) := by
  decide +kernel

/-! ## non-vacuity: concrete programs meet the hypotheses -/

def C0 : Ctx :=
  { classes := [⟨"A", [⟨"n", .integer, false⟩]⟩, ⟨"B", [⟨"n", .integer, false⟩]⟩],
    assocs := [{ rel := "R1", src := "B", tgt := "A", srcPhrase := "", tgtPhrase := "", srcMany := true, tgtMany := false }] }

def st0 : State :=
  { live := fun c => if c = "A" then [0, 1] else [], next := fun c => if c = "A" then 2 else 0,
    attr := fun i _ => .int i.idx, links := fun _ => [], nextId := 1 }

def valOf (r : Option (Except Err (Val × State))) : Option Val :=
  match r with | some (.ok (v, _)) => some v | _ => none

/-- `i = 0; s = 0; while (i < 3) i = i + 1; if (i == 2) continue; end if; s = s + i; end while; return s;` -/
def progWhile : Block := [
  .assignVar "i" (.int 0), .assignVar "s" (.int 0),
  .whileS (.bin .lt (.var "i") (.int 3)) [
    .assignVar "i" (.bin .add (.var "i") (.int 1)),
    .ifS (.bin .eq (.var "i") (.int 2)) [.cont] [] none,
    .assignVar "s" (.bin .add (.var "s") (.var "i"))],
  .ret (some (.var "s"))]

example : valOf (runFunction C0 12 progWhile [] st0) = some (.int 4) := by decide +kernel
/-- fuel monotonicity has something to say: the same program is undefined with too little fuel -/
example : runFunction C0 3 progWhile [] st0 = none := by decide +kernel

/-- `select many as from instances of A where (selected.n >= 1); for each a in as create object instance b of B;
    relate b to a across R1; end for; select many bs from instances of B; return cardinality bs - 7 / -2;` -/
def progSelect : Block := [
  .selectFrom true "as" "A" (some (.bin .ge (.field .selected "n") (.int 1))),
  .forEach "a" "as" [.create (some "b") "B", .relate "b" "a" "R1" ""],
  .selectRelated true "bs" (.var "as") [⟨"B", "R1", ""⟩] none,
  .ret (some (.bin .sub (.un .card (.var "bs")) (.bin .div (.int 7) (.un .neg (.int 2)))))]

example : valOf (runFunction C0 12 progSelect [] st0) = some (.int 4) := by decide +kernel

/-- the initial state of the examples is well-formed, so `exec_preserves_wf` applies to them -/
example : WF st0 := by
  refine ⟨fun k s t h => by simp [st0] at h, fun k => by simp [st0], fun c => ?_, fun c n h => ?_⟩
  · show (if c = "A" then [0, 1] else ([] : List Nat)).Nodup
    by_cases hc : c = "A"
    · rw [if_pos hc]; decide
    · rw [if_neg hc]; exact List.nodup_nil
  · have h' : n ∈ (if c = "A" then [0, 1] else ([] : List Nat)) := h
    show n < (if c = "A" then 2 else 0)
    by_cases hc : c = "A"
    · rw [if_pos hc] at h' ⊢
      simp at h'; omega
    · rw [if_neg hc] at h'; cases h'

/-- a where clause with `selected` bound per candidate: the select finds the second instance -/
def checkSelect : Bool :=
  match (run C0 6).exec (.selectFrom false "a" "A" (some (.bin .eq (.field .selected "n") (.int 1))))
      { fr := mkFrame .function [] .none, st := st0 } with
  | some (.ok (_, c')) => decide (envLookup c'.fr.env "a" = some (.inst ⟨"A", 1⟩))
  | _ => false

example : checkSelect = true := by decide +kernel

/-- store / attribute refinement, non-vacuity (Proofs/InterpExamples.lean): the 1:M schema `schS` is `SchemaOk`, the class
    names `knameS` are injective, the history `histS` (an accepted relate, a rejected relate, an unrelate, a delete) is in
    the domain, the declarations `declS` are consistent with the schema (`DeclOk`) -/
example : Pyx.Meta.SchemaOk schS ∧ Dom' [0, 1] schS Pyx.Meta.init histS := schS_ok
example : Function.Injective knameS := knameS_inj
example : DeclOk declS atS schS 0 ∧ DeclOk declS atS schS 1 := declS_ok

/-- program execution meets the mechanism, non-vacuity — EVERY premise discharged: on the context of `schS` / `declS`
    (classes `K`, `KK`, id attribute `ID`) the program
    `create object instance a of K; create object instance b of KK; create object instance c of KK; relate a to b across R2;
     a.n = 5; unrelate a from b across R2; relate a to c across R2; delete object instance b; return a.n;`
    assigns no id attribute (`StmtOk`, proved statement by statement), run from the initial state it ends normally
    (value 5), so `program_refines` yields — unconditionally — the mechanism history and the correspondence -/
def progS : Block := [
  .create (some "a") "K", .create (some "b") "KK", .create (some "c") "KK",
  .relate "a" "b" "R2" "", .assignField (.var "a") "n" (.int 5),
  .unrelate "a" "b" "R2" "", .relate "a" "c" "R2" "", .delete "b",
  .ret (some (.field (.var "a") "n"))]

example : ∃ st' ops ι', runFunction (ctxOfA knameS declS [0, 1] schS) 12 progS [] initState = some (.ok (.int 5, st')) ∧
    DomA declS atS schS [0, 1] Pyx.Meta.init ⟨fun _ _ => .none⟩ ops ∧
    RefinesA knameS declS atS schS ι' (mRunA declS atS schS ops Pyx.Meta.init ⟨fun _ _ => .none⟩).1
      (mRunA declS atS schS ops Pyx.Meta.init ⟨fun _ _ => .none⟩).2 st' := by
  -- a `State` holds functions, so the kernel decides the returned value only; the end state comes out of an ∃
  have ok_of_valOf : ∀ {r : Option (Except Err (Val × State))} {v : Val}, valOf r = some v →
      ∃ st', r = some (.ok (v, st')) := by
    intro r v h
    unfold valOf at h
    split at h
    · rename_i w st'; cases h; exact ⟨st', rfl⟩
    · cases h
  obtain ⟨st', h⟩ := ok_of_valOf (r := runFunction (ctxOfA knameS declS [0, 1] schS) 12 progS [] initState)
    (v := .int 5) (by decide +kernel)
  have hbody : ∀ s ∈ progS, StmtOk (fun name => ∀ k, atS.idName k ≠ some name) s := by
    intro s hs
    simp only [progS, List.mem_cons, List.not_mem_nil, or_false] at hs
    rcases hs with rfl | rfl | rfl | rfl | rfl | rfl | rfl | rfl | rfl
    · exact StmtOk.create _ _
    · exact StmtOk.create _ _
    · exact StmtOk.create _ _
    · exact StmtOk.relate _ _ _ _
    · exact StmtOk.assignField _ _ _ (fun k => by simp [atS])
    · exact StmtOk.unrelate _ _ _ _
    · exact StmtOk.relate _ _ _ _
    · exact StmtOk.delete _
    · exact StmtOk.ret _
  obtain ⟨es, ops, _, hdom, _, R'⟩ := program_refines knameS_inj [0, 1] schS_ok.1 declS_all
    (refinesA_init knameS declS atS schS (fun _ => ⟨"", 0⟩) ⟨fun _ _ => .none⟩) (Pyx.Meta.allInv_init schS)
    (closed_init [0, 1]) 12 progS hbody [] (.int 5) st' h
  exact ⟨st', ops, _, h, hdom, R'⟩

/-- `history_refines`, every premise discharged, WITH a write to an id attribute: the explicit history
    new K, new KK, `KK#0.ID = 77`, relate, `K#0.n = 5`, unrelate succeeds from the initial state; its only id write
    carries 77 ≥ 0; so it is the image of a mechanism history and the end states correspond -/
def histE : List Eff := [
  .new "K", .new "KK", .set ⟨"KK", 0⟩ "ID" (.int 77), .relate ⟨"K", 0⟩ ⟨"KK", 0⟩ "R2" "",
  .set ⟨"K", 0⟩ "n" (.int 5), .unrelate ⟨"K", 0⟩ ⟨"KK", 0⟩ "R2" ""]

example : ∃ st' ops, applyEffs (ctxOfA knameS declS [0, 1] schS) histE initState = .ok st' ∧
    DomA declS atS schS [0, 1] Pyx.Meta.init ⟨fun _ _ => .none⟩ ops ∧
    RefinesA knameS declS atS schS
      (specRunA knameS declS atS (ctxOfA knameS declS [0, 1] schS) schS ops Pyx.Meta.init ⟨fun _ _ => .none⟩ (fun _ => ⟨"", 0⟩) initState).1
      (mRunA declS atS schS ops Pyx.Meta.init ⟨fun _ _ => .none⟩).1
      (mRunA declS atS schS ops Pyx.Meta.init ⟨fun _ _ => .none⟩).2 st' := by
  have hok : ∃ st', applyEffs (ctxOfA knameS declS [0, 1] schS) histE initState = .ok st' := by
    -- as in the example above: the kernel decides that the history succeeds; the end state comes out of the ∃
    have : (applyEffs (ctxOfA knameS declS [0, 1] schS) histE initState).toBool = true := by decide +kernel
    cases h : applyEffs (ctxOfA knameS declS [0, 1] schS) histE initState with
    | ok st' => exact ⟨st', rfl⟩
    | error e => rw [h] at this; cases this
  obtain ⟨st', hes⟩ := hok
  have hid : ∀ e ∈ histE, IdWritesNonneg knameS atS e := by
    intro e he
    simp only [histE, List.mem_cons, List.not_mem_nil, or_false] at he
    rcases he with rfl | rfl | rfl | rfl | rfl | rfl
    · trivial
    · trivial
    · intro k _ _; exact ⟨77, rfl, by decide⟩
    · trivial
    · intro k _ hidn; simp [atS] at hidn
    · trivial
  obtain ⟨ops, hdom, _, R', _⟩ := history_refines knameS_inj [0, 1] schS_ok.1 declS_all
    (refinesA_init knameS declS atS schS (fun _ => ⟨"", 0⟩) ⟨fun _ _ => .none⟩) (Pyx.Meta.allInv_init schS)
    (closed_init [0, 1]) histE st' hes hid
  exact ⟨st', ops, hes, hdom, R'⟩

/-! ## the statement structure of the handlers

  translator/gen_interpshape.py re-reads, with `ast`, the bodies of `ActionWalker.accept_*` of bridgepoint/interpret.py into
  Gen/InterpShape.lean: one statement list per handler over named calls (find / install symbol, accept child [.fget()],
  domain.new / select_many / select_any, xtuml.relate / unrelate / delete, enter / leave block and scope, raise, try / except,
  if node.<flag>, the Python loops, the where closures, the operand evaluation and `ops[operator](…)`).
  Proofs/InterpShape.lean defines ONE generic interpreter of that IR over Spec's configurations (`Pyx.IShape.iCall / iStmt /
  iStmts`, for any IR value; a `Node` says what accepting each child does).  The theorems below state that the clauses of `Spec`
  ARE the interpretation of the IR generated from the current source — for every context, oracle (= every sub-result, every
  amount of fuel), configuration — so swapping the two relate calls of accept_RelateUsingNode, relating another pair, dropping
  leave_block in a where closure, testing another field than `node.many`, evaluating the right operand first, passing the
  operands the other way round, catching ContinueException outside the loop, or re-ordering expression and target of an
  assignment changes the IR and breaks these theorems before any test runs; a statement outside the translated fragment makes
  the generator raise (broken tie).  What is NOT in these equations: the meaning of the atoms (find_symbol = lookupVar, relate =
  State.relate, …: hand-modelled, digest-checked environment, validated by correspondence). -/

open Pyx.Interp Pyx.IShape Pyx.Gen.InterpShape

/-- relate / unrelate (+ using): which variables are looked up, in which order, WHICH PAIRS are related and in which order
    (using: first (from, using), then (using, to)), the phrase without its ticks.  Up to the text of a domain error (`noMsg`:
    the source looks all variables up before it uses the first, `Spec` checks each handle as it is looked up; an error result
    carries no configuration) -/
theorem relate_unrelate_as_in_source (C : Ctx) (rec : Oracle) (a b rel ph u : String) (c : Cfg) :
    noMsg (execStep C rec (.relate a b rel (stripTicks ph)) c) = noMsg (handlerS C (relNode a b rel ph "") accept_RelateNode c) ∧
    noMsg (execStep C rec (.unrelate a b rel (stripTicks ph)) c) =
      noMsg (handlerS C (relNode a b rel ph "") accept_UnrelateNode c) ∧
    noMsg (execStep C rec (.relateUsing a b rel (stripTicks ph) u) c) =
      noMsg (handlerS C (relNode a b rel ph u) accept_RelateUsingNode c) ∧
    noMsg (execStep C rec (.unrelateUsing a b rel (stripTicks ph) u) c) =
      noMsg (handlerS C (relNode a b rel ph u) accept_UnrelateUsingNode c) :=
  ⟨(relate_agree C rec a b rel ph c).noMsg, (unrelate_agree C rec a b rel ph c).noMsg,
   (relateUsing_agree C rec a b rel ph u c).noMsg, (unrelateUsing_agree C rec a b rel ph u c).noMsg⟩

/-- select from instances (+ where): `node.many` dispatches select_many / select_any; the where closure enters a block,
    installs `selected`, evaluates the clause, LEAVES the block and returns the clause's value; the result is installed under
    the variable name -/
theorem select_from_as_in_source (C : Ctx) (rec : Oracle) (many : Bool) (v cls : String) (wh : Expr) :
    execStep C rec (.selectFrom many v cls none) = handlerS C (selectFromNode many v cls none) accept_SelectFromNode ∧
    execStep C rec (.selectFrom many v cls (some wh)) =
      handlerS C (selectFromNode many v cls (some (rec.eval wh))) accept_SelectFromWhereNode :=
  ⟨selectFrom_eq C rec many v cls, selectFromWhere_eq C rec many v cls wh⟩

/-- break / continue / control stop / return: the exception raised; `return e` evaluates, stores the value in the walker's
    register, then raises; a bare `return` only raises -/
theorem control_as_in_source (C : Ctx) (rec : Oracle) (e : Expr) :
    execStep C rec .brk = handlerS C {} accept_BreakNode ∧
    execStep C rec .cont = handlerS C {} accept_ContinueNode ∧
    execStep C rec .stop = handlerS C {} accept_ControlNode ∧
    execStep C rec (.ret none) = handlerS C (returnNode none) accept_ReturnNode ∧
    execStep C rec (.ret (some e)) = handlerS C (returnNode (some (rec.eval e))) accept_ReturnNode :=
  ⟨break_eq C rec, continue_eq C rec, stop_eq C rec, returnBare_eq C rec, return_eq C rec e⟩

/-- statement list = the children in order, an exception ends it; block = enter_block, the list, leave_block — where the
    source SKIPS leave_block when an exception passes and `Spec` pops the block (`unwindBlock`: the one documented place where
    `Spec` states the language rule instead of the mechanism) -/
theorem sequence_block_as_in_source (C : Ctx) (rec : Oracle) (b : Block) :
    execList rec b = handlerS C { children := b.map (stmtChild rec) } accept_StatementListNode ∧
    execBlock rec b = unwindBlock (handlerS C (blockNode rec b) accept_BlockNode) :=
  ⟨execList_eq C rec b, execBlock_eq C rec b⟩

/-- body and invocation: enter_scope, the block with ReturnException and StopException caught (and nothing else: a break or
    continue that no loop caught leaves the walker), leave_scope; a callable runs in a new walker without any scope -/
theorem body_as_in_source (C : Ctx) (rec : Oracle) (kind : WalkerKind) (body : Block) (kw : List (String × Val)) (self : Val) :
    invoke rec kind body kw self = iInvoke C rec kind body kw self ∧
    iRunBody C rec body = (do M.setEnv [[]]; runBody rec body; M.setEnv []) :=
  ⟨invoke_eq C rec kind body kw self, iRunBody_eq C rec body⟩

/-- while: the condition is re-evaluated before every round; ContinueException and BreakException are caught around the
    block INSIDE the loop (continue: next round, break: leave the loop), every other exception passes; the next round is the
    oracle's (Spec's fuel) -/
theorem while_as_in_source (C : Ctx) (rec : Oracle) (c : Expr) (body : Block) :
    execStep C rec (.whileS c body) = handlerS C (whileNode rec c body) accept_WhileNode :=
  while_eq C rec c body

/-- for each: the set variable is looked up once, the loop variable installed per element, the block run with
    ContinueException / BreakException caught inside the loop -/
theorem for_each_as_in_source (C : Ctx) (rec : Oracle) (v setv : String) (body : Block) :
    execStep C rec (.forEach v setv body) = handlerS C (forEachNode rec v setv body) accept_ForEachNode := by
  simp only [ishape, handlerS, String.reduceBEq, ↓reduceIte, accept_ForEachNode, ↓tryLoop_eq, forEachNode, stmtChildAt, blockChild,
    execStep]
  apply bind_congr; intro s
  cases s <;> try rfl
  exact (forItems_loop rec v body _ (fun i L => L.set "handle" (.val (.inst i))) (fun _ _ => rfl) _ _).symm

/-- if / elif / else: the first true branch only; accept_ElIfListNode stops at the first child that returns True,
    accept_ElIfNode returns True exactly when its condition held, the else clause runs iff no branch was taken -/
theorem if_as_in_source (C : Ctx) (rec : Oracle) (c : Expr) (thn : Block) (elifs : List (Expr × Block)) (els : Option Block) :
    execStep C rec (.ifS c thn elifs els) = handlerS C (ifNode C rec c thn elifs els) accept_IfNode ∧
    (∀ cb, handlerT C (elifNode rec cb) accept_ElIfNode = elifSem rec cb) ∧
    (do let x ← elifListSem C rec elifs
        afterElifs rec els x) = execElifs rec elifs els :=
  ⟨if_eq C rec c thn elifs els, elif_eq C rec, elifList_then C rec elifs els⟩

/-- create (with / without variable) and delete -/
theorem create_delete_as_in_source (C : Ctx) (rec : Oracle) (x cls : String) :
    execStep C rec (.create (some x) cls) =
      handlerS C (strNode [("key_letter", cls), ("variable_name", x)]) accept_CreateObjectNode ∧
    execStep C rec (.create none cls) = handlerS C (strNode [("key_letter", cls)]) accept_CreateObjectNoVariableNode ∧
    execStep C rec (.delete x) = handlerS C (strNode [("variable_name", x)]) accept_DeleteNode :=
  ⟨create_eq C rec x cls, createNoVariable_eq C rec cls, delete_eq C rec x⟩

/-- assignment: the expression is evaluated BEFORE the target (whose handle, for `h.attr = e`, is evaluated then), the value
    goes through the target's setter -/
theorem assignment_as_in_source (C : Ctx) (rec : Oracle) (x : String) (h : Expr) (name : String) (e : Expr) :
    execStep C rec (.assignVar x e) = handlerS C (assignNode (rec.eval e) (pure (.var x))) accept_AssignmentNode ∧
    execStep C rec (.assignField h name e) =
      handlerS C (assignNode (rec.eval e) (fieldAccess rec h name)) accept_AssignmentNode :=
  ⟨assignVar_eq C rec x e, assignField_eq C rec h name e⟩

/-- operators: LEFT operand, then right, then `ops[operator](left_value, right_value)` (no short circuit: both operands are
    always evaluated); unary alike; `selected` is the symbol 'selected' -/
theorem operators_as_in_source (C : Ctx) (rec : Oracle) (bop : BinOp) (uop : UnOp) (l r : Expr) :
    evalStep C rec (.bin bop l r) = handlerE C (binNode bop (rec.eval l) (rec.eval r)) accept_BinaryOperationNode ∧
    evalStep C rec (.un uop l) = handlerE C (unNode uop (rec.eval l)) accept_UnaryOperationNode ∧
    evalStep C rec .selected = handlerE C {} accept_SelectedAccessNode :=
  ⟨binary_eq C rec bop l r, unary_eq C rec uop l, selected_eq C rec⟩

/-! non-vacuity: the generic interpreter RUNS the generated IR on concrete configurations and produces the links, the selected
    instance, the loop count and the value; and it is not a renaming of `Spec` — on statement structures OTHER than the
    generated ones (the mutations named above) it computes other results, so the equalities above are not equalities that any
    IR would satisfy -/

/-- a reflexive association: the pair list shows the ORDER of the relates -/
def CK : Ctx :=
  { classes := [⟨"K", []⟩],
    assocs := [{ rel := "R1", src := "K", tgt := "K", srcPhrase := "", tgtPhrase := "", srcMany := true, tgtMany := true }] }
def stK : State :=
  { live := fun c => if c = "K" then [0, 1, 2] else [], next := fun c => if c = "K" then 3 else 0,
    attr := fun i _ => .int i.idx, links := fun _ => [], nextId := 1 }
def cfgK : Cfg :=
  { fr := { mkFrame .function [] .none with
            env := [[("a", .inst ⟨"K", 0⟩), ("b", .inst ⟨"K", 1⟩), ("l", .inst ⟨"K", 2⟩), ("n", .int 0)]] }, st := stK }
def linksAfter (r : Res Out) : Option (List (Nat × Nat)) :=
  match r with | some (.ok (_, c)) => some ((c.st.links 0).map (fun p => (p.1.idx, p.2.idx))) | _ => none
def varAfter {α : Type} (r : Res α) (x : String) : Option Val :=
  match r with | some (.ok (_, c)) => envLookup c.fr.env x | _ => none
def depthAfter {α : Type} (r : Res α) : Option Nat :=
  match r with | some (.ok (_, c)) => some c.fr.env.length | _ => none
def errAfter {α : Type} (r : Res α) : Option String :=
  match r with | some (.error e) => some e.msg | _ => none

/-- `relate a to b across R1 using l`: (a, l) first, then (l, b) — as the theorem's two sides; the two calls swapped, or the
    pair (from, to) related, give another store -/
example : linksAfter (handlerS CK (relNode "a" "b" "R1" "''" "l") accept_RelateUsingNode cfgK) = some [(2, 0), (1, 2)] ∧
    linksAfter (execStep CK (run CK 0) (.relateUsing "a" "b" "R1" (stripTicks "''") "l") cfgK) = some [(2, 0), (1, 2)] ∧
    linksAfter (handlerS CK (relNode "a" "b" "R1" "" "l")
      [.assign "from_inst" (.findSymbol (.field "from_variable_name")), .assign "to_inst" (.findSymbol (.field "to_variable_name")),
       .assign "using_inst" (.findSymbol (.field "using_variable_name")),
       .expr (.relate "using_inst" "to_inst" (.field "rel_id") (.fieldNoTicks "phrase")),
       .expr (.relate "from_inst" "using_inst" (.field "rel_id") (.fieldNoTicks "phrase"))] cfgK) = some [(1, 2), (2, 0)] ∧
    linksAfter (handlerS CK (relNode "a" "b" "R1" "" "l")
      [.assign "from_inst" (.findSymbol (.field "from_variable_name")), .assign "to_inst" (.findSymbol (.field "to_variable_name")),
       .assign "using_inst" (.findSymbol (.field "using_variable_name")),
       .expr (.relate "from_inst" "to_inst" (.field "rel_id") (.fieldNoTicks "phrase")),
       .expr (.relate "using_inst" "to_inst" (.field "rel_id") (.fieldNoTicks "phrase"))] cfgK) = some [(1, 0), (1, 2)] := by
  decide +kernel

/-- `select any x from instances of K where (selected == b)`: the generated closure finds the second instance and leaves the
    scope as deep as it was; without `leave_block` every candidate tested leaves a block behind; testing `node.cardinality`
    (a field that is not the flag `many`) selects one instance where the program asked for many -/
def whSel : M Val := do
  let s ← lookupVar CK "selected"
  let b ← lookupVar CK "b"
  M.liftE (binop .eq s b)
example : varAfter (handlerS CK (selectFromNode false "x" "K" (some whSel)) accept_SelectFromWhereNode cfgK) "x" = some (.inst ⟨"K", 1⟩) ∧
    depthAfter (handlerS CK (selectFromNode false "x" "K" (some whSel)) accept_SelectFromWhereNode cfgK) = some 1 ∧
    depthAfter (handlerS CK (selectFromNode false "x" "K" (some whSel))
      [.defClosure "where" "selected" [.expr .enterBlock, .expr (.installSymbol (.lit "selected") "selected"),
         .assign "value" (.accept "where_clause"), .ret (.fget "value")],
       .ifNode "many" [.assign "handle" (.selectMany (.field "key_letter") (some "where"))]
         [.assign "handle" (.selectAny (.field "key_letter") (some "where"))],
       .expr (.installSymbol (.field "variable_name") "handle")] cfgK) = some 3 ∧
    varAfter (handlerS CK (selectFromNode true "x" "K" none) accept_SelectFromNode cfgK) "x" =
      some (.set [⟨"K", 0⟩, ⟨"K", 1⟩, ⟨"K", 2⟩]) ∧
    varAfter (handlerS CK (selectFromNode true "x" "K" none)
      [.ifNode "cardinality" [.assign "handle" (.selectMany (.field "key_letter") none)]
         [.assign "handle" (.selectAny (.field "key_letter") none)],
       .expr (.installSymbol (.field "variable_name") "handle")] cfgK) "x" = some (.inst ⟨"K", 0⟩) := by
  decide +kernel

/-- a loop body that counts and then continues: `for each` over three instances runs it three times; with ContinueException
    caught OUTSIDE the loop the first `continue` ends the loop -/
def countAndContinue : M (Out × Bool) := do
  let n ← lookupVar CK "n"
  let m ← M.liftE (binop .add n (.int 1))
  install "n" m
  pure (.cont, false)
def forNode : Node :=
  { str := fun f => ([("instance_variable_name", "k"), ("set_variable_name", "ks")].lookup f).getD ""
    acceptS := stmtChildAt "block" countAndContinue }
def cfgKs : Cfg := { cfgK with fr := { cfgK.fr with env := [[("ks", .set [⟨"K", 0⟩, ⟨"K", 1⟩, ⟨"K", 2⟩]), ("n", .int 0)]] } }
example : varAfter (handlerS CK forNode accept_ForEachNode cfgKs) "n" = some (.int 3) ∧
    varAfter (handlerS CK forNode
      [.assign "set_handle" (.findSymbol (.field "set_variable_name")),
       .tryExcept [.forIn "handle" "set_handle" [.expr (.installSymbol (.field "instance_variable_name") "handle"),
                                                  .expr (.accept "block")]]
         [(.continueExc, [.pass]), (.breakExc, [.pass])]] cfgKs) "n" = some (.int 1) := by
  decide +kernel

/-- operators: the LEFT operand is evaluated first (of two failing operands the left one's error is reported) and is the
    FIRST argument (5 - 3 = 2); right-first evaluation, or the arguments the other way round, are visible -/
example : errAfter (handlerE CK (binNode .sub (M.fail "left") (M.fail "right")) accept_BinaryOperationNode cfgK) = some "left" ∧
    errAfter (handlerE CK (binNode .sub (M.fail "left") (M.fail "right"))
      [.assign "ops" (.opsTable "binary"), .assign "operator" (.lowerField "operator"),
       .assign "right_value" (.acceptFget "right"), .assign "left_value" (.acceptFget "left"),
       .assign "value" (.applyOp "ops" "operator" ["left_value", "right_value"]), .ret (.property "value")] cfgK) = some "right" ∧
    (match handlerE CK (binNode .sub (pure (.int 5)) (pure (.int 3))) accept_BinaryOperationNode cfgK with
      | some (.ok (v, _)) => some v | _ => none) = some (.int 2) ∧
    (match handlerE CK (binNode .sub (pure (.int 5)) (pure (.int 3)))
      [.assign "ops" (.opsTable "binary"), .assign "operator" (.lowerField "operator"),
       .assign "left_value" (.acceptFget "left"), .assign "right_value" (.acceptFget "right"),
       .assign "value" (.applyOp "ops" "operator" ["right_value", "left_value"]), .ret (.property "value")] cfgK with
      | some (.ok (v, _)) => some v | _ => none) = some (.int (-2)) := by
  decide +kernel

/-- the theorems applied: on the concrete configuration the clause of `Spec` and the interpreted source agree on the store
    (relate … using), and a whole `if` with an elif list and an else clause is the interpreted accept_IfNode -/
example : noMsg (execStep CK (run CK 0) (.relateUsing "a" "b" "R1" (stripTicks "'x'") "l") cfgK) =
    noMsg (handlerS CK (relNode "a" "b" "R1" "'x'" "l") accept_RelateUsingNode cfgK) :=
  (relate_unrelate_as_in_source CK (run CK 0) "a" "b" "R1" "'x'" "l" cfgK).2.2.1
example : execStep CK (run CK 3) (.ifS (.bool false) [.brk] [(.bool false, [.cont]), (.bool true, [.stop])] (some [.brk])) =
    handlerS CK (ifNode CK (run CK 3) (.bool false) [.brk] [(.bool false, [.cont]), (.bool true, [.stop])] (some [.brk]))
      accept_IfNode :=
  (if_as_in_source CK (run CK 3) (.bool false) [.brk] [(.bool false, [.cont]), (.bool true, [.stop])] (some [.brk])).1

/-- select … related by (+ where): the handle is evaluated, `node.many` dispatches navigate_many / navigate_one (the kind of
    chain decides set / first when the chain is called), the loop `for step in self.accept(node.navigation_chain): chain =
    step(chain)` is `Spec`'s chain navigation (`navChain`; induction on the chain, for every continuation that reads the locals
    `chain` and `where` only), the where closure (enter_block, install 'selected', the clause, leave_block), the result of
    calling the chain is installed under the variable name -/
theorem select_related_as_in_source (C : Ctx) (rec : Oracle) (many : Bool) (v : String) (h : Expr) (chain : List NavStep)
    (wh : Expr) :
    execStep C rec (.selectRelated many v h chain none) =
      handlerS C (selRelNode many v (rec.eval h) chain none) accept_SelectRelatedNode ∧
    execStep C rec (.selectRelated many v h chain (some wh)) =
      handlerS C (selRelNode many v (rec.eval h) chain (some (rec.eval wh))) accept_SelectRelatedWhereNode :=
  ⟨selectRelated_eq C rec many v h chain, selectRelatedWhere_eq C rec many v h chain wh⟩

/-- the invariant that makes the source's symbol table and `Spec`'s agree: a name is held by at most one block of the scope
    (`install_symbol` overwrites a visible symbol where it is and creates a name only when NO block of the scope holds it).
    It holds when a body starts, and EVERY statement — any nesting, loops, where clauses, calls, any fuel — and every body
    keeps it (the induction of Proofs/InterpScope.lean carried out for an arbitrary preorder respected by install, pushBlock,
    popBlock, setRet: `EnvRel`, `inv_run`) -/
theorem scope_names_unique (C : Ctx) (n : Nat) :
    (∀ kind kw self, EnvUnique (mkFrame kind kw self).env) ∧
    (∀ s c o c', (run C n).exec s c = some (.ok (o, c')) → EnvUnique c.fr.env → EnvUnique c'.fr.env) ∧
    (∀ body c c', runBody (run C n) body c = some (.ok ((), c')) → EnvUnique c.fr.env → EnvUnique c'.fr.env) ∧
    (∀ env x v, EnvUnique env → EnvUnique (envInstall env x v)) :=
  ⟨unique_start, fun s c o c' => unique_run C n s c o c', fun body c c' => unique_body C n body c c', envInstall_unique⟩

/-- find_symbol: the source scans the blocks of the scope head in ENTRY order (outermost first: `symtab.findSearch`), `Spec`
    innermost first; under the invariant they find the same binding, and a miss goes to the domain's constants.  (Scanning in
    the other order is, under the invariant, the same function; the record's order is stated so that such a change is seen.) -/
theorem lookup_as_in_source (C : Ctx) (x : String) (c : Cfg) (hu : EnvUnique c.fr.env) :
    envLookup c.fr.env x = pyFind symtab c.fr.env.reverse x ∧
    lookupVar C x c = pyLookupVar symtab C x c ∧
    symtab.findSearch = .firstToLast ∧ symtab.installSearch = symtab.findSearch ∧ symtab.findMiss = .domainConstant :=
  ⟨envLookup_eq _ x hu, lookupVar_eq C x c hu, rfl, rfl, rfl⟩

/-- install_symbol: the first block IN ENTRY ORDER that holds the name is overwritten in place; a name no block holds is
    created in the LAST block (the innermost).  Under the invariant, on a scope with at least one block (without one Python
    raises IndexError and `Spec` creates a block: outside the guard), this is `Spec`'s envInstall -/
theorem install_as_in_source (env : Env) (x : String) (v : Val) (hu : EnvUnique env) (hne : env ≠ []) :
    (envInstall env x v).reverse = pyInstall symtab env.reverse x v := by
  unfold envInstall
  cases h : (envLookup env x).isSome with
  | true =>
    simp only [↓reduceIte, pyInstall, symtab, updFirst_hit x v env hu h]
  | false =>
    have hnone := updFirst_miss x v env ((envLookup_none_iff x env).1 (Option.not_isSome_iff_eq_none.1 (h ▸ Bool.false_ne_true)))
    cases env with
    | nil => exact absurd rfl hne
    | cons b rest =>
      simp only [Bool.false_eq_true, ↓reduceIte, pyInstall, symtab, hnone, List.reverse_reverse]

/-- enter_block appends a block, leave_block pops the last one, a new scope starts with one block -/
theorem blocks_as_in_source (env : Env) :
    (([] : List (String × Val)) :: env).reverse = pyEnterBlock symtab env.reverse ∧
    env.tail.reverse = pyLeaveBlock symtab env.reverse ∧
    (mkFrame .function [] .none).env.reverse = pyNewScope symtab := by
  refine ⟨by simp [pyEnterBlock, symtab], ?_, rfl⟩
  cases env with
  | nil => rfl
  | cons b rest => simp [pyLeaveBlock, symtab]

/-- select many ks related by a->K[R1]: the interpreted source navigates the chain and installs the set; with navigate_one
    where the source says navigate_many the variable holds an instance instead of the set -/
def stKL : State := { stK with links := fun k => if k = 0 then [(⟨"K", 1⟩, ⟨"K", 0⟩), (⟨"K", 2⟩, ⟨"K", 0⟩)] else [] }
def cfgKL : Cfg := { cfgK with st := stKL }
example : varAfter (handlerS CK (selRelNode true "ks" (lookupVar CK "a") [⟨"K", "R1", ""⟩] none) accept_SelectRelatedNode cfgKL) "ks" =
      some (.set [⟨"K", 1⟩, ⟨"K", 2⟩]) ∧
    varAfter (handlerS CK (selRelNode true "ks" (lookupVar CK "a") [⟨"K", "R1", ""⟩] none)
      [.assign "handle" (.acceptFget "handle"),
       .ifNode "many" [.assign "chain" (.navigateOne "handle")] [.assign "chain" (.navigateMany "handle")],
       .forAccept "step" "navigation_chain" [.assign "chain" (.callLocal "step" ["chain"])],
       .expr (.installSymbolCall (.field "variable_name") "chain" [])] cfgKL) "ks" = some (.inst ⟨"K", 1⟩) := by
  decide +kernel

/-- the invariant is needed and the record matters: on a scope in which TWO blocks hold `x` (no run of `Spec` reaches one)
    the two search orders differ; creating a new name in the FIRST block instead of the last, or scanning last-to-first, is
    another table; on the scope of the examples (names unique) the theorems apply -/
def envXX : Env := [[("x", .int 1)], [("y", .int 0)], [("x", .int 2)]]
example : envLookup envXX "x" = some (.int 1) ∧ pyFind symtab envXX.reverse "x" = some (.int 2) ∧ ¬ EnvUnique envXX ∧
    pyFind { symtab with findSearch := .lastToFirst } envXX.reverse "x" = some (.int 1) ∧
    pyInstall symtab [[("y", .int 0)], []] "z" (.int 7) = [[("y", .int 0)], [("z", .int 7)]] ∧
    pyInstall { symtab with installMissAt := .first } [[("y", .int 0)], []] "z" (.int 7) = [[("z", .int 7), ("y", .int 0)], []] ∧
    pyInstall symtab [[("y", .int 0)], []] "y" (.int 7) = [[("y", .int 7)], []] := by
  refine ⟨by decide, by decide, by unfold EnvUnique; decide, by decide, by decide, by decide, by decide⟩
private theorem cfgK_env : EnvUnique cfgK.fr.env ∧ cfgK.fr.env ≠ [] := ⟨by unfold EnvUnique; decide, by decide⟩
example : EnvUnique cfgK.fr.env ∧ cfgK.fr.env ≠ [] := cfgK_env
example : envLookup cfgK.fr.env "l" = pyFind symtab cfgK.fr.env.reverse "l" :=
  (lookup_as_in_source CK "l" cfgK cfgK_env.1).1
example : (envInstall cfgK.fr.env "q" (.int 1)).reverse = pyInstall symtab cfgK.fr.env.reverse "q" (.int 1) :=
  install_as_in_source _ _ _ cfgK_env.1 cfgK_env.2

/-- literals: `int(node.value)`; `node.value[1:-1]` (the quotes are stripped: first and last character);
    `node.value.upper() == 'TRUE'` (any letter case) — the normalisations PyxModel/Interp/Decode.lean applies when it builds
    `Expr.int / .str / .bool` from the node (reals are not modelled: `real_literal_as_in_source`) -/
theorem literals_as_in_source (C : Ctx) (rec : Oracle) (v : String) :
    (∀ i, v.toInt? = some i → evalStep C rec (.int i) = handlerE C (strNode [("value", v)]) accept_IntegerNode) ∧
    evalStep C rec (.str (String.ofList ((v.toList.drop 1).dropLast))) = handlerE C (strNode [("value", v)]) accept_StringNode ∧
    evalStep C rec (.bool (asciiUpper v == "TRUE")) = handlerE C (strNode [("value", v)]) accept_BooleanNode :=
  ⟨fun i h => integer_eq C rec v i h, string_eq C rec v, boolean_eq C rec v⟩

/-- accept_VariableAccessNode is LAZY: the handler touches nothing and returns a property whose getter is
    `find_symbol(name)` and whose setter `install_symbol(name, ·)`; reading the variable is the getter called, assigning to it
    the setter called after the expression was evaluated -/
theorem variable_access_as_in_source (C : Ctx) (rec : Oracle) (x : String) (e : Expr) :
    handlerP C (strNode [("variable_name", x)]) accept_VariableAccessNode =
      pure (.lazy (lookupVar C x) (fun v => install x v)) ∧
    evalStep C rec (.var x) = (handlerP C (strNode [("variable_name", x)]) accept_VariableAccessNode >>= propGet) ∧
    execStep C rec (.assignVar x e) = (do
      let v ← rec.eval e
      let p ← handlerP C (strNode [("variable_name", x)]) accept_VariableAccessNode
      propSet v p
      pure .normal) :=
  ⟨variableAccess_eq C x, variableRead_eq C rec x, variableWrite_eq C rec x e⟩

/-- accept_FieldAccessNode evaluates the handle at once and returns a property; `getattr(handle, node.name)` /
    `setattr(handle, node.name, value)` run when fget / fset is called (atoms: `Spec`'s readField / writeField, which include the
    return_value register rule of the DerivedAttributeWalker override).  An EMPTY handle: `Spec` leaves the domain ("empty
    instance handle"); the source raises AttributeError, which is NOT an xtuml.MetaException, so the wrapper below does not
    swallow it: the run ends -/
theorem field_access_as_in_source (C : Ctx) (rec : Oracle) (h : Expr) (name : String) (e : Expr) :
    handlerP C (fieldNode C rec (rec.eval h) name) accept_FieldAccessNode = (do
      let hv ← rec.eval h
      pure (.lazy (do let i ← asInst hv; readField C rec i name) (fun v => do let i ← asInst hv; writeField C i name v))) ∧
    evalStep C rec (.field h name) = (handlerP C (fieldNode C rec (rec.eval h) name) accept_FieldAccessNode >>= propGet) ∧
    execStep C rec (.assignField h name e) = (do
      let v ← rec.eval e
      let p ← handlerP C (fieldNode C rec (rec.eval h) name) accept_FieldAccessNode
      propSet v p
      pure .normal) :=
  ⟨fieldAccess_eq C rec (rec.eval h) name, fieldRead_eq C rec h name, fieldWrite_eq C rec h name e⟩

/-- accept_NavigationStepNode: the closure navigates to `node.key_letter` across `node.rel_id` with the phrase WITHOUT its
    ticks — the `NavStep` Decode.lean builds and `select_related_as_in_source` folds over -/
theorem navigation_step_as_in_source (C : Ctx) (kl rel ph : String) :
    handlerP C (strNode [("key_letter", kl), ("rel_id", rel), ("phrase", ph)]) accept_NavigationStepNode =
      pure (.step ⟨kl, rel, stripTicks ph⟩) :=
  navigationStep_eq C kl rel ph

/-- the wrapper, IN THE DOMAIN: when the handler raises no xtuml.MetaException `self.accept(child)` is the child's handler, so
    the children the theorems above are stated with are the children the source runs (`wrappedChild … = stmtChild …`); and
    `default_accept` (a node without handler) only logs: None, configuration untouched -/
theorem accept_in_domain_as_in_source (rec : Oracle) (s : Stmt) (m : M Out) (disp : M (WRes Out)) :
    iWs (inDomain m) ActionWalker_accept = inDomain m ∧
    wrappedChild (inDomain (rec.exec s)) = stmtChild rec s ∧
    iWs disp ActionWalker_default_accept = pure .next :=
  ⟨accept_inDomain m, wrappedChild_inDomain rec s, default_accept_eq disp⟩

/-- the wrapper, OUT OF THE DOMAIN (what `Spec` does not model: it ends in a domain error there, and the harness drops or
    only error-compares such programs): a handler that raises an xtuml.MetaException (`WRes.raised`, in the configuration c' it
    had reached) makes `self.accept` return None IN c' — nothing propagates — and the statement list GOES ON with the next
    child: `swallowList` (a raised child counts as completed) is exactly the interpreted accept_StatementListNode over
    wrapped children -/
theorem accept_swallows_meta_exception (C : Ctx) (disp : M (WRes Out)) (ds : List (M (WRes Out))) (c c' : Cfg)
    (h : disp c = some (.ok (.raised, c'))) :
    iWs disp ActionWalker_accept c = some (.ok (.next, c')) ∧
    handlerS C { children := ds.map wrappedChild } accept_StatementListNode = swallowList ds ∧
    swallowList (disp :: ds) c = swallowList ds c' :=
  ⟨accept_meta disp c c' h, statementList_swallows C ds, by
    show (disp >>= _) c = _
    rw [bind_ok h]⟩

/-- "'ab'" gives ab (without the slice the quotes stay); TrUe is true -/
example : (match handlerE CK (strNode [("value", "'ab'")]) accept_StringNode cfgK with | some (.ok (v, _)) => some v | _ => none) =
      some (.str "ab") ∧
    (match handlerE CK (strNode [("value", "'ab'")]) [.assign "value" (.fieldVal "value"), .ret (.property "value")] cfgK with
      | some (.ok (v, _)) => some v | _ => none) = some (.str "'ab'") ∧
    (match handlerE CK (strNode [("value", "TrUe")]) accept_BooleanNode cfgK with | some (.ok (v, _)) => some v | _ => none) =
      some (.bool true) := by
  decide +kernel

/-- a step that ignores the phrase is another step -/
example : (match handlerP CK (strNode [("key_letter", "K"), ("rel_id", "R1"), ("phrase", "'x'")]) accept_NavigationStepNode cfgK with
      | some (.ok (.step s, _)) => some s | _ => none) = some ⟨"K", "R1", "x"⟩ ∧
    (match handlerP CK (strNode [("key_letter", "K"), ("rel_id", "R1"), ("phrase", "'x'")])
        [.ret (.navClosure [(.field "key_letter"), (.field "rel_id"), (.lit "")])] cfgK with
      | some (.ok (.step s, _)) => some s | _ => none) = some ⟨"K", "R1", ""⟩ := by
  decide +kernel

/-- `n = n + 1; <a statement whose handler raises a MetaException after n = n + 1>; n = n + 1`: through the source's wrapper
    all three run (n = 3); a wrapper that does not catch (`except` another class) stops the list at the failure -/
def bump : M Unit := do
  let n ← lookupVar CK "n"
  let m ← M.liftE (binop .add n (.int 1))
  install "n" m
def okStmt : M (WRes Out) := do bump; pure (.ret .normal)
def failingStmt : M (WRes Out) := do bump; pure .raised
example : varAfter (swallowList [okStmt, failingStmt, okStmt] cfgK) "n" = some (.int 3) ∧
    varAfter (handlerS CK { children := [okStmt, failingStmt, okStmt].map wrappedChild } accept_StatementListNode cfgK) "n" =
      some (.int 3) ∧
    (match iWs failingStmt ActionWalker_accept cfgK with | some (.ok (.next, c')) => envLookup c'.fr.env "n" | _ => none) =
      some (.int 1) ∧
    (match iWs failingStmt [.tryExcept [.returnDispatch] "KeyError" [.logError]] cfgK with
      | some (.ok (.raised, _)) => true | _ => false) = true := by
  decide +kernel

/-- accept_NavigationListNode (`for child in node.children: yield self.accept(child)`), every child a NavigationStepNode run
    through the interpreted accept_NavigationStepNode: for EVERY list of raw steps (key letter, rel id, phrase with its ticks)
    the generator yields, in the order of the children, one step closure per child, the phrase without its ticks — and it is
    `pure`: no configuration is touched, so Python's lazy interleaving of the generator with the consumer's loop is not
    observable.  Second clause: what it yields IS the field `steps "navigation_chain"` of the node `select_related_as_in_source`
    is stated with (so that theorem's chain is the chain the source delivers for the decoded steps) -/
theorem navigation_list_as_in_source (C : Ctx) (raws : List RawStep) (many : Bool) (v : String) (h : M Val) (wh : Option (M Val)) :
    handlerG C (navListNode C raws) accept_NavigationListNode = pure (raws.map (fun r => PV.step (decodeStep r))) ∧
    handlerG C (navListNode C raws) accept_NavigationListNode =
      pure (((selRelNode many v h (raws.map decodeStep) wh).steps "navigation_chain").map PV.step) ∧
    (∀ r : RawStep, decodeStep r = ⟨r.1, r.2.1, stripTicks r.2.2⟩) := by
  refine ⟨navigationList_eq C raws, ?_, fun _ => rfl⟩
  rw [navigationList_eq]
  simp only [selRelNode, ↓reduceIte, List.map_map]
  rfl

/-- accept_BodyNode, for every body and configuration: enter_scope (the scope head becomes one empty block), the block;
    ReturnException and StopException — and nothing else — are caught, then leave_scope; a BreakException / ContinueException
    that no loop caught passes through and leave_scope is NOT reached (`body_as_in_source` says what `Spec` makes of
    that: a domain error) -/
theorem body_node_as_in_source (C : Ctx) (rec : Oracle) (body : Block) :
    handlerS C (bodyNode rec body) accept_BodyNode = (do
      M.setEnv [[]]
      let o ← execBlock rec body
      match o with
      | .brk => pure .brk
      | .cont => pure .cont
      | _ => do
        M.setEnv []
        pure .normal) :=
  bodyNode_eq C rec body

/-- accept_ElseNode is its block, with the block's outcome -/
theorem else_as_in_source (C : Ctx) (rec : Oracle) (b : Block) :
    handlerS C { acceptS := stmtChildAt "block" (blockChild rec b) } accept_ElseNode = execBlock rec b :=
  else_eq C rec b

/-- accept_ElIfListNode over children that are the interpreted accept_ElIfNode, as an equation of its own, for every chain:
    the children IN ORDER; the first whose condition holds runs its block and ends the search with True (later conditions are
    not evaluated); a control exception from a condition's block leaves the list; no condition true: None (`firstTaken`,
    spelled out in the second and third clause) -/
theorem elif_list_as_in_source (C : Ctx) (rec : Oracle) (cb : Expr × Block) (elifs : List (Expr × Block)) :
    elifListSem C rec elifs = firstTaken rec elifs ∧
    firstTaken rec [] = pure (.normal, false) ∧
    firstTaken rec (cb :: elifs) = (do
      let x ← elifSem rec cb
      match x.1 with
      | .normal => if x.2 then pure (.normal, true) else firstTaken rec elifs
      | o => pure (o, false)) :=
  ⟨elifList_eq C rec elifs, rfl, rfl⟩

/-- accept_RealNode (`float(node.value)`) is in the IR and OUTSIDE the modelled subset (`Val` has no reals, Decode.lean builds no
    real literal): the error ending is the content — on every node and configuration the interpretation is the domain error
    "reals are not modelled", nothing else -/
theorem real_literal_as_in_source (C : Ctx) (nd : Node) (c : Cfg) :
    handlerE C nd accept_RealNode c = some (.error ⟨"reals are not modelled"⟩) := by
  rw [real_eq]
  rfl

/-- the handlers the translator finds in the source are exactly these 36 (a handler added to / removed from the translated
    classes changes the lists), each named by a theorem of this file -/
theorem handlers_inventory_as_in_source :
    handlerNames ++ handlerNames2 =
      ["accept_BodyNode", "accept_BlockNode", "accept_StatementListNode", "accept_ReturnNode", "accept_BreakNode",
       "accept_ContinueNode", "accept_ControlNode", "accept_CreateObjectNode", "accept_CreateObjectNoVariableNode",
       "accept_DeleteNode", "accept_RelateNode", "accept_RelateUsingNode", "accept_UnrelateNode", "accept_UnrelateUsingNode",
       "accept_SelectFromNode", "accept_SelectFromWhereNode", "accept_SelectRelatedNode", "accept_SelectRelatedWhereNode",
       "accept_SelectedAccessNode", "accept_ForEachNode", "accept_IfNode", "accept_ElIfListNode", "accept_ElIfNode",
       "accept_ElseNode", "accept_WhileNode", "accept_AssignmentNode", "accept_BinaryOperationNode", "accept_UnaryOperationNode",
       "accept_IntegerNode", "accept_RealNode", "accept_StringNode", "accept_BooleanNode", "accept_VariableAccessNode",
       "accept_FieldAccessNode", "accept_NavigationStepNode", "accept_NavigationListNode"] :=
  rfl

/-- relate / unrelate (+ using) EXACTLY, the text of a domain error included (`relate_unrelate_as_in_source`
    holds up to that text).  The source looks ALL variables up before it checks the first handle, `Spec` checks each
    handle as it is looked up; so the two report different errors exactly when an earlier variable holds a non-instance and a
    later one is not set.  Hypotheses (`HoldsInst C c x`: IF x is found, it holds an instance handle): two variables — the
    from variable, needed only when the to variable is not set; using — the from variable when the to or the using variable is
    not set, and the to variable (the source relates (from, using) BEFORE it checks the to handle).  Without them the equation
    is false: see the example below -/
theorem relate_unrelate_exact_as_in_source (C : Ctx) (rec : Oracle) (a b rel ph u : String) (c : Cfg) :
    (((∃ e, lookupVar C b c = some (.error e)) → HoldsInst C c a) →
      execStep C rec (.relate a b rel (stripTicks ph)) c = handlerS C (relNode a b rel ph "") accept_RelateNode c ∧
      execStep C rec (.unrelate a b rel (stripTicks ph)) c = handlerS C (relNode a b rel ph "") accept_UnrelateNode c) ∧
    ((((∃ e, lookupVar C b c = some (.error e)) ∨ (∃ e, lookupVar C u c = some (.error e))) → HoldsInst C c a) →
      HoldsInst C c b →
      execStep C rec (.relateUsing a b rel (stripTicks ph) u) c = handlerS C (relNode a b rel ph u) accept_RelateUsingNode c ∧
      execStep C rec (.unrelateUsing a b rel (stripTicks ph) u) c =
        handlerS C (relNode a b rel ph u) accept_UnrelateUsingNode c) :=
  ⟨fun h => ⟨relate_exact C rec a b rel ph c h, unrelate_exact C rec a b rel ph c h⟩,
   fun ha hb => ⟨relateUsing_exact C rec a b rel ph u c ha hb, unrelateUsing_exact C rec a b rel ph u c ha hb⟩⟩

def stepsOf (r : Res (List PV)) : Option (List (Option NavStep)) :=
  match r with
  | some (.ok (l, _)) => some (l.map (fun p => match p with | .step s => some s | _ => none))
  | _ => none

/-- `->K[R1.'x']->KK[R2]`: two steps in the order of the children, the phrase without its ticks; a generator that breaks after
    its first yield, or one that yields nothing, is another chain -/
example : stepsOf (handlerG CK (navListNode CK [("K", "R1", "'x'"), ("KK", "R2", "")]) accept_NavigationListNode cfgK) =
      some [some ⟨"K", "R1", "x"⟩, some ⟨"KK", "R2", ""⟩] ∧
    stepsOf (handlerG CK (navListNode CK [("K", "R1", "'x'"), ("KK", "R2", "")])
      [.forChildren "child" [.yield_ (.acceptLocal "child"), .break_]] cfgK) = some [some ⟨"K", "R1", "x"⟩] ∧
    stepsOf (handlerG CK (navListNode CK [("K", "R1", "'x'"), ("KK", "R2", "")])
      [.forChildren "child" [.expr (.acceptLocal "child")]] cfgK) = some [] := by
  decide +kernel

/-- a body whose block ends with an uncaught `break`: the scope is still open (one block) — leave_scope was not reached; a body
    that returns leaves the scope -/
example : depthAfter (handlerS CK (bodyNode (run CK 3) [.brk]) accept_BodyNode cfgK) = some 1 ∧
    depthAfter (handlerS CK (bodyNode (run CK 3) [.ret none]) accept_BodyNode cfgK) = some 0 := by
  decide +kernel

/-- the hypotheses of `relate_unrelate_exact_as_in_source` are met on the configuration of the examples (`a`, `b` hold
    instances), and they are NEEDED: `relate n to zz across R1` with `n` an integer and `zz` not set — `Spec` reports the
    handle, the source the missing variable -/
def okValOf (r : Res Val) : Option Val := match r with | some (.ok (v, _)) => some v | _ => none
example : HoldsInst CK cfgK "a" ∧ HoldsInst CK cfgK "b" := by
  have ha : okValOf (lookupVar CK "a" cfgK) = some (.inst ⟨"K", 0⟩) := by decide +kernel
  have hb : okValOf (lookupVar CK "b" cfgK) = some (.inst ⟨"K", 1⟩) := by decide +kernel
  constructor
  · intro v h; rw [h] at ha; exact ⟨_, Option.some.inj ha⟩
  · intro v h; rw [h] at hb; exact ⟨_, Option.some.inj hb⟩
example : errAfter (execStep CK (run CK 0) (.relate "n" "zz" "R1" "") cfgK) = some "an instance handle is required" ∧
    errAfter (handlerS CK (relNode "n" "zz" "R1" "" "") accept_RelateNode cfgK) = some "variable zz is not set" := by
  decide +kernel

end PyxProps.C04
