import Proofs.InterpEnum
import Proofs.InterpReturn
import Proofs.CallShapeTotal

/-!
  C15 — Callable model elements behave as their OAL bodies specify.

  Model: `Spec` (PyxModel/Interp/Spec.lean) with the callable table of `Ctx` (functions, bridges, class- and
  instance-based operations, derived attributes): `invoke` runs the callee's body in a NEW frame (`mkFrame`: fresh
  scope, parameters bound by name, `self` = the receiver, return register = none) and hands back the register;
  `PyxModel/Interp/Model.lean` models `mk_enum` / `mk_constant` on the rows of the model files.
  That the implementation delivers what `Spec` delivers is decided on every run by harness/prop_C15.py.
  Name spaces: `Spec` keeps functions, bridges / external entities, operations, enumerations and constants in separate
  tables (OAL tells them apart by syntax).  The implementation keeps ONE dictionary `Domain.symbols` and beside it a
  kind-qualified one that the handlers ask first, so that a constant, enumeration or external entity named like a function, and
  a function named like a class, do not hide one another (KNOWN_FINDINGS.txt; generated as ordinary cases, family `clash`).
-/
namespace PyxProps.C15
open Pyx.Interp

/-! ## isolation -/

/-- evaluating ANY expression — with calls of functions, bridges, operations, derived attributes in it, nested to any
    depth, self-recursive or mutually recursive — leaves the caller's frame (its variables in every block, its
    parameters, its self, its return register) exactly as it was.  By induction on the fuel, for every fuel. -/
theorem call_isolated (C : Ctx) (n : Nat) (e : Expr) (c c' : Cfg) (v : Val)
    (h : (run C n).eval e c = some (.ok (v, c'))) : c'.fr = c.fr :=
  rfr_run C n e c v c' h

/-- the same for an invocation used as a statement -/
theorem call_isolated_stmt (C : Ctx) (n : Nat) (e : Expr) (c c' : Cfg) (o : Out)
    (h : (run C (n + 1)).exec (.invoke e) c = some (.ok (o, c'))) : c'.fr = c.fr ∧ o = .normal := by
  have h' : execStep C (run C n) (.invoke e) c = some (.ok (o, c')) := h
  simp only [execStep] at h'
  obtain ⟨v, c1, h1, h2⟩ := bind_ok_inv h'
  have hf := rfr_run C n e c v c1 h1
  have : M.ret' Out.normal c1 = some (.ok (o, c')) := h2
  simp [M.ret'] at this
  obtain ⟨rfl, rfl⟩ := this
  exact ⟨hf, rfl⟩

/-- the callee does not see the caller's variables either: it starts in a fresh scope, whatever the caller's frame -/
theorem callee_starts_fresh (rec : Oracle) (kind : WalkerKind) (body : Block) (kw : List (String × Val)) (self : Val)
    (c1 c2 : Cfg) (hst : c1.st = c2.st) :
    (invoke rec kind body kw self c1).map (fun r => r.map (fun p => (p.1, p.2.st))) =
    (invoke rec kind body kw self c2).map (fun r => r.map (fun p => (p.1, p.2.st))) ∧
    (mkFrame kind kw self).env = [[]] ∧ (mkFrame kind kw self).ret = .none :=
  ⟨invoke_state_only rec kind body kw self c1 c2 hst, rfl, rfl⟩

/-! ## parameters -/

/-- parameters are bound by name: the result of an invocation is invariant under permutation of the argument list
    (distinct names), and `param.x` reads the argument named `x` -/
theorem params_by_name (C : Ctx) (rec : Oracle) (kind : WalkerKind) (body : Block) (kw kw' : List (String × Val))
    (self : Val) (hp : kw.Perm kw') (hnd : (kw.map Prod.fst).Nodup) :
    invoke rec kind body kw self = invoke rec kind body kw' self ∧
    (∀ x v, (x, v) ∈ kw → (mkFrame kind kw self).params x = some v) ∧
    (∀ x v st, (x, v) ∈ kw → (∀ i a, kind ≠ .derived i a) →
        evalStep C rec (.param x) { fr := mkFrame kind kw self, st := st } =
          some (.ok (v, { fr := mkFrame kind kw self, st := st }))) := by
  refine ⟨invoke_perm rec kind body self hp hnd, fun x v h => paramsOf_mem hnd h, ?_⟩
  intro x v st hx hk
  exact eval_param (c := { fr := mkFrame kind kw self, st := st }) hk (paramsOf_mem hnd hx)

/-! ## self -/

/-- in an operation and in a derived attribute `self` is the receiver the walker was created with; an instance-based
    operation `h.op(…)` and a derived attribute read `h.attr` create it with the instance `h` denotes; a class-based
    operation `NS::op(…)` runs in an operation walker whose receiver is the empty handle (so `self` reads as the
    empty handle there); a function `::f(…)` and a bridge `NS::b(…)` run in a function walker, where `self` is unbound -/
theorem self_bound (C : Ctx) (rec : Oracle) :
    (∀ c, c.fr.kind ≠ .function → evalStep C rec .self c = some (.ok (c.fr.self, c))) ∧
    (∀ c, c.fr.kind = .function → ∃ e, evalStep C rec .self c = some (.error e)) ∧
    (∀ h name args c c1 c2 i f kw, rec.eval h c = some (.ok (.inst i, c1)) →
        findCallable C (fun f => f.kind = .instOp i.cls ∧ f.name = name) = some f →
        evalArgs rec args c1 = some (.ok (kw, c2)) →
        evalStep C rec (.callInst h name args) c = invoke rec .operation f.body kw (.inst i) c2) ∧
    (∀ i name f c, regHit c.fr i name = false → findDerived C i.cls name = some f →
        readField C rec i name c = invoke rec (.derived i name) f.body [] (.inst i) c) ∧
    (∀ kind kw self, (mkFrame kind kw self).self = self) ∧
    -- class-based operation / bridge: `NS::name(args)`
    (∀ k ns name args c c2 f kw, (k = .implicit ns ∨ k = .bridge ns) →
        evalArgs rec args c = some (.ok (kw, c2)) → resolveNs C ns name = some f →
        evalStep C rec (.call k name args) c =
          invoke rec (match f.kind with | .bridge _ => .function | _ => .operation) f.body kw .none c2) ∧
    -- `transform KL::name(args)`: the class-based operation of the class KL only
    (∀ ns name args c c2 f kw, evalArgs rec args c = some (.ok (kw, c2)) →
        findCallable C (fun f => f.kind = .classOp ns ∧ f.name = name) = some f →
        evalStep C rec (.call (.classOp ns) name args) c = invoke rec .operation f.body kw .none c2) ∧
    (∀ kw st, evalStep C rec .self { fr := mkFrame .operation kw .none, st := st }
        = some (.ok (.none, { fr := mkFrame .operation kw .none, st := st }))) ∧
    -- function: `::name(args)`
    (∀ name args c c2 f kw, evalArgs rec args c = some (.ok (kw, c2)) →
        findCallable C (fun f => f.kind = .function ∧ f.name = name) = some f →
        evalStep C rec (.call .function name args) c = invoke rec .function f.body kw .none c2) ∧
    (∀ kw self st, ∃ e, evalStep C rec .self { fr := mkFrame .function kw self, st := st } = some (.error e)) :=
  ⟨fun _ h => eval_self h, fun _ h => eval_self_function h,
   fun _ _ _ _ _ _ _ _ _ h1 h2 h3 => callInst_runs_with_self h1 h2 h3,
   fun _ _ _ _ h1 h2 => derived_read h1 h2, fun _ _ _ => rfl,
   fun _ _ _ _ _ _ _ _ hk ha hf => call_ns_runs hk ha hf,
   fun _ _ _ _ _ _ _ ha hf => call_classOp_runs ha hf,
   fun kw st => eval_self_classOp C rec kw st,
   fun _ _ _ _ _ _ ha hf => call_function_runs_unbound ha hf,
   fun _ _ _ => eval_self_function rfl⟩

/-- the NAME `self` (any letter case) used where a variable is expected — `relate self to …`, `unrelate self from …`,
    `delete object instance self`, `select … related by self->…`, `for each … in self` — denotes the receiver in an
    operation and a derived attribute; in a function it is an ordinary variable name -/
theorem self_name (C : Ctx) (x : String) (c : Cfg) :
    (selfHit c.fr x = true → lookupVar C x c = some (.ok (c.fr.self, c))) ∧
    (∀ v, selfHit c.fr x = false → envLookup c.fr.env x = some v → lookupVar C x c = some (.ok (v, c))) ∧
    (c.fr.kind = .function → selfHit c.fr x = false) ∧
    (c.fr.kind ≠ .function → selfHit c.fr x = (x.map Char.toLower == "self")) :=
  ⟨lookupVar_self, fun _ h1 h2 => lookupVar_env h1 h2, fun h => by simp [selfHit, h],
   Pyx.CShape.selfHit_eq x⟩

/-! ## the result -/

/-- an invocation delivers the callee's return register at the end of its body — and nothing else of the callee's
    frame survives; `return e` stores the value of `e` there and ends every enclosing list, block and loop at once
    (the statements after it do not run); a body that ends without `return <expr>` (falls through, bare `return;`,
    `control stop`) delivers nothing -/
theorem return_value (C : Ctx) (n : Nat) :
    (∀ kind body kw self c v c2, invoke (run C n) kind body kw self c = some (.ok (v, c2)) →
        ∃ c', runBody (run C n) body { fr := mkFrame kind kw self, st := c.st } = some (.ok ((), c')) ∧
          v = c'.fr.ret ∧ c2 = { fr := c.fr, st := c'.st }) ∧
    (∀ e cfg c1 v, Evals C e cfg (.ok (v, c1)) →
        Execs C (.ret (some e)) cfg (.ok (.ret, { c1 with fr := { c1.fr with ret := v } }))) ∧
    (∀ s rest cfg c1, Execs C s cfg (.ok (.ret, c1)) → ListExecs C (s :: rest) cfg (.ok (.ret, c1))) ∧
    (∀ cfg, Execs C (.ret none) cfg (.ok (.retBare, cfg))) ∧
    (∀ kind body kw self c c' o, NotDerived kind →
        execBlock (run C n) body { fr := mkFrame kind kw self, st := c.st } = some (.ok (o, c')) →
        (o = .normal ∨ o = .stop ∨ o = .retBare) →
        invoke (run C n) kind body kw self c = some (.ok (.none, { fr := c.fr, st := c'.st }))) :=
  ⟨fun _ _ _ _ _ _ _ h => invoke_ok_inv h, fun _ _ _ _ h => exec_return_value h,
   fun _ _ _ _ h => list_cons_abrupt h (by simp), fun _ => exec_return_bare,
   fun _ _ _ _ _ _ _ hk hb ho => invoke_without_return_value hk hb ho⟩

/-- outside derived attributes the return register is written by `return <expr>` only: a statement that does not
    complete by `return` leaves it as it was (whatever it calls, creates, selects or loops over) -/
theorem return_register_untouched (C : Ctx) (n : Nat) (s : Stmt) (c c' : Cfg) (o : Out)
    (h : (run C n).exec s c = some (.ok (o, c'))) (hk : NotDerived c.fr.kind) :
    c'.fr.kind = c.fr.kind ∧ (o ≠ .ret → c'.fr.ret = c.fr.ret) :=
  presRet_run C n s c o c' h hk

/-- **the value of the executed return**, with the witness tied to the body: an invocation (function, bridge,
    operation) that delivers `v` either ended its body without a value return (fell through, bare `return;`,
    `control stop`) and `v` is nothing, or there is a statement `return e` OCCURRING IN THE BODY (`OccB`: at any depth
    of blocks, `if` / `elif` / `else`, `while`, `for each`) whose expression `e` was evaluated — in a configuration `c0`
    of the callee's own activation (its walker kind, its parameters bound by name, its `self`) whose state is reached
    from the state at the call by a history of state operations — to exactly `v`; the body ended by `return`, and after
    that evaluation nothing but unwinding happened (the state the caller gets back is the state right after the
    evaluation).  A value other than nothing therefore is the value of a return statement of this body, evaluated in
    this activation. -/
theorem return_value_executed (C : Ctx) (n : Nat) (kind : WalkerKind) (body : Block) (kw : List (String × Val))
    (self : Val) (c c2 : Cfg) (v : Val) (hk : NotDerived kind)
    (h : invoke (run C n) kind body kw self c = some (.ok (v, c2))) :
    ((v = .none ∧ ∃ o c', execBlock (run C n) body { fr := mkFrame kind kw self, st := c.st } = some (.ok (o, c')) ∧ o ≠ .ret) ∨
     (∃ e c0 cE c', OccB (.ret (some e)) body ∧
        c0.fr.kind = kind ∧ c0.fr.params = paramsOf kw ∧ c0.fr.self = self ∧ Reach C c.st c0.st ∧
        (run C n).eval e c0 = some (.ok (v, cE)) ∧
        execBlock (run C n) body { fr := mkFrame kind kw self, st := c.st } = some (.ok (.ret, c')) ∧
        c'.st = cE.st ∧ c2.st = cE.st)) ∧
    (v ≠ .none → ∃ c', execBlock (run C n) body { fr := mkFrame kind kw self, st := c.st } = some (.ok (.ret, c')) ∧
        v = c'.fr.ret) :=
  ⟨invoke_delivers_executed_return hk h, invoke_value_needs_return hk h⟩

/-- a statement `s` completes with the outcome `ret` only through a return statement OCCURRING IN `s` (`Occ`: `s`
    itself or a statement nested in its blocks): its expression was evaluated to `v` in a configuration of the same
    activation (same kind, parameters, self) whose state is reached from the state `s` started in, `v` is in the
    register, and the final state is the state right after that evaluation — for every statement, at every nesting
    depth, for every fuel -/
theorem return_outcome_has_event (C : Ctx) (n : Nat) (s : Stmt) (c c' : Cfg)
    (h : (run C n).exec s c = some (.ok (.ret, c'))) :
    ∃ e c0 v cE, Occ (.ret (some e)) s ∧
      (c0.fr.kind = c.fr.kind ∧ c0.fr.params = c.fr.params ∧ c0.fr.self = c.fr.self) ∧ Reach C c.st c0.st ∧
      (run C n).eval e c0 = some (.ok (v, cE)) ∧ c'.st = cE.st ∧ c'.fr.ret = v := by
  obtain ⟨_, hev⟩ := retInv_run C n s c .ret c' h
  obtain ⟨e, c0, v, cE, hin, hl, he, hs1, hs2⟩ := hev rfl
  exact ⟨e, c0, v, cE, hin, hl.1, hl.2, he, hs1, hs2⟩

/-! ## derived attributes -/

/-- a derived attribute is recomputed on every read: the read IS the invocation of its body in the state of the
    moment (the configuration has no cache to remember an earlier value in), so two reads with a state change in
    between deliver the body's value in the respective states -/
theorem derived_recomputed (C : Ctx) (rec : Oracle) (i : Inst) (name : String) (f : Callable) (c1 c2 : Cfg)
    (h1 : regHit c1.fr i name = false) (h2 : regHit c2.fr i name = false)
    (hf : findDerived C i.cls name = some f) :
    readField C rec i name c1 = invoke rec (.derived i name) f.body [] (.inst i) c1 ∧
    readField C rec i name c2 = invoke rec (.derived i name) f.body [] (.inst i) c2 ∧
    (c1.st = c2.st →
      (readField C rec i name c1).map (fun r => r.map (fun p => (p.1, p.2.st))) =
      (readField C rec i name c2).map (fun r => r.map (fun p => (p.1, p.2.st)))) := by
  refine ⟨derived_read h1 hf, derived_read h2 hf, fun hst => ?_⟩
  rw [derived_read h1 hf, derived_read h2 hf]
  exact invoke_state_only rec _ _ _ _ c1 c2 hst

/-- derived attributes whose action NAVIGATES (or reads other instances): a read that follows a change of the link store
    or of any attribute — `relate`, `unrelate`, `x.attr = v`, any store transformer `g` that succeeds — is the
    evaluation of the body in the CHANGED store; nothing of an earlier evaluation is used -/
theorem derived_after_store_change (C : Ctx) (rec : Oracle) (i : Inst) (name : String) (f : Callable)
    (g : State → Except Err State) (c : Cfg) (st' : State)
    (hreg : regHit c.fr i name = false) (hf : findDerived C i.cls name = some f) (hg : g c.st = .ok st') :
    (do M.modifySt g; readField C rec i name) c =
      invoke rec (.derived i name) f.body [] (.inst i) { c with st := st' } := by
  have hm : M.modifySt g c = some (.ok ((), { c with st := st' })) := by
    unfold M.modifySt; rw [hg]
  rw [bind_ok hm]
  exact derived_read (c := { c with st := st' }) hreg hf

/-- … in particular after the three statements that change what a navigation or a partner read delivers -/
theorem derived_after_relate_unrelate_assign (C : Ctx) (rec : Oracle) (i : Inst) (name : String) (f : Callable) (c : Cfg)
    (hreg : regHit c.fr i name = false) (hf : findDerived C i.cls name = some f) (x y : Inst) (rel ph attr : String)
    (v : Val) (st' : State) :
    (relate C x y rel ph c.st = .ok st' →
      (do M.modifySt (relate C x y rel ph); readField C rec i name) c =
        invoke rec (.derived i name) f.body [] (.inst i) { c with st := st' }) ∧
    (unrelate C x y rel ph c.st = .ok st' →
      (do M.modifySt (unrelate C x y rel ph); readField C rec i name) c =
        invoke rec (.derived i name) f.body [] (.inst i) { c with st := st' }) ∧
    (setAttr C x attr v c.st = .ok st' →
      (do M.modifySt (setAttr C x attr v); readField C rec i name) c =
        invoke rec (.derived i name) f.body [] (.inst i) { c with st := st' }) :=
  ⟨fun h => derived_after_store_change C rec i name f _ c st' hreg hf h,
   fun h => derived_after_store_change C rec i name f _ c st' hreg hf h,
   fun h => derived_after_store_change C rec i name f _ c st' hreg hf h⟩

/-! ## enumerations and constants -/

/-- `mk_enum` numbers the enumerators in their MODELED order (the R56 chain), whatever the order of the S_ENUM rows
    in the model files: for every permutation `rows` of the rows that encode the enumerators `L` (distinct non-null
    ids), the order is `L`'s; and an enumerator reads as its position in that order -/
theorem enum_positions (L : List (Nat × String)) (hnd : (0 :: L.map Prod.fst).Nodup) (rows : List EnumRow)
    (hperm : rows.Perm (mkRows 0 L)) :
    enumOrder rows = L.map Prod.snd ∧
    ((L.map Prod.snd).Nodup → ∀ (k : Nat) (h : k < (L.map Prod.snd).length),
        posOf (L.map Prod.snd)[k] (enumOrder rows) = some k) := by
  have h := enumOrder_perm L hnd rows hperm
  refine ⟨h, fun hn k hk => ?_⟩
  rw [h]; exact posOf_getElem _ hn k hk

/-- `Enum::name` evaluates to that position -/
theorem enum_value (C : Ctx) (rec : Oracle) (ns name : String) (d : EnumDecl) (k : Nat) (c : Cfg)
    (hd : C.enums.find? (fun d => d.name = ns) = some d) (hk : posOf name d.enumerators = some k) :
    evalStep C rec (.enumOrConst ns name) c = some (.ok (.int k, c)) := by
  simp only [evalStep, hd, hk]; rfl

/-- a named constant reads as its modeled value converted by its data type, whatever the order of the CNST rows -/
theorem constants (rows rows' : List ConstRow) (hp : rows.Perm rows') (hnd : (rows.map ConstRow.name).Nodup) :
    (∀ x, (constTable rows).lookup x = (constTable rows').lookup x) ∧
    (∀ r ∈ rows, ∀ v, constVal r.tyName r.text = some v → (constTable rows').lookup r.name = some v) := by
  refine ⟨constTable_lookup_perm hp hnd, ?_⟩
  intro r hr v hv
  rw [← constTable_lookup_perm hp hnd]
  exact constTable_lookup hnd hr hv

/-- the conversions of `mk_constant`, for EVERY text: a string constant is its text; a boolean is whether the text
    spelled in lower case is `true`; an integer is the number its decimal numeral denotes — for every integer; any
    other type name yields no constant -/
theorem constants_conversion :
    (∀ t, constVal "string" t = some (.str t)) ∧
    (∀ t, constVal "boolean" t = some (.bool (t.map Char.toLower == "true"))) ∧
    (∀ n : Nat, constVal "integer" (Nat.repr n) = some (.int n)) ∧
    (∀ n : Nat, constVal "integer" ("-" ++ Nat.repr (n + 1)) = some (.int (-((n + 1 : Nat) : Int)))) ∧
    (∀ ty t, ty ≠ "boolean" → ty ≠ "integer" → ty ≠ "string" → constVal ty t = none) :=
  constVal_universal

/-- the tables reach the interpreter: where the context carries `constTable rows'` (any permutation of the CNST rows),
    the NAME of a constant — not hidden by a local variable, not `self` — evaluates to its converted value, and a local
    variable of that name hides it; where the context carries `mk_enum`'s order of the (permuted) S_ENUM rows of `E`,
    `E::name` evaluates to the modeled position of `name` -/
theorem tables_reach_interpreter (C : Ctx) (rec : Oracle) :
    (∀ (rows rows' : List ConstRow) (r : ConstRow) (v : Val) (c : Cfg), C.consts = constTable rows' → rows.Perm rows' → (rows.map ConstRow.name).Nodup → r ∈ rows →
        constVal r.tyName r.text = some v → selfHit c.fr r.name = false → envLookup c.fr.env r.name = none →
        evalStep C rec (.var r.name) c = some (.ok (v, c))) ∧
    (∀ (x : String) (c : Cfg) (w : Val), selfHit c.fr x = false → envLookup c.fr.env x = some w →
        evalStep C rec (.var x) c = some (.ok (w, c))) ∧
    (∀ (ns : String) (rows : List EnumRow) (L : List (Nat × String)) (k : Nat) (hk : k < (L.map Prod.snd).length) (c : Cfg),
        C.enums.find? (fun d => d.name = ns) = some ⟨ns, enumOrder rows⟩ →
        (0 :: L.map Prod.fst).Nodup → rows.Perm (mkRows 0 L) → (L.map Prod.snd).Nodup →
        evalStep C rec (.enumOrConst ns (L.map Prod.snd)[k]) c = some (.ok (.int k, c))) :=
  ⟨fun _ _ _ _ _ hC hp hnd hr hv hs he => const_read hC hp hnd hr hv hs he,
   fun _ _ _ hs he => const_hidden hs he,
   fun _ _ _ k hk c hC hnd hp hn => enum_read hC hnd hp hn k hk c⟩

/-- `g`: `x = 99; y = 5; return x + y;`      `f`: `x = 1; y = ::g(); return x * 1000 + y;`
    `fact(cnt)`: `if (param.cnt > 0) return param.cnt * ::fact(cnt: param.cnt - 1); end if; return 1;`
    class A: `twice` (derived) `self.twice = self.n * 2;`, instance operation `bump(d)`: `self.n = self.n + param.d; return self.n;` -/
def C1 : Ctx :=
  { classes := [⟨"A", [⟨"n", .integer, false⟩]⟩],
    callables := [
      ⟨.function, "g", [.assignVar "x" (.int 99), .assignVar "y" (.int 5), .ret (some (.bin .add (.var "x") (.var "y")))]⟩,
      ⟨.function, "f", [.assignVar "x" (.int 1), .assignVar "y" (.call .function "g" []),
                        .ret (some (.bin .add (.bin .mul (.var "x") (.int 1000)) (.var "y")))]⟩,
      ⟨.function, "fact", [.ifS (.bin .gt (.param "cnt") (.int 0))
                              [.ret (some (.bin .mul (.param "cnt")
                                (.call .function "fact" [("cnt", .bin .sub (.param "cnt") (.int 1))])))] [] none,
                           .ret (some (.int 1))]⟩,
      ⟨.derived "A", "twice", [.assignField .self "twice" (.bin .mul (.field .self "n") (.int 2))]⟩,
      ⟨.instOp "A", "bump", [.assignField .self "n" (.bin .add (.field .self "n") (.param "d")),
                             .ret (some (.field .self "n"))]⟩,
      ⟨.function, "nothing", [.assignVar "x" (.int 1), .ret none, .assignVar "x" (.int 2)]⟩,
      -- `sub2(a, b)`: `return param.a - param.b;`
      ⟨.function, "sub2", [.ret (some (.bin .sub (.param "a") (.param "b")))]⟩,
      -- `deep(a, b)`: `i = 0; while (true) i = i + 1; if (i > param.a) if (param.b > 0) return i * param.b; end if; return; end if; end while; return 0 - 1;`
      ⟨.function, "deep", [.assignVar "i" (.int 0),
                           .whileS (.bool true) [
                             .assignVar "i" (.bin .add (.var "i") (.int 1)),
                             .ifS (.bin .gt (.var "i") (.param "a"))
                               [.ifS (.bin .gt (.param "b") (.int 0)) [.ret (some (.bin .mul (.var "i") (.param "b")))] [] none,
                                .ret none] [] none],
                           .ret (some (.int (-1)))]⟩,
      -- class-based operation `A::whoami()`: `if (empty self) return 1; end if; return 0;`
      ⟨.classOp "A", "whoami", [.ifS (.un .empty .self) [.ret (some (.int 1))] [] none, .ret (some (.int 0))]⟩ ],
    enums := [⟨"Color", enumOrder [⟨12, "blue", 11⟩, ⟨10, "red", 0⟩, ⟨11, "green", 10⟩]⟩],
    consts := constTable [⟨"K", "integer", "42"⟩] }

def st1 : State :=
  { live := fun c => if c = "A" then [0] else [], next := fun c => if c = "A" then 1 else 0,
    attr := fun _ _ => .int 3, links := fun _ => [], nextId := 1 }

def valOf (r : Option (Except Err (Val × State))) : Option Val :=
  match r with | some (.ok (v, _)) => some v | _ => none

/-- the callee's `x = 99` does not reach the caller's `x` -/
example : valOf (runFunction C1 12 [.ret (some (.call .function "f" []))] [] st1) = some (.int 1104) := by
  decide +kernel
/-- self-recursion: 4! -/
example : valOf (runFunction C1 40 [.ret (some (.call .function "fact" [("cnt", .int 4)]))] [] st1) = some (.int 24) := by
  decide +kernel
/-- a derived attribute read, a state change through an instance operation, the derived attribute again: 6, then 16;
    enumerator positions follow the chain red, green, blue although the rows are permuted; the constant reads 42 -/
example : valOf (runFunction C1 20 [
      .selectFrom false "a" "A" none,
      .assignVar "before" (.field (.var "a") "twice"),
      .invoke (.callInst (.var "a") "bump" [("d", .int 5)]),
      .ret (some (.bin .add (.bin .mul (.var "before") (.int 100))
              (.bin .add (.field (.var "a") "twice")
                (.bin .add (.bin .mul (.enumOrConst "Color" "blue") (.int 10000)) (.bin .mul (.var "K") (.int 100000))))))]
    [] st1) = some (.int (6 * 100 + 16 + 2 * 10000 + 42 * 100000)) := by
  decide +kernel
/-- a bare return delivers nothing, and the statement after it does not run -/
example : valOf (runFunction C1 12 [.ret (some (.call .function "nothing" []))] [] st1) = some .none := by
  decide +kernel
example : enumOrder [⟨12, "blue", 11⟩, ⟨10, "red", 0⟩, ⟨11, "green", 10⟩] = ["red", "green", "blue"] := by
  decide +kernel
/-- the hypotheses of `enum_positions` are satisfiable: these rows are a permutation of the modeled chain -/
example : ([⟨12, "blue", 11⟩, ⟨10, "red", 0⟩, ⟨11, "green", 10⟩] : List EnumRow).Perm
    (mkRows 0 [(10, "red"), (11, "green"), (12, "blue")]) := by
  decide +kernel

/-! ### the hypotheses of the main theorems are satisfiable — and what the theorems then say

  (`valOfR`, `ok_of_valOfR` in Proofs/InterpReturn.lean: `valOfR` projects the value out of a result; `ok_of_valOfR` turns a decided projection into the hypothesis shape
  `… = some (.ok (v, c'))` the theorems ask for) -/

def cfg1 : Cfg := { fr := mkFrame .function [] .none, st := st1 }

/-- a call with two parameters, arguments in either order: `sub2(a: 10, b: 3)` = `sub2(b: 3, a: 10)` = 7 -/
example : valOfR ((run C1 6).eval (.call .function "sub2" [("a", .int 10), ("b", .int 3)]) cfg1) = some (.int 7) ∧
          valOfR ((run C1 6).eval (.call .function "sub2" [("b", .int 3), ("a", .int 10)]) cfg1) = some (.int 7) := by
  decide +kernel

/-- `params_by_name` applied: its hypotheses (a permutation of an argument list with distinct names) hold here -/
example (rec : Oracle) (body : Block) :
    invoke rec .function body [("a", .int 10), ("b", .int 3)] .none =
    invoke rec .function body [("b", .int 3), ("a", .int 10)] .none :=
  (params_by_name C1 rec .function body _ _ .none (List.Perm.swap _ _ _) (by decide)).1

/-- `call_isolated` applied to an actual call: the evaluation succeeds with 1104, and the frame is the caller's -/
example : ∃ c', (run C1 12).eval (.call .function "f" []) cfg1 = some (.ok (.int 1104, c')) ∧ c'.fr = cfg1.fr := by
  obtain ⟨c', h⟩ := ok_of_valOfR (r := (run C1 12).eval (.call .function "f" []) cfg1) (v := .int 1104) (by decide +kernel)
  exact ⟨c', h, call_isolated C1 12 _ _ _ _ h⟩

private theorem deep_run : valOfR (invoke (run C1 30) .function
      ((C1.callables.find? (fun f => f.name = "deep")).map Callable.body |>.getD [])
      [("a", .int 2), ("b", .int 5)] .none cfg1) = some (.int 15) := by decide +kernel

/-- `return_value_executed` applied to a return nested in `while` / `if` / `if`: `deep(a: 2, b: 5)` delivers 15, a value
    other than nothing, so (second conjunct) the body ended by `return` and 15 is the register it left -/
example : ∃ c2, invoke (run C1 30) .function
      ((C1.callables.find? (fun f => f.name = "deep")).map Callable.body |>.getD [])
      [("a", .int 2), ("b", .int 5)] .none cfg1 = some (.ok (.int 15, c2)) ∧
    ∃ c', execBlock (run C1 30) ((C1.callables.find? (fun f => f.name = "deep")).map Callable.body |>.getD [])
      { fr := mkFrame .function [("a", .int 2), ("b", .int 5)] .none, st := cfg1.st } = some (.ok (.ret, c')) ∧
      Val.int 15 = c'.fr.ret := by
  obtain ⟨c2, h⟩ := ok_of_valOfR deep_run
  exact ⟨c2, h, (return_value_executed C1 30 _ _ _ _ _ _ _ (by simp [NotDerived]) h).2 (by simp)⟩

/-- … and (first conjunct) 15 is the value of a `return e` statement that OCCURS in the body of `deep`, evaluated in an
    activation with `deep`'s parameters: the "nothing" alternative is excluded by the value -/
example : ∃ e c0 cE, OccB (.ret (some e)) ((C1.callables.find? (fun f => f.name = "deep")).map Callable.body |>.getD []) ∧
    c0.fr.params = paramsOf [("a", .int 2), ("b", .int 5)] ∧ (run C1 30).eval e c0 = some (.ok (.int 15, cE)) := by
  obtain ⟨c2, h⟩ := ok_of_valOfR deep_run
  rcases (return_value_executed C1 30 _ _ _ _ _ _ _ (by simp [NotDerived]) h).1 with ⟨hv, _⟩ | ⟨e, c0, cE, c', hin, _, hp, _, _, hev, _⟩
  · cases hv
  · exact ⟨e, c0, cE, hin, hp, hev⟩

/-- the bare `return;` nested at the same place delivers nothing: `deep(a: 2, b: 0)` -/
example : valOfR ((run C1 30).eval (.call .function "deep" [("a", .int 2), ("b", .int 0)]) cfg1) = some .none := by
  decide +kernel

/-- in a class-based operation `self` is the empty handle; in a function reading `self` is an error -/
example : valOfR ((run C1 10).eval (.call (.classOp "A") "whoami" []) cfg1) = some (.int 1) ∧
          valOfR ((run C1 10).eval .self cfg1) = none := by
  decide +kernel

/-- a derived attribute whose action navigates: `B.d`:
    `select one a related by self->A[R1]; self.d = 0; if (not_empty a) self.d = a.n * 2; end if;`
    read before any link (0), after `relate` (2·3), after an assignment to the partner (2·7), after `unrelate` (0) -/
def C2 : Ctx :=
  { classes := [⟨"A", [⟨"n", .integer, false⟩]⟩, ⟨"B", [⟨"n", .integer, false⟩, ⟨"A_ID", .uniqueId, true⟩]⟩],
    assocs := [{ rel := "R1", src := "B", tgt := "A", srcPhrase := "", tgtPhrase := "", srcMany := true, tgtMany := false,
                 srcKeys := ["A_ID"], tgtKeys := ["ID"] }],
    callables := [
      ⟨.derived "B", "d", [.selectRelated false "a" .self [⟨"A", "R1", ""⟩] none,
                           .assignField .self "d" (.int 0),
                           .ifS (.un .notEmpty (.var "a"))
                             [.assignField .self "d" (.bin .mul (.field (.var "a") "n") (.int 2))] [] none]⟩ ] }

def st2 : State :=
  { live := fun c => if c = "A" ∨ c = "B" then [0] else [], next := fun c => if c = "A" ∨ c = "B" then 1 else 0,
    attr := fun _ _ => .int 3, links := fun _ => [], nextId := 1 }

example : valOf (runFunction C2 20 [
      .selectFrom false "b" "B" none, .selectFrom false "a" "A" none,
      .assignVar "x1" (.field (.var "b") "d"),
      .relate "b" "a" "R1" "",
      .assignVar "x2" (.field (.var "b") "d"),
      .assignField (.var "a") "n" (.int 7),
      .assignVar "x3" (.field (.var "b") "d"),
      .unrelate "b" "a" "R1" "",
      .assignVar "x4" (.field (.var "b") "d"),
      .ret (some (.bin .add (.bin .add (.bin .mul (.var "x1") (.int 1000000)) (.bin .mul (.var "x2") (.int 10000)))
                            (.bin .add (.bin .mul (.var "x3") (.int 100)) (.var "x4"))))]
    [] st2) = some (.int (0 * 1000000 + 6 * 10000 + 14 * 100 + 0)) := by
  decide +kernel

end PyxProps.C15

/-!
  Source tie of the call path's statement structure.  translator/gen_callshape.py re-reads, with `ast`, everything between an OAL
  invocation and the body it runs — in bridgepoint/interpret.py: accept_ParameterListNode, the five accept_*InvocationNode
  handlers, accept_EnumOrNamedConstantNode, accept_ParamAccessNode / accept_SelfAccessNode, the walkers' `__init__`, run_function /
  run_operation / run_derived_attribute, InstanceSymbolTable.find_symbol; in bridgepoint/ooaofooa.py: Domain.add_symbol /
  find_symbol, mk_function / mk_bridge / mk_operation / mk_derived_attribute / mk_external_entity / mk_enum / mk_constant, the
  add_symbol calls of mk_component — into Gen/CallShape.lean.  Proofs/CallShape.lean defines ONE generic interpreter of that IR
  over Spec's configurations (`Pyx.CShape`, for any IR value) and states what each generated handler computes.  The theorems
  below state that the clauses of `Spec` / `Model` ARE the interpretation of the IR generated from the current source — for
  every context, oracle (= every sub-result, every amount of fuel, calls nested to any depth in the actual parameters),
  configuration and EVERY content `u` of the untyped dictionary `Domain.symbols` — so collecting the parameters anywhere but in
  the local dict, storing one under another key, asking find_symbol for another kind or kinds in another order, looking an
  enumerator up among the constants, fetching the operation from something else than the handle's class, calling it without the
  instance, binding `self` of a class-based operation to the class, another walker class / constructor order / symbol table,
  returning something else than `w.return_value`, following R56 the other way or another type-to-conversion table changes the
  IR and breaks these theorems before any test runs; a statement outside the translated fragment makes the generator raise
  (broken tie).  NOT in these equations: the meaning of the atoms (listed at the head of Proofs/CallShape.lean: hand-modelled,
  digest-checked environment, validated by correspondence).  `Spec`'s clause for `transform KL::op()` follows the source: the
  class only, looked up before the parameters are evaluated (`transform_resolution_iff_as_in_source`,
  `transform_prefers_class_witness`).
-/
namespace PyxProps.C15
open Pyx.Interp Pyx.CShape Pyx.Gen.CallShape

/-- actual parameters: a LOCAL dict, filled child by child in source order under the child's name with the value of its
    expression (which may contain further invocations: they have their own dict), and returned -/
theorem parameters_as_in_source (C : Ctx) (P : Parts) (D : Dom) (rec : Oracle) (args : List (String × Expr)) :
    evalArgs rec args = handlerK C P D rec { children := paramNodes rec args } accept_ParameterListNode :=
  paramList_eq C P D rec args

/-- `::f(args)`: parameters first, then `find_symbol(action_name, 'function')`, then `fn(**kwargs)` — through mk_function's
    lambda, run_function, FunctionWalker.__init__ (kwargs stored, plain symbol table), `w.accept(root)`, `return w.return_value` -/
theorem function_call_as_in_source (C : Ctx) (u : String → Option Sym) (rec : Oracle) (name : String)
    (args : List (String × Expr)) (f : Callable)
    (hf : findCallable C (fun f => f.kind = .function ∧ f.name = name) = some f) :
    evalStep C rec (.call .function name args) =
      handlerE C gen (domOf C u) rec (invNode C gen (domOf C u) rec [("action_name", name)] none args)
        accept_FunctionInvocationNode :=
  function_call_eq C u rec name args f hf

/-- name-space dispatch of `bridge EE::f()`, `NS::f()` (external entity BEFORE class) and `transform KL::op()` (class only,
    parameters after the look-up); the bridge runs as a function, the class-based operation in an operation walker with the
    empty handle as `self` -/
theorem namespace_calls_as_in_source (C : Ctx) (u : String → Option Sym) (rec : Oracle) (ns name : String)
    (args : List (String × Expr)) (f : Callable) :
    (findCallable C (fun f => f.kind = .bridge ns ∧ f.name = name) = some f →
      evalStep C rec (.call (.bridge ns) name args) =
        handlerE C gen (domOf C u) rec (invNode C gen (domOf C u) rec [("namespace", ns), ("action_name", name)] none args)
          accept_BridgeInvocationNode ∧
      evalStep C rec (.call (.implicit ns) name args) =
        handlerE C gen (domOf C u) rec (invNode C gen (domOf C u) rec [("namespace", ns), ("action_name", name)] none args)
          accept_ImplicitInvocationNode) ∧
    (hasBridges C ns = false → (findClass C ns).isSome = true →
      findCallable C (fun f => f.kind = .classOp ns ∧ f.name = name) = some f →
      evalStep C rec (.call (.implicit ns) name args) =
        handlerE C gen (domOf C u) rec (invNode C gen (domOf C u) rec [("namespace", ns), ("action_name", name)] none args)
          accept_ImplicitInvocationNode) ∧
    ((findClass C ns).isSome = true →
      findCallable C (fun f => f.kind = .classOp ns ∧ f.name = name) = some f →
      evalStep C rec (.call (.classOp ns) name args) =
        handlerE C gen (domOf C u) rec (invNode C gen (domOf C u) rec [("key_letter", ns), ("action_name", name)] none args)
          accept_ClassInvocationNode) :=
  ⟨fun hb => ⟨bridge_call_eq C u rec ns name args f hb, implicit_bridge_call_eq C u rec ns name args f hb⟩,
   fun hne hcls hc => implicit_classOp_call_eq C u rec ns name args f hne hcls hc,
   fun hcls hc => class_call_eq C u rec ns name args f hcls hc⟩

/-- `h.op(args)`: the handle, then the operation fetched from THE HANDLE'S CLASS, then the parameters, then `op(inst, **kwargs)`:
    mk_operation's instance-based lambda hands the instance to run_operation as `self` — found or not, for every handle value
    (no class-based operation carries the name: the two share one attribute of the class) -/
theorem instance_call_as_in_source (C : Ctx) (u : String → Option Sym) (rec : Oracle) (h : Expr) (name : String)
    (args : List (String × Expr))
    (hnc : ∀ kl, findCallable C (fun f => f.kind = .classOp kl ∧ f.name = name) = none) :
    evalStep C rec (.callInst h name args) =
      handlerE C gen (domOf C u) rec (invNode C gen (domOf C u) rec [("action_name", name)] (some (rec.eval h)) args)
        accept_InstanceInvocationNode :=
  instance_call_eq C u rec h name args hnc

/-- what the constructors bind: mk_function / mk_bridge run the action as a function with the call's parameters; mk_operation
    binds `self` to the instance (instance based) or to None (class based, the classmethod's `cls` is dropped); mk_derived_attribute
    runs the action in a derived-attribute walker for (instance, attribute name) without parameters — each through its run_*
    function, the walker's constructor chain and `return w.return_value` -/
theorem constructors_bind_as_in_source (rec : Oracle) (f : Callable) (kl : String) (v : Val) (i : Inst) (kw : List (String × Val)) :
    callCallee gen rec ⟨mk_function, f, none⟩ [] (some kw) = invoke rec .function f.body kw .none ∧
    callCallee gen rec ⟨mk_bridge, f, none⟩ [] (some kw) = invoke rec .function f.body kw .none ∧
    callCallee gen rec ⟨mk_operation_instance_based, f, some kl⟩ [.val v] (some kw) = invoke rec .operation f.body kw v ∧
    callCallee gen rec ⟨mk_operation_class_based, f, some kl⟩ [] (some kw) = invoke rec .operation f.body kw .none ∧
    callCallee gen rec ⟨mk_derived_attribute, f, some kl⟩ [.val (.inst i)] none = invoke rec (.derived i f.name) f.body [] (.inst i) :=
  ⟨call_function_eq rec f kw, call_bridge_eq rec f kw, call_opInst_eq rec f (some kl) v kw, call_opCls_eq rec f kl kw,
   call_derived_eq rec f (some kl) i⟩

/-- the walkers: which class with which constructor arguments each run function creates, what the constructor chain stores
    (kwargs, instance, attribute name; the symbol table assigned LAST: plain for functions, the instance table for operations
    and derived attributes) and that the result is the walker's `return_value` after `w.accept(root)` (None = nothing when no
    `return <expr>` ran: `mkFrame`'s register) -/
theorem walkers_as_in_source (rec : Oracle) (body : Block) (kw : List (String × Val)) (v : Val) (a : String) (i : Inst) :
    iRun gen rec run_function [.dom, .label, .body body, .kwargs kw] = invoke rec .function body kw .none ∧
    iRun gen rec run_operation [.dom, .label, .body body, .kwargs kw, .val v] = invoke rec .operation body kw v ∧
    iRun gen rec run_derived_attribute [.dom, .label, .body body, .str a, .val (.inst i)] =
      invoke rec (.derived i a) body [] (.inst i) ∧
    newWalker gen "FunctionWalker" [.dom, .kwargs kw] = some (mkFrame .function kw .none) ∧
    newWalker gen "OperationWalker" [.dom, .kwargs kw, .val v] = some (mkFrame .operation kw v) ∧
    newWalker gen "DerivedAttributeWalker" [.dom, .str a, .val (.inst i)] = some (mkFrame (.derived i a) [] (.inst i)) :=
  ⟨run_function_eq rec body kw, run_operation_eq rec body kw v, run_derived_eq rec body a i, newWalker_function kw,
   newWalker_operation kw v, newWalker_derived a i⟩

/-- `E::name`: `find_symbol(namespace, 'enumeration')` — the enumeration ONLY, whatever constants exist — then the field `name`
    of the namedtuple, whose value is its position (`Enum(*range(len(enums)))`) -/
theorem enumerator_as_in_source (C : Ctx) (u : String → Option Sym) (rec : Oracle) (ns name : String) (d : EnumDecl)
    (hd : C.enums.find? (fun d => d.name = ns) = some d) :
    evalStep C rec (.enumOrConst ns name) =
      handlerE C gen (domOf C u) rec { str := fun f => ([("namespace", ns), ("name", name)].lookup f).getD "" }
        accept_EnumOrNamedConstantNode :=
  enumerator_eq C u rec ns name d hd

/-- `param.x` = `self.kwargs[variable_name]` in function and operation walkers; `self` = `self.instance` in operation and
    derived-attribute walkers; the NAME self (any letter case) = InstanceSymbolTable.find_symbol, which functions do not have -/
theorem param_self_as_in_source (C : Ctx) (P : Parts) (D : Dom) (rec : Oracle) (x : String) (c : Cfg) :
    (c.fr.kind = .function → evalStep C rec (.param x) c = handlerE C P D rec (paramNode x) FunctionWalker_accept_ParamAccessNode c) ∧
    (c.fr.kind = .operation → evalStep C rec (.param x) c = handlerE C P D rec (paramNode x) OperationWalker_accept_ParamAccessNode c) ∧
    (c.fr.kind ≠ .function → evalStep C rec .self c = handlerE C P D rec {} OperationWalker_accept_SelfAccessNode c ∧
        evalStep C rec .self c = handlerE C P D rec {} DerivedAttributeWalker_accept_SelfAccessNode c) ∧
    (c.fr.kind ≠ .function → lookupVar C x c = symFindStmts C x InstanceSymbolTable_find_symbol c) ∧
    (c.fr.kind = .function → lookupVar C x c = plainFind C x c) :=
  ⟨param_function_eq C P D rec x c, param_operation_eq C P D rec x c, self_operation_eq C P D rec c, (self_name_eq C x c).1,
   (self_name_eq C x c).2⟩

/-- mk_enum: the first enumerator is the one that `succeeds` nothing, the chain follows `precedes`; mk_constant: the
    type-name-to-conversion chain in source order (a real has no value in the reference semantics) -/
theorem mk_enum_mk_constant_as_in_source (rows : List EnumRow) (tyName text : String) :
    enumOrder rows = iEnumOrder mk_enum rows ∧ constVal tyName text = iConst mk_constant tyName text :=
  ⟨enumOrder_eq rows, constVal_eq tyName text⟩

/-- the two files agree on the kinds: every kind a handler asks `find_symbol` for is the kind under which mk_component
    registers what the handler then uses (function / enumeration / external entity; the class is found by the class probe),
    constants are registered as 'constant' (what SymbolTable.find_symbol asks for), a walker class defines accept_ParamAccessNode
    / accept_SelfAccessNode exactly where `Spec`'s `param` / `self` are defined, and `return_value` starts as None -/
theorem kinds_and_walkers_as_in_source :
    (registrations.map (fun r => (r.2.1, r.2.2))) =
      [("mk_function", "function"), ("mk_enum", "enumeration"), ("mk_constant", "constant"),
       ("getattr(builtin_ee, s_ee.Key_Lett)", "external entity"), ("mk_external_entity", "external entity")] ∧
    domain = { addUntyped := true, addByKindIfKind := true, kindsInOrder := true,
               perKind := [.byKind, .classWhenKind "class"], afterKinds := [.untyped, .findClass] } ∧
    (walkers.map (fun w => (w.name, w.methods, decide ("return_value" ∈ w.noneAttrs)))) =
      [("ActionWalker", ["__init__", "accept", "default_accept"], true),
       ("FunctionWalker", ["__init__", "accept_ParamAccessNode"], true),
       ("OperationWalker", ["__init__", "accept_ParamAccessNode", "accept_SelfAccessNode"], true),
       ("DerivedAttributeWalker", ["__init__", "accept_SelfAccessNode", "accept_FieldAccessNode"], true)] ∧
    mk_external_entity.namesFrom = mk_external_entity.funcsFrom ∧ mk_external_entity.maker = "mk_bridge" :=
  ⟨rfl, rfl, rfl, rfl, rfl⟩

/-! non-vacuity: the generic interpreter RUNS the generated IR — through the parameter list, find_symbol, getattr, the lambda
    of the mk_* constructor, the run function, the walker's constructor chain, the body — and delivers the values; on statement
    structures OTHER than the generated ones (hand-mutated below) it delivers something else, so the equalities above are not
    equalities any IR would satisfy -/

def noU : String → Option Sym := fun _ => none
def errOfR {α : Type} (r : Res α) : Option String := match r with | some (.error e) => some e.msg | _ => none
def kwOfR (r : Res (List (String × Val))) : Option (List (String × Val)) := match r with | some (.ok (v, _)) => some v | _ => none

/-- two parameters: collected in source order under their names; the FIRST is evaluated first (of two failing expressions the
    first one's error shows); storing every value under one literal key, or fetching the callee before the parameters, is visible -/
example : kwOfR (handlerK C1 gen (domOf C1 noU) (run C1 0) { children := [("a", pure (.int 10)), ("b", pure (.int 3))] }
      accept_ParameterListNode cfg1) = some [("a", .int 10), ("b", .int 3)] ∧
    errOfR (handlerK C1 gen (domOf C1 noU) (run C1 0) { children := [("a", M.fail "first"), ("b", M.fail "second")] }
      accept_ParameterListNode cfg1) = some "first" ∧
    kwOfR (handlerK C1 gen (domOf C1 noU) (run C1 0) { children := [("a", pure (.int 10)), ("b", pure (.int 3))] }
      [.assign "kwargs" .newDict,
       .forChildren "child" [.assign "value" (.acceptOfFget "child" "expression"), .setItem "kwargs" (.lit "a") "value"],
       .ret (.local "kwargs")] cfg1) = some [("a", .int 10), ("a", .int 3)] ∧
    errOfR (handlerK C1 gen (domOf C1 noU) (run C1 0) { children := [("a", pure (.int 10))] }
      [.setSelf "parameters" .newDict, .forChildren "child" [.expr (.acceptLocal "child")], .ret (.selfAttr "parameters")] cfg1) =
      some "a handler stores into the walker" := by
  decide +kernel

/-- a call NESTED in the second actual parameter: `::sub2(a: 100, b: ::sub2(a: 30, b: 4))` is 74 through the interpreted source
    (the inner call has its own dict and its own walker) — and that is `Spec`'s value, by `function_call_as_in_source` -/
def nested : List (String × Expr) := [("a", .int 100), ("b", .call .function "sub2" [("a", .int 30), ("b", .int 4)])]
example : valOfR (handlerE C1 gen (domOf C1 noU) (run C1 8)
      (invNode C1 gen (domOf C1 noU) (run C1 8) [("action_name", "sub2")] none nested) accept_FunctionInvocationNode cfg1) =
      some (.int 74) := by
  decide +kernel
example : evalStep C1 (run C1 8) (.call .function "sub2" nested) =
    handlerE C1 gen (domOf C1 noU) (run C1 8) (invNode C1 gen (domOf C1 noU) (run C1 8) [("action_name", "sub2")] none nested)
      accept_FunctionInvocationNode :=
  function_call_as_in_source C1 noU (run C1 8) "sub2" nested
    ⟨.function, "sub2", [.ret (some (.bin .sub (.param "a") (.param "b")))]⟩ (by rfl)

/-- asking find_symbol for another kind finds nothing here; an instance operation called WITHOUT the instance does not run;
    the generated handler runs `a.bump(d: 5)` on the instance: 3 + 5 -/
def cfgA : Cfg := { cfg1 with fr := { cfg1.fr with env := [[("a", .inst ⟨"A", 0⟩)]] } }
example : errOfR (handlerE C1 gen (domOf C1 noU) (run C1 8)
      (invNode C1 gen (domOf C1 noU) (run C1 8) [("action_name", "sub2")] none nested)
      [.assign "kwargs" (.accept "parameter_list"), .assign "fn" (.domainFind (.field "action_name") ["constant"] false),
       .assign "value" (.callKw "fn" [] "kwargs"), .ret (.property "value")] cfg1) = some "Unknown symbol sub2" ∧
    valOfR (handlerE C1 gen (domOf C1 noU) (run C1 8)
      (invNode C1 gen (domOf C1 noU) (run C1 8) [("action_name", "bump")] (some (lookupVar C1 "a")) [("d", .int 5)])
      accept_InstanceInvocationNode cfgA) = some (.int 8) ∧
    errOfR (handlerE C1 gen (domOf C1 noU) (run C1 8)
      (invNode C1 gen (domOf C1 noU) (run C1 8) [("action_name", "bump")] (some (lookupVar C1 "a")) [("d", .int 5)])
      [.assign "inst" (.acceptFget "handle"), .assign "op" (.getattrClass "inst" (.field "action_name")),
       .assign "kwargs" (.accept "parameter_list"), .assign "value" (.callKw "op" [] "kwargs"), .ret (.property "value")] cfgA) =
      some "arguments of the call" := by
  decide +kernel

/-- `self` of a class-based operation: the generated lambda passes None (`A::whoami()` sees an empty handle: 1); a lambda that
    passed its `cls` on, or a run_operation that built a FunctionWalker, does not produce an operation frame at all -/
def whoami : Callable := ⟨.classOp "A", "whoami", [.ifS (.un .empty .self) [.ret (some (.int 1))] [] none, .ret (some (.int 0))]⟩
example : valOfR (callCallee gen (run C1 8) ⟨mk_operation_class_based, whoami, some "A"⟩ [] (some []) cfg1) = some (.int 1) ∧
    errOfR (callCallee gen (run C1 8)
      ⟨{ mk_operation_class_based with args := [.name "metaclass", .name "label", .name "action", .name "kwargs", .name "cls"] },
       whoami, some "A"⟩ [] (some []) cfg1) = some "accept" ∧
    errOfR (callCallee { gen with runs := [("run_operation",
        { run_operation with body := [.assign "w" (.construct "FunctionWalker" [.attr "metaclass" "metamodel", .name "kwargs"]),
            .assign "root" (.parse "action" "label"), .expr (.acceptOn "w" "root"), .ret (.localAttr "w" "return_value")] })] }
      (run C1 8) ⟨mk_operation_class_based, whoami, some "A"⟩ [] (some []) cfg1) = some "self in a function" := by
  decide +kernel

/-- `Color::blue` is 2 (the chain red, green, blue); looked up among the constants first it is not found as an enumeration;
    R56 followed the other way numbers the enumerators backwards; another conversion table reads the constant as a string -/
example : valOfR (handlerE C1 gen (domOf C1 noU) (run C1 0)
      { str := fun f => ([("namespace", "Color"), ("name", "blue")].lookup f).getD "" } accept_EnumOrNamedConstantNode cfg1) =
      some (.int 2) ∧
    errOfR (handlerE C1 gen (domOf C1 noU) (run C1 0)
      { str := fun f => ([("namespace", "Color"), ("name", "blue")].lookup f).getD "" }
      [.assign "item" (.domainFind (.field "name") ["constant"] false), .assign "value" (.getattr "item" (.field "name")),
       .ret (.property "value")] cfg1) = some "Unknown symbol blue" ∧
    iEnumOrder mk_enum [⟨12, "blue", 11⟩, ⟨10, "red", 0⟩, ⟨11, "green", 10⟩] = ["red", "green", "blue"] ∧
    iEnumOrder { mk_enum with firstPhrase := "precedes", stepPhrase := "succeeds" }
      [⟨12, "blue", 11⟩, ⟨10, "red", 0⟩, ⟨11, "green", 10⟩] = ["blue", "green", "red"] ∧
    iConst mk_constant "integer" "42" = some (.int 42) ∧
    iConst [("boolean", .lowerIsTrue), ("integer", .str)] "integer" "42" = some (.str "42") := by
  decide +kernel

end PyxProps.C15

/-!
  The not-found side and the fall-backs (helper lemmas: Proofs/CallShapeMore.lean), against the domain as the source builds it
  (`srcDom C`: the untyped dictionary as mk_component fills it — functions, enumerations, constants, external entities, last
  registration wins — and find_class).  Where `Spec` and the source resolve `transform KL::op()` / `bridge EE::f()` differently
  the difference is characterised and shown on a witness.
-/
namespace PyxProps.C15
open Pyx.Interp Pyx.CShape Pyx.Gen.CallShape
open Pyx.IShape (noMsg)

/-- `::name(args)` WITHOUT a found hypothesis, against the domain as the source builds it: found — the function runs; not
    found — the parameters are evaluated, then find_symbol falls back to the untyped dictionary (a constant / enumeration /
    external entity of that name is not callable) and to the classes (none of that name: the exception).  Up to the error text. -/
theorem function_call_total_as_in_source (C : Ctx) (rec : Oracle) (name : String) (args : List (String × Expr)) (c : Cfg)
    (hcls : (findClass C name).isSome = false) :
    noMsg (evalStep C rec (.call .function name args) c) =
      noMsg (handlerE C gen (srcDom C) rec (invNode C gen (srcDom C) rec [("action_name", name)] none args)
        accept_FunctionInvocationNode c) :=
  function_call_total C rec name args c hcls

/-- the hypothesis above is needed: a body that calls a function `::A()` which does not exist, in a model with a CLASS A, is an
    error for `Spec` (outside the property's domain: the body refers to no model element) while the source finds the class
    through find_class and CALLS it (observed on /repo: `x = ::A();` delivers a detached instance, `::A(n: 3)` a TypeError) -/
theorem function_named_like_class_witness :
    errOfR (evalStep C1 (run C1 3) (.call .function "A" []) cfg1) = some "unknown function A" ∧
    errOfR (handlerE C1 gen (srcDom C1) (run C1 3) (invNode C1 gen (srcDom C1) (run C1 3) [("action_name", "A")] none [])
      accept_FunctionInvocationNode cfg1) = some "OUTSIDE THE MODEL: the class A is called" := by
  decide +kernel

/-- `transform KL::op()`: the source asks find_symbol for the CLASS only, so `Spec`'s clause looks the class operation up
    directly (and before the parameters, as the source does) and not through `resolveNs` (a bridge of an external entity KL
    first): `resolveNs` picks the class operation EXACTLY when no external entity with the class's key letters has a bridge
    `op` -/
theorem transform_resolution_iff_as_in_source (C : Ctx) (ns name : String) (f : Callable)
    (hc : findCallable C (fun f => f.kind = .classOp ns ∧ f.name = name) = some f) :
    resolveNs C ns name = findCallable C (fun f => f.kind = .classOp ns ∧ f.name = name) ↔
      findCallable C (fun f => f.kind = .bridge ns ∧ f.name = name) = none :=
  transform_resolution_iff C ns name f hc

/-- a model that tells the two apart: an external entity X with a bridge `f` (returns 1) and a class X with a class-based
    operation `f` (returns 2); `transform v = X::f();` is 2 for the interpreted source and for `Spec`; `NS::f()` written
    `X::f()` is the bridge (1) for both; `resolveNs` says 1 for the transform as well -/
def CX : Ctx :=
  { classes := [⟨"X", []⟩],
    callables := [⟨.bridge "X", "f", [.ret (some (.int 1))]⟩, ⟨.classOp "X", "f", [.ret (some (.int 2))]⟩] }
theorem transform_prefers_class_witness :
    valOfR (evalStep CX (run CX 4) (.call (.classOp "X") "f" []) cfg1) = some (.int 2) ∧
    valOfR (handlerE CX gen (srcDom CX) (run CX 4)
      (invNode CX gen (srcDom CX) (run CX 4) [("key_letter", "X"), ("action_name", "f")] none []) accept_ClassInvocationNode cfg1) =
      some (.int 2) ∧
    valOfR (evalStep CX (run CX 4) (.call (.implicit "X") "f" []) cfg1) = some (.int 1) ∧
    (resolveNs CX "X" "f").map Callable.kind = some (.bridge "X") := by
  decide +kernel

/-- `bridge NS::op()` where NS is no external entity (and nothing else in the untyped dictionary) but a class: the source
    falls back to find_class and runs the class-based operation — exactly `Spec`'s second choice; and a `transform KL::op()`
    whose operation does not exist fails in the source BEFORE the parameters are evaluated, and in `Spec` too -/
theorem keyword_forms_fall_back_as_in_source (C : Ctx) (rec : Oracle) (ns name : String) (args : List (String × Expr))
    (f : Callable) (c : Cfg) :
    (hasBridges C ns = false → untypedOf C ns = none → (findClass C ns).isSome = true →
      findCallable C (fun f => f.kind = .classOp ns ∧ f.name = name) = some f →
      evalStep C rec (.call (.bridge ns) name args) =
        handlerE C gen (srcDom C) rec (invNode C gen (srcDom C) rec [("namespace", ns), ("action_name", name)] none args)
          accept_BridgeInvocationNode) ∧
    ((findClass C ns).isSome = true →
      findCallable C (fun f => f.kind = .classOp ns ∧ f.name = name) = none →
      findCallable C (fun f => f.kind = .instOp ns ∧ f.name = name) = none →
      noMsg (evalStep C rec (.call (.classOp ns) name args) c) =
        noMsg (handlerE C gen (srcDom C) rec (invNode C gen (srcDom C) rec [("key_letter", ns), ("action_name", name)] none args)
          accept_ClassInvocationNode c)) :=
  ⟨fun h1 h2 h3 h4 => bridge_falls_back_to_class_eq C rec ns name args f h1 h2 h3 h4,
   fun h2 h3 h4 => class_call_not_found_eq C rec ns name args c h2 h3 h4⟩

/-- attribute access: outside derived attributes ActionWalker.accept_FieldAccessNode builds the property over the attribute of
    the handle's instance (getter: the property mk_derived_attribute made, else the stored attribute; setter alike); inside the
    derived attribute `a` of `si` DerivedAttributeWalker.accept_FieldAccessNode makes `self.a` — same name AND same instance —
    the walker's return_value register, read and written, and every other access the attribute (`regHit`).  `hfr`: evaluating
    the handle leaves the frame alone (`call_isolated`, for every `run C n`). -/
theorem field_access_as_in_source (C : Ctx) (D : Dom) (rec : Oracle) (h : Expr) (name : String) (v : Val) (c : Cfg)
    (hfr : ∀ v c1, rec.eval h c = some (.ok (v, c1)) → c1.fr = c.fr) :
    ((∀ si a, c.fr.kind ≠ .derived si a) →
      evalStep C rec (.field h name) c =
        (do let l ← handlerP C gen D rec (fieldNode rec h name) accept_FieldAccessNode
            fgetP C gen rec l) c ∧
      (do let hv ← rec.eval h
          let i ← asInst hv
          writeField C i name v) c =
        (do let l ← handlerP C gen D rec (fieldNode rec h name) accept_FieldAccessNode
            fsetP C l v) c) ∧
    (∀ si a, c.fr.kind = .derived si a → c.fr.self = .inst si →
      evalStep C rec (.field h name) c =
        (do let l ← handlerP C gen D rec (fieldNode rec h name) DerivedAttributeWalker_accept_FieldAccessNode
            fgetP C gen rec l) c ∧
      (do let hv ← rec.eval h
          let i ← asInst hv
          writeField C i name v) c =
        (do let l ← handlerP C gen D rec (fieldNode rec h name) DerivedAttributeWalker_accept_FieldAccessNode
            fsetP C l v) c) :=
  ⟨fun hk => ⟨field_read_eq C D rec h name c hk hfr, field_write_eq C D rec h name v c hk hfr⟩,
   fun si a hk hs => ⟨field_read_derived_eq C D rec h name c si a hk hs hfr, field_write_derived_eq C D rec h name v c si a hk hs hfr⟩⟩

/-- an invocation used as a statement: accept_InvocationStatementNode hands the invocation's property on, nothing is stored -/
theorem invocation_statement_as_in_source (C : Ctx) (P : Parts) (D : Dom) (rec : Oracle) (e : Expr) :
    execStep C rec (.invoke e) = (do
      let _ ← handlerE C P D rec { acceptE := fun f => if f = "invocation" then some (rec.eval e) else none }
        accept_InvocationStatementNode
      pure .normal) :=
  invocation_statement_eq C P D rec e

/-- the kind-qualified second dictionary, over the generated DomainShape, for EVERY list of registrations in EVERY order: what
    `find_symbol(name, k)` delivers is the symbol registered last under (k, name) — registrations of the same name under other
    kinds (a constant, an enumeration, an external entity and a function of one name) or without a kind never hide it; and
    mk_external_entity: `getattr(ee, name)` is the bridge of that name made by mk_bridge (names and functions come from the same
    query, so field positions and values line up) -/
theorem kinds_do_not_hide_as_in_source (regs : List Reg) (k name : String) (r : Reg) (ks : List String) (C : Ctx) (ns : String)
    (h : regs.reverse.find? (fun r => decide (r.kind = some k ∧ r.name = name)) = some r) :
    (∃ s, iFind domain (regAll domain regs) name (k :: ks) = some s ∧ (regAll domain regs).byKind k name = some s) ∧
    (regAll domain regs).byKind k name = some r.sym ∧
    eeGetattr mk_external_entity (bridgesOf C ns) name =
      (findCallable C (fun f => f.kind = .bridge ns ∧ f.name = name)).map (fun f => (⟨mk_bridge, f, none⟩ : Callee)) := by
  refine ⟨find_symbol_by_kind regs k name r h ks, ?_, ee_getattr_eq C ns name⟩
  rw [regAll_byKind, h]; rfl

/-- four symbols of ONE name, registered in one order and in the reverse order: each kind finds its own; without a kind the
    last registered wins (the documented behaviour of the untyped dictionary) -/
def symTag : Option Sym → String
  | some (.fn _) => "function" | some (.ee _) => "external entity" | some (.cls _) => "class" | some (.enum _) => "enumeration"
  | some (.const _) => "constant" | none => "nothing"
def regsX : List Reg :=
  [⟨"X", .const (.int 1), some "constant"⟩, ⟨"X", .ee "X", some "external entity"⟩, ⟨"X", .enum ⟨"X", []⟩, some "enumeration"⟩,
   ⟨"X", .fn ⟨.function, "X", []⟩, some "function"⟩]
example : (["function", "constant", "enumeration", "external entity"].map
      (fun k => symTag (iFind domain (regAll domain regsX) "X" [k]))) =
      ["function", "constant", "enumeration", "external entity"] ∧
    (["function", "constant", "enumeration", "external entity"].map
      (fun k => symTag (iFind domain (regAll domain regsX.reverse) "X" [k]))) =
      ["function", "constant", "enumeration", "external entity"] ∧
    symTag (iFind domain (regAll domain regsX) "X" []) = "function" ∧
    symTag (iFind domain (regAll domain regsX.reverse) "X" []) = "constant" ∧
    -- a shape WITHOUT the second dictionary (`Domain.add_symbol` with its kind-qualified entry left out): the function hides
    -- the three others
    symTag (iFind { domain with addByKindIfKind := false } (regAll { domain with addByKindIfKind := false } regsX) "X" ["constant"]) =
      "function" := by
  decide +kernel

/-- the theorems applied: `self.twice` inside the derived attribute `twice` of A[0] is the register (7), `self.n` the attribute -/
def cfgD : Cfg := { fr := { mkFrame (.derived ⟨"A", 0⟩ "twice") [] (.inst ⟨"A", 0⟩) with ret := .int 7 }, st := st1 }
def readVia (n : Nat) (handler : List CStmt) (name : String) : M Val := do
  let l ← handlerP C1 gen (srcDom C1) (run C1 n) (fieldNode (run C1 n) .self name) handler
  fgetP C1 gen (run C1 n) l
example : valOfR (readVia 2 DerivedAttributeWalker_accept_FieldAccessNode "twice" cfgD) = some (.int 7) ∧
    valOfR (readVia 2 DerivedAttributeWalker_accept_FieldAccessNode "n" cfgD) = some (.int 3) ∧
    -- the base class's handler instead (no register test): `self.twice` runs the derived attribute again: 2 * 3
    valOfR (readVia 8 accept_FieldAccessNode "twice" cfgD) = some (.int 6) := by
  decide +kernel

end PyxProps.C15

/-!
  The not-found sides — accept_ImplicitInvocationNode, accept_BridgeInvocationNode, accept_EnumOrNamedConstantNode,
  accept_ClassInvocationNode without the class — and the UNTYPED dictionary of Domain.add_symbol / find_symbol, for every model,
  against `srcDom C` (helper lemmas: Proofs/CallShapeTotal.lean).  `Spec` and the source DISAGREE on `NS::f()` /
  `bridge NS::f()` when NS names a symbol found BEFORE the class (an external entity without a bridge `f`; for the bridge form
  also a constant / enumeration / function NS) and a class NS has a class-based operation `f`: the theorems are therefore named
  `…_partial`, state the exact excluded case as `hsep`, and the witnesses below exhibit it.
-/
namespace PyxProps.C15
open Pyx.Interp Pyx.CShape Pyx.Gen.CallShape
open Pyx.IShape (noMsg)

/-- `NS::name(args)` (accept_ImplicitInvocationNode) for EVERY model, found or not: parameters first; `find_symbol(NS, ['external
    entity', 'class'])` — the external entity NS wins over the class NS, the class over the untyped dictionary (a constant /
    enumeration / function NS: no such attribute, or not callable); `getattr`; the call (an instance-based operation fetched from
    the class lacks its instance).  `hwf`: class-based operations belong to declared classes.  `hsep`: EXCLUDES the disagreement
    (`implicit_call_disagreement_witness`) — NS is an external entity without a bridge `name` and the class NS has a class-based
    operation `name`.  Up to the error text. -/
theorem implicit_call_as_in_source_partial (C : Ctx) (rec : Oracle) (ns name : String) (args : List (String × Expr)) (c : Cfg)
    (hwf : (findClass C ns).isSome = false → findCallable C (fun f => f.kind = .classOp ns ∧ f.name = name) = none)
    (hsep : hasBridges C ns = true → findCallable C (fun f => f.kind = .bridge ns ∧ f.name = name) = none →
      findCallable C (fun f => f.kind = .classOp ns ∧ f.name = name) = none) :
    noMsg (evalStep C rec (.call (.implicit ns) name args) c) =
      noMsg (handlerE C gen (srcDom C) rec (invNode C gen (srcDom C) rec [("namespace", ns), ("action_name", name)] none args)
        accept_ImplicitInvocationNode c) :=
  implicit_call_total C rec ns name args c hwf hsep

/-- `bridge NS::name(args)` (accept_BridgeInvocationNode) for EVERY model, found or not: `find_symbol(NS, 'external entity')`
    falls back to the UNTYPED dictionary first and to find_class last.  `hsep`: EXCLUDES the disagreement
    (`bridge_call_disagreement_witness`) — NS names something in the untyped dictionary that has no bridge `name` while the class
    NS has a class-based operation `name`.  Up to the error text. -/
theorem bridge_call_as_in_source_partial (C : Ctx) (rec : Oracle) (ns name : String) (args : List (String × Expr)) (c : Cfg)
    (hwf : (findClass C ns).isSome = false → findCallable C (fun f => f.kind = .classOp ns ∧ f.name = name) = none)
    (hsep : untypedOf C ns ≠ none → findCallable C (fun f => f.kind = .bridge ns ∧ f.name = name) = none →
      findCallable C (fun f => f.kind = .classOp ns ∧ f.name = name) = none) :
    noMsg (evalStep C rec (.call (.bridge ns) name args) c) =
      noMsg (handlerE C gen (srcDom C) rec (invNode C gen (srcDom C) rec [("namespace", ns), ("action_name", name)] none args)
        accept_BridgeInvocationNode c) :=
  bridge_call_total C rec ns name args c hwf hsep

/-- the DISAGREEMENT `hsep` excludes: an external entity X with a bridge `g` only, a class X with a class-based operation `f`
    (returns 2).  `X::f()` and `bridge X::f()` are 2 for `Spec` (`resolveNs`: no bridge `f`, so the class operation); the
    interpreted source finds the external entity X first and fails at `getattr(X, 'f')` (Python: AttributeError). -/
def CY : Ctx :=
  { classes := [⟨"X", []⟩],
    callables := [⟨.bridge "X", "g", [.ret (some (.int 1))]⟩, ⟨.classOp "X", "f", [.ret (some (.int 2))]⟩] }
theorem implicit_call_disagreement_witness :
    valOfR (evalStep CY (run CY 4) (.call (.implicit "X") "f" []) cfg1) = some (.int 2) ∧
    errOfR (handlerE CY gen (srcDom CY) (run CY 4)
      (invNode CY gen (srcDom CY) (run CY 4) [("namespace", "X"), ("action_name", "f")] none []) accept_ImplicitInvocationNode cfg1) =
      some "unknown X::f" := by
  decide +kernel
theorem bridge_call_disagreement_witness :
    valOfR (evalStep CY (run CY 4) (.call (.bridge "X") "f" []) cfg1) = some (.int 2) ∧
    errOfR (handlerE CY gen (srcDom CY) (run CY 4)
      (invNode CY gen (srcDom CY) (run CY 4) [("namespace", "X"), ("action_name", "f")] none []) accept_BridgeInvocationNode cfg1) =
      some "unknown X::f" := by
  decide +kernel

/-- the hypotheses hold on non-trivial models: CX (external entity X WITH the bridge `f`, class X with the operation `f`) for
    `X::f()`; CY for `X::g()` (the bridge) and for `X::h()` (found nowhere: both sides fail after the parameters); C1 for
    `A::whoami()` (class only) -/
example (rec : Oracle) (args : List (String × Expr)) (c : Cfg) :
    noMsg (evalStep CX rec (.call (.implicit "X") "f" args) c) =
      noMsg (handlerE CX gen (srcDom CX) rec (invNode CX gen (srcDom CX) rec [("namespace", "X"), ("action_name", "f")] none args)
        accept_ImplicitInvocationNode c) :=
  implicit_call_as_in_source_partial CX rec "X" "f" args c (by decide +kernel) (by decide +kernel)
example (rec : Oracle) (args : List (String × Expr)) (c : Cfg) :
    noMsg (evalStep CY rec (.call (.bridge "X") "h" args) c) =
      noMsg (handlerE CY gen (srcDom CY) rec (invNode CY gen (srcDom CY) rec [("namespace", "X"), ("action_name", "h")] none args)
        accept_BridgeInvocationNode c) :=
  bridge_call_as_in_source_partial CY rec "X" "h" args c (by decide +kernel) (by decide +kernel)
example (rec : Oracle) (args : List (String × Expr)) (c : Cfg) :
    noMsg (evalStep C1 rec (.call (.implicit "A") "whoami" args) c) =
      noMsg (handlerE C1 gen (srcDom C1) rec (invNode C1 gen (srcDom C1) rec [("namespace", "A"), ("action_name", "whoami")] none args)
        accept_ImplicitInvocationNode c) :=
  implicit_call_as_in_source_partial C1 rec "A" "whoami" args c (by decide +kernel) (by decide +kernel)
example : valOfR (handlerE CY gen (srcDom CY) (run CY 4)
      (invNode CY gen (srcDom CY) (run CY 4) [("namespace", "X"), ("action_name", "g")] none []) accept_BridgeInvocationNode cfg1) =
      some (.int 1) ∧
    valOfR (handlerE C1 gen (srcDom C1) (run C1 8)
      (invNode C1 gen (srcDom C1) (run C1 8) [("namespace", "A"), ("action_name", "whoami")] none []) accept_ImplicitInvocationNode cfg1) =
      some (.int 1) ∧
    -- `A::bump(d: 5)`: an instance-based operation fetched from the class and called without an instance
    errOfR (handlerE C1 gen (srcDom C1) (run C1 8)
      (invNode C1 gen (srcDom C1) (run C1 8) [("namespace", "A"), ("action_name", "bump")] none [("d", .int 5)])
      accept_ImplicitInvocationNode cfg1) = some "arguments of the call" ∧
    -- `K::x()`: K is a constant
    errOfR (handlerE C1 gen (srcDom C1) (run C1 8)
      (invNode C1 gen (srcDom C1) (run C1 8) [("namespace", "K"), ("action_name", "x")] none []) accept_ImplicitInvocationNode cfg1) =
      some "getattr" := by
  decide +kernel

/-- `NS::name` (accept_EnumOrNamedConstantNode) for EVERY model: the enumeration NS — the enumerator's position in R56 order;
    no enumeration NS — the source falls back to the untyped dictionary and the class NS, which have no attribute `name`, and
    raises; `Spec` reports the unknown enumeration.  The hypotheses keep NS::name from denoting a bridge / an operation (Python
    would deliver the function object as a value: outside the value domain).  The error ending IS the content of the not-found
    side; up to the error text. -/
theorem enumerator_total_as_in_source (C : Ctx) (rec : Oracle) (ns name : String) (c : Cfg)
    (hnb : findCallable C (fun f => f.kind = .bridge ns ∧ f.name = name) = none)
    (hnc : findCallable C (fun f => f.kind = .classOp ns ∧ f.name = name) = none)
    (hni : findCallable C (fun f => f.kind = .instOp ns ∧ f.name = name) = none) :
    noMsg (evalStep C rec (.enumOrConst ns name) c) =
      noMsg (handlerE C gen (srcDom C) rec (enumNode ns name) accept_EnumOrNamedConstantNode c) :=
  enumerator_total C rec ns name c hnb hnc hni

example (rec : Oracle) (c : Cfg) :
    noMsg (evalStep C1 rec (.enumOrConst "Color" "green") c) =
      noMsg (handlerE C1 gen (srcDom C1) rec (enumNode "Color" "green") accept_EnumOrNamedConstantNode c) ∧
    noMsg (evalStep C1 rec (.enumOrConst "K" "green") c) =
      noMsg (handlerE C1 gen (srcDom C1) rec (enumNode "K" "green") accept_EnumOrNamedConstantNode c) :=
  ⟨enumerator_total_as_in_source C1 rec "Color" "green" c (by decide +kernel) (by decide +kernel) (by decide +kernel),
   enumerator_total_as_in_source C1 rec "K" "green" c (by decide +kernel) (by decide +kernel) (by decide +kernel)⟩
example : valOfR (handlerE C1 gen (srcDom C1) (run C1 0) (enumNode "Color" "green") accept_EnumOrNamedConstantNode cfg1) =
      some (.int 1) ∧
    errOfR (handlerE C1 gen (srcDom C1) (run C1 0) (enumNode "K" "green") accept_EnumOrNamedConstantNode cfg1) = some "getattr" ∧
    errOfR (evalStep C1 (run C1 0) (.enumOrConst "K" "green") cfg1) = some "unknown enumeration K" ∧
    errOfR (handlerE C1 gen (srcDom C1) (run C1 0) (enumNode "Nope" "green") accept_EnumOrNamedConstantNode cfg1) =
      some "Unknown symbol Nope" := by
  decide +kernel

/-- `transform KL::op(args)` (accept_ClassInvocationNode) where the model has no class KL and nothing else named KL: the source
    raises 'Unknown symbol' BEFORE the parameters are evaluated, and so does `Spec` (the error ending, and that no parameter is
    evaluated first, is the content).  With `namespace_calls_as_in_source` (found) and `keyword_forms_fall_back_as_in_source`
    (class without the operation) the handler is covered found and not found.  `hu` is needed: `transform X::f()` on an
    external entity X with a bridge `f` and no class X RUNS the bridge in the source (untyped fall-back) and is an error for
    `Spec`. -/
theorem class_call_no_class_as_in_source (C : Ctx) (rec : Oracle) (ns name : String) (args : List (String × Expr)) (c : Cfg)
    (hcls : (findClass C ns).isSome = false) (hu : untypedOf C ns = none)
    (hwf : (findClass C ns).isSome = false → findCallable C (fun f => f.kind = .classOp ns ∧ f.name = name) = none) :
    noMsg (evalStep C rec (.call (.classOp ns) name args) c) =
      noMsg (handlerE C gen (srcDom C) rec (invNode C gen (srcDom C) rec [("key_letter", ns), ("action_name", name)] none args)
        accept_ClassInvocationNode c) :=
  class_call_no_class C rec ns name args c hcls hu hwf

/-- the hypotheses on C1 / "B"; and the case `hu` excludes, on CY without its class -/
example (rec : Oracle) (args : List (String × Expr)) (c : Cfg) :
    noMsg (evalStep C1 rec (.call (.classOp "B") "op" args) c) =
      noMsg (handlerE C1 gen (srcDom C1) rec (invNode C1 gen (srcDom C1) rec [("key_letter", "B"), ("action_name", "op")] none args)
        accept_ClassInvocationNode c) :=
  class_call_no_class_as_in_source C1 rec "B" "op" args c (by decide +kernel) (by decide +kernel) (by decide +kernel)
def CZ : Ctx := { callables := [⟨.bridge "X", "g", [.ret (some (.int 1))]⟩] }
theorem transform_on_external_entity_witness :
    errOfR (evalStep CZ (run CZ 4) (.call (.classOp "X") "g" []) cfg1) = some "unknown X::g" ∧
    valOfR (handlerE CZ gen (srcDom CZ) (run CZ 4)
      (invNode CZ gen (srcDom CZ) (run CZ 4) [("key_letter", "X"), ("action_name", "g")] none []) accept_ClassInvocationNode cfg1) =
      some (.int 1) := by
  decide +kernel

/-- Domain.add_symbol's UNTYPED dictionary over the generated DomainShape, for EVERY list of registrations in EVERY order:
    `find_symbol(name)` without a kind — and with kinds under none of which the name is registered (the kind-qualified probes
    and the class probe miss) — delivers the symbol registered LAST under the name, whatever its kind.  With
    `kinds_do_not_hide_as_in_source` (the kind-qualified dictionary) both dictionaries of add_symbol / find_symbol are tied. -/
theorem untyped_dictionary_as_in_source (regs : List Reg) (name : String) (ks : List String)
    (hks : ∀ k ∈ ks, regs.reverse.find? (fun r => decide (r.kind = some k ∧ r.name = name)) = none) :
    iFind domain (regAll domain regs) name ks = (regs.reverse.find? (fun r => decide (r.name = name))).map Reg.sym :=
  find_symbol_untyped regs name ks hks

/-- `hks` on a non-trivial value: X registered as constant, external entity, enumeration, function (in that order); asked for as
    a 'class' or 'bridge' it is the function (registered last); a shape WITHOUT the untyped registration finds nothing -/
example : symTag (iFind domain (regAll domain regsX) "X" ["class", "bridge"]) = "function" ∧
    (iFind domain (regAll domain regsX) "X" ["class", "bridge"]).isSome =
      ((regsX.reverse.find? (fun r => decide (r.name = "X"))).map Reg.sym).isSome ∧
    symTag (iFind { domain with addUntyped := false } (regAll { domain with addUntyped := false } regsX) "X" ["class"]) =
      "nothing" := by
  decide +kernel
example : symTag (iFind domain (regAll domain regsX) "X" ["class", "bridge"]) =
    symTag ((regsX.reverse.find? (fun r => decide (r.name = "X"))).map Reg.sym) := by
  rw [untyped_dictionary_as_in_source regsX "X" ["class", "bridge"] (by decide +kernel)]

end PyxProps.C15
