import Proofs.SqlBuildProj
import Proofs.SqlValueForms
import Proofs.SqlCharRoundtrip
import Proofs.SqlLoaderShape
import Proofs.SqlRegex
import Proofs.SqlFixedPoint

/-!
  C12 — Loading fails only in documented ways and never half-applies input.
  Model: PyxModel/Sql (lexer following the rule order of Gen/SqlLex.lean, parser, build phases, loader as a
  state machine).  What Lean carries is the LOGIC of the loader: a total classification of every text, the state
  machine `input`, the documented outcome of every build.  The model makes the outcome the property forbids explicit
  (`BuildErr.builtinErr` at the three places where the Python code can raise a built-in exception during a build) and
  `build_outcome_total` shows it cannot be reached.  Identifiers of the form `__x__` in attribute positions are rejected
  with the metamodel exception by `define_class` / `define_association`.  For `input` the model has two outcomes only: the token and grammar actions of the source slice, count and
  concatenate, none of them can raise -- that is a reading of the source, checked by the direct predicate (D) on the
  implementation, not a theorem; what is proved about `input` is that a rejection is never fuel exhaustion
  (`lexer_total`, `parser_total`, `sequence_fuel`).  The exception discipline of the Python code and its running time are
  decided by the correspondence harness (harness/prop_C12.py), not by these theorems.
-/
namespace PyxProps.C12
open Pyx.Sql

/-- the lexer needs no more fuel than one unit per character (+1): every text is lexed to tokens or rejected,
    and more fuel never changes the answer -/
theorem lexer_total (u : UC) (cs : Text) (n : Nat) (h : cs.length + 1 ≤ n) : lexFuel u n cs = lex u cs :=
  lexFuel_stable u cs n h

/-- every round of the lexer consumes at least one character (no rule matches the empty string, no backtracking
    across tokens) -/
theorem lexer_progress (u : UC) (cs rest : Text) (t : Tok) :
    (step u cs = .skip rest → rest.length < cs.length) ∧ (step u cs = .emit t rest → rest.length < cs.length) :=
  ⟨step_skip_shorter u cs rest, step_emit_shorter u cs rest t⟩

/-- the parser needs no more fuel than one unit per token; every statement consumes at least one token -/
theorem parser_total (toks : List Tok) (n : Nat) (h : toks.length ≤ n) : parseFuel n toks = parse toks :=
  parseFuel_stable toks n h

theorem parser_progress (toks : List Tok) (x : Stmt × List Tok) (h : stmtAt toks = some x) : x.2.length < toks.length :=
  stmtAt_shorter toks x h

/-- the comma-separated sequences inside a statement: any fuel of at least one unit per remaining token gives the answer
    of the fuel `seqP` uses, so `none` is a syntax error, never exhaustion -/
theorem sequence_fuel {α : Type} (elem : List Tok → Option (α × List Tok))
    (he : ∀ toks x, elem toks = some x → x.2.length ≤ toks.length) (fuel : Nat) (toks : List Tok) (h : toks.length ≤ fuel) :
    seqTail elem fuel toks = seqTail elem toks.length toks ∧
    (∀ toks x, identAt toks = some x → x.2.length ≤ toks.length) ∧
    (∀ toks x, attrAt toks = some x → x.2.length ≤ toks.length) ∧
    (∀ toks x, valueAt toks = some x → x.2.length ≤ toks.length) :=
  ⟨seqTail_fuel_stable elem he fuel toks.length toks h (Nat.le_refl _), identAt_le, attrAt_le, valueAt_le⟩

/-- the model of `input` has exactly two outcomes (a case split on the outcome type -- definitional; see the header for
    why there is no third one) -/
theorem classify_total (u : UC) (t : Text) : classify u t = .parsing ∨ ∃ stmts, classify u t = .accepted stmts := by
  cases h : classify u t with
  | parsing => exact Or.inl rfl
  | accepted s => exact Or.inr ⟨s, rfl⟩

theorem input_atomic (u : UC) (l : Loader) (t : Text) (h : classify u t = .parsing) : l.input u t = (l, .parsing) := by
  simp [Loader.input, h]

theorem input_extends (u : UC) (l : Loader) (t : Text) (stmts : List Stmt) (h : classify u t = .accepted stmts) :
    l.input u t = (⟨l.statements ++ stmts⟩, .accepted) := by
  simp [Loader.input, h]

/-- for every sequence of calls on one loader: erasing the rejected calls gives the same loader, hence the same
    statements and the same result of every later build -/
theorem rejected_calls_invisible (u : UC) (l : Loader) (texts : List Text) :
    Loader.inputs u l texts = Loader.inputs u l (texts.filter (isAccepted u)) ∧
    (Loader.inputs u l texts).build u = (Loader.inputs u l (texts.filter (isAccepted u))).build u := by
  have h := inputs_filter u texts l
  exact ⟨h, by rw [← h]⟩

/-- the accumulated content is the concatenation of the statements of the accepted texts, in call order -/
theorem statements_after_calls (u : UC) (l : Loader) (texts : List Text) :
    (Loader.inputs u l texts).statements = l.statements ++ texts.flatMap (acceptedStmts u) :=
  inputs_statements u texts l

/-- later inputs and builds after a rejected call behave as if the call had not happened -/
theorem later_calls_unaffected (u : UC) (l : Loader) (bad : Text) (later : List Text) (h : classify u bad = .parsing) :
    Loader.inputs u l (bad :: later) = Loader.inputs u l later := by
  simp [Loader.inputs, input_atomic u l bad h]

/-- NO BUILT-IN EXCEPTION FROM A BUILD: statements whose values have a lexical form `guess_type_name` knows (every value
    the parser produces has one: `values_classified`) build, or end in the metamodel exception, or in the parsing
    exception.  The outcome type of the model has one more constructor, `builtinErr` -- returned at `stmt.values[idx]`
    (IndexError), at `default_value(None)` (AttributeError) and at `_is_null`'s `len(value)` (TypeError); it is not reached.
    (Attribute names and source keys of the form `__x__` end in the metamodel exception: `reserved_names_rejected`.) -/
theorem build_outcome_total (u : UC) (stmts : List Stmt) (hg : ValuesGuessable u stmts) :
    (∃ s, build u stmts = .ok s) ∨ build u stmts = .error .metaErr ∨ build u stmts = .error .parseErr :=
  build_documented u stmts hg

/-- the hypothesis `ValuesGuessable` of `build_outcome_total` holds for the statements of EVERY accepted text: every
    token the lexer returns for a value has a lexeme `guess_type_name` classifies (the STRING / GUID lexeme is matched by
    its own rule again, a NUMBER / FRACTION lexeme begins with a digit, `TRUE` / `FALSE` are the reserved words), and the
    parser takes values only from a suffix of the token list -/
theorem values_classified (u : UC) (text : Text) (stmts : List Stmt) (h : classify u text = .accepted stmts) :
    ValuesGuessable u stmts := accepted_guessable u text stmts h

/-- NO BUILT-IN EXCEPTION, for a loader: whatever texts were fed to it (accepted or rejected, in any order),
    `build_metamodel` returns a metamodel or raises the metamodel exception or the parsing exception -/
theorem loader_no_builtin (u : UC) (texts : List Text) :
    (∃ s, (Loader.inputs u Loader.fresh texts).build u = .ok s) ∨
    (Loader.inputs u Loader.fresh texts).build u = .error .metaErr ∨
    (Loader.inputs u Loader.fresh texts).build u = .error .parseErr :=
  loader_build_documented u texts

/-- … of which the fifth phase: in every state that phases 1–4 reach, `_is_null` calls `len` on strings only
    (invariant: class names distinct after upper-casing, every stored value of a STRING attribute is a string) -/
theorem connections_never_raise (u : UC) (stmts : List Stmt) (s : BState) (h : buildCore u stmts = .ok s) :
    popConnections u s = .ok s ∧ KindsDistinct u s.classes ∧ ∀ c ∈ s.classes, ∀ row ∈ c.rows, rowTyped u c.attrs row = true :=
  ⟨popConnections_ok u stmts s h, (buildCore_inv u stmts s h).distinct, (buildCore_inv u stmts s h).typed⟩

/-- THE CAUSES OF A FAILING BUILD, EXACTLY, against the state actually reached (`Failure`): a build ends in exception `e`
    iff  (tables) the CREATE TABLE statements name a class twice or state two attribute names of one class that coincide
    after upper-casing [e = metamodel];  or phase 1 gives `s1` and (index) an identifier with attributes names a class
    that `s1` lacks [metamodel];  or phase 2 gives `s2` and (rop) `define_association` rejects a CREATE ROP against the
    classes of `s2` (`RopBad`) [metamodel];  or phase 3 gives `s3` and (insert) the statements split as
    `pre ++ INSERT :: post`, the INSERTs of `pre` succeed from `s3` leaving `s'`, and that INSERT fails in `s'` with `e`
    (`InsertFails`: arity [parsing], name clash of an inferred class [metamodel], unguessable value [built-in],
    unknown attribute type [metamodel], unreadable value [parsing]) -/
theorem build_fails_iff (u : UC) (stmts : List Stmt) (e : BuildErr) :
    build u stmts = .error e ↔ Failure u stmts e := build_error_iff u stmts e

/-- … and one INSERT, in the state the earlier statements left, with the tests spelled out -/
theorem insert_fails_iff (u : UC) (s : BState) (kind : Name) (values : List Text) (names : Option (List Name)) (e : BuildErr) :
    (popInstance u s kind values names = .error e ↔ InsertFails u s kind values names e) ∧
    ((isNamed names && (names.getD []).length != values.length) = true ↔
      ∃ n ns, names = some (n :: ns) ∧ (n :: ns).length ≠ values.length) ∧
    (inferOk u s kind (isNamed names) (names.getD []) values = false ↔
      s.find? u kind = none ∧ ∃ n ns, names = some (n :: ns) ∧ attrNamesOk u (inferredAttrs u (n :: ns) values) = false) ∧
    (guessOk u s kind values = false ↔ s.find? u kind = none ∧ ∃ v ∈ values, guessType u v = none) ∧
    (∀ c, newRowOk u c = false ↔ ∃ a ∈ c.attrs, c.referential.contains a.1 = false ∧ tyOfName u a.2 = none) :=
  ⟨popInstance_error_iff u s kind values names e, arity_iff names values, inferOk_false_iff u s kind values names,
   guessOk_false_iff u s kind values, newRowOk_false_iff u⟩

/-- BUILD SUCCESS: a statement list in which class names are distinct after upper-casing, and so are the attribute
    names within every CREATE TABLE (`BuildOk.attrNames` — `define_class` raises otherwise), identifiers (with attributes)
    and associations name declared classes, key lists have equal length and target keys are attributes of the target
    class, and every INSERT is positional into a declared class with core attribute types and readable values, builds;
    the built state holds exactly the declared classes in statement order (attributes as declared), each with the
    identifiers (an insertion-ordered dict), referential attributes and rows (deserialised values) that its statements
    give it in statement order, and the associations in statement order -/
theorem build_success (u : UC) (stmts : List Stmt) (h : BuildOk u stmts) :
    build u stmts = .ok { classes := (newTables stmts).map (builtClass u stmts), assocs := ropsOf stmts } ∧
    ∀ kind attrs, builtClass u stmts ⟨kind, attrs, [], [], []⟩ =
      ⟨kind, attrs, (idxOf u kind stmts).foldl (fun d na => dictSet na.1 na.2 d) [], refsOf u kind stmts,
        (insOf u kind stmts).map (specCells u ⟨kind, attrs, [], refsOf u kind stmts, []⟩ attrs)⟩ :=
  ⟨build_ok u stmts h, builtClass_eq u stmts⟩

/-- COMPLETENESS, definition phases: each documented cause makes the build end in the metamodel exception —
    two class names equal after upper-casing; a class with two attribute names equal after upper-casing; an identifier (with attributes) for an undeclared class; an association
    whose source or target class is undeclared, whose key lists differ in length, or whose target class lacks a target
    key (`RopBad`) — the latter two when the earlier phases succeed -/
theorem build_outcome_complete_meta (u : UC) (stmts : List Stmt) :
    (¬ KindsDistinct u (newTables stmts) → build u stmts = .error .metaErr) ∧
    ((∃ c ∈ newTables stmts, attrNamesOk u c.attrs = false) → build u stmts = .error .metaErr) ∧
    (KindsDistinct u (newTables stmts) → (∀ c ∈ newTables stmts, attrNamesOk u c.attrs = true) →
      (∃ kind name attrs, Stmt.createIndex kind name attrs ∈ stmts ∧ attrs ≠ [] ∧
        ∀ c ∈ newTables stmts, sameKind u c.kind kind = false) → build u stmts = .error .metaErr) ∧
    (KindsDistinct u (newTables stmts) → (∀ c ∈ newTables stmts, attrNamesOk u c.attrs = true) →
      (∀ kind name attrs, Stmt.createIndex kind name attrs ∈ stmts → attrs ≠ [] → ∃ c ∈ newTables stmts, sameKind u c.kind kind = true) →
      (∃ rel sk sc skeys sp tk tc tkeys tp, Stmt.createRop rel sk sc skeys sp tk tc tkeys tp ∈ stmts ∧
        RopBad u (newTables stmts) sk skeys tk tkeys) → build u stmts = .error .metaErr) :=
  ⟨build_fails_duplicate u stmts, build_fails_attr_names u stmts, build_fails_index u stmts, build_fails_rop u stmts⟩

/-- the first phase succeeds EXACTLY when the declared class names are distinct after upper-casing and no CREATE TABLE
    states two attribute names that coincide after upper-casing (`attrNamesOk`, which decides `Nodup` of the upper-cased
    names: `attr_names_check`) -/
theorem classes_phase_iff (u : UC) (stmts : List Stmt) :
    (∃ s, popClasses u stmts BState.empty = .ok s) ↔
      (KindsDistinct u (newTables stmts) ∧ ∀ c ∈ newTables stmts, attrNamesOk u c.attrs = true) := popClasses_ok_iff u stmts

/-- RESERVED NAMES (`_is_reserved`: `__x__`): a CREATE TABLE with such an attribute name, a CREATE ROP (between declared
    classes) with such a source key, and a named INSERT that creates its class with such a column each end the build in
    the metamodel exception -/
theorem reserved_names_rejected (u : UC) (stmts : List Stmt) :
    ((∃ kind attrs, Stmt.createTable kind attrs ∈ stmts ∧ ∃ a ∈ attrs, isDunder a.1 = true) → build u stmts = .error .metaErr) ∧
    (∀ s kind values n ns, (n :: ns).length = values.length → s.find? u kind = none → (∃ x ∈ n :: ns, isDunder x = true) →
      popInstance u s kind values (some (n :: ns)) = .error .metaErr) ∧
    (∀ classes sk skeys tk tkeys, skeys.any isDunder = true → RopBad u classes sk skeys tk tkeys) := by
  refine ⟨?_, ?_, ?_⟩
  · intro ⟨kind, attrs, hm, a, ha, hd⟩
    apply build_fails_attr_names
    refine ⟨⟨kind, attrs, [], [], []⟩, ?_, ?_⟩
    · clear ha hd
      induction stmts with
      | nil => simp at hm
      | cons st rest ih =>
        simp only [List.mem_cons] at hm
        rcases hm with rfl | hm
        · simp [newTables]
        · cases st <;> simp [newTables, ih hm]
    · -- `attrNamesOk` includes "no name of the form `__x__`" (`attrNamesOk_iff`), so the reserved name refutes `true`
      cases h : attrNamesOk u attrs with
      | false => rfl
      | true => have := ((attrNamesOk_iff u attrs).mp h).2 a ha; rw [hd] at this; cases this
  · intro s kind values n ns hl hf ⟨x, hx, hd⟩
    apply popInstance_name_clash u s kind values n ns hl hf
    cases h : attrNamesOk u (inferredAttrs u (n :: ns) values) with
    | false => rfl
    | true =>
      exfalso
      have hnames := inferredAttrs_names u (n :: ns) values hl
      have hmem : x ∈ (inferredAttrs u (n :: ns) values).map (fun a => a.1) := by rw [hnames]; exact hx
      obtain ⟨a, ha, rfl⟩ := List.mem_map.mp hmem
      have := ((attrNamesOk_iff u _).mp h).2 a ha
      rw [hd] at this; cases this
  · intro classes sk skeys tk tkeys h
    exact Or.inr (Or.inr (Or.inl h))

/-- what the attribute loop of `define_class` decides, and that the names `_0`, `_1`, … which the loader invents for a
    positional INSERT into an undeclared class always pass it -/
theorem attr_names_check (u : UC) (attrs : List (Name × Name)) (values : List Text) :
    (attrNamesOk u attrs = true ↔ ((attrs.map fun a => u.upper a.1).Nodup ∧ ∀ a ∈ attrs, isDunder a.1 = false)) ∧
    attrNamesOk u (inferredAttrs u (positionalNames values.length) values) = true :=
  ⟨attrNamesOk_iff u attrs, attrNamesOk_positional u values⟩

/-- COMPLETENESS, one INSERT (in whatever state the earlier statements left): a named INSERT with different numbers of
    names and values raises the parsing exception; a named INSERT with as many names as values into an undeclared class
    raises the metamodel exception if two of its names coincide after upper-casing (`define_class` rejects the inferred
    class); a positional INSERT into a declared class raises the metamodel
    exception if a non-referential attribute has an unknown type, and the parsing exception if the types are known and
    some value cannot be read for the type of its column -/
theorem insert_outcome_complete (u : UC) (s : BState) (kind : Name) (values : List Text) :
    (∀ n ns, (n :: ns).length ≠ values.length → popInstance u s kind values (some (n :: ns)) = .error .parseErr) ∧
    (∀ n ns, (n :: ns).length = values.length → s.find? u kind = none →
      attrNamesOk u (inferredAttrs u (n :: ns) values) = false →
      popInstance u s kind values (some (n :: ns)) = .error .metaErr) ∧
    (∀ c, s.find? u kind = some c → newRowOk u c = false → popInstance u s kind values none = .error .metaErr) ∧
    (∀ c, s.find? u kind = some c → newRowOk u c = true → ¬ CellsOk u c.attrs values →
      popInstance u s kind values none = .error .parseErr) :=
  ⟨fun n ns h => popInstance_arity u s kind values n ns h,
   fun n ns hl hf hc => popInstance_name_clash u s kind values n ns hl hf hc,
   fun c hf hr => popInstance_unknown_type u s kind values c hf hr,
   fun c hf hr hc => popInstance_bad_value u s kind values c hf hr _ (positionalCells_bad u c c.attrs values hc)⟩

/-- … and the first INSERT that fails decides the outcome of the build when the definition phases succeed -/
theorem build_first_failing_insert (u : UC) (pre post : List Stmt) (kind : Name) (values : List Text) (names : Option (List Name))
    (s1 s2 s3 s' : BState) (e : BuildErr)
    (h1 : popClasses u (pre ++ Stmt.insert kind values names :: post) BState.empty = .ok s1)
    (h2 : popIdents u (pre ++ Stmt.insert kind values names :: post) s1 = .ok s2)
    (h3 : popAssocs u (pre ++ Stmt.insert kind values names :: post) s2 = .ok s3)
    (hpre : popInstances u pre s3 = .ok s') (hins : popInstance u s' kind values names = .error e) :
    build u (pre ++ Stmt.insert kind values names :: post) = .error e :=
  build_fails_insert u pre post kind values names s1 s2 s3 s' e h1 h2 h3 hpre hins

/-- statements other than INSERT never make a build end in the parsing exception -/
theorem build_parsing_needs_insert (u : UC) (stmts : List Stmt)
    (h : build u stmts = .error .parseErr) : ∃ kind values names, Stmt.insert kind values names ∈ stmts := by
  have hf := (build_error_iff u stmts _).mp h
  cases hf with
  | insert s1 s2 s3 _ _ _ _ hfi =>
    obtain ⟨pre, k, v, n, post, s', hs, _, _⟩ := hfi
    exact ⟨k, v, n, by rw [hs]; simp⟩

/-- SOURCE TIE, phase order: the model's `build` is the generic interpretation (`runPhases`: run the phases in the given
    order, the first exception ends the build) of the order in which `ModelLoader.populate` calls its `populate_<phase>`
    methods in the source (generated table Gen/BuildShape.lean) — classes, unique identifiers, associations,
    instances, connections (the last one modelled as far as it can raise: `popConnections`).  Reordering the calls in the source changes the table and breaks this theorem. -/
theorem build_follows_source (u : UC) (stmts : List Stmt) :
    build u stmts = runPhases u stmts Gen.BuildShape.populateOrder BState.empty := build_eq_runPhases u stmts

/-- SOURCE TIE, shape of `build_metamodel`, `input` and `populate_associations`: a fresh metamodel is created, populated
    and returned; `input` binds the result of parsing the WHOLE text to a name and only then extends `self.statements`
    with it (the order `input_atomic` rests on); every association is defined and then formalized -/
theorem loader_shape_tie :
    Gen.BuildShape.buildMetamodel = ["v0 = xtuml.MetaModel(id_generator)", "self.populate(v0)", "return v0"] ∧
    Gen.BuildShape.inputSteps = [("parse", "v0"), ("extend", "v0")] ∧
    Gen.BuildShape.associationCalls = ["define_association", "formalize"] := ⟨rfl, rfl, rfl⟩

/-- SOURCE TIE, `build_metamodel` as a whole, for EVERY statement list: the model's `build` is the generic interpretation
    (`iBuildMetamodel`, Proofs/SqlLoaderShape.lean: bind a fresh metamodel, run `populate` = the generic phase runner on the
    generated phase order on the metamodel bound to the name, return what the name is bound to; no handler: an exception of
    `populate` is the outcome and nothing is returned) of the statement list generated from the source.  A
    `build_metamodel` that populated another name, returned before populating, or populated twice is another list. -/
theorem build_metamodel_as_in_source (u : UC) (stmts : List Stmt) :
    iBuildMetamodel u stmts Gen.BuildShape.populateOrder Gen.BuildShape.buildMetamodel [] = some (build u stmts) :=
  build_eq_iBuildMetamodel u stmts

/-- … and what it does when a phase raises, for EVERY split `pre ++ p :: post` of the generated phase order: when the phases
    `pre` succeed (reaching `s'`) and `p` raises `e` on `s'`, the build IS that exception - the phases `post` never run, the
    half-populated metamodel `s'` is returned to nobody (the only metamodel of the call was the fresh one bound inside it) -/
theorem build_phase_raises_as_in_source (u : UC) (stmts : List Stmt) (pre post : List Gen.BuildShape.Phase)
    (p : Gen.BuildShape.Phase) (s' : BState) (e : BuildErr) (hsplit : Gen.BuildShape.populateOrder = pre ++ p :: post)
    (hpre : runPhases u stmts pre BState.empty = .ok s') (he : phaseFn u stmts p s' = .error e) :
    build u stmts = .error e ∧
    iBuildMetamodel u stmts Gen.BuildShape.populateOrder Gen.BuildShape.buildMetamodel [] = some (.error e) := by
  have h : build u stmts = .error e := by
    rw [build_follows_source, hsplit]
    exact runPhases_raises u stmts p post e pre BState.empty s' hpre he
  exact ⟨h, by rw [build_metamodel_as_in_source, h]⟩

/-- … and when no phase raises, the result is the metamodel the last phase left -/
theorem build_all_phases_as_in_source (u : UC) (stmts : List Stmt) (s' : BState)
    (h : runPhases u stmts Gen.BuildShape.populateOrder BState.empty = .ok s') :
    build u stmts = .ok s' ∧
    iBuildMetamodel u stmts Gen.BuildShape.populateOrder Gen.BuildShape.buildMetamodel [] = some (.ok s') := by
  have hb : build u stmts = .ok s' := by rw [build_follows_source, h]
  exact ⟨hb, by rw [build_metamodel_as_in_source, hb]⟩

/-- SOURCE TIE, `input`, for EVERY loader and text: `Loader.input` is the generic interpretation (`iInputSteps`) of the steps
    generated from the source - the whole text is parsed and bound to a name first (a ParsingException ends the call with
    `self.statements` as it was), and only then is `self.statements` extended by what that name is bound to -/
theorem input_as_in_source (u : UC) (l : Loader) (text : Text) :
    iInputSteps u text Gen.BuildShape.inputSteps l [] = some (l.input u text) := input_eq_iInputSteps u l text

/-- SOURCE TIE, `populate_associations`, for EVERY statement list and metamodel: the model's phase 3 is the generic
    interpretation (`iPopAssocs`: for each CREATE ROP statement make the listed calls in order - `define_association` checks
    and records the association and returns it, `formalize` of the returned association makes its source keys referential -;
    the first exception ends the phase) of the call list generated from the source -/
theorem populate_associations_as_in_source (u : UC) (stmts : List Stmt) (s : BState) :
    iPopAssocs u Gen.BuildShape.associationCalls stmts s = some (popAssocs u stmts s) := popAssocs_eq_iPopAssocs u stmts s

/-! non-vacuity of the four ties above.  (1) other statement lists of `build_metamodel` are other functions: returning before
    populating gives the EMPTY metamodel, populating a name that was never bound is no outcome of the model; (2) a phase that
    raises: an association to a class that does not exist ends the build in phase 3 with `pre = [classes, unique_identifiers]`
    succeeding; in another phase order (associations first) a loadable input is refused; (3) other step orders of `input`:
    extending before parsing reads an unbound name, extending twice doubles the statements; (4) `populate_associations`
    without `formalize` leaves the source keys non-referential, `formalize` before `define_association` has no association. -/
example (u : UC) (stmts : List Stmt) :
    iBuildMetamodel u stmts Gen.BuildShape.populateOrder ["v0 = xtuml.MetaModel(id_generator)", "return v0", "self.populate(v0)"] [] =
      some (.ok BState.empty) ∧
    iBuildMetamodel u stmts Gen.BuildShape.populateOrder ["v0 = xtuml.MetaModel(id_generator)", "self.populate(v1)", "return v0"] [] = none ∧
    (∀ m, build u stmts = .ok m →
      iBuildMetamodel u stmts Gen.BuildShape.populateOrder ["v0 = xtuml.MetaModel(id_generator)", "self.populate(v0)"] [] = none) := by
  refine ⟨by simp [iBuildMetamodel, bmStmt, bmGet, bmSet], by simp [iBuildMetamodel, bmStmt, bmGet, bmSet], ?_⟩
  intro m h
  rw [build_follows_source] at h
  simp [iBuildMetamodel, bmStmt, bmGet, bmSet, h]

example :
    let stmts : List Stmt := [.createTable ['A'] [(['i'], "INTEGER".toList)],
                             .createRop ['R', '1'] ['A'] [] [['i']] [] ['B'] [] [['j']] []]
    (∃ s', runPhases UC.ascii stmts [.classes, .unique_identifiers] BState.empty = .ok s' ∧
        phaseFn UC.ascii stmts .associations s' = .error .metaErr) ∧
      build UC.ascii stmts = .error .metaErr := by
  refine ⟨⟨⟨[⟨['A'], [(['i'], "INTEGER".toList)], [], [], []⟩], []⟩, rfl, rfl⟩, ?_⟩
  exact (build_phase_raises_as_in_source UC.ascii _ [.classes, .unique_identifiers] [.instances, .connections] .associations
    ⟨[⟨['A'], [(['i'], "INTEGER".toList)], [], [], []⟩], []⟩ .metaErr rfl rfl rfl).1

example :
    let stmts : List Stmt := [.createTable ['A'] [(['i'], "INTEGER".toList)], .createTable ['B'] [(['j'], "INTEGER".toList)],
                             .createRop ['R', '1'] ['A'] [] [['i']] [] ['B'] [] [['j']] []]
    (match build UC.ascii stmts with | .ok _ => true | .error _ => false) = true ∧
    (match runPhases UC.ascii stmts [.associations, .classes, .unique_identifiers, .instances, .connections] BState.empty with
      | .error .metaErr => true | _ => false) = true := by decide +kernel

example (u : UC) (l : Loader) (text : Text) (stmts : List Stmt) (h : classify u text = .accepted stmts) :
    iInputSteps u text [("extend", "v0"), ("parse", "v0")] l [] = none ∧
    iInputSteps u text [("parse", "v0"), ("extend", "v0"), ("extend", "v0")] l [] =
      some (⟨l.statements ++ stmts ++ stmts⟩, .accepted) ∧
    iInputSteps u text Gen.BuildShape.inputSteps l [] = some (⟨l.statements ++ stmts⟩, .accepted) := by
  refine ⟨rfl, ?_, ?_⟩
  · simp [iInputSteps, h]
  · simp [Gen.BuildShape.inputSteps, iInputSteps, h]

example :
    let stmts : List Stmt := [.createRop ['R', '1'] ['A'] [] [['i']] [] ['B'] [] [['j']] []]
    let s : BState := ⟨[⟨['A'], [(['i'], "INTEGER".toList)], [], [], []⟩, ⟨['B'], [(['j'], "INTEGER".toList)], [], [], []⟩], []⟩
    (iPopAssocs UC.ascii Gen.BuildShape.associationCalls stmts s).map (fun r => match r with
      | .ok s' => s'.classes.map (·.referential) | .error _ => []) = some [[['i']], []] ∧
    (iPopAssocs UC.ascii ["define_association"] stmts s).map (fun r => match r with
      | .ok s' => s'.classes.map (·.referential) | .error _ => []) = some [[], []] ∧
    iPopAssocs UC.ascii ["formalize", "define_association"] stmts s = none := by decide +kernel

/-- the model's matchers were written for exactly the regular expressions the source states -/
theorem regex_tie (r : Gen.SqlLex.Rule) : Gen.SqlLex.Rule.regex r = modelledRegex r := by
  cases r <;> rfl

/-! ### the lexer rules ARE their source regexes (generic regex engine of PyxModel/Regex.lean on the generated parse trees) -/

/-- the parse trees the hand matchers were written for are the ones generated from the source -/
theorem rx_tie (r : Gen.SqlLex.Rule) : Gen.SqlLex.Rule.rx r = modelledRx r := by cases r <;> rfl

/-- t_comment `\\-\\-([^\\n]*\\n?)`: two dashes, everything up to the newline, the newline if there is one -/
theorem sql_scanner_is_regex_comment (u : UC) (cs : Text) :
    Pyx.Regex.Regex.matchPrefix (Gen.SqlLex.Rule.rx .comment) cs = (matchRule u .comment cs).map (fun p => p.1.length) ∧
    matchRuleRx .comment cs = matchRule u .comment cs :=
  ⟨matchPrefix_rule u _ (agrees_comment u) cs, matchRuleRx_eq u _ (agrees_comment u) cs⟩

theorem sql_scanner_is_regex_COMMA (u : UC) (cs : Text) :
    Pyx.Regex.Regex.matchPrefix (Gen.SqlLex.Rule.rx .COMMA) cs = (matchRule u .COMMA cs).map (fun p => p.1.length) ∧
    matchRuleRx .COMMA cs = matchRule u .COMMA cs :=
  ⟨matchPrefix_rule u _ (agrees_COMMA u) cs, matchRuleRx_eq u _ (agrees_COMMA u) cs⟩

/-- t_FRACTION `(\\d+)(\\.\\d+)`: the first run of digits cannot give digits back (what follows must begin with the point) -/
theorem sql_scanner_is_regex_FRACTION (u : UC) (hu : u.PyTables) (cs : Text) :
    Pyx.Regex.Regex.matchPrefix (Gen.SqlLex.Rule.rx .FRACTION) cs = (matchRule u .FRACTION cs).map (fun p => p.1.length) ∧
    matchRuleRx .FRACTION cs = matchRule u .FRACTION cs :=
  ⟨matchPrefix_rule u _ (agrees_FRACTION u hu) cs, matchRuleRx_eq u _ (agrees_FRACTION u hu) cs⟩

theorem sql_scanner_is_regex_RELID (u : UC) (cs : Text) :
    Pyx.Regex.Regex.matchPrefix (Gen.SqlLex.Rule.rx .RELID) cs = (matchRule u .RELID cs).map (fun p => p.1.length) ∧
    matchRuleRx .RELID cs = matchRule u .RELID cs :=
  ⟨matchPrefix_rule u _ (agrees_RELID u) cs, matchRuleRx_eq u _ (agrees_RELID u) cs⟩

theorem sql_scanner_is_regex_CARDINALITY (u : UC) (cs : Text) :
    Pyx.Regex.Regex.matchPrefix (Gen.SqlLex.Rule.rx .CARDINALITY) cs = (matchRule u .CARDINALITY cs).map (fun p => p.1.length) ∧
    matchRuleRx .CARDINALITY cs = matchRule u .CARDINALITY cs :=
  ⟨matchPrefix_rule u _ (agrees_CARDINALITY u) cs, matchRuleRx_eq u _ (agrees_CARDINALITY u) cs⟩

/-- t_ID `[A-Za-z_][\\w_]*` (Unicode `\\w`) -/
theorem sql_scanner_is_regex_ID (u : UC) (hu : u.PyTables) (cs : Text) :
    Pyx.Regex.Regex.matchPrefix (Gen.SqlLex.Rule.rx .ID) cs = (matchRule u .ID cs).map (fun p => p.1.length) ∧
    matchRuleRx .ID cs = matchRule u .ID cs :=
  ⟨matchPrefix_rule u _ (agrees_ID u hu) cs, matchRuleRx_eq u _ (agrees_ID u hu) cs⟩

theorem sql_scanner_is_regex_LPAREN (u : UC) (cs : Text) :
    Pyx.Regex.Regex.matchPrefix (Gen.SqlLex.Rule.rx .LPAREN) cs = (matchRule u .LPAREN cs).map (fun p => p.1.length) ∧
    matchRuleRx .LPAREN cs = matchRule u .LPAREN cs :=
  ⟨matchPrefix_rule u _ (agrees_LPAREN u) cs, matchRuleRx_eq u _ (agrees_LPAREN u) cs⟩

theorem sql_scanner_is_regex_MINUS (u : UC) (cs : Text) :
    Pyx.Regex.Regex.matchPrefix (Gen.SqlLex.Rule.rx .MINUS) cs = (matchRule u .MINUS cs).map (fun p => p.1.length) ∧
    matchRuleRx .MINUS cs = matchRule u .MINUS cs :=
  ⟨matchPrefix_rule u _ (agrees_MINUS u) cs, matchRuleRx_eq u _ (agrees_MINUS u) cs⟩

theorem sql_scanner_is_regex_NUMBER (u : UC) (cs : Text) :
    Pyx.Regex.Regex.matchPrefix (Gen.SqlLex.Rule.rx .NUMBER) cs = (matchRule u .NUMBER cs).map (fun p => p.1.length) ∧
    matchRuleRx .NUMBER cs = matchRule u .NUMBER cs :=
  ⟨matchPrefix_rule u _ (agrees_NUMBER u) cs, matchRuleRx_eq u _ (agrees_NUMBER u) cs⟩

theorem sql_scanner_is_regex_RPAREN (u : UC) (cs : Text) :
    Pyx.Regex.Regex.matchPrefix (Gen.SqlLex.Rule.rx .RPAREN) cs = (matchRule u .RPAREN cs).map (fun p => p.1.length) ∧
    matchRuleRx .RPAREN cs = matchRule u .RPAREN cs :=
  ⟨matchPrefix_rule u _ (agrees_RPAREN u) cs, matchRuleRx_eq u _ (agrees_RPAREN u) cs⟩

theorem sql_scanner_is_regex_SEMICOLON (u : UC) (cs : Text) :
    Pyx.Regex.Regex.matchPrefix (Gen.SqlLex.Rule.rx .SEMICOLON) cs = (matchRule u .SEMICOLON cs).map (fun p => p.1.length) ∧
    matchRuleRx .SEMICOLON cs = matchRule u .SEMICOLON cs :=
  ⟨matchPrefix_rule u _ (agrees_SEMICOLON u) cs, matchRuleRx_eq u _ (agrees_SEMICOLON u) cs⟩

/-- t_STRING `\\'((\\'\\')|[^\\'])*\\'`: a greedy repetition of an alternation; when the text ends without a closing quote the engine backs
    off into the LAST doubled quote, exactly as `scanStr` does -/
theorem sql_scanner_is_regex_STRING (u : UC) (cs : Text) :
    Pyx.Regex.Regex.matchPrefix (Gen.SqlLex.Rule.rx .STRING) cs = (matchRule u .STRING cs).map (fun p => p.1.length) ∧
    matchRuleRx .STRING cs = matchRule u .STRING cs :=
  ⟨matchPrefix_rule u _ (agrees_STRING u) cs, matchRuleRx_eq u _ (agrees_STRING u) cs⟩

/-- t_GUID `\\"([^\\\\\\n]|(\\\\.))*?\\"`: a lazy repetition, the closing quote is tried before every iteration; backslash pairs; no newline -/
theorem sql_scanner_is_regex_GUID (u : UC) (cs : Text) :
    Pyx.Regex.Regex.matchPrefix (Gen.SqlLex.Rule.rx .GUID) cs = (matchRule u .GUID cs).map (fun p => p.1.length) ∧
    matchRuleRx .GUID cs = matchRule u .GUID cs :=
  ⟨matchPrefix_rule u _ (agrees_GUID u) cs, matchRuleRx_eq u _ (agrees_GUID u) cs⟩

theorem sql_scanner_is_regex_newline (u : UC) (cs : Text) :
    Pyx.Regex.Regex.matchPrefix (Gen.SqlLex.Rule.rx .newline) cs = (matchRule u .newline cs).map (fun p => p.1.length) ∧
    matchRuleRx .newline cs = matchRule u .newline cs :=
  ⟨matchPrefix_rule u _ (agrees_newline u) cs, matchRuleRx_eq u _ (agrees_newline u) cs⟩

/-- THE SQL LEXER IS ITS SOURCE REGEXES: for every text, the token stream of the model's lexer (hand matchers) is the token
    stream obtained by running the generic regex engine -- Python's `re` semantics: ordered alternation, greedy and lazy
    repetition with backtracking -- on the parse trees that Python's own `re._parser` gives for the `t_*` regexes of
    xtuml/load.py, under PLY's discipline (ignore set, rules in definition order, first match wins, `t_error`).  `u.PyTables`:
    the model's view of `\\d` / `\\w` outside ASCII is CPython's (the harness sends Python's own per case).  With this the
    fuel, progress and round-trip theorems about `lex` are theorems about the source regexes; "each rule regex hand-modelled"
    is not part of the trusted base (what is: the engine itself, compared with Python's `re` by harness/gen_regex.py, and PLY's discipline). -/
theorem sql_lexer_is_regex (u : UC) (hu : u.PyTables) (cs : Text) : lexRx u cs = lex u cs := lexRx_eq_lex u hu cs

/-- an unterminated string is rejected (the text ends inside the literal and contains no doubled quote to back off to) -/
example (u : UC) : classify u ['\'', 'x'] = .parsing := rfl

example (u : UC) (l : Loader) : (l.input u ['\'', 'x']).1 = l := by rw [input_atomic u l _ rfl]

example (u : UC) : classify u [] = .accepted [] := by simp [classify, lex_nil, parse, parseFuel]

/-- AN ACCEPTED, NON-EMPTY TEXT (a class and one row, printed by the writers' model) and what the theorems say about it:
    it is accepted with exactly its two statements, `input` appends them (`input_extends`), the hypotheses of
    `build_outcome_total` hold (`values_classified`), `build_outcome_total` APPLIED gives the three documented outcomes, and
    the build in fact succeeds -/
example : ∃ text stmts,
    printItems UC.ascii [.cls ['A'] [(['s'], "STRING".toList)], .inst ['A'] [(['s'], "STRING".toList)] [some (.str ['x'])]] = some text ∧
    text ≠ [] ∧ classify UC.ascii text = .accepted stmts ∧
    stmts = [.createTable ['A'] [(['s'], "STRING".toList)], .insert ['A'] ["'x'".toList] none] ∧
    Loader.fresh.input UC.ascii text = (⟨stmts⟩, .accepted) ∧
    ValuesGuessable UC.ascii stmts ∧
    ((∃ s, build UC.ascii stmts = .ok s) ∨ build UC.ascii stmts = .error .metaErr ∨ build UC.ascii stmts = .error .parseErr) ∧
    ∃ s, build UC.ascii stmts = .ok s := by
  obtain ⟨text, hp⟩ := Option.isSome_iff_exists.mp (by decide :
    (printItems UC.ascii [.cls ['A'] [(['s'], "STRING".toList)], .inst ['A'] [(['s'], "STRING".toList)] [some (.str ['x'])]]).isSome = true)
  have hw : ∀ it ∈ [Item.cls ['A'] [(['s'], "STRING".toList)], .inst ['A'] [(['s'], "STRING".toList)] [some (.str ['x'])]],
      it.WF UC.ascii := by
    intro it hit
    simp only [List.mem_cons, List.mem_nil_iff, or_false] at hit
    rcases hit with rfl | rfl
    · refine ⟨⟨by decide, by decide, by decide, by decide⟩, ?_⟩
      intro a ha; simp only [List.mem_singleton] at ha; subst ha
      exact ⟨⟨by decide, by decide, by decide, by decide⟩, ⟨by decide, by decide, by decide, by decide⟩⟩
    · refine ⟨⟨by decide, by decide, by decide, by decide⟩, ?_⟩
      intro a ha; simp only [List.mem_singleton] at ha; subst ha
      exact ⟨by unfold NoNewline; decide, by unfold NoNewline; decide⟩
  obtain ⟨stmts, hs, hc⟩ := classify_items UC.ascii _ text hw hp
  have hst : stmts = [.createTable ['A'] [(['s'], "STRING".toList)], .insert ['A'] ["'x'".toList] none] :=
    Option.some.inj (hs.symm.trans (by decide))
  have hv := values_classified UC.ascii text stmts hc
  refine ⟨text, stmts, hp, ?_, hc, hst, by simp [Loader.input, hc, Loader.fresh], hv, build_outcome_total UC.ascii stmts hv, ?_⟩
  · -- the empty text has no statements
    intro e; subst e; subst hst; exact absurd hc (by decide)
  · subst hst
    cases hb : build UC.ascii [.createTable ['A'] [(['s'], "STRING".toList)], .insert ['A'] ["'x'".toList] none] with
    | ok s => exact ⟨s, rfl⟩
    | error e =>
      have : (match build UC.ascii [.createTable ['A'] [(['s'], "STRING".toList)], .insert ['A'] ["'x'".toList] none] with
        | .ok _ => true | _ => false) = true := by decide
      rw [hb] at this; cases this

/-- A FAILING INSERT: the value `'x'` cannot be read for an INTEGER column; the build ends in the parsing exception and
    `build_fails_iff` names the cause (the first failing INSERT, in the state phases 1–3 left) -/
example : build UC.ascii [.createTable ['A'] [(['i'], "INTEGER".toList)], .insert ['A'] ["'x'".toList] none] = .error .parseErr ∧
    Failure UC.ascii [.createTable ['A'] [(['i'], "INTEGER".toList)], .insert ['A'] ["'x'".toList] none] .parseErr := by
  have key : (match build UC.ascii [.createTable ['A'] [(['i'], "INTEGER".toList)], .insert ['A'] ["'x'".toList] none] with
      | .error .parseErr => true | _ => false) = true := by decide
  have hb : build UC.ascii [.createTable ['A'] [(['i'], "INTEGER".toList)], .insert ['A'] ["'x'".toList] none] = .error .parseErr := by
    cases h : build UC.ascii [.createTable ['A'] [(['i'], "INTEGER".toList)], .insert ['A'] ["'x'".toList] none] with
    | ok s => rw [h] at key; cases key
    | error e => rw [h] at key; cases e <;> first | rfl | cases key
  exact ⟨hb, (build_fails_iff UC.ascii _ _).mp hb⟩

/-- a duplicate class ends the build in the metamodel exception -/
example (u : UC) : build u [.createTable ['A'] [], .createTable ['A'] []] = .error .metaErr := by
  apply build_fails_duplicate u _
  simp [KindsDistinct, newTables]

/-- two attribute names that differ only in letter case end the build in the metamodel exception -/
example (u : UC) : build u [.createTable ['A'] [(['X'], "INTEGER".toList), (['x'], "INTEGER".toList)],
    .insert ['A'] [['1'], ['2']] none] = .error .metaErr :=
  build_fails_attr_names u _ ⟨_, List.mem_cons_self, (attrNamesOk_of_ascii u (by decide)).trans (by decide +kernel)⟩

/-- a named INSERT into an undeclared class with the names `a`, `A` ends the build in the metamodel exception -/
example (u : UC) : popInstance u BState.empty ['K'] [['1'], ['2']] (some [['a'], ['A']]) = .error .metaErr := by
  apply popInstance_name_clash u BState.empty ['K'] [['1'], ['2']] ['a'] [['A']] rfl (by simp [BState.find?, BState.empty])
  have e : u.upper ['a'] = ['A'] := by simp [UC.upper, UC.up, asciiUpper, isAsciiLower]
  have e' : u.upper ['A'] = ['A'] := by simp [UC.upper, UC.up, asciiUpper, isAsciiLower]
  simp [attrNamesOk, distinctB, inferredAttrs, e, e']

/-- a statement list that meets `BuildOk`: one class, one identifier, one reflexive association, one row -/
example : BuildOk UC.ascii [.createTable ['A'] [(['i'], "INTEGER".toList)], .createIndex ['A'] ['I'] [['i']],
    .createRop ['R', '1'] ['A'] ['1'] [['i']] [] ['A'] ['1'] [['i']] [], .insert ['A'] [['7']] none] := by
  refine ⟨by unfold KindsDistinct; decide, ?_, ?_, ?_, ?_⟩
  · intro c hc
    simp only [newTables, List.mem_singleton] at hc; subst hc
    decide
  · intro kind name attrs hm _
    simp only [List.mem_cons, List.mem_nil_iff, or_false, reduceCtorEq, false_or, Stmt.createIndex.injEq] at hm
    obtain ⟨rfl, _, _⟩ := hm
    exact ⟨_, List.mem_singleton.mpr rfl, by decide⟩
  · intro rel sk sc skeys sp tk tc tkeys tp hm
    simp only [List.mem_cons, List.mem_nil_iff, or_false, reduceCtorEq, false_or, Stmt.createRop.injEq] at hm
    obtain ⟨_, rfl, _, rfl, _, rfl, _, rfl, _⟩ := hm
    refine ⟨⟨_, List.mem_singleton.mpr rfl, by decide⟩, ⟨_, List.mem_singleton.mpr rfl, by decide⟩, by decide, rfl, ?_⟩
    intro c hc _ k hk
    simp only [newTables, List.mem_singleton] at hc; subst hc
    simp only [List.mem_singleton] at hk; subst hk
    decide
  · intro kind values names hm
    simp only [List.mem_cons, List.mem_nil_iff, or_false, reduceCtorEq, false_or, Stmt.insert.injEq] at hm
    obtain ⟨rfl, rfl, rfl⟩ := hm
    refine ⟨rfl, ⟨_, List.mem_singleton.mpr rfl, by decide⟩, ?_⟩
    intro c hc _
    simp only [newTables, List.mem_singleton] at hc; subst hc
    exact ⟨by decide, by decide, trivial⟩

/-- the engine on the generated tree of t_STRING: a quote inside (doubled), then the backing-off case -- the text ends after a
    doubled quote, the match ends at the first quote of the pair -/
example : Pyx.Regex.Regex.matchPrefix (Gen.SqlLex.Rule.rx .STRING) "'it''s' x".toList = some 7 ∧
    Pyx.Regex.Regex.matchPrefix (Gen.SqlLex.Rule.rx .STRING) "'a''".toList = some 3 ∧
    Pyx.Regex.Regex.matchPrefix (Gen.SqlLex.Rule.rx .STRING) "'a".toList = none := by decide +kernel

/-- … of t_GUID (lazy: stops at the first quote that is not part of a backslash pair) and of t_FRACTION -/
example : Pyx.Regex.Regex.matchPrefix (Gen.SqlLex.Rule.rx .GUID) "\"a\\\"b\" \"".toList = some 6 ∧
    Pyx.Regex.Regex.matchPrefix (Gen.SqlLex.Rule.rx .FRACTION) "12.50x".toList = some 5 ∧
    Pyx.Regex.Regex.matchPrefix (Gen.SqlLex.Rule.rx .FRACTION) "12.x".toList = none := by decide +kernel

/-- Python's tables are a model parameter that satisfies `PyTables` (the engine's own tables) -/
example : (⟨Pyx.Regex.isDigit, Pyx.Regex.isWordU, fun c => [c], fun _ => 0⟩ : UC).PyTables := fun _ _ => ⟨rfl, rfl⟩

end PyxProps.C12
