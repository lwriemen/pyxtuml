import Proofs.NewShapeMore

/-!
  C19 — New instances get typed defaults and fresh non-null identifiers.
  Property theorems only (model: PyxModel/NewInst.lean
  on top of PyxModel/Attr.lean, written from `MetaClass.default_value/new` and `IdGenerator/IntegerGenerator`;
  the type→default table is GENERATED from the source: Gen/MetaDefaults.lean).
-/
namespace PyxProps.C19
open Pyx.Attr Pyx.NewInst Pyx.Gen.MetaDefaults

/-- over the generated table: whatever the letter case of the type name, BOOLEAN/INTEGER/REAL/STRING default to
    false / 0 / 0.0 / '' without touching the generator, UNIQUE_ID takes `next(id_generator)`, and every other
    type name is rejected (MetaException) -/
theorem defaults_typed (stream : Nat → Int) (ty : Name) (pos : Nat) :
    (fold ty = ['B', 'O', 'O', 'L', 'E', 'A', 'N'] → typedDefault stream ty pos = some (.bool false, pos)) ∧
    (fold ty = ['I', 'N', 'T', 'E', 'G', 'E', 'R'] → typedDefault stream ty pos = some (.int 0, pos)) ∧
    (fold ty = ['R', 'E', 'A', 'L'] → typedDefault stream ty pos = some (.real ['0', '.', '0'], pos)) ∧
    (fold ty = ['S', 'T', 'R', 'I', 'N', 'G'] → typedDefault stream ty pos = some (.str [], pos)) ∧
    (fold ty = ['U', 'N', 'I', 'Q', 'U', 'E', '_', 'I', 'D'] →
      typedDefault stream ty pos = some (.int (stream pos), pos + 1)) ∧
    (fold ty ∉ [['B', 'O', 'O', 'L', 'E', 'A', 'N'], ['I', 'N', 'T', 'E', 'G', 'E', 'R'], ['R', 'E', 'A', 'L'],
        ['S', 'T', 'R', 'I', 'N', 'G'], ['U', 'N', 'I', 'Q', 'U', 'E', '_', 'I', 'D']] →
      typedDefault stream ty pos = none) ∧
    unknownRaises = ['M', 'e', 't', 'a', 'E', 'x', 'c', 'e', 'p', 't', 'i', 'o', 'n'] := by
  unfold typedDefault
  refine ⟨?_, ?_, ?_, ?_, ?_, ?_, rfl⟩
  · intro h; rw [h]; rfl
  · intro h; rw [h]; rfl
  · intro h; rw [h]; rfl
  · intro h; rw [h]; rfl
  · intro h; rw [h]; rfl
  · intro h
    simp only [List.mem_cons, List.not_mem_nil, or_false, not_or] at h
    simp only [tableGet, table, h, ↓reduceIte]

/-- a class with a non-referential attribute of unknown type cannot be instantiated: the constructor raises -/
theorem unknown_type_rejected (stream : Nat → Int) (call : Call) (pos : Nat) (a ty : Name)
    (hm : (a, ty) ∈ call.cls.attrs) (hr : a ∉ call.cls.refs)
    (hty : fold ty ∉ [['B', 'O', 'O', 'L', 'E', 'A', 'N'], ['I', 'N', 'T', 'E', 'G', 'E', 'R'], ['R', 'E', 'A', 'L'],
        ['S', 'T', 'R', 'I', 'N', 'G'], ['U', 'N', 'I', 'Q', 'U', 'E', '_', 'I', 'D']]) :
    (newOne stream call pos).1.ok = false := by
  have hfail := computeDefaults_fail (typedDefault stream) call.cls call.cls.attrs pos a ty hm hr
    (fun p => (defaults_typed stream ty p).2.2.2.2.2.1 hty)
  unfold newOne
  simp [hfail]

/-- argument order.  For a class whose declared names are distinct after case folding, with every type known and
    ANY keyword names (a spelling of a declared attribute, referential or not, in any letter case is resolved to
    the declared name first): the constructor succeeds, and every non-referential attribute `a` holds — and reads under every
    spelling — the keyword value if one was given (the last one, if several spellings were given), else the
    positional value paired with it by `zip(attributes, args)`, else its default; that default is the typed
    default of its declared type. -/
theorem arg_order (stream : Nat → Int) (call : Call) (pos : Nat) (hwf : WF call.cls)
    (hok : (computeDefaults (typedDefault stream) call.cls call.cls.attrs pos).2.2 = true) :
    (newOne stream call pos).1.ok = true ∧
    ∀ a ∈ call.cls.names, a ∉ call.cls.refs →
      (∀ sp, fold sp = fold a → getattr call.cls (newOne stream call pos).1.dict sp =
        cellRead ((lastGiven (fold a) call.kwargs).or ((lastGiven (fold a) (call.cls.names.zip call.args)).or
          (lastGiven (fold a) (newOne stream call pos).1.defs)))) ∧
      ∃ ty v p p', (a, ty) ∈ call.cls.attrs ∧ typedDefault stream ty p = some (v, p') ∧
        lastGiven (fold a) (newOne stream call pos).1.defs = some v := by
  obtain ⟨h1, hdefs, _, hall⟩ := newOne_spec stream call pos hwf hok
  refine ⟨h1, ?_⟩
  intro a ha hr
  refine ⟨(hall a ha).2 hr, ?_⟩
  rw [hdefs]
  have hnames := computeDefaults_names (typedDefault stream) call.cls call.cls.attrs pos hok
  obtain ⟨⟨a', ty⟩, hm, rfl⟩ := List.mem_map.mp ha
  have hmem : a' ∈ (computeDefaults (typedDefault stream) call.cls call.cls.attrs pos).1.map (·.1) := by
    rw [hnames]
    exact List.mem_map.mpr ⟨(a', ty), List.mem_filter.mpr ⟨hm, by simpa using hr⟩, rfl⟩
  obtain ⟨⟨a'', v⟩, hv, rfl⟩ := List.mem_map.mp hmem
  obtain ⟨_, ty', p, p', hm', hd⟩ := computeDefaults_mem _ _ _ _ _ v hv
  exact ⟨ty', v, p, p', hm', hd, lastGiven_of_mem _ _ v (defs_nodup hwf _ pos hok) hv⟩

/-- `IntegerGenerator`: for ANY interleaving of peek / next, the values returned are those of a counter that
    starts at 1 and is advanced by `next` only — so `next` yields 1, 2, 3, …, and `peek` returns what the next
    `next` returns and never advances -/
theorem intgen_seq (ops : List GOp) :
    (IntGen.run ops IntGen.init).1 = specRun ops 1 ∧
    (IntGen.run ops IntGen.init).2.current = ((1 + countNext ops : Nat) : Int) ∧
    (∀ g : IntGen, g.peek = g.next.1) ∧
    (∀ (g : IntGen) (r : List GOp), IntGen.run (.peek :: r) g = (g.peek :: (IntGen.run r g).1, (IntGen.run r g).2)) := by
  have h := intGen_run ops 1
  have hi : IntGen.init = { current := ((1 : Nat) : Int) } := by simp [IntGen.init, IntGen.readfunc]
  rw [hi, h]
  exact ⟨rfl, rfl, fun _ => rfl, fun _ _ => rfl⟩

/-- consecutive `next` calls yield 1, 2, 3, … -/
theorem intgen_counts (n : Nat) :
    (IntGen.run (List.replicate n .next) IntGen.init).1 = (List.range' 1 n).map fun (k : Nat) => (k : Int) := by
  rw [(intgen_seq _).1]
  have h : ∀ (n s : Nat), specRun (List.replicate n .next) s = (List.range' s n).map fun (k : Nat) => (k : Int) := by
    intro n
    induction n with
    | zero => intro s; rfl
    | succ n ih => intro s; simp [List.replicate_succ, specRun, List.range'_succ, ih]
  exact h n 1

/-- seen from outside, `IntegerGenerator` is the generator whose k-th value is k + 1 (same answers to every
    interleaving of peek / next); that stream is injective and never the null id 0 -/
theorem intgen_stream (ops : List GOp) :
    (IntGen.run ops IntGen.init).1 = (IdGen.run ops { stream := intStream, pos := 0 }).1 ∧
    (∀ i j, intStream i = intStream j → i = j) ∧ (∀ i, intStream i ≠ 0) := by
  refine ⟨?_, intStream_inj, intStream_ne_zero⟩
  rw [(intgen_seq ops).1, idGen_run, specRunS_int]

/-- fresh ids.  For ANY generator whose stream is injective and never null, any sequence of constructor calls
    on one metamodel (any classes with case-distinct declared names, any mix of positional / keyword / omitted
    arguments, including calls that fail on an unknown type, and calls that supply ids explicitly — those
    still consume a generator value): the unique ids left to their default, over all created instances, are
    integers, none is the null id 0, and no two of them are equal. -/
theorem ids_fresh (stream : Nat → Int) (hinj : ∀ i j, stream i = stream j → i = j) (hnn : ∀ i, stream i ≠ 0)
    (calls : List Call) (pos : Nat)
    (hc : ∀ call ∈ calls, WF call.cls) :
    (allDefaultedIds calls (newMany stream calls pos).1).Nodup ∧
    ∀ x ∈ allDefaultedIds calls (newMany stream calls pos).1, ∃ i : Int, x = some (.int i) ∧ i ≠ 0 := by
  obtain ⟨_, hs⟩ := newMany_ids stream calls pos hc
  refine ⟨hs.nodup (nodup_draws hinj _ _), fun x hx => ?_⟩
  obtain ⟨p, _, _, rfl⟩ := mem_draws (hs.subset hx)
  exact ⟨stream p, rfl, hnn p⟩

/-- … in particular with the integer generator -/
theorem ids_fresh_integer (calls : List Call) (pos : Nat)
    (hc : ∀ call ∈ calls, WF call.cls) :
    (allDefaultedIds calls (newMany intStream calls pos).1).Nodup ∧
    ∀ x ∈ allDefaultedIds calls (newMany intStream calls pos).1, ∃ i : Int, x = some (.int i) ∧ i ≠ 0 :=
  ids_fresh intStream intStream_inj intStream_ne_zero calls pos hc

/-- … and with a user-supplied counting generator `start, start + step, …` (positive start and step); the
    integer generator is the instance `start = step = 1` -/
theorem ids_fresh_counting (start step : Int) (hs : 0 < start) (ht : 0 < step) (calls : List Call) (pos : Nat)
    (hc : ∀ call ∈ calls, WF call.cls) :
    (allDefaultedIds calls (newMany (linStream start step) calls pos).1).Nodup ∧
    ∀ x ∈ allDefaultedIds calls (newMany (linStream start step) calls pos).1, ∃ i : Int, x = some (.int i) ∧ i ≠ 0 := by
  apply ids_fresh _ _ _ calls pos hc
  · intro i j h
    unfold linStream at h
    have h' : step * (i : Int) = step * (j : Int) := by omega
    have := Int.eq_of_mul_eq_mul_left (Int.ne_of_gt ht) h'
    omega
  · intro i
    unfold linStream
    have : 0 ≤ step * (i : Int) := Int.mul_nonneg (Int.le_of_lt ht) (Int.natCast_nonneg i)
    omega

theorem lin_one_one : linStream 1 1 = intStream := by
  funext k
  simp only [linStream, intStream]
  omega

def cA : Cls :=
  { kind := ['A']
    attrs := [(['I', 'd'], ['u', 'n', 'i', 'q', 'u', 'e', '_', 'I', 'D']), (['N', 'm'], ['S', 't', 'r', 'i', 'n', 'g']),
              (['O', 'k'], ['b', 'o', 'o', 'l', 'e', 'a', 'n']), (['I', 'd', '2'], ['U', 'N', 'I', 'Q', 'U', 'E', '_', 'I', 'D']),
              (['R'], ['r', 'e', 'a', 'l'])]
    refs := [] }
def call1 : Call := { cls := cA, args := [], kwargs := [(['n', 'M'], .str ['x'])] }
def call2 : Call := { cls := cA, args := [.int 77], kwargs := [(['O', 'K'], .bool true)] }

example : WF cA := by unfold WF; decide +kernel
example : fold ['b', 'O', 'o', 'l', 'e', 'a', 'N'] = ['B', 'O', 'O', 'L', 'E', 'A', 'N'] := by decide +kernel
/-- two calls with the integer generator: the explicit id 77 still consumed the value 3; defaulted ids 1, 2, 4 -/
example : ((newMany intStream [call1, call2] 0).1.map (·.dict)) =
    [[(['I', 'd'], .int 1), (['N', 'm'], .str ['x']), (['O', 'k'], .bool false), (['I', 'd', '2'], .int 2), (['R'], .real ['0', '.', '0'])],
     [(['I', 'd'], .int 77), (['N', 'm'], .str []), (['O', 'k'], .bool true), (['I', 'd', '2'], .int 4), (['R'], .real ['0', '.', '0'])]] := by
  decide +kernel
example : allDefaultedIds [call1, call2] (newMany intStream [call1, call2] 0).1 =
    [some (.int 1), some (.int 2), some (.int 4)] := by decide +kernel
example : (IntGen.run [.peek, .next, .peek, .peek, .next, .next] IntGen.init).1 = [1, 1, 2, 2, 2, 3] := by decide +kernel

end PyxProps.C19

/-! SOURCE TIE of instance creation and the id generators

  translator/gen_newshape.py reads the three assignment loops of `MetaClass.new` and the classes IdGenerator,
  IntegerGenerator, UUIDGenerator with `ast` on every run and emits their statement structure as IR
  (lean/Gen/NewShape.lean); anything outside the expected shape raises (broken tie) — in particular a
  `UUIDGenerator.readfunc` that is not exactly `uuid.uuid4().int`, or an `import random` next to the generators.
  Proofs/NewShape.lean defines ONE generic, statement-by-statement interpreter of that IR.  The theorems state
  that the model of PyxModel/NewInst.lean IS the interpretation of the IR generated from the current source. -/
namespace PyxProps.C19
open Pyx.Attr Pyx.NewInst Pyx.NShape Pyx.Gen.NewShape

/-- `MetaClass.new`: a default for every non-referential attribute in declared order (computed, and its id drawn, when
    its statement is executed), then the positional arguments zipped over ALL declared attributes (surplus arguments
    are dropped by `zip`; a referential position goes to the local dictionary), then the keyword arguments, each
    resolved to the declared spelling first; an exception stops everything that follows -/
theorem new_loops_as_in_source (stream : Nat → Int) (call : Call) (pos : Nat) (hwf : WF call.cls) :
    newOne stream call pos = iNewOne newLoops stream call pos :=
  newOne_eq stream call pos hwf

/-- IdGenerator / IntegerGenerator: `__init__` draws the first value, `peek` returns the current value and changes
    nothing, `next` saves the current value, draws the next one and returns the saved one; the integer generator
    starts from the class attribute and adds the increment read from the source; UUIDGenerator.readfunc is
    `uuid.uuid4().int`, and the metamodel's generator is bound in MetaModel.__init__ only — no other statement of the
    library assigns an `id_generator` attribute (both checked by the generator on every run) -/
theorem generators_as_in_source (g : IntGen) :
    IntGen.init = { current := (iGRun (fun cur => cur + intIncrement) genInit intStart).current } ∧
    (iGRun (fun cur => cur + intIncrement) genPeek g.current).ret = some (IntGen.peek g) ∧
    (iGRun (fun cur => cur + intIncrement) genPeek g.current).current = g.current ∧
    (iGRun (fun cur => cur + intIncrement) genNext g.current).ret = some (IntGen.next g).1 ∧
    (IntGen.next g).2 = { current := (iGRun (fun cur => cur + intIncrement) genNext g.current).current } ∧
    uuidReadfuncIsUuid4 = true ∧ idGeneratorBoundOnlyInInit = true :=
  ⟨(intGen_eq g).1, (intGen_eq g).2.1, (intGen_eq g).2.2.1, (intGen_eq g).2.2.2.1, (intGen_eq g).2.2.2.2, rfl, rfl⟩

/-! non-vacuity: the interpreter runs the generated loops; loops in another order are another function -/
example : ((iNewOne newLoops intStream call2 2).1.dict) =
    [(['I', 'd'], .int 77), (['N', 'm'], .str []), (['O', 'k'], .bool true), (['I', 'd', '2'], .int 4), (['R'], .real ['0', '.', '0'])] := by
  decide +kernel
def call3 : Call := { cls := cA, args := [.int 77], kwargs := [(['i', 'D'], .int 5)] }
example : dget (iNewOne newLoops intStream call3 0).1.dict ['I', 'd'] = some (.int 5) ∧
    dget (iNewOne (newLoops.take 1 ++ (newLoops.drop 2) ++ (newLoops.drop 1).take 1) intStream call3 0).1.dict ['I', 'd'] = some (.int 77) := by decide +kernel
example : (iGRun (fun cur => cur + intIncrement) genNext 4).ret = some 4 ∧
    (iGRun (fun cur => cur + intIncrement) genNext 4).current = 5 := by decide +kernel
/-- other statement lists are other methods: a `return` placed before the draw ends `next` without advancing the generator
    (every call returns the same value), a `next` without a return statement returns no value, a
    `return val` before `val` is bound returns none, and an `__init__` that does not draw starts one value early -/
example : (iGRun (fun cur => cur + intIncrement) [.saveCurrent, .returnSaved, .drawCurrent] 4).current = 4 ∧
    (iGRun (fun cur => cur + intIncrement) [.saveCurrent, .returnSaved, .drawCurrent] 4).ret = some 4 ∧
    (iGRun (fun cur => cur + intIncrement) [.saveCurrent, .drawCurrent] 4).ret = none ∧
    (iGRun (fun cur => cur + intIncrement) [.returnSaved, .saveCurrent, .drawCurrent] 4).ret = none ∧
    (iGRun (fun cur => cur + intIncrement) [.drawCurrent, .returnCurrent] 4).ret = some 5 ∧
    (iGRun (fun cur => cur + intIncrement) [] intStart).current ≠ IntGen.init.current := by decide +kernel

/-- the GENERIC generator of the model (`IdGen`: any `readfunc`, seen as the stream of the values it returns — the
    integer and the uuid generator alike): position `pos` stands for "`pos + 1` calls of `readfunc` made,
    `_current = stream pos`"; `__init__` makes call 0, `peek` returns `_current` and calls nothing, `next` returns the
    OLD `_current` and makes exactly one call — each the statement list read from the source, run on registers that
    count the calls -/
theorem id_generator_as_in_source (g : IdGen) (c0 : Int) :
    (iSRun g.stream genInit 0 c0).current = IdGen.peek { g with pos := 0 } ∧
    (iSRun g.stream genInit 0 c0).calls = 1 ∧
    (iSRun g.stream genPeek (g.pos + 1) g.peek).ret = some g.peek ∧
    (iSRun g.stream genPeek (g.pos + 1) g.peek).current = g.peek ∧
    (iSRun g.stream genPeek (g.pos + 1) g.peek).calls = g.pos + 1 ∧
    (iSRun g.stream genNext (g.pos + 1) g.peek).ret = some g.next.1 ∧
    (iSRun g.stream genNext (g.pos + 1) g.peek).current = g.next.2.peek ∧
    (iSRun g.stream genNext (g.pos + 1) g.peek).calls = g.next.2.pos + 1 ∧
    g.next.2.stream = g.stream :=
  idGen_eq g c0

/-- ANY interleaving of `peek` and `next`, on the integer generator and on the generic one: the values the model hands
    out (every call returns a value) and the generator it ends in are those of the interpreted method bodies, call
    after call -/
theorem generator_runs_as_in_source (ops : List GOp) (g : IntGen) (stream : Nat → Int) (pos : Nat) :
    (IntGen.run ops g).1.map some = (iGOps (fun cur => cur + intIncrement) genPeek genNext ops g.current).1 ∧
    (IntGen.run ops g).2.current = (iGOps (fun cur => cur + intIncrement) genPeek genNext ops g.current).2 ∧
    (IdGen.run ops ⟨stream, pos⟩).1.map some = (iSOps stream genPeek genNext ops pos).1 ∧
    (IdGen.run ops ⟨stream, pos⟩).2.pos = (iSOps stream genPeek genNext ops pos).2 ∧
    (IdGen.run ops ⟨stream, pos⟩).2.stream = stream :=
  ⟨(intGen_run_eq ops g).1, (intGen_run_eq ops g).2, (idGen_run_eq stream ops pos).1, (idGen_run_eq stream ops pos).2.1,
   (idGen_run_eq stream ops pos).2.2⟩

/-- SEQUENCES of constructor calls on one metamodel (`newMany`, the object of `ids_fresh`) and histories of creations
    interleaved with the user's own `next()` / `peek()` (`runHist`): every call runs the interpreted loops of
    `MetaClass.new` at the position the previous one left, the user's calls run the interpreted generator methods.
    Hypothesis as for a single call (`new_loops_as_in_source`): the classes' declared names are distinct after case
    folding and their referential names are declared (`WF`; discharged for the example class below) -/
theorem new_sequences_as_in_source (stream : Nat → Int) (calls : List Call) (h : List HOp) (pos : Nat)
    (hc : ∀ call ∈ calls, WF call.cls) (hh : ∀ c, HOp.create c ∈ h → WF c.cls) :
    newMany stream calls pos = iNewMany newLoops stream calls pos ∧
    runHist stream h pos = iRunHist newLoops genPeek genNext stream h pos :=
  ⟨newMany_eq stream calls pos hc, runHist_eq stream h pos hh⟩

/-! non-vacuity: the hypotheses hold for the two example calls; the interpreted sequence hands out the ids 1, 2 and 4
    (the explicit 77 consumed 3), a user `next()` in between moves them on; a `next` that returned before drawing
    would hand every instance after it the value the user already got -/
example : ∀ call ∈ [call1, call2], WF call.cls := by
  intro c hc
  simp only [List.mem_cons, List.not_mem_nil, or_false] at hc
  rcases hc with rfl | rfl <;> (unfold WF; decide +kernel)
example : allDefaultedIds [call1, call2] (iNewMany newLoops intStream [call1, call2] 0).1 =
      [some (.int 1), some (.int 2), some (.int 4)] ∧
    histDefaultedIds (iRunHist newLoops genPeek genNext intStream [.create call1, .next, .peek, .create call2] 0).1 =
      [some (.int 1), some (.int 2), some (.int 5)] ∧
    histDefaultedIds (iRunHist newLoops genPeek [.saveCurrent, .returnSaved, .drawCurrent] intStream
      [.create call1, .next, .peek, .create call2] 0).1 = [some (.int 1), some (.int 2), some (.int 4)] ∧
    (iGOps (fun cur => cur + intIncrement) genPeek genNext [.peek, .next, .peek, .peek, .next, .next] 1).1 =
      [some 1, some 1, some 2, some 2, some 2, some 3] ∧
    (iSOps (linStream 10 5) genPeek genNext [.next, .peek, .next] 0) = ([some 10, some 15, some 15], 2) := by decide +kernel

end PyxProps.C19

namespace PyxProps.C19
open Pyx.Attr Pyx.NewInst

/-- the function the driver runs (`NewInst.newInst` = `Attr.newInstWith (typedDefault stream)`, the world-level
    `MetaModel.new`) is built on the function the theorems are about: `newOne` IS its creation part `Attr.newDict`; the
    instance the driver's `new` appends to the storage holds `newOne`'s dictionary, the generator ends at `newOne`'s
    position, and a failed `newOne` is reported as MetaException.  (The batch relate that follows only touches links.) -/
theorem driver_new_is_newOne (stream : Nat → Int) (w : World) (kind : Name) (args : List Val) (kwargs : List (Name × Val))
    (c : Cls) (hc : findMetaclass w.classes kind = some c) :
    newOne stream ⟨c, args, kwargs⟩ w.nextId =
      ({ dict := (newDict (typedDefault stream) c args kwargs w.nextId).1.dict,
         defs := (newDict (typedDefault stream) c args kwargs w.nextId).2.1,
         ok := (newDict (typedDefault stream) c args kwargs w.nextId).2.2.2 },
       (newDict (typedDefault stream) c args kwargs w.nextId).2.2.1) ∧
    (newInst stream w kind args kwargs).1.insts =
      w.insts ++ [{ cls := fold kind, dict := (newOne stream ⟨c, args, kwargs⟩ w.nextId).1.dict }] ∧
    (newInst stream w kind args kwargs).1.nextId = (newOne stream ⟨c, args, kwargs⟩ w.nextId).2 ∧
    ((newOne stream ⟨c, args, kwargs⟩ w.nextId).1.ok = false → (newInst stream w kind args kwargs).2 = some .metaE) :=
  ⟨newOne_eq_newDict stream ⟨c, args, kwargs⟩ w.nextId, newInst_is_newOne stream w kind args kwargs c hc⟩

/-- histories in which creations are interleaved with the user's own `next()` and `peek()` on the
    metamodel's generator (the quantifier of the property): for any injective, never-null stream the ids left to their
    default are non-null and pairwise distinct; a user's `next()` consumes a value that no instance receives, `peek()`
    consumes nothing -/
theorem ids_fresh_history (stream : Nat → Int) (hinj : ∀ i j, stream i = stream j → i = j) (hnn : ∀ i, stream i ≠ 0)
    (h : List HOp) (pos : Nat) (hwf : ∀ c, HOp.create c ∈ h → WF c.cls) :
    (histDefaultedIds (runHist stream h pos).1).Nodup ∧
    ∀ x ∈ histDefaultedIds (runHist stream h pos).1, ∃ p : Nat, pos ≤ p ∧ x = some (.int (stream p)) ∧ stream p ≠ 0 := by
  obtain ⟨_, hs⟩ := runHist_ids stream h pos hwf
  refine ⟨hs.nodup (nodup_draws hinj _ _), fun x hx => ?_⟩
  obtain ⟨p, hp, _, rfl⟩ := mem_draws (hs.subset hx)
  exact ⟨p, hp, rfl, hnn p⟩

/-- what freshness does and does not cover.  `ids_fresh` / `ids_fresh_history` are about ids LEFT TO THEIR
    DEFAULT: they never repeat among themselves.  An id supplied EXPLICITLY by the caller is not drawn from the generator
    and can coincide with a defaulted one (IntegerGenerator: `new('A', Id=2); new('A')` gives two instances with Id 2 —
    see the example below).  What can be said: a defaulted id is always a value of the generator's stream, so it differs
    from every explicit id that is not such a value — for the integer generator: from every explicit id ≤ 0, and from
    every explicit id larger than the number of values drawn so far -/
theorem ids_fresh_vs_explicit (stream : Nat → Int) (h : List HOp) (pos : Nat) (hwf : ∀ c, HOp.create c ∈ h → WF c.cls)
    (v : Int) :
    ((∀ k, stream k ≠ v) → ∀ x ∈ histDefaultedIds (runHist stream h pos).1, x ≠ some (.int v)) ∧
    ((∀ k, pos ≤ k → k < (runHist stream h pos).2 → stream k ≠ v) →
      ∀ x ∈ histDefaultedIds (runHist stream h pos).1, x ≠ some (.int v)) := by
  obtain ⟨_, hs⟩ := runHist_ids stream h pos hwf
  constructor
  · intro hv x hx he
    obtain ⟨p, _, _, rfl⟩ := mem_draws (hs.subset hx)
    exact hv p (by simpa using he)
  · intro hv x hx he
    obtain ⟨p, h1, h2, rfl⟩ := mem_draws (hs.subset hx)
    exact hv p h1 h2 (by simpa using he)

theorem integer_ids_vs_explicit (h : List HOp) (hwf : ∀ c, HOp.create c ∈ h → WF c.cls) (v : Int)
    (hv : v ≤ 0 ∨ ((runHist intStream h 0).2 : Int) < v) :
    ∀ x ∈ histDefaultedIds (runHist intStream h 0).1, x ≠ some (.int v) := by
  apply (ids_fresh_vs_explicit intStream h 0 hwf v).2
  intro k _ hk
  unfold intStream
  omega

/-! examples (the disclosed collision; a history with next/peek; an unknown type and a class
    with a referential attribute) -/
def cId : Cls := { kind := ['A'], attrs := [(['I', 'd'], ['u', 'n', 'i', 'q', 'u', 'e', '_', 'i', 'd'])], refs := [] }
/-- `new('A', Id=2); new('A')` with the integer generator: the explicit 2 and the defaulted 2 coincide — and the
    defaulted ids alone ([2]) are still pairwise distinct -/
example : ((runHist intStream [.create ⟨cId, [], [(['I', 'D'], .int 2)]⟩, .create ⟨cId, [], []⟩] 0).1.map (·.2.dict)) =
      [[(['I', 'd'], .int 2)], [(['I', 'd'], .int 2)]] ∧
    histDefaultedIds (runHist intStream [.create ⟨cId, [], [(['I', 'D'], .int 2)]⟩, .create ⟨cId, [], []⟩] 0).1 = [some (.int 2)] := by
  decide +kernel
example : histDefaultedIds (runHist intStream [.create ⟨cId, [], []⟩, .next, .peek, .create ⟨cId, [], []⟩, .next, .create call1] 0).1 =
    [some (.int 1), some (.int 3), some (.int 5), some (.int 6)] := by decide +kernel
def cBad : Cls := { kind := ['B'], attrs := [(['I', 'd'], ['U', 'N', 'I', 'Q', 'U', 'E', '_', 'I', 'D']), (['x'], ['f', 'o', 'o']), (['y'], ['i', 'n', 't', 'e', 'g', 'e', 'r'])], refs := [] }
example : (newOne intStream ⟨cBad, [], []⟩ 0).1.dict = [(['I', 'd'], .int 1)] ∧ (newOne intStream ⟨cBad, [], []⟩ 0).1.ok = false ∧
    (newOne intStream ⟨cBad, [], []⟩ 0).2 = 1 := by decide +kernel
def cRef : Cls := { kind := ['C'], attrs := [(['I', 'd'], ['u', 'n', 'i', 'q', 'u', 'e', '_', 'i', 'd']), (['A', '_', 'I', 'd'], ['u', 'n', 'i', 'q', 'u', 'e', '_', 'i', 'd'])], refs := [['A', '_', 'I', 'd']] }
example : WF cRef ∧ ((newOne intStream ⟨cRef, [], [(['a', '_', 'i', 'D'], .int 7)]⟩ 0).1.dict = [(['I', 'd'], .int 1)] ∧
    (newOne intStream ⟨cRef, [], [(['a', '_', 'i', 'D'], .int 7)]⟩ 0).1.ok = true) ∧
    defaultedIdAttrs ⟨cRef, [], [(['a', '_', 'i', 'D'], .int 7)]⟩ = [['I', 'd']] := by
  refine ⟨by unfold WF; decide +kernel, by decide +kernel, by decide +kernel⟩

end PyxProps.C19

namespace PyxProps.C19
open Pyx.Attr Pyx.NewInst

theorem cId_wf : WF cId := by unfold WF; decide +kernel
def histEx : List HOp := [.create ⟨cId, [], []⟩, .next, .peek, .create ⟨cId, [], [(['I', 'D'], .int 9)]⟩, .create ⟨cId, [], []⟩]
theorem histEx_wf : ∀ c, HOp.create c ∈ histEx → WF c.cls := by
  intro c hc
  simp only [histEx, List.mem_cons, HOp.create.injEq, List.not_mem_nil, or_false, reduceCtorEq, false_or] at hc
  rcases hc with rfl | rfl | rfl <;> exact cId_wf

/-- `ids_fresh_history` applied to the integer stream and a history with a user's `next` / `peek` and an explicit id: the
    defaulted ids (1 and 4: the user's `next` took 2, the explicit creation consumed 3) are distinct, non-null values of
    the stream -/
example : (histDefaultedIds (runHist intStream histEx 0).1).Nodup ∧
    (∀ x ∈ histDefaultedIds (runHist intStream histEx 0).1, ∃ p : Nat, 0 ≤ p ∧ x = some (.int (intStream p)) ∧ intStream p ≠ 0) ∧
    histDefaultedIds (runHist intStream histEx 0).1 = [some (.int 1), some (.int 4)] :=
  ⟨(ids_fresh_history intStream intStream_inj intStream_ne_zero histEx 0 histEx_wf).1,
   (ids_fresh_history intStream intStream_inj intStream_ne_zero histEx 0 histEx_wf).2, by decide +kernel⟩

/-- `driver_new_is_newOne` applied to the world the driver reaches after `define A (Id unique_id)`: the instance that
    `new('a')` appends holds `newOne`'s dictionary ([Id ↦ 1]) and the generator moves to `newOne`'s position -/
def wA : World := { World.empty with classes := [(['A'], cId)], nextId := 0 }
example : (newInst intStream wA ['a'] [] []).1.insts = [{ cls := ['A'], dict := [(['I', 'd'], .int 1)] }] ∧
    (newInst intStream wA ['a'] [] []).1.nextId = 1 :=
  let h := driver_new_is_newOne intStream wA ['a'] [] [] cId rfl
  ⟨by rw [h.2.1]; rfl, by rw [h.2.2.1]; rfl⟩

end PyxProps.C19
