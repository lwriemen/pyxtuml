import Proofs.OSetReplace
import Proofs.OSetShapeMore

/-!
  C17 — Ordered sets behave as insertion-ordered mathematical sets.
  Property theorems only.
  Model: PyxModel/OSet.lean (list level, operations composed as the CPython mixins compose
  add/discard/iteration) and PyxModel/OSetPtr.lean (cells with prev/next pointers).
-/
namespace PyxProps.C17
open Pyx.OSet

/-- every state reachable by ANY sequence of the state-changing operations is duplicate-free
    (so it denotes a mathematical set and the membership equations below apply in it) -/
theorem reachable_nodup (ops : List Op) : (run ops).Nodup :=
  nodup_run_from ops [] List.nodup_nil

/-- the set content after each operation is the mathematical set's -/
theorem mem_after_add (l : T) (k x : Nat) : x ∈ apply (.add k) l ↔ x ∈ l ∨ x = k := mem_add
theorem mem_after_discard (l : T) (h : l.Nodup) (k x : Nat) : x ∈ apply (.discard k) l ↔ x ∈ l ∧ x ≠ k :=
  mem_discard h
theorem mem_after_ior (l : T) (it : List Nat) (x : Nat) : x ∈ apply (.ior it) l ↔ x ∈ l ∨ x ∈ it := mem_ior
theorem mem_after_iand (l : T) (h : l.Nodup) (it : List Nat) (x : Nat) :
    x ∈ apply (.iand it) l ↔ x ∈ l ∧ x ∈ it := by
  simp only [apply]; rw [mem_iand h, mem_fromIter]
theorem mem_after_isub (l : T) (h : l.Nodup) (it : List Nat) (x : Nat) :
    x ∈ apply (.isub it) l ↔ x ∈ l ∧ x ∉ it := mem_foldl_discard it l h x
theorem mem_after_ixor (l : T) (h : l.Nodup) (it : List Nat) (x : Nat) :
    x ∈ apply (.ixor it) l ↔ (x ∈ l ∧ x ∉ it) ∨ (x ∉ l ∧ x ∈ it) := mem_ixor h
theorem mem_after_clear (l : T) (x : Nat) : x ∉ apply .clear l := by simp [apply, clear]

/-- remove = discard on a present key, KeyError (state unchanged) on an absent one -/
theorem remove_spec (l : T) (k : Nat) :
    (k ∈ l → remove k l = some (discard k l)) ∧ (k ∉ l → remove k l = none) := by
  unfold remove; constructor <;> intro h <;> simp [h]

/-- pops remove exactly the last / first element of the iteration order and return it;
    on the empty set they raise (none) -/
theorem popLast_spec (l : T) (h : l.Nodup) :
    (l = [] → popLast l = none) ∧
    (∀ k, l.getLast? = some k → popLast l = some (k, l.dropLast)) := by
  constructor
  · intro hl; subst hl; rfl
  · intro k hk
    unfold popLast; rw [hk]
    simp only [Option.some.injEq, Prod.mk.injEq, true_and]
    unfold Pyx.OSet.discard
    obtain ⟨l', rfl⟩ : ∃ l', l = l' ++ [k] := by
      rcases List.eq_nil_or_concat l with hl | ⟨l', b, hl⟩
      · subst hl; simp at hk
      · subst hl; simp at hk; subst hk; exact ⟨l', by simp⟩
    have hk' : k ∉ l' := by
      have := List.nodup_append.mp h
      intro hmem; exact this.2.2 k hmem k (by simp) rfl
    rw [List.erase_append_right _ hk']; simp

theorem popFirst_spec (l : T) :
    (l = [] → popFirst l = none) ∧ (∀ k t, l = k :: t → popFirst l = some (k, t)) := by
  constructor
  · intro hl; subst hl; rfl
  · intro k t hl; subst hl; unfold popFirst Pyx.OSet.discard; simp

/-- results of the non-mutating set algebra are duplicate-free and hold the mathematical result -/
theorem binop_mem (l t : T) (x : Nat) :
    (x ∈ Pyx.OSet.or l t ↔ x ∈ l ∨ x ∈ t) ∧ (x ∈ Pyx.OSet.and l t ↔ x ∈ l ∧ x ∈ t) ∧
    (x ∈ sub l t ↔ x ∈ l ∧ x ∉ t) ∧ (x ∈ xor l t ↔ (x ∈ l ∧ x ∉ t) ∨ (x ∈ t ∧ x ∉ l)) :=
  ⟨mem_or, mem_and, mem_sub, mem_xor⟩

theorem binop_nodup (l t : T) :
    (Pyx.OSet.or l t).Nodup ∧ (Pyx.OSet.and l t).Nodup ∧ (sub l t).Nodup ∧ (xor l t).Nodup :=
  ⟨nodup_fromIter _, nodup_fromIter _, nodup_fromIter _, nodup_fromIter _⟩

/-- insertion order: a single add appends iff the key is new -/
theorem order_add (l : T) (k : Nat) : (k ∉ l → add k l = l ++ [k]) ∧ (k ∈ l → add k l = l) := by
  unfold add; constructor <;> intro h <;> simp [h]

/-- in-place union keeps the receiver's order and appends the unseen elements of the argument in the
    argument's first-occurrence order; constructing from an iterable is first-occurrence de-duplication -/
theorem order_ior (l : T) (it : List Nat) :
    ior l it = l ++ (dedupFirst it).filter (fun x => !(decide (x ∈ l))) := ior_eq it l

theorem order_from_iterable (it : List Nat) : fromIter it = dedupFirst it := fromIter_eq_dedupFirst it

/-- removals keep the relative order of the remaining elements -/
theorem order_discard (l : T) (h : l.Nodup) (k : Nat) : discard k l = l.filter (fun x => x != k) :=
  discard_eq_filter h
theorem order_isub (l : T) (h : l.Nodup) (it : List Nat) :
    isub l it = l.filter (fun x => !(decide (x ∈ it))) := foldl_discard_eq_filter it l h
theorem order_iand (l t : T) (h : l.Nodup) : iand l t = l.filter (fun x => decide (x ∈ t)) := by
  unfold iand
  rw [foldl_discard_eq_filter _ _ h]
  apply List.filter_congr
  intro x hx
  by_cases ht : x ∈ t <;> simp [mem_sub, hx, ht]
theorem order_or (l t : T) (h : l.Nodup) :
    Pyx.OSet.or l t = l ++ (dedupFirst t).filter (fun x => !(decide (x ∈ l))) := by
  have h1 : Pyx.OSet.or l t = ior (fromIter l) t := by
    unfold Pyx.OSet.or fromIter ior; rw [List.foldl_append]
  rw [h1, fromIter_of_nodup h, ior_eq]

/-- `==` against a duplicate-free ordered collection is list equality -/
theorem eq_spec (l : T) (other : List Nat) (ho : other.Nodup) : eqIter l other = true ↔ l = other := by
  unfold eqIter
  rw [fromIter_of_nodup ho]
  simp only [Bool.and_eq_true, beq_iff_eq]
  constructor
  · rintro ⟨_, h⟩; exact h
  · intro h; subst h; exact ⟨rfl, rfl⟩

/-- pointer level: iterating while the consumer discards the element being visited (any predicate)
    visits exactly the keys of the ring, once each, in order — for a ring of any length (`hnd` follows from `hk`; the
    proof does not use it) -/
theorem iter_remove_current (p : Nat → Bool) (as : List Nat) (s : Pyx.OSetPtr.Store) (a : Nat)
    (hn : Pyx.OSetPtr.NextChain s a as) (hp : Pyx.OSetPtr.PrevChain s as) (hnd : as.Nodup)
    (h0 : 0 ∉ as) (hk : (as.map s.key).Nodup) (hm : Pyx.OSetPtr.MapOk s as)
    (hb : ∀ b bs, as = b :: bs → s.prev b ∉ bs) :
    (Pyx.OSetPtr.iterRem p (as.length + 1) s a).1 = as.map s.key :=
  (Pyx.OSetPtr.iterRem_both_fuel p as s a (as.length + 1) hn hp h0 hk hm hb (Nat.lt_succ_self _)).1

/-- pointer level ⇒ list level.  `Repr s L`: walking `next` from the sentinel yields cells whose keys are `L`,
    `prev` is the mirror, `map` maps exactly the keys of `L` to their cells, addresses are distinct, not the
    sentinel and below the allocator.  It holds for the empty set, is preserved by `add` (the list becomes
    `L ++ [k]`, or stays `L` when `k` is present) and by `discard` (the list becomes `L.erase k`), and under it
    forward iteration yields `L` and reverse iteration `L.reverse`. -/
theorem ptr_refines :
    Pyx.OSetPtr.Repr Pyx.OSetPtr.empty [] ∧
    (∀ s L k, Pyx.OSetPtr.Repr s L → Pyx.OSetPtr.Repr (Pyx.OSetPtr.add k s) (Pyx.OSet.add k L)) ∧
    (∀ s L k, Pyx.OSetPtr.Repr s L → Pyx.OSetPtr.Repr (Pyx.OSetPtr.discard k s) (Pyx.OSet.discard k L)) ∧
    (∀ s L, Pyx.OSetPtr.Repr s L → Pyx.OSetPtr.toList s = L ∧ Pyx.OSetPtr.toListRev s = L.reverse) := by
  refine ⟨⟨[], Pyx.OSetPtr.reprA_empty⟩, fun s L k h => Pyx.OSetPtr.repr_add h k, fun s L k h => Pyx.OSetPtr.repr_discard h k, ?_⟩
  rintro s L ⟨as, h⟩
  exact Pyx.OSetPtr.reprA_toList h

/-- the list-level meaning of the pointer ops is the abstract model's `add` / `discard` -/
theorem ptr_ops_are_oset_ops (k : Nat) (l : T) :
    Pyx.OSetPtr.absP (.add k) l = Pyx.OSet.add k l ∧ Pyx.OSetPtr.absP (.discard k) l = Pyx.OSet.discard k l :=
  ⟨rfl, rfl⟩

/-- every state reachable from the empty set by ANY sequence of the pointer-level ops (add, discard, forward / reverse iteration
    discarding visited elements) is represented, and denotes the list the abstract operations compute: forward and reverse iteration agree with the list model -/
theorem ptr_reachable (ops : List Pyx.OSetPtr.POp) :
    Pyx.OSetPtr.Repr (Pyx.OSetPtr.runP ops) (Pyx.OSetPtr.absRunP ops) ∧
    Pyx.OSetPtr.toList (Pyx.OSetPtr.runP ops) = Pyx.OSetPtr.absRunP ops ∧
    Pyx.OSetPtr.toListRev (Pyx.OSetPtr.runP ops) = (Pyx.OSetPtr.absRunP ops).reverse := by
  have h : Pyx.OSetPtr.Repr (Pyx.OSetPtr.runP ops) (Pyx.OSetPtr.absRunP ops) :=
    Pyx.OSetPtr.repr_runP_from ops Pyx.OSetPtr.empty [] ⟨[], Pyx.OSetPtr.reprA_empty⟩
  obtain ⟨as, ha⟩ := h
  exact ⟨⟨as, ha⟩, Pyx.OSetPtr.reprA_toList ha⟩

/-- `Repr` implies the hypotheses of `iter_remove_current` (for the ring starting after the sentinel) -/
theorem repr_gives_iter_hypotheses (s : Pyx.OSetPtr.Store) (L : List Nat) (h : Pyx.OSetPtr.Repr s L) :
    ∃ as, Pyx.OSetPtr.NextChain s (s.next 0) as ∧ Pyx.OSetPtr.PrevChain s as ∧ as.Nodup ∧ 0 ∉ as ∧
      (as.map s.key).Nodup ∧ Pyx.OSetPtr.MapOk s as ∧ (∀ b bs, as = b :: bs → s.prev b ∉ bs) ∧
      as.map s.key = L ∧ as.length < s.fresh := by
  obtain ⟨as, ha⟩ := h
  obtain ⟨hn, hp, hnd, h0, hk, hm, hb⟩ := Pyx.OSetPtr.reprA_iter_hyps ha
  exact ⟨as, hn, hp, hnd, h0, hk, hm, hb, ha.keys, ha.len⟩

/-- hence in EVERY state reachable by add / discard sequences, iterating (as `__iter__` does, from the cell
    after the sentinel) while the consumer discards the element being visited — any predicate — visits exactly
    the elements of the set, once each, in order -/
theorem iter_remove_current_reachable (p : Nat → Bool) (ops : List Pyx.OSetPtr.POp) :
    (Pyx.OSetPtr.iterRem p (Pyx.OSetPtr.runP ops).fresh (Pyx.OSetPtr.runP ops)
      ((Pyx.OSetPtr.runP ops).next 0)).1 = Pyx.OSetPtr.absRunP ops := by
  obtain ⟨⟨as, ha⟩, _⟩ := ptr_reachable ops
  exact (Pyx.OSetPtr.reprA_iterRem p ha).1

example : (run [.add 3, .add 1, .ior [5, 1, 7], .popFirst, .ixor [7, 2]]) = [1, 5, 2] := by decide +kernel
example : ([1, 5, 7] : T).Nodup ∧ eqIter [1, 5, 7] [1, 5, 7] = true ∧ eqIter [1, 5, 7] [5, 1, 7] = false := by decide +kernel
/-- a two-cell ring built by the pointer-level `add` meets the hypotheses of `iter_remove_current` -/
def ring2 : Pyx.OSetPtr.Store := Pyx.OSetPtr.add 8 (Pyx.OSetPtr.add 9 Pyx.OSetPtr.empty)
example : Pyx.OSetPtr.NextChain ring2 (ring2.next 0) [1, 2] ∧ Pyx.OSetPtr.PrevChain ring2 [1, 2] ∧
    ([1, 2].map ring2.key = [9, 8]) ∧ ring2.prev 1 = 0 ∧ ring2.map 9 = some 1 ∧ ring2.map 8 = some 2 := by
  simp [Pyx.OSetPtr.NextChain, Pyx.OSetPtr.PrevChain, ring2, Pyx.OSetPtr.add, Pyx.OSetPtr.empty, Pyx.OSetPtr.upd]

/-- a reachable pointer state and the list it denotes -/
example : Pyx.OSetPtr.absRunP [.add 9, .add 8, .add 9, .discard 9, .add 7, .discard 5] = [8, 7] := by decide +kernel
example : Pyx.OSetPtr.toList (Pyx.OSetPtr.runP [.add 9, .add 8, .add 9, .discard 9, .add 7, .discard 5]) = [8, 7] :=
  (ptr_reachable _).2.1

end PyxProps.C17

/-! SOURCE TIE at the pointer level

  translator/gen_osetshape.py reads `class OrderedSet` (xtuml/tools.py) with `ast` on every run: `add` and `discard`
  become statement lists over the `[key, prev, next]` cells, `__iter__` / `__reversed__` the start and step fields of
  their walk; `__init__`, `pop`, `__len__`, `__contains__`, `__repr__`, `__eq__` and the SET of methods the class
  defines are compared exactly (so every set-algebra operator still comes from collections.abc.MutableSet, whose
  mixins the list-level model composes).  Anything else raises (broken tie).  Proofs/OSetShape.lean defines ONE
  generic interpreter of the cell IR; the theorem states that the pointer-level model IS that interpretation of the
  IR generated from the current source — including the iteration that discards the visited element. -/
namespace PyxProps.C17
open Pyx.OSetPtr Pyx.OShape Pyx.Gen.OSetShape

theorem ordered_set_cells_as_in_source (k : Nat) (s : Store) (p : Nat → Bool) (f curr : Nat) :
    Pyx.OSetPtr.add k s = iGuarded addProg k s ∧
    Pyx.OSetPtr.discard k s = iGuarded discardProg k s ∧
    toList s = iToList iterShape s ∧ toListRev s = iToList reversedShape s ∧
    iterRem p f s curr = iIterRem iterShape discardProg p f s curr :=
  ⟨add_eq k s, discard_eq k s, (toList_eq s).1, (toList_eq s).2, iterRem_eq p f s curr⟩

/-! non-vacuity: the interpreter builds, edits and walks the ring from the generated statements, and iterates while
    the visited element is discarded; a discard program without its last statement (the `next_[1] = prev` write) is a
    different function: reverse iteration would still reach the removed cell -/
example : iToList iterShape (iGuarded discardProg 9 (iGuarded addProg 7 (iGuarded addProg 8 (iGuarded addProg 9 Pyx.OSetPtr.empty)))) = [8, 7] ∧
    iToList reversedShape (iGuarded addProg 7 (iGuarded addProg 8 (iGuarded addProg 9 Pyx.OSetPtr.empty))) = [7, 8, 9] := by decide +kernel
example : (iIterRem iterShape discardProg (fun k => k == 9) 4 (iGuarded addProg 8 (iGuarded addProg 9 Pyx.OSetPtr.empty)) 1).1 = [9, 8] := by decide +kernel
example : iToList reversedShape (iGuarded { discardProg with body := discardProg.body.take 2 } 8
      (iGuarded addProg 7 (iGuarded addProg 8 (iGuarded addProg 9 Pyx.OSetPtr.empty)))) = [7, 8, 9] ∧
    iToList reversedShape (iGuarded discardProg 8
      (iGuarded addProg 7 (iGuarded addProg 8 (iGuarded addProg 9 Pyx.OSetPtr.empty)))) = [7, 9] := by decide +kernel
/-- more statement structures that are other functions: a walk that starts at `end[1]` (the last cell) but steps along
    field 2 visits one element; an `add` guarded the wrong way round (`if key in self.map`) never inserts; an `add` whose
    allocation does not write `curr[2]` leaves forward iteration empty -/
example : iToList { startField := 1, stepField := 2 } (iGuarded addProg 7 (iGuarded addProg 8 (iGuarded addProg 9 Pyx.OSetPtr.empty))) = [7] ∧
    iToList iterShape (iGuarded addProg 7 (iGuarded addProg 8 (iGuarded addProg 9 Pyx.OSetPtr.empty))) = [9, 8, 7] ∧
    iToList iterShape (iGuarded { addProg with whenPresent := true } 7 Pyx.OSetPtr.empty) = [] ∧
    iToList iterShape (iGuarded { addProg with body := [ .bind .curr (.field .endV 1),
        .allocInto (.var .curr) (.var .endV) [(.field .endV 1), .mapAtKey] ] } 7 Pyx.OSetPtr.empty) = [] := by decide +kernel

/-- SOURCE TIE, reverse iteration that discards the visited element, for EVERY predicate, fuel, store and cell: the model's
    `reversedRem` is the generic generator-with-consumer loop on the `__reversed__` shape and the `discard` program generated
    from the source (the forward loop is the last conjunct of `ordered_set_cells_as_in_source`) -/
theorem ordered_set_reverse_removal_as_in_source (p : Nat → Bool) (f : Nat) (s : Store) (curr : Nat) :
    reversedRem p f s curr = iIterRem reversedShape discardProg p f s curr := reversedRem_eq p f s curr

/-- SOURCE TIE, the whole op language of the pointer-level model, for EVERY op, store and op sequence: `applyP` (add, discard,
    forward / reverse iteration discarding the visited elements of a list) and `runP` (any sequence from the empty set, i.e.
    every reachable store of `ptr_reachable`) are the generic interpretation of the two programs and two walk shapes generated
    from the source -/
theorem ordered_set_ops_as_in_source (op : POp) (s : Store) (ops : List POp) :
    applyP op s = iApplyP addProg discardProg iterShape reversedShape op s ∧
    runP ops = iRunP addProg discardProg iterShape reversedShape ops := ⟨applyP_eq op s, runP_eq ops⟩

/-- SOURCE TIE, the two ends (`next(iter(s), None)` / `QuerySet.first`, `next(reversed(s), None)` / `QuerySet.last`): the
    model's `ptrFirst` / `ptrLast` are the first key the generic walk of the generated `__iter__` / `__reversed__` shape yields.
    Hypothesis: the allocator is not 0 (the walk's fuel; it is 1 in the empty set and only grows) -/
theorem ordered_set_ends_as_in_source (s : Store) (h : 0 < s.fresh) :
    ptrFirst s = iFirst iterShape s ∧ ptrLast s = iFirst reversedShape s := ⟨ptrFirst_eq s h, ptrLast_eq s h⟩

/-- … the hypothesis holds in every represented, hence every reachable, store -/
theorem ordered_set_ends_as_in_source_reachable (ops : List POp) :
    ptrFirst (runP ops) = iFirst iterShape (runP ops) ∧ ptrLast (runP ops) = iFirst reversedShape (runP ops) := by
  obtain ⟨as, ha⟩ := (PyxProps.C17.ptr_reachable ops).1
  exact ordered_set_ends_as_in_source _ (by have := ha.len; omega)

/-- SOURCE TIE, `pop(last=True / False)`: in every represented store the list-level model's `popLast` / `popFirst` is what the
    cell-level `pop` does (`iPop`, Proofs/OSetShapeMore.lean: KeyError on the empty set, else the key is read off the sentinel's
    `prev` / `next` cell and the GENERATED `discard` program is run on it): KeyError exactly together, and otherwise the same
    key is returned and the store left behind represents the list the model returns (its forward walk IS that list) -/
theorem pop_as_in_source (s : Store) (L : List Nat) (h : Repr s L) (last : Bool) :
    let popL := if last then Pyx.OSet.popLast L else Pyx.OSet.popFirst L
    (popL = none → iPop discardProg last s = none) ∧
    (∀ k L', popL = some (k, L') →
      ∃ s', iPop discardProg last s = some (k, s') ∧ s' = iGuarded discardProg k s ∧ Repr s' L' ∧ toList s' = L') := by
  obtain ⟨h0, h1⟩ := iPop_refines s L h last
  -- either pop is the key read at its end of `L`, paired with `discard` of it: the form in which `iPop_refines` speaks
  have key : ∀ (o : Option Nat), (if last then L.getLast? else L.head?) = o →
      (if last then Pyx.OSet.popLast L else Pyx.OSet.popFirst L) = o.map (fun k => (k, Pyx.OSet.discard k L)) := by
    intro o ho
    cases last with
    | true => simp only [↓reduceIte] at ho ⊢; unfold Pyx.OSet.popLast; rw [ho]; cases o <;> rfl
    | false => simp only [Bool.false_eq_true, ↓reduceIte] at ho ⊢; unfold Pyx.OSet.popFirst; rw [ho]; cases o <;> rfl
  intro popL
  cases ho : (if last then L.getLast? else L.head?) with
  | none =>
    have hL : L = [] := by
      cases last with
      | true => simpa using ho
      | false => simpa using ho
    refine ⟨fun _ => h0 hL, fun k L' hp => ?_⟩
    have := key none ho
    simp only [popL, this, Option.map_none] at hp
    exact absurd hp (by simp)
  | some k0 =>
    have hk := key (some k0) ho
    obtain ⟨hp0, hr⟩ := h1 k0 ho
    refine ⟨fun hn => ?_, fun k L' hp => ?_⟩
    · simp only [popL, hk, Option.map_some] at hn
      exact absurd hn (by simp)
    · simp only [popL, hk, Option.map_some, Option.some.injEq, Prod.mk.injEq] at hp
      obtain ⟨rfl, rfl⟩ := hp
      obtain ⟨as, ha⟩ := hr
      exact ⟨_, hp0, discard_eq k0 s, ⟨as, ha⟩, (Pyx.OSetPtr.reprA_toList ha).1⟩

/-! non-vacuity: `pop()` / `pop(last=False)` on the set 9, 8, 7 built by the generated `add` program return 7 / 9 and leave 9, 8 /
    8, 7; on the empty set both are KeyError; a `discard` program without its second pointer write leaves the popped key
    reachable backwards; the ends of that set are 9 and 7, read by the generic walks -/
example :
    let s := iRunP addProg discardProg iterShape reversedShape [.add 9, .add 8, .add 7]
    (iPop discardProg true s).map (fun r => (r.1, iToList iterShape r.2, iToList reversedShape r.2)) = some (7, [9, 8], [8, 9]) ∧
    (iPop discardProg false s).map (fun r => (r.1, iToList iterShape r.2, iToList reversedShape r.2)) = some (9, [8, 7], [7, 8]) ∧
    (iPop discardProg true Pyx.OSetPtr.empty).isNone = true ∧ (iPop discardProg false Pyx.OSetPtr.empty).isNone = true ∧
    (iPop { discardProg with body := discardProg.body.take 2 } true s).map (fun r => (r.1, iToList reversedShape r.2)) =
      some (7, [7, 8, 9]) ∧
    iFirst iterShape s = some 9 ∧ iFirst reversedShape s = some 7 ∧ Pyx.OSet.popLast [9, 8, 7] = some (7, [9, 8]) := by decide +kernel
/-- the op language: reverse iteration removing 8 and 7, then re-adding 8; with a `__reversed__` that stepped along field 2 only the
    last element would be visited (and removed); with a `discard` guarded the wrong way round nothing is removed -/
example : iToList iterShape (iRunP addProg discardProg iterShape reversedShape [.add 9, .add 8, .add 7, .riterRm [8, 7], .add 8]) = [9, 8] ∧
    iToList iterShape (iRunP addProg discardProg iterShape reversedShape [.add 9, .add 8, .add 7, .riterRm [8, 7]]) = [9] ∧
    iToList iterShape (iRunP addProg discardProg iterShape { startField := 1, stepField := 2 } [.add 9, .add 8, .add 7, .riterRm [8, 7]]) = [9, 8] ∧
    iToList iterShape (iRunP addProg { discardProg with whenPresent := false } iterShape reversedShape [.add 9, .add 8, .riterRm [8]]) = [9, 8] := by
  decide +kernel

end PyxProps.C17

namespace PyxProps.C17
open Pyx.OSet

/-- iteration with removal of the visited elements, under `Repr`: it visits exactly `L` AND the store it leaves
    behind again satisfies `Repr`, denoting `L` without the removed elements (so histories may continue from it) -/
theorem iter_remove_keeps_repr (p : Nat → Bool) (s : Pyx.OSetPtr.Store) (L : List Nat) (h : Pyx.OSetPtr.Repr s L) :
    (Pyx.OSetPtr.iterRem p s.fresh s (s.next 0)).1 = L ∧
    Pyx.OSetPtr.Repr (Pyx.OSetPtr.iterRem p s.fresh s (s.next 0)).2 (L.filter (fun k => !p k)) := by
  obtain ⟨as, ha⟩ := h
  exact Pyx.OSetPtr.reprA_iterRem p ha

/-- the list-level meaning of `iterRm ks` (iterate, discarding the visited element when it is in `ks`) is the abstract model's
    `iterRemove`; `ptr_reachable` covers every state reachable by add / discard / iterate-with-removal sequences -/
theorem ptr_reachable_with_iteration (ops : List Pyx.OSetPtr.POp) (ks : List Nat) (l : T) :
    Pyx.OSetPtr.absP (.iterRm ks) l = (Pyx.OSet.iterRemove (fun k => decide (k ∈ ks)) l).2 ∧
    Pyx.OSetPtr.Repr (Pyx.OSetPtr.runP ops) (Pyx.OSetPtr.absRunP ops) ∧
    Pyx.OSetPtr.toList (Pyx.OSetPtr.runP ops) = Pyx.OSetPtr.absRunP ops :=
  ⟨rfl, (ptr_reachable ops).1, (ptr_reachable ops).2.1⟩

/-- the observers, read off the pointers as the code does (`self.end[2][0]`, `self.end[1][0]`, `key in self.map`,
    the length of the ring), agree with the list under `Repr`, hence in every reachable state -/
theorem ptr_observers (s : Pyx.OSetPtr.Store) (L : List Nat) (h : Pyx.OSetPtr.Repr s L) :
    Pyx.OSetPtr.ptrFirst s = L.head? ∧ Pyx.OSetPtr.ptrLast s = L.getLast? ∧
    (∀ k, Pyx.OSetPtr.ptrMem k s = true ↔ k ∈ L) ∧ Pyx.OSetPtr.len s = L.length := by
  obtain ⟨as, ha⟩ := h
  exact Pyx.OSetPtr.reprA_observers ha

theorem ptr_observers_reachable (ops : List Pyx.OSetPtr.POp) :
    Pyx.OSetPtr.ptrFirst (Pyx.OSetPtr.runP ops) = (Pyx.OSetPtr.absRunP ops).head? ∧
    Pyx.OSetPtr.ptrLast (Pyx.OSetPtr.runP ops) = (Pyx.OSetPtr.absRunP ops).getLast? ∧
    (∀ k, Pyx.OSetPtr.ptrMem k (Pyx.OSetPtr.runP ops) = true ↔ k ∈ Pyx.OSetPtr.absRunP ops) ∧
    Pyx.OSetPtr.len (Pyx.OSetPtr.runP ops) = (Pyx.OSetPtr.absRunP ops).length :=
  ptr_observers _ _ (ptr_reachable ops).1

/-- `==` without any hypothesis on the other collection: an ordered set equals an iterable exactly when it is
    the iterable's first-occurrence de-duplication (`OrderedSet([3,1,2]) == [3,1,2,3,1]` is True) -/
theorem eq_spec_unconditional (l : T) (other : List Nat) : eqIter l other = true ↔ l = dedupFirst other := by
  unfold eqIter
  rw [fromIter_eq_dedupFirst]
  simp only [Bool.and_eq_true, beq_iff_eq]
  constructor
  · rintro ⟨_, h⟩; exact h
  · intro h; subst h; exact ⟨rfl, rfl⟩

example : eqIter [3, 1, 2] [3, 1, 2, 3, 1] = true ∧ eqIter [3, 1, 2] [1, 3, 2] = false := by decide +kernel
example : Pyx.OSetPtr.absRunP [.add 9, .add 8, .add 7, .iterRm [9, 7], .add 5] = [8, 5] ∧
    Pyx.OSetPtr.ptrFirst (Pyx.OSetPtr.runP [.add 9, .add 8, .add 7, .iterRm [9, 7], .add 5]) = some 8 ∧
    Pyx.OSetPtr.ptrLast (Pyx.OSetPtr.runP [.add 9, .add 8, .add 7, .iterRm [9, 7], .add 5]) = some 5 ∧
    Pyx.OSetPtr.ptrMem 9 (Pyx.OSetPtr.runP [.add 9, .add 8, .add 7, .iterRm [9, 7], .add 5]) = false := by decide +kernel

end PyxProps.C17

namespace PyxProps.C17
open Pyx.OSet

/-- "removing the element currently being visited" for `reversed(s)`: the pointer-level generator `__reversed__`
    (`curr = end[1]; while curr is not end: yield curr[0]; curr = curr[1]`, the step read after the consumer ran), whose
    consumer discards the visited element whenever `p` holds, visits exactly the elements of the set once each in REVERSE
    order, and the store it leaves again satisfies `Repr`, denoting the list without the removed elements -/
theorem reverse_iter_remove_keeps_repr (p : Nat → Bool) (s : Pyx.OSetPtr.Store) (L : List Nat) (h : Pyx.OSetPtr.Repr s L) :
    (Pyx.OSetPtr.reversedRem p s.fresh s (s.prev 0)).1 = L.reverse ∧
    Pyx.OSetPtr.Repr (Pyx.OSetPtr.reversedRem p s.fresh s (s.prev 0)).2 (L.filter (fun k => !p k)) := by
  obtain ⟨as, ha⟩ := h
  exact Pyx.OSetPtr.reprA_reversedRem p ha

/-- … hence in EVERY state reachable by add / discard / iterate-with-removal (forward or backward) sequences; and the
    backward walk is, statement by statement, the generic walk of the `__reversed__` shape read from the source with the
    `discard` program read from the source -/
theorem reverse_iter_remove_current_reachable (p : Nat → Bool) (ops : List Pyx.OSetPtr.POp) (f curr : Nat)
    (s : Pyx.OSetPtr.Store) :
    (Pyx.OSetPtr.reversedRem p (Pyx.OSetPtr.runP ops).fresh (Pyx.OSetPtr.runP ops)
      ((Pyx.OSetPtr.runP ops).prev 0)).1 = (Pyx.OSetPtr.absRunP ops).reverse ∧
    Pyx.OSetPtr.reversedRem p f s curr = Pyx.OShape.iIterRem Pyx.Gen.OSetShape.reversedShape Pyx.Gen.OSetShape.discardProg p f s curr :=
  ⟨(reverse_iter_remove_keeps_repr p _ _ (ptr_reachable ops).1).1, Pyx.OShape.reversedRem_eq p f s curr⟩

/-- applied: the ring 9, 8, 7 walked backwards while 7 and 9 are discarded visits 7, 8, 9 and leaves [8]; sequences mixing
    both directions stay represented -/
example : (Pyx.OSetPtr.reversedRem (fun k => k == 7 || k == 9) 4 (Pyx.OSetPtr.runP [.add 9, .add 8, .add 7])
      ((Pyx.OSetPtr.runP [.add 9, .add 8, .add 7]).prev 0)).1 = [7, 8, 9] ∧
    Pyx.OSetPtr.toList (Pyx.OSetPtr.runP [.add 9, .add 8, .add 7, .riterRm [7, 9], .add 5]) = [8, 5] ∧
    Pyx.OSetPtr.toListRev (Pyx.OSetPtr.runP [.add 9, .add 8, .add 7, .riterRm [7, 9], .add 5, .iterRm [8]]) = [5] ∧
    Pyx.OSetPtr.absRunP [.add 9, .add 8, .add 7, .riterRm [7, 9], .add 5, .iterRm [8]] = [5] := by decide +kernel

end PyxProps.C17

/-! `iter_remove_keeps_repr` and its backward twin on the state reached by three
    adds — `Repr` comes from `ptr_reachable`, the predicate removes 9 and 7 -/
namespace PyxProps.C17
example : (Pyx.OSetPtr.iterRem (fun k => k == 9 || k == 7) (Pyx.OSetPtr.runP [.add 9, .add 8, .add 7]).fresh
      (Pyx.OSetPtr.runP [.add 9, .add 8, .add 7]) ((Pyx.OSetPtr.runP [.add 9, .add 8, .add 7]).next 0)).1 =
      Pyx.OSetPtr.absRunP [.add 9, .add 8, .add 7] ∧
    Pyx.OSetPtr.Repr (Pyx.OSetPtr.iterRem (fun k => k == 9 || k == 7) (Pyx.OSetPtr.runP [.add 9, .add 8, .add 7]).fresh
      (Pyx.OSetPtr.runP [.add 9, .add 8, .add 7]) ((Pyx.OSetPtr.runP [.add 9, .add 8, .add 7]).next 0)).2
      ((Pyx.OSetPtr.absRunP [.add 9, .add 8, .add 7]).filter (fun k => !(k == 9 || k == 7))) ∧
    (Pyx.OSetPtr.absRunP [.add 9, .add 8, .add 7]).filter (fun k => !(k == 9 || k == 7)) = [8] :=
  ⟨(iter_remove_keeps_repr _ _ _ (ptr_reachable [.add 9, .add 8, .add 7]).1).1,
   (iter_remove_keeps_repr _ _ _ (ptr_reachable [.add 9, .add 8, .add 7]).1).2, by decide +kernel⟩
example : (Pyx.OSetPtr.reversedRem (fun k => k == 8) (Pyx.OSetPtr.runP [.add 9, .add 8, .add 7]).fresh
      (Pyx.OSetPtr.runP [.add 9, .add 8, .add 7]) ((Pyx.OSetPtr.runP [.add 9, .add 8, .add 7]).prev 0)).1 =
      (Pyx.OSetPtr.absRunP [.add 9, .add 8, .add 7]).reverse :=
  (reverse_iter_remove_keeps_repr _ _ _ (ptr_reachable [.add 9, .add 8, .add 7]).1).1
end PyxProps.C17

/-! ### "replace the visited element": a loop body that discards the visited element and adds a fresh one -/
namespace PyxProps.C17
open Pyx.OSetPtr

/-! Source tie of this section: the loop BODIES are `discard` and `add`, whose statements are read from the source
    (`ordered_set_cells_as_in_source`), and the walks are the `__iter__` / `__reversed__` generators of the same tie.  The LOOPS
    `iterReplace` / `reversedReplace` are the HARNESS's loops - a consumer interleaved with the library's generator - written
    in the model by hand; they are not part of the generated IR and are tied to the implementation by the correspondence runs
    only.  (`iterRem` is in `ordered_set_cells_as_in_source`, `reversedRem` in `ordered_set_reverse_removal_as_in_source`.) -/

/-- FORWARD (`for x in s: if p x and fewer than limit replaced: s.discard(x); s.add(fresh + i)`), at pointer level: the
    generator holds the visited cell and reads its `next` after the body ran; the body unlinks that cell and links a fresh cell
    before the sentinel.  In every represented state, for EVERY predicate that is false on the fresh elements (the harness's
    `x in args and x < 1000`), when the fresh elements are not in the set and the fuel is `> 2·|L|`:
    * the visit list is `L` — every original element exactly once, in order — followed by fresh elements: ALL the fresh ones
      (they were linked behind the iterator), or NONE when the walk ended right after its first replacement (`lostFresh`: the
      first replaced element was the last one of the set — its stale `next` is the sentinel);
    * restricted to the elements present at the start the visit list is exactly `L`;
    * the store left behind is represented again and denotes the kept elements (old order) followed by the fresh ones. -/
theorem iter_replace_current (p : Nat → Bool) (fresh limit : Nat) (hp : ∀ j, p (fresh + j) = false)
    (s : Store) (L : List Nat) (h : Repr s L) (hfresh : ∀ j, fresh + j ∉ L) (f : Nat) (hf : 2 * L.length < f) :
    (iterReplace p fresh limit f s (s.next 0) 0).1 =
      L ++ (if lostFresh p limit L 0 = true then [] else freshFrom fresh 0 (replacedCount p limit L 0)) ∧
    Repr (iterReplace p fresh limit f s (s.next 0) 0).2 (keptBy p limit L 0 ++ freshFrom fresh 0 (replacedCount p limit L 0)) ∧
    (iterReplace p fresh limit f s (s.next 0) 0).1.filter (fun x => decide (x ∈ L)) = L := by
  obtain ⟨as, ha⟩ := h
  exact reprA_iterReplace p fresh limit hp ha hfresh f hf

/-- BACKWARD (`for x in reversed(s): …` with the same body): for ANY predicate, the visit list is exactly `L.reverse` — the
    fresh cells are linked behind the iterator and never reached — and the store left behind is represented again: the kept
    elements in their old order, then the fresh ones -/
theorem reversed_replace_current (p : Nat → Bool) (fresh limit : Nat)
    (s : Store) (L : List Nat) (h : Repr s L) (hfresh : ∀ j, fresh + j ∉ L) (f : Nat) (hf : L.length < f) :
    (reversedReplace p fresh limit f s (s.prev 0) 0).1 = L.reverse ∧
    Repr (reversedReplace p fresh limit f s (s.prev 0) 0).2
      ((keptBy p limit L.reverse 0).reverse ++ freshFrom fresh 0 (replacedCount p limit L.reverse 0)) := by
  obtain ⟨as, ha⟩ := h
  exact reprA_reversedReplace p fresh limit ha hfresh f hf

/-- the FORWARD pointer-level loop IS the list-level loop `absIterReplace` of PyxModel/OSetPtr.lean, step by step and for every
    fuel and predicate: from a represented ring `pre ++ suf` with the iterator about to visit the first cell of `suf`
    (the backward loop: `reversed_replace_loop_refines` below) -/
theorem replace_loops_refine (p : Nat → Bool) (fresh limit f : Nat) (s : Store) (pre suf L : List Nat) (added : Nat)
    (h : ReprA s (pre ++ suf) L) (hfresh : ∀ j, added ≤ j → fresh + j ∉ L) :
    (iterReplace p fresh limit f s ((suf ++ [0]).head?.getD 0) added).1 =
        (absIterReplace p fresh limit f (pre.map s.key) (suf.map s.key) added).1 ∧
    Repr (iterReplace p fresh limit f s ((suf ++ [0]).head?.getD 0) added).2
        (absIterReplace p fresh limit f (pre.map s.key) (suf.map s.key) added).2 :=
  iterReplace_refines p fresh limit f s pre suf L added h hfresh

/-- the BACKWARD pointer-level loop IS the list-level loop `absReversedReplace`: from a represented ring
    `preRev.reverse ++ tail` with the iterator about to visit the last cell of `preRev.reverse`, for every predicate and every
    fuel larger than the number of cells still ahead -/
theorem reversed_replace_loop_refines (p : Nat → Bool) (fresh limit f : Nat) (s : Store) (preRev tail L : List Nat) (added : Nat)
    (h : ReprA s (preRev.reverse ++ tail) L) (hfresh : ∀ j, added ≤ j → fresh + j ∉ L) (hf : preRev.length < f) :
    (reversedReplace p fresh limit f s ((0 :: preRev.reverse).getLast?.getD 0) added).1 =
        (absReversedReplace p fresh limit (preRev.map s.key) (tail.map s.key) added).1 ∧
    Repr (reversedReplace p fresh limit f s ((0 :: preRev.reverse).getLast?.getD 0) added).2
        (absReversedReplace p fresh limit (preRev.map s.key) (tail.map s.key) added).2 :=
  reversedReplace_refines p fresh limit preRev f s tail L added h hfresh hf

/-- the fuel the DRIVER gives the two loops (`2 * s.fresh + 1` forward, `s.fresh` backward, Driver/C17.lean) satisfies the fuel
    hypotheses of the two theorems in every represented state: the cells of the ring have distinct addresses below the
    allocator, so `|L| < s.fresh`.  Hence the driver's runs are the runs the theorems speak about. -/
theorem replace_loops_driver_fuel (p : Nat → Bool) (fresh limit : Nat) (hp : ∀ j, p (fresh + j) = false)
    (s : Store) (L : List Nat) (h : Repr s L) (hfresh : ∀ j, fresh + j ∉ L) :
    L.length < s.fresh ∧
    (iterReplace p fresh limit (2 * s.fresh + 1) s (s.next 0) 0).1.filter (fun x => decide (x ∈ L)) = L ∧
    Repr (iterReplace p fresh limit (2 * s.fresh + 1) s (s.next 0) 0).2
      (keptBy p limit L 0 ++ freshFrom fresh 0 (replacedCount p limit L 0)) ∧
    (reversedReplace p fresh limit s.fresh s (s.prev 0) 0).1 = L.reverse ∧
    Repr (reversedReplace p fresh limit s.fresh s (s.prev 0) 0).2
      ((keptBy p limit L.reverse 0).reverse ++ freshFrom fresh 0 (replacedCount p limit L.reverse 0)) := by
  have hlen : L.length < s.fresh := by
    obtain ⟨as, ha⟩ := h
    rw [← ha.keys, List.length_map]
    exact ha.len
  have hf := iter_replace_current p fresh limit hp s L h hfresh (2 * s.fresh + 1) (by omega)
  have hb := reversed_replace_current p fresh limit s L h hfresh s.fresh hlen
  exact ⟨hlen, hf.2.2, hf.2.1, hb.1, hb.2⟩

/-! applied: the ring 9, 8, 7 (built by three pointer-level adds, `Repr` from `ptr_reachable`), fresh elements 1000, 1001, …,
    at most 4 replacements.  Replacing 9 and 7: the walk visits 9 8 7 and then BOTH fresh elements; replacing only the last
    element 7: its fresh replacement is not visited; backwards no fresh element is visited. -/
def ring987 : Store := runP [.add 9, .add 8, .add 7]
private theorem ring987_repr : Repr ring987 [9, 8, 7] := (ptr_reachable [.add 9, .add 8, .add 7]).1
example : (iterReplace (fun k => k == 9 || k == 7) 1000 4 7 ring987 (ring987.next 0) 0).1 =
      [9, 8, 7] ++ (if lostFresh (fun k => k == 9 || k == 7) 4 [9, 8, 7] 0 = true then []
                    else freshFrom 1000 0 (replacedCount (fun k => k == 9 || k == 7) 4 [9, 8, 7] 0)) ∧
    (iterReplace (fun k => k == 9 || k == 7) 1000 4 7 ring987 (ring987.next 0) 0).1.filter (fun x => decide (x ∈ [9, 8, 7])) = [9, 8, 7] :=
  let h := iter_replace_current (fun k => k == 9 || k == 7) 1000 4 (by intro j; simp; omega) ring987 [9, 8, 7] ring987_repr
    (by intro j; simp; omega) 7 (by decide +kernel)
  ⟨h.1, h.2.2⟩
example : (iterReplace (fun k => k == 9 || k == 7) 1000 4 7 ring987 (ring987.next 0) 0).1 = [9, 8, 7, 1000, 1001] ∧
    toList (iterReplace (fun k => k == 9 || k == 7) 1000 4 7 ring987 (ring987.next 0) 0).2 = [8, 1000, 1001] ∧
    (iterReplace (fun k => k == 7) 1000 4 7 ring987 (ring987.next 0) 0).1 = [9, 8, 7] ∧
    toList (iterReplace (fun k => k == 7) 1000 4 7 ring987 (ring987.next 0) 0).2 = [9, 8, 1000] ∧
    lostFresh (fun k => k == 7) 4 [9, 8, 7] 0 = true ∧
    (reversedReplace (fun k => k == 9 || k == 7) 1000 4 4 ring987 (ring987.prev 0) 0).1 = [7, 8, 9] ∧
    toList (reversedReplace (fun k => k == 9 || k == 7) 1000 4 4 ring987 (ring987.prev 0) 0).2 = [8, 1000, 1001] ∧
    toListRev (reversedReplace (fun k => k == 9 || k == 7) 1000 1 4 ring987 (ring987.prev 0) 0).2 = [1000, 8, 9] := by decide +kernel
example : (reversedReplace (fun k => k == 9 || k == 7) 1000 4 4 ring987 (ring987.prev 0) 0).1 = [9, 8, 7].reverse :=
  (reversed_replace_current (fun k => k == 9 || k == 7) 1000 4 ring987 [9, 8, 7] ring987_repr (by intro j; simp; omega) 4
    (by decide +kernel)).1

end PyxProps.C17
