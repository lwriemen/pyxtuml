import Proofs.XsdScript
import Proofs.XsdText
import Proofs.XsdRel
import Proofs.ExtractPkgRef
import Proofs.XsdClosed

/-!
  C20 — XSD generation mirrors the component's classes and data types.

  Model: PyxModel/Extract/Xsd.lean — `xsd d comp = render (xsdSpec d comp)`: the XML tree
  `gen_xsd_schema.build_schema(m, c_c)` must return for the class diagram `d` (PyxModel/Extract/
  Diagram.lean) and the component with Id `comp`.  `XmlTree = node tag attributes children`;
  `classNodes`, `attributeNodes`, `simpleTypeNodes`, `enumerationValues`, `XmlTree.attr` (and
  `restrictionBases` of Proofs/XsdComplete.lean) read a tree the way an XML consumer would.
-/

namespace PyxProps.C20
open Pyx.Extract

/-! ### xsd_complete: nothing missing, nothing extra -/

/-- the declared class elements are exactly the classes contained in the component (list equality,
    modeled order), named by their key letters -/
theorem xsd_complete (d : ClassDiagram) (comp : Nat) :
    (classNodes (xsd d comp)).map (·.attr "name") =
      (d.classes.filter (fun c => containedIn d.containers d.pkgrefs comp c.parent)).map (fun c => some c.kl) := by
  unfold xsd
  rw [classNodes_render]
  show (((d.classes.filter (fun c => containedIn d.containers d.pkgrefs comp c.parent)).map (xclassAll d)).map renderClass).map _ = _
  simp only [List.map_map]
  apply List.map_congr_left
  intro c _
  simp only [Function.comp, renderClass_name]
  rfl

/-- per class, the declared attributes (name, type) are exactly `xattr` of ALL its attributes related across R102:
    those off the R103 chain (`looseOf`, R103 is conditional) and those on it, the latter in modeled order -/
theorem xsd_complete_attributes (d : ClassDiagram) (comp : Nat) :
    (classNodes (xsd d comp)).map (fun n => (attributeNodes n).map (fun a => (a.attr "name", a.attr "type"))) =
      (d.classes.filter (fun c => containedIn d.containers d.pkgrefs comp c.parent)).map
        (fun c => ((looseOf d c.id ++ c.attrs).filterMap (xattr d)).map (fun a => (some a.name, some a.ty))) := by
  unfold xsd
  rw [classNodes_render]
  show (((d.classes.filter (fun c => containedIn d.containers d.pkgrefs comp c.parent)).map (xclassAll d)).map renderClass).map _ = _
  simp only [List.map_map]
  apply List.map_congr_left
  intro c _
  simp only [Function.comp, attributeNodes_renderClass, List.map_map, xclassAll, xclassOf, List.filterMap_append]
  apply List.map_congr_left
  intro a _
  simp only [Function.comp, renderAttr_name, renderAttr_type]

/-- … where an attribute is declared iff it is not derived and its (for a referential attribute: the
    referred base attribute's) data type, after following user types, is a core type 1..5 or an
    enumeration; it is named as modeled and typed by that data type's name -/
theorem xsd_attribute_rule (d : ClassDiagram) (a : Attr) (x : XAttr) :
    xattr d a = some x ↔
      a.isDerived = false ∧ x.name = a.name ∧ ∃ dt, attrDt d a = some dt ∧ baseTypeName d.dts dt = some x.ty :=
  xattr_eq_some

/-- the declared simple types (name, restriction base, enumerators in order) are exactly `xtypeOf` of the
    global data types followed by the data types contained in the component that are not global (a data type of a global
    package referred to from the component is both: first loop only) -/
theorem xsd_complete_types (d : ClassDiagram) (comp : Nat) :
    (simpleTypeNodes (xsd d comp)).map (fun n => (n.attr "name", restrictionBases n, enumerationValues n)) =
      ((d.dts.filter (fun t => isGlobal d.containers t.parent)) ++
        (d.dts.filter (fun t => containedIn d.containers d.pkgrefs comp t.parent && !isGlobal d.containers t.parent))).filterMap
        (fun t => (xtypeOf d.dts t).map (fun x => (some x.name, [some x.base], x.values.map some))) := by
  unfold xsd
  rw [simpleTypeNodes_render]
  show ((((d.dts.filter (fun t => isGlobal d.containers t.parent)).filterMap (xtypeOf d.dts)) ++
    ((d.dts.filter (fun t => containedIn d.containers d.pkgrefs comp t.parent && !isGlobal d.containers t.parent)).filterMap (xtypeOf d.dts))).map renderType).map _ = _
  rw [← List.filterMap_append, List.map_map, List.map_filterMap]
  apply filterMap_congr'
  intro t _
  cases xtypeOf d.dts t with
  | none => rfl
  | some x => simp only [Option.map_some, Function.comp, renderType_name, renderType_bases, renderType_values]

/-- EXACTLY ONE element per class of the component: where key letters identify the classes (`WF.kls`; `define_class` rejects a
    second class with the same key letters), a class of the diagram is named by exactly one class element of the schema if it
    is contained in the component and by none otherwise; and there are no further class elements (their number is the number
    of contained classes — this part needs no hypothesis) -/
theorem xsd_one_element_per_class (d : ClassDiagram) (comp : Nat) :
    (classNodes (xsd d comp)).length =
      (d.classes.filter (fun c => containedIn d.containers d.pkgrefs comp c.parent)).length ∧
    ((d.classes.map (·.kl)).Nodup → ∀ c ∈ d.classes,
      ((classNodes (xsd d comp)).map (·.attr "name")).count (some c.kl) =
        if containedIn d.containers d.pkgrefs comp c.parent = true then 1 else 0) := by
  constructor
  · have h := congrArg List.length (xsd_complete d comp)
    simpa only [List.length_map] using h
  · intro hkl c hc
    rw [xsd_complete]
    exact Pyx.XShape.count_names_filter (fun c => c.kl) _ d.classes hkl c hc

/-- ONE xs:attribute per attribute of a supported type: the number of attribute declarations of each class element is the
    number of its attributes across R102 (off the R103 chain and on it) for which `xattr` yields a declaration
    (`xsd_attribute_rule`: not derived, base type with a name) -/
theorem xsd_one_attribute_per_supported (d : ClassDiagram) (comp : Nat) :
    (classNodes (xsd d comp)).map (fun n => (attributeNodes n).length) =
      (d.classes.filter (fun c => containedIn d.containers d.pkgrefs comp c.parent)).map
        (fun c => (looseOf d c.id ++ c.attrs).countP (fun a => (xattr d a).isSome)) := by
  have h := congrArg (List.map List.length) (xsd_complete_attributes d comp)
  simp only [List.map_map] at h
  rw [show (fun n => (attributeNodes n).length) = (List.length ∘ fun n => (attributeNodes n).map (fun a => (a.attr "name", a.attr "type"))) from by
    funext n; simp only [Function.comp, List.length_map]]
  rw [h]
  apply List.map_congr_left
  intro c _
  simp only [Function.comp, List.length_map, List.length_filterMap_eq_countP]

/-- a REFERENTIAL attribute is typed as the attribute it refers to: when R113 leads to the base attribute `ba`, the declaration
    of `a` is `a`'s own name with the base type name of `ba`'s data type (never omitted for being derived: a referential
    attribute has no O_DBATTR row) — in particular the same `type=` as `ba`'s own declaration when `ba` is not derived (a
    derived `ba` is omitted itself, the attribute referring to it is still declared: Python tests O_DBATTR of `o_attr` only) -/
theorem xsd_referential_typed_as_referred (d : ClassDiagram) (a ba : Attr) (c b : Nat) (hk : a.kind = .ref c b)
    (hl : (findClass d c).bind (fun k => k.findAttr b) = some ba) (hb : ∀ c' b', ba.kind ≠ .ref c' b') :
    xattr d a = ((attrDt d ba).bind (baseTypeName d.dts)).map (fun n => { name := a.name, ty := n }) ∧
    (ba.isDerived = false → (xattr d a).map (·.ty) = (xattr d ba).map (·.ty)) := by
  have hd : attrDt d a = attrDt d ba := by
    unfold attrDt
    simp only [hk, hl]
    cases hbk : ba.kind with
    | ref c' b' => exact absurd hbk (hb c' b')
    | base dt => rfl
    | derived dt => rfl
  have hnd : a.isDerived = false := by simp [Attr.isDerived, hk]
  constructor
  · simp [xattr, hnd, hd]
  · intro h
    simp only [xattr, hnd, h, hd, Bool.false_eq_true, ↓reduceIte]
    cases (attrDt d ba).bind (baseTypeName d.dts) <;> rfl

/-- … and the other ending: a referential attribute whose R113 leads nowhere (no such class / attribute) or to another
    referential attribute (which has no O_BATTR row: `get_refered_attribute` returns the attribute itself, whose own type is
    same_as<Base_Attribute>) is OMITTED -/
theorem xsd_referential_dangling_omitted (d : ClassDiagram) (a : Attr) (c b : Nat) (hk : a.kind = .ref c b)
    (h : ∀ ba, (findClass d c).bind (fun k => k.findAttr b) = some ba → ∃ c' b', ba.kind = .ref c' b') : xattr d a = none := by
  have hd : attrDt d a = none := by
    unfold attrDt
    simp only [hk]
    cases hl : (findClass d c).bind (fun k => k.findAttr b) with
    | none => rfl
    | some ba =>
      obtain ⟨c', b', hb⟩ := h ba hl
      simp only [hb]
  simp [xattr, hd]

/-- which data types are declared: a core type iff its NAME is boolean / integer / real / string /
    unique_id (void and the other core types are omitted); every enumeration, with its enumerators in
    modeled (R56) order; a user type iff its base is a core type 1..5, an enumeration or a user type, as a
    restriction of that base; nothing else -/
theorem xsd_type_rule (dts : List DataType) (t : DataType) :
    (∀ n, t.kind = .core n → xtypeOf dts t = (coreXs t.name).map (fun b => .restriction t.name b)) ∧
    (∀ es, t.kind = .enum es → xtypeOf dts t = some (.enumeration t.name es)) ∧
    (∀ b, t.kind = .user b → xtypeOf dts t = (typeNameOf dts b).map (fun bn => .restriction t.name bn)) ∧
    (t.kind = .other → xtypeOf dts t = none) := by
  unfold xtypeOf
  refine ⟨?_, ?_, ?_, ?_⟩
  · intro n h; simp only [h]
  · intro es h; simp only [h]
  · intro b h; simp only [h]
  · intro h; simp only [h]

/-- the core-type table of `build_core_type` -/
theorem xsd_core_table :
    coreXs "boolean" = some "xs:boolean" ∧ coreXs "integer" = some "xs:integer" ∧ coreXs "real" = some "xs:decimal" ∧
    coreXs "string" = some "xs:string" ∧ coreXs "unique_id" = some "xs:integer" ∧ coreXs "void" = none ∧
    coreXs "state<State_Model>" = none ∧ coreXs "inst_ref<Object>" = none := by
  decide +kernel

/-- `coreXs` IS the if/elif chain of the source (`Gen.XsdCore`, regenerated from gen_xsd_schema.py on every run):
    every listed name maps to its listed base, every other name to none; and the two truthiness tests and the
    range of supported core types the model assumes are the ones the source has -/
theorem xsd_core_table_generated :
    (∀ p ∈ Gen.XsdCore.table, coreXs p.1 = p.2) ∧
    (∀ n, (∀ p ∈ Gen.XsdCore.table, p.1 ≠ n) → coreXs n = none) ∧
    Gen.XsdCore.elseIsNone = true ∧ Gen.XsdCore.attrNeedsTruthyTypeName = true ∧
    Gen.XsdCore.userNeedsTruthyBaseName = true ∧ Gen.XsdCore.coreLo = 1 ∧ Gen.XsdCore.coreHi = 5 :=
  ⟨by decide +kernel, fun _ h => Pyx.XShape.coreXs_none h, rfl, rfl, rfl, rfl, rfl⟩

/-! ### the same against a relational specification

  `Reaches cs rf comp p` — the containment chain PE_PE -> EP_PKG | C_C -> … of `p`, continued from a package over every
  EP_PKGREF row `rf` that refers to it at the PE_PE of the referring package, reaches the component;
  `InComp cs p` — some C_C row lies on the OWN containment chain (so `¬ InComp` = global: `is_global` follows no reference); `BaseName dts dt n` — following user types
  over R18 from `dt` ends at a core type 1..5 or an enumeration with the NON-EMPTY name `n`.  Under `XWF` (acyclic
  containment + reference graph and user-type chains; there Python terminates and the fuel of the model is never exhausted) the functions
  of the model decide exactly these relations. -/

/-- what the scope functions and the type walk of the model mean; an element inside the component has a component on its
    own chain when no reference is used (4th clause: then it is not global) — with references it may be global as well
    (5th clause: only if some EP_PKGREF row with both packages existing is there) -/
theorem xsd_spec_meaning {d : ClassDiagram} (xwf : XWF d) (comp : Nat) :
    (∀ p, containedIn d.containers d.pkgrefs comp p = true ↔ Reaches d.containers d.pkgrefs comp p) ∧
    (∀ p, isGlobal d.containers p = true ↔ ¬ InComp d.containers p) ∧
    (∀ dt n, baseTypeName d.dts dt = some n ↔ BaseName d.dts dt n) ∧
    (∀ p, Reaches d.containers [] comp p → InComp d.containers p) ∧
    (∀ p, Reaches d.containers d.pkgrefs comp p → InComp d.containers p ∨
      ∃ r ∈ d.pkgrefs, (findContainer d.containers false r.referring).isSome ∧ (findContainer d.containers false r.referred).isSome) :=
  ⟨fun p => contained_iff xwf.tree comp p, fun p => global_iff xwf.tree p, fun dt n => baseTypeName_iff xwf.chain dt n,
   fun _ h => global_contained_disjoint h, fun _ h => reaches_inComp_or_ref h⟩

/-- class elements: exactly the classes whose containment chain (continued over package references) reaches the component -/
theorem xsd_complete_rel {d : ClassDiagram} (xwf : XWF d) (comp : Nat) (xc : XClass) :
    xc ∈ (xsdSpec d comp).classes ↔ ∃ c ∈ d.classes, Reaches d.containers d.pkgrefs comp c.parent ∧ xc = xclassAll d c :=
  xsd_classes_rel xwf.tree comp xc

/-- attributes: declared iff not derived and the data type of the attribute (for a referential one: of the base
    attribute it refers to over R113) has a base name; an attribute whose base data type has the EMPTY name is not
    declared (Python: `if type_name and …`) -/
theorem xsd_attribute_rule_rel {d : ClassDiagram} (xwf : XWF d) (a : Attr) (x : XAttr) :
    xattr d a = some x ↔
      a.isDerived = false ∧ x.name = a.name ∧ ∃ dt, attrDt d a = some dt ∧ BaseName d.dts dt x.ty :=
  xattr_rel xwf.chain a x

/-- simple types: the declarable data types that are global (no component on their chain) or whose chain (continued over
    package references) reaches the component; a user type is declarable iff its base is a core type 1..5, an enumeration or a user type with a
    NON-EMPTY name (`if base_name:`) -/
theorem xsd_types_rule_rel {d : ClassDiagram} (xwf : XWF d) (comp : Nat) :
    (∀ x, x ∈ (xsdSpec d comp).types ↔
      ∃ t ∈ d.dts, (¬ InComp d.containers t.parent ∨ Reaches d.containers d.pkgrefs comp t.parent) ∧ xtypeOf d.dts t = some x) ∧
    (∀ b n, typeNameOf d.dts b = some n ↔
      ∃ t, findDt d.dts b = some t ∧ t.name = n ∧ n ≠ "" ∧
        ((∃ k, t.kind = .core k ∧ 1 ≤ k ∧ k ≤ 5) ∨ (∃ es, t.kind = .enum es) ∨ (∃ b', t.kind = .user b'))) :=
  ⟨fun x => xsd_types_rel xwf.tree comp x, fun b n => typeNameOf_rel d.dts b n⟩

/-- for every edit (rename / retype / add attribute, add / permute enumerators, add user type, move a class
    between containers) applicable to a well-formed diagram, the declarations of the edited diagram are the
    predicted edit of the declarations before -/
theorem xsd_edit_commutes {d : ClassDiagram} (xwf : XWF d) (e : XEdit) (ok : XEditOk d e) (comp : Nat) :
    xsdSpec (applyXEdit e d) comp = specEdit (xresolve d comp e) (xsdSpec d comp) :=
  xedit_commutes_all xwf e ok comp

/-- … hence so is the XML tree -/
theorem xsd_edit_commutes_tree {d : ClassDiagram} (xwf : XWF d) (e : XEdit) (ok : XEditOk d e) (comp : Nat) :
    xsd (applyXEdit e d) comp = render (specEdit (xresolve d comp e) (xsdSpec d comp)) := by
  unfold xsd; rw [xedit_commutes_all xwf e ok comp]

theorem xsd_edit_keeps_wellformed {d : ClassDiagram} (xwf : XWF d) (e : XEdit) (ok : XEditOk d e) :
    XWF (applyXEdit e d) :=
  applyXEdit_xwf xwf e ok

/-- edit scripts of any length -/
theorem xsd_edit_script_commutes {d : ClassDiagram} (xwf : XWF d) (es : List XEdit) (ok : XScriptOk d es) (comp : Nat) :
    xsd (applyXEdits es d) comp = render (specEdits (xresolveAll d comp es) (xsdSpec d comp)) := by
  unfold xsd; rw [xscript_commutes xwf es ok comp]

/-- frame: each declaration edit touches only its part (types / classes / the named class) -/
theorem xsd_edit_frame (s : XsdSpec) :
    (∀ kl old new, (specEdit (.renameAttr kl old new) s).types = s.types ∧
      (specEdit (.renameAttr kl old new) s).classes.map (fun c => (c.kl, c.attrs.map (·.ty))) =
        s.classes.map (fun c => (c.kl, c.attrs.map (·.ty)))) ∧
    (∀ sites ty, (specEdit (.retype sites ty) s).types = s.types ∧
      (specEdit (.retype sites ty) s).classes.map (fun c => (c.kl, c.attrs.map (·.name))) =
        s.classes.map (fun c => (c.kl, c.attrs.map (·.name)))) ∧
    (∀ kl x, (specEdit (.appendAttr kl x) s).types = s.types ∧
      (∀ c ∈ s.classes, c.kl ≠ kl → c ∈ (specEdit (.appendAttr kl x) s).classes)) ∧
    (∀ name vs, (specEdit (.setEnum name vs) s).classes = s.classes ∧
      (specEdit (.setEnum name vs) s).types.map (·.name) = s.types.map (·.name)) ∧
    (∀ pos x, (specEdit (.insertType pos x) s).classes = s.classes ∧
      (specEdit (.insertType pos x) s).types.Perm (x :: s.types)) ∧
    (∀ kl, (specEdit (.dropClass kl) s).types = s.types ∧
      (specEdit (.dropClass kl) s).classes = s.classes.filter (fun c => c.kl != kl)) ∧
    (∀ pos c, (specEdit (.insertClass pos c) s).types = s.types ∧
      (specEdit (.insertClass pos c) s).classes.Perm (c :: s.classes)) := by
  refine ⟨?_, ?_, ?_, ?_, ?_, fun _ => ⟨rfl, rfl⟩, fun pos c => ⟨rfl, insertAt_perm pos c s.classes⟩⟩
  · exact fun kl old new => ⟨rfl, map_map_key (fun c => by split <;> simp [List.map_map, Function.comp]) _⟩
  · exact fun sites ty => ⟨rfl, map_map_key (fun c => congrArg (Prod.mk c.kl) (map_map_key (fun a => by split <;> rfl) _)) _⟩
  · exact fun kl x => ⟨rfl, fun c hc hne => mem_map_of_fix hc (by simp [hne])⟩
  · refine fun name vs => ⟨rfl, map_map_key (fun x => ?_) _⟩
    cases x with
    | restriction n b => rfl
    | enumeration n es => simp only [XType.setEnum]; split <;> rfl
  · exact fun pos x => ⟨rfl, insertAt_perm pos x s.types⟩

/-- frame, continued: what each declaration edit leaves UNCHANGED.  rename: the component name, every class with
    other key letters, and in the named class the attribute types and their order; retype: the component name,
    attribute names and order of every class, and the type of every attribute outside the listed sites; append
    attribute: the existing attributes of the class stay, in place, before the new one; set enumerators: the component
    name and every restriction and every enumeration with another name -/
theorem xsd_edit_frame_unchanged (s : XsdSpec) :
    (∀ kl old new, (specEdit (.renameAttr kl old new) s).comp = s.comp ∧
      (∀ c ∈ s.classes, c.kl ≠ kl → c ∈ (specEdit (.renameAttr kl old new) s).classes)) ∧
    (∀ sites ty, (specEdit (.retype sites ty) s).comp = s.comp ∧
      ∀ c ∈ (specEdit (.retype sites ty) s).classes, ∀ a ∈ c.attrs, (c.kl, a.name) ∉ sites →
        ∃ c' ∈ s.classes, c'.kl = c.kl ∧ a ∈ c'.attrs) ∧
    (∀ kl x, (specEdit (.appendAttr kl x) s).comp = s.comp ∧
      (specEdit (.appendAttr kl x) s).classes.map (·.kl) = s.classes.map (·.kl) ∧
      ∀ c ∈ s.classes, c.kl = kl → { c with attrs := c.attrs ++ [x] } ∈ (specEdit (.appendAttr kl x) s).classes) ∧
    (∀ name vs, (specEdit (.setEnum name vs) s).comp = s.comp ∧
      (∀ n b, XType.restriction n b ∈ s.types → XType.restriction n b ∈ (specEdit (.setEnum name vs) s).types) ∧
      (∀ n es, n ≠ name → XType.enumeration n es ∈ s.types →
        XType.enumeration n es ∈ (specEdit (.setEnum name vs) s).types)) := by
  refine ⟨fun kl old new => ⟨rfl, fun c hc hne => mem_map_of_fix hc (by simp [hne])⟩, ?_, ?_, ?_⟩
  · intro sites ty
    refine ⟨rfl, ?_⟩
    intro c hc a ha hns
    simp only [specEdit] at hc
    obtain ⟨c', hc', rfl⟩ := List.mem_map.mp hc
    refine ⟨c', hc', rfl, ?_⟩
    simp only at ha hns
    obtain ⟨a', ha', rfl⟩ := List.mem_map.mp ha
    by_cases hin : sites.contains (c'.kl, a'.name) = true
    · simp only [hin, if_true] at hns
      exact absurd (by simpa using hin) hns
    · simp only [hin]
      exact ha'
  · intro kl x
    exact ⟨rfl, map_map_key (fun c => by split <;> rfl) _, fun c hc hk => List.mem_map.mpr ⟨c, hc, by simp [hk]⟩⟩
  · exact fun name vs => ⟨rfl, fun n b h => mem_map_of_fix h rfl,
      fun n es hne h => mem_map_of_fix h (by simp [XType.setEnum, hne])⟩

/-- the output is a tree whose tags and attribute keys come from the fixed vocabulary and whose attribute
    VALUES are constants of the generator or names of the model (how they are escaped in the file is
    ElementTree's / minidom's business and only validated) -/
theorem xml_wellformed_tree (d : ClassDiagram) (comp : Nat) :
    WellFormed (fun v => v ∈ (xsdSpec d comp).strings) (xsd d comp) :=
  render_wellFormed (xsdSpec d comp)

/-- whatever characters a model name contains (`& < > "`, look-alikes of references such as `&amp;`, `]]>`,
    non-ASCII letters; control characters are outside the domain), the attribute value written for it by
    `toprettyxml` (a) contains no `<`, `>` or `"` — it cannot end its quotes or open a tag — and (b) reads back,
    references expanded, to exactly the name -/
theorem xml_escape_sound (s : List Char) :
    (∀ c ∈ escAttr s, c ≠ '<' ∧ c ≠ '>' ∧ c ≠ '\x22') ∧ unescAttr (escAttr s) = s :=
  ⟨escAttr_no_delims s, unesc_esc s⟩

/-- every element of the written file is `indent <tag`, its attribute list, then `/>` or `>`; reading the
    attribute list back (key up to `=`, value between the quotes, references expanded) returns the attributes of
    the tree, i.e. the model names, and stops exactly at the end of the start tag -/
theorem xml_start_tag_reads_back (indent : List Char) (tag : String) (attrs : List (String × String))
    (children : List XmlTree) (hkeys : ∀ p ∈ attrs, '=' ∉ p.1.toList) :
    ∃ tail, nodeText indent (.node tag attrs children) = indent ++ '<' :: tag.toList ++ (attrsText attrs ++ tail) ∧
      (tail.head? = some '/' ∨ tail.head? = some '>') ∧
      readAttrs attrs.length (attrsText attrs ++ tail) = some (attrs.map (fun p => (p.1.toList, p.2.toList)), tail) := by
  cases children with
  | nil =>
    refine ⟨"/>\n".toList, ?_, Or.inl rfl, ?_⟩
    · simp [nodeText, List.append_assoc]
    · exact readAttrs_attrsText attrs _ _ hkeys (by decide +kernel) (Nat.le_refl _)
  | cons c cs =>
    refine ⟨">\n".toList ++ nodesText ("    ".toList ++ indent) (c :: cs) ++ indent ++ '<' :: '/' :: tag.toList ++ ">\n".toList,
      ?_, Or.inr rfl, ?_⟩
    · simp [nodeText, List.append_assoc]
    · exact readAttrs_attrsText attrs _ _ hkeys (by simp) (Nat.le_refl _)

/-- the attribute keys of the generator's vocabulary contain no `=` (so the theorem above applies to every
    element of every generated schema, see `xml_wellformed_tree`) -/
theorem xml_keys_plain : ∀ k ∈ keyVocab, '=' ∉ k.toList := by decide +kernel

/-- `main -c NAME`: an unknown component name produces no tree (exit status 1) -/
theorem xsd_unknown_component (d : ClassDiagram) (name : String)
    (h : d.containers.find? (fun k => k.isComp && k.name == name) = none) : xsdByName d name = none := by
  unfold xsdByName; rw [h]; rfl

/-- `build_schema` declares the global data types and then those contained in the component THAT ARE NOT GLOBAL
    (`is_contained_in(s_dt, c_c) and not is_global(s_dt)`): no data type row is taken by both loops, and the rows taken are
    exactly the global-or-contained ones.  WITHOUT package references a contained data type is never global, the second
    condition filters nothing and nothing is global and contained (third clause, under `d.pkgrefs = []`). -/
theorem xsd_type_loops_disjoint (d : ClassDiagram) (comp : Nat) :
    (∀ t, ¬ (t ∈ d.dts.filter (fun t => isGlobal d.containers t.parent) ∧
             t ∈ d.dts.filter (fun t => containedIn d.containers d.pkgrefs comp t.parent && !isGlobal d.containers t.parent))) ∧
    (∀ t, t ∈ declaredDts d comp ↔
      t ∈ d.dts ∧ (isGlobal d.containers t.parent = true ∨ containedIn d.containers d.pkgrefs comp t.parent = true)) ∧
    (d.pkgrefs = [] →
      d.dts.filter (fun t => containedIn d.containers d.pkgrefs comp t.parent && !isGlobal d.containers t.parent) =
        d.dts.filter (fun t => containedIn d.containers d.pkgrefs comp t.parent) ∧
      ∀ t ∈ d.dts, ¬ (isGlobal d.containers t.parent = true ∧ containedIn d.containers d.pkgrefs comp t.parent = true)) := by
  refine ⟨?_, fun t => declaredDts_mem, ?_⟩
  · rintro t ⟨h1, h2⟩
    have g1 := (List.mem_filter.mp h1).2
    have g2 := (List.mem_filter.mp h2).2
    simp only [Bool.and_eq_true, Bool.not_eq_true'] at g2
    rw [g2.2] at g1; cases g1
  · intro h
    rw [h]
    constructor
    · apply List.filter_congr
      intro t _
      cases h : containedIn d.containers [] comp t.parent with
      | false => rfl
      | true => simp [contained_not_global_plain _ _ _ h]
    · rintro t _ ⟨hg, hc⟩
      rw [contained_not_global_plain _ _ _ hc] at hg
      cases hg

/-- A declarable data type that is global AND contained in the component (a data type of a
    global package that a package of the component refers to via EP_PKGREF) is declared exactly once — as is every other
    declarable data type in scope (data type names distinct, `XWF`) -/
theorem xsd_global_contained_declared_once {d : ClassDiagram} (xwf : XWF d) (comp : Nat) {t : DataType} {x : XType}
    (ht : t ∈ d.dts) (hg : isGlobal d.containers t.parent = true)
    (_hc : containedIn d.containers d.pkgrefs comp t.parent = true) (hx : xtypeOf d.dts t = some x) :
    ((xsdSpec d comp).types.map XType.name).count t.name = 1 ∧ x ∈ (xsdSpec d comp).types :=
  xsd_declared_once comp xwf.dtNames ht (Or.inl hg) hx

/-- … the general form: global or contained (or both) -> exactly one `xs:simpleType` of that name -/
theorem xsd_declared_exactly_once {d : ClassDiagram} (xwf : XWF d) (comp : Nat) {t : DataType} {x : XType}
    (ht : t ∈ d.dts)
    (hs : isGlobal d.containers t.parent = true ∨ containedIn d.containers d.pkgrefs comp t.parent = true)
    (hx : xtypeOf d.dts t = some x) :
    ((xsdSpec d comp).types.map XType.name).count t.name = 1 ∧ x ∈ (xsdSpec d comp).types :=
  xsd_declared_once comp xwf.dtNames ht hs hx

/-- WHAT A REFERENCE ADDS to the schema: package `r.referring` lies inside the component and refers to `r.referred` —
    every class of `r.referred` gets its element, every declarable data type of `r.referred` its simple type -/
theorem xsd_reference_declared {d : ClassDiagram} (xwf : XWF d) (comp : Nat) {r : PkgRef} {kp kq : Container}
    (hr : r ∈ d.pkgrefs) (hp : findContainer d.containers false r.referred = some kp)
    (hq : findContainer d.containers false r.referring = some kq)
    (hc : containedIn d.containers d.pkgrefs comp kq.parent = true) :
    (∀ c ∈ d.classes, c.parent = .pkg r.referred → xclassAll d c ∈ (xsdSpec d comp).classes) ∧
    (∀ t ∈ d.dts, t.parent = .pkg r.referred → ∀ x, xtypeOf d.dts t = some x →
      x ∈ (xsdSpec d comp).types ∧ ((xsdSpec d comp).types.map XType.name).count t.name = 1) := by
  have hin : containedIn d.containers d.pkgrefs comp (.pkg r.referred) = true :=
    contained_of_reference xwf.tree hr hp hq hc
  constructor
  · intro c hcm hpar
    exact (xsd_classes_rel xwf.tree comp _).mpr ⟨c, hcm, hpar ▸ (contained_iff xwf.tree comp _).mp hin, rfl⟩
  · intro t ht hpar x hx
    have := xsd_declared_once comp xwf.dtNames ht (Or.inr (hpar ▸ hin)) hx
    exact ⟨this.2, this.1⟩

/-- CONSERVATIVE EXTENSION: a diagram without EP_PKGREF rows gives the schema of the reference-free model — global types,
    then the types whose plain containment walk (`containedFuelPlain`) reaches the component; the classes likewise -/
theorem xsd_no_pkgref (d : ClassDiagram) (comp : Nat) (h : d.pkgrefs = []) :
    (xsdSpec d comp).types =
      (d.dts.filter (fun t => isGlobal d.containers t.parent)).filterMap (xtypeOf d.dts) ++
      (d.dts.filter (fun t => containedFuelPlain d.containers comp (d.containers.length + 1) t.parent)).filterMap (xtypeOf d.dts) ∧
    (xsdSpec d comp).classes =
      (d.classes.filter (fun c => containedFuelPlain d.containers comp (d.containers.length + 1) c.parent)).map (xclassAll d) :=
  xsdSpec_no_pkgref d comp h

/-- Owner (id, name, derived age) / Dog (tag : MyInt, color : Color, owner_id -> Owner.id) / Leash in package
    Pkg inside component Comp; global core types; Weekday (user type of Color) in package Other outside -/
def d1 : ClassDiagram :=
  { containers := [⟨false, 5, "Pkg", .comp 6⟩, ⟨true, 6, "Comp", .none⟩, ⟨false, 7, "Other", .none⟩],
    dts := [⟨101, "boolean", .core 1, .none⟩, ⟨100, "void", .core 0, .none⟩,
            ⟨102, "integer", .core 2, .none⟩, ⟨104, "string", .core 4, .none⟩, ⟨107, "same_as<Base_Attribute>", .core 7, .none⟩,
            ⟨50, "Color", .enum ["red", "green"], .pkg 5⟩, ⟨51, "MyInt", .user 102, .pkg 5⟩,
            ⟨52, "Weekday", .user 50, .pkg 7⟩],
    classes := [
      ⟨1, "OWN", [⟨11, "id", .base 102⟩, ⟨12, "name", .base 104⟩, ⟨13, "age", .derived 102⟩], [⟨0, [11]⟩], .pkg 5⟩,
      ⟨2, "DOG", [⟨21, "tag", .base 51⟩, ⟨22, "color", .base 50⟩, ⟨23, "owner_id", .ref 1 11⟩], [⟨0, [21]⟩, ⟨1, []⟩], .pkg 5⟩,
      ⟨3, "LSH", [⟨31, "front", .ref 2 21⟩, ⟨32, "back", .ref 2 21⟩], [⟨0, [31, 32]⟩], .pkg 5⟩],
    rels := [
      ⟨41, 1, .simple ⟨2, true, true, "is owned by"⟩ ⟨1, false, false, "owns"⟩ [⟨23, 11⟩], .pkg 5⟩] }

theorem d1_xwf : XWF d1 := by
  refine ⟨?_, by decide +kernel, by decide +kernel, ?_, ?_, rfl⟩
  · constructor <;> decide +kernel
  · exact ⟨⟨fun p => match p with
        | .none => 0 | .comp 6 => 1 | .pkg 5 => 2 | .pkg 7 => 1 | _ => 0,
      by decide +kernel, (fun r hr => by cases hr), by intro p; simp only [d1, List.length_cons, List.length_nil]; split <;> omega⟩⟩
  · exact DtChainOk.of_rank (fun i => if i = 51 then 1 else if i = 52 then 1 else 0) (by decide +kernel)

example : (classNodes (xsd d1 6)).map (·.attr "name") = [some "OWN", some "DOG", some "LSH"] := by
  rw [xsd_complete]; decide +kernel

/-- Owner.age (derived) is not declared; Dog.tag : MyInt (user type of integer) is typed `integer`,
    Dog.color : Color (enumeration) is typed `Color`, the referential Dog.owner_id is typed like Owner.id -/
example : (d1.classes.map (fun c => (c.attrs.filterMap (xattr d1)).map (fun a => (a.name, a.ty)))) =
    [[("id", "integer"), ("name", "string")],
     [("tag", "integer"), ("color", "Color"), ("owner_id", "integer")],
     [("front", "integer"), ("back", "integer")]] := by decide +kernel

/-- global types first (void and same_as<Base_Attribute> omitted; Weekday lives in package Other outside every
    component, so it is global), then the component's -/
example : (xsdSpec d1 6).types =
    [.restriction "boolean" "xs:boolean", .restriction "integer" "xs:integer", .restriction "string" "xs:string",
     .restriction "Weekday" "Color", .enumeration "Color" ["red", "green"], .restriction "MyInt" "integer"] := by decide +kernel

example : XScriptOk d1 [.addEnum 50 "blue", .permEnums 50 [2, 0, 1], .moveClass 1 (.pkg 7), .renameAttr 2 21 "chip"] := by
  refine ⟨trivial, ?_, trivial, ?_, trivial⟩
  · intro x es hf hk
    have h : findDt (applyXEdit (.addEnum 50 "blue") d1).dts 50 =
        some ⟨50, "Color", .enum ["red", "green", "blue"], .pkg 5⟩ := by decide +kernel
    rw [h] at hf
    cases hf
    cases hk
    decide +kernel
  intro kc hc x hx hn
  have h : findClass (applyXEdit (.moveClass 1 (.pkg 7)) (applyXEdit (.permEnums 50 [2, 0, 1]) (applyXEdit (.addEnum 50 "blue") d1))) 2 =
      some ⟨2, "DOG", [⟨21, "tag", .base 51⟩, ⟨22, "color", .base 50⟩, ⟨23, "owner_id", .ref 1 11⟩], [⟨0, [21]⟩, ⟨1, []⟩], .pkg 5⟩ := by
    decide +kernel
  rw [h] at hc
  cases hc
  simp only [List.mem_cons, List.not_mem_nil, or_false] at hx
  rcases hx with rfl | rfl | rfl <;> simp at hn

/-- the edits are visible: a new enumerator at the end, then permuted; Owner leaves the component -/
example : (xsdSpec (applyXEdits [.addEnum 50 "blue", .permEnums 50 [2, 0, 1], .moveClass 1 (.pkg 7)] d1) 6).types.getLast? =
    some (.restriction "MyInt" "integer") ∧
    (xsdSpec (applyXEdits [.addEnum 50 "blue", .permEnums 50 [2, 0, 1], .moveClass 1 (.pkg 7)] d1) 6).types[4]? =
      some (.enumeration "Color" ["blue", "red", "green"]) ∧
    (xsdSpec (applyXEdits [.addEnum 50 "blue", .permEnums 50 [2, 0, 1], .moveClass 1 (.pkg 7)] d1) 6).classes.map (·.kl) =
      ["DOG", "LSH"] := by decide +kernel

/-- a fresh user type of the enumeration inside the component is applicable and declared last -/
example : XEditOk d1 (.addType ⟨60, "Shade", .user 50, .pkg 5⟩) := by
  refine ⟨⟨by decide +kernel, by decide +kernel, by decide +kernel, by decide +kernel⟩, by decide +kernel⟩

example : (xsdSpec (applyXEdit (.addType ⟨60, "Shade", .user 50, .pkg 5⟩) d1) 6).types.getLast? =
    some (.restriction "Shade" "Color") := by decide +kernel

/-- the EMPTY data type name: enumeration "" (declared, `build_enum_type` does not test the name), user type U of it
    (omitted: `if base_name:`), class K with x : "" and y : U (both omitted: `if type_name and …`) -/
example :
    let d : ClassDiagram :=
      { containers := [⟨true, 6, "Comp", .none⟩],
        dts := [⟨50, "", .enum ["a"], .comp 6⟩, ⟨51, "U", .user 50, .comp 6⟩],
        classes := [⟨1, "K", [⟨11, "x", .base 50⟩, ⟨12, "y", .base 51⟩], [], .comp 6⟩],
        rels := [] }
    xsdSpec d 6 = ⟨[.enumeration "" ["a"]], "Comp", [⟨"K", []⟩]⟩ := by decide +kernel

/-- attributes off the R103 chain (R103 is conditional): `build_class` iterates R102 and declares them too -/
example :
    let d : ClassDiagram :=
      { containers := [⟨true, 6, "Comp", .none⟩], dts := [⟨102, "integer", .core 2, .none⟩],
        classes := [⟨1, "K", [⟨11, "first", .base 102⟩], [], .comp 6⟩], rels := [],
        loose := [(1, ⟨12, "unchained", .base 102⟩), (9, ⟨13, "elsewhere", .base 102⟩)] }
    (xsdSpec d 6).classes = [⟨"K", [⟨"unchained", "integer"⟩, ⟨"first", "integer"⟩]⟩] := by decide +kernel

/-- names with XML-special characters survive the file: `a&b<c>"d` is written `a&amp;b&lt;c&gt;&quot;d` -/
example : escAttr "a&b<c>\"d".toList = "a&amp;b&lt;c&gt;&quot;d".toList ∧
    unescAttr "a&amp;b&lt;c&gt;&quot;d".toList = "a&b<c>\"d".toList ∧
    escAttr "&amp;".toList = "&amp;amp;".toList := by decide +kernel

/-- one element per line, four blanks per level, `/>` for an element without children -/
example : nodeText [] (.node "a" [("k", "x&y"), ("m", "")] [.node "b" [("v", "<")] []]) =
    "<a k=\"x&amp;y\" m=\"\">\n    <b v=\"&lt;\"/>\n</a>\n".toList := by decide +kernel

/-- the type loops on d1 (no package reference): Color and MyInt (package Pkg of the component) come from the second loop
    only, the core types from the first only; nothing is global and contained -/
example : (d1.dts.filter (fun t => containedIn d1.containers d1.pkgrefs 6 t.parent && !isGlobal d1.containers t.parent)).map (·.name) =
    ["Color", "MyInt"] ∧
    ∀ t ∈ d1.dts, ¬ (isGlobal d1.containers t.parent = true ∧ containedIn d1.containers d1.pkgrefs 6 t.parent = true) :=
  ⟨by rw [((xsd_type_loops_disjoint d1 6).2.2 rfl).1]; decide +kernel, ((xsd_type_loops_disjoint d1 6).2.2 rfl).2⟩

example : (xsdSpec d1 6).types =
    (d1.dts.filter (fun t => isGlobal d1.containers t.parent)).filterMap (xtypeOf d1.dts) ++
    (d1.dts.filter (fun t => containedFuelPlain d1.containers 6 (d1.containers.length + 1) t.parent)).filterMap (xtypeOf d1.dts) :=
  (xsd_no_pkgref d1 6 rfl).1

/-! ### non-vacuity with a PACKAGE REFERENCE -/

/-- d1 plus: package Ref (8) inside component Comp REFERS to the global package Other (7), which holds the user type
    Weekday and the class CAT (whose `mood` is a Weekday): Weekday is global AND
    contained in Comp -/
def d1Ref : ClassDiagram :=
  { d1 with
    containers := d1.containers ++ [⟨false, 8, "Ref", .comp 6⟩],
    classes := d1.classes ++ [⟨4, "CAT", [⟨41, "id", .base 102⟩, ⟨42, "mood", .base 52⟩], [⟨0, [41]⟩], .pkg 7⟩],
    pkgrefs := [⟨8, 7⟩] }

theorem d1Ref_xwf : XWF d1Ref := by
  refine ⟨?_, by decide +kernel, by decide +kernel, ?_, ?_, rfl⟩
  · constructor <;> decide +kernel
  · exact TreeOk.of_rank (fun p => match p with
        | .none => 0 | .comp 6 => 1 | .pkg 5 => 2 | .pkg 7 => 2 | .pkg 8 => 2 | _ => 0)
      (by decide +kernel) (by decide +kernel)
      (by intro p; simp only [d1Ref, d1, List.length_append, List.length_cons, List.length_nil]; split <;> omega)
  · exact DtChainOk.of_rank (fun i => if i = 51 then 1 else if i = 52 then 1 else 0) (by decide +kernel)

/-- the model computes it: CAT is an element of Comp, Weekday is declared once (by the first loop), and without the
    reference row CAT is not there -/
example : (xsdSpec d1Ref 6).classes.map (·.kl) = ["OWN", "DOG", "LSH", "CAT"] ∧
    (xsdSpec d1Ref 6).types.map XType.name = ["boolean", "integer", "string", "Weekday", "Color", "MyInt"] ∧
    (xsdSpec { d1Ref with pkgrefs := [] } 6).classes.map (·.kl) = ["OWN", "DOG", "LSH"] ∧
    ((xsdSpec d1Ref 6).classes.map (fun c => c.attrs.map (fun a => (a.name, a.ty)))).getLast? =
      some [("id", "integer"), ("mood", "Color")] := by decide +kernel

/-- `xsd_global_contained_declared_once` applied: Weekday is global AND contained in Comp, and has one declaration -/
example : ((xsdSpec d1Ref 6).types.map XType.name).count "Weekday" = 1 ∧
    XType.restriction "Weekday" "Color" ∈ (xsdSpec d1Ref 6).types :=
  xsd_global_contained_declared_once d1Ref_xwf 6 (t := ⟨52, "Weekday", .user 50, .pkg 7⟩) (by decide +kernel) (by decide +kernel) (by decide +kernel)
    (by decide +kernel)

/-- `xsd_type_loops_disjoint` on d1Ref: Weekday satisfies BOTH conditions of `build_schema`, and is in the first list only -/
example : (isGlobal d1Ref.containers (.pkg 7) = true ∧ containedIn d1Ref.containers d1Ref.pkgrefs 6 (.pkg 7) = true) ∧
    ¬ ((⟨52, "Weekday", .user 50, .pkg 7⟩ : DataType) ∈ d1Ref.dts.filter (fun t => isGlobal d1Ref.containers t.parent) ∧
       (⟨52, "Weekday", .user 50, .pkg 7⟩ : DataType) ∈ d1Ref.dts.filter
         (fun t => containedIn d1Ref.containers d1Ref.pkgrefs 6 t.parent && !isGlobal d1Ref.containers t.parent)) :=
  ⟨by decide +kernel, (xsd_type_loops_disjoint d1Ref 6).1 _⟩

/-- `xsd_reference_declared` applied to the row 8 -> 7: CAT gets its element, Weekday its simple type (once) -/
example : xclassAll d1Ref ⟨4, "CAT", [⟨41, "id", .base 102⟩, ⟨42, "mood", .base 52⟩], [⟨0, [41]⟩], .pkg 7⟩ ∈ (xsdSpec d1Ref 6).classes ∧
    XType.restriction "Weekday" "Color" ∈ (xsdSpec d1Ref 6).types :=
  have h := xsd_reference_declared d1Ref_xwf 6 (r := ⟨8, 7⟩) (kp := ⟨false, 7, "Other", .none⟩)
    (kq := ⟨false, 8, "Ref", .comp 6⟩) (by decide +kernel) (by decide +kernel) (by decide +kernel) (by decide +kernel)
  ⟨h.1 _ (by decide +kernel) rfl, (h.2 ⟨52, "Weekday", .user 50, .pkg 7⟩ (by decide +kernel) rfl _ (by decide +kernel)).1⟩

/-- `xsd_complete_rel` / `xsd_types_rule_rel` on d1Ref: from membership to a chain with a reference step and back -/
example : ∃ c ∈ d1Ref.classes, Reaches d1Ref.containers d1Ref.pkgrefs 6 c.parent ∧ c.kl = "CAT" := by
  have h : xclassAll d1Ref ⟨4, "CAT", [⟨41, "id", .base 102⟩, ⟨42, "mood", .base 52⟩], [⟨0, [41]⟩], .pkg 7⟩ ∈
      (xsdSpec d1Ref 6).classes := by decide +kernel
  obtain ⟨c, hc, hr, he⟩ := (xsd_complete_rel d1Ref_xwf 6 _).mp h
  refine ⟨c, hc, hr, ?_⟩
  have := congrArg XClass.kl he
  simpa [xclassAll] using this.symm

example : XType.restriction "Weekday" "Color" ∈ (xsdSpec d1Ref 6).types :=
  ((xsd_types_rule_rel d1Ref_xwf 6).1 _).mpr ⟨⟨52, "Weekday", .user 50, .pkg 7⟩, by decide +kernel,
    Or.inr (.ref (k := ⟨false, 7, "Other", .none⟩) (r := ⟨8, 7⟩) (kq := ⟨false, 8, "Ref", .comp 6⟩) (by decide +kernel) (by decide +kernel) rfl
      (by decide +kernel) (.here (k := ⟨true, 6, "Comp", .none⟩) (by decide +kernel))), by decide +kernel⟩

/-- the edit theorems on a diagram with a reference (`xsd_edit_commutes` applied): a new data type in the referred GLOBAL
    package is applicable and is inserted at the end of the FIRST loop's declarations (position 4, before Color), although
    it is contained in the component as well; moving CAT out of the referred package drops its element -/
example : xsdSpec (applyXEdit (.addType ⟨60, "Shade", .user 50, .pkg 7⟩) d1Ref) 6 =
    specEdit (xresolve d1Ref 6 (.addType ⟨60, "Shade", .user 50, .pkg 7⟩)) (xsdSpec d1Ref 6) :=
  xsd_edit_commutes d1Ref_xwf (.addType ⟨60, "Shade", .user 50, .pkg 7⟩)
    (show FreshType d1Ref _ ∧ _ from ⟨⟨by decide +kernel, by decide +kernel, by decide +kernel, by decide +kernel⟩, by decide +kernel⟩) 6

example : (xsdSpec (applyXEdit (.addType ⟨60, "Shade", .user 50, .pkg 7⟩) d1Ref) 6).types.map XType.name =
    ["boolean", "integer", "string", "Weekday", "Shade", "Color", "MyInt"] ∧
    (xsdSpec (applyXEdit (.moveClass 4 .none) d1Ref) 6).classes.map (·.kl) = ["OWN", "DOG", "LSH"] := by decide +kernel

section SourceShape
open Pyx.XShape Pyx.Gen.XsdShape

/-! ### the statement structure of gen_xsd_schema.py (`Gen/XsdShape.lean`, regenerated from the source on every run)

  `interp d fuel f args` (Proofs/XsdShape.lean) is the generic interpretation of the IR of the function `f` over the diagram `d`:
  navigations, selections, filters, loops, conditionals and ElementTree calls mean what they mean for ANY IR value; a call of
  another function of the module (or of ooaofooa.is_global / is_contained_in) means what the MODEL says that function returns
  (`oracle`).  Each theorem: the body of the function, as generated from the source, returns what the model says for the
  function itself — for every diagram.  `many(...)` / `select_many`: the interpreter iterates in MODELED order (d.dts,
  d.classes, R102 = off-chain attributes then the R103 chain); the real order is row order, the harness canonicalises. -/

/-- get_type_name: core types 1..5, enumerations and user types return the name (S_SDT and the rest: None; navigating from
    None: None); the model's `typeNameOf` is that name tested for truthiness, as every caller does -/
theorem get_type_name_as_in_source (d : ClassDiagram) (fuel : Nat) :
    (∀ t, interp d fuel get_type_name [.ent (.sdt t)] = some (optStr (rawTypeName t))) ∧
    interp d fuel get_type_name [.none] = some .none ∧
    (∀ b, typeNameOf d.dts b = ((findDt d.dts b).bind rawTypeName).filter (fun s => s != "")) :=
  ⟨get_type_name_eq d fuel, get_type_name_none_eq d fuel, typeNameOf_raw d.dts⟩

/-- get_refered_attribute: O_RATTR[106].O_BATTR[113].O_ATTR[106], recursively (the recursive call read by the oracle:
    `referred` satisfies the equation of the source); the model's `attrDt` is the R114 type of that attribute -/
theorem get_refered_attribute_as_in_source (d : ClassDiagram) (fuel : Nat) (a : Attr) :
    interp d fuel get_refered_attribute [.ent (.attr a)] = some (.ent (.attr (referred d a))) ∧
    (attrDt d a).bind (findDt d.dts) = dtOfAttr d (referred d a) :=
  ⟨get_refered_attribute_eq d fuel a, cur0_eq d a⟩

/-- build_core_type: the if/elif chain on the NAME (the IR has it statement by statement; `coreXs` reads Gen.XsdCore.table),
    `if type_name:`, simpleType name= / restriction base= -/
theorem build_core_type_as_in_source (d : ClassDiagram) (fuel : Nat) (t : DataType) :
    interp d fuel build_core_type [.ent (.cdt t)] =
      some (optTree ((coreXs t.name).map (fun b => renderType (.restriction t.name b)))) := by
  obtain ⟨c2, c3, c4, c5, c6, c1, -⟩ := xsd_core_table
  generalize hnm : t.name = nm
  by_cases h1 : nm = "void"
  · simp only [xshape, build_core_type, hnm, h1, c1]
  by_cases h2 : nm = "boolean"
  · simp only [xshape, build_core_type, hnm, h2, c2, renderType, leaf]
  by_cases h3 : nm = "integer"
  · simp only [xshape, build_core_type, hnm, h3, c3, renderType, leaf]
  by_cases h4 : nm = "real"
  · simp only [xshape, build_core_type, hnm, h4, c4, renderType, leaf]
  by_cases h5 : nm = "string"
  · simp only [xshape, build_core_type, hnm, h5, c5, renderType, leaf]
  by_cases h6 : nm = "unique_id"
  · simp only [xshape, build_core_type, hnm, h6, c6, renderType, leaf]
  -- no row of the table: all six comparisons of the chain are false, and `coreXs` finds nothing
  have e1 : (nm == "void") = false := by simp [h1]
  have e2 : (nm == "boolean") = false := by simp [h2]
  have e3 : (nm == "integer") = false := by simp [h3]
  have e4 : (nm == "real") = false := by simp [h4]
  have e5 : (nm == "string") = false := by simp [h5]
  have e6 : (nm == "unique_id") = false := by simp [h6]
  have hc : coreXs nm = none :=
    coreXs_none (by simp [Gen.XsdCore.table, Ne.symm h1, Ne.symm h2, Ne.symm h3, Ne.symm h4, Ne.symm h5, Ne.symm h6])
  simp only [xshape, build_core_type, hnm, e1, e2, e3, e4, e5, e6, hc]

/-- build_enum_type: starts at the enumerator that succeeds none (R56), follows 'precedes', one xs:enumeration value= per
    enumerator inside restriction base="xs:string"; the name is NOT tested.  Fuel: one unit per test of `while s_enum`. -/
theorem build_enum_type_as_in_source (d : ClassDiagram) (fuel : Nat) (t : DataType) (hfuel : (enumsOf t).length < fuel) :
    interp d fuel build_enum_type [.ent (.edt t)] = some (.tree (renderType (.enumeration t.name (enumsOf t)))) := by
  refine run_of_ret (L := [("s_edt", .ent (.edt t))]) rfl ?_
  refine .step (by simp only [xshape]; rfl) ?_
  refine .step (by simp only [xshape]; rfl) ?_
  refine .step (by simp only [xshape]; rfl) ?_
  refine .step (by simp only [xshape]; rfl) ?_
  refine .assign (val := enumV t 0) ?_ ?_
  · simp only [eval, evalG, filterBy, startOf, navSteps, nav_eqs, List.lookup, List.flatMap_cons, List.flatMap_nil,
      List.append_nil, Option.bind_some, String.reduceBEq]
    -- the R27 filter (no partner over R56 'succeeds') keeps the enumerator with index 0 only
    rw [filterOpt_map _ (Ent.senum t) (fun i => i == 0)]
    · simp only [first_enum]
    intro i _
    cases i <;> simp only [xshape] <;> rfl
  refine .whileDo (EnumInv t) (enumsOf t).length hfuel
    ⟨by simp [List.lookup], by simp [List.lookup], by simp [List.lookup], by simp⟩ ?_
    (fun i st hi h => enum_body d fuel t i st hi h) (fun st' hinv => .ret ?_)
  · intro i st hi
    simp only [xshape, hi.cur, enumV]
    by_cases h : i < (enumsOf t).length <;> simp [h]
  · simp only [xshape, hinv.enum, hinv.root, List.take_length, renderType, leaf]

/-- build_user_type: R17 for the name, R18 for the base, `if base_name:` -/
theorem build_user_type_as_in_source (d : ClassDiagram) (fuel : Nat) (t : DataType) (b : Nat) (hk : t.kind = .user b) :
    interp d fuel build_user_type [.ent (.udt t)] =
      some (optTree ((typeNameOf d.dts b).map (fun bn => renderType (.restriction t.name bn)))) := by
  rw [typeNameOf_raw]
  cases hf : findDt d.dts b with
  | none => simp only [xshape, build_user_type, hk, dtEnt, hf, Option.toList, List.map_nil, Option.filter]
  | some tb =>
    cases ho : rawTypeName tb with
    | none => simp only [xshape, build_user_type, hk, dtEnt, hf, Option.toList, List.map_cons, List.map_nil, ho, Option.filter]
    | some s =>
      by_cases hs : s = ""
      · subst hs
        simp only [xshape, build_user_type, hk, dtEnt, hf, Option.toList, List.map_cons, List.map_nil, ho, Option.filter]
      · have hne : (s != "") = true := by simp [hs]
        simp only [xshape, build_user_type, hk, dtEnt, hf, Option.toList, List.map_cons, List.map_nil, ho, Option.filter, hne, renderType, leaf]

/-- build_type: S_CDT, then S_EDT, then S_UDT over R17; anything else (S_SDT: the call is commented out) yields None -/
theorem build_type_as_in_source (d : ClassDiagram) (fuel : Nat) (t : DataType) :
    interp d fuel build_type [.ent (.sdt t)] = some (optTree ((xtypeOf d.dts t).map renderType)) := by
  cases hk : t.kind with
  | core n => simp only [xshape, build_type, xtypeOf, hk, ↓retVal_optTree, Option.map_map, Function.comp_def]
  | enum es => simp only [xshape, build_type, xtypeOf, hk, enumsOf]
  | user b => simp only [xshape, build_type, xtypeOf, hk, ↓retVal_optTree, Option.map_map, Function.comp_def]
  | other => simp only [xshape, build_type, xtypeOf, hk]

/-- build_class: xs:element name=Key_Lett minOccurs maxOccurs / xs:complexType / per attribute across R102: the referred
    attribute's R114 type, the `while S_UDT` walk, get_type_name, `if type_name and not …O_DBATTR[107]`, xs:attribute
    name= type=.  Fuel of the walk = the model's (`baseTypeName`), never exhausted on acyclic user-type chains (XWF). -/
theorem build_class_as_in_source {d : ClassDiagram} (xwf : XWF d) (c : Class) :
    interp d (d.dts.length + 1) build_class [.ent (.obj c)] = some (.tree (renderClass (xclassAll d c))) :=
  build_class_eq d xwf.chain c

/-- build_component: xs:element name= / complexType / sequence; the classes selected by is_contained_in(·, c_c), each
    appended in order -/
theorem build_component_as_in_source (d : ClassDiagram) (fuel : Nat) (k : Container) :
    interp d fuel build_component [.model, .ent (.cc k)] =
      some (.tree (renderComp k.name ((d.classes.filter (fun c => containedIn d.containers d.pkgrefs k.id c.parent)).map (xclassAll d)))) := by
  refine run_of_ret (L := [("m", .model), ("c_c", .ent (.cc k))]) rfl ?_
  refine .step (by simp only [xshape]; rfl) ?_
  refine .step (by simp only [xshape]; rfl) ?_
  refine .step (by simp only [xshape]; rfl) ?_
  refine .step (by simp only [xshape]; rfl) ?_
  refine .forIn (CompInv k) Ent.obj (fun c => some (xclassAll d c)) _
    (eval_selectMany d.classes Ent.obj (fun c => containedIn d.containers d.pkgrefs k.id c.parent) (by simp [List.lookup]) rfl rfl
      (fun c _ => by simp only [xshape, parentOf]))
    ⟨by simp [List.lookup], by simp [List.lookup], rfl⟩ (fun c _ acc st hi => comp_body d fuel k c acc st hi)
    (fun st' hinv => .ret ?_)
  simp only [xshape, hinv.component, hinv.root, List.filterMap_eq_map', renderComp]

/-- build_schema IS `xsd`: xs:schema with xmlns:xs; loop 1 over the data types with is_global; loop 2 over those with
    `is_contained_in(·, c_c) and not is_global(·)`; `is not None` before each append; the component last -/
theorem build_schema_as_in_source (d : ClassDiagram) (fuel : Nat) (comp : Nat) (k : Container)
    (hk : findContainer d.containers true comp = some k) :
    interp d fuel build_schema [.model, .ent (.cc k)] = some (.tree (xsd d comp)) := by
  have hid : k.id = comp := by
    have := List.find?_some hk
    simp only [Bool.and_eq_true, beq_iff_eq] at this
    exact this.2
  rw [build_schema_eq d fuel k, hid]
  unfold xsd xsdSpec compName
  rw [hk]
  rfl

/-- what main / prettify select: the first C_C whose Name is the option, build_schema(m, c_c), exit status 1 without one, four
    blanks of indent -/
theorem main_as_in_source :
    mainShape = { selectFn := "select_any", selectClass := "C_C", selectField := "name", buildArgs := ["m", "c_c"],
                  missingExit := 1, indent := "    " } := by decide +kernel

/-- get_refered_attribute with its recursion EXECUTED by the interpreter instead of read by the oracle (`selfRec`: every call
    of the function's own name runs the generated body again, `n` nested activations allowed, any other call and any deeper one
    is stuck): for EVERY attribute and every depth >= 2 the result is the model's `referred`.  Two activations always suffice:
    R113 ends at an O_BATTR row, and the O_ATTR of an O_BATTR row has no O_RATTR row — chains over R113 have length one in
    every population of the metamodel; a `.ref` attribute pointing at another `.ref` attribute reaches nothing (no O_BATTR row)
    and is returned as it is (then omitted, `xsd_referential_dangling_omitted`). -/
theorem get_refered_attribute_recursion_as_in_source (d : ClassDiagram) (fuel n : Nat) (a : Attr) :
    selfRec d fuel get_refered_attribute (n + 2) "get_refered_attribute" [.ent (.attr a)] =
      some (.ent (.attr (referred d a))) :=
  get_refered_attribute_rec_eq d fuel n a

/-- the CALL GRAPH of the module as it stands in the source (the names the oracle is asked for by each body): acyclic apart
    from the self-call of get_refered_attribute (tied by execution above) — the modular reading of the `*_as_in_source` theorems is
    well-founded; and build_struct_type is called by NO function (its call in build_type is commented out), so that S_SDT
    types are never declared whatever build_struct_type would do -/
theorem call_graph_as_in_source :
    functions.map (fun f => (f.name, calleesOf f)) =
      [("get_type_name", []), ("get_refered_attribute", ["get_refered_attribute"]), ("build_core_type", []),
       ("build_enum_type", []), ("build_struct_type", ["get_type_name"]), ("build_user_type", ["get_type_name"]),
       ("build_type", ["build_core_type", "build_enum_type", "build_user_type"]),
       ("build_class", ["get_refered_attribute", "get_type_name"]),
       ("build_component", ["ooaofooa.is_contained_in", "build_class"]),
       ("build_schema", ["ooaofooa.is_global", "build_type", "ooaofooa.is_contained_in", "build_component"])] ∧
    ∀ f ∈ functions, "build_struct_type" ∉ calleesOf f := by decide +kernel

/-- main: the FIRST C_C whose Name equals the option (select_any over C_C with `inst.Name == opts.component`), build_schema(m,
    c_c) on it — the tree `xsdByName` gives — and exit status 1 without one.  Hypothesis: the selected component is the first
    one with its Id (component Ids identify components; `xsd d id` looks the component up by Id again). -/
theorem main_select_as_in_source (d : ClassDiagram) (fuel : Nat) (name : String)
    (hid : ∀ k, d.containers.find? (fun k => k.isComp && k.name == name) = some k →
      findContainer d.containers true k.id = some k) :
    interpMain d fuel mainShape name =
      some (match xsdByName d name with | some t => .written t | none => .exit 1) := by
  unfold interpMain xsdByName
  simp only [mainShape, and_self, ↓reduceIte]
  rw [interpMain_find]
  cases hf : d.containers.find? (fun k => k.isComp && k.name == name) with
  | none => rfl
  | some k =>
    simp only [Option.map_some, lookupAll, List.lookup, String.reduceBEq]
    rw [build_schema_as_in_source d fuel k.id k (hid k hf)]

/-- main / prettify, the pretty-printing decision: each level of the written text is indented by the `indent=` argument of
    `toprettyxml` as it stands in the source (the model's `nodeText` writes the children of every element that has some one
    `mainShape.indent` deeper, between `>` newline and the end tag at the element's own indent) -/
theorem main_indent_as_in_source (indent : List Char) (tag : String) (attrs : List (String × String)) (c : XmlTree)
    (cs : List XmlTree) :
    nodeText indent (.node tag attrs (c :: cs)) =
      indent ++ '<' :: tag.toList ++ attrsText attrs ++ (">\n".toList ++ nodesText (mainShape.indent.toList ++ indent) (c :: cs) ++
        indent ++ '<' :: '/' :: tag.toList ++ ">\n".toList) := by
  rw [nodeText]
  rfl

/-! non-vacuity: the theorems applied to d1 / d1Ref, and hand-MUTATED IRs that give another tree -/

/-- the text of the tree a call returned (trees are compared as the written text) -/
def outText : Option V → Option (List Char)
  | some (.tree t) => some (nodeText [] t)
  | _ => none

def compK : Container := ⟨true, 6, "Comp", .none⟩

/-- `build_schema_as_in_source` applied: the interpretation of the generated IR on d1Ref is the model's tree -/
example : interp d1Ref 9 build_schema [.model, .ent (.cc compK)] = some (.tree (xsd d1Ref 6)) :=
  build_schema_as_in_source d1Ref 9 6 compK (by decide +kernel)

/-- `build_class_as_in_source` applied to Dog (user type walked to its base, enumeration, referential attribute) and to
    Owner (the derived attribute is skipped) -/
example : interp d1 9 build_class [.ent (.obj ⟨2, "DOG", [⟨21, "tag", .base 51⟩, ⟨22, "color", .base 50⟩, ⟨23, "owner_id", .ref 1 11⟩], [⟨0, [21]⟩, ⟨1, []⟩], .pkg 5⟩)] =
    some (.tree (renderClass ⟨"DOG", [⟨"tag", "integer"⟩, ⟨"color", "Color"⟩, ⟨"owner_id", "integer"⟩]⟩)) :=
  (build_class_as_in_source d1_xwf _).trans (congrArg (fun x => some (V.tree (renderClass x))) (by decide +kernel))

example : outText (interp d1 9 build_class [.ent (.obj ⟨1, "OWN", [⟨11, "id", .base 102⟩, ⟨12, "name", .base 104⟩, ⟨13, "age", .derived 102⟩], [⟨0, [11]⟩], .pkg 5⟩)]) =
    some (nodeText [] (renderClass ⟨"OWN", [⟨"id", "integer"⟩, ⟨"name", "string"⟩]⟩)) :=
  congrArg outText ((build_class_as_in_source d1_xwf _).trans
    (congrArg (fun x => some (V.tree (renderClass x))) (by decide +kernel)))

/-- `build_enum_type_as_in_source` / `build_user_type_as_in_source` applied -/
example : interp d1 3 build_enum_type [.ent (.edt ⟨50, "Color", .enum ["red", "green"], .pkg 5⟩)] =
    some (.tree (renderType (.enumeration "Color" ["red", "green"]))) :=
  build_enum_type_as_in_source d1 3 _ (by decide +kernel)

example : interp d1 0 build_user_type [.ent (.udt ⟨52, "Weekday", .user 50, .pkg 7⟩)] =
    some (.tree (renderType (.restriction "Weekday" "Color"))) :=
  (build_user_type_as_in_source d1 0 _ 50 rfl).trans
    (congrArg (fun o => some (optTree (o.map (fun bn => renderType (.restriction "Weekday" bn))))) (show typeNameOf d1.dts 50 = some "Color" by decide +kernel))

/-- MUTATION 1 (derived attributes no longer skipped: `if type_name:`): Owner.age appears — another tree -/
def build_class_mut : Fn :=
  { build_class with body :=
    [ .element "cls" "xs:element" [("name", (.field "o_obj" "key_lett")), ("minOccurs", (.str "0")), ("maxOccurs", (.str "unbounded"))],
      .subElement (some "attributes") "cls" "xs:complexType" [],
      .forIn "o_attr" (.nav .many "o_obj" [⟨"O_ATTR", 102, ""⟩] none) [
        .assign "o_attr_ref" (.call "get_refered_attribute" ["o_attr"]),
        .assign "s_dt" (.nav .any "o_attr_ref" [⟨"S_DT", 114, ""⟩] none),
        .whileDo (.nav .any "s_dt" [⟨"S_UDT", 17, ""⟩] none) [
          .assign "s_dt" (.nav .any "s_dt" [⟨"S_UDT", 17, ""⟩, ⟨"S_DT", 18, ""⟩] none) ],
        .assign "type_name" (.call "get_type_name" ["s_dt"]),
        .ifThen (.var "type_name") [
          .subElement none "attributes" "xs:attribute" [("name", (.field "o_attr" "name")), ("type", (.var "type_name"))] ] [
          .log "warning" ] ],
      .ret (.var "cls") ] }

example : outText (interp d1 9 build_class_mut [.ent (.obj ⟨1, "OWN", [⟨11, "id", .base 102⟩, ⟨12, "name", .base 104⟩, ⟨13, "age", .derived 102⟩], [⟨0, [11]⟩], .pkg 5⟩)]) =
    some (nodeText [] (renderClass ⟨"OWN", [⟨"id", "integer"⟩, ⟨"name", "string"⟩, ⟨"age", "integer"⟩]⟩)) :=
  congrArg outText (eq_of_returnsTree (by decide +kernel))

/-- MUTATION 2 (the second loop takes every contained data type, global or not): on d1Ref Weekday, global AND
    contained, is declared twice — the tree differs from the model's -/
def build_schema_mut : Fn :=
  { build_schema with body :=
    [ .element "schema" "xs:schema" [],
      .setAttr "schema" "xmlns:xs" (.str "http://www.w3.org/2001/XMLSchema"),
      .lambda "global_filter" "selected" (.call "ooaofooa.is_global" ["selected"]),
      .forIn "s_dt" (.selectMany "m" "S_DT" (some "global_filter")) [
        .assign "datatype" (.call "build_type" ["s_dt"]),
        .ifThen (.isNotNone (.var "datatype")) [ .append "schema" (.var "datatype") ] [] ],
      .lambda "scope_filter" "selected" (.call "ooaofooa.is_contained_in" ["selected", "c_c"]),
      .forIn "s_dt" (.selectMany "m" "S_DT" (some "scope_filter")) [
        .assign "datatype" (.call "build_type" ["s_dt"]),
        .ifThen (.isNotNone (.var "datatype")) [ .append "schema" (.var "datatype") ] [] ],
      .assign "component" (.call "build_component" ["m", "c_c"]),
      .append "schema" (.var "component"),
      .ret (.var "schema") ] }

def outTypeNames : Option V → List (Option String)
  | some (.tree t) => (simpleTypeNodes t).map (·.attr "name")
  | _ => []

example : outTypeNames (interp d1Ref 9 build_schema_mut [.model, .ent (.cc compK)]) =
      [some "boolean", some "integer", some "string", some "Weekday", some "Color", some "MyInt", some "Weekday"] ∧
    outTypeNames (interp d1Ref 9 build_schema [.model, .ent (.cc compK)]) =
      [some "boolean", some "integer", some "string", some "Weekday", some "Color", some "MyInt"] ∧
    outText (interp d1 9 build_schema_mut [.model, .ent (.cc compK)]) = outText (some (.tree (xsd d1 6))) :=
  ⟨by decide +kernel,
   by rw [build_schema_as_in_source d1Ref 9 6 compK (by decide +kernel)]; decide +kernel,
   congrArg outText (eq_of_returnsTree (by decide +kernel))⟩

/-- MUTATION 3 (the enumerator loop follows 'succeeds' instead of 'precedes'): only the first enumerator is written -/
def build_enum_type_mut : Fn :=
  { build_enum_type with body :=
    [ .assign "s_dt" (.nav .any "s_edt" [⟨"S_DT", 17, ""⟩] none),
      .element "enum" "xs:simpleType" [("name", (.field "s_dt" "name"))],
      .subElement (some "enum_list") "enum" "xs:restriction" [("base", (.str "xs:string"))],
      .lambda "first_filter" "selected" (.not_ (.nav .any "selected" [⟨"S_ENUM", 56, "succeeds"⟩] none)),
      .assign "s_enum" (.nav .any "s_edt" [⟨"S_ENUM", 27, ""⟩] (some "first_filter")),
      .whileDo (.var "s_enum") [
        .subElement none "enum_list" "xs:enumeration" [("value", (.field "s_enum" "name"))],
        .assign "s_enum" (.nav .any "s_enum" [⟨"S_ENUM", 56, "succeeds"⟩] none) ],
      .ret (.var "enum") ] }

example : outText (interp d1 3 build_enum_type_mut [.ent (.edt ⟨50, "Color", .enum ["red", "green"], .pkg 5⟩)]) =
    some (nodeText [] (renderType (.enumeration "Color" ["red"]))) :=
  congrArg outText (eq_of_returnsTree (by decide +kernel))

/-- MUTATION 4 (another association number in get_refered_attribute: R114 for R113): the interpretation reaches nothing,
    a referential attribute is returned as it is -/
example : interp d1 0 { get_refered_attribute with body :=
      [ .assign "o_attr_ref" (.nav .any "o_attr" [⟨"O_RATTR", 106, ""⟩, ⟨"O_BATTR", 114, ""⟩, ⟨"O_ATTR", 106, ""⟩] none),
        .ifThen (.var "o_attr_ref") [ .ret (.call "get_refered_attribute" ["o_attr_ref"]) ] [ .ret (.var "o_attr") ] ] }
      [.ent (.attr ⟨23, "owner_id", .ref 1 11⟩)] = some (.ent (.attr ⟨23, "owner_id", .ref 1 11⟩)) ∧
    referred d1 ⟨23, "owner_id", .ref 1 11⟩ = ⟨11, "id", .base 102⟩ := by
  constructor
  · rfl
  · decide +kernel

/-- `xsd_one_element_per_class` applied (key letters of d1Ref distinct): DOG has exactly one element in Comp; without the
    reference row CAT (package Other) has none -/
example : ((classNodes (xsd d1Ref 6)).map (·.attr "name")).count (some "DOG") = 1 ∧
    ((classNodes (xsd { d1Ref with pkgrefs := [] } 6)).map (·.attr "name")).count (some "CAT") = 0 :=
  ⟨((xsd_one_element_per_class d1Ref 6).2 (by decide +kernel)
      ⟨2, "DOG", [⟨21, "tag", .base 51⟩, ⟨22, "color", .base 50⟩, ⟨23, "owner_id", .ref 1 11⟩], [⟨0, [21]⟩, ⟨1, []⟩], .pkg 5⟩ (by decide +kernel)).trans (by decide +kernel),
   ((xsd_one_element_per_class { d1Ref with pkgrefs := [] } 6).2 (by decide +kernel)
      ⟨4, "CAT", [⟨41, "id", .base 102⟩, ⟨42, "mood", .base 52⟩], [⟨0, [41]⟩], .pkg 7⟩ (by decide +kernel)).trans (by decide +kernel)⟩

/-- `xsd_one_attribute_per_supported` applied: Owner declares 2 of its 3 attributes (age is derived) -/
example : (classNodes (xsd d1 6)).map (fun n => (attributeNodes n).length) = [2, 3, 2] :=
  (xsd_one_attribute_per_supported d1 6).trans (by decide +kernel)

/-- `xsd_referential_typed_as_referred` applied: Dog.owner_id -> Owner.id is declared under its own name with Owner.id's type -/
example : xattr d1 ⟨23, "owner_id", .ref 1 11⟩ = some ⟨"owner_id", "integer"⟩ ∧
    (xattr d1 ⟨23, "owner_id", .ref 1 11⟩).map (·.ty) = (xattr d1 ⟨11, "id", .base 102⟩).map (·.ty) :=
  have h := xsd_referential_typed_as_referred d1 ⟨23, "owner_id", .ref 1 11⟩ ⟨11, "id", .base 102⟩ 1 11 rfl (by decide +kernel)
    (by intro c b h; cases h)
  ⟨h.1.trans (by decide +kernel), h.2 rfl⟩

/-- `xsd_referential_dangling_omitted` applied: Leash.front2 -> Dog.owner_id (itself referential) is omitted -/
example : xattr d1 ⟨33, "front2", .ref 2 23⟩ = none :=
  xsd_referential_dangling_omitted d1 _ 2 23 rfl (by
    intro ba h
    have h' : (findClass d1 2).bind (fun k => k.findAttr 23) = some ⟨23, "owner_id", .ref 1 11⟩ := by decide +kernel
    rw [h'] at h; cases h; exact ⟨1, 11, rfl⟩)

/-- the recursion is really executed: with ONE activation allowed the call for Dog.owner_id is stuck (the body calls itself
    for Owner.id), with two it returns Owner.id -/
example : (selfRec d1 0 get_refered_attribute 1 "get_refered_attribute" [.ent (.attr ⟨23, "owner_id", .ref 1 11⟩)]).isNone = true ∧
    selfRec d1 0 get_refered_attribute 2 "get_refered_attribute" [.ent (.attr ⟨23, "owner_id", .ref 1 11⟩)] =
      some (.ent (.attr ⟨11, "id", .base 102⟩)) :=
  ⟨by decide +kernel, (get_refered_attribute_recursion_as_in_source d1 0 0 _).trans (by
    have : referred d1 ⟨23, "owner_id", .ref 1 11⟩ = ⟨11, "id", .base 102⟩ := by decide +kernel
    rw [this])⟩

/-- `main_select_as_in_source` applied: `-c Comp` writes the model's tree, `-c Nope` exits with status 1; a MUTATED shape
    (select_many for select_any) means nothing -/
example : interpMain d1 9 mainShape "Comp" = some (.written (xsd d1 6)) ∧
    interpMain d1 9 mainShape "Nope" = some (.exit 1) ∧
    (interpMain d1 9 { mainShape with selectFn := "select_many" } "Comp").isNone = true := by
  refine ⟨?_, ?_, by decide +kernel⟩
  · refine (main_select_as_in_source d1 9 "Comp" ?_).trans ?_
    · intro k hk
      have h : d1.containers.find? (fun k => k.isComp && k.name == "Comp") = some compK := by decide +kernel
      rw [h] at hk; cases hk; decide +kernel
    · have h : xsdByName d1 "Comp" = some (xsd d1 6) := by
        unfold xsdByName
        have h : d1.containers.find? (fun k => k.isComp && k.name == "Comp") = some compK := by decide +kernel
        rw [h]; rfl
      rw [h]
  · refine (main_select_as_in_source d1 9 "Nope" ?_).trans ?_
    · intro k hk
      have h : d1.containers.find? (fun k => k.isComp && k.name == "Nope") = none := by decide +kernel
      rw [h] at hk; cases hk
    · rw [xsd_unknown_component d1 "Nope" (by decide +kernel)]

end SourceShape

end PyxProps.C20
