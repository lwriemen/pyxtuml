import Proofs.Attr
import Proofs.AttrShape

/-!
  C10 — Names are case-insensitive and every spelling addresses one stored value.
  Property theorems only (model: PyxModel/Attr.lean, written from
  xtuml/meta.py `Class.__getattr__/__setattr__/__delattr__`, `MetaClass.new`, `MetaModel.find_metaclass/
  define_class`, `WhereEqual`).  Names are ASCII; `fold` is `str.upper()` on ASCII.

  `one_cell` covers EVERY history of writes, reads and deletes, of any length, under any spellings: writes to
  a referential attribute are rejected and change nothing, a delete of an attribute that holds no value (a
  referential attribute never does) is rejected with AttributeError and changes nothing, names that are no
  spelling of a declared attribute live in cells of their own.  After a delete, a read raises AttributeError
  (`cellRead none`).  Hypotheses: the declared names of the class are distinct after case folding, referential
  names are declared names (`WF`), and the initial dictionary is `Good` (as every constructor leaves it).
-/
namespace PyxProps.C10
open Pyx.Attr

/-- After ANY history, with independently chosen spellings at every step: the dictionary holds no key that
    folds to a declared name other than the declared name itself (and no referential key); reading a
    non-referential attribute under EVERY spelling yields the last value written to its case-folded name
    (AttributeError when the last event was a delete); that is also what `serialize_instance` reads (it reads
    under the declared name) and what a `where_eq` item under any spelling compares against.  Every prefix of a
    history is a history, so this holds at every moment: `__dict__` NEVER holds a stray spelling. -/
theorem one_cell (c : Cls) (hwf : WF c) (d0 : Dict) (hg : Good c d0) (h : List Op) :
    Good c (run c d0 h) ∧
    ∀ a ∈ c.names, a ∉ c.refs → ∀ sp, fold sp = fold a →
      getattr c (run c d0 h) sp = cellRead (lastValue c (fold a) (dget d0 a) h) ∧
      getattr c (run c d0 h) sp = getattr c (run c d0 h) a ∧
      ∀ v, whereItemHolds c (run c d0 h) sp v = decide (lastValue c (fold a) (dget d0 a) h = some v) := by
  obtain ⟨hg', hall⟩ := run_read hwf d0 hg h
  refine ⟨hg', ?_⟩
  intro a ha hr sp hf
  have h1 := (hall a ha).2 hr sp hf
  refine ⟨h1, h1.trans ((hall a ha).2 hr a rfl).symm, ?_⟩
  intro v
  unfold whereItemHolds
  rw [h1]
  cases lastValue c (fold a) (dget d0 a) h <;> simp [cellRead]

/-- what a delete does, in every reachable (`Good`) state and under ANY spelling `sp` of a declared attribute `a`:
    if `a` holds a value exactly its key is removed; if it holds none — in particular when `a` is referential —
    AttributeError is raised and the dictionary is untouched (no other attribute loses its value) -/
theorem delete_spec (c : Cls) (d : Dict) (hg : Good c d) (a : Name) (ha : a ∈ c.names)
    (sp : Name) (hf : fold sp = fold a) :
    (dget d a ≠ none → delattr d sp = (ddel d a, DelRes.ok)) ∧
    (dget d a = none → delattr d sp = (d, DelRes.attrError)) ∧
    (a ∈ c.refs → delattr d sp = (d, DelRes.attrError)) := by
  rw [delattr_good hg ha hf]
  refine ⟨fun hp => if_neg hp, fun hp => if_pos hp, fun hr => if_pos ?_⟩
  exact (dget_none_iff d a).mpr (fun hk => hg.2 a hk hr)

/-- `serialize_instance` after any history: per declared attribute the cell (the property for a
    referential attribute) -/
theorem serialised_is_cell (c : Cls) (hwf : WF c) (d0 : Dict) (hg : Good c d0) (h : List Op) :
    serialReads c (run c d0 h) = c.names.map fun a =>
      if a ∈ c.refs then Read.prop a else cellRead (lastValue c (fold a) (dget d0 a) h) := by
  unfold serialReads
  apply List.map_congr_left
  intro a ha
  by_cases hr : a ∈ c.refs
  · simp [getattr, hr]
  · rw [if_neg hr]
    exact ((one_cell c hwf d0 hg h).2 a ha hr a rfl).1

/-- writing a referential attribute under ANY spelling raises the metamodel exception and changes nothing;
    `Good` holds in every state reachable by any history (`one_cell`), so this applies at any moment -/
theorem referential_write_rejected (c : Cls) (hwf : WF c) (d : Dict) (hg : Good c d) (a : Name)
    (hr : a ∈ c.refs) (sp : Name) (hf : fold sp = fold a) (v : Val) :
    setattr c d sp v = (d, SetRes.metaExc) := setattr_ref_any hwf d v hr hf

/-- an instance that existed BEFORE the association was formalised keeps the value it was created with in `__dict__`
    under the declared name (`NoStray`, not `Good`): the property shadows it under EVERY spelling - reads go to the
    property, writes are refused and change nothing (`Class.__getattr__` / `__setattr__` go through
    `object.__getattribute__` / `object.__setattr__` under the DECLARED name, so the stale dictionary entry is never reached) -/
theorem late_formalised_shadowed (c : Cls) (hwf : WF c) (d : Dict) (hn : NoStray c d) (a : Name)
    (hr : a ∈ c.refs) (sp : Name) (hf : fold sp = fold a) (v : Val) :
    getattr c d sp = Read.prop a ∧ setattr c d sp v = (d, SetRes.metaExc) :=
  ⟨getattr_ref_shadow hwf hn hr hf, setattr_ref_any hwf d v hr hf⟩

/-- constructor arguments: defaults (under declared names), positional values and keywords under ANY names and
    spellings act as one history of writes on the cells — the constructor never raises, leaves a good
    dictionary, and each non-referential attribute reads (under every spelling) the last value assigned to its
    case-folded name; items that name a referential attribute (keywords in any spelling) go to the local
    dictionary that drives the batch relate and are not written -/
theorem constructor_keywords_one_cell (c : Cls) (hwf : WF c) (defaults : List (Name × Val)) (args : List Val)
    (kwargs : List (Name × Val)) (hd : ∀ it ∈ defaults, it.1 ∈ c.names) :
    (newCore c defaults args kwargs).2 = SetRes.ok ∧
    Good c (newCore c defaults args kwargs).1.dict ∧
    ∀ a ∈ c.names, a ∉ c.refs → ∀ sp, fold sp = fold a →
      getattr c (newCore c defaults args kwargs).1.dict sp =
        cellRead (lastValue c (fold a) none (writesOf c (newItems c defaults args kwargs))) := by
  obtain ⟨rd, hass⟩ := assignAll_resolved hwf _ ⟨[], []⟩ (newItems_resolved c args kwargs hd)
  unfold newCore
  rw [hass]
  obtain ⟨hg, hall⟩ := one_cell c hwf [] (good_nil c) (writesOf c (newItems c defaults args kwargs))
  refine ⟨rfl, hg, ?_⟩
  intro a ha hr sp hf
  exact (hall a ha hr sp hf).1

/-- a constructor keyword may be spelled in any letter case, for non-referential AND referential attributes:
    every spelling of a declared name is first replaced by the declared name, and the constructor only ever sees
    the replaced list — so `new(…, a_id=1)` and `new(…, A_Id=1)` are the same call -/
theorem constructor_keyword_spelling (c : Cls) (hwf : WF c) :
    (∀ a ∈ c.names, ∀ sp, fold sp = fold a → ∀ v, resolveKw c (sp, v) = (a, v)) ∧
    (∀ defaults args kwargs, newCore c defaults args kwargs = newCore c defaults args (kwargs.map (resolveKw c))) := by
  constructor
  · intro a ha sp hf v
    unfold resolveKw
    rw [declMatch_eq hwf ha hf]; rfl
  · intro defaults args kwargs
    have hidem : ∀ kw, resolveKw c (resolveKw c kw) = resolveKw c kw := by
      intro kw
      unfold resolveKw
      cases hd : declMatch c kw.1 with
      | none => simp [hd]
      | some a =>
        have h1 : declMatch c a = declMatch c kw.1 := by
          unfold declMatch; rw [(declMatch_some hd).2]
        simp [h1, hd]
    unfold newCore newItems
    rw [List.map_map]
    congr 2
    apply List.map_congr_left
    intro kw _
    exact (hidem kw).symm

/-- class names: after ANY sequence of `define_class` calls, `find_metaclass` under every spelling of a kind
    returns the first class defined under that case-folded name (a later definition under another spelling is
    rejected), and two spellings of one kind always address the same class -/
theorem class_lookup_case (defs : List (Name × List (Name × Name))) (k1 k2 : Name) (hk : fold k1 = fold k2) :
    findMetaclass (defineAll [] defs) k1 = findMetaclass (defineAll [] defs) k2 ∧
    findMetaclass (defineAll [] defs) k1 = firstDef (fold k1) defs := by
  unfold findMetaclass
  refine ⟨by rw [hk], ?_⟩
  rw [defineAll_get]
  rfl

/-- redefinition under another spelling is rejected with the metamodel exception -/
theorem define_class_case (cs : Classes) (k1 k2 : Name) (hk : fold k1 = fold k2) (as1 as2 : List (Name × Name))
    (cs' : Classes) (h : defineClass cs k1 as1 = some cs') : defineClass cs' k2 as2 = none := by
  unfold defineClass at h ⊢
  cases hg : clsGet cs (fold k1) with
  | some c => simp [hg] at h
  | none =>
    cases hd : badNames (as1.map (·.1)) with
    | true => simp [hg, hd] at h
    | false =>
      simp only [hg, hd, Bool.false_eq_true, ↓reduceIte, Option.some.injEq] at h
      subst h
      rw [← hk, clsGet_append_self cs _ _ hg]

/-- a class whose attribute names coincide apart from letter case, or one of whose attribute names python reserves for
    itself (`__x__`, longer than four characters), is rejected and nothing is defined; a class that `define_class`
    accepts therefore satisfies the hypothesis `WF` of the theorems above (its declared names are distinct after case
    folding; it has no referential attributes yet) and has no reserved attribute name -/
theorem define_class_checks_names (cs cs' : Classes) (k : Name) (attrs : List (Name × Name)) :
    (dupFold (attrs.map (·.1)) = true → defineClass cs k attrs = none) ∧
    ((∃ a ∈ attrs, isReserved a.1 = true) → defineClass cs k attrs = none) ∧
    (defineClass cs k attrs = some cs' →
      WF { kind := k, attrs := attrs, refs := [] } ∧ findMetaclass cs' k = some { kind := k, attrs := attrs, refs := [] } ∧
      ∀ a ∈ attrs, isReserved a.1 = false) := by
  refine ⟨?_, ?_, ?_⟩
  · intro hd
    unfold defineClass badNames
    cases clsGet cs (fold k) <;> simp [hd]
  · intro ⟨a, ha, hr⟩
    have : (attrs.map (·.1)).any isReserved = true := by
      rw [List.any_eq_true]
      exact ⟨a.1, List.mem_map_of_mem ha, hr⟩
    unfold defineClass badNames
    cases clsGet cs (fold k) <;> simp [this]
  · intro h
    unfold defineClass at h
    cases hg : clsGet cs (fold k) with
    | some c => simp [hg] at h
    | none =>
      cases hd : badNames (attrs.map (·.1)) with
      | true => simp [hg, hd] at h
      | false =>
        simp only [hg, hd, Bool.false_eq_true, ↓reduceIte, Option.some.injEq] at h
        subst h
        unfold badNames at hd
        rw [Bool.or_eq_false_iff] at hd
        refine ⟨⟨nodup_of_not_dupFold _ hd.2, fun r hr => by simp at hr⟩, ?_, ?_⟩
        · unfold findMetaclass
          exact clsGet_append_self cs _ _ hg
        · intro a ha
          cases hr : isReserved a.1 with
          | false => rfl
          | true =>
            have : (attrs.map (·.1)).any isReserved = true := by
              rw [List.any_eq_true]
              exact ⟨a.1, List.mem_map_of_mem ha, hr⟩
            rw [this] at hd
            exact Bool.noConfusion hd.1

/-- creation and selection address the class through `find_metaclass`: every spelling behaves the same -/
theorem new_select_case (w : World) (k1 k2 : Name) (hk : fold k1 = fold k2) (args : List Val)
    (kwargs filt : List (Name × Val)) :
    newInst w k1 args kwargs = newInst w k2 args kwargs ∧ selectMany w k1 filt = selectMany w k2 filt := by
  unfold newInst newInstWith selectMany findMetaclass
  rw [hk]
  exact ⟨rfl, rfl⟩

/-! non-vacuity: a concrete class, dictionary and history meeting the hypotheses -/

def cB : Cls :=
  { kind := ['B', 'b']
    attrs := [(['I', 'd'], ['u', 'n', 'i', 'q', 'u', 'e', '_', 'i', 'd']), (['N', 'm'], ['s', 't', 'r', 'i', 'n', 'g']),
              (['A', '_', 'I', 'd'], ['u', 'n', 'i', 'q', 'u', 'e', '_', 'i', 'd'])]
    refs := [['A', '_', 'I', 'd']] }
def dB : Dict := [(['I', 'd'], .int 7), (['N', 'm'], .str [])]
def hB : List Op :=
  [.write ['N', 'M'] (.int 1), .write ['n', 'm'] (.int 2), .read ['n', 'M'], .write ['a', '_', 'i', 'D'] (.int 9),
   .delete ['n', 'M'], .delete ['N', 'M'], .delete ['a', '_', 'I', 'D'], .write ['n', 'M'] (.int 3),
   .write ['i', 'D'] (.int 4), .delete ['z', 'z']]

example : WF cB := by unfold WF; decide +kernel
example : Good cB dB := by unfold Good; decide +kernel
example : run cB dB hB = [(['I', 'd'], .int 4), (['N', 'm'], .int 3)] := by decide +kernel
example : getattr cB (run cB dB hB) ['N', 'M'] = .val (.int 3) ∧ fold ['n', 'M'] = fold ['N', 'm'] := by decide +kernel
/-- a delete that finds no value (second delete of the same
    attribute, delete of a referential attribute, delete on an empty dictionary) raises AttributeError and
    removes nothing -/
example : delattr [(['I', 'd'], .int 7)] ['n', 'M'] = ([(['I', 'd'], .int 7)], .attrError) := by decide +kernel
example : delattr dB ['a', '_', 'i', 'D'] = (dB, .attrError) := by decide +kernel
example : delattr [] ['z', 'z'] = ([], .attrError) := by decide +kernel
/-- … and a constructor keyword for a referential attribute is recognised in any spelling -/
example : (newCore cB [] [] [(['a', '_', 'i', 'd'], .int 1)]) = (⟨[], [(['A', '_', 'I', 'd'], .int 1)]⟩, .ok) ∧
    (newCore cB [] [] [(['A', '_', 'I', 'd'], .int 1)]) = (⟨[], [(['A', '_', 'I', 'd'], .int 1)]⟩, .ok) := by decide +kernel

end PyxProps.C10

/-! SOURCE TIE of case-insensitive name handling

  translator/gen_attrshape.py reads `Class.__getattr__ / __setattr__ / __delattr__`, `MetaClass.attribute_type` and
  `MetaModel.find_metaclass / find_class / define_class` with `ast` on every run and emits their statement structure
  as IR (lean/Gen/AttrShape.lean): how names are matched, under which spelling `__dict__` is tested, read and written,
  where `object.__setattr__` (and with it the refusing property of a referential attribute) is reached, which key of
  the class table is upper-cased.  Anything outside the expected shape raises (broken tie).  Proofs/AttrShape.lean
  defines ONE generic interpreter; Python's own `object.__getattribute__ / __setattr__` and "the hook runs after the
  normal lookup failed" are fixed there.  The theorems state that the model of PyxModel/Attr.lean IS the
  interpretation of the IR generated from the current source. -/
namespace PyxProps.C10
open Pyx.Attr Pyx.AShape Pyx.Gen.AttrShape

theorem attribute_access_as_in_source (c : Cls) (d : Dict) (sp : Name) (v : Val) :
    iGetattr getShape c d sp = some (getattr c d sp) ∧
    setattr c d sp v = iSetattr setShape c d sp v ∧
    delattr d sp = iDelattr delMatch d sp ∧
    attrType c sp = iAttrType attributeTypeMatch c sp :=
  ⟨getattr_eq c d sp, setattr_eq c d sp v, delattr_eq d sp, attrType_eq c sp⟩

theorem class_table_as_in_source (cs : Classes) (kind : Name) (attrs : List (Name × Name)) :
    findMetaclass cs kind = iFind findTestKey findReadKey cs kind ∧
    defineClass cs kind attrs =
      iDefine defineTestKey defineStoredKind defineStoreKey defineAttrCollision defineReserved cs kind attrs :=
  ⟨findMetaclass_eq cs kind, defineClass_eq cs kind attrs⟩

/-! non-vacuity: the interpreter runs the generated shapes; other shapes are other functions (a write that stored
    under the GIVEN spelling after overwriting, a duplicate test on the name as given) -/
example : iGetattr getShape cB dB ['N', 'M'] = some (.val (.str [])) ∧ iGetattr getShape cB dB ['a', '_', 'i', 'd'] = some (.prop ['A', '_', 'I', 'd']) ∧
    iSetattr setShape cB dB ['n', 'M'] (.int 5) = ([(['I', 'd'], .int 7), (['N', 'm'], .int 5)], .ok) ∧
    iSetattr setShape cB dB ['a', '_', 'i', 'd'] (.int 5) = (dB, .metaExc) ∧
    iDelattr delMatch dB ['I', 'D'] = ([(['N', 'm'], .str [])], .ok) := by decide +kernel
/-- a fall-through `return self.__dict__[name]` is another function: an unknown name gives KeyError (`none`) where the source
    gives AttributeError; so is a matched branch that reads under the GIVEN spelling while it tested the declared one -/
example : iGetattr getShape cB dB ['z', 'z'] = some .attrError ∧
    iGetattr { getShape with noMatch := .dictValueGiven } cB dB ['z', 'z'] = none ∧
    iGetattr { getShape with inDict := .dictValue .given } cB dB ['N', 'M'] = none := by decide +kernel
example : iSetattr { setShape with inDict := .dictStore .given } cB dB ['n', 'M'] (.int 5) =
    ([(['I', 'd'], .int 7), (['N', 'm'], .str []), (['n', 'M'], .int 5)], .ok) := by decide +kernel
example : iDefine .asGiven defineStoredKind defineStoreKey defineAttrCollision defineReserved [(['A', 'B'], cB)] ['a', 'b'] [] ≠ none ∧
    iDefine defineTestKey defineStoredKind defineStoreKey defineAttrCollision defineReserved [(['A', 'B'], cB)] ['a', 'b'] [] = none ∧
    iDefine defineTestKey defineStoredKind defineStoreKey defineAttrCollision defineReserved [] ['C'] [(['N', 'm'], ['s']), (['n', 'M'], ['s'])] = none ∧
    iDefine defineTestKey defineStoredKind defineStoreKey none defineReserved [] ['C'] [(['N', 'm'], ['s']), (['n', 'M'], ['s'])] ≠ none := by decide +kernel
/-- reserved names: `__class__` is refused, `____` (four characters) and `__a` are not; without the check (IR `none`), or
    with another length bound, it is another function -/
example : iDefine defineTestKey defineStoredKind defineStoreKey defineAttrCollision defineReserved [] ['C']
      [(['_', '_', 'c', 'l', 'a', 's', 's', '_', '_'], ['s'])] = none ∧
    iDefine defineTestKey defineStoredKind defineStoreKey defineAttrCollision none [] ['C']
      [(['_', '_', 'c', 'l', 'a', 's', 's', '_', '_'], ['s'])] ≠ none ∧
    iDefine defineTestKey defineStoredKind defineStoreKey defineAttrCollision defineReserved [] ['C']
      [(['_', '_', '_', '_'], ['s']), (['_', '_', 'a'], ['s'])] ≠ none ∧
    iDefine defineTestKey defineStoredKind defineStoreKey defineAttrCollision (some { minLen := 3, pre := ['_', '_'], suf := ['_', '_'] })
      [] ['C'] [(['_', '_', '_', '_'], ['s'])] = none := by decide +kernel
example : isReserved ['_', '_', 'x', '_', '_'] = true ∧ isReserved ['_', '_', '_', '_'] = false ∧
    isReserved ['_', '_', 'i', 'n', 'i', 't', '_'] = false ∧ isReserved ['I', 'd'] = false := by decide +kernel

end PyxProps.C10

/-! the main theorems instantiated, every hypothesis discharged for the concrete class `cB` (three attributes, one
  referential), dictionary `dB` and history `hB` above -/
namespace PyxProps.C10
open Pyx.Attr

theorem cB_wf : WF cB := by unfold WF; decide +kernel
/-- `late_formalised_shadowed` applied: the dictionary of an instance created before `formalize` (it stores A_Id = 2) -/
def dLate : Dict := dB ++ [(['A', '_', 'I', 'd'], .int 2)]
example : NoStray cB dLate ∧ ¬ Good cB dLate := by unfold NoStray Good; decide +kernel
example : getattr cB dLate ['a', '_', 'i', 'd'] = Read.prop ['A', '_', 'I', 'd'] ∧
    setattr cB dLate ['a', '_', 'i', 'd'] (.int 5) = (dLate, SetRes.metaExc) :=
  late_formalised_shadowed cB cB_wf dLate (by unfold NoStray; decide +kernel) ['A', '_', 'I', 'd'] (by decide +kernel) ['a', '_', 'i', 'd'] (by decide +kernel) (.int 5)
theorem dB_good : Good cB dB := by unfold Good; decide +kernel

/-- `one_cell` on (cB, dB, hB): after the history the attribute `Nm`, read under the spelling `nM`, holds the last value
    written to its case-folded name, which is what the declared spelling reads -/
example : getattr cB (run cB dB hB) ['n', 'M'] = cellRead (lastValue cB (fold ['N', 'm']) (dget dB ['N', 'm']) hB) ∧
    getattr cB (run cB dB hB) ['n', 'M'] = getattr cB (run cB dB hB) ['N', 'm'] :=
  let h := (one_cell cB cB_wf dB dB_good hB).2 ['N', 'm'] (by decide +kernel) (by decide +kernel) ['n', 'M'] (by decide +kernel)
  ⟨h.1, h.2.1⟩
/-- `delete_spec` on the reached state (it is `Good` by `one_cell`): a delete under `ID` removes exactly the key `Id`; a
    delete of the referential attribute under another spelling raises AttributeError and changes nothing -/
example : delattr (run cB dB hB) ['I', 'D'] = (ddel (run cB dB hB) ['I', 'd'], DelRes.ok) ∧
    delattr (run cB dB hB) ['a', '_', 'i', 'D'] = (run cB dB hB, DelRes.attrError) :=
  ⟨(delete_spec cB _ (one_cell cB cB_wf dB dB_good hB).1 ['I', 'd'] (by decide +kernel) ['I', 'D'] (by decide +kernel)).1 (by decide +kernel),
   (delete_spec cB _ (one_cell cB cB_wf dB dB_good hB).1 ['A', '_', 'I', 'd'] (by decide +kernel) ['a', '_', 'i', 'D'] (by decide +kernel)).2.2
     (by decide +kernel)⟩
/-- `constructor_keywords_one_cell` and `constructor_keyword_spelling` on `new(B, 7, nM='x')`: the constructor succeeds, the
    dictionary is good, `Nm` reads under `NM` the keyword value, and the keyword resolves to the declared name -/
example : (newCore cB [(['I', 'd'], .int 1), (['N', 'm'], .str [])] [.int 7] [(['n', 'M'], .str ['x'])]).2 = SetRes.ok ∧
    getattr cB (newCore cB [(['I', 'd'], .int 1), (['N', 'm'], .str [])] [.int 7] [(['n', 'M'], .str ['x'])]).1.dict ['N', 'M'] =
      cellRead (lastValue cB (fold ['N', 'm']) none
        (writesOf cB (newItems cB [(['I', 'd'], .int 1), (['N', 'm'], .str [])] [.int 7] [(['n', 'M'], .str ['x'])]))) ∧
    resolveKw cB (['n', 'M'], .str ['x']) = (['N', 'm'], .str ['x']) :=
  let h := constructor_keywords_one_cell cB cB_wf [(['I', 'd'], .int 1), (['N', 'm'], .str [])] [.int 7]
    [(['n', 'M'], .str ['x'])] (by decide +kernel)
  ⟨h.1, h.2.2 ['N', 'm'] (by decide +kernel) (by decide +kernel) ['N', 'M'] (by decide +kernel),
   (constructor_keyword_spelling cB cB_wf).1 ['N', 'm'] (by decide +kernel) ['n', 'M'] (by decide +kernel) _⟩
/-- `define_class_checks_names` and `class_lookup_case` applied: the class defined as `Bb` with cB's attributes is WF and is
    found under `bB`; with a reserved attribute name it is refused -/
example : (∀ cs', defineClass [] ['B', 'b'] cB.attrs = some cs' → WF { kind := ['B', 'b'], attrs := cB.attrs, refs := [] }) ∧
    defineClass [] ['B', 'b'] [(['_', '_', 'x', '_', '_'], ['s'])] = none :=
  ⟨fun cs' h => ((define_class_checks_names [] cs' ['B', 'b'] cB.attrs).2.2 h).1,
   (define_class_checks_names [] [] ['B', 'b'] [(['_', '_', 'x', '_', '_'], ['s'])]).2.1 ⟨_, List.mem_singleton.mpr rfl, by decide +kernel⟩⟩

end PyxProps.C10
