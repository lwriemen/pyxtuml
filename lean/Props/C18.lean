import Proofs.LoadHeapRun
import PyxModel.LoadSharing

/-!
# C18 — One loader builds independent metamodels

The model (PyxModel/LoadHeap.lean) makes sharing explicit: the loader's statement list is the heap of
loader-owned list objects; a list-valued field of a built metamodel is either the metamodel's own copy or a
pointer to the statement's list; `Sharing` says which fields `build_metamodel` stores by reference, and the
value describing the code is GENERATED from the source (`Gen/Sharing.lean`: `byRef`, `buildReturnsFresh`,
`mutatorWrites`, by translator/gen_sharing.py).  Histories (`Op`) interleave `input`, `build` and mutations of
built metamodels in any way and at any length.
-/

namespace PyxProps.C18
open Pyx.Load Pyx.Heap

/-- each listed mutation (create — also `new` with referential arguments and its batch
    relate, `Mut.newArgs` — / delete / modify instance, relate / unrelate,
    append / insert / delete_attribute, define_unique_identifier) leaves every group of mutable objects of the
    metamodel outside its write set `Mut.writes` unchanged, never changes the class kinds, and writes a
    loader-owned object (a statement) only if it edits an attribute list that some class holds by reference. -/
theorem mutators_footprint (stmts : List Stmt) (o : HMeta) (μ : Mut) :
    (∀ f, f ∉ μ.writes → Unchanged f o (applyMut stmts o μ).1) ∧
    (applyMut stmts o μ).1.classes.map (·.kind) = o.classes.map (·.kind) ∧
    ((applyMut stmts o μ).2.1 = stmts ∨
      (Field.clsAttributes ∈ μ.writes ∧ ∃ c ∈ o.classes, ∃ idx, c.attrs = .stmt idx)) := by
  refine ⟨(applyMut_frame stmts o μ).2, (applyMut_frame stmts o μ).1, ?_⟩
  · unfold applyMut
    by_cases h : μ.isAttrEdit
    · simp only [h, if_true]
      unfold applyAttrEdit
      cases hc : findHCls o.classes μ.attrKind with
      | none => exact Or.inl rfl
      | some c =>
        cases hr : c.attrs with
        | own v => left; simp [setAttrs, hr]
        | stmt idx =>
          right
          refine ⟨?_, c, findHCls_mem hc, idx, hr⟩
          rw [writes_of_attrEdit μ h]
          exact List.mem_singleton.mpr rfl
    · simp only [h, Bool.false_eq_true, if_false]
      exact Or.inl trivial

/-- (over the generated tables) the build returns a fresh metamodel object; the only
    statement-owned lists a built metamodel keeps by reference are the associations' key lists; no listed
    mutator writes an object through which a metamodel reaches a loader-owned list; and the write sets the
    model uses cover the write sets read off the source for every listed mutation. -/
theorem no_shared_write :
    Pyx.Gen.Sharing.buildReturnsFresh = true ∧
    genSharing.classAttrsByRef = false ∧
    genByRef "CreateUniqueStmt" "attributes" = [] ∧
    genByRef "CreateInstanceStmt" "values" = [] ∧
    genByRef "CreateInstanceStmt" "names" = [] ∧
    genByRef "CreateAssociationStmt" "source_keys" ⊆ ["Association.source_keys"] ∧
    genByRef "CreateAssociationStmt" "target_keys" ⊆ ["Association.target_keys"] ∧
    (∀ μ : Mut, ∀ f ∈ μ.writes, f ∉ genSharing.sharedFields) ∧
    (∀ μ : Mut, ∃ ws, Pyx.Gen.Sharing.mutatorWrites.lookup μ.name = some ws ∧
        ∀ n ∈ ws, n ∈ μ.writes.flatMap Field.names) := by
  refine ⟨by decide, by decide +kernel, by decide +kernel, by decide +kernel, by decide +kernel, by decide +kernel,
    by decide +kernel, ?_, ?_⟩
  · exact Mut.of_samples (P := fun _ ws => ∀ f ∈ ws, f ∉ genSharing.sharedFields) (by decide +kernel)
  · exact Mut.of_samples (P := fun name ws => ∃ ws', Pyx.Gen.Sharing.mutatorWrites.lookup name = some ws' ∧
      ∀ n ∈ ws', n ∈ ws.flatMap Field.names) (by decide +kernel)

/-- whenever no class attribute list is stored by reference, then for every interleaving
    of inputs, builds and mutations, of any length, what is observable of the k-th built metamodel (its classes,
    attributes, identifiers, instances, key lists, links, id generator — with all pointers followed) is what the
    history restricted to the inputs accepted before its build, its build, and the mutations applied to itself
    produces. -/
theorem noninterference (sh : Sharing) (hs : sh.classAttrsByRef = false) (ops : List Op) (k : Nat) :
    observe (run sh ops) k = observe (run sh (project k 0 ops)) 0 := by
  obtain ⟨n', h⟩ := rel_run sh hs k ops 0 World.init World.init (rel_init k)
  exact observe_of_rel h

/-- ... in particular for the sharing relation generated from the code (`genSharing`) -/
theorem noninterference_gen (ops : List Op) (k : Nat) :
    observe (run genSharing ops) k = observe (run genSharing (project k 0 ops)) 0 :=
  noninterference genSharing no_shared_write.2.1 ops k

/-- the loader's statements are never changed by what happens to built metamodels, so a
    build at any point of any history yields what a fresh loader fed the same inputs yields. -/
theorem later_builds_fresh (sh : Sharing) (hs : sh.classAttrsByRef = false) (ops : List Op) :
    (run sh ops).stmts = inputsOf ops ∧
    (run sh (ops ++ [.build])).metas = (run sh ops).metas ++ [hbuild sh (inputsOf ops)] := by
  have hst : (run sh ops).stmts = inputsOf ops := by
    simpa [run, runFrom, World.init] using stmts_runFrom sh hs ops World.init good_init
  refine ⟨hst, ?_⟩
  simp only [run, List.foldl_append, List.foldl_cons, List.foldl_nil, step]
  have : (List.foldl (step sh) World.init ops).stmts = inputsOf ops := hst
  rw [this]

/-- `m_k.clone(instance of m_j)` (model: read every attribute of the instance through
    the chain of referential properties, then `new` on `m_k` with the values read) writes nothing but `m_k`: the
    loader's statements and every other metamodel — the source `m_j` included when `j ≠ k` — are as before, in
    every state a history can reach. -/
theorem clone_writes_target_only (sh : Sharing) (hs : sh.classAttrsByRef = false) (ops : List OpC)
    (k j : Nat) (kind : String) (id : Nat) :
    (stepC sh (runC sh ops) (.cloneInto k j kind id)).stmts = (runC sh ops).stmts ∧
    ∀ i, i ≠ k → (stepC sh (runC sh ops) (.cloneInto k j kind id)).metas[i]? = (runC sh ops).metas[i]? :=
  Pyx.Heap.clone_writes_target_only sh (runC sh ops) (good_runC sh hs ops) k j kind id

/-- histories may also clone instances from one built metamodel into another.  A clone
    into `m_k` is, for `m_k`, a `new` with the values read from the source at that moment (`resolveAll` makes this
    replacement along the history); with that reading, what is observable of `m_k` again depends only on the inputs
    accepted before its build, its build, and the mutations — clones into it included — applied to itself. -/
theorem noninterference_clone (sh : Sharing) (hs : sh.classAttrsByRef = false) (ops : List OpC) (k : Nat) :
    observe (runC sh ops) k = observe (run sh (project k 0 (resolveAll sh World.init ops))) 0 := by
  rw [runC_eq_run]
  exact noninterference sh hs _ k

/-! ## non-vacuity and necessity -/

def exSchema : List Stmt :=
  [ .cls "A" [("Id", .integer), ("B_Id", .integer)], .cls "B" [("Id", .integer), ("U", .uniqueId)],
    .assoc ⟨"R1", "A", true, true, ["B_Id"], "", "B", false, true, ["Id"], ""⟩,
    .insert "B" none [.int 7, .id 3], .insert "A" none [.int 1, .int 7] ]

def exOps : List Op :=
  [ .input exSchema, .build, .mutate 0 (.appendAttr "B" "z" .string), .mutate 0 (.new "B"),
    .input [.insert "B" none [.int 8, .id 4]], .build, .mutate 1 (.delete "A" 0), .mutate 0 (.relate 0 0 1) ]

/-- the history builds two metamodels and its projection onto the second one keeps 4 of the 8 operations -/
example : (run genSharing exOps).metas.length = 2 := by decide +kernel
example : (project 1 0 exOps).length = 4 := by decide +kernel
example : ((observe (run genSharing exOps) 1).map (fun o => o.classes.map (fun c => (c.kind, c.rows.length)))) =
    some [("A", 0), ("B", 2)] := by decide +kernel
example : ((observe (run genSharing exOps) 0).map (fun o => o.classes.map (fun c => (c.kind, c.attrs.length, c.rows.length)))) =
    some [("A", 2, 1), ("B", 3, 2)] := by decide +kernel

/-- `new` with a referential argument relates the new row (B_Id = 7 finds the B row with Id 7), and a clone of
    the A row of the first metamodel into the second one links there as well, leaving the first untouched -/
example :
    let ops : List OpC := [.op (.input exSchema), .op .build, .op .build,
      .op (.mutate 0 (.newArgs "A" [.int 2, .int 7])), .cloneInto 1 0 "A" 1]
    ((observe (runC genSharing ops) 0).map (fun o => o.assocs.map (fun a => (a.links.src 0)))) = some [[0, 1]] ∧
    ((observe (runC genSharing ops) 1).map (fun o => o.assocs.map (fun a => (a.links.src 0)))) = some [[0, 1]] := by
  decide +kernel

/-- necessity of the guard: if `define_class` kept the statement's attribute list, appending an attribute to a
    class of the first metamodel would show in the second one -/
example :
    let sh : Sharing := ⟨true, true⟩
    let ops : List Op := [.input exSchema, .build, .build, .mutate 0 (.appendAttr "B" "z" .string)]
    ((observe (run sh ops) 1).map (fun o => o.classes.map (fun c => c.attrs.length))) = some [2, 3] ∧
    ((observe (run sh (project 1 0 ops)) 0).map (fun o => o.classes.map (fun c => c.attrs.length))) = some [2, 2] := by
  decide +kernel

end PyxProps.C18
