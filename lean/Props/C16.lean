import Proofs.ReflexiveListing
import Proofs.QueryShapeMore
import Proofs.MetaDelete

/-!
  C16 — Reflexive sorting yields the succession order and terminates.
  Property theorems only.  Model: PyxModel/Reflexive.lean (`sort_reflexive` over two partner functions:
  `across` = partner across the given phrase, `back` = partner across the opposite phrase).
-/
namespace PyxProps.C16
open Pyx.Meta Pyx.Query Pyx.Reflexive

/-- a set made up of whole chains (any number of chains of any length; `chains` lists them in the
    set-order of their starting members): the result is every member exactly once, each chain contiguous,
    beginning with the member without partner across the phrase and continuing along the opposite phrase —
    for EVERY amount of fuel not smaller than the longest chain, i.e. the loop always terminates there -/
theorem sort_chains (across back : Inst → Option Inst) (set : List Inst) (chains : List (List Inst)) (fuel : Nat)
    (hch : ∀ c ∈ chains, IsChain across back c) (hnd : chains.flatten.Nodup)
    (hlen : ∀ c ∈ chains, c.length ≤ fuel)
    (hmem : ∀ x, x ∈ set ↔ x ∈ chains.flatten)
    (hheads : set.filter (fun x => (across x).isNone) = chains.filterMap List.head?) :
    sortReflexive across back set fuel = chains.flatten := by
  have hw := flatMap_walk_chains across back set fuel chains hch
    (fun c hc => (List.sublist_flatten_of_mem hc).nodup hnd) hlen
    (fun c hc x hx => (hmem x).2 (List.mem_flatten.mpr ⟨c, hc, hx⟩))
  simp only [sortReflexive, firsts, hheads]
  split
  · -- no heads: no chains, hence the empty set
    rename_i he
    rw [List.isEmpty_iff.1 he] at hw
    have hset : set = [] := List.eq_nil_iff_forall_not_mem.2 fun a ha => by
      have := (hmem a).1 ha
      rw [← hw] at this
      cases this
    subst hset
    exact hw
  · rw [hw]
    exact Pyx.OSet.dedupFirst_of_nodup hnd

/-- the same WITHOUT asking the caller for the right listing: for a duplicate-free set made up of whole chains, given in
    ANY order, some permutation of the chains lists them in the set-order of their heads, and the result is that
    permutation flattened (the hypothesis `hheads` of `sort_chains` can always be met: chains_listing_exists) -/
theorem sort_whole_chains (across back : Inst → Option Inst) (set : List Inst) (chains : List (List Inst)) (fuel : Nat)
    (hset : set.Nodup) (hch : ∀ c ∈ chains, IsChain across back c) (hnd : chains.flatten.Nodup)
    (hlen : ∀ c ∈ chains, c.length ≤ fuel) (hmem : ∀ x, x ∈ set ↔ x ∈ chains.flatten) :
    ∃ chains' : List (List Inst), chains'.Perm chains ∧
      set.filter (fun x => (across x).isNone) = chains'.filterMap List.head? ∧
      sortReflexive across back set fuel = chains'.flatten := by
  obtain ⟨cs, hp, hh⟩ := chains_listing_exists across back set chains hset hch hnd hmem
  refine ⟨cs, hp, hh, ?_⟩
  exact sort_chains across back set cs fuel (fun c hc => hch c (hp.mem_iff.mp hc))
    (hp.flatten.nodup_iff.mpr hnd) (fun c hc => hlen c (hp.mem_iff.mp hc))
    (fun x => (hmem x).trans (hp.flatten.mem_iff).symm) hh

/-- sorting across the OTHER phrase (the roles of the two partner functions swap) returns each chain in
    the reverse order: the reversed chains are chains of the swapped functions -/
theorem chain_reversed (across back : Inst → Option Inst) (c : List Inst) (h : IsChain across back c) :
    IsChain back across c.reverse := h.reverse

theorem sort_other_phrase_reverses (across back : Inst → Option Inst) (set : List Inst) (chains : List (List Inst))
    (fuel : Nat) (hch : ∀ c ∈ chains, IsChain across back c) (hnd : (chains.map List.reverse).flatten.Nodup)
    (hlen : ∀ c ∈ chains, c.length ≤ fuel)
    (hmem : ∀ x, x ∈ set ↔ x ∈ (chains.map List.reverse).flatten)
    (hheads : set.filter (fun x => (back x).isNone) = (chains.map List.reverse).filterMap List.head?) :
    sortReflexive back across set fuel = (chains.map List.reverse).flatten := by
  apply sort_chains back across set (chains.map List.reverse) fuel _ hnd _ hmem hheads
  · intro c hc
    obtain ⟨c', hc', rfl⟩ := List.mem_map.mp hc
    exact (hch c' hc').reverse
  · intro c hc
    obtain ⟨c', hc', rfl⟩ := List.mem_map.mp hc
    simpa using hlen c' hc'

/-- a single closed ring `f :: rest` (every member has a partner across the phrase, `back` leads once
    around and from the last member back to `f`), given as a set whose first member is `f`:
    returned once around starting at the set's first member -/
theorem sort_ring (across back : Inst → Option Inst) (set : List Inst) (f : Inst) (rest : List Inst) (fuel : Nat)
    (hfirst : set.head? = some f)
    (hadj : Adj (Succ across back) (f :: rest))
    (hclose : ∀ z, (f :: rest).getLast? = some z → back z = some f)
    (hnd : (f :: rest).Nodup) (hlen : rest.length < fuel)
    (hmem : ∀ x ∈ f :: rest, x ∈ set)
    (hall : ∀ x ∈ set, (across x).isSome) :
    sortReflexive across back set fuel = f :: rest := by
  unfold sortReflexive firsts
  have hfil : set.filter (fun x => (across x).isNone) = [] :=
    List.filter_eq_nil_iff.mpr fun x hx hn => by have := hall x hx; rw [Option.isNone_iff_eq_none.1 hn] at this; cases this
  obtain ⟨tl, rfl⟩ : ∃ tl, set = f :: tl := by
    cases set with
    | nil => cases hfirst
    | cons a tl => cases hfirst; exact ⟨tl, rfl⟩
  simp only [hfil, List.isEmpty_nil, ↓reduceIte, List.take_succ_cons, List.take_zero, List.flatMap_cons,
    List.flatMap_nil, List.append_nil]
  rw [walk_run across back (f :: tl) f rest f fuel hadj (fun y hy => Or.inr (hclose y hy))
    (List.nodup_cons.mp hnd).1 hlen hmem]
  exact Pyx.OSet.dedupFirst_of_nodup hnd

/-- the empty set yields the empty result, whatever the links -/
theorem sort_empty (across back : Inst → Option Inst) (fuel : Nat) : sortReflexive across back [] fuel = [] := rfl

/-- whatever the set (also arbitrary subsets of chains): the result is duplicate-free and only holds
    members of the set -/
theorem sort_subset (across back : Inst → Option Inst) (set : List Inst) (fuel : Nat) :
    (sortReflexive across back set fuel).Nodup ∧ ∀ x ∈ sortReflexive across back set fuel, x ∈ set := by
  refine ⟨Pyx.OSet.nodup_dedupFirst _, ?_⟩
  intro x hx
  unfold sortReflexive at hx
  rw [Pyx.OSet.mem_dedupFirst, List.mem_flatMap] at hx
  obtain ⟨first, _, hw⟩ := hx
  exact mem_walk hw

/-- the call always terminates: with injective links (what C02's invariant gives for a one-to-one
    association) over `N` instances, the loop started at ANY member `first < N` of ANY set ends within `N`
    iterations — giving it more fuel never changes the walk, hence never changes the result -/
theorem sort_terminates (back : Inst → Option Inst) (N : Nat)
    (hinj : ∀ a b c, back a = some c → back b = some c → a = b) (hbound : ∀ a b, back a = some b → b < N)
    (set : List Inst) (first : Inst) (hf : first < N) (fuel : Nat) (hfuel : N ≤ fuel) :
    walk back set first fuel first = walk back set first N first :=
  walk_fuel back set N hinj hbound first hf fuel N hfuel (Nat.le_refl N)

theorem sort_result_fuel_independent (across back : Inst → Option Inst) (N : Nat)
    (hinj : ∀ a b c, back a = some c → back b = some c → a = b) (hbound : ∀ a b, back a = some b → b < N)
    (set : List Inst) (hset : ∀ x ∈ set, x < N) (fuel : Nat) (hfuel : N ≤ fuel) :
    sortReflexive across back set fuel = sortReflexive across back set N :=
  sortReflexive_fuel across back N hinj hbound set hset fuel N hfuel (Nat.le_refl N)

/-- the injectivity hypothesis of `sort_terminates` is what C02's invariant provides for a one-to-one
    association: in every state satisfying `AInv` (every reachable state, C02 `inv_reachable`) the
    "first partner across the target link" function, and likewise across the source link, is injective -/
theorem links_injective_of_inv (a : AssocSpec) (l : ALinks) (hinv : AInv a l) :
    (a.srcMany = false → ∀ x y c, (l.tgt x).head? = some c → (l.tgt y).head? = some c → x = y) ∧
    (a.tgtMany = false → ∀ x y c, (l.src x).head? = some c → (l.src y).head? = some c → x = y) :=
  ⟨fun h x y c => tgt_head_injective hinv h x y c, fun h x y c => src_head_injective hinv h x y c⟩

/-! ### the state-level sort (`sortReflexiveSt`, what the driver runs) is the abstract one

  `ReflexiveAt sch i a k`: association number `i` is the reflexive association `a` on class `k`
  (srcKind = tgtKind = k, two different phrases), the link keys of class `k` are pairwise distinct (C09
  `link_dict_spec`) and no other association carries the same rel id (needed for the "other phrase" search,
  which takes the first link back to the class with that rel id and a different phrase). -/

/-- the two partner functions the sort obtains through `Query.navigate` are the heads of the association's
    link lists, and the phrase in the other direction is the association's other phrase -/
theorem reflexive_partners (sch : Schema) (i : Nat) (a : AssocSpec) (k : Kind) (h : ReflexiveAt sch i a k)
    (s : State) (x : Inst) (hx : s.kindOf x = k) :
    partner sch s k a.rel a.srcPhrase x = ((s.links i).tgt x).head? ∧
    partner sch s k a.rel a.tgtPhrase x = ((s.links i).src x).head? ∧
    otherPhrase sch k a.rel a.srcPhrase = some a.tgtPhrase ∧
    otherPhrase sch k a.rel a.tgtPhrase = some a.srcPhrase :=
  ⟨by rw [partner, navigate_srcPhrase h s x hx], by rw [partner, navigate_tgtPhrase h s x hx],
   otherPhrase_of h _ _ (Or.inl ⟨rfl, rfl⟩), otherPhrase_of h _ _ (Or.inr ⟨rfl, rfl⟩)⟩

/-- termination at state level.  In every state that satisfies C02's invariant `Inv`, holds links only between
    instances of the right classes (`Typed`) and only between live instances (`LiveOnly`: partners are
    `< s.count`), for a ONE-TO-ONE reflexive association and any set of instances of class `k` below `s.count`:
    the state-level sort under either phrase returns the abstract `sortReflexive` of the two link-head functions
    for EVERY fuel ≥ `s.count` — the fuel `s.count + 1` the model uses is never exhausted -/
theorem sort_terminates_state (sch : Schema) (i : Nat) (a : AssocSpec) (k : Kind) (h : ReflexiveAt sch i a k)
    (hone : a.srcMany = false ∧ a.tgtMany = false) (s : State) (hinv : Inv sch s) (ht : Typed sch s) (hl : LiveOnly s)
    (set : List Inst) (hk : ∀ x ∈ set, s.kindOf x = k) (hb : ∀ x ∈ set, x < s.count) (fuel : Nat) (hf : s.count ≤ fuel) :
    sortReflexiveSt sch s set a.rel a.srcPhrase =
      some (sortReflexive (fun x => ((s.links i).tgt x).head?) (fun x => ((s.links i).src x).head?) set fuel) ∧
    sortReflexiveSt sch s set a.rel a.tgtPhrase =
      some (sortReflexive (fun x => ((s.links i).src x).head?) (fun x => ((s.links i).tgt x).head?) set fuel) := by
  have hai : AInv a (s.links i) := specAt_of_get h.get ▸ hinv i
  have hsym : ∀ x y, y ∈ (s.links i).src x ↔ x ∈ (s.links i).tgt y := hai.1
  -- `Typed` and `LiveOnly`: a partner is again of class `k` and below `s.count`, the `hrange` of `sortReflexiveSt_spec`
  have hpair : ∀ x y, y ∈ (s.links i).src x → (s.kindOf x = k ∧ s.kindOf y = k) ∧ x < s.count ∧ y < s.count := by
    intro x y hy
    obtain ⟨b, hb', h1, h2⟩ := ht i x y hy
    cases h.get.symm.trans hb'
    exact ⟨⟨h1.trans h.tgt, h2.trans h.src⟩, (hl i x y hy).1.1, (hl i x y hy).2.1⟩
  have hS : ∀ x y, ((s.links i).src x).head? = some y → s.kindOf y = k ∧ y < s.count :=
    fun x y hy => ⟨(hpair x y (List.mem_of_mem_head? hy)).1.2, (hpair x y (List.mem_of_mem_head? hy)).2.2⟩
  have hT : ∀ x y, ((s.links i).tgt x).head? = some y → s.kindOf y = k ∧ y < s.count :=
    fun x y hy => ⟨(hpair y x ((hsym y x).2 (List.mem_of_mem_head? hy))).1.1,
      (hpair y x ((hsym y x).2 (List.mem_of_mem_head? hy))).2.1⟩
  exact
    ⟨sortReflexiveSt_spec (otherPhrase_of h _ _ (Or.inl ⟨rfl, rfl⟩)) (navigate_srcPhrase h s) (navigate_tgtPhrase h s) hS
      (src_head_injective hai hone.2) set hk hb fuel hf,
     sortReflexiveSt_spec (otherPhrase_of h _ _ (Or.inr ⟨rfl, rfl⟩)) (navigate_tgtPhrase h s) (navigate_srcPhrase h s) hT
      (tgt_head_injective hai hone.1) set hk hb fuel hf⟩

/-- … hence in every reachable state: for ANY history of operations (on any arguments; `relate` itself rejects an
    instance that is not in its pool, C02 `relate_on_deleted_rejected`) over a well-formed schema, the state-level sort
    terminates with the abstract result -/
theorem sort_reachable (sch : Schema) (hok : SchemaOk sch) (i : Nat) (a : AssocSpec) (k : Kind)
    (h : ReflexiveAt sch i a k) (hone : a.srcMany = false ∧ a.tgtMany = false) (ops : List Op)
    (set : List Inst) (hk : ∀ x ∈ set, (run sch ops).kindOf x = k) (hb : ∀ x ∈ set, x < (run sch ops).count)
    (fuel : Nat) (hf : (run sch ops).count ≤ fuel) :
    sortReflexiveSt sch (run sch ops) set a.rel a.srcPhrase =
      some (sortReflexive (fun x => (((run sch ops).links i).tgt x).head?)
        (fun x => (((run sch ops).links i).src x).head?) set fuel) ∧
    sortReflexiveSt sch (run sch ops) set a.rel a.tgtPhrase =
      some (sortReflexive (fun x => (((run sch ops).links i).src x).head?)
        (fun x => (((run sch ops).links i).tgt x).head?) set fuel) := by
  have hall : AllInv sch (run sch ops) := run_allInv_any hok ops init (allInv_init sch)
  exact sort_terminates_state sch i a k h hone (run sch ops) hall.inv hall.typed hall.liveOnly set hk hb fuel hf

/-! non-vacuity: two chains 1→2→3 and 7→8 (`back`), set in the order 8 3 7 1 2 -/
def bk : Inst → Option Inst := fun x => if x = 1 then some 2 else if x = 2 then some 3 else if x = 7 then some 8 else none
def ac : Inst → Option Inst := fun x => if x = 2 then some 1 else if x = 3 then some 2 else if x = 8 then some 7 else none
example : IsChain ac bk [1, 2, 3] ∧ IsChain ac bk [7, 8] := by
  decide
example : sortReflexive ac bk [8, 3, 7, 1, 2] 5 = [7, 8, 1, 2, 3] ∧ sortReflexive bk ac [8, 3, 7, 1, 2] 5 = [8, 7, 3, 2, 1] := by
  decide +kernel

/-- `sort_chains` APPLIED: its five hypotheses hold for these two chains and this set order -/
example : sortReflexive ac bk [8, 3, 7, 1, 2] 5 = [[7, 8], [1, 2, 3]].flatten :=
  sort_chains ac bk [8, 3, 7, 1, 2] [[7, 8], [1, 2, 3]] 5 (by decide) (by decide) (by decide)
    (fun _ => List.Perm.mem_iff (by decide)) (by decide)

/-- `sort_whole_chains` APPLIED to the same set with the chains listed in the WRONG order: the permutation it yields
    must list [7, 8] first (7 precedes 1 in the set), so the result is again [7, 8, 1, 2, 3] -/
example : ∃ chains' : List (List Inst), chains'.Perm [[1, 2, 3], [7, 8]] ∧
    sortReflexive ac bk [8, 3, 7, 1, 2] 5 = chains'.flatten :=
  let ⟨cs, hp, _, he⟩ := sort_whole_chains ac bk [8, 3, 7, 1, 2] [[1, 2, 3], [7, 8]] 5 (by decide) (by decide)
    (by decide) (by decide) (fun _ => List.Perm.mem_iff (by decide))
  ⟨cs, hp, he⟩

/-- a ring 1 → 2 → 3 → 1 (`bkR` leads around, `acR` is its inverse) -/
def bkR : Inst → Option Inst := fun x => if x = 1 then some 2 else if x = 2 then some 3 else if x = 3 then some 1 else none
def acR : Inst → Option Inst := fun x => if x = 2 then some 1 else if x = 3 then some 2 else if x = 1 then some 3 else none

/-- `sort_ring` APPLIED: the set [2, 3, 1] comes back once around from its first member -/
example : sortReflexive acR bkR [2, 3, 1] 3 = [2, 3, 1] :=
  sort_ring acR bkR [2, 3, 1] 2 [3, 1] 3 rfl (by decide) (by decide) (by decide) (by decide) (fun _ hx => hx) (by decide)

/-! non-vacuity of the state-level theorems: a one-to-one reflexive association R1 on class 0 with the phrases
    "succeeds" / "precedes", three instances linked 0 — 1 — 2 -/
def aR : AssocSpec :=
  { rel := "R1", srcKind := 0, srcKeys := [], srcMany := false, srcCond := true, srcPhrase := "succeeds",
    tgtKind := 0, tgtKeys := [], tgtMany := false, tgtCond := true, tgtPhrase := "precedes" }
def opsR : List Op := [.new 0 false, .new 0 false, .new 0 false, .relate 0 1 "R1" "precedes", .relate 1 2 "R1" "precedes"]
example : ReflexiveAt [aR] 0 aR 0 := by
  refine ⟨rfl, rfl, rfl, by decide, by unfold KeysDistinct; decide, ?_⟩
  intro j b hj _
  match j, hj with
  | 0, _ => rfl
example : SchemaOk [aR] :=
  schemaOk_of_check (by decide)
example : (run [aR] opsR).count = 3 ∧ sortReflexiveSt [aR] (run [aR] opsR) [2, 0, 1] "R1" "succeeds" = some [0, 1, 2] ∧
    sortReflexiveSt [aR] (run [aR] opsR) [2, 0, 1] "R1" "precedes" = some [2, 1, 0] := by decide +kernel

end PyxProps.C16

/-!
  Source tie of sort_reflexive.

  translator/gen_queryshape.py reads xtuml.sort_reflexive with `ast` on every run: the empty-set guard, the
  other-phrase search (its skip conditions, in order), the first-instance filter (a NEGATED navigation across the
  GIVEN phrase), the fall-back to the set's first member, and the generator — for each first instance, `while inst:`
  with the body statements in source order (yield if in the set, advance across the OTHER phrase, break when back at
  the first instance) — and emits them as IR (lean/Gen/QueryShape.lean); any other shape raises (broken tie).
  The theorem states that the model of PyxModel/Reflexive.lean IS the generic interpretation (Proofs/QueryShape.lean)
  of the IR generated from the current source.
-/
namespace PyxProps.C16
open Pyx.Meta Pyx.Query Pyx.Reflexive Pyx.QShape Pyx.Gen.QueryShape

theorem sort_as_in_source (across back : Inst → Option Inst) (set : List Inst) (first x : Inst) (fuel : Nat)
    (sch : Schema) (k : Kind) (rel phrase : String) :
    walk back set first fuel x = iWalk walkBody across back set first fuel x ∧
    firsts across set = iFirsts firstFiltNegated firstFiltPhrase across back set ∧
    sortReflexive across back set fuel = iSort firstFiltNegated firstFiltPhrase walkBody across back set fuel ∧
    otherPhrase sch k rel phrase = iOtherPhrase otherSkips sch k rel phrase :=
  ⟨walk_eq across back set first fuel x, firsts_eq across back set, sortReflexive_eq across back set fuel,
   otherPhrase_eq sch k rel phrase⟩

/-! non-vacuity: the interpreted IR sorts the two chains of the example above; a body that advanced across the
    GIVEN phrase (or did not stop at the first instance of a ring) is a different function -/
example : iSort firstFiltNegated firstFiltPhrase walkBody ac bk [8, 3, 7, 1, 2] 5 = [7, 8, 1, 2, 3] := by decide
example : iSort firstFiltNegated firstFiltPhrase [.yieldIfInSet, .advance .given, .breakIfIsFirst] ac bk [8, 3, 7, 1, 2] 5 = [7, 1] := by decide
example : iOtherPhrase otherSkips [aR] 0 "R1" "precedes" = some "succeeds" := by decide +kernel

/-- `sort_reflexive` ON A METAMODEL STATE, as a whole and for every schema, state, set, rel id and phrase: the model
    `sortReflexiveSt` is the interpretation of the generated IR — the empty-set guard (`QuerySet()`), the class of the
    set's first member, the other-phrase search with the source's skip conditions (no link left = the `else: raise
    UnknownLinkException`, here `none`), the first-instance filter navigating across the GIVEN phrase through the
    interpreted `MetaClass.navigate` (an unknown key raises), and the generator, whose two partner functions are
    `navigate_one(x).nav(kind, rel, phrase)()` read through the interpreted navigation (`assocSkip`, incl. the two-hop
    branch) and the result form `navOneResult` of the `navigate_one` chain -/
theorem sort_reflexive_state_as_in_source (sch : Schema) (s : State) (set : List Inst) (rel phrase : String) :
    sortReflexiveSt sch s set rel phrase =
      iSortSt otherSkips assocSkip navOneResult firstFiltNegated firstFiltPhrase walkBody sch s set rel phrase :=
  sortReflexiveSt_eq sch s set rel phrase

/-! non-vacuity: the interpreted whole sorts the three linked instances of the example above both ways, raises on a
    phrase the class does not have, and returns the empty set for the empty set -/
example : iSortSt otherSkips assocSkip navOneResult firstFiltNegated firstFiltPhrase walkBody [aR] (run [aR] opsR)
      [2, 0, 1] "R1" "succeeds" = some [0, 1, 2] ∧
    iSortSt otherSkips assocSkip navOneResult firstFiltNegated firstFiltPhrase walkBody [aR] (run [aR] opsR)
      [2, 0, 1] "R1" "precedes" = some [2, 1, 0] ∧
    iSortSt otherSkips assocSkip navOneResult firstFiltNegated firstFiltPhrase walkBody [aR] (run [aR] opsR)
      [2, 0, 1] "R7" "precedes" = none ∧
    iSortSt otherSkips assocSkip navOneResult firstFiltNegated firstFiltPhrase walkBody [aR] (run [aR] opsR)
      [] "R1" "precedes" = some [] := by decide +kernel


end PyxProps.C16
