import Proofs.OalBridge
import Proofs.OalKwCase

/-!
  C08 — OAL keywords are case-insensitive in parsing, execution and prebuild.

  What is proved here:
    * lexical half: the token stream of a text does not depend on the letter case of its keyword occurrences
      (`lex_case`, for every text and every re-spelling), so any parser that is a function of the token stream
      (kind, lexeme) sees the same input up to the spelling of keyword lexemes (`parse_case`);
    * parser half, over the token-level parser model of C07 and any precedence table: token streams that differ only
      in keyword spelling parse to trees that differ only in the spelling-carrying fields (`parser_case_*`); both
      halves composed: `text_case`;
    * every reader of the tree fields that carry a keyword's source spelling (`cardinality`, `operator`,
      `BooleanNode.value`, and the instance-name fields that can hold the keyword `self`) in the interpreter, the
      prebuilder and the `many` accessors normalises the case where it reads the field (`consumers_normalise`, over
      the table regenerated from the source).
  That the real parser keeps a keyword's spelling in no other field, and that interpretation / prebuilding give equal
  results, is validated on the implementation by the harness (D), not proved.

  A re-spelling of `text` is any `text'` with the same characters up to ASCII letter case
  (`text'.map lowerAscii = text.map lowerAscii`) that leaves every non-keyword token of `text` untouched.
-/
namespace PyxProps.C08
open Pyx.OalLex

/-- keyword recognition cannot be influenced by letter case in the generated table: `t_ID` compares the
    UPPER-CASED lexeme with the keyword table, no literal rule and no ignored character is a letter -/
theorem table_case_ok : caseOk Gen.OalLex.cfg = true := by decide +kernel

theorem table_lines_ok : linesOk Gen.OalLex.cfg = true := gen_linesOk

/-- lex_case (kinds and positions), any table: texts that differ only in ASCII letter case - anywhere - are
    cut into tokens at the same offsets, by the same rules, with the same kinds and lines -/
theorem lex_case_shape_table (cfg : LexCfg) (hc : caseOk cfg = true) (text text' : List Char)
    (hcase : text'.map lowerAscii = text.map lowerAscii) :
    (lexWith cfg text').map lowTok = (lexWith cfg text).map lowTok := by
  rw [← lexWith_map_lower cfg (caseOk_spec hc), ← lexWith_map_lower cfg (caseOk_spec hc), hcase]

/-- lex_case, any table with sound bookkeeping: re-spelling the keyword occurrences of a text (identifiers,
    literals and all other non-keyword tokens untouched) gives the same token stream up to the spelling of the
    keyword lexemes -/
theorem lex_case_table (cfg : LexCfg) (hc : caseOk cfg = true) (hok : linesOk cfg = true)
    (text text' : List Char) (hcase : text'.map lowerAscii = text.map lowerAscii)
    (hid : ∀ u ∈ lexWith cfg text, isKwKind cfg u.kind = false →
      slice text' u.start u.stop = slice text u.start u.stop) :
    (lexWith cfg text').map (normTok cfg) = (lexWith cfg text).map (normTok cfg) := by
  -- both normalised streams are read off ONE case-blind stream, each with its own text
  have key : ∀ text, (lexWith cfg text).map (normTok cfg) = ((lexWith cfg text).map lowTok).map (respell cfg text) := by
    intro text
    rw [List.map_map]
    exact List.map_congr_left fun t ht => normTok_eq_respell cfg ((lexWith_ok cfg hok text).1 t ht)
  rw [key text', key text, lex_case_shape_table cfg hc text text' hcase, List.map_map, List.map_map]
  refine List.map_congr_left fun t ht => ?_
  show respell cfg text' (lowTok t) = respell cfg text (lowTok t)
  unfold respell
  split
  · rfl
  · next hk => exact congrArg (fun l => { lowTok t with lexeme := l }) (hid t ht (Bool.not_eq_true _ ▸ hk))

/-- lex_case for the generated tables -/
theorem lex_case (text text' : List Char) (hcase : text'.map lowerAscii = text.map lowerAscii)
    (hid : ∀ u ∈ lex text, isKwKind Gen.OalLex.cfg u.kind = false →
      slice text' u.start u.stop = slice text u.start u.stop) :
    (lex text').map (normTok Gen.OalLex.cfg) = (lex text).map (normTok Gen.OalLex.cfg) :=
  lex_case_table Gen.OalLex.cfg table_case_ok table_lines_ok text text' hcase hid

/-- in particular the token KINDS (what the grammar sees) and all recorded positions are equal -/
theorem lex_case_kinds (text text' : List Char) (hcase : text'.map lowerAscii = text.map lowerAscii) :
    (lex text').map (fun t => (t.kind, t.start, t.stop, t.line, t.endLine)) =
    (lex text).map (fun t => (t.kind, t.start, t.stop, t.line, t.endLine)) := by
  have h := lex_case_shape_table Gen.OalLex.cfg table_case_ok text text' hcase
  have := congrArg (List.map (fun t : Tok => (t.kind, t.start, t.stop, t.line, t.endLine))) h
  simpa [List.map_map, Function.comp_def, lowTok, lex] using this

/-- parse_case: whatever is computed from the token stream modulo keyword spelling - a syntax tree whose only
    keyword-lexeme-valued fields are compared modulo case - is the same for a text and its re-spelling -/
theorem parse_case {α : Type} (parse : List Tok → α) (text text' : List Char)
    (hcase : text'.map lowerAscii = text.map lowerAscii)
    (hid : ∀ u ∈ lex text, isKwKind Gen.OalLex.cfg u.kind = false →
      slice text' u.start u.stop = slice text u.start u.stop) :
    parse ((lex text').map (normTok Gen.OalLex.cfg)) = parse ((lex text).map (normTok Gen.OalLex.cfg)) := by
  rw [lex_case text text' hcase hid]

/-- normalising the spelling twice is normalising it once -/
theorem norm_case_idempotent (cfg : LexCfg) (t : Tok) : normTok cfg (normTok cfg t) = normTok cfg t := by
  unfold normTok
  cases h : isKwKind cfg t.kind with
  | true =>
    simp only [if_true, h, List.map_map]
    congr 1
    apply List.map_congr_left
    intro c _
    exact lower_idem c
  | false => simp only [Bool.false_eq_true, if_false, h]

/-- consumers_normalise: every place in interpret.py / prebuild.py / the `many` accessors of oal.py that reads
    `node.cardinality`, `node.operator` or a BooleanNode's `node.value` reads it through `.lower()` / `.upper()`
    (or through the normalising accessor `node.many`); every place that reads an instance-name field the grammar
    may fill with the keyword `self` in its source spelling (from_/to_/using_variable_name of relate / unrelate,
    variable_name of delete) hands it to a `find_symbol` that maps every
    spelling of `self` to the instance.  The translator refuses to emit the table when one of the expected readers
    (gen_oallex.REQUIRED: operator / boolean / cardinality / instance-name readers of both interpret.py and
    prebuild.py) is missing. -/
theorem consumers_normalise :
    (Gen.OalLex.consumers.all fun c => c.normalised) = true ∧ Gen.OalLex.consumers.length ≥ 30 := by decide +kernel

/-- keyword_any_case_as_in_source (one lexer step): for EVERY entry `k` of the reserved-word table generated from
    `OALParser.keywords` and EVERY spelling `s` of it (any mix of upper and lower case: `s` and `k` agree after ASCII
    lower-casing), followed by the end of the text or by layout, the first rule of the generated rule table that
    matches is `t_ID` (rule 8), it matches exactly `s`, and the token type the model assigns is `k` - not `ID`.
    Proved by induction over the characters of the spelling; what is decided about the table is only the shape of
    its entries (`gen_kwTableOk`: upper-case words `[A-Z_][0-9A-Z_]*`, none of them `END`). -/
theorem keyword_any_case_as_in_source (k : List Char) (hk : k ∈ Gen.OalLex.keywords) (s : List Char)
    (hs : s.map lowerAscii = k.map lowerAscii) (t : List Char) (ht : TailOk t) :
    firstMatch Gen.OalLex.rules (s ++ t) = some (R 8, s.length) ∧ kindOf Gen.OalLex.cfg (R 8) s = k :=
  keyword_step k hk s hs t ht

/-- keywords_any_case_lexed_as_in_source (the whole lexer): any sequence of entries of the generated reserved-word
    table, each written in any letter case, with any layout between them (`KwItemsOk`), is returned by `lex` as
    exactly the sequence of keyword tokens of those entries, each with its lexeme as written -/
theorem keywords_any_case_lexed_as_in_source (sep0 : List Char) (items : List (List Char × List Char × List Char))
    (h0 : Layout0 sep0) (h : KwItemsOk items) :
    (lex (sep0 ++ render items)).map (fun t => (t.kind, t.lexeme)) = items.map (fun i => (i.1, i.2.1)) :=
  keywords_lexed sep0 items h0 h

/-- every case variant of every table entry is, conversely, outside the identifiers: the kind is never `ID` -/
theorem keyword_never_identifier (k : List Char) (hk : k ∈ Gen.OalLex.keywords) (s : List Char)
    (hs : s.map lowerAscii = k.map lowerAscii) : kindOf Gen.OalLex.cfg (R 8) s ≠ idName := by
  rw [(keyword_step k hk s hs [] .nil).2]
  intro h
  rw [h] at hk
  revert hk; decide

/-! non-vacuity -/

def lowerText : List Char := "select many xs from A; if (not empty xs) x = true; end if;".toList
def mixedText : List Char := "SELECT Many xs fRoM A; If (NOT Empty xs) x = TRUE; END iF;".toList

private theorem mixed_case : mixedText.map lowerAscii = lowerText.map lowerAscii := by decide +kernel

/-- the hypotheses of `lex_case` hold of the pair: one run of the lexer on `lowerText`, whose non-keyword tokens
    (`xs`, `A`, `x`, punctuation) are cut out of `mixedText` unchanged -/
private theorem mixed_lex :
    (lex mixedText).map (normTok Gen.OalLex.cfg) = (lex lowerText).map (normTok Gen.OalLex.cfg) :=
  lex_case lowerText mixedText mixed_case (by decide +kernel)

example : mixedText.map lowerAscii = lowerText.map lowerAscii := mixed_case
example : (lex mixedText).map (normTok Gen.OalLex.cfg) = (lex lowerText).map (normTok Gen.OalLex.cfg) := mixed_lex
example : ((lex mixedText).map (fun t => String.ofList t.kind)).take 6 = ["SELECT", "MANY", "ID", "FROM", "ID", "SEMICOLON"] := by
  decide +kernel
/-- the class name `A` and the variable `xs` are not keywords: re-spelling them changes the stream -/
example : (lex "x = A;".toList).map (normTok Gen.OalLex.cfg) ≠ (lex "x = a;".toList).map (normTok Gen.OalLex.cfg) := by
  decide +kernel


/-- keyword_any_case_as_in_source / keywords_any_case_lexed_as_in_source applied: `sElEcT`, then a block comment,
    `MaNy`, a line break, `not_EMPTY` -/
private def kwItems : List (List Char × List Char × List Char) :=
  [("SELECT".toList, "sElEcT".toList, "/* c */".toList), ("MANY".toList, "MaNy".toList, "\n".toList),
   ("NOT_EMPTY".toList, "not_EMPTY".toList, [])]
private theorem kwItems_ok : KwItemsOk kwItems :=
  .cons _ _ _ _ (by decide +kernel) (by decide +kernel) (.comment " c */".toList [] (by decide) .nil) (by decide)
    (.cons _ _ _ _ (by decide +kernel) (by decide +kernel) (.ws '\n' [] (by decide) .nil) (by decide)
      (.cons _ _ _ _ (by decide +kernel) (by decide +kernel) .nil (fun _ => rfl) .nil))
example : (lex (" ".toList ++ render kwItems)).map (fun t => (t.kind, t.lexeme)) =
    [("SELECT".toList, "sElEcT".toList), ("MANY".toList, "MaNy".toList), ("NOT_EMPTY".toList, "not_EMPTY".toList)] :=
  keywords_any_case_lexed_as_in_source _ kwItems (.ws ' ' [] (by decide) .nil) kwItems_ok
example := keyword_any_case_as_in_source "WHILE".toList (by decide) "wHiLe".toList (by decide) " x".toList
  (.cons ' ' _ (Or.inl rfl))
/-- a word that is no case variant of an entry stays an identifier -/
example : kindOf Gen.OalLex.cfg (R 8) "selects".toList = idName := by decide +kernel

/-! parser level (model: the token-level statement / expression parser of C07, PyxModel/Oal/{Expr,Stmt}.lean, for
    ANY precedence table): two token streams that differ only in the spelling of keyword lexemes parse to
    trees that are equal after lower-casing exactly the spelling-carrying fields — select cardinality, unary /
    binary operator, boolean literal, and the `self` keyword where it is used as an instance name —, they are
    equal FIELD BY FIELD everywhere else (identifiers, literals, phrases, relationship ids are untouched),
    and one is rejected exactly when the other is. -/

theorem parser_case_respelling (t : Pyx.Oal.Tbl) (ts ts' : List Pyx.Oal.Tok) (h : Pyx.Oal.Respelling ts ts') :
    (Pyx.Oal.parseStmts t ts').map Pyx.Oal.normCase = (Pyx.Oal.parseStmts t ts).map Pyx.Oal.normCase :=
  Pyx.Oal.parseStmts_respelling t h

theorem parser_case_fields (t : Pyx.Oal.Tbl) (ts ts' : List Pyx.Oal.Tok) (h : Pyx.Oal.SameButKeywords ts ts') :
    (Pyx.Oal.parseStmts t ts').map Pyx.Oal.eraseCase = (Pyx.Oal.parseStmts t ts).map Pyx.Oal.eraseCase :=
  Pyx.Oal.parseStmts_sameButKeywords t h

theorem parser_case_reject_iff (t : Pyx.Oal.Tbl) (ts ts' : List Pyx.Oal.Tok) (h : Pyx.Oal.SameButKeywords ts ts') :
    Pyx.Oal.parseStmts t ts' = none ↔ Pyx.Oal.parseStmts t ts = none :=
  Pyx.Oal.parseStmts_reject_iff t h

/-- the parser commutes with ANY re-spelling function that leaves non-keyword lexemes alone -/
theorem parser_case_natural (t : Pyx.Oal.Tbl) (g : Pyx.Oal.Kind → String → String) (hg : Pyx.Oal.KwOnly g)
    (ts : List Pyx.Oal.Tok) :
    Pyx.Oal.parseStmts t (ts.map (Pyx.Oal.mapTok g)) = (Pyx.Oal.parseStmts t ts).map (Pyx.Oal.Block.mapKw g) :=
  Pyx.Oal.parseStmts_mapTok t g hg ts


/-- concrete instance next to the parser-level theorems: the two spellings of one statement list both parse
    (generated precedence table), from token streams whose lexemes differ; by the next example the trees are equal
    after `normCase` -/
example :
    (Pyx.Oal.parseStmts Pyx.Gen.OalPrec.table (Pyx.OalLex.toParserToks (lex lowerText))).isSome = true ∧
    (Pyx.Oal.parseStmts Pyx.Gen.OalPrec.table (Pyx.OalLex.toParserToks (lex mixedText))).isSome = true ∧
    (Pyx.OalLex.toParserToks (lex mixedText)).map (·.lex) ≠ (Pyx.OalLex.toParserToks (lex lowerText)).map (·.lex) := by
  decide +kernel

example :
    (Pyx.Oal.parseStmts Pyx.Gen.OalPrec.table (Pyx.OalLex.toParserToks (lex mixedText))).map Pyx.Oal.normCase =
      (Pyx.Oal.parseStmts Pyx.Gen.OalPrec.table (Pyx.OalLex.toParserToks (lex lowerText))).map Pyx.Oal.normCase :=
  (Pyx.OalLex.text_case_of_lex _ lowerText mixedText mixed_lex).1

/-! ## lexer half and parser half composed (Proofs/OalBridge.lean) -/

/-- kw_tables_agree: the parser model's hand-written `Kind.isKeyword` and the keyword table generated from oal.py
    (`isKwKind Gen.OalLex.cfg`: keywords ∪ END_FOR / END_IF / END_WHILE) agree on every token kind -/
theorem kw_tables_agree :
    (Pyx.OalLex.kindNames.all fun p => p.1.isKeyword == isKwKind Gen.OalLex.cfg p.2) = true :=
  Pyx.OalLex.kw_tables_agree

/-- every token type the generated lexer table can return has a parser token kind -/
theorem lexer_kinds_covered :
    ((Gen.OalLex.rules.filter (·.returnsTok)).all fun r => (Pyx.OalLex.kindOfChars r.name).isSome) = true ∧
    (Gen.OalLex.keywords.all fun k => (Pyx.OalLex.kindOfChars k).isSome) = true :=
  Pyx.OalLex.lexer_kinds_covered

/-- text_case: two TEXTS that differ only in the letter case of keyword occurrences (same characters up to ASCII
    case, every non-keyword token untouched) - lexed by the character-level lexer model of the generated rule table,
    converted, parsed by the token-level parser model under any precedence table - give trees that are equal
    after lower-casing the spelling-carrying fields, and one text is rejected exactly when the other is -/
theorem text_case (tbl : Pyx.Oal.Tbl) (text text' : List Char)
    (hcase : text'.map lowerAscii = text.map lowerAscii)
    (hid : ∀ u ∈ lex text, isKwKind Gen.OalLex.cfg u.kind = false →
      slice text' u.start u.stop = slice text u.start u.stop) :
    (Pyx.Oal.parseStmts tbl (Pyx.OalLex.toParserToks (lex text'))).map Pyx.Oal.normCase =
      (Pyx.Oal.parseStmts tbl (Pyx.OalLex.toParserToks (lex text))).map Pyx.Oal.normCase ∧
    (Pyx.Oal.parseStmts tbl (Pyx.OalLex.toParserToks (lex text')) = none ↔
      Pyx.Oal.parseStmts tbl (Pyx.OalLex.toParserToks (lex text)) = none) :=
  Pyx.OalLex.text_case_of_lex tbl text text' (lex_case text text' hcase hid)

end PyxProps.C08
