import Proofs.PrebuildFuel
import Proofs.PrebuildCanon
import Proofs.PrebuildFlatStmt
import Proofs.SgInventory

/-!
  C05 — Prebuild followed by text generation reproduces the program.
  Three parts: the token-level round trip; the flat population between the two walkers; the tie of the text generator's
  handlers to the source.

  Model (lean/PyxModel/Prebuild/): `Ast` = the node classes of bridgepoint/oal.py; `canon` = the normal form
  in which trees are compared; `genTokens` = the tokens of the text sourcegen.py prints for the instances
  prebuild.py creates (composition of the two walkers, written from their `accept_*` methods);
  `parseGen ctx` = a parser for that output language which classifies a bare `NS::f(…)` as `canon` does;
  `supported ctx` = the statement set covered (event statements included).  That the real prebuild.py + sourcegen.py compute
  `genTokens ∘ canon` is decided on every run by the correspondence stream (harness/prop_C05.py).
-/
namespace PyxProps.C05
open Pyx.Prebuild

/-! Classification.  CONTENT-BEARING: `regen_parses_back` (structural induction over all supported bodies) and
    `canon_idempotent`.  COROLLARIES: `regen_idempotent` (congruence of `canon_idempotent`), `regen_fixpoint`
    (one line from the two).  PRINTER SHAPE: `order_preserved*` re-express the model printer's own recursion as
    map / flatten / intercalate over the source lists; they follow the model, they say nothing about the mechanisms
    that decide order in the code (R661 walk, `sorted(by_position)`, R816 chain) — those are C06
    `chains_are_source_order` plus the direct predicate.
    `supported` is a SYNTACTIC over-approximation (statement shapes, canonical operator / cardinality / boolean
    spellings, resolution of invocations against ctx); it puts no condition on identifier / number / phrase
    strings — those are `Lexical.lexical`, not needed at token level, evaluated by the driver on every case. -/

/-- The regenerated text parses back to the (normal form of the) original tree — for every supported,
    name-resolved action body, whatever its length and nesting depth. -/
theorem regen_parses_back (ctx : Ctx) (a : Block) (h : supported ctx (canon ctx a) = true) :
    parseGen ctx (genTokens (canon ctx a)) = some (canon ctx a) :=
  parseGen_genTokens ctx (canon ctx a) h

/-- `canon` is a normal form: applying it twice changes nothing (no hypothesis on the tree). -/
theorem canon_idempotent (ctx : Ctx) (a : Block) : canon ctx (canon ctx a) = canon ctx a :=
  canonBlock_idem ctx a

/-- Regenerating from the normal form of the normal form gives the same tokens. -/
theorem regen_idempotent (ctx : Ctx) (a : Block) :
    genTokens (canon ctx (canon ctx a)) = genTokens (canon ctx a) := by
  rw [canon_idempotent]

/-- Translating the generated text again yields the same generated text: parse the regenerated tokens,
    normalise, regenerate — the tokens are unchanged. -/
theorem regen_fixpoint (ctx : Ctx) (a : Block) (h : supported ctx (canon ctx a) = true) :
    (parseGen ctx (genTokens (canon ctx a))).map (fun b => genTokens (canon ctx b)) =
      some (genTokens (canon ctx a)) := by
  rw [regen_parses_back ctx a h, Option.map_some, canon_idempotent]

/-- Order is preserved: the output is the concatenation, in source order, of the statements' own token
    sequences each followed by `;` (and `canon` maps the statement list element-wise); the same for the
    elif clauses of an `if`, the steps of a navigation chain, and (comma-separated) the parameters of an
    invocation. -/
theorem order_preserved (ctx : Ctx) (a : Block) :
    genTokens (canon ctx a) =
      ((a.toList.map (canonStmt ctx)).map (fun s => genStmt s ++ [Tok.p Pn.semi])).flatten := by
  unfold genTokens canon
  rw [genBlock_flat, canonBlock_toList]

theorem order_preserved_elifs (ctx : Ctx) (el : Elifs) :
    genElifs (canonElifs ctx el) =
      ((el.toList.map (fun x => (canonExpr ctx x.1, canonBlock ctx x.2))).map
        (fun x => [Tok.kw Kw.elif_] ++ genExpr x.1 ++ genBlock x.2)).flatten := by
  rw [genElifs_flat, canonElifs_toList]

theorem order_preserved_chain (ch : List Step) : genChain ch = (ch.map genStep).flatten :=
  genChain_flat ch

theorem order_preserved_params (ctx : Ctx) (ps : Params) :
    genParams (canonParams ctx ps) =
      ([Tok.p Pn.comma] : List Tok).intercalate
        ((ps.toList.map (fun x => (x.1, canonExpr ctx x.2))).map
          (fun x => [Tok.ident x.1, Tok.p Pn.colon] ++ genExpr x.2)) := by
  rw [genParams_inter, canonParams_toList]

/-! Non-vacuity: a concrete body with nesting, elif/else, a two-step select chain with where clause,
    invocations of all four kinds with several parameters, written with upper-case keywords and un-resolved
    `NS::f()` forms, whose normal form is supported -/

def demoCtx : Ctx := ⟨["LOG"], ["DOG"], [("DOG1", "'bark heard'"), ("DOG2", "'fed'"), ("DOG_A1", "'tick'")]⟩

def demo : Block :=
  .cons (.selFrom "ANY" "d" "DOG")
  (.cons (.if_ (.bin (.field (.var "d") "Age") ">" (.int "3"))
      (.cons (.assign (.var "x") (.call .implicit "LOG" "level" .nil)) .nil)
      (.cons (.un "NOT" (.bool "TRUE"))
        (.cons (.invoke (.call .implicit "DOG" "reset" (.cons "val" (.un "-" (.int "1")) .nil))) .nil)
        (.cons (.bool "False") (.cons .brk .nil) .nil))
      (.some (.cons (.invoke (.icall (.var "d") "bark"
          (.cons "times" (.int "2") (.cons "loud" (.bool "true") .nil)))) .nil)))
  (.cons (.selRelW "Many" "ps" (.var "d") [⟨"PER", "R1", "'owns'"⟩, ⟨"LIC", "R3", ""⟩]
      (.bin (.field .selected "Nr") "==" (.param "pi")))
  (.cons (.invoke (.call .func "" "add" (.cons "a" (.int "1") (.cons "b" (.str "\"s\"") .nil))))
  (.cons (.ret (some (.enum "Color" "red"))) .nil))))

private theorem demo_supported : supported demoCtx (canon demoCtx demo) = true := by decide +kernel
example : supported demoCtx (canon demoCtx demo) = true := demo_supported
example : parseGen demoCtx (genTokens (canon demoCtx demo)) = some (canon demoCtx demo) :=
  regen_parses_back demoCtx demo demo_supported
example : genTokens (canon demoCtx demo) ≠ genTokens demo := by decide +kernel   -- `canon` does change this tree
example : (genTokens (canon demoCtx demo)).length > 100 := by decide +kernel

/-- event statements are inside the supported set: generate to class / creator / instance, create event instance,
    generate <event variable>, with data items -/
def demoE : Block :=
  .cons (.create "d" "DOG")
  (.cons (.genEvt "DOG1" (some "'bark heard'") (.cons "count" (.bin (.int "1") "+" (.param "pi")) (.cons "who" (.str "\"x\"") .nil))
      (.inst (.var "d")))
  (.cons (.createEvt "ev" "DOG_A1" (some "'tick'") .nil (.cls "DOG"))
  (.cons (.genEvt "DOG2" (some "'fed'") .nil (.creator "DOG"))
  (.cons (.genPre (.var "ev")) .nil))))

private theorem demoE_supported : supported demoCtx (canon demoCtx demoE) = true := by decide +kernel
example : supported demoCtx (canon demoCtx demoE) = true := demoE_supported
example : parseGen demoCtx (genTokens (canon demoCtx demoE)) = some (canon demoCtx demoE) :=
  regen_parses_back demoCtx demoE demoE_supported

/-! The population between the two walkers (PyxModel/Prebuild/Flat.lean, Proofs/PrebuildFlat.lean).

  `Flat.prebuildFlat` is prebuild.py as a builder of ROWS of the ooaofooa classes (ACT_BLK, ACT_SMT + R603 subtypes,
  V_VAL + R801 subtypes, V_VAR + R814 subtypes), `Flat.regenFlat` is sourcegen.py navigating those rows.

  Full statement (NOT proved; decided case by case by the driver, which evaluates it on every body it dumps, and by
  the population correspondence of harness/flat_pop.py):
      theorem regen_of_prebuild (fc : FCtx) (a : Block) (h : flatOk fc (canon fc.toCtx a) = true) :
          regenFlat (prebuildFlat fc (canon fc.toCtx a)) = genTokens (canon fc.toCtx a)
  Proved: the VALUE level, for every expression of `coreE` (literals, enumerators / qualified constants, variable
  reads, `selected`, parameter and attribute reads, unary and binary operations of any nesting depth), from ANY
  builder state whose symbol table is sound, and stable under whatever the builder appends afterwards (`ext`):
  reading the rows `buildExpr` wrote with `regenVal` prints exactly `genExpr e`; and the BODY level for the subset
  `coreB` (`regen_of_prebuild_partial` below, which also names what the full statement needs beyond it). -/
section Flat
open Pyx.Prebuild.Flat

theorem regen_of_prebuild_values (fc : FCtx) (e : Expr) (st : St) (hc : coreE e = true) (hs : SymOK st)
    (ht : TSv st.pop) (hok : (buildExpr fc e st).2.ok = true) (ext : List Flat.Row) (fuel : Nat) (hf : szV e ≤ fuel) :
    regenVal ((buildExpr fc e st).2.pop ++ ext) fuel (buildExpr fc e st).1 = genExpr e :=
  (buildExpr_spec fc e st hc hs ht hok).regen ext fuel hf

def flatFc : FCtx := { ees := [], classes := ["DOG"] }

/-- a state inside the where clause of a select: the outer block, an instance handle `d`, the O_OBJ scope -/
def flatSt : St :=
  { pop := [.blk true, .var "d" 0, .vint 1 "DOG"], scopes := [⟨.obj "DOG", []⟩, ⟨.blk 0, []⟩], ok := true }

/-- `((- 2) + (param.pi * 1.5)) <= selected.Age` -/
def flatE : Expr :=
  .bin (.bin (.un "-" (.int "2")) "+" (.bin (.param "pi") "*" (.real "1.5"))) "<=" (.field .selected "Age")

theorem flatSt_symOK : SymOK flatSt := by
  intro n v h
  simp [flatSt, findSym, List.lookup] at h

theorem flatSt_tsv : TSv flatSt.pop := by
  intro i r k hi hr
  have := List.mem_of_getElem? hi
  simp [flatSt] at this
  rcases this with rfl | rfl | rfl <;> simp [Flat.Row.valOf] at hr

example : regenVal ((buildExpr flatFc flatE flatSt).2.pop ++ [Flat.Row.brk 0]) 9 (buildExpr flatFc flatE flatSt).1 = genExpr flatE :=
  regen_of_prebuild_values flatFc flatE flatSt (by decide +kernel) flatSt_symOK flatSt_tsv (by decide +kernel) _ 9 (by decide +kernel)

/-- BODY level, for the sub-subset `coreB`: statement lists (any length) of return (with / without a `coreX` value),
    assignment to a variable (first assignment declares the transient) or to an attribute with a `coreX` right-hand
    side, break, continue, control stop, create with / without variable, select any|many from instances (with / without a
    `coreX` where clause over `selected`, accepted in the O_OBJ scope, the variable declared after it), delete,
    relate / unrelate (+ using), and `while` loops, `for each` loops (loop variable visible or declared by the loop) and
    `if` statements WITH any number of elif clauses and an optional else clause over such lists, all heads `coreX`
    (nested to any depth: a new
    ACT_BLK per nested list, R608 / R605 / R607 / R658 / R606, its own R602 / R661 chain, an empty body included; every
    clause's own ACT_SMT lies in the block HOLDING the if, is chained nowhere and is skipped by the first-statement filter;
    R682 / R683 navigate to exactly the clauses of that `if`, in creation order).  `coreX` = `coreE` + `self` ANYWHERE in
    the expression.  `self` (in a home that has one: the
    look-up creates V_VAR + V_INT in the innermost scope the first time the name is not visible) is covered as the instance
    name of delete / relate / unrelate (+ using, any operand) and in every expression position of the subset: as a value
    (`self == d`, `not_empty self`, `return self`), as the root of an assigned / a read attribute, inside unary / binary
    operations of any depth (`self.a + 1`), in the right-hand side of an assignment to an attribute or to a (declared)
    variable (`x = self.Age * 2;` — the builder's `plainE` guard is part of `flatOk`, so `x = self;` is outside), in the
    heads of `while` / `if` / `elif` (installed in the block holding the statement) and in the where clause of a select
    (installed in the clause's O_OBJ scope and dropped with it; its V_VAR / V_INT rows stay).  It is NOT covered as a
    declared name (create / select / for each variable, the set of a for each, an assigned transient): reading the population
    `prebuildFlat` builds back with `regenFlat` (outer block R666, R602 first-statement filter, R603 subtype dispatch,
    R661 successor chain to its end, variables through the symbol table) prints `genTokens`.
    `flatOk`: the builder never failed (the flag is never set back: `okAll_of_flatOk`).
    Not in `coreB`, hence not covered: select related (chains), invocations,
    event statements. -/
theorem regen_of_prebuild_partial (fc : FCtx) (a : Block) (hc : coreB a = true) (hok : flatOk fc a = true) :
    regenFlat (prebuildFlat fc a) = genTokens a :=
  regenFlat_prebuildFlat fc a hc (okAll_of_flatOk fc a hc hok)

/-- the same for a statement list accepted in ANY sound builder state (inside a body, variables declared), stable
    under rows appended later that name none of its rows (`FreshC`) -/
theorem regen_of_statement_list (fc : FCtx) (ss : Block) (prev : Option Nat) (st : St) (hc : coreB ss = true)
    (hinv : Inv st) (hprev : ∀ k, prev = some k → k < st.pop.length) (hok : okAll fc prev ss st = true)
    (ext : List Flat.Row) (fuel : Nat) (hf : FreshC st.pop.length (buildStmts fc prev ss st).pop.length ext)
    (hfuel : Flat.szB ss ≤ fuel) :
    regenChain ((buildStmts fc prev ss st).pop ++ ext) fuel (headOf st.pop.length ss) = genBlock ss :=
  (buildStmts_spec fc ss prev st hc hinv hprev hok).regen ext fuel hf hfuel

/-- `create object instance of DOG; return (1 + (- 2.5)) < param.pi; break; control stop; return;` -/
def coreBody : Block :=
  .cons (.createNV "DOG")
  (.cons (.ret (some (.bin (.bin (.int "1") "+" (.un "-" (.real "2.5"))) "<" (.param "pi"))))
  (.cons .brk (.cons .ctl (.cons (.ret none) .nil))))

example : regenFlat (prebuildFlat flatFc coreBody) = genTokens coreBody :=
  regen_of_prebuild_partial flatFc coreBody (by decide +kernel) (by decide +kernel)

/-- from the start of a body to delete / relate: `create object instance d of DOG; select many ds from instances of DOG;
    create object instance e of DOG; relate d to e across R2.'chases'; unrelate d from e across R2.'chases';
    delete object instance e; return;` -/
def coreBody2 : Block :=
  .cons (.create "d" "DOG") (.cons (.selFrom "many" "ds" "DOG") (.cons (.create "e" "DOG")
  (.cons (.relate "d" "e" "R2" "'chases'") (.cons (.unrelate "d" "e" "R2" "'chases'")
  (.cons (.delete "e") (.cons (.ret none) .nil))))))

example : regenFlat (prebuildFlat flatFc coreBody2) = genTokens coreBody2 :=
  regen_of_prebuild_partial flatFc coreBody2 (by decide +kernel) (by decide +kernel)

/-- `n = 0; create object instance d of DOG; d.Age = (n + 1) * 2; n = d.Age - n; return n;` -/
def coreBody3 : Block :=
  .cons (.assign (.var "n") (.int "0")) (.cons (.create "d" "DOG")
  (.cons (.assign (.field (.var "d") "Age") (.bin (.bin (.var "n") "+" (.int "1")) "*" (.int "2")))
  (.cons (.assign (.var "n") (.bin (.field (.var "d") "Age") "-" (.var "n")))
  (.cons (.ret (some (.var "n"))) .nil))))

example : regenFlat (prebuildFlat flatFc coreBody3) = genTokens coreBody3 :=
  regen_of_prebuild_partial flatFc coreBody3 (by decide +kernel) (by decide +kernel)

/-- `n = 0; while (n < 10) n = n + 1; while (true) end while; break; end while; return n;` (a loop in a loop, an empty body) -/
def coreBody4 : Block :=
  .cons (.assign (.var "n") (.int "0"))
  (.cons (.while_ (.bin (.var "n") "<" (.int "10"))
      (.cons (.assign (.var "n") (.bin (.var "n") "+" (.int "1")))
      (.cons (.while_ (.bool "true") .nil) (.cons .brk .nil))))
  (.cons (.ret (some (.var "n"))) .nil))

example : regenFlat (prebuildFlat flatFc coreBody4) = genTokens coreBody4 :=
  regen_of_prebuild_partial flatFc coreBody4 (by decide +kernel) (by decide +kernel)

/-- `n = 0; if (n < 1) n = 2; while (n > 0) if (true) break; end if; end while; if (false) end if; end if; return;` -/
def coreBody5 : Block :=
  .cons (.assign (.var "n") (.int "0"))
  (.cons (.if_ (.bin (.var "n") "<" (.int "1"))
      (.cons (.assign (.var "n") (.int "2"))
      (.cons (.while_ (.bin (.var "n") ">" (.int "0")) (.cons (.if_ (.bool "true") (.cons .brk .nil) .nil .none) .nil))
      (.cons (.if_ (.bool "false") .nil .nil .none) .nil))) .nil .none)
  (.cons (.ret none) .nil))

example : regenFlat (prebuildFlat flatFc coreBody5) = genTokens coreBody5 :=
  regen_of_prebuild_partial flatFc coreBody5 (by decide +kernel) (by decide +kernel)

/-- `select many ds from instances of DOG; for each d in ds if (true) n = 1; end if; end for; for each d in ds end for; return;`
    (the second loop finds `d` visible: the loop variable lives in the block HOLDING the loop) -/
def coreBody6 : Block :=
  .cons (.selFrom "many" "ds" "DOG")
  (.cons (.forEach "d" "ds" (.cons (.if_ (.bool "true") (.cons (.assign (.var "n") (.int "1")) .nil) .nil .none) .nil))
  (.cons (.forEach "d" "ds" .nil) (.cons (.ret none) .nil)))

example : regenFlat (prebuildFlat flatFc coreBody6) = genTokens coreBody6 :=
  regen_of_prebuild_partial flatFc coreBody6 (by decide +kernel) (by decide +kernel)

/-- `select any d from instances of DOG where (selected.Age > 3); select many ds from instances of DOG where
    (selected.Age == param.pi); select any d from instances of DOG where (selected.Alive); delete object instance d; return;` -/
def coreBody7 : Block :=
  .cons (.selFromW "any" "d" "DOG" (.bin (.field .selected "Age") ">" (.int "3")))
  (.cons (.selFromW "many" "ds" "DOG" (.bin (.field .selected "Age") "==" (.param "pi")))
  (.cons (.selFromW "any" "d" "DOG" (.field .selected "Alive"))
  (.cons (.delete "d") (.cons (.ret none) .nil))))

example : regenFlat (prebuildFlat flatFc coreBody7) = genTokens coreBody7 :=
  regen_of_prebuild_partial flatFc coreBody7 (by decide +kernel) (by decide +kernel)

/-- one body with if / elif / else, while, for each, select, relate -/
def flatBody : Block :=
  .cons (.selFrom "many" "ds" "DOG")
  (.cons (.assign (.var "n") (.int "0"))
  (.cons (.forEach "d" "ds"
      (.cons (.if_ (.bin (.field (.var "d") "Age") ">" (.int "3"))
          (.cons (.assign (.var "n") (.bin (.var "n") "+" (.int "1"))) .nil)
          (.cons (.bool "false") (.cons .brk .nil) .nil)
          (.some (.cons (.relate "d" "d" "R2" "'chases'") .nil))) .nil))
  (.cons (.while_ (.bin (.var "n") "<" (.int "10")) (.cons .cont .nil))
  (.cons (.ret (some (.var "n"))) .nil))))

private theorem flatBody_ok : flatOk flatFc flatBody = true := by decide +kernel
set_option maxRecDepth 100000 in
example : flatOk flatFc flatBody = true := flatBody_ok
set_option maxRecDepth 100000 in
example : regenFlat (prebuildFlat flatFc flatBody) = genTokens flatBody :=
  regen_of_prebuild_partial flatFc flatBody (by decide +kernel) flatBody_ok

end Flat

end PyxProps.C05

/-! Source tie of the text generator: `regen*` of PyxModel/Prebuild/Flat.lean = the generic interpretation
  (Proofs/SgShape.lean) of the IR that translator/gen_sgshape.py regenerates from bridgepoint/sourcegen.py on every run
  (Gen/SgShape.lean: one statement list per `ActionTextGenWalker.accept_*`). -/
namespace PyxProps.C05
open Pyx.Prebuild Pyx.Prebuild.Flat Pyx.SgShape Pyx.Gen.SgShape

/-! Every theorem below holds for EVERY population (no well-formedness hypothesis): where the hand-written printer answers
    `bad` (a supertype row without subtype row, an ACT_SMT whose subtype is an elif / else clause, no outer block, a variable
    link that names no V_VAR) the equation says so in its `else` branch — the real code prints nothing there (`accept(None)`),
    or the clause; no population `prebuild.py` creates has such a row.  Recursive calls go through the accept oracle
    (`accHead`: the printer itself, one unit of fuel lower), loops through the `again` / `loop` oracles, exactly as `rec` in
    the C04 tie.  Kind: spec_equation (each is proved by unfolding both sides on every row constructor); what they add is that
    the right-hand side is REGENERATED from the source text. -/

/-- accept_V_VAR: the Name is written (the lexer makes the keyword of `self`) -/
theorem variable_as_in_source (q : FlatPop) (f v : Nat) :
    regenVar q v = if isVar q v then handler (envN q f 0) accept_V_VAR (.sup "V_VAR" v) else [Tok.bad "V_VAR"] :=
  regenVar_eq q (envN q f 0) rfl v

/-- accept_V_VAL and the handler of every value subtype Flat.lean models (V_LIN V_LRL V_LST V_LBO V_TVL V_IRF V_ISR V_UNY
    V_BIN V_SLR V_AVL V_PVL V_LEN V_SCV), dispatched by class name: `subtype(inst, 801)`; literals print Value (quoted /
    lower-cased as the source says); a unary operation is '(' Operator ' ' the R804 operand ')', a binary one '(' the R802
    operand ' ' Operator ' ' the R803 operand ')'; an attribute value is the R807 root, '.', the R806 attribute's Name;
    'param.' and the parameter's Name; data type / constant group Name '::' Name -/
theorem value_as_in_source (q : FlatPop) (f v : Nat) :
    regenVal q (f + 1) v =
      if (valSub q v).isSome then handler (envN q f 2) accept_V_VAL (.sup "V_VAL" v) else [Tok.bad "V_VAL"] :=
  regenVal_eq q f v

/-- accept_ACT_SMT (`subtype(inst, 603)`, then ';') and the handler of every statement subtype Flat.lean models: ACT_AI
    ('assign ' — no R801 V_MSV under the R609 value —, the R689 value, ' = ', the R609 value), ACT_RET, ACT_BRK, ACT_CON, ACT_CTL,
    ACT_CR (R633 variable, R671 class), ACT_CNV, ACT_DEL, ACT_REL / ACT_UNR (R615 R616 R653 / R620 R621 R655, the phrase only
    when non-empty), ACT_RU / ACT_URU (… then ' using ' and the R619 / R624 variable), ACT_FIO, ACT_FIW (+ ' where ' R610),
    ACT_FOR (R614 ' in ' R652, block R605, 'end for'), ACT_WHL, ACT_IF (R625, R607, the R682 clauses through the loop oracle,
    the R683 clause → accept_ACT_E: 'else' and its R606 block, 'end if') -/
theorem statement_as_in_source (q : FlatPop) (f s : Nat) :
    regenSmt q (f + 1) s ++ [Tok.p .semi] =
      if (smtSub q s).isSome && !isElifOrElse q s then handler (envN q f 2) accept_ACT_SMT (.sup "ACT_SMT" s)
      else [Tok.bad "ACT_SMT", Tok.p .semi] :=
  regenSmt_eq q f s

/-- the successor loop of accept_ACT_BLK, one round: `while act_smt: self.accept(act_smt); act_smt =
    one(act_smt).ACT_SMT[661, 'precedes']()`; the rounds that follow are `regenChain` one unit of fuel lower -/
theorem successor_loop_as_in_source (q : FlatPop) (f : Nat) (cur : Option Nat) :
    (whileOf accept_ACT_BLK).map (fun vb => (runStm (chainEnv q f vb.1) (.whileLoc vb.1 vb.2) [(vb.1, curPV cur)]).2) =
      some (regenChain q (f + 1) cur) :=
  regenChain_eq q f cur

/-- accept_ACT_BLK: the first statement is `one(inst).ACT_SMT[602](first_filter)` with the filter closure of the source (no
    R661 'succeeds' predecessor, no R603 ACT_EL, no R603 ACT_E) = `firstStmt`, then the successor loop; level and line breaks
    print no token -/
theorem block_as_in_source (q : FlatPop) (f b : Nat) :
    regenBlk q (f + 2) b = handler (chainEnv q f "act_smt") accept_ACT_BLK (.sup "ACT_BLK" b) ∧
    evalNav q (blkLocals b) (.one "inst" [⟨"ACT_SMT", 602, ""⟩] (some "first_filter")) = curPV (firstStmt q b) ∧
    filterOf accept_ACT_BLK = some ("first_filter", "sel", firstFilterConj) :=
  ⟨regenBlk_eq q f b, first_nav q b, rfl⟩

/-- the elif loop of accept_ACT_IF, one round: `for act_el in sorted(many(inst).ACT_EL[682](), key=by_position):
    self.accept(act_el)` → accept_ACT_EL: 'elif ', the R659 value, the R658 block; the rounds that follow are `regenElifs` one
    unit of fuel lower; the key is (LineNumber, StartPosition) of the clause's R603 ACT_SMT.  Hypothesis: the rows are ACT_EL
    rows — what `many(inst).ACT_EL[682]()` = `elifsOf` delivers (second part) -/
theorem elif_loop_as_in_source (q : FlatPop) (f s : Nat) (l : List Row) (hl : ∀ r ∈ l, ∃ a blk v i, r = Row.el a blk v i) :
    (forOf accept_ACT_IF).map (fun x => forStep (envN q f 1) x.1 x.2.2.2 [] (l.map .sub)) = some (regenElifs q (f + 1) l) ∧
    (∀ r ∈ elifsOf q s, ∃ a blk v i, r = Row.el a blk v i) ∧
    keyOf accept_ACT_IF = some ("by_position", "inst",
      [(.one "inst" [⟨"ACT_SMT", 603, ""⟩] none, "LineNumber"), (.one "inst" [⟨"ACT_SMT", 603, ""⟩] none, "StartPosition")]) :=
  ⟨regenElifs_eq q f l hl, elifsOf_isEl q s, rfl⟩

/-- accept_ACT_ACT: the R666 block; gen_text_action starts the walker at level -1 -/
theorem action_as_in_source (q : FlatPop) :
    regenFlat q = (if (outerBlk q).isSome then handler { q := q, acc := accHead q (q.length + 1) } accept_ACT_ACT .act
      else [Tok.bad "ACT_BLK"]) ∧ initialLevel = -1 :=
  ⟨regenFlat_eq q, rfl⟩

/-! non-vacuity: the generic interpreter RUNS the generated IR on a concrete population and produces the tokens; and it is no
    renaming of `regen*` — on statement structures OTHER than the generated ones (hand-made mutations) it computes other
    token lists, so the equalities above are not equalities that any IR would satisfy -/

/-- `relate a to b across R1.'p' using c; return (1 + (- 2)); if (1) elif (2) else end if;` as prebuild.py lays it out -/
def sgPop : FlatPop :=
  [.blk true, .var "a" 0, .var "b" 0, .var "c" 0,
   .smt 0 none, .ru 4 1 2 3 "R1" "'p'",
   .smt 0 (some 4), .val 0, .lin 7 "1", .val 0, .lin 9 "2", .val 0, .uny 11 "-" 9, .val 0, .bin 13 "+" 7 11, .ret 6 (some 13),
   .smt 0 (some 6), .blk false, .if_ 16 17 7, .smt 0 none, .blk false, .el 19 20 9 16, .smt 0 none, .blk false, .e 22 23 16]

example : regenFlat sgPop =
    [.kw .relate, .ident "a", .kw .to, .ident "b", .kw .across, .ident "R1", .p .dot, .phrase "'p'", .kw .using_, .ident "c",
     .p .semi, .kw .return_, .p .lpar, .num "1", .p .plus, .p .lpar, .p .minus, .num "2", .p .rpar, .p .rpar, .p .semi,
     .kw .if_, .num "1", .kw .elif_, .num "2", .kw .else_, .endIf, .p .semi] := by decide +kernel
example : (outerBlk sgPop).isSome = true ∧ (valSub sgPop 13).isSome = true ∧
    ((smtSub sgPop 4).isSome && !isElifOrElse sgPop 4) = true ∧ ((smtSub sgPop 16).isSome && !isElifOrElse sgPop 16) = true ∧
    isVar sgPop 3 = true := by decide +kernel
example : regenVal sgPop 3 13 = handler (envN sgPop 2 2) accept_V_VAL (.sup "V_VAL" 13) := by
  rw [value_as_in_source]; rfl
example : regenSmt sgPop 4 16 ++ [Tok.p .semi] = handler (envN sgPop 3 2) accept_ACT_SMT (.sup "ACT_SMT" 16) := by
  rw [statement_as_in_source]; rfl
example : regenFlat sgPop = handler { q := sgPop, acc := accHead sgPop (sgPop.length + 1) } accept_ACT_ACT .act := by
  rw [(action_as_in_source sgPop).1]; rfl
example : (forOf accept_ACT_IF).map (fun x => forStep (envN sgPop 2 1) x.1 x.2.2.2 [] ((elifsOf sgPop 16).map .sub)) =
    some (regenElifs sgPop 3 (elifsOf sgPop 16)) :=
  (elif_loop_as_in_source sgPop 2 16 _ (elifsOf_isEl sgPop 16)).1

/-- the generated handlers, interpreted: the binary operation, the relate-using statement, the if statement -/
example : handler (envN sgPop 2 1) accept_V_BIN (.sub (.bin 13 "+" 7 11)) =
      [.p .lpar, .num "1", .p .plus, .p .lpar, .p .minus, .num "2", .p .rpar, .p .rpar] ∧
    handler (envN sgPop 2 1) accept_ACT_RU (.sub (.ru 4 1 2 3 "R1" "'p'")) =
      [.kw .relate, .ident "a", .kw .to, .ident "b", .kw .across, .ident "R1", .p .dot, .phrase "'p'", .kw .using_, .ident "c"] ∧
    handler (envN sgPop 3 1) accept_ACT_IF (.sub (.if_ 16 17 7)) =
      [.kw .if_, .num "1", .kw .elif_, .num "2", .kw .else_, .endIf] := by decide +kernel

/-- hand-mutated IRs give OTHER token lists: the operands of a binary operation printed right before left; the `using` and the
    `to` variable swapped; the parentheses dropped around a unary operation; 'elif ' written by the else clause; the successor
    loop walking R661 in the other direction (the block then prints its first statement only) -/
example : handler (envN sgPop 2 1)
      [.buf [.lit "("], .accept (.one "inst" [⟨"V_VAL", 803, ""⟩] none), .buf [.lit " ", .attr "inst" "Operator", .lit " "],
       .accept (.one "inst" [⟨"V_VAL", 802, ""⟩] none), .buf [.lit ")"]] (.sub (.bin 13 "+" 7 11)) =
      [.p .lpar, .p .lpar, .p .minus, .num "2", .p .rpar, .p .plus, .num "1", .p .rpar] ∧
    handler (envN sgPop 2 1)
      [.buf [.lit "relate "], .accept (.one "inst" [⟨"V_VAR", 617, ""⟩] none), .buf [.lit " to "],
       .accept (.one "inst" [⟨"V_VAR", 619, ""⟩] none), .assign "r_rel" (.one "inst" [⟨"R_REL", 654, ""⟩] none),
       .buf [.lit " across R", .attrStr "r_rel" "Numb"],
       .ite (.attr "inst" "relationship_phrase") [.buf [.lit ".", .attr "inst" "relationship_phrase"]] [],
       .buf [.lit " using "], .accept (.one "inst" [⟨"V_VAR", 618, ""⟩] none)] (.sub (.ru 4 1 2 3 "R1" "'p'")) =
      [.kw .relate, .ident "a", .kw .to, .ident "c", .kw .across, .ident "R1", .p .dot, .phrase "'p'", .kw .using_, .ident "b"] ∧
    handler (envN sgPop 2 1)
      [.buf [.attr "inst" "Operator", .lit " "], .accept (.one "inst" [⟨"V_VAL", 804, ""⟩] none)] (.sub (.uny 11 "-" 9)) =
      [.p .minus, .num "2"] ∧
    handler (envN sgPop 2 0) [.buf [.lit "elif "], .accept (.one "inst" [⟨"ACT_BLK", 606, ""⟩] none)] (.sub (.e 22 23 16)) =
      [.kw .elif_] ∧
    handler (chainEnv sgPop 20 "act_smt")
      [.defFilter "first_filter" "sel" firstFilterConj, .assign "act_smt" (.one "inst" [⟨"ACT_SMT", 602, ""⟩] (some "first_filter")),
       .whileLoc "act_smt" [.accept (.loc "act_smt"), .assign "act_smt" (.one "act_smt" [⟨"ACT_SMT", 661, "succeeds"⟩] none)]]
      (.sup "ACT_BLK" 0) =
      [.kw .relate, .ident "a", .kw .to, .ident "b", .kw .across, .ident "R1", .p .dot, .phrase "'p'", .kw .using_, .ident "c",
       .p .semi] ∧
    handler (envN sgPop 2 0) [.buf [.lit "return"], .accept (.one "inst" [⟨"V_VAL", 668, ""⟩] none)] (.sub (.ret 6 none)) =
      [.bad "return"] := by decide +kernel

/-- THE LIST of the handlers `ActionTextGenWalker.accept_*` of the source, by name, in source order (83, no name twice): a
    handler added to / removed from / renamed in sourcegen.py changes the generated `handlers` and breaks this equation -/
theorem handlers_inventory_as_in_source :
    handlers.map Prod.fst =
      ["accept_S_BRG", "accept_O_TFR", "accept_S_SYNC", "accept_O_DBATTR", "accept_SM_ACT", "accept_SPR_PO", "accept_SPR_PS",
       "accept_SPR_RO", "accept_SPR_RS", "accept_ACT_ACT", "accept_ACT_BLK", "accept_ACT_SMT", "accept_ACT_RET",
       "accept_ACT_BRK", "accept_ACT_CON", "accept_ACT_CTL", "accept_ACT_CR", "accept_ACT_CNV", "accept_ACT_DEL",
       "accept_ACT_REL", "accept_ACT_RU", "accept_ACT_UNR", "accept_ACT_URU", "accept_ACT_FIO", "accept_ACT_SEL",
       "accept_ACT_SRW", "accept_ACT_FIW", "accept_ACT_LNK", "accept_ACT_AI", "accept_ACT_WHL", "accept_ACT_IF",
       "accept_ACT_EL", "accept_ACT_E", "accept_ACT_FOR", "accept_ACT_FNC", "accept_ACT_BRG", "accept_ACT_IOP",
       "accept_ACT_SGN", "accept_ACT_TFM", "accept_V_VAL", "accept_V_TVL", "accept_V_ISR", "accept_V_VAR", "accept_V_IRF",
       "accept_V_PVL", "accept_V_SLR", "accept_V_MVL", "accept_V_AVL", "accept_V_AER", "accept_V_ALV", "accept_V_LIN",
       "accept_V_LRL", "accept_V_LST", "accept_V_LBO", "accept_V_LEN", "accept_V_BIN", "accept_V_UNY", "accept_V_PAR",
       "accept_V_EDV", "accept_V_EPR", "accept_SM_EVTDI", "accept_V_FNV", "accept_V_BRV", "accept_V_TRV", "accept_V_MSV",
       "accept_V_SCV", "accept_SPR_PEP", "accept_SPR_REP", "accept_E_GPR", "accept_E_ESS", "accept_E_GES", "accept_E_CES",
       "accept_SM_EVT", "accept_E_GSME", "accept_E_GAR", "accept_E_GEC", "accept_E_CSME", "accept_E_CEA", "accept_E_CEC",
       "accept_O_TPARM", "accept_S_SPARM", "accept_S_BPARM", "accept_C_PP"] ∧
    handlers.length = 83 ∧ (handlers.map Prod.fst).Nodup ∧ default_accept = [.printClassName] := by
  exact ⟨rfl, rfl, handlers_nodup, rfl⟩

/-- THE BOUNDARY of the model.  (1), (2): the 83 handlers split, in source order, into the 39 of `modelledClasses` (tied to
    `regen*` for all inputs by the seven theorems above and the three clause theorems below) and the 44 of `outsideClasses`;
    (3) the 44 are exactly: action homes (S_BRG O_TFR S_SYNC O_DBATTR SM_ACT SPR_PO SPR_PS SPR_RO SPR_RS), `select … related
    by` (ACT_SEL ACT_SRW ACT_LNK), invocation statements (ACT_FNC ACT_BRG ACT_IOP ACT_SGN ACT_TFM), value subtypes without a
    row (V_MVL V_AER V_ALV V_EDV V_FNV V_BRV V_TRV V_MSV), parameter chains and names (V_PAR V_EPR SM_EVTDI SPR_PEP SPR_REP
    O_TPARM S_SPARM C_PP), the event subsystem (E_GPR E_ESS E_GES E_CES SM_EVT E_GSME E_GAR E_GEC E_CSME E_CEA E_CEC);
    (4) no row of ANY flat population is of an outside class, and `getattr(self, 'accept_' + class)` finds a handler for every
    row but the three R814 subtypes V_INT V_INS V_TRN (which no handler navigates to) -/
theorem model_boundary_as_in_source :
    (handlers.map Prod.fst).filter (fun n => modelledClasses.any (fun c => handlerName c == n)) =
      modelledClasses.map handlerName ∧
    (handlers.map Prod.fst).filter (fun n => !modelledClasses.any (fun c => handlerName c == n)) =
      outsideClasses.map handlerName ∧
    (let groups := outsideHomes ++ outsideSelectRelated ++ outsideInvocationStatements ++ outsideValues ++
        outsideParameters ++ outsideEvents
     groups.length = outsideClasses.length ∧ groups.Nodup ∧ outsideClasses.all groups.contains = true ∧
       modelledClasses.length = 39 ∧ outsideClasses.length = 44) ∧
    (∀ r : Row, outsideClasses.contains r.cls = false ∧
      (handlers.lookup (handlerName r.cls)).isSome = !unvisitedRowClasses.contains r.cls) := by
  -- `hm` / `hu` are stated per class NAME (39 + 3 closed facts) and expanded, so that `cases r` (40 constructors) only
  -- rewrites; evaluated per row, every name would be looked up in the 83 handlers once more
  have hm : ∀ c ∈ modelledClasses, outsideClasses.contains c = false ∧
      (handlers.lookup (handlerName c)).isSome = true ∧ unvisitedRowClasses.contains c = false :=
    fun c h => ⟨(modelled_inside h).1, (modelled_inside h).2, (by decide +kernel : ∀ c ∈ modelledClasses, unvisitedRowClasses.contains c = false) c h⟩
  have hu : ∀ c ∈ unvisitedRowClasses, outsideClasses.contains c = false ∧
      (handlers.lookup (handlerName c)).isSome = false ∧ unvisitedRowClasses.contains c = true := by decide +kernel
  simp only [modelledClasses, unvisitedRowClasses, List.forall_mem_cons, List.not_mem_nil, false_imp_iff, implies_true,
    and_true] at hm hu
  refine ⟨?_, ?_, by decide +kernel, fun r => ?_⟩
  · exact handlers_modelled
  · exact handlers_outside
  · cases r <;> simp only [Row.cls, unvisitedRowClasses, hm, hu, Bool.not_true, Bool.not_false, and_self]

/-- WHERE a modelled handler names a class on the other side: exactly four hops in the whole source — accept_ACT_AI asks for
    the R801 V_MSV of the R609 value ('send ' or 'assign '), accept_V_PVL accepts the R832 S_SPARM, the R833 O_TPARM and the
    R843 C_PP next to the R831 S_BPARM.  For EVERY population and EVERY instance these four navigations find nothing (so
    'assign ' is written, and `accept(None)` prints nothing): Flat.lean records the parameter of a V_PVL, whatever its class,
    under R831 — and the four parameter-name handlers of the source are the same statement list, `buf(inst.Name)` -/
theorem boundary_crossings_as_in_source :
    boundaryCrossings =
      [("accept_ACT_AI", ⟨"V_MSV", 801, ""⟩), ("accept_V_PVL", ⟨"S_SPARM", 832, ""⟩), ("accept_V_PVL", ⟨"O_TPARM", 833, ""⟩),
       ("accept_V_PVL", ⟨"C_PP", 843, ""⟩)] ∧
    (∀ (q : FlatPop) (x : Inst), hopMany q x ⟨"V_MSV", 801, ""⟩ = [] ∧ hopMany q x ⟨"S_SPARM", 832, ""⟩ = [] ∧
      hopMany q x ⟨"O_TPARM", 833, ""⟩ = [] ∧ hopMany q x ⟨"C_PP", 843, ""⟩ = []) ∧
    accept_S_SPARM = accept_S_BPARM ∧ accept_O_TPARM = accept_S_BPARM ∧ accept_C_PP = accept_S_BPARM ∧
    accept_S_BPARM = [.buf [.attr "inst" "Name"]] := by
  refine ⟨?_, fun q x => ⟨hopMany_msv q x, hopMany_foreign q x _ _ (.inl ⟨rfl, rfl⟩),
    hopMany_foreign q x _ _ (.inr (.inl ⟨rfl, rfl⟩)), hopMany_foreign q x _ _ (.inr (.inr ⟨rfl, rfl⟩))⟩, rfl, rfl, rfl, rfl⟩
  simp only [boundaryCrossings, Pyx.StrCode.beq_code]
  decide +kernel

/-- accept_ACT_E on its own (inside `statement_as_in_source` it is reached through accept_ACT_IF): 'else', the R606 block -/
theorem else_clause_as_in_source (q : FlatPop) (f n a eb s : Nat) :
    handler (envN q f n) accept_ACT_E (.sub (.e a eb s)) = [Tok.kw .else_] ++ regenBlk q f eb :=
  accept_ACT_E_eq q f n a eb s

/-- accept_ACT_EL on its own (one clause of `regenElifs`): 'elif ', the R659 value, the R658 block -/
theorem elif_clause_as_in_source (q : FlatPop) (f n a blk v i : Nat) :
    handler (envN q f n) accept_ACT_EL (.sub (.el a blk v i)) = [Tok.kw .elif_] ++ regenVal q f v ++ regenBlk q f blk :=
  accept_ACT_EL_eq q f n a blk v i

/-- accept_S_BPARM on its own, under any oracles: the parameter's Name; it is the last token of the V_PVL clause of `regenVal`.
    Hypothesis of the second part: the R801 subtype row of the value is that V_PVL row (discharged below on a population) -/
theorem parameter_name_as_in_source (E : Env) (v : Nat) (name : String) :
    handler E accept_S_BPARM (.elem "S_BPARM" (.pvl v name)) = [Tok.ident name] ∧
    (∀ (f w : Nat), valSub E.q w = some (.pvl v name) →
      regenVal E.q (f + 1) w = [Tok.kw .param, Tok.p .dot] ++ handler E accept_S_BPARM (.elem "S_BPARM" (.pvl v name))) := by
  refine ⟨accept_S_BPARM_eq E v name, fun f w h => ?_⟩
  rw [regenVal, h, accept_S_BPARM_eq]; rfl

/-- non-vacuity: the two clause handlers on the clauses of `sgPop`; a mutated inventory is a different list -/
example : handler (envN sgPop 3 0) accept_ACT_E (.sub (.e 22 23 16)) = [.kw .else_] ∧
    handler (envN sgPop 3 0) accept_ACT_EL (.sub (.el 19 20 9 16)) = [.kw .elif_, .num "2"] ∧
    valSub [.val 0, .pvl 0 "x"] 0 = some (.pvl 0 "x") ∧
    regenVal [.val 0, .pvl 0 "x"] 1 0 = [.kw .param, .p .dot, .ident "x"] := by decide +kernel
example : ((handlers.map Prod.fst).erase "accept_V_SCV").length = 82 ∧
    boundaryCrossings.length = 4 ∧ (handlers.lookup (handlerName (Row.vtrn 0).cls)).isSome = false :=
  ⟨by decide +kernel, by rw [boundary_crossings_as_in_source.1]; rfl, (model_boundary_as_in_source.2.2.2 (.vtrn 0)).2⟩

end PyxProps.C05
