import Gen.LinkDecisions
import Proofs.RelateShapeMore
import Proofs.MetaShapes

/-!
  C02 — Links stay symmetric, bounded and atomic through any operation history.
  Property theorems only.  Model: PyxModel/Meta.lean (xtuml/meta.py: two directed link maps per
  association, `_find_link`, `relate` with undo of the first connect, `unrelate`, `MetaClass.delete`,
  `new`), for an ARBITRARY schema (any list of `define_association` calls) and histories of any length.
-/
namespace PyxProps.C02
open Pyx.Meta

/-- the invariant of the statement, per association: navigation is symmetric (`y` reachable from `x`
    iff `x` reachable from `y` in the opposite direction), partner lists are duplicate-free, and a
    single-valued end holds at most one partner -/
theorem inv_unfold (sch : Schema) (s : State) :
    Inv sch s ↔ ∀ i, (∀ x y, y ∈ (s.links i).src x ↔ x ∈ (s.links i).tgt y) ∧
      ((∀ x, ((s.links i).src x).Nodup) ∧ (∀ y, ((s.links i).tgt y).Nodup)) ∧
      (((specAt sch i).srcMany = false → ∀ x, ((s.links i).src x).length ≤ 1) ∧
       ((specAt sch i).tgtMany = false → ∀ y, ((s.links i).tgt y).length ≤ 1)) := Iff.rfl

/-- one step of ANY operation — accepted or rejected, well-typed or not, on any instances —
    preserves the invariant -/
theorem inv_step (sch : Schema) (s : State) (op : Op) (h : Inv sch s) : Inv sch (step sch s op).1 := step_inv h op

/-- hence every state reachable by any history of new / relate / unrelate / delete calls satisfies it -/
theorem inv_reachable (sch : Schema) (ops : List Op) : Inv sch (run sch ops) :=
  run_inv_from sch ops init (inv_init sch)

/-- a relate that does not return ok (RelateException: a single-valued end would get a second partner, or one of the two
    instances is not in its pool - deleted; UnknownLinkException: unknown association number, kinds or phrase) leaves
    the model exactly as it was -/
theorem relate_reject_atomic (sch : Schema) (s : State) (h : Inv sch s) (x y : Inst) (r p : String)
    (hr : (relate sch s x y r p).2 ≠ .ok) : (relate sch s x y r p).1 = s := Pyx.Meta.relate_reject_atomic h hr

/-- when is a relate rejected with RelateException: on the resolved association, for two LIVE instances, exactly when
    the pair is not yet related and one of the two single-valued ends is already occupied; and as a whole
    (`relate sch s x y r p`, association `i` found in direction `d`) exactly when one of the two instances is not in its
    pool (deleted: a deleted instance must not become reachable again) or the pair is refused in that sense -/
theorem relate_rejected_iff (a : AssocSpec) (l : ALinks) (x y : Inst) (hsym : Sym l) :
    ((relateOn a l x y).2 = .relateExc ↔
      (y ∉ l.src x ∧ ((l.src x ≠ [] ∧ a.srcMany = false) ∨ (l.tgt y ≠ [] ∧ a.tgtMany = false)))) ∧
    (∀ (sch : Schema) (s : State) (i1 i2 : Inst) (r p : String) (i : Nat) (d : Dir),
      findLink sch (s.kindOf i1) (s.kindOf i2) r p = some (i, d) →
      ((relate sch s i1 i2 r p).2 = .relateExc ↔
        (¬ (live s i1 ∧ live s i2) ∨
         (relateOn (specAt sch i) (s.links i) (orient d i1 i2).1 (orient d i1 i2).2).2 = .relateExc))) := by
  refine ⟨relateOn_reject_iff hsym, fun sch s i1 i2 r p i d hf => ?_⟩
  rw [relate_found hf]
  by_cases hl : live s i1 ∧ live s i2
  · rw [if_pos hl]; exact ⟨Or.inr, fun h => h.resolve_left (not_not_intro hl)⟩
  · rw [if_neg hl]; exact ⟨fun _ => Or.inl hl, fun _ => rfl⟩

/-- **use after delete is rejected**: a relate with an argument that is not in the instance pool of its class (deleted,
    or never created) raises — UnknownLinkException when no association matches, RelateException otherwise
    — and changes nothing -/
theorem relate_on_deleted_rejected (sch : Schema) (s : State) (x y : Inst) (r p : String)
    (h : ¬ (live s x ∧ live s y)) :
    (relate sch s x y r p).1 = s ∧
    ((findLink sch (s.kindOf x) (s.kindOf y) r p).isSome = true → relate sch s x y r p = (s, .relateExc)) ∧
    (findLink sch (s.kindOf x) (s.kindOf y) r p = none → relate sch s x y r p = (s, .unknownLink)) := by
  refine ⟨(relate_not_live_fst h r p).1, fun hs => ?_, relate_unknown⟩
  obtain ⟨⟨i, d⟩, hf⟩ := Option.isSome_iff_exists.1 hs
  rw [relate_found hf, if_neg h]

/-- an unrelate that does not return ok (UnrelateException: pair not linked; UnknownLinkException)
    leaves the model exactly as it was; it is rejected exactly when the pair is not linked -/
theorem unrelate_reject_atomic (sch : Schema) (s : State) (h : Inv sch s) (x y : Inst) (r p : String)
    (hr : (unrelate sch s x y r p).2 ≠ .ok) : (unrelate sch s x y r p).1 = s := Pyx.Meta.unrelate_reject_atomic h hr

theorem unrelate_rejected_iff (l : ALinks) (x y : Inst) (hsym : Sym l) :
    (unrelateOn l x y).2 = .unrelateExc ↔ y ∉ l.src x := unrelateOn_reject_iff hsym

/-- an unknown association number / kinds / phrase is rejected with UnknownLinkException, state unchanged -/
theorem unknown_link_atomic (sch : Schema) (s : State) (x y : Inst) (r p : String)
    (hf : findLink sch (s.kindOf x) (s.kindOf y) r p = none) :
    relate sch s x y r p = (s, .unknownLink) ∧ unrelate sch s x y r p = (s, .unknownLink) :=
  ⟨relate_unknown hf, unrelate_unknown hf⟩

/-- `_find_link` is sound: the association it returns carries the requested number and phrase and
    connects the two kinds in the direction that makes the pair well-typed -/
theorem find_link_sound (sch : Schema) (k1 k2 : Kind) (r p : String) (i : Nat) (d : Dir)
    (h : findLink sch k1 k2 r p = some (i, d)) :
    ∃ a, sch[i]? = some a ∧ a.rel = r ∧
      (d = .fwd → a.tgtKind = k1 ∧ a.srcKind = k2 ∧ a.tgtPhrase = p) ∧
      (d = .rev → a.srcKind = k1 ∧ a.tgtKind = k2 ∧ a.srcPhrase = p) := by
  obtain ⟨a, ha, _, hr⟩ := findLinkFrom_sound sch 0 i d h
  exact ⟨a, ha, hr⟩

/-- relating an already related pair is a no-op returning ok -/
theorem relate_idempotent (sch : Schema) (s : State) (h : Inv sch s) (x y : Inst) (r p : String) (i : Nat) (d : Dir)
    (hf : findLink sch (s.kindOf x) (s.kindOf y) r p = some (i, d))
    (hrel : (orient d x y).2 ∈ (s.links i).src (orient d x y).1) (hx : live s x) (hy : live s y) :
    relate sch s x y r p = (s, .ok) := Pyx.Meta.relate_idempotent h hf hrel hx hy

/-- a successful unrelate exactly undoes a successful relate of a previously unrelated pair -/
theorem unrelate_undoes_relate (sch : Schema) (s s' : State) (h : Inv sch s) (x y : Inst) (r p : String)
    (i : Nat) (d : Dir) (hf : findLink sch (s.kindOf x) (s.kindOf y) r p = some (i, d))
    (hnew : (orient d x y).2 ∉ (s.links i).src (orient d x y).1)
    (hr : relate sch s x y r p = (s', .ok)) : unrelate sch s' x y r p = (s, .ok) :=
  Pyx.Meta.unrelate_undoes_relate h hf hnew hr

/-- deleting an instance that is not live (never created or already deleted) raises DeleteException
    and changes nothing; in particular a repeated delete is rejected, in every reachable state -/
theorem delete_dead_rejected (sch : Schema) (s : State) (x : Inst) (h : ¬ live s x) :
    delete sch s x = (s, .deleteExc) := Pyx.Meta.delete_dead_rejected sch s x h

theorem delete_twice_rejected (sch : Schema) (ops : List Op) (x : Inst) :
    delete sch (delete sch (run sch ops) x).1 x = ((delete sch (run sch ops) x).1, .deleteExc) :=
  Pyx.Meta.delete_twice_rejected (run_poolInv_from sch ops init poolInv_init) x

/-- only live instances are reachable: preserved by creation, by relate of ANY two instances (accepted or
    rejected; a relate with an instance that is not live is rejected) and by unrelate -/
theorem live_only_new (s : State) (hp : PoolInv s) (hl : LiveOnly s) (k : Kind) (hid : Bool) :
    LiveOnly (new s k hid).1 := new_liveOnly hp hl k hid
theorem live_only_relate (sch : Schema) (s : State) (hl : LiveOnly s) (x y : Inst) (r p : String) :
    LiveOnly (relate sch s x y r p).1 := relate_liveOnly hl
theorem live_only_unrelate (sch : Schema) (s : State) (hl : LiveOnly s) (x y : Inst) (r p : String) :
    LiveOnly (unrelate sch s x y r p).1 := (unrelate_shrinks sch s x y r p).liveOnly hl

/-- `MetaClass.delete` of a live instance succeeds and disconnects EVERY link of the deleted instance, so
    only live instances stay reachable — for schemas in which (kinds, number, phrase) resolve every
    association to itself in both directions (`SchemaOk`), in states whose links are well-typed -/
theorem live_only_delete (sch : Schema) (s : State) (hok : SchemaOk sch) (h : Inv sch s) (ht : Typed sch s)
    (hl : LiveOnly s) (hp : PoolInv s) (x : Inst) (hx : live s x) :
    (delete sch s x).2 = .ok ∧ LiveOnly (delete sch s x).1 := delete_liveOnly hok h ht hl hp hx

/-- every state reachable by ANY history whatsoever (any operations on any arguments: relates of deleted instances,
    rejected calls, repeated deletes, …) satisfies all invariants at once: symmetric, duplicate-free, bounded
    navigation; well-typed links; only live instances reachable; duplicate-free pools -/
theorem all_invariants_reachable (sch : Schema) (hok : SchemaOk sch) (ops : List Op) :
    AllInv sch (run sch ops) := run_allInv_any hok ops init (allInv_init sch)

theorem live_only_reachable (sch : Schema) (hok : SchemaOk sch) (ops : List Op) :
    ∀ i x y, y ∈ ((run sch ops).links i).src x → live (run sch ops) x ∧ live (run sch ops) y :=
  (all_invariants_reachable sch hok ops).liveOnly

/-- the hypothesis `SchemaOk` of the delete / liveness theorems holds for every association shape the property names
    (1:1, 1:M, M:1 unconditional, reflexive with phrases, association class with two formalisations, subtype /
    supertype sharing an identifier, two associations sharing a referential attribute), for a class with two
    reflexive associations carrying the same phrases, for a non-reflexive association with phrases and for the
    chain A.B_Id → B.Id → C.Id — so those theorems are not vacuous on any of them; a reflexive
    association whose two phrases are equal is NOT SchemaOk (example in Proofs/MetaShapes.lean) -/
theorem shapes_are_schemaOk :
    SchemaOk shapeOneOne ∧ SchemaOk shapeOneMany ∧ SchemaOk shapeManyOneUncond ∧ SchemaOk shapeReflexive ∧
    SchemaOk shapeAssocClass ∧ SchemaOk shapeSubsuper ∧ SchemaOk shapeSharedRef ∧ SchemaOk shapeTwoReflexive ∧
    SchemaOk shapePhrased ∧ SchemaOk shapeRefIdChain :=
  shapes_schemaOk

/-- each referential attribute reads as the identifying attribute of the linked instance and as unset when
    unlinked (one formalising association); a class's own id reads as the stored id; a referential attribute
    shared by two associations reads through whichever is linked, the later definition first -/
theorem referential_reads (sch : Schema) (at_ : Attrs) (s : State) (f : Nat) (x : Inst) (name pk : String) (i : Nat)
    (h : formalFrom (s.kindOf x) name 0 sch = [(i, pk)]) :
    getAttr sch at_ s (f + 2) x name =
      match ((s.links i).tgt x).head? with
      | some other => getAttr sch at_ s f other pk
      | none => none := getAttr_single sch at_ s f x name pk i h

theorem own_id_reads (sch : Schema) (at_ : Attrs) (s : State) (f : Nat) (x : Inst) (name : String)
    (h : formalFrom (s.kindOf x) name 0 sch = []) :
    getAttr sch at_ s (f + 1) x name = if at_.idName (s.kindOf x) = some name then some (s.idOf x) else none :=
  getAttr_own sch at_ s f x name h

theorem shared_referential_reads (sch : Schema) (at_ : Attrs) (s : State) (f : Nat) (x : Inst) (name pk1 pk2 : String)
    (i1 i2 : Nat) (h : formalFrom (s.kindOf x) name 0 sch = [(i1, pk1), (i2, pk2)]) :
    getAttr sch at_ s (f + 3) x name =
      match ((s.links i2).tgt x).head? with
      | some other => getAttr sch at_ s (f + 1) other pk2
      | none =>
        match ((s.links i1).tgt x).head? with
        | some other => getAttr sch at_ s f other pk1
        | none => none := by
  simp only [getAttr, h, List.reverse_cons, List.reverse_nil, List.nil_append, List.cons_append, readLayers]
  cases ((s.links i2).tgt x).head? with
  | some o => rfl
  | none =>
    simp only
    cases ((s.links i1).tgt x).head? <;> rfl

/-- tie to the source: the decision structure of `Link.connect` and `Link.disconnect` as TRANSLATED from
    xtuml/meta.py on this run (lean/Gen/LinkDecisions.lean: the chain of guarded early returns) is exactly
    what the model's `connect` / `disconnect` do, for every link map and every pair:
    early `return True` ⇒ unchanged map, `return False` ⇒ refused, fall-through ⇒ the mutation -/
theorem link_decisions_as_in_source (many : Bool) (m : Inst → List Inst) (x y : Inst) :
    (connect many m x y =
      match Pyx.Gen.LinkDecisions.connect (decide (y ∈ m x)) (decide (m x ≠ [])) many true with
      | .retTrue => some m
      | .retFalse => none
      | .mutate => some (upd m x (m x ++ [y]))) ∧
    (disconnect m x y =
      match Pyx.Gen.LinkDecisions.disconnect (decide (y ∈ m x)) (decide (m x ≠ [])) with
      | .retTrue => some m
      | .retFalse => none
      | .mutate => some (upd m x ((m x).erase y))) := by
  constructor
  · unfold connect Pyx.Gen.LinkDecisions.connect
    by_cases h1 : y ∈ m x
    · simp [h1]
    · by_cases h2 : m x = [] <;> cases many <;> simp [h1, h2]
  · unfold disconnect Pyx.Gen.LinkDecisions.disconnect
    by_cases h1 : y ∈ m x
    · have h2 : m x ≠ [] := fun h => by rw [h] at h1; simp at h1
      simp [h1, h2]
    · by_cases h2 : m x = [] <;> simp [h1, h2]

/-! non-vacuity: a concrete history over a 1:1 schema reaches a state with one link; the rejected relate
    of a second partner returns RelateException and leaves that state unchanged -/
def sch11 : Schema :=
  [{ rel := "R1", srcKind := 0, srcKeys := ["B_Id"], srcMany := false, srcCond := true, srcPhrase := "",
     tgtKind := 1, tgtKeys := ["Id"], tgtMany := false, tgtCond := true, tgtPhrase := "" }]
def hist : List Op := [.new 0 true, .new 1 true, .new 1 true, .relate 0 1 "R1" ""]
example : ((run sch11 hist).links 0).tgt 0 = [1] ∧ ((run sch11 hist).links 0).src 1 = [0] ∧
    (relate sch11 (run sch11 hist) 0 2 "R1" "").2 = .relateExc ∧
    ((relate sch11 (run sch11 hist) 0 2 "R1" "").1.links 0).src 2 = [] ∧
    (unrelate sch11 (run sch11 hist) 0 2 "R1" "").2 = .unrelateExc ∧
    (relate sch11 (run sch11 hist) 0 2 "R9" "").2 = .unknownLink ∧
    live (run sch11 hist) 0 ∧ ¬ live (delete sch11 (run sch11 hist) 0).1 0 := by decide +kernel
/-- the 1:1 schema is `SchemaOk`, so `all_invariants_reachable` applies — here to a history that USES AN INSTANCE
    AFTER ITS DELETE (the relate is rejected, everything reachable stays live) -/
example : SchemaOk sch11 ∧
    AllInv sch11 (run sch11 (hist ++ [.delete 0, .relate 0 1 "R1" "", .new 0 true, .relate 3 1 "R1" ""])) := by
  have hok : SchemaOk sch11 := schemaOk_of_check (by decide)
  exact ⟨hok, all_invariants_reachable sch11 hok _⟩

end PyxProps.C02

/-!
  Source tie one level above Link.connect / Link.disconnect.

  translator/gen_relateshape.py reads `MetaModel.define_association`, `_find_link`, `relate`, `unrelate`,
  `MetaClass.delete` / `delete`, `MetaClass.new` and the property getter of `Association.formalize` with `ast`
  on every run and emits their statement structure as a first-order IR (lean/Gen/RelateShape.lean).
  Proofs/RelateShape.lean defines ONE generic interpreter of that IR (`Pyx.Shape.i…`, for any IR value).
  The theorems below state that the model of PyxModel/Meta.lean IS the interpretation of the IR generated from
  the current source — so a change of the order of the two connects, of the direction test, of the undo, of the
  arguments handed to _find_link, of which links delete clears (or in which order), of the storage handling of
  new / delete, or of the getter's fallback changes the IR and breaks these theorems before any test runs; a
  statement outside the expected shape makes the generator raise (broken tie).
-/
namespace PyxProps.C02
open Pyx.Meta Pyx.Shape Pyx.Gen.RelateShape

/-- `_find_link`: the model's direction test is the loop body read from the source (first guard that fires:
    skip on another rel id, found as given when the SOURCE link goes from the first argument's class to the second's
    with that phrase, found swapped when the TARGET link does), where "source link" / "target link" get their
    classes and phrase as `define_association` hands them to `add_link` -/
theorem find_link_as_in_source (sch : Schema) (k1 k2 : Kind) (rel phrase : String) :
    findLink sch k1 k2 rel phrase =
      (iFindFrom linkDefs findBody k1 k2 rel phrase 0 sch).map (fun r => (r.1, dirOf r.2)) :=
  findLink_eq sch k1 k2 rel phrase

/-- the two connects of `relate` (with the undo of the first when the second is refused) and the two disconnects
    of `unrelate`, on the oriented pair, are the guarded-call lists read from the source -/
theorem relate_steps_as_in_source (a : AssocSpec) (l : ALinks) (x y fromI toI : Inst) :
    relateOn a l x y = iSteps linkDefs a { inst1 := x, inst2 := y, fromI := fromI, toI := toI } relateProg.steps l ∧
    unrelateOn l x y = iSteps linkDefs a { inst1 := x, inst2 := y, fromI := fromI, toI := toI } unrelateProg.steps l :=
  ⟨relateOn_eq a l x y fromI toI, unrelateOn_eq a l x y fromI toI⟩

/-- `relate` and `unrelate` as wholes: `_find_link` on the arguments the source passes, orientation of the pair, the
    guards `for inst in (inst1, inst2): if inst in get_metaclass(inst).deleted: raise RelateException` of relate (none
    in unrelate; `deleted` is filled by the `self.deleted.add(instance)` of `MetaClass.delete`, whose body the
    interpretation consults: without that statement the guard would never fire and this equation would fail), the
    guarded calls on the association found, the exception when no association matches -/
theorem relate_as_in_source (sch : Schema) (s : State) (i1 i2 : Inst) (rel phrase : String) :
    relate sch s i1 i2 rel phrase = iPair linkDefs findBody findElse deleteBody relateProg sch s i1 i2 rel phrase ∧
    unrelate sch s i1 i2 rel phrase = iPair linkDefs findBody findElse deleteBody unrelateProg sch s i1 i2 rel phrase :=
  ⟨relate_eq sch s i1 i2 rel phrase, unrelate_eq sch s i1 i2 rel phrase⟩

/-- `metaclass.links.values()`: the model's link order of a class is the order in which `define_association`
    adds the two links -/
theorem links_of_as_in_source (sch : Schema) (k : Kind) : linksOf sch k = iLinksOfFrom linkDefs k 0 sch :=
  linksOfFrom_eq k sch 0

/-- `MetaClass.delete` (and `delete`, which forwards to it): storage test, removal (the removed instance is added to
    `self.deleted`: `marksDeleted deleteBody = true`, which `relate`'s guard relies on) and exception, then for every
    link of the class in `links` order the unrelate of every partner, with the argument order of the source; the
    `unrelate` it calls is the interpreted one -/
theorem delete_as_in_source (sch : Schema) (s : State) (x : Inst) :
    delete sch s x = iDelete linkDefs (iPair linkDefs findBody findElse deleteBody unrelateProg sch) sch x true deleteBody s ∧
    Pyx.Shape.marksDeleted deleteBody = true :=
  ⟨delete_eq sch s x, rfl⟩

/-- `MetaClass.new`, as far as C02's model goes (allocation, storage, generated id): the phases read from the
    source; the instance is appended to the storage BEFORE the defaults are computed (so a constructor that raises
    later leaves it there), and the batch relate calls `relate(other_inst, inst, …)` -/
theorem new_as_in_source (s : State) (k : Kind) (hasId : Bool) :
    new s k hasId = iNew newPhases s k hasId ∧
    newPhases.idxOf NewPhase.appendStorage < newPhases.idxOf NewPhase.defaults ∧
    newPhases.idxOf NewPhase.construct < newPhases.idxOf NewPhase.appendStorage ∧
    newRelateArgs = (NewArg.other, NewArg.newInst) :=
  ⟨new_eq s k hasId, by decide, by decide, by decide⟩

/-- the referential read: the getter installed by `Association.formalize` navigates the TARGET link, falls back to
    the previously installed property exactly when there is no partner and such a property exists, and otherwise
    returns the partner's attribute (None without partner); the layers pair referential with identifying keys
    as the wrapping loop zips them; "such a property exists" is read as "an earlier formalisation of the attribute
    exists" (the layer list has a tail), which is what the source does since it takes over what was installed under
    the name only if that is a property (`fgetAltIsPropertyOnly`; a method of the same name, e.g. `mro`, is ignored) -/
theorem referential_read_as_in_source (sch : Schema) (at_ : Attrs) (s : State) (fuel : Nat) :
    (∀ x name, getAttr sch at_ s fuel x name = iGetAttr fgetLink fgetFallback sch at_ s fuel x name) ∧
    (∀ x layers, readLayers sch at_ s fuel x layers = iReadLayers fgetLink fgetFallback sch at_ s fuel x layers) ∧
    (∀ a, keyPairs a = iKeyPairs fgetZip a) ∧
    fgetAltIsPropertyOnly = true :=
  ⟨(getAttr_readLayers_eq sch at_ s fuel).1, (getAttr_readLayers_eq sch at_ s fuel).2, fun _ => rfl, rfl⟩

/-! non-vacuity: the interpreter is not a renaming of the model — it runs the generated IR on the 1:1 schema above
    and produces the link, the rejection with undo, the unknown-link exception and the delete -/
example : ((iPair linkDefs findBody findElse deleteBody relateProg sch11 (run sch11 [.new 0 true, .new 1 true, .new 1 true]) 0 1 "R1" "").1.links 0).tgt 0 = [1] ∧
    (iPair linkDefs findBody findElse deleteBody relateProg sch11 (run sch11 hist) 0 2 "R1" "").2 = .relateExc ∧
    ((iPair linkDefs findBody findElse deleteBody relateProg sch11 (run sch11 hist) 0 2 "R1" "").1.links 0).src 2 = [] ∧
    (iPair linkDefs findBody findElse deleteBody relateProg sch11 (run sch11 hist) 0 2 "R9" "").2 = .unknownLink ∧
    iFindFrom linkDefs findBody 1 0 "R1" "" 0 sch11 = some (0, false) ∧
    iFindFrom linkDefs findBody 0 1 "R1" "" 0 sch11 = some (0, true) ∧
    ((iDelete linkDefs (iPair linkDefs findBody findElse deleteBody unrelateProg sch11) sch11 0 true deleteBody (run sch11 hist)).1.links 0).src 1 = [] ∧
    (iDelete linkDefs (iPair linkDefs findBody findElse deleteBody unrelateProg sch11) sch11 0 true deleteBody
      (iDelete linkDefs (iPair linkDefs findBody findElse deleteBody unrelateProg sch11) sch11 0 true deleteBody (run sch11 hist)).1).2 = .deleteExc := by
  decide +kernel
/-- use after delete: `a = new A; b = new B; delete(a); relate(a, b, R1)` is rejected with RelateException by the model
    AND by the interpreted source, nothing is linked; with a body of `MetaClass.delete` that does not add to `deleted`
    the interpreted guard would not fire (the relate would be accepted) -/
example : (relate sch11 (run sch11 [.new 0 true, .new 1 true, .delete 0]) 0 1 "R1" "").2 = .relateExc ∧
    (iPair linkDefs findBody findElse deleteBody relateProg sch11 (run sch11 [.new 0 true, .new 1 true, .delete 0]) 0 1 "R1" "").2 = .relateExc ∧
    ((relate sch11 (run sch11 [.new 0 true, .new 1 true, .delete 0]) 0 1 "R1" "").1.links 0).tgt 0 = [] ∧
    (iPair linkDefs findBody findElse [.removeFromStorageElseRaise .deleteExc false] relateProg sch11
      (run sch11 [.new 0 true, .new 1 true, .delete 0]) 0 1 "R1" "").2 = .ok := by
  decide
/-- a different IR gives a different function: with the two connects of relate swapped (and no undo), a relate that is
    refused on the source link would leave a half link behind — the equality theorems really depend on the
    generated program -/
def swappedRelate : PairProg :=
  { findArgs := relateProg.findArgs,
    guards := relateProg.guards,
    steps := [ { call := { link := .targetLink, op := .connect, a1 := .inst2, a2 := .inst1 }, undo := [], raises := .relateExc },
               { call := { link := .sourceLink, op := .connect, a1 := .inst1, a2 := .inst2 }, undo := [], raises := .relateExc } ] }
example : ((iPair linkDefs findBody findElse deleteBody swappedRelate sch11 (run sch11 (hist ++ [.new 0 true])) 3 1 "R1" "").1.links 0).tgt 3 = [1] ∧
    ((relate sch11 (run sch11 (hist ++ [.new 0 true])) 3 1 "R1" "").1.links 0).tgt 3 = [] := by
  decide +kernel

/-- WHOLE HISTORIES — the objects every invariant of C02 is stated about (`run sch ops`, `all_invariants_reachable`):
    for every schema and every list of operations, one step of the model is one step of the interpreter of the
    generated IR (`new` through the phases, `relate` / `unrelate` through `_find_link` + guards + guarded calls,
    `delete` through its body calling the interpreted `unrelate`), and the state a history reaches is the state the
    interpreter reaches — the state of an operation that raised is handed on as it was left -/
theorem run_as_in_source (sch : Schema) (s : State) (op : Op) (ops : List Op) :
    step sch s op = iStep linkDefs findBody findElse deleteBody relateProg unrelateProg newPhases sch s op ∧
    run sch ops = iRun linkDefs findBody findElse deleteBody relateProg unrelateProg newPhases sch ops :=
  ⟨step_eq sch s op, run_eq sch ops⟩

/-! non-vacuity: the interpreted history builds the link, rejects the relate after the delete and leaves nothing
    linked; with the swapped program above the same history ends in another state -/
example : ((iRun linkDefs findBody findElse deleteBody relateProg unrelateProg newPhases sch11 hist).links 0).tgt 0 = [1] ∧
    ((iRun linkDefs findBody findElse deleteBody relateProg unrelateProg newPhases sch11
        (hist ++ [.delete 0, .relate 0 1 "R1" ""])).links 0).src 1 = [] ∧
    ((iRun linkDefs findBody findElse deleteBody relateProg unrelateProg newPhases sch11
        (hist ++ [.new 0 true, .relate 3 1 "R1" ""])).links 0).tgt 3 = [] ∧
    ((iRun linkDefs findBody findElse deleteBody swappedRelate unrelateProg newPhases sch11
        (hist ++ [.new 0 true, .relate 3 1 "R1" ""])).links 0).tgt 3 = [1] := by
  decide +kernel

end PyxProps.C02

namespace PyxProps.C02
open Pyx.Meta

/-- THE referential-read clause as one theorem, for a general layer list and EVERY sufficient fuel.
    Hypothesis (acyclicity of the READS): a rank on read states (instance, attribute) drops from a read to the
    read it continues with (`ReadRank`: only along the layers of THAT attribute, only to the partner's identifying attribute
    it reads; without it the Python code itself recurses without end).  A ring or a self-link of instances whose referential
    attribute reads the partner's OWN id needs no rank along the link at all (examples below).  Then for every fuel ≥
    `(rk x name + 1) * (layerBound sch + 2)`: an attribute that no association formalises reads the instance's own id (or is
    unset); a referential attribute reads the converged value (`readValue`) of the identifying attribute of the partner
    across the outermost layer that HAS a partner, and is unset when no layer has one.  The result no longer depends on the
    fuel (`fuel_monotone`). -/
theorem referential_read_clause (sch : Schema) (at_ : Attrs) (s : State) (rk : Inst → String → Nat)
    (hdec : ReadRank sch s rk) (x : Inst) (name : String) (fuel : Nat)
    (hf : (rk x name + 1) * (layerBound sch + 2) ≤ fuel) :
    getAttr sch at_ s fuel x name =
      match (formalFrom (s.kindOf x) name 0 sch).reverse with
      | [] => if at_.idName (s.kindOf x) = some name then some (s.idOf x) else none
      | layers => readSpec (readValue sch at_ s rk) s x layers :=
  getAttr_spec sch at_ s rk hdec x name fuel (by rw [bnd_eq]; exact hf)

theorem fuel_monotone (sch : Schema) (at_ : Attrs) (s : State) (rk : Inst → String → Nat) (hdec : ReadRank sch s rk)
    (x : Inst) (name : String) (f1 f2 : Nat) (h1 : (rk x name + 1) * (layerBound sch + 2) ≤ f1)
    (h2 : (rk x name + 1) * (layerBound sch + 2) ≤ f2) :
    getAttr sch at_ s f1 x name = getAttr sch at_ s f2 x name :=
  getAttr_stable sch at_ s rk hdec (rk x name) x name rfl f1 f2 (by rw [bnd_eq]; exact h1) (by rw [bnd_eq]; exact h2)

/-- the fuel the driver uses is `driverFuel sch s = (s.count + layerBound sch + 1) * (layerBound sch + 2)` — the SAME
    definition in Driver/C02.lean and here.  It is sufficient for every read whose rank is at most `s.count + layerBound sch`:
    the driver's referential reads are the converged values, never an out-of-fuel `none` -/
theorem driver_fuel_sufficient (sch : Schema) (at_ : Attrs) (s : State) (rk : Inst → String → Nat)
    (hdec : ReadRank sch s rk) (x : Inst) (name : String) (hx : rk x name ≤ s.count + layerBound sch) :
    getAttr sch at_ s (driverFuel sch s) x name = readValue sch at_ s rk x name := by
  unfold readValue driverFuel
  apply getAttr_stable sch at_ s rk hdec (rk x name) x name rfl
  · rw [bnd_eq]; exact Nat.mul_le_mul_right _ (by omega)
  · exact Nat.le_refl _

/-- the two sources of a read rank: an instance rank that drops along every target link (rank ≤
    number of instances for an acyclic link state), and — in a well-kinded state — a rank on the ATTRIBUTES of the
    schema that drops along every key pair (a property of the schema alone; every state, rings of instances included) -/
theorem read_rank_sources (sch : Schema) (s : State) :
    (∀ rk : Inst → Nat, RankDecreases s rk → ReadRank sch s (fun x _ => rk x)) ∧
    (∀ ar : Kind → String → Nat, AttrRank sch ar → KindsOk sch s → ReadRank sch s (fun x name => ar (s.kindOf x) name)) :=
  ⟨readRank_of_rankDecreases sch s, fun ar har hk => readRank_of_attrRank sch s ar har hk⟩

/-! non-vacuity: R7 N.Next_Id → Z.Id and the reflexive R2 N.Next_Id → N.Next_Id (a
    referential IDENTIFYING key), chain N0 → N1 → N2 → N3 → N4 → Z5.  Every Ni reads Z's id (1); a fuel of
    `2·|assocs| + 4 = 8` runs out on N0 and N1, the driver's fuel does not. -/
def schChain : Schema :=
  [{ rel := "R7", srcKind := 0, srcKeys := ["Next_Id"], srcMany := true, srcCond := true, srcPhrase := "",
     tgtKind := 1, tgtKeys := ["Id"], tgtMany := false, tgtCond := true, tgtPhrase := "" },
   { rel := "R2", srcKind := 0, srcKeys := ["Next_Id"], srcMany := false, srcCond := true, srcPhrase := "succ",
     tgtKind := 0, tgtKeys := ["Next_Id"], tgtMany := false, tgtCond := true, tgtPhrase := "pred" }]
def stChain : State :=
  { init with
    kindOf := fun x => if x = 5 then 1 else 0, count := 6, idOf := fun x => if x = 5 then 1 else 0
    links := fun i =>
      if i = 0 then { src := fun x => if x = 5 then [4] else [], tgt := fun x => if x = 4 then [5] else [] }
      else { src := fun x => if 1 ≤ x ∧ x ≤ 4 then [x - 1] else [], tgt := fun x => if x < 4 then [x + 1] else [] } }
def atChain : Attrs := { idName := fun k => if k = 1 then some "Id" else none }
theorem stChain_rank : RankDecreases stChain (fun x => 5 - x) := by
  intro i x o h
  by_cases hi : i = 0
  · subst hi
    by_cases hx : x = 4
    · subst hx
      simp [stChain] at h
      subst h
      decide
    · simp [stChain, hx] at h
  · by_cases hx : x < 4
    · simp [stChain, hi, hx] at h
      subst h
      exact Nat.sub_lt_sub_left (Nat.lt_of_lt_of_le hx (by decide)) (Nat.lt_succ_self x)
    · simp [stChain, hi, hx] at h
example : ((List.range 5).map fun x => getAttr schChain atChain stChain (driverFuel schChain stChain) x "Next_Id") =
      [some 1, some 1, some 1, some 1, some 1] ∧
    ((List.range 5).map fun x => getAttr schChain atChain stChain (2 * schChain.length + 4) x "Next_Id") =
      [none, none, some 1, some 1, some 1] := by decide +kernel
/-- `KindsOk` — partners across an association are of its target kind — holds in EVERY reachable state (any history, any
    arguments): it follows from symmetric navigation and well-typed links, two of the invariants of
    `all_invariants_reachable` -/
theorem kindsOk_reachable (sch : Schema) (hok : SchemaOk sch) (ops : List Op) : KindsOk sch (run sch ops) := by
  have hall := all_invariants_reachable sch hok ops
  intro i a x o ha ho
  have hmem : o ∈ ((run sch ops).links i).tgt x := List.mem_of_mem_head? ho
  have hsym : x ∈ ((run sch ops).links i).src o := ((hall.inv i).1 o x).2 hmem
  obtain ⟨a', ha', hko, _⟩ := hall.typed i o x hsym
  rw [ha] at ha'
  cases ha'
  exact hko

/-- hence for a schema whose referential keys do not refer to one another in a cycle (`AttrRank`, a property of the SCHEMA)
    the acyclicity hypothesis `ReadRank` of the referential-read clause holds in every reachable state — rings and
    self-links of instances included -/
theorem read_rank_reachable (sch : Schema) (hok : SchemaOk sch) (ar : Kind → String → Nat) (har : AttrRank sch ar)
    (ops : List Op) : ReadRank sch (run sch ops) (fun x name => ar ((run sch ops).kindOf x) name) :=
  readRank_of_attrRank sch (run sch ops) ar har (kindsOk_reachable sch hok ops)

/-- the driver's fuel is enough on EVERY harness shape, in every reachable state with an instance, for every read: the
    referential keys of no shape of meta_common.SHAPES refer to one another in a cycle (`shapes_attrRank`: the rank `shapeRank`
    drops along every key pair and never exceeds 2), every shape is SchemaOk, hence `ReadRank` holds in every reachable state
    (read_rank_reachable) within the bound `count + layerBound` — no referential read of a correspondence run is an
    out-of-fuel `none` -/
theorem driver_reads_converged_on_shapes (sch : Schema) (h : sch ∈ allShapes) (at_ : Attrs) (ops : List Op)
    (x : Inst) (name : String) (hc : 1 ≤ (run sch ops).count) :
    getAttr sch at_ (run sch ops) (driverFuel sch (run sch ops)) x name =
      readValue sch at_ (run sch ops) (fun y n => shapeRank sch ((run sch ops).kindOf y) n) x name := by
  apply driver_fuel_sufficient sch at_ (run sch ops) _
    (read_rank_reachable sch (shapes_all_schemaOk sch h) (shapeRank sch) (shapes_attrRank sch h).1 ops) x name
  have h1 := shapeRank_le sch ((run sch ops).kindOf x) name
  have h2 := (shapes_attrRank sch h).2
  omega

/-- applied: the A.B_Id → B.Id → C.Id shape after a history that links the chain -/
example : shapeRefIdChain ∈ allShapes ∧
    1 ≤ (run shapeRefIdChain [.new 2 true, .new 1 false, .new 0 true, .relate 1 0 "R9" "", .relate 2 1 "R8" ""]).count := by
  decide

/-- the clause and the driver's fuel APPLIED to the chain: N0 reads, through five hops, the id of Z5 -/
example : getAttr schChain atChain stChain (driverFuel schChain stChain) 0 "Next_Id" =
    readValue schChain atChain stChain (fun x _ => 5 - x) 0 "Next_Id" :=
  driver_fuel_sufficient schChain atChain stChain (fun x _ => 5 - x)
    (readRank_of_rankDecreases schChain stChain _ stChain_rank) 0 "Next_Id" (by decide)

/-! two states of the PLAIN reflexive shape (R2: N.Next_Id → N.Id, phrases precedes / succeeds): the ring
    `relate 0 1; relate 1 0` and a self-link.  No instance rank exists (`RankDecreases` is unsatisfiable: it would need
    rk 1 < rk 0 < rk 1, resp. rk 0 < rk 0), but the read of Next_Id continues with the partner's OWN id, which is the end of
    the read: the attribute rank Next_Id ↦ 1, Id ↦ 0 is a `ReadRank`, and the clause gives the reads. -/
def schRefl : Schema :=
  [{ rel := "R2", srcKind := 0, srcKeys := ["Next_Id"], srcMany := false, srcCond := true, srcPhrase := "precedes",
     tgtKind := 0, tgtKeys := ["Id"], tgtMany := false, tgtCond := true, tgtPhrase := "succeeds" }]
def atRefl : Attrs := { idName := fun _ => some "Id" }
def arRefl : Kind → String → Nat := fun _ name => if name = "Next_Id" then 1 else 0
def stRing : State :=
  { init with count := 2, idOf := fun x => x + 1, pool := fun _ => [0, 1]
              links := fun _ => { src := fun x => if x = 0 then [1] else if x = 1 then [0] else [],
                                  tgt := fun x => if x = 0 then [1] else if x = 1 then [0] else [] } }
def stSelf : State :=
  { init with count := 1, idOf := fun x => x + 1, pool := fun _ => [0]
              links := fun _ => { src := fun x => if x = 0 then [0] else [], tgt := fun x => if x = 0 then [0] else [] } }
example : (¬ ∃ rk, RankDecreases stRing rk) ∧ (¬ ∃ rk, RankDecreases stSelf rk) := by
  constructor
  · intro ⟨rk, h⟩
    have h1 := h 0 0 1 (by decide)
    have h2 := h 0 1 0 (by decide)
    omega
  · intro ⟨rk, h⟩
    have h1 := h 0 0 0 (by decide)
    omega
theorem schRefl_attrRank : AttrRank schRefl arRefl := by
  intro a ha p hp
  simp only [schRefl, List.mem_singleton] at ha
  subst ha
  simp only [keyPairs, List.zip_cons_cons, List.zip_nil_right, List.mem_singleton] at hp
  subst hp
  decide
theorem refl_kindsOk (s : State) (hk : ∀ x, s.kindOf x = 0) : KindsOk schRefl s := by
  intro i a x o ha _
  have : a ∈ schRefl := List.mem_of_getElem? ha
  simp only [schRefl, List.mem_singleton] at this
  subst this
  exact hk o
example : ReadRank schRefl stRing (fun x name => arRefl (stRing.kindOf x) name) ∧
    ReadRank schRefl stSelf (fun x name => arRefl (stSelf.kindOf x) name) :=
  ⟨readRank_of_attrRank schRefl stRing arRefl schRefl_attrRank (refl_kindsOk stRing (fun _ => rfl)),
   readRank_of_attrRank schRefl stSelf arRefl schRefl_attrRank (refl_kindsOk stSelf (fun _ => rfl))⟩
/-- the clause applied on the ring: with the driver's fuel, instance 0 reads the id of its partner 1 (and 1 that of 0); on the
    self-link instance 0 reads its own id -/
example : getAttr schRefl atRefl stRing (driverFuel schRefl stRing) 0 "Next_Id" =
      readValue schRefl atRefl stRing (fun x name => arRefl (stRing.kindOf x) name) 0 "Next_Id" :=
  driver_fuel_sufficient schRefl atRefl stRing _
    (readRank_of_attrRank schRefl stRing arRefl schRefl_attrRank (refl_kindsOk stRing (fun _ => rfl))) 0 "Next_Id" (by decide)
example : getAttr schRefl atRefl stRing (driverFuel schRefl stRing) 0 "Next_Id" = some 2 ∧
    getAttr schRefl atRefl stRing (driverFuel schRefl stRing) 1 "Next_Id" = some 1 ∧
    getAttr schRefl atRefl stSelf (driverFuel schRefl stSelf) 0 "Next_Id" = some 1 := by decide

/-- `read_rank_reachable` APPLIED: `schRefl` is `SchemaOk` and has the attribute rank `arRefl`, so the read rank holds after
    this history, which links two instances into a RING (0 → 1 → 0) — no instance rank exists there -/
example : ReadRank schRefl (run schRefl [.new 0 true, .new 0 true, .relate 0 1 "R2" "succeeds", .relate 1 0 "R2" "succeeds"])
    (fun x name => arRefl ((run schRefl [.new 0 true, .new 0 true, .relate 0 1 "R2" "succeeds", .relate 1 0 "R2" "succeeds"]).kindOf x) name) ∧
    ((run schRefl [.new 0 true, .new 0 true, .relate 0 1 "R2" "succeeds", .relate 1 0 "R2" "succeeds"]).links 0).tgt 0 ≠ [] ∧
    ((run schRefl [.new 0 true, .new 0 true, .relate 0 1 "R2" "succeeds", .relate 1 0 "R2" "succeeds"]).links 0).tgt 1 ≠ [] := by
  exact ⟨read_rank_reachable schRefl (schemaOk_of_check (by decide)) arRefl schRefl_attrRank _, by decide, by decide⟩

end PyxProps.C02

