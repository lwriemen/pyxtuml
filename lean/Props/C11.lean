import Proofs.Query
import Proofs.CheckShape
import Proofs.Lib.ListExtra

/-!
  C11 — The consistency check reports exactly the violations present.
  Property theorems only.  Model: PyxModel/Check.lean (xtuml/consistency_check.py over an explicit state:
  pools, the two link maps of every association, an attribute valuation).
-/
namespace PyxProps.C11
open Pyx.Meta Pyx.Check

/-- an (instance, end) pair is counted exactly when the partner count lies outside the end's
    multiplicity and conditionality: below 1 on an unconditional end, above 1 on a single-valued end -/
theorem end_violation_iff (cond many : Bool) (n : Nat) :
    violates cond many n = true ↔ ¬ ((if cond then 0 else 1) ≤ n ∧ (many = true ∨ n ≤ 1)) := by
  unfold violates
  cases cond <;> cases many <;> simp <;> omega

/-- per direction, the number reported is the number of instances of the link's FROM class whose partner
    list violates the bounds of the far end -/
theorem link_count (w : World) (i : Nat) :
    checkLink w i true = ((w.pool (specAt w.sch i).tgtKind).filter
      (fun x => violates (specAt w.sch i).srcCond (specAt w.sch i).srcMany ((w.links i).src x).length)).length ∧
    checkLink w i false = ((w.pool (specAt w.sch i).srcKind).filter
      (fun x => violates (specAt w.sch i).tgtCond (specAt w.sch i).tgtMany ((w.links i).tgt x).length)).length := by
  unfold checkLink
  simp [List.countP_eq_length_filter]

/-- the association check sums both ends of every association (unrestricted), resp. of exactly the
    associations carrying the given number (restricted) -/
theorem assoc_count (w : World) (rel : Option String) :
    checkAssoc w rel = ((List.range w.sch.length).map (fun j =>
      if rel = none ∨ rel = some (w.sch.getD j (specAt [] 0)).rel then checkLink w j true + checkLink w j false
      else 0)).sum :=
  checkAssoc_eq w rel

/-- the identifier check of a class (identifier names are dict keys, hence distinct): the number of null
    identifying values plus, per identifier, the number of instances repeating an earlier instance's key -/
theorem uniq_count (w : World) (k : Kind) (ci : ClassInfo) (hk : w.classes[k]? = some ci)
    (hnd : (ci.idents.map (·.1)).Nodup) :
    checkUniq w (some k) =
      ((w.pool k).map (nullCount ci w.val)).sum +
      (ci.idents.map (fun idn => repeatsSpec (fun x => identKey w.val x idn.2) (w.pool k) [])).sum := by
  simp only [checkUniq, checkUniqClass, hk]
  rw [uniqLoop_eq ci w.val hnd]
  rfl

/-- `uniq_count` with the repetition count in DECLARATIVE form: per identifier, the number of pool positions whose
    key tuple also occurs at an EARLIER position of the pool (no seen-list, no recursion: `repeatsDecl` counts
    positions `j` with `key l[j] ∈ keys of l[0..j)`) -/
theorem uniq_count_declarative (w : World) (k : Kind) (ci : ClassInfo) (hk : w.classes[k]? = some ci)
    (hnd : (ci.idents.map (·.1)).Nodup) :
    checkUniq w (some k) =
      ((w.pool k).map (nullCount ci w.val)).sum +
      (ci.idents.map (fun idn => repeatsDecl (fun x => identKey w.val x idn.2) (w.pool k) [])).sum := by
  rw [uniq_count w k ci hk hnd]
  congr 2
  exact List.map_congr_left (fun idn _ => repeatsSpec_eq_decl _ _ _)

/-- a value is null when it is unset, or the zero id in a column typed UNIQUE_ID in any letter case
    (the empty string is not counted, as the tool documents) -/
theorem null_iff (v : Option Int) (isUid : Bool) : isNull v isUid = true ↔ v = none ∨ (isUid = true ∧ v = some 0) := by
  unfold isNull
  cases v <;> cases isUid <;> simp

/-- the unrestricted identifier check is the sum over all classes; restricted = that class only -/
theorem uniq_all (w : World) : checkUniq w none = ((List.range w.classes.length).map (fun k => checkUniq w (some k))).sum := rfl

/-- the model is reported consistent exactly when both counts are zero -/
theorem consistent_iff (w : World) : isConsistent w = true ↔ checkAssoc w none = 0 ∧ checkUniq w none = 0 := by
  unfold isConsistent
  by_cases h : checkAssoc w none = 0 <;> simp [h]

/-- command line: the error sum is positive exactly when some selected part reports a violation, and
    the exit status is non-zero exactly then -/
theorem exit_iff (w : World) (rels : List String) (kinds : List Kind) :
    exitStatus w rels kinds ≠ 0 ↔ 0 < mainErrors w rels kinds := by
  unfold exitStatus; split <;> simp_all

theorem main_positive_iff (w : World) (rels : List String) (kinds : List Kind) (hr : rels ≠ []) (hk : kinds ≠ []) :
    0 < mainErrors w rels kinds ↔ (∃ r ∈ rels, 0 < checkAssoc w (some r)) ∨ (∃ k ∈ kinds, 0 < checkUniq w (some k)) := by
  unfold mainErrors
  have h1 : rels.isEmpty = false := by cases rels <;> simp_all
  have h2 : kinds.isEmpty = false := by cases kinds <;> simp_all
  simp only [h1, h2, Bool.false_eq_true, ↓reduceIte]
  rw [← sum_pos_iff, ← sum_pos_iff]; omega

theorem main_unrestricted (w : World) : mainErrors w [] [] = checkAssoc w none + checkUniq w none := by
  simp [mainErrors]

/-- no false positive: when every end of every association is within its bounds the association check
    reports nothing; when identifying values are non-null and the keys of every identifier pairwise
    distinct the identifier check reports nothing -/
theorem no_false_positive_assoc (w : World)
    (h : ∀ i, (∀ x ∈ w.pool (specAt w.sch i).tgtKind,
          violates (specAt w.sch i).srcCond (specAt w.sch i).srcMany ((w.links i).src x).length = false) ∧
        (∀ x ∈ w.pool (specAt w.sch i).srcKind,
          violates (specAt w.sch i).tgtCond (specAt w.sch i).tgtMany ((w.links i).tgt x).length = false)) :
    checkAssoc w none = 0 := by
  rw [assoc_count, sum_eq_zero_iff]
  intro j _
  have hj := h j
  simp only [true_or, ↓reduceIte]
  have h1 : checkLink w j true = 0 := by
    unfold checkLink; simp only [↓reduceIte]
    rw [List.countP_eq_zero]; intro x hx; simp [hj.1 x hx]
  have h2 : checkLink w j false = 0 := by
    unfold checkLink; simp only [Bool.false_eq_true, ↓reduceIte]
    rw [List.countP_eq_zero]; intro x hx; simp [hj.2 x hx]
  omega

theorem no_false_positive_uniq (w : World) (k : Kind) (ci : ClassInfo) (hk : w.classes[k]? = some ci)
    (hnd : (ci.idents.map (·.1)).Nodup)
    (hnull : ∀ x ∈ w.pool k, nullCount ci w.val x = 0)
    (hdist : ∀ idn ∈ ci.idents, ((w.pool k).map (fun x => identKey w.val x idn.2)).Nodup) :
    checkUniq w (some k) = 0 := by
  rw [uniq_count w k ci hk hnd]
  have h1 : ((w.pool k).map (nullCount ci w.val)).sum = 0 := (sum_eq_zero_iff _ _).2 hnull
  have h2 : (ci.idents.map (fun idn => repeatsSpec (fun x => identKey w.val x idn.2) (w.pool k) [])).sum = 0 := by
    rw [sum_eq_zero_iff]
    intro idn hidn
    exact repeatsSpec_zero _ _ [] (hdist idn hidn) (fun _ _ => by simp)
  omega

/-- tie to the source: the three decisions as TRANSLATED from xtuml/consistency_check.py on this run
    (lean/Gen/CheckCond.lean: the counting condition of check_link_integrity, the null test of
    check_uniqueness_constraint, the exit status expression) are the ones the model uses — for all
    arguments.  A change of any of these expressions in the code changes the generated file and this
    theorem is re-checked against it. -/
theorem decisions_as_in_source :
    (∀ cond many n, Pyx.Gen.CheckCond.violates cond many n = violates cond many n) ∧
    (∀ v isUid, Pyx.Gen.CheckCond.isNull v isUid = isNull v isUid) ∧
    (∀ (w : World) rels kinds, Pyx.Gen.CheckCond.exitNonZero (mainErrors w rels kinds) = decide (exitStatus w rels kinds ≠ 0)) := by
  refine ⟨Pyx.CShape.violates_gen, Pyx.CShape.isNull_gen, ?_⟩
  intro w rels kinds
  unfold Pyx.Gen.CheckCond.exitNonZero exitStatus
  by_cases h : mainErrors w rels kinds > 0 <;> simp [h]

/-- what one accumulation statement of `main` adds to `error` (generic interpretation of the IR emitted by
    translator/gen_checkcond.py from the tail of `main` of BOTH command-line tools) -/
def iMainStmt (w : World) (rels : List String) (kinds : List Kind) : Pyx.Gen.CheckCond.MainStmt → Nat
  | .forRels => (rels.map (fun r => checkAssoc w (some r))).sum
  | .ifNoRels => if rels.isEmpty then checkAssoc w none else 0
  | .forKinds => (kinds.map (fun k => checkUniq w (some k))).sum
  | .ifNoKinds => if kinds.isEmpty then checkUniq w none else 0

/-- `error = 0; <statements>; return error` -/
def iMain (w : World) (rels : List String) (kinds : List Kind) (prog : List Pyx.Gen.CheckCond.MainStmt) : Nat :=
  (prog.map (iMainStmt w rels kinds)).sum

/-- SOURCE TIE of the two `main` functions: the model's `mainErrors` is the interpretation of the statement list read
    from xtuml/consistency_check.py AND of the one read from bridgepoint/consistency_check.py on this run, and both
    tools' exit expression is the model's — for every population and every option list.  Dropping, duplicating or
    re-guarding one of the four statements in either tool changes the generated list and this theorem fails. -/
theorem mains_as_in_source (w : World) (rels : List String) (kinds : List Kind) :
    mainErrors w rels kinds = iMain w rels kinds Pyx.Gen.CheckCond.mainXtuml ∧
    mainErrors w rels kinds = iMain w rels kinds Pyx.Gen.CheckCond.mainBridgepoint ∧
    Pyx.Gen.CheckCond.exitNonZeroBp (mainErrors w rels kinds) = decide (exitStatus w rels kinds ≠ 0) := by
  have key : mainErrors w rels kinds = iMain w rels kinds [.forRels, .ifNoRels, .forKinds, .ifNoKinds] := by
    unfold mainErrors iMain
    simp only [List.map_cons, List.map_nil, List.sum_cons, List.sum_nil, iMainStmt]
    cases rels <;> cases kinds <;> simp only [List.isEmpty, List.map_nil, List.sum_nil, ↓reduceIte, Bool.false_eq_true] <;> omega
  refine ⟨key, key, ?_⟩
  unfold Pyx.Gen.CheckCond.exitNonZeroBp exitStatus
  by_cases h : mainErrors w rels kinds > 0 <;> simp [h]

/-! non-vacuity: a 1:1 association, unconditional at its source end, with one unlinked target instance; class 0 repeats an
    identifier value, class 1 holds a null id -/
def w0 : World :=
  { sch := [{ rel := "R1", srcKind := 0, srcKeys := ["B_Id"], srcMany := false, srcCond := false, srcPhrase := "",
              tgtKind := 1, tgtKeys := ["Id"], tgtMany := false, tgtCond := true, tgtPhrase := "" }],
    classes := [{ attrs := [("Id", true), ("B_Id", true)], idents := [("I1", ["Id"])], identifying := ["Id"] },
                { attrs := [("Id", true)], idents := [("I1", ["Id"])], identifying := ["Id"] }],
    pool := fun k => if k = 0 then [0, 1] else [2, 3],
    links := fun _ => { src := fun x => if x = 2 then [0] else [], tgt := fun x => if x = 0 then [2] else [] },
    val := fun x n => if n = "Id" then (if x = 3 then some 0 else some 7) else none,
    kindOf := fun x => if x < 2 then 0 else 1, count := 4 }
example : checkAssoc w0 none = 1 ∧ checkAssoc w0 (some "R9") = 0 ∧ checkUniq w0 (some 0) = 1 ∧ checkUniq w0 (some 1) = 1 ∧
    isConsistent w0 = false ∧ exitStatus w0 [] [] = 1 := by decide +kernel

/-- non-vacuity of `mains_as_in_source`: on `w0` the interpreted statement lists give the counts of the parts selected, and a
    `main` that lost its unrestricted uniqueness fall-back (a different list) is a different function -/
example : iMain w0 [] [] Pyx.Gen.CheckCond.mainBridgepoint = 3 ∧ iMain w0 ["R9"] [] Pyx.Gen.CheckCond.mainXtuml = 2 ∧
    iMain w0 ["R1"] [0] Pyx.Gen.CheckCond.mainBridgepoint = 2 ∧
    iMain w0 [] [] [.forRels, .ifNoRels, .forKinds] = 1 := by decide +kernel

/-- `check_subtype_integrity(m, super_kind, rel)`: when no navigation raises (every link key of the supertype class
    with the rel id can be navigated from every pool instance), the count is exactly the number of instances of
    the class for which EVERY link key with that rel id has an empty partner list — the model's `navSubtype`
    (C09 `nav_subtype_spec`: first key that yields an instance, else nothing) says "nothing" for exactly those -/
theorem subtype_count (w : World) (k : Kind) (rel : String) (hkind : ∀ x ∈ w.pool k, w.kindOf x = k)
    (hnav : ∀ x ∈ w.pool k, ∀ e ∈ Pyx.Query.linkDict w.sch k, e.rel = rel →
      ∃ l, Pyx.Query.navigate w.sch w.toState x e.toKind rel "" = some l) :
    checkSubtype w k rel = (w.pool k).countP (fun x => noSubtype w.sch w.toState x rel (Pyx.Query.linkDict w.sch k)) := by
  unfold checkSubtype
  refine List.countP_congr fun x hx => Bool.eq_iff_iff.mp ?_
  have hk : w.toState.kindOf x = k := hkind x hx
  unfold Pyx.Query.navSubtype
  rw [hk]
  exact navSubtypeFrom_nothing_iff w.sch w.toState x rel _ (hnav x hx)

/-- in terms of the links themselves: when the link keys of the supertype class are pairwise distinct and its
    links with the rel id carry the empty phrase (as subtype associations do), no navigation raises, and the count
    is the number of instances that have no partner over ANY of the class's links with that rel id -/
theorem subtype_count_links (w : World) (k : Kind) (rel : String) (hkind : ∀ x ∈ w.pool k, w.kindOf x = k)
    (hd : Pyx.Query.KeysDistinct (Pyx.Query.linkEntriesFrom k 0 w.sch))
    (hph : ∀ e ∈ Pyx.Query.linkEntriesFrom k 0 w.sch, e.rel = rel → e.phrase = "") :
    checkSubtype w k rel = (w.pool k).countP (fun x =>
      (Pyx.Query.linkEntriesFrom k 0 w.sch).all (fun e => !(e.rel == rel) || (Pyx.Query.followEntry w.toState e x).isEmpty)) := by
  have hdict := Pyx.Query.linkDict_distinct w.sch k hd
  have hnavE : ∀ x ∈ w.pool k, ∀ e ∈ Pyx.Query.linkEntriesFrom k 0 w.sch, e.rel = rel →
      Pyx.Query.navigate w.sch w.toState x e.toKind rel "" = some (Pyx.Query.followEntry w.toState e x) := by
    intro x hx e he hr
    apply Pyx.Query.navigate_direct'
    have hk : w.toState.kindOf x = k := hkind x hx
    rw [hk, hdict]
    have := Pyx.Query.lookupKey_of_mem _ e hd he
    rw [hr, hph e he hr] at this
    exact this
  rw [subtype_count w k rel hkind (by
    intro x hx e he hr
    rw [hdict] at he
    exact ⟨_, hnavE x hx e he hr⟩)]
  refine List.countP_congr fun x hx => Bool.eq_iff_iff.mp ?_
  unfold noSubtype
  rw [hdict]
  apply Pyx.all_congr_mem
  intro e he
  by_cases hr : e.rel = rel
  · simp only [hr, beq_self_eq_true, Bool.not_true, Bool.false_or, keyEmpty]
    rw [hnavE x hx e he hr]
  · have hb : (e.rel == rel) = false := by simpa using hr
    simp [hb]

/-! non-vacuity: supertype class 0 with subtypes 1 and 2 over R3; instance 0 has a subtype of class 2, instance 1 none -/
def wSub : World :=
  { sch := [{ rel := "R3", srcKind := 1, srcKeys := ["Id"], srcMany := false, srcCond := true, srcPhrase := "",
              tgtKind := 0, tgtKeys := ["Id"], tgtMany := false, tgtCond := true, tgtPhrase := "" },
            { rel := "R3", srcKind := 2, srcKeys := ["Id"], srcMany := false, srcCond := true, srcPhrase := "",
              tgtKind := 0, tgtKeys := ["Id"], tgtMany := false, tgtCond := true, tgtPhrase := "" }],
    classes := [],
    pool := fun k => if k = 0 then [0, 1] else if k = 2 then [7] else [],
    links := fun i => if i = 1 then { src := fun x => if x = 0 then [7] else [], tgt := fun x => if x = 7 then [0] else [] }
                      else emptyLinks,
    val := fun _ _ => none,
    kindOf := fun x => if x = 7 then 2 else 0, count := 8 }
example : Pyx.Query.KeysDistinct (Pyx.Query.linkEntriesFrom 0 0 wSub.sch) ∧
    (∀ e ∈ Pyx.Query.linkEntriesFrom 0 0 wSub.sch, e.rel = "R3" → e.phrase = "") ∧ (∀ x ∈ wSub.pool 0, wSub.kindOf x = 0) := by
  unfold Pyx.Query.KeysDistinct; decide +kernel
example : checkSubtype wSub 0 "R3" = 1 ∧
    (wSub.pool 0).countP (fun x => (Pyx.Query.linkEntriesFrom 0 0 wSub.sch).all
      (fun e => !(e.rel == "R3") || (Pyx.Query.followEntry wSub.toState e x).isEmpty)) = 1 := by decide +kernel

section SourceShape
open Pyx.CShape Pyx.Gen.CheckShape

/-! ### the loop structure of xtuml/consistency_check.py (`Gen/CheckShape.lean`, regenerated from the source on every run)

  `interp w f args` (Proofs/CheckShape.lean) is the generic interpretation of the IR of the function `f` over the world `w`:
  the collections the loops range over, navigations, conditions, counters, dictionaries and `continue` mean what they mean for
  ANY IR value; the counting condition / the null test are the functions gen_checkcond.py translates from the same
  statements; a call of check_link_integrity means what the model says it returns.  Each theorem: the function, as it stands
  in the source, returns the model's count — for every world. -/

/-- check_subtype_integrity: for every instance of `m.select_many(super_kind)`, counted iff `not xtuml.navigate_subtype(inst,
    rel_id)` (no navigation raising: an UnknownLinkException would leave the function, the model counts it) -/
theorem subtype_integrity_as_in_source (w : World) (k : Kind) (rel : String)
    (hnav : ∀ x ∈ w.pool k, Pyx.Query.navSubtype w.sch w.toState x rel ≠ none) :
    interp w check_subtype_integrity [.model, .cls k, .str rel] = some (.nat (checkSubtype w k rel)) :=
  check_subtype_eq w k rel hnav

/-- check_link_integrity: for every instance of `link.from_metaclass.select_many()`, `q_set = list(link.navigate(inst))`,
    counted iff the counting condition (Gen.CheckCond.violates) holds of len(q_set), link.conditional, link.many -/
theorem link_integrity_as_in_source (w : World) (i : Nat) (isSrc : Bool) :
    interp w check_link_integrity [.model, .link i isSrc] = some (.nat (checkLink w i isSrc)) :=
  check_link_eq w i isSrc

/-- check_association_integrity: for every association of `m.associations` with `rel_id in [ass.rel_id, None]`, source_link
    then target_link, summed -/
theorem association_integrity_as_in_source (w : World) (rel : Option String) :
    interp w check_association_integrity [.model, relV rel] = some (.nat (checkAssoc w rel)) :=
  check_association_eq w rel

/-! non-vacuity: applied to wSub, and hand-MUTATED IRs (inside the fragment the generator accepts) that give another count -/

def natOf : Option V → Option Nat
  | some (.nat n) => some n
  | _ => none

example : interp wSub check_subtype_integrity [.model, .cls 0, .str "R3"] = some (.nat 1) :=
  (subtype_integrity_as_in_source wSub 0 "R3" (by decide +kernel)).trans (congrArg (fun n => some (V.nat n)) (by decide +kernel))

/-- MUTATION: the branches swapped — the OTHER instance (the one with a subtype) is counted; counting in both branches: 2 -/
example : natOf (interp wSub { check_subtype_integrity with body :=
    [ .normRel "rel_id", .assign "res" (.nat 0),
      .forIn ["inst"] (.selectMany "m" "super_kind") [
        .ifC (.notE (.navigateSubtype "inst" "rel_id")) [] [ .incr "res", .log ] ],
      .ret "res" ] } [.model, .cls 0, .str "R3"]) = some 1 ∧ checkSubtype wSub 0 "R3" = 1 ∧
    natOf (interp wSub { check_subtype_integrity with body :=
    [ .normRel "rel_id", .assign "res" (.nat 0),
      .forIn ["inst"] (.selectMany "m" "super_kind") [
        .ifC (.notE (.navigateSubtype "inst" "rel_id")) [ .incr "res", .log ] [ .incr "res" ] ],
      .ret "res" ] } [.model, .cls 0, .str "R3"]) = some 2 := by decide +kernel

/-- one association 0 --R1--> 1, unconditional single-valued at both ends; instance 0 of class 0 has no partner -/
def wLink : World :=
  { sch := [{ rel := "R1", srcKind := 0, srcKeys := ["Id"], srcMany := false, srcCond := false, srcPhrase := "",
              tgtKind := 1, tgtKeys := ["Id"], tgtMany := false, tgtCond := false, tgtPhrase := "" }],
    classes := [], pool := fun k => if k = 0 then [0, 1] else if k = 1 then [5] else [],
    links := fun _ => { src := fun x => if x = 5 then [1] else [], tgt := fun x => if x = 1 then [5] else [] },
    val := fun _ _ => none, kindOf := fun x => if x = 5 then 1 else 0, count := 6 }

example : interp wLink check_association_integrity [.model, relV none] = some (.nat 1) ∧
    interp wLink check_association_integrity [.model, relV (some "R9")] = some (.nat 0) :=
  ⟨(association_integrity_as_in_source wLink none).trans (congrArg (fun n => some (V.nat n)) (by decide +kernel)),
   (association_integrity_as_in_source wLink (some "R9")).trans (congrArg (fun n => some (V.nat n)) (by decide +kernel))⟩

/-- MUTATION: only the source_link is checked — the unrelated instance (seen from the target_link) is missed -/
example : natOf (interp wLink { check_association_integrity with body :=
    [ .normRel "rel_id", .assign "res" (.nat 0),
      .forIn ["ass"] (.field "m" "associations") [
        .ifC (.inList "rel_id" [(.field "ass" "rel_id"), .none]) [
          .addTo "res" (.callOn "check_link_integrity" "m" "ass" "source_link") ] [] ],
      .ret "res" ] } [.model, relV none]) = some 0 := by decide +kernel

/-- sample world for check_uniqueness_constraint: two identifiers, a repeated attribute name in one, a non-identifying
    attribute, nulls -/
def wU : World :=
  { sch := [],
    classes := [{ attrs := [("a", false), ("b", true), ("c", false)], idents := [("I1", ["a", "b", "a"]), ("I2", ["b"])],
                  identifying := ["a", "b"] }],
    pool := fun k => if k = 0 then [0, 1, 2] else [],
    links := fun _ => emptyLinks,
    val := fun x n => if x = 2 then (if n = "b" then some 0 else none) else if n = "a" then some 1 else if n = "b" then some 2 else none,
    kindOf := fun _ => 0, count := 3 }

example : natOf (interp w0 check_uniqueness_constraint [.model, .cls 0]) = some (checkUniq w0 (some 0)) ∧
    natOf (interp w0 check_uniqueness_constraint [.model, .cls 1]) = some (checkUniq w0 (some 1)) ∧
    natOf (interp w0 check_uniqueness_constraint [.model, .none]) = some (checkUniq w0 none) ∧
    natOf (interp wU check_uniqueness_constraint [.model, .cls 0]) = some (checkUniq wU (some 0)) ∧
    natOf (interp wU check_uniqueness_constraint [.model, .none]) = some 4 ∧ checkUniq wU none = 4 := by decide +kernel

/-- check_uniqueness_constraint, for EVERY world: the interpretation of the generated loop nest — `metaclasses` by `kind is
    None`; per class: id_map initialised per identifier of `metaclass.indices`, `identifying` = the upper-cased
    identifying_attributes; per instance of `metaclass.select_many()`: the loop over `metaclass.attributes` with its `continue`
    for `name.upper() not in identifying`, `getattr`, the null test, `res += 1`; then per identifier: the kwargs dictionary over
    `metaclass.indices[identifier]`, `frozenset(kwargs.items())`, the membership test in `id_map[identifier]` BEFORE the key is
    stored, `res += 1` — returns the model's `checkUniq w kind`.  Hypotheses, exactly:
      * a restricting `kind` names a class of the world (`find_metaclass` raises otherwise; the model returns 0);
      * `UniqOK ci` for every class: (1) the identifier names are distinct (they are the keys of the dict `metaclass.indices`),
        (2) LETTER-CASE AGREEMENT: for every declared attribute `a`, `a.upper()` is among the upper-cased identifying
        attribute names exactly when `a` itself is among the identifying attribute names as the model lists them.  (2) is
        needed because the source compares UPPER-CASED names (an identifier may have been defined
        with another spelling than the class), the model compares the names as given — they agree when the spellings agree up
        to what `upper` identifies, e.g. when `identifying` is listed in the spelling of the class (as the harness does). -/
theorem uniqueness_as_in_source (w : World) (kind : Option Kind) (hk : ∀ k, kind = some k → k < w.classes.length)
    (hok : ∀ ci ∈ w.classes,
      (ci.idents.map (·.1)).Nodup ∧
      ∀ a ∈ ci.attrs, (ci.identifying.map up).contains (up a.1) = ci.identifying.contains a.1) :
    interp w check_uniqueness_constraint [.model, kindV kind] = some (.nat (checkUniq w kind)) :=
  check_uniqueness_eq w kind hk hok

/-- the hypotheses are satisfiable: on `wU` and on `w0`; `uniqueness_as_in_source` applied -/
example : (∀ ci ∈ wU.classes, (ci.idents.map (·.1)).Nodup ∧
      ∀ a ∈ ci.attrs, (ci.identifying.map up).contains (up a.1) = ci.identifying.contains a.1) ∧
    (∀ ci ∈ w0.classes, (ci.idents.map (·.1)).Nodup ∧
      ∀ a ∈ ci.attrs, (ci.identifying.map up).contains (up a.1) = ci.identifying.contains a.1) := by decide +kernel

example : interp wU check_uniqueness_constraint [.model, .none] = some (.nat 4) ∧
    interp wU check_uniqueness_constraint [.model, .cls 0] = some (.nat 4) :=
  ⟨(uniqueness_as_in_source wU none (by intro k h; cases h) (by decide +kernel)).trans (congrArg (fun n => some (V.nat n)) (by decide +kernel)),
   (uniqueness_as_in_source wU (some 0) (by intro k h; cases h; decide +kernel) (by decide +kernel)).trans
     (congrArg (fun n => some (V.nat n)) (by decide +kernel))⟩

/-- the second hypothesis is needed: identifying attribute "ID" for the declared attribute "Id" (another spelling) — the source
    (upper-cased comparison) counts the null, the model (names as given) does not -/
example :
    let w : World := { wU with classes := [{ attrs := [("Id", false)], idents := [], identifying := ["ID"] }] }
    natOf (interp w check_uniqueness_constraint [.model, .none]) = some 3 ∧ checkUniq w none = 0 := by decide +kernel

end SourceShape

end PyxProps.C11
