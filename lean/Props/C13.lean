import Proofs.OalTrack
import Proofs.OalRegex
import Gen.OalTrack

/-!
  C13 — OAL parsing is total and its source positions are exact.
  Model: PyxModel/Oal/Lex.lean (character-level PLY lexer of bridgepoint/oal.py), PyxModel/Oal/Pos.lean
  (find_column / set_positional_info arithmetic), tables: Gen/OalLex.lean (regenerated from the source).

  Specifications used in the statements (PyxModel/Oal/Pos.lean):
    lineOf text off = 1 + number of '\n' in text[0:off)          (1-based line of the character at `off`)
    colOf  text off = column reached by a writing cursor after text[0:off), tab = 1 column, '\n' resets to 1
    slice  text a b = text[a:b)
  A node built from the tokens i..j records (`spanOf`, `streamOf`) start_stream = lexpos of token i, start_line =
  its lineno, start_column = find_column(start_stream), end_stream = endlexpos of token j, end_line = its endlineno
  (its lineno when the rule does not set one), end_column = find_column(end_stream) - 1, character_stream =
  lexdata[start_stream:end_stream].  (A symbol of an empty production has no end position and is skipped by
  set_positional_info, so i..j are always real tokens; a parenthesised expression is re-stamped with the span of
  `(` .. `)`.)
-/
namespace PyxProps.C13
open Pyx.OalLex

/-- every non-literal rule of the table has a regex the model has a scanner for (the tie between the
    hand-modelled scanners and the regex SOURCE in the rule docstrings) -/
theorem rules_known : rulesKnown Gen.OalLex.rules = true := by decide +kernel

/-- the line bookkeeping of the generated table is sound: every rule whose regex can match a newline (by the
    translator's regex analysis or by the model) counts its newlines, sets `endlineno` after counting when it
    returns a token, every returned token sets `endlexpos`, a lone newline is matched by some rule, and
    `t_ignore` contains no newline -/
theorem table_lines_ok : linesOk Gen.OalLex.cfg = true := gen_linesOk

/-- line_exact, for ANY rule table with sound bookkeeping, any text and any token the lexer returns:
    the recorded start line is 1 + the number of newlines before the token, the recorded end line is the line
    of the token's last character, the recorded offsets delimit exactly the lexeme -/
theorem line_exact_table (cfg : LexCfg) (hok : linesOk cfg = true) (text : List Char) :
    ∀ t ∈ lexWith cfg text,
      t.line = lineOf text t.start ∧ t.endLine = lineOf text (t.stop - 1) ∧
      t.start < t.stop ∧ t.stop ≤ text.length ∧ t.lexeme = slice text t.start t.stop := by
  intro t ht
  have h := (lexWith_ok cfg hok text).1 t ht
  exact ⟨h.line, h.endLine_last, h.nonempty, h.bound, h.lexeme⟩

/-- line_exact for the generated table -/
theorem line_exact (text : List Char) :
    ∀ t ∈ lex text, t.line = lineOf text t.start ∧ t.endLine = lineOf text (t.stop - 1) :=
  fun t ht => let h := line_exact_table Gen.OalLex.cfg table_lines_ok text t ht; ⟨h.1, h.2.1⟩

/-- column_exact: `find_column(text, off)` = `off - text.rfind('\n', 0, off)` is the 1-based column of the
    character at `off` (distance from the last newline before it; a tab counts one) -/
theorem column_exact (text : List Char) (off : Nat) (h : off ≤ text.length) :
    findColumn text off = (colOf text off : Int) := findColumn_eq_colOf text off h

/-- the same in closed form: the characters of the current line before `off`, plus one -/
theorem column_exact_line (text : List Char) (off : Nat) (h : off ≤ text.length) (pre line : List Char)
    (hsplit : text.take off = pre ++ line) (hpre : pre = [] ∨ ∃ p, pre = p ++ ['\n']) (hline : '\n' ∉ line) :
    findColumn text off = (line.length : Int) + 1 := by
  rw [findColumn_eq_colOf text off h, colOf, hsplit, colAfter_append, colAfter_noNl line _ hline]
  rcases hpre with rfl | ⟨p, rfl⟩
  · rw [colAfter]; omega
  · rw [colAfter_append, colAfter, colAfter, if_pos rfl]; omega

/-- span_exact: a node built from the tokens `a` .. `b` of the text records the offset, line and column of the
    first character of `a`, the offset after / the line and column of the last character of `b`, and
    `character_stream` is exactly the text between them, which starts with `a`'s lexeme and ends with `b`'s -/
theorem span_exact_table (cfg : LexCfg) (hok : linesOk cfg = true) (text : List Char) (a b : Tok)
    (ha : a ∈ lexWith cfg text) (hb : b ∈ lexWith cfg text) :
    (spanOf text a b).startStream = a.start ∧
    (spanOf text a b).startLine = lineOf text a.start ∧
    (spanOf text a b).startColumn = (colOf text a.start : Int) ∧
    (spanOf text a b).endStream = b.stop ∧
    (spanOf text a b).endLine = lineOf text (b.stop - 1) ∧
    (spanOf text a b).endColumn = (colOf text (b.stop - 1) : Int) ∧
    streamOf text a b = slice text a.start b.stop ∧
    a.lexeme = slice text a.start a.stop ∧ b.lexeme = slice text b.start b.stop := by
  have hA := (lexWith_ok cfg hok text).1 a ha
  have hB := (lexWith_ok cfg hok text).1 b hb
  refine ⟨rfl, hA.line, ?_, rfl, hB.endLine_last, ?_, rfl, hA.lexeme, hB.lexeme⟩
  · exact findColumn_eq_colOf text a.start (by have := hA.nonempty; have := hA.bound; omega)
  · simp only [spanOf]
    rw [findColumn_eq_colOf text b.stop hB.bound, colOf, colOf,
      take_pred text b.stop (by have := hB.nonempty; omega) hB.bound, colAfter_append]
    simp only [colAfter]
    rw [if_neg hB.last_ne_nl]
    omega

theorem span_exact (text : List Char) (a b : Tok) (ha : a ∈ lex text) (hb : b ∈ lex text) :
    (spanOf text a b).startStream = a.start ∧
    (spanOf text a b).startLine = lineOf text a.start ∧
    (spanOf text a b).startColumn = (colOf text a.start : Int) ∧
    (spanOf text a b).endStream = b.stop ∧
    (spanOf text a b).endLine = lineOf text (b.stop - 1) ∧
    (spanOf text a b).endColumn = (colOf text (b.stop - 1) : Int) ∧
    streamOf text a b = slice text a.start b.stop ∧
    a.lexeme = slice text a.start a.stop ∧ b.lexeme = slice text b.start b.stop :=
  span_exact_table Gen.OalLex.cfg table_lines_ok text a b ha hb

/-- every returned token is a non-empty piece of the text -/
theorem tokens_within (cfg : LexCfg) (hok : linesOk cfg = true) (text : List Char) :
    ∀ t ∈ lexWith cfg text, t.start < t.stop ∧ t.stop ≤ text.length :=
  fun t ht => let h := line_exact_table cfg hok text t ht; ⟨h.2.2.1, h.2.2.2.1⟩

/-- the token list is in text order and the tokens do not overlap: every token ends at or before the start of
    every later token (with `tokens_within`: start < stop, so `a` before `b` gives a.start < a.stop ≤ b.start < b.stop;
    in `span_exact` a node's first token precedes its last token, hence start_stream < end_stream) -/
theorem tokens_ordered_table (cfg : LexCfg) (hok : linesOk cfg = true) (text : List Char) :
    (lexWith cfg text).Pairwise (fun a b => a.stop ≤ b.start) :=
  (lexWith_ok cfg hok text).2

theorem tokens_ordered (text : List Char) : (lex text).Pairwise (fun a b => a.stop ≤ b.start) :=
  tokens_ordered_table Gen.OalLex.cfg table_lines_ok text

/-- lexer_total: for every rule table and every input the lexer model, run with fuel = length of the input,
    consumes the whole input (no input is rejected: an illegal character is skipped by `t_error`) -/
theorem lexer_total (cfg : LexCfg) (text : List Char) : (lexRun cfg text.length text 0 1).2 = [] :=
  lexRun_rest cfg text.length text 0 1 (Nat.le_refl _)

/-- comment_regex_unambiguous: the alternatives inside the repetition of the COMMENT rule are pairwise disjoint
    on their first character, so the regex engine never has two ways to continue (a rule such as
    `([^*]|[\r\n]|(\*+([^*/]|[\r\n])))*`, whose alternatives overlap on `\r` and `\n`, backtracks exponentially) -/
theorem comment_regex_unambiguous :
    pairwiseDisjoint Gen.OalLex.commentAlts = true ∧ Gen.OalLex.commentAlts.length ≥ 2 := by decide +kernel

/-! non-vacuity: concrete texts meeting the hypotheses, with the values the theorems predict -/

/-- `end` / `if` split over two lines, a ticked phrase containing a newline, a comment with a newline -/
def sample : List Char := "if x\nend\n if; /*\n*/ y = 'a\nb';".toList

example : (lex sample).map (fun t => (String.ofList t.kind, t.start, t.stop, t.line, t.endLine)) =
    [("IF", 0, 2, 1, 1), ("ID", 3, 4, 1, 1), ("END_IF", 5, 12, 2, 3), ("SEMICOLON", 12, 13, 3, 3),
     ("ID", 20, 21, 4, 4), ("EQUAL", 22, 23, 4, 4), ("TICKED_PHRASE", 24, 29, 4, 5), ("SEMICOLON", 29, 30, 5, 5)] := by
  decide +kernel

/-- the `if` statement built from tokens 0..2 spans lines 1-3; its last character is in column 3 of line 3 -/
example : (match lex sample with
    | a :: _ :: b :: _ => some (spanOf sample a b, String.ofList (streamOf sample a b))
    | _ => none) =
    some ({ startStream := 0, startLine := 1, startColumn := 1, endStream := 12, endLine := 3, endColumn := 3 },
          "if x\nend\n if") := by
  decide +kernel

example : findColumn sample 9 = 1 ∧ colOf sample 9 = 1 ∧ lineOf sample 9 = 3 ∧ findColumn sample 4 = 5 := by decide +kernel

/-- an illegal character is skipped, an unterminated comment falls apart into DIV TIMES ..., nothing is rejected -/
example : (lex "x $ /* y".toList).map (fun t => String.ofList t.kind) = ["ID", "DIV", "TIMES", "ID"] := by decide +kernel


/-! ## the hand-written scanners ARE the regexes of the rule docstrings

  `Pyx.Regex.Regex.matchPrefix` (PyxModel/Regex.lean) is a generic backtracking matcher with Python's `re` semantics
  (leftmost, ordered alternation, greedy / lazy repetition giving characters back, look-ahead); `Gen.OalLex.rx_<RULE>`
  is the AST Python's own regex parser gives for the rule's SOURCE regex (translator/regex_ast.py; a construct outside
  the AST breaks the translator).  `ScannerIsRegex "R"`: the table has a rule R and, on EVERY input, the scanner the
  proved lexer model uses for R returns what `matchPrefix` returns on `rx_R`.  Proved for every rule of the table, so
  the lexer model of `line_exact`, `lexer_total`, `lex_case` and the layout theorems is, on every text, the lexer that
  takes its lexemes from the generic matcher (`lexer_is_regex`).  What stays validated (K, on every case and on random
  regexes against `re.match`): that `matchPrefix` is Python's matcher, and PLY's master-regex discipline.
  The regex quoted above each theorem below is the text of that rule in Gen/OalLex.lean; the theorem speaks of the rule
  of that NAME and of the AST generated for it, whatever its text. -/

/-- `[a-zA-Z_][0-9a-zA-Z_]*|[a-zA-Z][0-9a-zA-Z_]*[0-9a-zA-Z_]+` (the second alternative is dead) -/
theorem scanner_is_regex_ID : ScannerIsRegex "ID" := scannerIsRegex_of _ (by decide +kernel)

/-- `\d+` (`\d` = str.isdecimal, Unicode 15 table) -/
theorem scanner_is_regex_NUMBER : ScannerIsRegex "NUMBER" := scannerIsRegex_of _ (by decide +kernel)

/-- `(((\d*\.\d+)|(\d+\.)([eE][-+]?\d+)?)|(\d+([eE][-+]?\d+)))[FfLl]?` -/
theorem scanner_is_regex_FRACTION : ScannerIsRegex "FRACTION" := scannerIsRegex_of _ (by decide +kernel)

/-- `([0-9a-zA-Z_])+(?=::)` -/
theorem scanner_is_regex_NAMESPACE : ScannerIsRegex "NAMESPACE" := scannerIsRegex_of _ (by decide +kernel)

/-- `"[^"\n]*"` -/
theorem scanner_is_regex_STRING : ScannerIsRegex "STRING" := scannerIsRegex_of _ (by decide +kernel)

/-- `\'[^\']*\'` -/
theorem scanner_is_regex_TICKED_PHRASE : ScannerIsRegex "TICKED_PHRASE" := scannerIsRegex_of _ (by decide +kernel)

/-- `\/\/.*\n` -/
theorem scanner_is_regex_SL_STRING : ScannerIsRegex "SL_STRING" := scannerIsRegex_of _ (by decide +kernel)

/-- `/\*([^*]|(\*+[^*/]))*\*+/` - a repetition of an alternation against the hand automaton `commentBody` -/
theorem scanner_is_regex_COMMENT : ScannerIsRegex "COMMENT" := scannerIsRegex_of _ (by decide +kernel)

/-- `[Ee][Nn][Dd][\s]+[Ff][Oo][Rr]` -/
theorem scanner_is_regex_END_FOR : ScannerIsRegex "END_FOR" := scannerIsRegex_of _ (by decide +kernel)

/-- `[Ee][Nn][Dd][\s]+[Ii][Ff]` -/
theorem scanner_is_regex_END_IF : ScannerIsRegex "END_IF" := scannerIsRegex_of _ (by decide +kernel)

/-- `[Ee][Nn][Dd][\s]+[Ww][Hh][Ii][Ll][Ee]` -/
theorem scanner_is_regex_END_WHILE : ScannerIsRegex "END_WHILE" := scannerIsRegex_of _ (by decide +kernel)

/-- `\n+` -/
theorem scanner_is_regex_newline : ScannerIsRegex "newline" := scannerIsRegex_of _ (by decide +kernel)

/-- every rule of the generated table (the 26 fixed-string rules included: their AST spells the literal the scanner
    compares with), paired with the generated AST of its regex -/
theorem scanner_is_regex (p : Rule × Pyx.Regex.Regex) (hp : p ∈ List.zip Gen.OalLex.rules Gen.OalLex.rx)
    (cs : List Char) : scanOf p.1 cs = Pyx.Regex.Regex.matchPrefix p.2 cs :=
  Pyx.OalLex.scanner_is_regex p hp cs

/-- the table pairs every rule with an AST (same length), and the fixed-string rules are all there -/
theorem scanner_is_regex_literals :
    Gen.OalLex.rules.length = Gen.OalLex.rx.length ∧
    ∀ p ∈ List.zip Gen.OalLex.rules Gen.OalLex.rx, ∀ s, p.1.lit = some s →
      ∀ cs, scanLit s cs = Pyx.Regex.Regex.matchPrefix p.2 cs := by
  refine ⟨table_tied.2, ?_⟩
  intro p hp s hs cs
  have := Pyx.OalLex.scanner_is_regex p hp cs
  simpa only [scanOf, hs] using this

/-- lexer_is_regex: on every text, the proved lexer model returns the token stream of the lexer that runs the generic
    regex matcher on the generated ASTs under PLY's discipline (rules in definition order, first non-empty match) -/
theorem lexer_is_regex (text : List Char) : lexRx text = lex text := lexRx_eq_lex text

/-- non-vacuity: the matcher backtracks where the regex needs it (`\d+\.` after `\d*\.\d+` failed; the exponent is
    given back when no digit follows), and the named rules exist with non-trivial ASTs -/
example : Pyx.Regex.Regex.matchPrefix Gen.OalLex.rx_FRACTION "12.e+x".toList = some 3 ∧
    Pyx.Regex.Regex.matchPrefix Gen.OalLex.rx_FRACTION "12.e+5L;".toList = some 7 ∧
    Pyx.Regex.Regex.matchPrefix Gen.OalLex.rx_COMMENT "/* a ** / **/ x */".toList = some 13 ∧
    Pyx.Regex.Regex.matchPrefix Gen.OalLex.rx_NAMESPACE "ab::c".toList = some 2 ∧
    Pyx.Regex.Regex.matchPrefix Gen.OalLex.rx_NAMESPACE "ab:c".toList = none := by decide +kernel

example : (ruleRx "FRACTION").map (fun p => String.ofList p.1.regex) =
    some "(((\\d*\\.\\d+)|(\\d+\\.)([eE][-+]?\\d+)?)|(\\d+([eE][-+]?\\d+)))[FfLl]?" := by decide +kernel

example : (lexRx sample).length = 8 := by decide +kernel

/-! ## which tokens a node is stamped from: the production table of the parser (Gen/OalTrack.lean)

  Model: PyxModel/Oal/Track.lean - yacc's position attributes (`tracking=1`) on the stack symbols and what
  `track_production` / `set_positional_info` record from them.  A symbol reduced by an EMPTY production carries
  `lexer.lexpos` / `lexer.lineno` of wherever the lexer is (past the look-ahead) and no end attributes; a production
  that begins with such a symbol, or takes its end from one, would record a position outside its own tokens. -/

open Pyx.OalTrack in
/-- the nonterminal sets of the generated table are closed: every production of a `startSolid` (`endSolid`)
    nonterminal is non-empty and begins (ends) with a token or a nonterminal of the same set; every production
    of an `endOk` nonterminal is empty or ends that way; the nullable set is closed under the grammar -/
theorem grammar_sets_ok : setsOk Gen.OalTrack.grammar = true := by decide +kernel

open Pyx.OalTrack in
/-- productions_tracked: every production function whose `p[0]` can be a statement / expression node carries
    `@track_production` (unless it only passes its single symbol through) -/
theorem productions_tracked : trackedOk Gen.OalTrack.grammar = true := by decide +kernel

open Pyx.OalTrack in
/-- every tracked production that returns a statement / expression node is non-empty, begins with a token or a
    `startSolid` nonterminal, and - scanning back over symbols that may be empty, as `set_positional_info` does -
    reaches a token or an `endSolid` nonterminal -/
theorem productions_stamp_ok : stampsOk Gen.OalTrack.grammar = true := by decide +kernel

open Pyx.OalTrack in
/-- the invariant of the parser stack, for ANY table whose sets are closed: whatever sequence of shifts of exact
    tokens and reductions by productions of the table produced a stack symbol, a symbol without end position
    covers no token, a `startSolid` symbol records the start of its first token, an `endSolid` symbol the end of its
    last token, an `endOk` symbol either has no end position or records the end of its last token -/
theorem stack_invariant (g : Grammar) (hs : setsOk g = true) (i : Inst) (h : Reach g i) : Valid g i :=
  reach_valid g hs i h

open Pyx.OalTrack in
/-- stamp_exact, any table: for every tracked production of the table whose result can be a statement /
    expression node and every parse that reduces by it, the span `set_positional_info` stamps on the node is the
    span of the tokens the production covers - offset and line of the first token's first character, offset after
    and line of the last token's last character (columns and `character_stream` then follow by `span_exact`) -/
theorem stamp_exact_table (g : Grammar) (hs : setsOk g = true) (hst : stampsOk g = true) (p : Prod)
    (hp : p ∈ g.prods) (ht : p.tracked = true) (hc : p.carries = true) (kids : List Inst)
    (hk : kids.map (·.sym) = p.rhs) (hr : ∀ k ∈ kids, Reach g k) :
    ∃ s, stamp g.walkBack kids = some s ∧ joinTruth (kids.map (·.truth)) = some s := by
  have hpo : prodStampOk g p = true := by
    have := List.all_eq_true.mp hst p hp
    simpa [ht, hc] using this
  exact stamp_kids g p hpo kids hk (fun k hkm => reach_valid g hs k (hr k hkm))

open Pyx.OalTrack in
/-- stamp_exact for the generated grammar -/
theorem stamp_exact (p : Prod) (hp : p ∈ Gen.OalTrack.grammar.prods) (ht : p.tracked = true)
    (hc : p.carries = true) (kids : List Inst) (hk : kids.map (·.sym) = p.rhs)
    (hr : ∀ k ∈ kids, Reach Gen.OalTrack.grammar k) :
    ∃ s, stamp Gen.OalTrack.grammar.walkBack kids = some s ∧ joinTruth (kids.map (·.truth)) = some s :=
  stamp_exact_table Gen.OalTrack.grammar grammar_sets_ok productions_stamp_ok p hp ht hc kids hk hr

/-! non-vacuity: `else` (token at 6..10, line 2) followed by an EMPTY block, reduced while the lexer already
    stands at offset 19, line 3 (behind `end if`): the ElseNode is stamped 6..10 on line 2, not ..19 -/
open Pyx.OalTrack in
example : stamp true [tokInst ⟨6, 10, 2, 2⟩, { sym := .n 2, attr := yaccAttr (19, 3) [], truth := joinTruth [] }]
    = some ⟨6, 10, 2, 2⟩ ∧
    stamp false [tokInst ⟨6, 10, 2, 2⟩, { sym := .n 2, attr := yaccAttr (19, 3) [], truth := joinTruth [] }]
    = some ⟨6, 19, 2, 3⟩ := by decide +kernel

open Pyx.OalTrack in
example : (Gen.OalTrack.prods.filter fun p => p.tracked && p.carries).length > 0 := by decide +kernel


end PyxProps.C13
