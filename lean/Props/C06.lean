import Proofs.StrCode
import Proofs.PrebuildRecipe
import Proofs.PrebuildChain
import Proofs.PrebuildTyping
import Proofs.PrebuildMech
import Proofs.PbShapeMore2
import Proofs.PbShapeDecl
import Proofs.PrebuildFlatStmt

/-!
  C06 — Prebuilt instances form a well-formed, correctly typed population.
  Property theorems only.

  Model (lean/PyxModel/Prebuild/): `Chain` = the three chaining loops of prebuild.py as functions from the list
  of created instances to the persisted referential pairs; `Typing` = OAL's typing rules (`typeOf`) and the walk
  that lists every value instance with subtype and type in creation order; `Mech` = the mechanism that types a value
  by navigating R820 from its operand; `Recipe` = the table of links each created instance receives, checked here
  against the GENERATED schema table `Gen/OoaSchema.lean`; `Flat` = the builder of the whole population as one list of
  rows, whose clauses the last section ties to the statement structure of prebuild.py's handlers (Gen/PbShape.lean).
  The deciding part of C06 is the predicate evaluated on the REAL population on every run
  (harness/prop_C06.py: integrity violations added = 0, one subtype, neighbour references, positions,
  declaring block, R820 type = independent Python typing); the correspondence stream ties `typeWalk`, the chain
  functions and the recipe table to the code.
-/
namespace PyxProps.C06
open Pyx.Prebuild

/-! ### neighbour references -/

/-- R661 / R816 / R604: for ANY list of distinct statements / parameters / navigation steps in source order, the
    referential attribute each one receives from the prebuilder's chaining loop designates exactly its
    neighbour: the previous statement (none for the first), the next parameter / step (none for the last);
    likewise for event data items. -/
theorem chains_are_source_order (xs : List Nat) (hn : xs.Nodup) (i : Nat) (hi : i < xs.length) :
    prevStatement xs xs[i] = (if i = 0 then none else xs[i-1]?) ∧
    nextInChain xs xs[i] = xs[i+1]? ∧
    nextEventDatum xs xs[i] = xs[i+1]? :=
  ⟨prevStatement_spec xs hn i hi, nextInChain_spec xs hn i hi, nextEventDatum_spec xs hn i hi⟩

/-- an instance outside the list receives no reference -/
theorem chains_touch_only_members (xs : List Nat) (x : Nat) (hx : x ∉ xs) :
    prevStatement xs x = none ∧ nextInChain xs x = none := by
  constructor
  · exact refOf_not_holder (fun l hl he => hx (he ▸ chainLoop_holder xs none l hl))
  · refine refOf_not_holder (fun l hl he => hx ?_)
    have := chainLoop_holder xs.reverse none l hl
    rw [he] at this; exact List.mem_reverse.mp this

/-! ### typing

  CONTENT-BEARING: `typed_as_oal` — the prebuilder's typing MECHANISM (`buildExpr` of Mech.lean: values created bottom-up in
  a growing population, the type of a compound value obtained by navigating R820 from the operand's value, the
  class of an attribute access through the S_IRDT of the root value's type or the V_SLR root) relates the value of
  EVERY expression, in EVERY population, to exactly `typeOf e` (the specification), gives it the subtype `kindOf e`,
  and creates, in order, the rows of the specification walk (which the correspondence run compares with the real
  V_VAL population).  One hypothesis on the context: `inst_ref<Object>` is no modelled class's reference type
  (`GenericFree`).

  SPEC EQUATIONS (`typed_comparison` … `typed_selection_statements`, `walk_row_typed`): one-arm unfoldings of the
  specification `typeOf` / `walkStmt`; they restate OAL's typing rules in the property's words and make the
  specification readable against the property text — they are not counted as proofs about the mechanism. -/

/-- R820 of the value the mechanism builds for `e` is `typeOf e`; its R801 subtype is `kindOf e`; the values created
    are exactly the rows of the specification walk, appended in creation order to whatever population existed -/
theorem typed_as_oal (c : TCtx) (env : Env) (sel : Option String) (hg : GenericFree c) (e : Expr) (p : Pop) :
    (buildExpr c env sel e p).2.r820 (buildExpr c env sel e p).1 = typeOf c env sel e ∧
    (buildExpr c env sel e p).2.kind (buildExpr c env sel e p).1 = kindOf c env sel e ∧
    (buildExpr c env sel e p).2.vals = p.vals ++ walkExpr c env sel e := by
  obtain ⟨h1, h2⟩ := buildExpr_good c env sel hg e p
  exact ⟨r820_of h2, kind_of h2, h1⟩

/-- an already typed operand is never re-typed: building further values leaves R820 of earlier ones unchanged -/
theorem earlier_values_untouched (c : TCtx) (env : Env) (sel : Option String) (hg : GenericFree c) (e : Expr)
    (p : Pop) (i : Nat) (hi : i < p.vals.length) :
    (buildExpr c env sel e p).2.r820 i = p.r820 i := by
  have h := (typed_as_oal c env sel hg e p).2.2
  simp only [Pop.r820, h, List.getElem?_append_left hi]

theorem typed_comparison (c : TCtx) (env : Env) (sel : Option String) (l r : Expr) (op : String)
    (h : op ∈ compareOps) : typeOf c env sel (.bin l op r) = some "boolean" := by
  simp [typeOf, h]

theorem typed_bool_unary (c : TCtx) (env : Env) (sel : Option String) (e : Expr) (op : String)
    (h : op ∈ boolUnOps) : typeOf c env sel (.un op e) = some "boolean" := by
  simp [typeOf, h]

theorem typed_cardinality (c : TCtx) (env : Env) (sel : Option String) (e : Expr) :
    typeOf c env sel (.un "cardinality" e) = some "integer" := by
  have h1 : "cardinality" ∉ boolUnOps := by decide
  simp [typeOf, h1]

theorem typed_literals (c : TCtx) (env : Env) (sel : Option String) (v : String) :
    typeOf c env sel (.int v) = some "integer" ∧ typeOf c env sel (.real v) = some "real" ∧
    typeOf c env sel (.str v) = some "string" ∧ typeOf c env sel (.bool v) = some "boolean" := by
  simp [typeOf]

theorem typed_enumerator (c : TCtx) (env : Env) (sel : Option String) (en n : String) (es : List String)
    (h1 : c.enums.lookup en = some es) (h2 : n ∈ es) : typeOf c env sel (.enum en n) = some en := by
  simp [typeOf, h1, h2]

/-- arithmetic: the left operand's type (the generic instance-reference case aside) -/
theorem typed_arithmetic (c : TCtx) (env : Env) (sel : Option String) (l r : Expr) (op : String)
    (h1 : op ∉ compareOps) (h2 : typeOf c env sel l ∉ genericRefs) :
    typeOf c env sel (.bin l op r) = typeOf c env sel l := by
  simp [typeOf, h1, h2]

theorem typed_unary_sign (c : TCtx) (env : Env) (sel : Option String) (e : Expr) (op : String)
    (h : op = "+" ∨ op = "-") : typeOf c env sel (.un op e) = typeOf c env sel e := by
  rcases h with rfl | rfl
  · have h1 : "+" ∉ boolUnOps := by decide
    simp [typeOf, h1]
  · have h1 : "-" ∉ boolUnOps := by decide
    simp [typeOf, h1]

theorem typed_parameter (c : TCtx) (env : Env) (sel : Option String) (n : String) :
    typeOf c env sel (.param n) = c.params.lookup n := by simp [typeOf]

/-- attribute read through an instance handle: the declared type of the attribute in the handle's class -/
theorem typed_attribute (c : TCtx) (env : Env) (sel : Option String) (h : Expr) (a : String) (ci : ClassInfo)
    (set : Bool) (hs : h ≠ .selected) (ht : c.classOfType (typeOf c env sel h) = some (ci, set)) :
    typeOf c env sel (.field h a) = ci.attrs.lookup a := by
  rw [typeOf_field c env sel h a hs, attrTy, tyClass, ht]
  rfl

theorem typed_selected_attribute (c : TCtx) (env : Env) (kl a : String) (ci : ClassInfo)
    (hc : c.cls kl = some ci) : typeOf c env (some kl) (.field .selected a) = ci.attrs.lookup a := by
  simp [typeOf, attrTy, selClass, fieldRow, hc]

/-- `<array>.length`: the root is a DECLARED (visible) variable whose type is not an instance reference; then the
    name `length` is the array length (V_ALV, integer).
    Guards: `hv` excludes an undeclared root — there the code raises ("Unknown transient", prebuild.py
    `accept_VariableAccessNode`) while the totalised `typeOf` would still answer; the model has no structured types
    (`TCtx` carries none), so a root of structure type with a member named `length` — where the code builds a V_MVL
    typed as the member (prebuild.py `accept_FieldAccessNode`, S_MBR look-up before the length case) — is outside
    this equation: bodies with structure members are judged by the direct predicate only (harness family `struct`). -/
theorem typed_array_length (c : TCtx) (env : Env) (sel : Option String) (n : String) (v : VarInfo)
    (hv : findVar c env n = some v) (h : tyClass c v.ty = none) :
    typeOf c env sel (.field (.var n) "length") = some "integer" ∧
    kindOf c env sel (.field (.var n) "length") = "V_ALV" := by
  have ht : typeOf c env sel (.var n) = v.ty := by simp [typeOf, hv]
  constructor
  · show attrTy (tyClass c (typeOf c env sel (.var n))) "length" = _
    rw [ht, h]; rfl
  · show (fieldRow (tyClass c (typeOf c env sel (.var n))) "length").1 = _
    rw [ht, h]; rfl

/-- a variable read has the type recorded for the variable … -/
theorem typed_variable (c : TCtx) (env : Env) (sel : Option String) (n : String) (v : VarInfo)
    (h : findVar c env n = some v) : typeOf c env sel (.var n) = v.ty := by
  simp [typeOf, h]

/-- … which for a transient is the type of the value FIRST assigned to it: the first assignment declares the
    variable with the type of its right-hand side, and an assignment to a visible variable leaves the
    environment (hence the variable's type) unchanged -/
theorem typed_first_assignment (c : TCtx) (env : Env) (n : String) (r : Expr) :
    (findVar c env n = none →
      typeOf c (walkStmt c env (.assign (.var n) r)).1 none (.var n) = typeOf c env none r) ∧
    (∀ v, findVar c env n = some v → (walkStmt c env (.assign (.var n) r)).1 = env) := by
  constructor
  · intro h
    have hd := findVar_declare_same c env n (assignedVar c (typeOf c env none r))
    simp only [walkStmt, lvalueRoot, h, typeOf, hd]
    unfold assignedVar
    split <;> rfl
  · intro v h
    simp [walkStmt, lvalueRoot, h]

/-- instance selections: the variable a select / create declares is an instance reference (set) of the class -/
theorem typed_selection (c : TCtx) (env : Env) (v kl : String) (ci : ClassInfo) (many : Bool)
    (hv : findVar c env v = none) (hc : c.cls kl = some ci) :
    typeOf c (declareIfNew c env v many kl) none (.var v) = some (if many then ci.irefSet else ci.iref) := by
  have hd := fun info => findVar_declare_same c env v info
  cases many <;> simp [declareIfNew, hv, hc, typeOf, hd]

theorem typed_selection_statements (c : TCtx) (env : Env) (v kl : String) :
    (walkStmt c env (.selFrom "any" v kl)).1 = declareIfNew c env v false kl ∧
    (walkStmt c env (.selFrom "many" v kl)).1 = declareIfNew c env v true kl ∧
    (walkStmt c env (.create v kl)).1 = declareIfNew c env v false kl := by
  refine ⟨?_, ?_, ?_⟩ <;> simp [walkStmt, isMany]

/-- the row the walk emits for an expression carries `typeOf` of that expression -/
theorem walk_row_typed (c : TCtx) (env : Env) (sel : Option String) (e : Expr) :
    (kindOf c env sel e, typeOf c env sel e) ∈ walkExpr c env sel e := by
  cases e <;> simp [walkExpr]

/-! ### the symbol table: scopes, visibility, re-declaration

  Scope rule of the model (`Env` = stack of scopes, innermost first; the real `SymbolTable` is the same stack):
  a name is looked up through ALL enclosing scopes (innermost first), so a name visible from an outer block is
  never re-declared inside (no shadowing: assigning / selecting it in an inner block uses the outer variable);
  a statement declares at most one variable, only when the name is not visible, always in the innermost scope;
  entering a block pushes an empty scope, leaving it drops everything declared inside; the control variable of
  `for each` is declared in the scope that holds the loop (it outlives the loop); after a block has ended its
  names are unknown again, and declaring one again creates a NEW variable. -/

/-- Any statement changes the environment by at most one declaration of a not-yet-visible name; in particular
    whatever the nested blocks of a compound statement declare is not visible after it. -/
theorem scope_one_declaration (c : TCtx) (env : Env) (s : Stmt) :
    (walkStmt c env s).1 = env ∨
    ∃ m info, findVar c env m = none ∧ (walkStmt c env s).1 = env.declare m info :=
  walkStmt_step c env s

/-- block push / pop is balanced and outer scopes are never touched: after any statement the scope stack has
    the same enclosing scopes (only the innermost one may have grown) -/
theorem scope_stack_balanced (c : TCtx) (env : Env) (hne : env ≠ []) (s : Stmt) :
    ∃ top, (walkStmt c env s).1 = top :: env.tail := by
  rcases walkStmt_step c env s with h | ⟨m, info, _, h⟩
  · rw [h]; cases env with
    | nil => exact absurd rfl hne
    | cons a r => exact ⟨a, rfl⟩
  · rw [h]; exact declare_shape env hne m info

/-- a visible variable stays the same variable (same kind, type, class) through any statement: the same name
    used again — assigned, selected into, created, looped over, also inside nested blocks — gets the same V_VAR -/
theorem visible_preserved (c : TCtx) (env : Env) (s : Stmt) (n : String) (v : VarInfo)
    (h : findVar c env n = some v) : findVar c (walkStmt c env s).1 n = some v := by
  rcases walkStmt_step c env s with h1 | ⟨m, info, hm, h1⟩
  · rw [h1]; exact h
  · rw [h1]
    have hne : n ≠ m := by intro e; rw [e, hm] at h; cases h
    rw [findVar_declare_other c env n m info hne]; exact h

/-- variables declared inside the block(s) of `while` / `if` are not visible after the statement, whatever the
    blocks contain -/
theorem block_locals_dropped (c : TCtx) (env : Env) (e : Expr) (b : Block) (el : Elifs) (els : Else) :
    (walkStmt c env (.while_ e b)).1 = env ∧ (walkStmt c env (.if_ e b el els)).1 = env := by
  constructor <;> simp [walkStmt]

/-- the control variable of `for each` is declared in the scope holding the loop: it is visible after the loop
    (by `scope_one_declaration` nothing else the loop body declares is) -/
theorem foreach_variable_scope (c : TCtx) (env : Env) (v s : String) (b : Block) :
    (findVar c (walkStmt c env (.forEach v s b)).1 v).isSome = true := by
  simp only [walkStmt, declareIfNew]
  cases h : findVar c env v with
  | some x => simp [h]
  | none =>
    simp only
    split <;> simp [findVar_declare_same]

/-- selecting into / creating / creating an event into a visible variable declares nothing -/
theorem redeclaration_is_noop (c : TCtx) (env : Env) (n kl : String) (many : Bool) (v : VarInfo)
    (h : findVar c env n = some v) :
    declareIfNew c env n many kl = env ∧ declareEvent c env n = env := by
  simp [declareIfNew, declareEvent, h]

/-! ### the recipe table conforms to the generated schema -/

/-- For each kind of instance the prebuilder creates, the links its recipe relates give it exactly one partner
    on every unconditional single end of its class in the GENERATED ooaofooa schema, at most one on every single
    end, and every link is an association of the schema (a finite check per recipe against Gen/OoaSchema). -/
theorem recipe_conforms : ∀ r ∈ recipes, conforms r = true := by
  -- one walk of the schema per recipe instead of one per link and conjunct, class names compared as numbers; then evaluation
  simp only [conforms, partnerCards_near, required_near, near, Pyx.StrCode.beq_code]
  decide +kernel

/-! ### non-vacuity -/

example : prevStatement [10, 20, 30] 30 = some 20 ∧ prevStatement [10, 20, 30] 10 = none ∧
    nextInChain [10, 20, 30] 10 = some 20 ∧ nextInChain [10, 20, 30] 30 = none := by decide

def demoT : TCtx :=
  { classes := [⟨"DOG", "inst_ref<Dog>", "inst_ref_set<Dog>", [("Age", "integer")], [("getAge", "integer")]⟩]
    funcs := [("add", "integer")], ees := [("LOG", [("level", "integer")])], enums := [("Color", ["red"])]
    consts := [], params := [("pb", "boolean")], selfKl := none }

example : GenericFree demoT := rfl

/-- `typed_array_length` APPLIED: `arr` is a declared integer array variable -/
example :
    typeOf demoT [[("arr", ⟨.trn, some "integer", ""⟩)]] none (.field (.var "arr") "length") = some "integer" ∧
    kindOf demoT [[("arr", ⟨.trn, some "integer", ""⟩)]] none (.field (.var "arr") "length") = "V_ALV" :=
  typed_array_length demoT _ none "arr" ⟨.trn, some "integer", ""⟩ rfl rfl


def demoB : Block :=
  .cons (.selFrom "any" "d" "DOG")
  (.cons (.assign (.var "x") (.bin (.field (.var "d") "Age") "+" (.int "1")))
  (.cons (.assign (.var "x") (.str "\"s\""))
  (.cons (.ret (some (.bin (.var "x") "<" (.un "cardinality" (.var "d"))))) .nil)))

/-- `typed_as_oal` APPLIED: in a population that already holds two values, the mechanism relates the value of
    `d.Age + 1` across R820 to what the specification says (integer), as a V_BIN, after creating its four rows -/
example :
    let env : Env := [[("d", ⟨.inst, some "inst_ref<Dog>", "DOG"⟩)]]
    let p : Pop := ⟨[("V_LIN", some "integer"), ("V_LST", some "string")]⟩
    let e : Expr := .bin (.field (.var "d") "Age") "+" (.int "1")
    (buildExpr demoT env none e p).2.r820 (buildExpr demoT env none e p).1 = some "integer" ∧
    (buildExpr demoT env none e p).2.kind (buildExpr demoT env none e p).1 = "V_BIN" ∧
    (buildExpr demoT env none e p).2.vals.length = 6 := by
  intro env p e
  have h := typed_as_oal demoT env none rfl e p
  refine ⟨by rw [h.1]; decide, by rw [h.2.1]; decide, by rw [h.2.2]; decide⟩

/-- `chains_are_source_order` APPLIED to a list of three distinct instances, middle element -/
example : prevStatement [10, 20, 30] 20 = some 10 ∧ nextInChain [10, 20, 30] 20 = some 30 := by
  have h := chains_are_source_order [10, 20, 30] (by decide) 1 (by decide)
  exact ⟨by simpa using h.1, by simpa using h.2.1⟩

/-- `visible_preserved` / `scope_stack_balanced` APPLIED: `x` (an integer transient in the outer scope) is the same
    variable after an `if` whose block assigns a string to `x` and declares `t`; the stack keeps its outer scopes -/
example :
    let env : Env := [[], [("x", ⟨.trn, some "integer", ""⟩)]]
    let s : Stmt := .if_ (.bool "true") (.cons (.assign (.var "x") (.str "\"s\"")) (.cons (.assign (.var "t") (.int "1")) .nil))
      .nil .none
    findVar demoT (walkStmt demoT env s).1 "x" = some ⟨.trn, some "integer", ""⟩ ∧
    ∃ top, (walkStmt demoT env s).1 = top :: env.tail := by
  intro env s
  exact ⟨visible_preserved demoT env s "x" _ rfl, scope_stack_balanced demoT env (by simp [env]) s⟩

/-- `x` keeps the type (integer) of its first assignment although a string is assigned later -/
example : typeWalk demoT demoB =
    [("V_IRF", some "inst_ref<Dog>"), ("V_AVL", some "integer"), ("V_LIN", some "integer"),
     ("V_BIN", some "integer"), ("V_TVL", some "integer"), ("V_LST", some "string"), ("V_TVL", some "integer"),
     ("V_TVL", some "integer"), ("V_IRF", some "inst_ref<Dog>"), ("V_UNY", some "integer"),
     ("V_BIN", some "boolean")] := by decide +kernel

example : (required "ACT_AI").length = 3 ∧ (required "V_VAL").length = 2 := by decide +kernel

/-- scopes: `t` declared inside the `if` block is gone after it; the second `t = …` is ANOTHER variable (a string
    this time); `x` assigned inside the block is the outer `x`; the event variable is a transient of type inst<Event> -/
def demoS : Block :=
  .cons (.assign (.var "x") (.int "1"))
  (.cons (.if_ (.bool "true")
      (.cons (.assign (.var "t") (.int "2")) (.cons (.assign (.var "x") (.var "t")) .nil)) .nil .none)
  (.cons (.assign (.var "t") (.str "\"s\""))
  (.cons (.createEvt "ev" "DOG1" (some "'fed'") (.cons "n" (.var "x") .nil) (.cls "DOG"))
  (.cons (.genPre (.var "ev")) .nil))))

example : varWalk demoT demoS =
    [("x", some "integer"), ("t", some "integer"), ("t", some "string"), ("ev", some "inst<Event>")] := by decide +kernel
example : typeWalk demoT demoS =
    [("V_LIN", some "integer"), ("V_TVL", some "integer"), ("V_LBO", some "boolean"), ("V_LIN", some "integer"),
     ("V_TVL", some "integer"), ("V_TVL", some "integer"), ("V_TVL", some "integer"), ("V_LST", some "string"),
     ("V_TVL", some "string"), ("V_TVL", some "integer"), ("V_TVL", some "inst<Event>")] := by decide +kernel

/-! ### well-formedness of the flat population (PyxModel/Prebuild/Flat.lean)

  Full statements (decided on the real population by the direct predicate of harness/prop_C06.py and, for the modelled
  subset, by the row-by-row correspondence of harness/flat_pop.py): every ACT_SMT of `prebuildFlat fc a` has exactly one
  R603 subtype row; R661 restricted to a block is one chain in source order; blocks nest as a tree below the outer block;
  no link field dangles.  Proved below for `coreB` bodies: backward keys (`population_keys_wellformed_partial`), exactly one
  subtype row per statement of every block (`statement_subtype_unique_partial`), the R661 chain of the outer block as a
  list (`block_chain_is_statement_list_partial`); not proved: the block tree, the forward links.
  Value level (any expression of `coreE`, any nesting depth, from any sound builder state): the rows one expression adds are
  appended (nothing earlier changes); none of them is an ACT_SMT or ACT_BLK row or a subtype row of a statement (R603)
  or of a variable (R814) — a V_VAR row itself the statement does not exclude; every R801 subtype row among them names
  a V_VAL created by this expression or an operand of it and lies AFTER that V_VAL (`TSv`); the answered instance is a
  V_VAL row. -/
section Flat
open Pyx.Prebuild.Flat

theorem value_rows_wellformed_partial (fc : FCtx) (e : Expr) (st : St) (hc : coreE e = true) (hs : SymOK st)
    (ht : TSv st.pop) (hok : (buildExpr fc e st).2.ok = true) :
    (∃ d : List Flat.Row, (buildExpr fc e st).2.pop = st.pop ++ d ∧ szV e + 1 ≤ d.length ∧
      (∀ r ∈ d, ∀ k, r.valOf = some k → st.pop.length ≤ k) ∧
      (∀ r ∈ d, r.smtOf = none ∧ r.varOf = none ∧ (∀ b q, r ≠ .smt b q) ∧ (∀ o, r ≠ .blk o))) ∧
    TSv (buildExpr fc e st).2.pop ∧
    (∃ b, (buildExpr fc e st).2.pop[(buildExpr fc e st).1]? = some (.val b)) ∧
    (buildExpr fc e st).2.scopes = st.scopes :=
  let h := buildExpr_spec fc e st hc hs ht hok
  ⟨h.grows, h.tsv, h.isVal, h.scopes⟩

example : ∃ b, (buildExpr { ees := [], classes := [] } (.bin (.int "1") "+" (.un "-" (.real "2.5")))
      { pop := [.blk true], scopes := [⟨.blk 0, []⟩] }).2.pop[
      (buildExpr { ees := [], classes := [] } (.bin (.int "1") "+" (.un "-" (.real "2.5")))
      { pop := [.blk true], scopes := [⟨.blk 0, []⟩] }).1]? = some (Flat.Row.val b) :=
  (value_rows_wellformed_partial { ees := [], classes := [] } (.bin (.int "1") "+" (.un "-" (.real "2.5")))
    { pop := [.blk true], scopes := [⟨.blk 0, []⟩] } (by decide)
    (by intro n v h; simp [findSym, List.lookup] at h)
    (by intro i r k hi hr
        have := List.mem_of_getElem? hi
        simp at this; subst this; simp [Flat.Row.valOf] at hr)
    (by decide)).2.2.1

/-- BODY level, sub-subset `coreB` (statement lists of assignment to a variable / attribute, return, break, continue,
    control stop, create with / without variable, select from instances (+ where), delete, relate / unrelate (+ using), `while` /
    `for each` loops and `if` with elif / else clauses over such lists, nested to any depth; every expression a `coreX`
    expression, i.e. `coreE` + `self` anywhere — the V_VAR / V_INT rows its first look-up creates included): in the population of a whole body every key that is
    searched backwards — the supertype an R603 / R801 subtype row names, Block_ID (R602) and Previous_Statement_ID
    (R661) of an ACT_SMT, the `if` of an ACT_EL / ACT_E (R682 / R683) — names a row created EARLIER: it exists (no
    dangling key) and the successor relation has no cycle.
    Not covered by this theorem: the block tree, the forward links (value / variable operands), the statements outside
    `coreB`. -/
theorem population_keys_wellformed_partial (fc : FCtx) (a : Block) (hc : coreB a = true)
    (hok : flatOk fc a = true) :
    ∀ (i : Nat) (r : Flat.Row), (prebuildFlat fc a)[i]? = some r →
      (∀ k, r.valOf = some k → k < i) ∧ (∀ k, r.smtOf = some k → k < i) ∧ (∀ k ∈ skeys r, k < i) :=
  prebuildFlat_ts fc a hc (okAll_of_flatOk fc a hc hok)

example : ∀ k ∈ skeys ((prebuildFlat { ees := [], classes := ["DOG"] }
      (.cons (.createNV "DOG") (.cons (.ret (some (.int "1"))) (.cons .brk .nil))))[5]?.getD (.blk false)), k < 5 :=
  (population_keys_wellformed_partial { ees := [], classes := ["DOG"] }
    (.cons (.createNV "DOG") (.cons (.ret (some (.int "1"))) (.cons .brk .nil))) (by decide) (by decide) 5 _ (by decide)).2.2

/-- every ACT_SMT of the population of a whole `coreB` body has an R603 subtype row, and `subtype(act_smt, 603)` finds
    it (existence; exactly ONE, as a count: `statement_subtype_unique_partial`) -/
theorem statement_subtype_exists_partial (fc : FCtx) (a : Block) (hc : coreB a = true) (hok : flatOk fc a = true)
    (i b' : Nat) (p : Option Nat) (hi : (prebuildFlat fc a)[i]? = some (.smt b' p)) :
    ∃ row, smtSub (prebuildFlat fc a) i = some row ∧ row.smtOf = some i :=
  prebuildFlat_subtypes fc a hc (okAll_of_flatOk fc a hc hok) i b' p hi

example : ∃ row, smtSub (prebuildFlat { ees := [], classes := ["DOG"] }
      (.cons (.create "d" "DOG") (.cons (.assign (.var "n") (.int "1")) (.cons (.delete "d") .nil)))) 1 = some row ∧
      row.smtOf = some 1 :=
  statement_subtype_exists_partial { ees := [], classes := ["DOG"] }
    (.cons (.create "d" "DOG") (.cons (.assign (.var "n") (.int "1")) (.cons (.delete "d") .nil)))
    (by decide) (by decide) 1 0 none (by decide)

/-- the R661 chain of the body's outer block AS A LIST (`chainOf`: the first statement by the R602 first_filter, then
    `one(act_smt).ACT_SMT[661, 'precedes']()` until there is none; fuel = number of rows), for every `coreB` body:
    it is exactly the list of ACT_SMT rows the builder created for the statements of the body, in source order
    (`stmtIds`), one per statement; every listed row is an ACT_SMT of the outer block whose Previous_Statement_ID
    names the row listed before it — none for the first (`linked`: one first, source order, and the chain ends
    after the last: one last); and the list is strictly increasing (no statement twice: no cycle).
    `_partial`: statement kinds outside `coreB` (nested blocks) are not covered. -/
theorem block_chain_is_statement_list_partial (fc : FCtx) (a : Block) (hc : coreB a = true) (hok : flatOk fc a = true) :
    chainOf (prebuildFlat fc a) 0 = stmtIds fc none a bodySt ∧
    (chainOf (prebuildFlat fc a) 0).length = lenB a ∧
    linked (prebuildFlat fc a) 0 none (chainOf (prebuildFlat fc a) 0) ∧
    (chainOf (prebuildFlat fc a) 0).Pairwise (· < ·) := by
  obtain ⟨h1, h2, h3⟩ := chainOf_prebuildFlat fc a hc (okAll_of_flatOk fc a hc hok)
  refine ⟨h1, ?_, ?_, ?_⟩
  · rw [h1]; exact stmtIds_length fc a none bodySt
  · rw [h1]; exact h2
  · rw [h1]; exact h3

/-- `create object instance d of DOG; n = 1; delete object instance d;` — statements at rows 1, 5, 13 -/
example : chainOf (prebuildFlat { ees := [], classes := ["DOG"] }
      (.cons (.create "d" "DOG") (.cons (.assign (.var "n") (.int "1")) (.cons (.delete "d") .nil)))) 0 = [1, 5, 13] := by
  decide +kernel

example : (chainOf (prebuildFlat { ees := [], classes := ["DOG"] }
      (.cons (.create "d" "DOG") (.cons (.assign (.var "n") (.int "1")) (.cons (.delete "d") .nil)))) 0).length = 3 :=
  (block_chain_is_statement_list_partial { ees := [], classes := ["DOG"] }
    (.cons (.create "d" "DOG") (.cons (.assign (.var "n") (.int "1")) (.cons (.delete "d") .nil)))
    (by decide) (by decide)).2.1

/-- EVERY statement of the population — of the outer block and of every nested block (while / for each / if bodies) — has
    EXACTLY ONE R603 subtype row, as a count over the whole population: `(rows.filter (·.smtOf == some i)).length = 1`
    (first conjunct; the second restates it for the members of the outer block's R661 chain).
    `_partial`: `coreB` bodies (elif / else clauses — each with its own ACT_SMT and exactly one ACT_EL / ACT_E row — are
    covered; so is `self` as the instance name of delete / relate / unrelate (+ using), as a returned value and as the
    root of an attribute in an attribute assignment — the V_VAR / V_INT rows its look-up creates are no subtype rows of
    a statement). -/
theorem statement_subtype_unique_partial (fc : FCtx) (a : Block) (hc : coreB a = true) (hok : flatOk fc a = true) :
    (∀ (i b' : Nat) (p : Option Nat), (prebuildFlat fc a)[i]? = some (.smt b' p) → subCount (prebuildFlat fc a) i = 1) ∧
    (∀ i ∈ chainOf (prebuildFlat fc a) 0, subCount (prebuildFlat fc a) i = 1) := by
  refine ⟨fun i b' p hi => prebuildFlat_subCount_all fc a hc (okAll_of_flatOk fc a hc hok) i b' p hi, ?_⟩
  rw [(chainOf_prebuildFlat fc a hc (okAll_of_flatOk fc a hc hok)).1]
  exact prebuildFlat_subCount fc a hc (okAll_of_flatOk fc a hc hok)

example : subCount (prebuildFlat { ees := [], classes := ["DOG"] }
      (.cons (.create "d" "DOG") (.cons (.assign (.var "n") (.int "1")) (.cons (.delete "d") .nil)))) 5 = 1 :=
  (statement_subtype_unique_partial { ees := [], classes := ["DOG"] }
    (.cons (.create "d" "DOG") (.cons (.assign (.var "n") (.int "1")) (.cons (.delete "d") .nil)))
    (by decide) (by decide)).2 5 (by decide)

/-- a statement of a NESTED block: `while (true) break; end while;` — the `break` is row 5, in the block at row 4 -/
example : subCount (prebuildFlat { ees := [], classes := [] }
      (.cons (.while_ (.bool "true") (.cons .brk .nil)) .nil)) 5 = 1 :=
  (statement_subtype_unique_partial { ees := [], classes := [] }
    (.cons (.while_ (.bool "true") (.cons .brk .nil)) .nil) (by decide) (by decide)).1 5 4 none (by decide)

end Flat

/-! ### the builder of Flat.lean tied to the TEXT of bridgepoint/prebuild.py

  translator/gen_pbshape.py re-reads, on every run, the statement structure of the helpers and `accept_*` handlers of
  ActionPrebuilder (Gen/PbShape.lean); Proofs/PbShape.lean interprets that IR generically over the builder state `St`
  (a new row = `self.new`, a link = rewriting the referential attribute of the row that holds it: the tables `setRef` /
  `partnerOk` / `setElem` there are the hand-modelled atom).  First the helper `act_smt` (R602) and one round of the loop of
  accept_StatementListNode (R661: who is related to whom, in which direction, with which phrase); the handlers follow.
  Flat.lean's deviation in form — Previous_Statement_ID written when the row is created — is NOT hidden:
  the interpretation yields `linkPrev prev …` applied to `buildStmt fc none child`, and
  `previous_statement_written_late_partial` shows that this is `buildStmt fc prev child` for break / continue / control /
  a bare return (the general statement needs a simulation over all of buildStmt and is not proved). -/
section PbShape
open Pyx.Prebuild.Flat Pyx.PbShape Pyx.Gen.PbShape

theorem act_smt_as_in_source (fc : FCtx) (nd : Node) (g : G) (hb : BlkOK g.st) :
    callFn (mkEnv fc nd) 12 act_smt [.node] [] g = some (.inst (newSmt none g.st).1, { g with st := (newSmt none g.st).2 }) :=
  act_smt_eq fc nd g hb

theorem statement_list_as_in_source (fc : FCtx) (nd : Node) (g : G) (fr : Fr) (i b : Nat) (stmt : Stmt) (prev : Option Nat)
    (hp : fr.get "prev" = prevV prev) (hk : nd.children[i]? = some (stmtAcc fc stmt))
    (hs : (buildStmt fc none stmt g.st).2.pop[(buildStmt fc none stmt g.st).1]? = some (.smt b none))
    (he : ∀ e, prev = some e → ∃ b' p', (buildStmt fc none stmt g.st).2.pop[e]? = some (.smt b' p')) :
    exec (mkEnv fc nd) 20 g (fr.set "child" (.child i)) stmtListBody
      = some (.next (((fr.set "child" (.child i)).set "act_smt" (.inst (buildStmt fc none stmt g.st).1)).set "prev"
                (.inst (buildStmt fc none stmt g.st).1)),
              { g with st := linkPrev prev (buildStmt fc none stmt g.st).1 (buildStmt fc none stmt g.st).2 }) :=
  stmt_list_step fc nd g { g with st := (buildStmt fc none stmt g.st).2 } fr i (buildStmt fc none stmt g.st).1 b (stmtAcc fc stmt) prev
    hp hk rfl hs he

theorem previous_statement_written_late_partial (fc : FCtx) (prev : Option Nat) (st : St) (s : Stmt)
    (hs : s = .brk ∨ s = .cont ∨ s = .ctl ∨ s = .ret none) :
    linkPrev prev (buildStmt fc none s st).1 (buildStmt fc none s st).2 = (buildStmt fc prev s st).2 := by
  rcases hs with rfl | rfl | rfl | rfl <;> exact linkPrev_newSmt prev st _

example : (exec (mkEnv { ees := [], classes := [] } demoNd) 20 demoG demoFr stmtListBody).map (·.2.st.pop)
    = some [.blk true, .smt 0 none, .brk 1, .smt 0 (some 1), .con 3] := by decide +kernel
example : (exec (mkEnv { ees := [], classes := [] } demoNd) 20 demoG demoFr stmtListBodySwapped).map (·.2.st.pop)
    = some [.blk true, .smt 0 (some 3), .brk 1, .smt 0 none, .con 3] := by decide +kernel
example : (exec (mkEnv { ees := [], classes := [] } demoNd) 20 demoG demoFr stmtListBodySucceeds).map (·.2.st.pop)
    = some [.blk true, .smt 0 (some 3), .brk 1, .smt 0 none, .con 3] := by decide +kernel
example : stmtListBody ≠ [] := by decide

/-! Statement handlers that need no index renaming, for EVERY fuel ≥ 20 (`n + 20`).  The handler's own
    ACT_SMT has no predecessor (`buildStmt fc none …`): R661 is written by the statement-list loop above. -/

/-- `accept_BreakNode`: act_smt (R602), ACT_BRK, R603 -/
theorem break_as_in_source (fc : FCtx) (nd : Node) (g : G) (n : Nat) (hb : BlkOK g.st) :
    callFn (mkEnv fc nd) (n + 20) accept_BreakNode [.node] [] g
      = some (.inst (buildStmt fc none .brk g.st).1, { g with st := (buildStmt fc none .brk g.st).2 }) :=
  break_eq fc nd g n hb

theorem continue_as_in_source (fc : FCtx) (nd : Node) (g : G) (n : Nat) (hb : BlkOK g.st) :
    callFn (mkEnv fc nd) (n + 20) accept_ContinueNode [.node] [] g
      = some (.inst (buildStmt fc none .cont g.st).1, { g with st := (buildStmt fc none .cont g.st).2 }) :=
  continue_eq fc nd g n hb

theorem control_stop_as_in_source (fc : FCtx) (nd : Node) (g : G) (n : Nat) (hb : BlkOK g.st) :
    callFn (mkEnv fc nd) (n + 20) accept_ControlNode [.node] [] g
      = some (.inst (buildStmt fc none .ctl g.st).1, { g with st := (buildStmt fc none .ctl g.st).2 }) :=
  control_eq fc nd g n hb

/-- `accept_ReturnNode` without a value (node.expression is None: nothing accepted, `xtuml.relate(act_ret, None, 668)`
    does nothing).  With a value: `return_value_as_in_source`. -/
theorem return_bare_as_in_source (fc : FCtx) (nd : Node) (g : G) (n : Nat) (hb : BlkOK g.st)
    (hk : nd.kids.lookup "expression" = none) :
    callFn (mkEnv fc nd) (n + 20) accept_ReturnNode [.node] [] g
      = some (.inst (buildStmt fc none (.ret none) g.st).1, { g with st := (buildStmt fc none (.ret none) g.st).2 }) :=
  return_bare_eq fc nd g n hb hk

/-- `accept_CreateObjectNoVariableNode` for a class in scope (R603, R672 names the class).  For a class that is NOT in scope
    both sides fail (`ok = false`) but differ in the row: the source never writes R672, Flat.lean stores the key letters. -/
theorem create_no_variable_as_in_source (fc : FCtx) (nd : Node) (g : G) (n : Nat) (kl : String) (hb : BlkOK g.st)
    (hk : nd.strs.lookup "key_letter" = some kl) (hc : kl ∈ fc.classes) :
    callFn (mkEnv fc nd) (n + 20) accept_CreateObjectNoVariableNode [.node] [] g
      = some (.inst (buildStmt fc none (.createNV kl) g.st).1, { g with st := (buildStmt fc none (.createNV kl) g.st).2 }) :=
  create_nv_eq fc nd g n kl hb hk hc

/-- applied: a `break` in the outer block of a one-row population -/
example : (callFn (mkEnv { ees := [], classes := [] } {}) 20 accept_BreakNode [.node] []
      { st := { pop := [.blk true], scopes := [⟨.blk 0, []⟩] } }).map (·.2.st.pop)
    = some [.blk true, .smt 0 none, .brk 1] :=
  (congrArg (Option.map (·.2.st.pop)) (break_as_in_source { ees := [], classes := [] } {} _ 0
    (BlkOK.of_top (o := true) rfl))).trans (by decide +kernel)

example : (callFn (mkEnv { ees := [], classes := ["DOG"] } { strs := [("key_letter", "DOG")] }) 20
      accept_CreateObjectNoVariableNode [.node] [] { st := { pop := [.blk true], scopes := [⟨.blk 0, []⟩] } }).map (·.2.st.pop)
    = some [.blk true, .smt 0 none, .cnv 1 "DOG"] := by decide +kernel

/-! Values.  The R820 type of a V_VAL is kept in the interpreter's side table `tys` (FlatPop does not store it);
    the type the source selects is stated as `unTy` / `binTy` (Proofs/PbShape.lean), written like the clauses of `typeOf`. -/

/-- `v_val(node)`: a V_VAL related over R826 to the current block = `newVal` -/
theorem v_val_as_in_source (fc : FCtx) (nd : Node) (g : G) (n : Nat) (hb : BlkOK g.st) :
    callFn (mkEnv fc nd) (n + 12) v_val [.node] [] g = some (.inst (newVal g.st).1, { g with st := (newVal g.st).2 }) :=
  v_val_fuel fc nd g n hb

/-- `accept_IntegerNode` / `accept_RealNode` / `accept_StringNode`: s_dt by name (R820), v_val, the R801 subtype row with
    Value (for a string: `node.value[1:-1]`) = the literal clauses of `buildExpr` -/
theorem literals_as_in_source (fc : FCtx) (nd : Node) (g : G) (n : Nat) (v : String) (hb : BlkOK g.st)
    (hv : nd.strs.lookup "value" = some v) :
    callFn (mkEnv fc nd) (n + 20) accept_IntegerNode [.node] [] g
      = some (.inst (buildExpr fc (.int v) g.st).1,
              { g with st := (buildExpr fc (.int v) g.st).2, tys := ((buildExpr fc (.int v) g.st).1, "integer") :: g.tys }) ∧
    callFn (mkEnv fc nd) (n + 20) accept_RealNode [.node] [] g
      = some (.inst (buildExpr fc (.real v) g.st).1,
              { g with st := (buildExpr fc (.real v) g.st).2, tys := ((buildExpr fc (.real v) g.st).1, "real") :: g.tys }) ∧
    callFn (mkEnv fc nd) (n + 20) accept_StringNode [.node] [] g
      = some (.inst (buildExpr fc (.str v) g.st).1,
              { g with st := (buildExpr fc (.str v) g.st).2, tys := ((buildExpr fc (.str v) g.st).1, "string") :: g.tys }) :=
  ⟨integer_eq fc nd g n v hb hv, real_eq fc nd g n v hb hv, string_eq fc nd g n v hb hv⟩

/-- `accept_UnaryOperationNode`, for ANY oracle of the operand that answers a V_VAL `o` with recorded type `t`: a V_VAL
    (`newVal`), a V_UNY row with the lower-cased operator, R804 to the operand — the `.un` clause of `buildExpr` with
    `o` for the operand — and R820 := `unTy` (boolean for not / empty / not_empty, integer for cardinality, else `t`) -/
theorem unary_as_in_source (fc : FCtx) (nd : Node) (g g1 : G) (n o b : Nat) (op t : String) (acc : Acc)
    (hop : nd.strs.lookup "operator" = some op) (hk : nd.kids.lookup "operand" = some acc)
    (ha : acc [] g = (.inst o, g1)) (hb : BlkOK g1.st) (ho : g1.st.pop[o]? = some (.val b))
    (ht : g1.tys.lookup o = some t) :
    callFn (mkEnv fc nd) (n + 30) accept_UnaryOperationNode [.node] [] g
      = some (.inst (newVal g1.st).1,
              { g1 with st := ((newVal g1.st).2.new (.uny (newVal g1.st).1 (lowerStr op) o)).2,
                        tys := ((newVal g1.st).1, unTy (lowerStr op) t) :: g1.tys }) :=
  unary_eq fc nd g g1 n o b op t acc hop hk ha hb ho ht

/-- `accept_BinaryOperationNode` for the comparison / logical operators and the operators that are no set operator
    (`*`, `/`, `%`): left then right accepted, V_VAL, V_BIN with the lower-cased operator, R802 := left, R803 := right,
    R820 := `binTy` (boolean for a comparison, else the LEFT operand's type).  `_partial`: stated without the branch of
    `| + & ^ -` (test of the left type against the generic reference types); `binary_as_in_source` has every operator. -/
theorem binary_as_in_source_partial (fc : FCtx) (nd : Node) (g g1 g2 : G) (n l r bl br : Nat) (op t : String) (accL accR : Acc)
    (hop : nd.strs.lookup "operator" = some op)
    (hkl : nd.kids.lookup "left" = some accL) (hkr : nd.kids.lookup "right" = some accR)
    (hal : accL [] g = (.inst l, g1)) (har : accR [] g1 = (.inst r, g2)) (hb : BlkOK g2.st)
    (hl : g2.st.pop[l]? = some (.val bl)) (hr : g2.st.pop[r]? = some (.val br))
    (ht : g2.tys.lookup l = some t)
    (h2 : ¬ (lowerStr op = "|" ∨ lowerStr op = "+" ∨ lowerStr op = "&" ∨ lowerStr op = "^" ∨ lowerStr op = "-")) :
    callFn (mkEnv fc nd) (n + 40) accept_BinaryOperationNode [.node] [] g = binRes g2 op t l r :=
  binary_eq fc nd g g1 g2 n l r bl br op t accL accR hop hkl hkr hal har hb hl hr ht h2

/-- `unTy` IS the `.un` clause of the specification `typeOf` (Typing.lean) -/
theorem unary_type_is_model_type (c : Pyx.Prebuild.TCtx) (env : Pyx.Prebuild.Env) (sel : Option String) (e : Pyx.Prebuild.Expr) (op t : String)
    (h : Pyx.Prebuild.typeOf c env sel e = some t) :
    Pyx.Prebuild.typeOf c env sel (.un op e) = some (Pyx.PbShape.unTy op t) := by
  -- `unTy` is the clause of `typeOf` with `some` pulled out of the two `if`s
  simp only [Pyx.Prebuild.typeOf, h, Pyx.PbShape.unTy, apply_ite some]
  rfl

/-- `binTy` IS the `.bin` clause of the specification `typeOf` (Typing.lean) -/
theorem binary_type_is_model_type (c : Pyx.Prebuild.TCtx) (env : Pyx.Prebuild.Env) (sel : Option String) (e e' : Pyx.Prebuild.Expr) (op t : String)
    (h : Pyx.Prebuild.typeOf c env sel e = some t) :
    Pyx.Prebuild.typeOf c env sel (.bin e op e') = some (Pyx.PbShape.binTy op t) := by
  have hg : (Pyx.Prebuild.genericRefs.contains (some t)) = (["inst_ref<Object>", "inst_ref_set<Object>"].contains t) := by
    simp [Pyx.Prebuild.genericRefs]
  simp only [Pyx.Prebuild.typeOf, h, hg, Pyx.PbShape.binTy, apply_ite some]
  rfl

/-- the R820 type the SOURCE selects for a unary operation (interpreted IR) is the type the SPECIFICATION `typeOf` gives the
    expression, whenever the operand's recorded type is the specification's type of the operand -/
theorem unary_type_as_in_source (fc : FCtx) (nd : Node) (g g1 : G) (n o b : Nat) (op t : String) (acc : Acc)
    (hop : nd.strs.lookup "operator" = some op) (hk : nd.kids.lookup "operand" = some acc)
    (ha : acc [] g = (.inst o, g1)) (hb : BlkOK g1.st) (ho : g1.st.pop[o]? = some (.val b))
    (ht : g1.tys.lookup o = some t)
    (c : Pyx.Prebuild.TCtx) (env : _root_.Pyx.Prebuild.Env) (sel : Option String) (e : Pyx.Prebuild.Expr)
    (hty : Pyx.Prebuild.typeOf c env sel e = some t) :
    ∃ t', Pyx.Prebuild.typeOf c env sel (.un (lowerStr op) e) = some t' ∧
      callFn (mkEnv fc nd) (n + 30) accept_UnaryOperationNode [.node] [] g
        = some (.inst (newVal g1.st).1,
                { g1 with st := ((newVal g1.st).2.new (.uny (newVal g1.st).1 (lowerStr op) o)).2,
                          tys := ((newVal g1.st).1, t') :: g1.tys }) :=
  ⟨unTy (lowerStr op) t, unary_type_is_model_type c env sel e (lowerStr op) t hty,
    unary_as_in_source fc nd g g1 n o b op t acc hop hk ha hb ho ht⟩

/-- the same for a binary operation (comparison / logical operators, `*`, `/`, `%`; every operator:
    `binary_type_as_in_source`): the recorded R820 type is `typeOf` of the expression when the LEFT operand's recorded type is
    `typeOf` of the left operand.  An integer / real promotion in prebuild.py changes the interpreted type and breaks this
    theorem. -/
theorem binary_type_as_in_source_partial (fc : FCtx) (nd : Node) (g g1 g2 : G) (n l r bl br : Nat) (op t : String)
    (accL accR : Acc) (hop : nd.strs.lookup "operator" = some op)
    (hkl : nd.kids.lookup "left" = some accL) (hkr : nd.kids.lookup "right" = some accR)
    (hal : accL [] g = (.inst l, g1)) (har : accR [] g1 = (.inst r, g2)) (hb : BlkOK g2.st)
    (hl : g2.st.pop[l]? = some (.val bl)) (hr : g2.st.pop[r]? = some (.val br))
    (ht : g2.tys.lookup l = some t)
    (h2 : ¬ (lowerStr op = "|" ∨ lowerStr op = "+" ∨ lowerStr op = "&" ∨ lowerStr op = "^" ∨ lowerStr op = "-"))
    (c : Pyx.Prebuild.TCtx) (env : _root_.Pyx.Prebuild.Env) (sel : Option String) (e e' : Pyx.Prebuild.Expr)
    (hty : Pyx.Prebuild.typeOf c env sel e = some t) :
    ∃ t', Pyx.Prebuild.typeOf c env sel (.bin e (lowerStr op) e') = some t' ∧
      callFn (mkEnv fc nd) (n + 40) accept_BinaryOperationNode [.node] [] g
        = some (.inst (newVal g2.st).1,
                { g2 with st := ((newVal g2.st).2.new (.bin (newVal g2.st).1 (lowerStr op) l r)).2,
                          tys := ((newVal g2.st).1, t') :: g2.tys }) :=
  ⟨binTy (lowerStr op) t, binary_type_is_model_type c env sel e e' (lowerStr op) t hty,
    binary_as_in_source_partial fc nd g g1 g2 n l r bl br op t accL accR hop hkl hkr hal har hb hl hr ht h2⟩

/-- `accept_BinaryOperationNode`, EVERY operator (the `| + & ^ -` branch included: left type tested against the generic
    reference types, `.S_IRDT[17].O_OBJ[123].S_IRDT[123]` reaching nothing for them, `or self.s_dt('inst_ref_set<Object>')`) -/
theorem binary_as_in_source (fc : FCtx) (nd : Node) (g g1 g2 : G) (n l r bl br : Nat) (op t : String) (accL accR : Acc)
    (hop : nd.strs.lookup "operator" = some op)
    (hkl : nd.kids.lookup "left" = some accL) (hkr : nd.kids.lookup "right" = some accR)
    (hal : accL [] g = (.inst l, g1)) (har : accR [] g1 = (.inst r, g2)) (hb : BlkOK g2.st)
    (hl : g2.st.pop[l]? = some (.val bl)) (hr : g2.st.pop[r]? = some (.val br))
    (ht : g2.tys.lookup l = some t) :
    callFn (mkEnv fc nd) (n + 40) accept_BinaryOperationNode [.node] [] g = binRes g2 op t l r :=
  binary_all fc nd g g1 g2 n l r bl br op t accL accR hop hkl hkr hal har hb hl hr ht

/-- … and its R820 type is the specification's `typeOf` of the expression, for every operator -/
theorem binary_type_as_in_source (fc : FCtx) (nd : Node) (g g1 g2 : G) (n l r bl br : Nat) (op t : String)
    (accL accR : Acc) (hop : nd.strs.lookup "operator" = some op)
    (hkl : nd.kids.lookup "left" = some accL) (hkr : nd.kids.lookup "right" = some accR)
    (hal : accL [] g = (.inst l, g1)) (har : accR [] g1 = (.inst r, g2)) (hb : BlkOK g2.st)
    (hl : g2.st.pop[l]? = some (.val bl)) (hr : g2.st.pop[r]? = some (.val br))
    (ht : g2.tys.lookup l = some t)
    (c : Pyx.Prebuild.TCtx) (env : _root_.Pyx.Prebuild.Env) (sel : Option String) (e e' : Pyx.Prebuild.Expr)
    (hty : Pyx.Prebuild.typeOf c env sel e = some t) :
    ∃ t', Pyx.Prebuild.typeOf c env sel (.bin e (lowerStr op) e') = some t' ∧
      callFn (mkEnv fc nd) (n + 40) accept_BinaryOperationNode [.node] [] g
        = some (.inst (newVal g2.st).1,
                { g2 with st := ((newVal g2.st).2.new (.bin (newVal g2.st).1 (lowerStr op) l r)).2,
                          tys := ((newVal g2.st).1, t') :: g2.tys }) :=
  ⟨binTy (lowerStr op) t, binary_type_is_model_type c env sel e e' (lowerStr op) t hty,
    binary_as_in_source fc nd g g1 g2 n l r bl br op t accL accR hop hkl hkr hal har hb hl hr ht⟩

/-- applied: `binTy` on `2 * 0.5` is the LEFT type (integer) — with an integer / real promotion it would be real -/
example : Pyx.Prebuild.typeOf demoT [] none (.bin (.int "2") "*" (.real "0.5")) = some (binTy "*" "integer") :=
  binary_type_is_model_type _ _ _ _ _ _ _ rfl

/-- applied: `7` in the outer block -/
example : (callFn (mkEnv { ees := [], classes := [] } { strs := [("value", "7")] }) 20 accept_IntegerNode [.node] []
      { st := { pop := [.blk true], scopes := [⟨.blk 0, []⟩] } }).map (fun r => (r.2.st.pop, r.2.tys))
    = some ([.blk true, .val 0, .lin 1 "7"], [(1, "integer")]) := by decide +kernel

/-- `accept_BooleanNode` for the spellings Flat.lean models (`true` / `false`): `Value = str(node.value).upper()` -/
theorem boolean_as_in_source (fc : FCtx) (nd : Node) (g : G) (n : Nat) (v : String) (hb : BlkOK g.st)
    (hv : nd.strs.lookup "value" = some v) (hlit : v = "true" ∨ v = "false") :
    callFn (mkEnv fc nd) (n + 20) accept_BooleanNode [.node] [] g
      = some (.inst (buildExpr fc (.bool v) g.st).1,
              { g with st := (buildExpr fc (.bool v) g.st).2, tys := ((buildExpr fc (.bool v) g.st).1, "boolean") :: g.tys }) :=
  boolean_eq fc nd g n v hb hv hlit

/-- `accept_BlockNode`, for ANY oracle of the statement list: a new ACT_BLK (R601 is not stored), its scope entered, the
    statements accepted, the scope left, the block answered.  With the oracle `fun _ g => (.none, { g with st := body g.st })`
    this is `withBlock g.st body` of Flat.lean. -/
theorem block_as_in_source (fc : FCtx) (nd : Node) (g : G) (n : Nat) (acc : Acc)
    (hk : nd.kids.lookup "statement_list" = some acc) :
    callFn (mkEnv fc nd) (n + 20) accept_BlockNode [.node] [] g
      = some (.inst (g.st.new (.blk false)).1,
              { (acc [] { g with st := pushScope (.blk (g.st.new (.blk false)).1) (g.st.new (.blk false)).2 }).2 with
                st := popScope (acc [] { g with st := pushScope (.blk (g.st.new (.blk false)).1) (g.st.new (.blk false)).2 }).2.st }) :=
  block_eq fc nd g n acc hk

/-- `accept_BodyNode`: the outer ACT_BLK (R666 → `.blk true`), its scope, `node.block.statement_list` accepted, the scope left;
    on the empty state with the oracle of `buildStmts fc none a` this is `prebuildSt fc a` -/
theorem body_as_in_source (fc : FCtx) (nd : Node) (g : G) (n : Nat) (acc : Acc)
    (hk : nd.kids.lookup "block.statement_list" = some acc) :
    callFn (mkEnv fc nd) (n + 20) accept_BodyNode [.node] [] g
      = some (.actAct,
              { (acc [] { g with st := pushScope (.blk (g.st.new (.blk true)).1) (g.st.new (.blk true)).2 }).2 with
                st := popScope (acc [] { g with st := pushScope (.blk (g.st.new (.blk true)).1) (g.st.new (.blk true)).2 }).2.st }) :=
  body_eq fc nd g n acc hk

/-- applied: an empty body gives the outer block alone, scope stack balanced -/
example : (callFn (mkEnv { ees := [], classes := [] } { kids := [("block.statement_list", fun _ g => (.none, g))] })
      20 accept_BodyNode [.node] [] { st := {} }).map (fun r => (r.2.st.pop, r.2.st.scopes.length)) = some ([.blk true], 0) := by
  decide +kernel

/-- `accept_DeleteNode`: act_smt, find_symbol (`lookupVar`), ACT_DEL, R603, R634 := the variable — the `.delete` clause of
    `buildStmt`; a name that is not found fails on both sides (`relate` with None).  Hypothesis: what find_symbol answers is
    a V_VAR row. -/
theorem delete_as_in_source (fc : FCtx) (nd : Node) (g : G) (n : Nat) (name : String) (hb : BlkOK g.st)
    (hn : nd.strs.lookup "variable_name" = some name)
    (hvar : ∀ v, (lookupVar fc name (newSmt none g.st).2).1 = some v →
      ∃ nm b, (lookupVar fc name (newSmt none g.st).2).2.pop[v]? = some (.var nm b)) :
    callFn (mkEnv fc nd) (n + 20) accept_DeleteNode [.node] [] g
      = some (.inst (buildStmt fc none (.delete name) g.st).1,
              { g with st := (buildStmt fc none (.delete name) g.st).2 }) :=
  delete_eq fc nd g n name hb hn hvar

/-! (Proofs/PbShapeMore.lean) relate / unrelate (with and without `using`).  `VarAns r` = what a look-up answers is
    a V_VAR row of the population it leaves (`∀ v, r.1 = some v → ∃ nm b, r.2.pop[v]? = some (.var nm b)`); the look-ups are
    chained in source order (from, to, using), each on the state the previous one left. -/

/-- `accept_RelateNode`: act_smt, find_symbol of `node.from_variable_name` then of `node.to_variable_name` (`lookupVar`, twice),
    r_rel(node.rel_id), ACT_REL with relationship_phrase = node.phrase, R603, R615 := from, R616 := to, R653 := the association
    — the `.relate a b r ph` clause of `buildStmt`.  A name that is not found fails on both sides (the model at `needVar`, the
    source at the asserting `relate(act_rel, None, …)`) and leaves 0 in the row on both sides.  Hypotheses: the four node
    fields are strings; the current block handle is an ACT_BLK row (`BlkOK`); what each find_symbol answers is a V_VAR row. -/
theorem relate_as_in_source (fc : FCtx) (nd : Node) (g : G) (n : Nat) (a b r ph : String) (hb : BlkOK g.st)
    (ha : nd.strs.lookup "from_variable_name" = some a) (hbn : nd.strs.lookup "to_variable_name" = some b)
    (hr : nd.strs.lookup "rel_id" = some r) (hph : nd.strs.lookup "phrase" = some ph)
    (hva : VarAns (lookupVar fc a (newSmt none g.st).2))
    (hvb : VarAns (lookupVar fc b (lookupVar fc a (newSmt none g.st).2).2)) :
    callFn (mkEnv fc nd) (n + 20) accept_RelateNode [.node] [] g
      = some (.inst (buildStmt fc none (.relate a b r ph) g.st).1,
              { g with st := (buildStmt fc none (.relate a b r ph) g.st).2 }) :=
  relate_eq fc nd g n a b r ph hb ha hbn hr hph hva hvb

/-- `accept_UnrelateNode`: as above with ACT_UNR, R620 := from, R621 := to, R655 — the `.unrelate a b r ph` clause -/
theorem unrelate_as_in_source (fc : FCtx) (nd : Node) (g : G) (n : Nat) (a b r ph : String) (hb : BlkOK g.st)
    (ha : nd.strs.lookup "from_variable_name" = some a) (hbn : nd.strs.lookup "to_variable_name" = some b)
    (hr : nd.strs.lookup "rel_id" = some r) (hph : nd.strs.lookup "phrase" = some ph)
    (hva : VarAns (lookupVar fc a (newSmt none g.st).2))
    (hvb : VarAns (lookupVar fc b (lookupVar fc a (newSmt none g.st).2).2)) :
    callFn (mkEnv fc nd) (n + 20) accept_UnrelateNode [.node] [] g
      = some (.inst (buildStmt fc none (.unrelate a b r ph) g.st).1,
              { g with st := (buildStmt fc none (.unrelate a b r ph) g.st).2 }) :=
  unrelate_eq fc nd g n a b r ph hb ha hbn hr hph hva hvb

/-- `accept_RelateUsingNode`: three look-ups (from, to, using — in this order), ACT_RU, R603, R617 := from, R618 := to,
    R619 := using, R654 — the `.relateU a b r ph u` clause of `buildStmt` -/
theorem relate_using_as_in_source (fc : FCtx) (nd : Node) (g : G) (n : Nat) (a b r ph u : String) (hb : BlkOK g.st)
    (ha : nd.strs.lookup "from_variable_name" = some a) (hbn : nd.strs.lookup "to_variable_name" = some b)
    (hun : nd.strs.lookup "using_variable_name" = some u)
    (hr : nd.strs.lookup "rel_id" = some r) (hph : nd.strs.lookup "phrase" = some ph)
    (hva : VarAns (lookupVar fc a (newSmt none g.st).2))
    (hvb : VarAns (lookupVar fc b (lookupVar fc a (newSmt none g.st).2).2))
    (hvc : VarAns (lookupVar fc u (lookupVar fc b (lookupVar fc a (newSmt none g.st).2).2).2)) :
    callFn (mkEnv fc nd) (n + 20) accept_RelateUsingNode [.node] [] g
      = some (.inst (buildStmt fc none (.relateU a b r ph u) g.st).1,
              { g with st := (buildStmt fc none (.relateU a b r ph u) g.st).2 }) :=
  relate_using_eq fc nd g n a b r ph u hb ha hbn hun hr hph hva hvb hvc

/-- `accept_UnrelateUsingNode`: ACT_URU, R622 := from, R623 := to, R624 := using, R656 — the `.unrelateU a b r ph u` clause -/
theorem unrelate_using_as_in_source (fc : FCtx) (nd : Node) (g : G) (n : Nat) (a b r ph u : String) (hb : BlkOK g.st)
    (ha : nd.strs.lookup "from_variable_name" = some a) (hbn : nd.strs.lookup "to_variable_name" = some b)
    (hun : nd.strs.lookup "using_variable_name" = some u)
    (hr : nd.strs.lookup "rel_id" = some r) (hph : nd.strs.lookup "phrase" = some ph)
    (hva : VarAns (lookupVar fc a (newSmt none g.st).2))
    (hvb : VarAns (lookupVar fc b (lookupVar fc a (newSmt none g.st).2).2))
    (hvc : VarAns (lookupVar fc u (lookupVar fc b (lookupVar fc a (newSmt none g.st).2).2).2)) :
    callFn (mkEnv fc nd) (n + 20) accept_UnrelateUsingNode [.node] [] g
      = some (.inst (buildStmt fc none (.unrelateU a b r ph u) g.st).1,
              { g with st := (buildStmt fc none (.unrelateU a b r ph u) g.st).2 }) :=
  unrelate_using_eq fc nd g n a b r ph u hb ha hbn hun hr hph hva hvb hvc

/-- a block with two instance handles `a` (row 1) and `b` (row 3) -/
def relDemoG : G :=
  { st := { pop := [.blk true, .var "a" 0, .vint 1 "DOG", .var "b" 0, .vint 3 "CAT"], scopes := [⟨.blk 0, [("b", 3), ("a", 1)]⟩] } }
def relDemoNd : Node :=
  { strs := [("from_variable_name", "a"), ("to_variable_name", "b"), ("using_variable_name", "a"), ("rel_id", "R7"), ("phrase", "'owns'")] }

/-- applied: the hypotheses are satisfiable (both names found, both V_VAR rows) and the population is the expected one:
    the from / to variables in the source's order, the association, the phrase -/
example : (callFn (mkEnv { ees := [], classes := [] } relDemoNd) 20 accept_RelateNode [.node] [] relDemoG).map (·.2.st.pop)
    = some [.blk true, .var "a" 0, .vint 1 "DOG", .var "b" 0, .vint 3 "CAT", .smt 0 none, .rel 5 1 3 "R7" "'owns'"] :=
  (congrArg (Option.map (·.2.st.pop)) (relate_as_in_source { ees := [], classes := [] } relDemoNd relDemoG 0 "a" "b" "R7" "'owns'"
    (BlkOK.of_top (o := true) rfl) rfl rfl rfl rfl
    (VarAns.of_eq (v := 1) (nm := "a") (b := 0) (by decide) (by decide))
    (VarAns.of_eq (v := 3) (nm := "b") (b := 0) (by decide) (by decide)))).trans (by decide +kernel)

/-- … and directly, by evaluation of the generated IR: `unrelate a from b … using a` -/
example : (callFn (mkEnv { ees := [], classes := [] } relDemoNd) 20 accept_UnrelateUsingNode [.node] [] relDemoG).map (·.2.st.pop)
    = some [.blk true, .var "a" 0, .vint 1 "DOG", .var "b" 0, .vint 3 "CAT", .smt 0 none, .uru 5 1 3 1 "R7" "'owns'"] := by
  decide +kernel

/-- a name that is not found: both sides fail and leave 0 in the row -/
example : (callFn (mkEnv { ees := [], classes := [] }
      { strs := [("from_variable_name", "zz"), ("to_variable_name", "b"), ("rel_id", "R7"), ("phrase", "")] }) 20
      accept_RelateNode [.node] [] relDemoG).map (fun r => (r.2.st.pop.drop 5, r.2.st.ok))
    = some ([.smt 0 none, .rel 5 0 3 "R7" ""], false) := by decide +kernel

/-! Return with a value, `selected`, while / if / elif / else (for any oracles of the children, and with the
    model's oracles `exprAcc` = `buildExpr`, `blockAcc` = `withBlock … (buildStmts fc none b)`). -/

/-- `accept_ReturnNode` WITH a value, for ANY oracle of `node.expression` that only appends rows (`hext`) and answers a V_VAL
    row (`hv`): act_smt, then ACT_RET is instantiated BEFORE the value is accepted (the source's order: the ACT_RET row lies at
    position act_smt + 1, in front of the oracle's rows `d`), R603, R668 := the value.  The row is the row of the
    `.ret (some e)` clause of `buildStmt` (`.ret s (some v)`); Flat.lean's documented deviation of FORM — the model appends
    that row AFTER the value's rows — is visible here as the POSITION of the row (`set (s + 1)` instead of an append): the two
    populations differ by that move and the renaming of the later rows it causes, which is not proved (see the example). -/
theorem return_value_as_in_source (fc : FCtx) (nd : Node) (g g1 : G) (n v b : Nat) (acc : Acc) (d : List Flat.Row) (hb : BlkOK g.st)
    (hk : nd.kids.lookup "expression" = some acc)
    (ha : acc [] { g with st := ((newSmt none g.st).2.new (.ret 0 none)).2 } = (.inst v, g1))
    (hext : g1.st.pop = ((newSmt none g.st).2.new (.ret 0 none)).2.pop ++ d)
    (hv : g1.st.pop[v]? = some (.val b)) :
    callFn (mkEnv fc nd) (n + 20) accept_ReturnNode [.node] [] g
      = some (.inst (newSmt none g.st).1,
              { g1 with st := { g1.st with pop := g1.st.pop.set ((newSmt none g.st).1 + 1)
                                                  (.ret (newSmt none g.st).1 (some v)) } }) :=
  return_value_eq fc nd g g1 n v b acc d hb hk ha hext hv

/-- applied, `return 7;` with the oracle `exprAcc` (= `buildExpr`): the source's population, and the model's — the same rows,
    ACT_RET moved behind the value's rows and the value's indices one less -/
example : (callFn (mkEnv { ees := [], classes := [] } { kids := [("expression", exprAcc { ees := [], classes := [] } (.int "7"))] })
      20 accept_ReturnNode [.node] [] { st := { pop := [.blk true], scopes := [⟨.blk 0, []⟩] } }).map (·.2.st.pop)
    = some [.blk true, .smt 0 none, .ret 1 (some 3), .val 0, .lin 3 "7"] := by decide +kernel
example : (buildStmt { ees := [], classes := [] } none (.ret (some (.int "7"))) { pop := [.blk true], scopes := [⟨.blk 0, []⟩] }).2.pop
    = [.blk true, .smt 0 none, .val 0, .lin 2 "7", .ret 1 (some 2)] := by decide +kernel

/-- `accept_SelectedAccessNode`: s_dt('inst_ref<Object>') (R820), v_val, V_SLR, R801 — the `.selected` clause of `buildExpr` -/
theorem selected_as_in_source (fc : FCtx) (nd : Node) (g : G) (n : Nat) (hb : BlkOK g.st) :
    callFn (mkEnv fc nd) (n + 20) accept_SelectedAccessNode [.node] [] g
      = some (.inst (buildExpr fc .selected g.st).1,
              { g with st := (buildExpr fc .selected g.st).2,
                       tys := ((buildExpr fc .selected g.st).1, "inst_ref<Object>") :: g.tys }) :=
  selected_eq fc nd g n hb

/-- `accept_WhileNode`, for ANY oracles of the condition (answers `v`, leaves `g1`) and of the block (answers `k`, leaves `g2`):
    act_smt, the condition accepted, then the block, ACT_WHL appended, R603, R608 := the block, R626 := the condition — the row
    `.whl s blk v` of the `.while_` clause of `buildStmt`.  Hypotheses: in the state the block's oracle leaves, the handler's
    ACT_SMT is still an ACT_SMT row, `v` is a V_VAL row, `k` an ACT_BLK row. -/
theorem while_as_in_source (fc : FCtx) (nd : Node) (g g1 g2 : G) (n v k b bb : Nat) (pp : Option Nat) (o : Bool) (accE accB : Acc)
    (hb : BlkOK g.st)
    (hkE : nd.kids.lookup "expression" = some accE) (hkB : nd.kids.lookup "block" = some accB)
    (haE : accE [] { g with st := (newSmt none g.st).2 } = (.inst v, g1)) (haB : accB [] g1 = (.inst k, g2))
    (hs : g2.st.pop[(newSmt none g.st).1]? = some (.smt bb pp))
    (hv : g2.st.pop[v]? = some (.val b)) (hk : g2.st.pop[k]? = some (.blk o)) :
    callFn (mkEnv fc nd) (n + 20) accept_WhileNode [.node] [] g
      = some (.inst (newSmt none g.st).1, { g2 with st := (g2.st.new (.whl (newSmt none g.st).1 k v)).2 }) :=
  while_eq fc nd g g1 g2 n v k b bb pp o accE accB hb hkE hkB haE haB hs hv hk

/-- … and with the MODEL's oracles (`exprAcc fc e` = `buildExpr fc e`, `blockAcc fc b` = `withBlock … (buildStmts fc none b)`,
    which is accept_BlockNode by `block_as_in_source`) the handler IS the `.while_ e b` clause of `buildStmt`.
    `condOf` / `blockOf` name the model's states after the condition / after the block. -/
theorem while_model_as_in_source (fc : FCtx) (nd : Node) (g : G) (n : Nat) (e : Pyx.Prebuild.Expr) (b : Block) (bb bv : Nat)
    (pp : Option Nat) (o : Bool) (hb : BlkOK g.st)
    (hkE : nd.kids.lookup "expression" = some (exprAcc fc e)) (hkB : nd.kids.lookup "block" = some (blockAcc fc b))
    (hs : (blockOf fc e b g.st).2.pop[(newSmt none g.st).1]? = some (.smt bb pp))
    (hv : (blockOf fc e b g.st).2.pop[(condOf fc e g.st).1]? = some (.val bv))
    (hk : (blockOf fc e b g.st).2.pop[(blockOf fc e b g.st).1]? = some (.blk o)) :
    callFn (mkEnv fc nd) (n + 20) accept_WhileNode [.node] [] g
      = some (.inst (buildStmt fc none (.while_ e b) g.st).1, { g with st := (buildStmt fc none (.while_ e b) g.st).2 }) :=
  while_model_eq fc nd g n e b bb bv pp o hb hkE hkB hs hv hk

/-- `accept_IfNode`, for ANY oracles: act_smt, condition, block, ACT_IF appended (R603, R607 := the block, R625 := the
    condition), then `node.elif_list` and `node.else_clause` accepted IN THIS ORDER with the keyword `act_if` = the new ACT_IF
    instance (`kid`: an absent child — `accept(None)` — does nothing) -/
theorem if_as_in_source (fc : FCtx) (nd : Node) (g g1 g2 : G) (n v k b : Nat) (bb : Nat) (pp : Option Nat) (o : Bool)
    (accE accB : Acc) (hb : BlkOK g.st)
    (hkE : nd.kids.lookup "expression" = some accE) (hkB : nd.kids.lookup "block" = some accB)
    (haE : accE [] { g with st := (newSmt none g.st).2 } = (.inst v, g1)) (haB : accB [] g1 = (.inst k, g2))
    (hs : g2.st.pop[(newSmt none g.st).1]? = some (.smt bb pp))
    (hv : g2.st.pop[v]? = some (.val b)) (hk : g2.st.pop[k]? = some (.blk o)) :
    callFn (mkEnv fc nd) (n + 20) accept_IfNode [.node] [] g
      = some (.inst (newSmt none g.st).1,
              (kid nd "else_clause" [("act_if", .inst g2.st.pop.length)]
                (kid nd "elif_list" [("act_if", .inst g2.st.pop.length)]
                  { g2 with st := (g2.st.new (.if_ (newSmt none g.st).1 k v)).2 }).2).2) :=
  if_eq fc nd g g1 g2 n v k b bb pp o accE accB hb hkE hkB haE haB hs hv hk

/-- … with the model's oracles for condition and block, and oracles of the elif list / else clause that do what `buildElifs` /
    `buildElse` do with the if's Statement_ID (`hEl`, `hE`), the handler IS the `.if_ e b elifs els` clause of `buildStmt` -/
theorem if_model_as_in_source (fc : FCtx) (nd : Node) (g : G) (n : Nat) (e : Pyx.Prebuild.Expr) (b : Block) (elifs : Elifs) (els : Else)
    (bb bv : Nat) (pp : Option Nat) (o : Bool) (hb : BlkOK g.st)
    (hkE : nd.kids.lookup "expression" = some (exprAcc fc e)) (hkB : nd.kids.lookup "block" = some (blockAcc fc b))
    (hs : (blockOf fc e b g.st).2.pop[(newSmt none g.st).1]? = some (.smt bb pp))
    (hv : (blockOf fc e b g.st).2.pop[(condOf fc e g.st).1]? = some (.val bv))
    (hk : (blockOf fc e b g.st).2.pop[(blockOf fc e b g.st).1]? = some (.blk o))
    (hEl : ∀ st, (kid nd "elif_list" [("act_if", .inst (blockOf fc e b g.st).2.pop.length)] { g with st := st }).2
        = { g with st := buildElifs fc (newSmt none g.st).1 elifs st })
    (hE : ∀ st, (kid nd "else_clause" [("act_if", .inst (blockOf fc e b g.st).2.pop.length)] { g with st := st }).2
        = { g with st := buildElse fc (newSmt none g.st).1 els st }) :
    callFn (mkEnv fc nd) (n + 20) accept_IfNode [.node] [] g
      = some (.inst (buildStmt fc none (.if_ e b elifs els) g.st).1,
              { g with st := (buildStmt fc none (.if_ e b elifs els) g.st).2 }) :=
  if_model_eq fc nd g n e b elifs els bb bv pp o hb hkE hkB hs hv hk hEl hE

/-- `accept_ElIfListNode(node, act_if)`: every child accepted in order with the same `act_if` (fuel: one unit per child) -/
theorem elif_list_as_in_source (fc : FCtx) (nd : Node) (g : G) (n : Nat) (a : V) :
    callFn (mkEnv fc nd) (nd.children.length + n + 5) accept_ElIfListNode [.node] [("act_if", a)] g
      = some (.none, foldAcc [("act_if", a)] nd.children g) :=
  elif_list_eq fc nd g n a

/-- `accept_ElIfNode(node, act_if)` with the model's oracles: act_smt (in the block HOLDING the if, chained nowhere), condition,
    block, ACT_EL, R603, R658, R659, R682 := the Statement_ID `si` of the ACT_IF row `i` — one round of `buildElifs` -/
theorem elif_as_in_source (fc : FCtx) (nd : Node) (g : G) (n i si bi vi : Nat) (e : Pyx.Prebuild.Expr) (b : Block) (bb bv : Nat)
    (pp : Option Nat) (o : Bool) (hb : BlkOK g.st)
    (hkE : nd.kids.lookup "expression" = some (exprAcc fc e)) (hkB : nd.kids.lookup "block" = some (blockAcc fc b))
    (hs : (blockOf fc e b g.st).2.pop[(newSmt none g.st).1]? = some (.smt bb pp))
    (hv : (blockOf fc e b g.st).2.pop[(condOf fc e g.st).1]? = some (.val bv))
    (hk : (blockOf fc e b g.st).2.pop[(blockOf fc e b g.st).1]? = some (.blk o))
    (hi : (blockOf fc e b g.st).2.pop[i]? = some (.if_ si bi vi)) :
    callFn (mkEnv fc nd) (n + 20) accept_ElIfNode [.node] [("act_if", .inst i)] g
      = some (.inst (newSmt none g.st).1, { g with st := buildElifs fc si (.cons e b .nil) g.st }) :=
  elif_model_eq fc nd g n i si bi vi e b bb bv pp o hb hkE hkB hs hv hk hi

/-- `accept_ElseNode(node, act_if)` with the model's block oracle: act_smt, block, ACT_E, R603, R606, R683 := the Statement_ID of
    the ACT_IF row — the `.some b` clause of `buildElse` -/
theorem else_as_in_source (fc : FCtx) (nd : Node) (g : G) (n i si bi vi : Nat) (b : Block) (bb : Nat) (pp : Option Nat)
    (o : Bool) (hb : BlkOK g.st) (hkB : nd.kids.lookup "block" = some (blockAcc fc b))
    (hs : (withBlock (newSmt none g.st).2 (buildStmts fc none b)).2.pop[(newSmt none g.st).1]? = some (.smt bb pp))
    (hk : (withBlock (newSmt none g.st).2 (buildStmts fc none b)).2.pop[(withBlock (newSmt none g.st).2 (buildStmts fc none b)).1]?
      = some (.blk o))
    (hi : (withBlock (newSmt none g.st).2 (buildStmts fc none b)).2.pop[i]? = some (.if_ si bi vi)) :
    callFn (mkEnv fc nd) (n + 20) accept_ElseNode [.node] [("act_if", .inst i)] g
      = some (.inst (newSmt none g.st).1, { g with st := buildElse fc si (.some b) g.st }) :=
  else_model_eq fc nd g n i si bi vi b bb pp o hb hkB hs hk hi

def cmpDemoFc : FCtx := { ees := [], classes := [] }
def cmpDemoNd : Node :=
  { kids := [("expression", exprAcc cmpDemoFc (.bool "true")), ("block", blockAcc cmpDemoFc (.cons .brk .nil))] }
def cmpDemoG : G := { st := { pop := [.blk true], scopes := [⟨.blk 0, []⟩] } }

/-- applied, `while (true) break; end while;`: the hypotheses of `while_model_as_in_source` hold, the population is the model's -/
example : (callFn (mkEnv cmpDemoFc cmpDemoNd) 20 accept_WhileNode [.node] [] cmpDemoG).map (·.2.st.pop)
    = some [.blk true, .smt 0 none, .val 0, .lbo 2 "TRUE", .blk false, .smt 4 none, .brk 5, .whl 1 4 2] :=
  (congrArg (Option.map (·.2.st.pop)) (while_model_as_in_source cmpDemoFc cmpDemoNd cmpDemoG 0 (.bool "true") (.cons .brk .nil)
    0 0 none false (BlkOK.of_top (o := true) rfl) rfl rfl
    (by decide) (by decide) (by decide))).trans (by decide +kernel)

/-- applied, an `else` clause of the if whose ACT_IF is row 3 with Statement_ID 1: R683 stores the Statement_ID -/
example : (callFn (mkEnv cmpDemoFc cmpDemoNd) 20 accept_ElseNode [.node] [("act_if", .inst 3)]
      { st := { pop := [.blk true, .smt 0 none, .val 0, .if_ 1 0 2], scopes := [⟨.blk 0, []⟩] } }).map (·.2.st.pop)
    = some [.blk true, .smt 0 none, .val 0, .if_ 1 0 2, .smt 0 none, .blk false, .smt 5 none, .brk 6, .e 4 5 1] := by decide +kernel

/-- applied, an if without elif / else: only the ACT_IF row -/
example : (callFn (mkEnv cmpDemoFc cmpDemoNd) 20 accept_IfNode [.node] [] cmpDemoG).map (·.2.st.pop)
    = some [.blk true, .smt 0 none, .val 0, .lbo 2 "TRUE", .blk false, .smt 4 none, .brk 5, .if_ 1 4 2] := by decide +kernel

/-- applied, `selected` inside a where clause of the outer block -/
example : (callFn (mkEnv cmpDemoFc {}) 20 accept_SelectedAccessNode [.node] [] cmpDemoG).map (fun r => (r.2.st.pop, r.2.tys))
    = some ([.blk true, .val 0, .slr 1], [(1, "inst_ref<Object>")]) := by decide +kernel

/-! The if chain COMPOSED — the oracles of the elif list, of every elif and of the else clause are the HANDLERS
    themselves (`handlerAcc`: `self.accept(child, act_if=…)` runs accept_ElIfListNode / accept_ElIfNode / accept_ElseNode on the
    child's node); nothing is assumed about them.  What makes the composition go through: every builder function of
    Flat.lean only APPENDS rows and keeps the handles of the scope stack (`Ext`, proved for `buildExpr`, `buildStmt`, `buildStmts`,
    `buildElifs`, `buildElse` without any side condition), so the handler's ACT_SMT / ACT_BLK / ACT_IF rows are still there in the
    state the children leave, and `BlkOK` is kept. -/

/-- append-only, for every statement (no side condition): the rows that were there stay where they are, the scope stack keeps
    its handles -/
theorem builder_only_appends (fc : FCtx) (s : Stmt) (prev : Option Nat) (st : St) :
    (∃ d, (buildStmt fc prev s st).2.pop = st.pop ++ d) ∧ hsOf (buildStmt fc prev s st).2.scopes = hsOf st.scopes :=
  buildStmt_ext fc s prev st

/-- `accept_ElIfListNode(node, act_if)` whose children are accepted by `accept_ElIfNode` (conditions / blocks by the model's
    oracles) IS `buildElifs fc si elifs` for the WHOLE list.  Hypotheses: `BlkOK`, `act_if` is an ACT_IF row with Statement_ID
    `si`, every condition is an expression node `buildExpr` has a clause for (`elifsHead`: no index access / invocation —
    otherwise the model answers row 0, no V_VAL) -/
theorem elif_chain_as_in_source (fc : FCtx) (g : G) (i si bi vi : Nat) (elifs : Elifs) (hh : elifsHead elifs = true)
    (hb : BlkOK g.st) (hi : g.st.pop[i]? = some (.if_ si bi vi)) :
    callFn (mkEnv fc (elifListNode fc elifs)) ((elifListNode fc elifs).children.length + 0 + 5) accept_ElIfListNode [.node]
        [("act_if", .inst i)] g
      = some (.none, { g with st := buildElifs fc si elifs g.st }) :=
  elif_list_full_eq fc g i si bi vi elifs hh hb hi

/-- `accept_ElseNode(node, act_if)` with the model's block oracle IS the `.some eb` clause of `buildElse`; the row hypotheses of
    `else_as_in_source` are derived (append-only) -/
theorem else_clause_as_in_source (fc : FCtx) (g : G) (i si bi vi : Nat) (eb : Block) (hb : BlkOK g.st)
    (hi : g.st.pop[i]? = some (.if_ si bi vi)) :
    callFn (mkEnv fc (elseNode fc eb)) 20 accept_ElseNode [.node] [("act_if", .inst i)] g
      = some (.inst (newSmt none g.st).1, { g with st := buildElse fc si (.some eb) g.st }) :=
  else_full_eq fc g i si bi vi eb hb hi

/-- `accept_IfNode` on `ifNode fc e b elifs els` (condition / block: `exprAcc`, `blockAcc`; elif list: accept_ElIfListNode over
    accept_ElIfNode; else clause: accept_ElseNode, absent for `Else.none`) IS the `.if_ e b elifs els` clause of `buildStmt` —
    `if_model_as_in_source` WITHOUT `hEl` / `hE` and without the row hypotheses `hs` / `hv` / `hk`.  Left: `BlkOK`, and the
    conditions are expression nodes `buildExpr` has a clause for. -/
theorem if_full_as_in_source (fc : FCtx) (g : G) (n : Nat) (e : Pyx.Prebuild.Expr) (b : Block) (elifs : Elifs) (els : Else)
    (hb : BlkOK g.st) (he : exprHead e = true) (hh : elifsHead elifs = true) :
    callFn (mkEnv fc (ifNode fc e b elifs els)) (n + 20) accept_IfNode [.node] [] g
      = some (.inst (buildStmt fc none (.if_ e b elifs els) g.st).1,
              { g with st := (buildStmt fc none (.if_ e b elifs els) g.st).2 }) :=
  if_full_eq fc g n e b elifs els hb he hh

theorem cmpDemoG_blkOK : BlkOK cmpDemoG.st :=
  BlkOK.of_top (o := true) rfl

/-- applied, `if (true) break; elif (false) continue; else control stop; end if;`: the hypotheses are discharged, R682 / R683
    name the Statement_ID 1 of the if -/
example : (callFn (mkEnv cmpDemoFc (ifNode cmpDemoFc (.bool "true") (.cons .brk .nil)
      (.cons (.bool "false") (.cons .cont .nil) .nil) (.some (.cons .ctl .nil)))) (0 + 20) accept_IfNode [.node] [] cmpDemoG).map (·.2.st.pop)
    = some [.blk true, .smt 0 none, .val 0, .lbo 2 "TRUE", .blk false, .smt 4 none, .brk 5, .if_ 1 4 2,
            .smt 0 none, .val 0, .lbo 9 "FALSE", .blk false, .smt 11 none, .con 12, .el 8 11 9 1,
            .smt 0 none, .blk false, .smt 16 none, .ctl 17, .e 15 16 1] := by
  rw [if_full_as_in_source cmpDemoFc cmpDemoG 0 (.bool "true") (.cons .brk .nil)
    (.cons (.bool "false") (.cons .cont .nil) .nil) (.some (.cons .ctl .nil)) cmpDemoG_blkOK rfl rfl]
  decide +kernel

/-! `self` as a value.  The rows and associations it needs are in the second tables of the interpreter (Proofs/PbShape.lean:
    `blankRow2`, `setRef2`, `partnerOk2`, `setElem2`, `relate820g` — reached only where the first ones answer "stuck" / "no such
    partner"). -/

/-- `accept_SelfAccessNode`: find_symbol(node, 'self'), v_val, V_IRF, R820 to the variable's type (R848 is not in the model:
    not stored), R801, R808 := the variable — the `.self` clause of `buildExpr`.  Hypothesis: what find_symbol answers is a
    V_VAR row. -/
theorem self_access_as_in_source (fc : FCtx) (nd : Node) (g : G) (n : Nat) (hb : BlkOK g.st)
    (hva : VarAns (lookupVar fc "self" g.st)) :
    callFn (mkEnv fc nd) (n + 20) accept_SelfAccessNode [.node] [] g
      = some (.inst (buildExpr fc .self g.st).1, { g with st := (buildExpr fc .self g.st).2 }) :=
  self_eq fc nd g n hb hva

def selfDemoFc : FCtx := { ees := [], classes := ["DOG"], selfKl := some "DOG" }

/-- applied, in an operation of DOG: `self` is declared on first use (V_VAR 1, V_INT 2), the value is V_VAL 3 / V_IRF 4 → 1 -/
example : (callFn (mkEnv selfDemoFc {}) (0 + 20) accept_SelfAccessNode [.node] [] cmpDemoG).map (·.2.st.pop)
    = some [.blk true, .var "self" 0, .vint 1 "DOG", .val 0, .irf 3 1] := by
  rw [self_access_as_in_source selfDemoFc {} cmpDemoG 0 cmpDemoG_blkOK
    (VarAns.of_eq (v := 1) (nm := "self") (b := 0) (by decide) (by decide))]
  decide +kernel

/-- … and in a function (no `self`): the look-up answers None, both sides fail and leave 0 in the V_IRF row -/
example : (callFn (mkEnv cmpDemoFc {}) 20 accept_SelfAccessNode [.node] [] cmpDemoG).map (fun r => (r.2.st.pop, r.2.st.ok))
    = some ([.blk true, .val 0, .irf 1 0], false) := by decide +kernel

/-- accept_CreateObjectNode / accept_SelectFromNode (ACT_CR: R603, R633, R671; ACT_FIO: R603, R639, R677; the implicit
    declaration runs the generated helpers v_int / v_ins / v_var), evaluated on one state: the generated handlers produce
    exactly the rows of the `.create` / `.selFrom` clauses of `buildStmt` (for every state: `create_object_as_in_source`,
    `select_from_as_in_source`) -/
example : (callFn (mkEnv selfDemoFc { strs := [("variable_name", "d"), ("key_letter", "DOG")] }) 20 accept_CreateObjectNode
      [.node] [] cmpDemoG).map (fun r => (r.1, r.2.st.pop, r.2.st.ok))
    = some (.inst 1, [.blk true, .smt 0 none, .var "d" 0, .vint 2 "DOG", .cr 1 2 "DOG"], true) := by decide +kernel
example : (buildStmt selfDemoFc none (.create "d" "DOG") cmpDemoG.st).2.pop
    = [.blk true, .smt 0 none, .var "d" 0, .vint 2 "DOG", .cr 1 2 "DOG"] := by decide +kernel
example : (callFn (mkEnv selfDemoFc { strs := [("variable_name", "ds"), ("key_letter", "DOG"), ("cardinality", "many"), ("many", "x")] })
      20 accept_SelectFromNode [.node] [] cmpDemoG).map (fun r => (r.1, r.2.st.pop, r.2.st.ok))
    = some (.inst 1, [.blk true, .smt 0 none, .var "ds" 0, .vins 2 "DOG", .fio 1 2 "DOG" "many"], true) := by decide +kernel
example : (buildStmt selfDemoFc none (.selFrom "many" "ds" "DOG") cmpDemoG.st).2.pop
    = [.blk true, .smt 0 none, .var "ds" 0, .vins 2 "DOG", .fio 1 2 "DOG" "many"] := by decide +kernel

/-! The declaring statements for ALL states.  The helpers `v_var` / `v_int` / `v_ins` of the generated IR are `newVar` of
    Flat.lean (V_VAR with R823, V_LOC / R835 / R848 not stored, the R814 subtype with R818 / R819, install_symbol), and with them
    accept_CreateObjectNode / accept_SelectFromNode are the `.create` / `.selFrom` clauses of `buildStmt`. -/

/-- `v_int(node, name, o_obj)` / `v_ins(node, name, o_obj)` with the class `kl` in scope ARE `newVar name (V_INT / V_INS of kl)`
    for every state whose current block handle is an ACT_BLK row; they answer the subtype row (the row after the V_VAR) -/
theorem declare_variable_as_in_source (fc : FCtx) (nd : Node) (g : G) (n : Nat) (name kl : String) (hb : BlkOK g.st) :
    callFn (mkEnv fc nd) (n + 11) v_int [.node, .str name, .obj kl] [] g
        = some (.inst (g.st.pop.length + 1), { g with st := (newVar name (fun i => .vint i kl) g.st).2 })
    ∧ callFn (mkEnv fc nd) (n + 11) v_ins [.node, .str name, .obj kl] [] g
        = some (.inst (g.st.pop.length + 1), { g with st := (newVar name (fun i => .vins i kl) g.st).2 }) :=
  ⟨v_int_fuel fc nd g n name kl hb, v_ins_fuel fc nd g n name kl hb⟩

/-- `accept_CreateObjectNode` IS the `.create v kl` clause of `buildStmt`, for every state: act_smt, o_obj(key_letter),
    find_symbol(variable_name), v_int + `one(v_int).V_VAR[814]` when nothing was found (= `declVar`), ACT_CR with R603, R633 := the
    variable, R671 := the class.  Hypotheses: `BlkOK`; what find_symbol answers is a V_VAR row (`VarAns`); the class is in scope
    (`kl ∈ fc.classes`: otherwise the source raises at `relate(o_obj, v_int, 818)` with an EMPTY referential where the model — which
    goes on with `ok = false` — writes `kl`); the variable is not `self` (the model refuses it, the source re-declares it). -/
theorem create_object_as_in_source (fc : FCtx) (nd : Node) (g : G) (n : Nat) (v kl : String) (hb : BlkOK g.st)
    (hn : nd.strs.lookup "variable_name" = some v) (hk : nd.strs.lookup "key_letter" = some kl)
    (hv : v ≠ "self") (hc : kl ∈ fc.classes)
    (hva : VarAns (lookupVar fc v (newSmt none g.st).2)) :
    callFn (mkEnv fc nd) (n + 20) accept_CreateObjectNode [.node] [] g
      = some (.inst (buildStmt fc none (.create v kl) g.st).1,
              { g with st := (buildStmt fc none (.create v kl) g.st).2 }) :=
  create_object_eq fc nd g n v kl hb hn hk hv hc hva

/-- `accept_SelectFromNode` IS the `.selFrom card v kl` clause of `buildStmt`, for every state: act_smt, find_symbol, o_obj,
    v_ins (node.many) or v_int when nothing was found, ACT_FIO (cardinality in lower case) with R603, R639 := the variable,
    R677 := the class.  `node.many` is a property of the syntax node (bridgepoint/oal.py: `cardinality.lower() == 'many'`), here the
    string field "many" (empty = False) which must agree with the model's `isMany card`. -/
theorem select_from_as_in_source (fc : FCtx) (nd : Node) (g : G) (n : Nat) (card v kl m : String) (hb : BlkOK g.st)
    (hn : nd.strs.lookup "variable_name" = some v) (hk : nd.strs.lookup "key_letter" = some kl)
    (hcd : nd.strs.lookup "cardinality" = some card) (hm : nd.strs.lookup "many" = some m)
    (hmc : (m != "") = Flat.isMany card)
    (hv : v ≠ "self") (hc : kl ∈ fc.classes)
    (hva : VarAns (lookupVar fc v (newSmt none g.st).2)) :
    callFn (mkEnv fc nd) (n + 20) accept_SelectFromNode [.node] [] g
      = some (.inst (buildStmt fc none (.selFrom card v kl) g.st).1,
              { g with st := (buildStmt fc none (.selFrom card v kl) g.st).2 }) :=
  select_from_eq fc nd g n card v kl m hb hn hk hcd hm hmc hv hc hva

/-- a state in which `d` is already declared (V_VAR 1, V_INT 2 of DOG) -/
def declDemoG : G := { st := { pop := [.blk true, .var "d" 0, .vint 1 "DOG"], scopes := [⟨.blk 0, [("d", 1)]⟩] } }
theorem declDemoG_blkOK : BlkOK declDemoG.st :=
  BlkOK.of_top (o := true) rfl

/-- applied, `create object instance d of DOG;` with `d` unknown: the hypotheses are discharged, `d` is declared (V_VAR 2, V_INT 3) -/
example : (callFn (mkEnv selfDemoFc { strs := [("variable_name", "d"), ("key_letter", "DOG")] }) (0 + 20) accept_CreateObjectNode
      [.node] [] cmpDemoG).map (fun r => (r.1, r.2.st.pop, r.2.st.ok))
    = some (.inst 1, [.blk true, .smt 0 none, .var "d" 0, .vint 2 "DOG", .cr 1 2 "DOG"], true) := by
  rw [create_object_as_in_source selfDemoFc _ cmpDemoG 0 "d" "DOG" cmpDemoG_blkOK rfl rfl (by decide) (by decide)
    (VarAns.of_none (by decide))]
  decide +kernel

/-- … and with `d` visible: no declaration, R633 names the V_VAR that is there -/
example : (callFn (mkEnv selfDemoFc { strs := [("variable_name", "d"), ("key_letter", "DOG")] }) (0 + 20) accept_CreateObjectNode
      [.node] [] declDemoG).map (fun r => (r.1, r.2.st.pop, r.2.st.ok))
    = some (.inst 3, [.blk true, .var "d" 0, .vint 1 "DOG", .smt 0 none, .cr 3 1 "DOG"], true) := by
  rw [create_object_as_in_source selfDemoFc _ declDemoG 0 "d" "DOG" declDemoG_blkOK rfl rfl (by decide) (by decide)
    (VarAns.of_eq (v := 1) (nm := "d") (b := 0) (by decide) (by decide))]
  decide +kernel

/-- applied, `select many ds from instances of DOG;` (a V_INS) and `select any d from instances of DOG;` (a V_INT) -/
example : (callFn (mkEnv selfDemoFc { strs := [("variable_name", "ds"), ("key_letter", "DOG"), ("cardinality", "many"), ("many", "x")] })
      (0 + 20) accept_SelectFromNode [.node] [] cmpDemoG).map (fun r => (r.1, r.2.st.pop, r.2.st.ok))
    = some (.inst 1, [.blk true, .smt 0 none, .var "ds" 0, .vins 2 "DOG", .fio 1 2 "DOG" "many"], true) := by
  rw [select_from_as_in_source selfDemoFc _ cmpDemoG 0 "many" "ds" "DOG" "x" cmpDemoG_blkOK rfl rfl rfl rfl (by decide) (by decide)
    (by decide) (VarAns.of_none (by decide))]
  decide +kernel
example : (callFn (mkEnv selfDemoFc { strs := [("variable_name", "d"), ("key_letter", "DOG"), ("cardinality", "any"), ("many", "")] })
      (0 + 20) accept_SelectFromNode [.node] [] cmpDemoG).map (fun r => (r.1, r.2.st.pop, r.2.st.ok))
    = some (.inst 1, [.blk true, .smt 0 none, .var "d" 0, .vint 2 "DOG", .fio 1 2 "DOG" "any"], true) := by
  rw [select_from_as_in_source selfDemoFc _ cmpDemoG 0 "any" "d" "DOG" "" cmpDemoG_blkOK rfl rfl rfl rfl (by decide) (by decide)
    (by decide) (VarAns.of_none (by decide))]
  decide +kernel

/-- outside the hypothesis `kl ∈ fc.classes` model and source text part ways on the FAILED run (both `ok = false`): the source
    leaves the referentials of R818 / R671 empty, the model writes the key letters -/
example : (callFn (mkEnv cmpDemoFc { strs := [("variable_name", "d"), ("key_letter", "DOG")] }) 20 accept_CreateObjectNode
      [.node] [] cmpDemoG).map (fun r => (r.2.st.pop, r.2.st.ok))
    = some ([.blk true, .smt 0 none, .var "d" 0, .vint 2 "", .cr 1 2 ""], false)
  ∧ ((buildStmt cmpDemoFc none (.create "d" "DOG") cmpDemoG.st).2.pop, (buildStmt cmpDemoFc none (.create "d" "DOG") cmpDemoG.st).2.ok)
    = ([.blk true, .smt 0 none, .var "d" 0, .vint 2 "DOG", .cr 1 2 "DOG"], false) := by decide +kernel

end PbShape

end PyxProps.C06
