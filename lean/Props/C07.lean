import Proofs.OalStmt
import Proofs.OalFuel
import Proofs.OalMinimal
import Proofs.OalText
import Proofs.OalPrecTie

/-!
  C07 — OAL parsing follows the precedence table and ignores layout.

  Sections 1-8 are at TOKEN level.  Model: PyxModel/Oal/Expr.lean (tokens, expression tree, precedence-climbing
  parser parameterised by a table, minimal and full renderers), PyxModel/Oal/Stmt.lean (statements).  The table of
  the real grammar is GENERATED from bridgepoint/oal.py on every run: Gen/OalPrec.lean.  Section 7: the fuel of the
  parsers is never the reason for a rejection (arbitrary token lists); section 8: `render` writes no parenthesis
  that could be left out.
  Section 9 and the last section are at CHARACTER level, over the lexer model of C13/C08 (PyxModel/Oal/Lex.lean,
  generated rule table): `text_roundtrip` composes that lexer with the parser (`parseText`, PyxModel/Oal/Text.lean,
  is what the driver runs on the harness's texts), and the `layout_irrelevant*` theorems say which layouts the
  lexer removes without splitting, merging or swallowing a token.  That the real PLY lexer and LALR parser behave
  like the two models is tied by the correspondence harness, not proved.
  Kinds of theorems (tools/meta/C07.json `theorem_kinds`): `table_wellformed`, `prec_facts`, `prec_order`,
  `binOps_as_in_source`, `table_stmt_wellformed`, `grammar_shape`, `expr_grammar_shape`, `name_classes` are decisions over generated /
  literal tables, not property theorems (`prec_table_as_in_source` and the two `*_row_*_as_in_source` theorems are
  for-all ties to the generated `precRows`); the `_oal` forms are instances at the generated table, the `_fuel` forms
  the same statements at any level and any sufficient fuel, and `left_assoc`, `tighter_binds`, `unary_binds_tightest`,
  `*_reject_not_exhaustion`, `render_erase_paren`, `text_roundtrip_blanks` are corollaries.
-/
namespace PyxProps.C07
open Pyx.Oal
open Pyx.Gen.OalPrec (table precRows binOps binProds unOps unaryProd unaryRow unaryPrecName stmtProds exprProds kwIdent1 kwIdent2
  kwIdent3 kwIdent4)

/-! ## 1. the precedence round trip, for ANY well-formed table and ANY tree (unbounded depth) -/

/-- Writing an expression tree with only the parentheses the table requires and parsing the tokens back
    yields exactly that tree and leaves exactly the rest, whenever the rest does not begin with a token
    that could extend the expression (`. [ (` or a binary operator).  A comparison nested in a comparison is
    one of the places where parentheses are required (non-associative level), and `render` writes them. -/
theorem prec_roundtrip (t : Tbl) (wf : t.WF) (e : Expr) (hok : e.Ok t) (rest : List Tok) (hs : Stops t 0 rest) :
    parseExprTop t (render t e 0 ++ rest) = some (e, rest) :=
  parseExprTop_of_fuel t (roundtrip_fuel wf hok 0 hs _ (Nat.le_refl _))

/-- the same at any required level and for every sufficient amount of fuel (the form the statement
    parser uses: an expression that is followed by more tokens) -/
theorem prec_roundtrip_fuel (t : Tbl) (wf : t.WF) (e : Expr) (hok : e.Ok t) (need : Nat) (rest : List Tok)
    (hs : Stops t need rest) (f : Nat) (hf : cost e + 3 ≤ f) :
    parseExpr t f need (render t e need ++ rest) = some (e, rest) :=
  roundtrip_fuel wf hok need hs f hf

/-! ## 2. the generated table -/

/-- the hypotheses of `prec_roundtrip` hold of the table read from bridgepoint/oal.py -/
theorem table_wellformed : table.WF :=
  wf_ofLists (by decide)

/-- what the property states about the operators, decided on the generated table:
    or < and < comparisons < additive (+ - |) < multiplicative (* / & ^) < modulo (%) < unary;
    comparisons are non-associative, all other binary levels group to the left; nothing else is a binary
    operator; the unary operators are not, empty, not_empty, cardinality, +, -; the production
    `expression : unary_operator expression` has the level of the UNARY row (its `%prec`), and every
    binary production has the precedence of its operator token. -/
theorem prec_facts :
    table.bin .OR = some (1, .left) ∧
    table.bin .AND = some (2, .left) ∧
    (∀ k ∈ [Kind.LESSTHAN, .LE, .DOUBLEEQUAL, .GT, .GE, .NOTEQUAL], table.bin k = some (3, .nonassoc)) ∧
    (∀ k ∈ [Kind.PLUS, .MINUS, .PIPE], table.bin k = some (4, .left)) ∧
    (∀ k ∈ [Kind.TIMES, .DIV, .AMP, .CARET], table.bin k = some (5, .left)) ∧
    table.bin .MOD = some (6, .left) ∧
    table.ulevel = 7 ∧
    (∀ k, k ∉ [Kind.OR, .AND, .LESSTHAN, .LE, .DOUBLEEQUAL, .GT, .GE, .NOTEQUAL, .PLUS, .MINUS, .PIPE, .TIMES,
        .DIV, .AMP, .CARET, .MOD] → table.bin k = none) ∧
    (∀ k, table.un k = true ↔ k ∈ [Kind.NOT, .EMPTY, .NOT_EMPTY, .CARDINALITY, .PLUS, .MINUS]) ∧
    unaryPrecName = some "UNARY" ∧ unaryRow = some unaryProd ∧ unaryProd.2 = .right ∧
    binProds = binOps := by
  refine ⟨by decide, by decide, by decide, by decide, by decide, by decide, by decide, ?_, ?_, by decide, by decide,
    by decide, by decide⟩
  · exact forall_kind (by decide +kernel)
  · exact forall_kind (by decide +kernel)

/-- the strict order of the levels, spelled out -/
theorem prec_order :
    ∀ lo la lc ld lm lp : Nat × Assoc,
      table.bin .OR = some lo → table.bin .AND = some la → table.bin .LESSTHAN = some lc →
      table.bin .PLUS = some ld → table.bin .TIMES = some lm → table.bin .MOD = some lp →
      lo.1 < la.1 ∧ la.1 < lc.1 ∧ lc.1 < ld.1 ∧ ld.1 < lm.1 ∧ lm.1 < lp.1 ∧ lp.1 < table.ulevel := by
  intro lo la lc ld lm lp h1 h2 h3 h4 h5 h6
  obtain ⟨hor, hand, hcmp, hadd, hmul, hmod, hul, _⟩ := prec_facts
  rw [hor] at h1
  rw [hand] at h2
  rw [hcmp _ (by decide)] at h3
  rw [hadd _ (by decide)] at h4
  rw [hmul _ (by decide)] at h5
  rw [hmod] at h6
  cases h1
  cases h2
  cases h3
  cases h4
  cases h5
  cases h6
  rw [hul]
  decide

/-- the generated operator list is the generic yacc reading (`precInterp`, Proofs/OalPrecTie.lean) of the generated
    `OALParser.precedence` rows for the generated alternatives `expression : expression TOK expression`
    (a check of two generated tables against each other; the for-all statement is `prec_table_as_in_source`) -/
theorem binOps_as_in_source : binOps = precInterp precRows (binOps.map (·.1)) := by decide +kernel

/-- prec_table_as_in_source: for EVERY token kind, the level and associativity the parser model works with
    (`table.bin`) are the 1-based index and the associativity of the row of `OALParser.precedence` that lists the
    token's PLY name when the token is one of the alternatives `expression TOK expression`, and "not a binary
    operator" for every other token; the model's unary operators are the alternatives of `unary_operator`, and the
    level of `unary_operator expression` is the row named UNARY (right-associative).  Moving a name to another row,
    reordering rows or changing a row's associativity in oal.py changes `precRows` and with it this equation. -/
theorem prec_table_as_in_source (k : Kind) :
    table.bin k = (if k ∈ binOps.map (·.1) then rowOf precRows k.name 1 else none) ∧
    table.un k = unOps.contains k ∧
    rowOf precRows "UNARY" 1 = some (table.ulevel, .right) := by
  refine ⟨?_, rfl, by decide +kernel⟩
  have h := ofLists_precInterp precRows unOps unaryProd.1 k (binOps.map (·.1))
  rw [← binOps_as_in_source] at h
  exact h

/-- theorem 1 at the generated table: no hypothesis about the table is left -/
theorem prec_roundtrip_oal (e : Expr) (hok : e.Ok table) (rest : List Tok) (hs : Stops table 0 rest) :
    parseExprTop table (render table e 0 ++ rest) = some (e, rest) :=
  prec_roundtrip table table_wellformed e hok rest hs

/-! ## 3. corollaries: concrete parse equations over arbitrary operand subtrees -/

/-- `a ∘ b ∘' c` with `∘`, `∘'` of one left-associative level parses as `(a ∘ b) ∘' c` -/
theorem left_assoc (t : Tbl) (wf : t.WF) (a b c : Expr) (o o' : Tok) (lv : Nat)
    (ho : t.bin o.kind = some (lv, .left)) (ho' : t.bin o'.kind = some (lv, .left))
    (ha : a.Ok t) (hb : b.Ok t) (hc : c.Ok t) (rest : List Tok) (hs : Stops t 0 rest) :
    parseExprTop t (render t a lv ++ o :: (render t b (lv + 1) ++ o' :: (render t c (lv + 1) ++ rest))) =
      some (.bin (.bin a o b) o' c, rest) := by
  have hok : (Expr.bin (.bin a o b) o' c).Ok t := by simp [Expr.Ok, ho, ho', ha, hb, hc]
  have h := prec_roundtrip t wf _ hok rest hs
  rw [render_bin t _ o' c ho' (Nat.zero_le _), lmin, render_bin t a o b ho (Nat.le_refl lv)] at h
  simpa only [lmin, rmin, List.append_assoc, List.cons_append] using h

/-- `a ∘ b • c` with `•` of a higher level than `∘` parses as `a ∘ (b • c)`, and `a • b ∘ c` as `(a • b) ∘ c` -/
theorem tighter_binds (t : Tbl) (wf : t.WF) (a b c : Expr) (o o' : Tok) (lv lv' : Nat) (as as' : Assoc)
    (ho : t.bin o.kind = some (lv, as)) (ho' : t.bin o'.kind = some (lv', as')) (hlt : lv < lv')
    (ha : a.Ok t) (hb : b.Ok t) (hc : c.Ok t) (rest : List Tok) (hs : Stops t 0 rest) :
    parseExprTop t (render t a (lmin lv as) ++ o :: (render t b (lmin lv' as') ++ o' :: (render t c (rmin lv' as') ++ rest))) =
        some (.bin a o (.bin b o' c), rest) ∧
    parseExprTop t (render t a (lmin lv' as') ++ o' :: (render t b (rmin lv' as') ++ o :: (render t c (rmin lv as) ++ rest))) =
        some (.bin (.bin a o' b) o c, rest) := by
  constructor
  · have hok : (Expr.bin a o (.bin b o' c)).Ok t := by simp [Expr.Ok, ho, ho', ha, hb, hc]
    have h := prec_roundtrip t wf _ hok rest hs
    rw [render_bin t a o _ ho (Nat.zero_le _), render_bin t b o' c ho' (Nat.le_trans (rmin_le lv as) hlt)] at h
    simpa only [List.append_assoc, List.cons_append] using h
  · have hok : (Expr.bin (.bin a o' b) o c).Ok t := by simp [Expr.Ok, ho, ho', ha, hb, hc]
    have h := prec_roundtrip t wf _ hok rest hs
    rw [render_bin t _ o c ho (Nat.zero_le _), render_bin t a o' b ho' (Nat.le_trans (lmin_le lv as) hlt)] at h
    simpa only [List.append_assoc, List.cons_append] using h

/-- `u a ∘ b` parses as `(u a) ∘ b`: a unary operator binds tighter than every binary operator -/
theorem unary_binds_tightest (t : Tbl) (wf : t.WF) (a b : Expr) (u o : Tok) (lv : Nat) (as : Assoc)
    (hu : t.un u.kind = true) (ho : t.bin o.kind = some (lv, as))
    (ha : a.Ok t) (hb : b.Ok t) (rest : List Tok) (hs : Stops t 0 rest) :
    parseExprTop t (u :: (render t a t.ulevel ++ o :: (render t b (rmin lv as) ++ rest))) =
      some (.bin (.un u a) o b, rest) := by
  have hok : (Expr.bin (.un u a) o b).Ok t := by simp [Expr.Ok, ho, hu, ha, hb]
  have h := prec_roundtrip t wf _ hok rest hs
  rw [render_bin t _ o b ho (Nat.zero_le _), render_un t u a (Nat.le_trans (lmin_le lv as) (wf.binLt _ _ _ ho))] at h
  simpa only [List.append_assoc, List.cons_append] using h

/-- a parenthesised subexpression is ONE operand whatever it contains and whatever stands next to it:
    `x ∘ ( e )` parses as `∘(x, e)` and `( e ) ∘ y` as `∘(e, y)`, for every `e` — also when the parentheses
    are not required -/
theorem paren_kept_as_operand (t : Tbl) (wf : t.WF) (e x : Expr) (o : Tok) (lv : Nat) (as : Assoc)
    (ho : t.bin o.kind = some (lv, as)) (he : e.Ok t) (hx : x.Ok t) (rest : List Tok) (hs : Stops t 0 rest) :
    parseExprTop t (render t x (lmin lv as) ++ o :: (LP :: (render t e 0 ++ [RP]) ++ rest)) = some (.bin x o e, rest) ∧
    parseExprTop t (LP :: (render t e 0 ++ [RP]) ++ o :: (render t x (rmin lv as) ++ rest)) = some (.bin e o x, rest) := by
  rw [render_zero]
  exact ⟨parse_bin_texts wf ho hx he (operandText_render t x _) (Or.inr rfl) hs,
    parse_bin_texts wf ho he hx (Or.inr rfl) (operandText_render t x _) hs⟩

/-- the same under a unary operator: `∘ ( e )` parses as `∘(e)` for every `e` (also when the parentheses are not
    required), and `∘ e` without parentheses does whenever the level of `e` allows it -/
theorem paren_kept_as_operand_unary (t : Tbl) (wf : t.WF) (e : Expr) (o : Tok) (ho : t.un o.kind = true)
    (he : e.Ok t) (rest : List Tok) (hs : Stops t 0 rest) :
    parseExprTop t (o :: LP :: (render t e 0 ++ [RP]) ++ rest) = some (.un o e, rest) ∧
    (t.ulevel ≤ e.level t → parseExprTop t (o :: (render t e 0 ++ rest)) = some (.un o e, rest)) := by
  rw [render_zero]
  exact ⟨parse_un_text wf ho he (Or.inr rfl) hs, fun hl => parse_un_text wf ho he (Or.inl ⟨rfl, hl⟩) hs⟩

/-- at the parser: two operators that `OALParser.precedence` lists in ONE row declared `left` group to the left,
    `a ∘ b ∘' c` = `(a ∘ b) ∘' c`, for all operand trees — the hypotheses speak about the generated ROWS only -/
theorem same_row_groups_left_as_in_source (a b c : Expr) (o o' : Tok) (lv : Nat)
    (ho : o.kind ∈ binOps.map (·.1)) (ho' : o'.kind ∈ binOps.map (·.1))
    (hr : rowOf precRows o.kind.name 1 = some (lv, .left)) (hr' : rowOf precRows o'.kind.name 1 = some (lv, .left))
    (ha : a.Ok table) (hb : b.Ok table) (hc : c.Ok table) (rest : List Tok) (hs : Stops table 0 rest) :
    parseExprTop table (render table a lv ++ o :: (render table b (lv + 1) ++ o' :: (render table c (lv + 1) ++ rest))) =
      some (.bin (.bin a o b) o' c, rest) := by
  have h1 := (prec_table_as_in_source o.kind).1
  have h2 := (prec_table_as_in_source o'.kind).1
  rw [if_pos ho, hr] at h1
  rw [if_pos ho', hr'] at h2
  exact left_assoc table table_wellformed a b c o o' lv h1 h2 ha hb hc rest hs

/-- at the parser: an operator of a LATER row of `OALParser.precedence` binds tighter than one of an earlier row,
    on either side: `a ∘ b • c` = `a ∘ (b • c)` and `a • b ∘ c` = `(a • b) ∘ c`, for all operand trees -/
theorem later_row_binds_tighter_as_in_source (a b c : Expr) (o o' : Tok) (lv lv' : Nat) (as as' : Assoc)
    (ho : o.kind ∈ binOps.map (·.1)) (ho' : o'.kind ∈ binOps.map (·.1))
    (hr : rowOf precRows o.kind.name 1 = some (lv, as)) (hr' : rowOf precRows o'.kind.name 1 = some (lv', as'))
    (hlt : lv < lv') (ha : a.Ok table) (hb : b.Ok table) (hc : c.Ok table) (rest : List Tok)
    (hs : Stops table 0 rest) :
    parseExprTop table (render table a (lmin lv as) ++ o :: (render table b (lmin lv' as') ++ o' ::
        (render table c (rmin lv' as') ++ rest))) = some (.bin a o (.bin b o' c), rest) ∧
    parseExprTop table (render table a (lmin lv' as') ++ o' :: (render table b (rmin lv' as') ++ o ::
        (render table c (rmin lv as) ++ rest))) = some (.bin (.bin a o' b) o c, rest) := by
  have h1 := (prec_table_as_in_source o.kind).1
  have h2 := (prec_table_as_in_source o'.kind).1
  rw [if_pos ho, hr] at h1
  rw [if_pos ho', hr'] at h2
  exact tighter_binds table table_wellformed a b c o o' lv lv' as as' h1 h2 hlt ha hb hc rest hs

/-! ## 4. the fully parenthesised rendering (every operator node in its own parentheses) -/

theorem paren_roundtrip (t : Tbl) (wf : t.WF) (e : Expr) (hok : e.Ok t) (rest : List Tok) (hs : Stops t 0 rest) :
    parseExprTop t (renderFull e ++ rest) = some (e, rest) :=
  parseExprTop_of_fuel t (p3f_of_p1 ((fullOps wf).good wf e hok).a 0 rest hs _ (Nat.le_refl _))

theorem paren_roundtrip_fuel (t : Tbl) (wf : t.WF) (e : Expr) (hok : e.Ok t) (need : Nat) (rest : List Tok)
    (hs : Stops t need rest) (f : Nat) (hf : cost e + 1 ≤ f) :
    parseExpr t f need (renderFull e ++ rest) = some (e, rest) :=
  p3f_of_p1 ((fullOps wf).good wf e hok).a need rest hs f hf

theorem paren_roundtrip_oal (e : Expr) (hok : e.Ok table) (rest : List Tok) (hs : Stops table 0 rest) :
    parseExprTop table (renderFull e ++ rest) = some (e, rest) :=
  paren_roundtrip table table_wellformed e hok rest hs

/-! ## 5. statements: every production, every choice of the optional words -/

/-- For every statement tree (`Block`: the statements of an action body, nested blocks included) over ALL
    statement productions of the grammar — control flow, assignment with or without `assign`, create / delete,
    relate / unrelate with phrase and `using`, the select forms with navigation chains and `where`, invocation
    statements with the bridge / transform / send forms, event generation and creation — and every choice of
    the optional words recorded in the tree (assign, loop, then, `instances of`, class / assigner, `*`, empty
    event data parentheses, `transform`), printing and parsing gives back exactly the tree. -/
theorem stmt_roundtrip (t : Tbl) (wf : t.WF) (swf : t.StmtWF) (b : Block) (hok : b.Ok t) :
    parseStmts t (printStmts t b) = some b :=
  stmts_roundtrip wf swf b hok

/-- the same for a block that is followed by a block-ending token (nested position), with explicit fuel -/
theorem stmt_roundtrip_fuel (t : Tbl) (wf : t.WF) (swf : t.StmtWF) (b : Block) (hok : b.Ok t) (rest : List Tok)
    (hend : BlockEnd rest) (f : Nat) (hf : costB b ≤ f) :
    parseBlock t f (printBlock t b ++ rest) = some (b, rest) :=
  block_good wf swf b hok rest hend f hf

/-- on the generated table the tokens that delimit expressions inside statements are not operators -/
theorem table_stmt_wellformed : table.StmtWF :=
  ⟨forall_kind (by decide +kernel), by decide⟩

theorem stmt_roundtrip_oal (b : Block) (hok : b.Ok table) : parseStmts table (printStmts table b) = some b :=
  stmt_roundtrip table table_wellformed table_stmt_wellformed b hok

/-! ## 6. the grammar the model implements is the grammar of oal.py -/

/-- the statement productions read from the `p_*` docstrings and bodies of bridgepoint/oal.py (alternatives,
    symbols, `%prec`, which `p[i]` feeds which field of which node class) are exactly the list the statement
    parser model implements (`stmtGrammar`, PyxModel/Oal/Stmt.lean) -/
theorem grammar_shape : stmtProds.map Prod.sem = stmtGrammar := by
  rfl

/-- the same for the expression sub-grammar (`exprGrammar`, PyxModel/Oal/Expr.lean) -/
theorem expr_grammar_shape : exprProds.map Prod.sem = exprGrammar := by
  rfl

/-- the two name classes of the model are exactly the grammar's: `variable_name` / `rel_id` accept ID and the
    alternatives of kw_as_identifier_1; `identifier` accepts those and the alternatives of kw_as_identifier_2..4
    (the lists are read from oal.py; `grammar_shape` ties `limited_identifier` / `identifier` / `variable_name` /
    `rel_id` / `instance_name` / `phrase` to these classes) -/
theorem name_classes :
    (∀ k : Kind, k.isVarName = true ↔ (k = .ID ∨ k ∈ kwIdent1)) ∧
    (∀ k : Kind, k.isIdent = true ↔ (k.isVarName = true ∨ k ∈ kwIdent2 ++ kwIdent3 ++ kwIdent4)) :=
  ⟨forall_kind (by decide +kernel), forall_kind (by decide +kernel)⟩

/-! ## 7. the fuel of the model parsers is never what makes them reject (ARBITRARY token lists) -/

/-- a result the expression parser gives with ANY amount of fuel is the result with EVERY amount ≥ 2·|ts| + 2
    (every recursive call consumes a token or is followed by one that does), for any table -/
theorem expr_fuel_independent (t : Tbl) (f m : Nat) (ts : List Tok) (r : Expr × List Tok)
    (h : parseExpr t f m ts = some r) (g : Nat) (hg : 2 * ts.length + 2 ≤ g) : parseExpr t g m ts = some r :=
  parseExpr_fuel_indep t h g hg

/-- hence: what the fuel-free `parseExprTop` rejects, every amount of fuel rejects — a rejection by the model is
    never an exhaustion of the fuel -/
theorem expr_reject_not_exhaustion (t : Tbl) (ts : List Tok) (h : parseExprTop t ts = none) (f : Nat) :
    parseExpr t f 0 ts = none :=
  parseExprTop_complete t h f

/-- the same for statements: blocks, nested blocks, elif lists, else clauses, navigation chains, argument lists -/
theorem stmt_fuel_independent (t : Tbl) (f : Nat) (ts : List Tok) (r : Block × List Tok)
    (h : parseBlock t f ts = some r) (g : Nat) (hg : 2 * ts.length + 2 ≤ g) : parseBlock t g ts = some r :=
  parseBlock_fuel_indep t h g hg

theorem stmt_reject_not_exhaustion (t : Tbl) (ts : List Tok) (h : parseStmts t ts = none) (f : Nat) (b : Block) :
    parseBlock t f ts ≠ some (b, []) :=
  parseStmts_complete t h f b

/-! ## 8. `render` writes no parenthesis that could be left out -/

/-- whatever token list the parser reads the tree `e` from — not only printer output — contains at least as many
    opening parentheses as `render t e m` (plus those of the unread rest), for any well-formed table -/
theorem render_minimal (t : Tbl) (wf : t.WF) (f m : Nat) (ts : List Tok) (e : Expr) (rest : List Tok)
    (h : parseExpr t f m ts = some (e, rest)) (hm : m ≤ t.ulevel) : lp (render t e m) + lp rest ≤ lp ts :=
  Pyx.Oal.render_minimal wf h hm

/-- erase any one `(` of the rendering and, with it, any other tokens (its `)`, say): the remaining tokens are
    rejected or parse to a DIFFERENT tree, with any fuel and any unread rest -/
theorem render_erase_paren (t : Tbl) (wf : t.WF) (e : Expr) (i : Nat) (a : Tok) (hi : (render t e 0)[i]? = some a)
    (ha : a.kind = .LPAREN) (ts : List Tok) (hsub : ts.Sublist ((render t e 0).eraseIdx i)) (f : Nat)
    (rest : List Tok) : parseExpr t f 0 ts ≠ some (e, rest) :=
  Pyx.Oal.render_erase_paren wf e i a hi ha ts hsub f rest

/-- `render` parenthesises an operand exactly when its level is below the level its position requires -/
theorem render_parens_iff (t : Tbl) (e : Expr) (need : Nat) :
    (render t e need = LP :: (renderRaw t e ++ [RP]) ∧ e.level t < need) ∨
    (render t e need = renderRaw t e ∧ need ≤ e.level t) :=
  Pyx.Oal.render_parens_iff t e need

/-! ## 9. TEXT → TREE: the character-level lexer model composed with the token-level parser model

  `LexemesOk b` (decidable): the token stream the printer emits for `b` splits into lexical units (one per token,
  a namespace fused with its `::`) each of which is a lexeme the lexer returns as exactly that token
  (Boolean checks, proved sound for `WellWord` / `WellNumber` / `WellFraction` / `WellString` / `WellTicked` /
  `WellEnd` / `WellNs` / the literal rules).  `PairOk` is the layout condition of `layout_irrelevant_tight`:
  between two units ANY layout string (blanks, tabs, CR, LF, block and line comments), or nothing where
  `tightOk` allows. -/

open Pyx.OalText (LexemesOk unitsOf withSeps) in
/-- for every `Ok` tree whose lexemes are lexable and every accepted layout: lex the text, convert the tokens,
    parse — the tree comes back -/
theorem text_roundtrip (b : Block) (hok : b.Ok table) (us : List Pyx.OalLex.LexUnit)
    (hl : unitsOf (printStmts table b) = some us) (sep0 : List Char) (seps : List (List Char))
    (hlen : seps.length = us.length) (h0 : Pyx.OalLex.Layout0 sep0) (h : Pyx.OalLex.PairOk (withSeps us seps)) :
    parseStmts table (Pyx.OalLex.toParserToks (Pyx.OalLex.lex (sep0 ++ Pyx.OalLex.renderT (withSeps us seps)))) =
      some b :=
  Pyx.OalText.text_roundtrip_of b us hl sep0 seps hlen h0 h (stmt_roundtrip_oal b hok)

open Pyx.OalText (LexemesOk unitsOf) in
/-- the domain of `text_roundtrip` is not empty for any `LexemesOk` tree: one blank after every lexeme is an
    accepted layout, so that text parses back to the tree -/
theorem text_roundtrip_blanks (b : Block) (hok : b.Ok table) (hlex : LexemesOk b) :
    ∃ us, unitsOf (printStmts table b) = some us ∧
      parseStmts table (Pyx.OalLex.toParserToks (Pyx.OalLex.lex (Pyx.OalLex.renderT (us.map (fun u => (u, [' '])))))) =
        some b := by
  obtain ⟨us, hus⟩ := Option.isSome_iff_exists.mp hlex
  refine ⟨us, hus, ?_⟩
  have hw := (Pyx.OalText.unitsOf_sound _ us hus).2
  have := text_roundtrip b hok us hus [] (us.map fun _ => [' ']) (by simp) .nil
    (by rw [Pyx.OalText.withSeps_blanks]; exact Pyx.OalText.pairOk_blanks us hw)
  rw [Pyx.OalText.withSeps_blanks] at this
  exact this

/-- the function the driver runs on the harness's texts (`parseText`, PyxModel/Oal/Text.lean: lexer model, conversion by
    the `Kind.name` table, parser model) IS the composition `text_roundtrip` is stated about -/
theorem driver_text_parser (text : List Char) :
    Pyx.OalText.parseText text = parseStmts table (Pyx.OalLex.toParserToks (Pyx.OalLex.lex text)) := by
  unfold Pyx.OalText.parseText Pyx.OalLex.toParserToks
  rw [List.map_congr_left (fun t _ => Pyx.OalText.ofLexTok_eq t)]

open Pyx.OalText (inDomain unitsOf unitSeps withSeps ofLexTok) in
/-- the domain test the driver reports for every generated text (`inDomain`: tokens, layout before the first token,
    gaps after the tokens) implies the hypotheses of the layout theorem — on such a text the lexer model followed by
    the conversion returns exactly the written tokens -/
theorem driver_domain_sound (ts : List Tok) (sep0 : List Char) (gaps : List (List Char))
    (h : inDomain ts sep0 gaps = (true, true)) :
    ∃ us seps, unitsOf ts = some us ∧ unitSeps us gaps = some seps ∧
      (Pyx.OalLex.lex (sep0 ++ Pyx.OalLex.renderT (withSeps us seps))).map ofLexTok = ts := by
  unfold inDomain at h
  cases hu : unitsOf ts with
  | none => simp [hu] at h
  | some us =>
    simp only [hu] at h
    cases hs : unitSeps us gaps with
    | none => simp [hs] at h
    | some seps =>
      simp only [hs, Prod.mk.injEq, true_and, Bool.and_eq_true] at h
      refine ⟨us, seps, rfl, hs, ?_⟩
      rw [List.map_congr_left (fun t _ => Pyx.OalText.ofLexTok_eq t), ← Pyx.OalLex.toParserToks,
        Pyx.OalText.lex_units sep0 _ (Pyx.OalText.isLayout_sound sep0 h.1) (Pyx.OalText.pairOkB_sound _ h.2),
        Pyx.OalText.unitToks_withSeps us seps (Pyx.OalText.unitSeps_length us gaps seps hs)]
      exact (Pyx.OalText.unitsOf_sound ts us hu).1

/-! ## non-vacuity: concrete instances of the hypotheses, and what the theorems then say -/

section examples

private def nm (s : String) : Tok := tk .ID s
private def va : Expr := .var (nm "a")
private def vb : Expr := .var (nm "b")
private def n3 : Expr := .int "3"
private def plus : Tok := ⟨.PLUS, "+"⟩
private def minus : Tok := ⟨.MINUS, "-"⟩
private def times : Tok := ⟨.TIMES, "*"⟩
private def lt : Tok := ⟨.LESSTHAN, "<"⟩
private def eqeq : Tok := ⟨.DOUBLEEQUAL, "=="⟩
private def knot : Tok := ⟨.NOT, "not"⟩
private def semi : Tok := ⟨.SEMICOLON, ";"⟩

/-- `(a + b) * 3` -/
private def e1 : Expr := .bin (.bin va plus vb) times n3
/-- `a < (b < 3)` -/
private def e2 : Expr := .bin va lt (.bin vb lt n3)
/-- `x.f[i + 1].g + ::h(p: not a, q: NS::c) * self.op()` -/
private def e3 : Expr :=
  .bin (.field (.index (.field (.var (nm "x")) (nm "f")) (.bin (.var (nm "i")) plus (.int "1"))) (nm "g")) plus
    (.bin (.fcall (nm "h") (.cons (nm "p") (.un knot va) (.cons (nm "q") (.enumc "NS" (nm "c")) .nil))) times
      (.ocall .self (nm "op") .nil))

-- prec_roundtrip / prec_roundtrip_oal: hypotheses are satisfiable, the required parentheses are written …
private theorem e1_ok : e1.Ok table := by simp [e1, Expr.Ok, va, vb, n3, plus, times, nm, Kind.isVarName]; decide
private theorem e3_ok : e3.Ok table := by
  simp [e3, Expr.Ok, Params.Ok, va, plus, times, knot, Expr.isChain, Expr.isIndexable, Expr.isStruct, nm,
    Kind.isVarName, Kind.isIdent]
  decide
private theorem stops_semi : Stops table 0 [semi] := stops_afterExpr table_stmt_wellformed 0 semi [] rfl
private theorem va_ok : va.Ok table := by simp [va, Expr.Ok, nm, Kind.isVarName]
private theorem vb_ok : vb.Ok table := by simp [vb, Expr.Ok, nm, Kind.isVarName]
private theorem n3_ok : n3.Ok table := by simp [n3, Expr.Ok]
private theorem e2_ok : e2.Ok table := by simp [e2, Expr.Ok, va, vb, n3, lt, nm, Kind.isVarName]; decide
-- left_assoc: `(a + b) * 3 - b + 3` with the compound left operand `e1`;  tighter_binds: `a + (a + b) * 3 * 3`;
-- unary_binds_tightest: `not ((a + b) * 3) == b`;  paren_kept_as_operand: `a * (a < (b < 3))` and `(a < (b < 3)) * a`
example := left_assoc table table_wellformed e1 vb n3 minus plus 4 (by decide) (by decide) e1_ok vb_ok n3_ok [semi] stops_semi
example := tighter_binds table table_wellformed va e1 n3 plus times 4 5 .left .left (by decide) (by decide) (by decide)
  va_ok e1_ok n3_ok [semi] stops_semi
example := unary_binds_tightest table table_wellformed e1 vb knot eqeq 3 .nonassoc (by decide) (by decide) e1_ok vb_ok
  [semi] stops_semi
example := paren_kept_as_operand table table_wellformed e2 va times 5 .left (by decide) e2_ok va_ok [semi] stops_semi
example := prec_roundtrip_fuel table table_wellformed e3 e3_ok 0 [semi] stops_semi 1000 (by decide)
example : parseExprTop table (render table e3 0 ++ [semi]) = some (e3, [semi]) :=
  prec_roundtrip table table_wellformed e3 e3_ok [semi] stops_semi
example : parseExprTop table (renderFull e1 ++ [semi]) = some (e1, [semi]) :=
  paren_roundtrip table table_wellformed e1 e1_ok [semi] stops_semi
example : parseExprTop table (knot :: LP :: (render table e1 0 ++ [RP]) ++ [semi]) = some (.un knot e1, [semi]) :=
  (paren_kept_as_operand_unary table table_wellformed e1 knot (by decide) e1_ok [semi] stops_semi).1
example : lp (render table e3 0) + lp [semi] ≤ lp (renderFull e3 ++ [semi]) :=
  render_minimal table table_wellformed _ 0 _ e3 [semi] (paren_roundtrip table table_wellformed e3 e3_ok [semi] stops_semi)
    (Nat.zero_le _)
example : parseExpr table 1000 0 (render table e3 0 ++ [semi]) = some (e3, [semi]) :=
  expr_fuel_independent table _ 0 _ _ (prec_roundtrip table table_wellformed e3 e3_ok [semi] stops_semi) 1000 (by decide)
example : render table e1 0 = [LP, tk .ID "a", plus, tk .ID "b", RP, times, tk .NUMBER "3"] := by decide
example : parseExprTop table (render table e1 0 ++ [semi]) = some (e1, [semi]) :=
  prec_roundtrip table table_wellformed e1 e1_ok [semi] stops_semi
example : parseExprTop table (render table e3 0 ++ [semi]) = some (e3, [semi]) :=
  prec_roundtrip table table_wellformed e3 e3_ok [semi] stops_semi
-- … a comparison nested in a comparison gets them, and without them the text is no expression of the language
example : render table e2 0 = [tk .ID "a", lt, LP, tk .ID "b", lt, tk .NUMBER "3", RP] := by decide
example : parseExprTop table (render table e2 0 ++ [semi]) = some (e2, [semi]) :=
  prec_roundtrip table table_wellformed e2 e2_ok [semi] stops_semi
example : parseExprTop table [tk .ID "a", lt, tk .ID "b", lt, tk .NUMBER "3", semi] = none := by rfl
-- prec_roundtrip for a table that is NOT the generated one (right-associative `+` above `*`): still well-formed
example : (Tbl.ofLists [(.PLUS, 2, .right), (.TIMES, 1, .left)] [.MINUS] 3).WF := wf_ofLists (by decide)
-- a table that violates the hypotheses (a binary level not below the unary level) is rejected by the check
example : wfCheck [(.PLUS, 7, .left)] [.MINUS] 7 = false := by decide

-- left_assoc / tighter_binds / unary_binds_tightest / paren_kept_as_operand: hypotheses hold of the real operators
example : table.bin plus.kind = some (4, .left) ∧ table.bin minus.kind = some (4, .left) := by decide
example : parseExprTop table [tk .ID "a", minus, tk .ID "b", plus, tk .NUMBER "3", semi] =
    some (.bin (.bin va minus vb) plus n3, [semi]) := by rfl
example : table.bin times.kind = some (5, .left) ∧ 4 < 5 := by decide
example : parseExprTop table [tk .ID "a", plus, tk .ID "b", times, tk .NUMBER "3", semi] =
    some (.bin va plus (.bin vb times n3), [semi]) := by rfl
example : table.un knot.kind = true ∧ table.bin eqeq.kind = some (3, .nonassoc) := by decide
example : parseExprTop table [knot, tk .ID "a", eqeq, tk .ID "b", semi] =
    some (.bin (.un knot va) eqeq vb, [semi]) := by rfl
example : parseExprTop table [tk .ID "a", times, LP, tk .ID "b", RP, semi] = some (.bin va times vb, [semi]) := by rfl

-- prec_table_as_in_source / same_row_groups_left_as_in_source / later_row_binds_tighter_as_in_source: the row
-- hypotheses hold of `-` `+` (row 4, left) and of `+` (row 4) / `*` (row 5); a non-operator token has no level
example : rowOf precRows minus.kind.name 1 = some (4, .left) ∧ rowOf precRows times.kind.name 1 = some (5, .left) ∧
    rowOf precRows lt.kind.name 1 = some (3, .nonassoc) ∧ rowOf precRows semi.kind.name 1 = none := by decide +kernel
example := same_row_groups_left_as_in_source e1 vb n3 minus plus 4 (by decide) (by decide) (by decide +kernel)
  (by decide +kernel) e1_ok vb_ok n3_ok [semi] stops_semi
example := later_row_binds_tighter_as_in_source va e1 n3 plus times 4 5 .left .left (by decide) (by decide)
  (by decide +kernel) (by decide +kernel) (by decide) va_ok e1_ok n3_ok [semi] stops_semi
example : table.bin semi.kind = none := by rw [(prec_table_as_in_source _).1]; decide
-- a different precedence tuple gives a different table (the interpretation is not constant in the rows)
example : precInterp [(.left, ["TIMES"]), (.right, ["PLUS"])] [.PLUS, .TIMES, .MOD] =
    [(.PLUS, 2, .right), (.TIMES, 1, .left)] := by decide +kernel

example : renderFull e1 = [LP, LP, tk .ID "a", plus, tk .ID "b", RP, times, tk .NUMBER "3", RP] := by decide
example : parseExprTop table (renderFull e1 ++ [semi]) = some (e1, [semi]) :=
  paren_roundtrip table table_wellformed e1 e1_ok [semi] stops_semi

/-- `if a < 3 x = 1; elif not a then break; else select many ys related by self->K[R1.'p'] where selected.n == 3; end if;
     while a loop generate E1:'go'(v: 3) to K assigner; end while; return;` -/
private def prog : Block :=
  .cons (.if_ (.bin va lt n3) false (.cons (.assign false (.var (nm "x")) (.int "1")) .nil)
      (.cons (.un knot va) true (.cons .brk .nil) .nil)
      (.some (.cons (.selRel ⟨.many, "many"⟩ (nm "ys") .self [⟨nm "K", nm "R1", some (.ticked "'p'")⟩]
        (some (.bin (.field .selected (nm "n")) eqeq n3))) .nil)))
  (.cons (.while_ va true (.cons (.gen ⟨nm "E1", false, some (.ticked "'go'"), true, .cons (nm "v") n3 .nil⟩
      (.cls (nm "K") true)) .nil))
  (.cons (.ret none) .nil))

private theorem prog_ok : prog.Ok table := by
  simp [prog, Block.Ok, Stmt.Ok, Elifs.Ok, Else.Ok, Expr.Ok, Params.Ok, EvSpec.Ok, EvTarget.Ok, NavStep.Ok, Phrase.Ok,
    optPhraseOk, optExprOk, va, n3, lt, knot, eqeq, Expr.isVarAccess, Expr.isHook, Expr.isSelf, Expr.isChain, nm,
    Kind.isVarName, Kind.isIdent]
  decide
example : parseStmts table (printStmts table prog) = some prog := stmt_roundtrip_oal prog prog_ok
private theorem prog_parses :
    parseBlock table (fuelForS (printStmts table prog)) (printStmts table prog) = some (prog, []) := by rfl
example : parseBlock table 5000 (printStmts table prog) = some (prog, []) :=
  stmt_fuel_independent table _ _ _ prog_parses 5000 (by decide)
example : (printStmts table prog).length = 57 := by decide
example : parseStmts table (printStmts table prog) = some prog := by rw [parseStmts, prog_parses]
example : BlockEnd [tk .END_IF "end if", semi] := blockEnd_cons _ _ rfl

/-- keywords as names, where the grammar allows them:
    `select = to.from[in] + ::class(and: 1);  select any any from instances;  relate to to from across across.using;
     generate self:event to stop class;` -/
private def kwprog : Block :=
  .cons (.assign false (.var (tk .SELECT "select"))
      (.bin (.index (.field (.var (tk .TO "to")) (tk .FROM "from")) (.var (tk .IN "in"))) plus
        (.fcall (tk .CLASS "class") (.cons (tk .AND "and") (.int "1") .nil))))
  (.cons (.selFrom ⟨.any, "any"⟩ (tk .ANY "any") false (tk .INSTANCES "instances") none)
  (.cons (.rel false (.var (tk .TO "to")) (.var (tk .FROM "from")) (tk .ACROSS "across")
      (some (.ident (tk .USING "using"))) none)
  (.cons (.gen ⟨tk .SELF "self", false, some (.ident (tk .EVENT "event")), false, .nil⟩ (.cls (tk .STOP "stop") false))
  .nil)))

private theorem kwprog_ok : kwprog.Ok table := by
  simp [kwprog, Block.Ok, Stmt.Ok, Expr.Ok, Params.Ok, EvSpec.Ok, EvTarget.Ok, InstName.Ok, Phrase.Ok, optPhraseOk,
    optInstOk, optExprOk, plus, Expr.isVarAccess, Expr.isChain, Expr.isIndexable, Kind.isVarName, Kind.isIdent]
  decide
example : kwprog.Ok table := kwprog_ok
example : (printStmts table kwprog).map (·.lex) =
    ["select", "=", "to", ".", "from", "[", "in", "]", "+", "::", "class", "(", "and", ":", "1", ")", ";",
     "select", "any", "any", "from", "instances", ";",
     "relate", "to", "to", "from", "across", "across", ".", "using", ";",
     "generate", "self", ":", "event", "to", "stop", "class", ";"] := by decide
example : parseStmts table (printStmts table kwprog) = some kwprog := stmt_roundtrip_oal kwprog kwprog_ok
-- the same keyword in keyword role: `select any x from instances of K;` is a select, `select = 1;` an assignment
example : parseStmts table [tk .SELECT "select", tk .EQUAL "=", tk .NUMBER "1", semi] =
    some (.cons (.assign false (.var (tk .SELECT "select")) (.int "1")) .nil) := by rfl
-- a keyword that the grammar does not allow as a variable name is rejected: `x = of;`, `x = loop;`
example : parseStmts table [nm "x", tk .EQUAL "=", tk .OF "of", semi] = none := by rfl
example : parseStmts table [nm "x", tk .EQUAL "=", tk .LOOP "loop", semi] = none := by rfl

-- paren_kept_as_operand_unary: `not ( a )`
example : parseExprTop table [knot, LP, tk .ID "a", RP, semi] = some (.un knot va, [semi]) := by rfl

-- expr_reject_not_exhaustion / stmt_reject_not_exhaustion: `a < b < 3` is rejected with every fuel; too little
-- fuel does make the parser give up (so the statements are not about a parser that ignores its fuel)
example : ∀ f, parseExpr table f 0 [tk .ID "a", lt, tk .ID "b", lt, tk .NUMBER "3", semi] = none :=
  expr_reject_not_exhaustion table _ (by rfl)
example : parseExpr table 3 0 [tk .ID "a", plus, tk .ID "b", semi] = none := by rfl
example : parseExpr table 10 0 [tk .ID "a", plus, tk .ID "b", semi] = some (.bin va plus vb, [semi]) := by rfl
example : ∀ f b, parseBlock table f [nm "x", tk .EQUAL "=", tk .OF "of", semi] ≠ some (b, []) :=
  fun f b => stmt_reject_not_exhaustion table _ (by rfl) f b

-- render_minimal / render_erase_paren: `(a + b) * 3` has one `(`; without the pair the tokens are `a + b * 3`,
-- which is a different tree
example : lp (render table e1 0) = 1 := by decide
example : ∀ f rest, parseExpr table f 0 [tk .ID "a", plus, tk .ID "b", times, tk .NUMBER "3"] ≠ some (e1, rest) :=
  fun f rest => render_erase_paren table table_wellformed e1 0 LP (by decide) rfl _ (by decide) f rest
example : parseExprTop table [tk .ID "a", plus, tk .ID "b", times, tk .NUMBER "3"] =
    some (.bin va plus (.bin vb times n3), []) := by rfl

-- text_roundtrip: the hypotheses hold of the programs above, and of a text without a single blank
private theorem prog_lexemes : Pyx.OalText.LexemesOk prog := (Pyx.OalText.lexemesOk_iff prog).2 (by decide +kernel)
example : Pyx.OalText.LexemesOk prog := prog_lexemes
example : ∃ us, Pyx.OalText.unitsOf (printStmts table prog) = some us ∧
    parseStmts table (Pyx.OalLex.toParserToks (Pyx.OalLex.lex (Pyx.OalLex.renderT (us.map (fun u => (u, [' '])))))) =
      some prog := text_roundtrip_blanks prog prog_ok prog_lexemes
example : Pyx.OalText.LexemesOk kwprog := (Pyx.OalText.lexemesOk_iff kwprog).2 (by decide +kernel)
/-- `x=a+b*(c-1);` -/
private def tprog : Block :=
  .cons (.assign false (.var (nm "x")) (.bin va plus (.bin vb times (.bin (.var (nm "c")) minus (.int "1"))))) .nil
private def tunits : List Pyx.OalLex.LexUnit := (Pyx.OalText.unitsOfC (printStmts table tprog)).getD []
private theorem tprog_text :
    parseStmts table (Pyx.OalLex.toParserToks (Pyx.OalLex.lex "x=a+b*(c-1);".toList)) = some tprog := by
  have hok : tprog.Ok table := by
    simp [tprog, Block.Ok, Stmt.Ok, Expr.Ok, va, vb, plus, times, minus, Expr.isVarAccess, nm, Kind.isVarName]
    decide
  -- one evaluation, so that `tunits` is computed once
  have h : (Pyx.OalText.unitsOfC (printStmts table tprog)).isSome = true ∧
      Pyx.OalText.pairOkB (Pyx.OalText.withSeps tunits (tunits.map fun _ => [])) = true ∧
      ([] : List Char) ++ Pyx.OalLex.renderT (Pyx.OalText.withSeps tunits (tunits.map fun _ => [])) =
        "x=a+b*(c-1);".toList := by decide +kernel
  have hus : Pyx.OalText.unitsOf (printStmts table tprog) = some tunits := by
    rw [Pyx.OalText.unitsOf_eq]
    unfold tunits
    cases hx : Pyx.OalText.unitsOfC (printStmts table tprog) with
    | none => rw [hx] at h; cases h.1
    | some v => rfl
  have := text_roundtrip tprog hok tunits hus [] (tunits.map fun _ => []) (by simp) .nil
    (Pyx.OalText.pairOkB_sound _ h.2.1)
  rw [h.2.2] at this
  exact this
-- driver_text_parser applied: what the driver computes on `x=a+b*(c-1);` is the tree
example : Pyx.OalText.parseText "x=a+b*(c-1);".toList = some tprog := by rw [driver_text_parser]; exact tprog_text
-- driver_domain_sound: `x = a/*c*/+b ;// d\n` is in the domain (comment glued to both neighbours, tight `+`)
private theorem dom_example : Pyx.OalText.inDomain [nm "x", tk .EQUAL "=", nm "a", plus, nm "b", semi] []
    [" ".toList, " ".toList, "/*c*/".toList, [], " ".toList, "// d\n".toList] = (true, true) := by
  rw [Pyx.OalText.inDomain_eq]
  decide +kernel
example := driver_domain_sound _ _ _ dom_example
-- `a/` glued to the comment `//c` is not (a `/` token directly followed by a comment start would be swallowed), nor is `1x` (number glued to a word)
example : (Pyx.OalText.inDomain [nm "a", tk .DIV "/", nm "b"] [] [[], "//c\n".toList, []]).2 = false := by
  rw [Pyx.OalText.inDomain_eq]
  decide +kernel
example : (Pyx.OalText.inDomain [tk .NUMBER "1", nm "x"] [] [[], []]).2 = false := by
  rw [Pyx.OalText.inDomain_eq]
  decide +kernel
-- an identifier spelled `end` is outside `LexemesOk` (the lexer reads `end if` as ONE token)
example : ¬ Pyx.OalText.LexemesOk (.cons (.assign false (.var (nm "end")) (.int "1")) .nil) := by
  rw [Pyx.OalText.lexemesOk_iff]
  decide +kernel

-- grammar_shape: the compared lists are not empty
set_option maxRecDepth 4000 in
example : stmtGrammar.length = 153 ∧ exprGrammar.length = 66 := by decide

end examples


/-! ## layout at CHARACTER level (model: the character-level lexer of C13/C08, PyxModel/Oal/Lex.lean, over the
    GENERATED rule table).  Lexemes written one after the other with ANY layout between them — non-empty
    mixes of blank, tab, CR, LF, block comments and `//` comments; the layout before the first and after the last
    lexeme may be empty — are returned by the lexer exactly, in order, with their kinds: no token is split,
    merged or swallowed.  The composition with `stmt_roundtrip` (token level) — the statement's "with any
    whitespace, line breaks, comments … parses back to exactly that tree" for the modelled lexer and parser — is
    `text_roundtrip` (section 9), stated over the tight variant below.
    Side conditions are lexical facts of the language: the bare word `end` is not a lexeme (`end`+space+`if` is one
    token), a `/` token is not directly followed by a separator starting with `/`, a namespace and its `::`
    are one fused unit.  The tight variant (no separator where the next character cannot extend the token) is
    `layout_irrelevant_tight` below. -/

theorem layout_irrelevant (sep0 : List Char) (items : List (List Char × List Char × List Char))
    (h0 : Pyx.OalLex.Layout0 sep0) (h : Pyx.OalLex.ItemsOk items) :
    (Pyx.OalLex.lex (sep0 ++ Pyx.OalLex.render items)).map (fun t => (t.kind, t.lexeme)) =
      items.map (fun i => (i.1, i.2.1)) :=
  Pyx.OalLex.layout_irrelevant sep0 items h0 h

theorem layout_irrelevant_units (sep0 : List Char) (units : List (Pyx.OalLex.Item × List Char))
    (h0 : Pyx.OalLex.Layout0 sep0) (h : Pyx.OalLex.UnitsOk units) :
    (Pyx.OalLex.lex (sep0 ++ Pyx.OalLex.renderUnits units)).map (fun t => (t.kind, t.lexeme)) =
      (units.map (fun u => u.1.toks)).flatten :=
  Pyx.OalLex.layout_irrelevant_units sep0 units h0 h

/-- TIGHT layout (Proofs/OalTight.lean): no separator is needed between two lexical units whose
    adjacency the decidable `tightOk` accepts (`PairOk`), resp. under the semantic side condition `SemOk` -/
theorem layout_irrelevant_tight (sep0 : List Char) (units : List (Pyx.OalLex.LexUnit × List Char))
    (h0 : Pyx.OalLex.Layout0 sep0) (h : Pyx.OalLex.PairOk units) :
    (Pyx.OalLex.lex (sep0 ++ Pyx.OalLex.renderT units)).map (fun t => (t.kind, t.lexeme)) =
      (units.map (fun p => p.1.toks)).flatten :=
  Pyx.OalLex.layout_irrelevant_tight sep0 units h0 h

theorem layout_irrelevant_sem (sep0 : List Char) (units : List (Pyx.OalLex.LexUnit × List Char))
    (h0 : Pyx.OalLex.Layout0 sep0) (h : Pyx.OalLex.SemOk units) :
    (Pyx.OalLex.lex (sep0 ++ Pyx.OalLex.renderT units)).map (fun t => (t.kind, t.lexeme)) =
      (units.map (fun p => p.1.toks)).flatten :=
  Pyx.OalLex.layout_irrelevant_sem sep0 units h0 h

-- layout_irrelevant_tight applied to `x.y[1]=f(p:1)+2;` (`sampleTight`, Proofs/OalText.lean: no separator at all)
example := layout_irrelevant_tight [] Pyx.OalLex.sampleTight .nil Pyx.OalLex.sampleTight_ok
example := layout_irrelevant_sem [] Pyx.OalLex.sampleTight .nil (Pyx.OalLex.pair_sem _ Pyx.OalLex.sampleTight_ok)

end PyxProps.C07
