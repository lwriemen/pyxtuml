import Proofs.LoadClone
import Proofs.LoadDomain
import Proofs.LoadPerm
import Proofs.LoadDecisions
import Proofs.LoadPhrase
import Proofs.LoadDangling
import Proofs.LoadShapesMore
import Gen.Sharing
import Gen.NewShape

/-!
# C03 — Loading links exactly the key-matching pairs, independent of input order

All statements are about the model `Pyx.Load` (PyxModel/Load.lean) of `xtuml/load.py` + `xtuml/meta.py`;
they quantify over every association, every population (any number of rows, any values) and every
statement list.  Guards, all explicit:

* `KeysOk a` — no attribute name is repeated inside one key list of the association (with repeats
  `dict(zip(..))` collapses pairs and "corresponding" is ambiguous); key lists may have any length,
  including zero.
* `build ss = some m` — the code does not raise (`accepted`, preserved by permutations: `accepted_perm`).
* `UniqNamesOk ss` — an identifier name is defined once per class; `InferAgree ss` — the INSERTs of a kind
  without CREATE TABLE all infer the same class (the property's inferred-schema domain).
-/

namespace PyxProps.C03
open Pyx.Load

/-- the property's predicate: all referential values of `s` are non-null and equal the corresponding
    identifying values of `t` -/
def Matches (a : AssocStmt) (s t : Row) : Prop :=
  ∀ p ∈ a.srcKeys.zip a.tgtKeys, isNull (s.get p.1) = false ∧ s.get p.1 = t.get p.2

theorem matchesB_iff_Matches (a : AssocStmt) (s t : Row) : matchesB a s t = true ↔ Matches a s t :=
  matchesB_iff a s t

/-- the null values: unset, the id 0, the empty string — not the integer 0, the real 0.0 or `False` -/
theorem isNull_spec (v : Val) : isNull v = true ↔ v = .none ∨ v = .id 0 ∨ v = .str "" := by
  cases v <;> simp [isNull]

/-- type names are case-insensitive, as the code's `.upper()` makes them: two spellings that agree
    after upper-casing denote the same type (or are both unknown) -/
theorem tyName_case (cs1 cs2 : List Char) (h : cs1.map upperChar = cs2.map upperChar) :
    Ty.ofChars cs1 = Ty.ofChars cs2 := by
  unfold Ty.ofChars
  rw [h]

example : Ty.ofChars ['u', 'n', 'i', 'q', 'u', 'e', '_', 'i', 'd'] = some .uniqueId ∧
    Ty.ofChars ['U', 'n', 'i', 'q', 'u', 'e', '_', 'I', 'd'] = some .uniqueId ∧
    Ty.ofChars ['s', 't', 'r', 'i', 'n', 'g'] = some .string ∧ Ty.ofChars ['S', 't', 'r', 'i', 'n', 'g'] = some .string ∧
    Ty.ofChars ['b', 'O', 'O', 'L', 'E', 'A', 'N'] = some .boolean ∧
    Ty.ofChars ['u', 'n', 'i', 'q', 'u', 'e', 'i', 'd'] = none := by decide +kernel

/-- the loader's hashed index join links source row `i` and target row `j` — in both
    link directions — exactly when the key predicate holds for them; no other pair, no pair missed. -/
theorem join_exact (a : AssocStmt) (h : KeysOk a) (S T : List Row) (i j : Nat) :
    (j ∈ (hashJoin a S T).tgt i ↔ ∃ s t, S[i]? = some s ∧ T[j]? = some t ∧ Matches a s t) ∧
    (i ∈ (hashJoin a S T).src j ↔ ∃ s t, S[i]? = some s ∧ T[j]? = some t ∧ Matches a s t) := by
  rw [hashJoin_eq_nested a h]
  simp only [← matchesB_iff_Matches]
  exact ⟨mem_nestedJoin_tgt a S T i j, mem_nestedJoin_src a S T i j⟩

/-- partner lists are duplicate-free and in storage order (bucket order = target storage
    order; per-target source order = source storage order). -/
theorem join_order (a : AssocStmt) (h : KeysOk a) (S T : List Row) (z : Nat) :
    ((hashJoin a S T).tgt z).Pairwise (· < ·) ∧ ((hashJoin a S T).src z).Pairwise (· < ·) := by
  rw [hashJoin_eq_nested a h]
  exact ⟨nestedJoin_tgt_sorted a S T z, nestedJoin_src_sorted a S T z⟩

/-- hash join = nested-loop join, as ordered partner lists in both directions. -/
theorem join_eq_nested (a : AssocStmt) (h : KeysOk a) (S T : List Row) :
    hashJoin a S T = nestedJoin a S T :=
  hashJoin_eq_nested a h S T

/-- sharing one index between all associations with the same target class and the
    same *set* of key attribute names (as `populate_connections` does) changes nothing: whatever valid
    cache the loop starts from, every association gets its nested-loop join. -/
theorem cache_transparent (rows : String → List Row) (c : Cache) (as : List AssocStmt)
    (hc : CacheOk rows c) (hk : ∀ a ∈ as, KeysOk a) :
    connectAll rows c as = as.map (fun a => nestedJoin a (rows a.srcKind) (rows a.tgtKind)) :=
  connectAll_eq_nested rows c as hc hk

/-- in a built metamodel every association, in definition order, carries exactly the
    nested-loop join of its source and target classes' instances. -/
theorem build_links (ss : List Stmt) (m : Model) (hb : build ss = some m)
    (hk : ∀ a ∈ popAssocs ss, KeysOk a) :
    m.assocs = (popAssocs ss).map (fun a =>
      (a, nestedJoin a (rowsOf m.classes a.srcKind) (rowsOf m.classes a.tgtKind))) := by
  obtain ⟨_, rfl⟩ := build_eq_some.mp hb
  exact buildCore_assocs ss hk

/-- linked(x, y) over association `a` in a built metamodel, on row *values* -/
def LinkedVals (m : Model) (a : AssocStmt) (x y : Row) : Prop :=
  ∃ L i j, (a, L) ∈ m.assocs ∧ (rowsOf m.classes a.srcKind)[i]? = some x ∧
    (rowsOf m.classes a.tgtKind)[j]? = some y ∧ j ∈ L.tgt i ∧ i ∈ L.src j

/-- a referring row and a referred row of a built metamodel are linked (in both
    directions) exactly when the association is defined, both rows exist and the key predicate holds. -/
theorem build_linked_iff (ss : List Stmt) (m : Model) (hb : build ss = some m)
    (hk : ∀ a ∈ popAssocs ss, KeysOk a) (a : AssocStmt) (x y : Row) :
    LinkedVals m a x y ↔
      a ∈ popAssocs ss ∧ x ∈ rowsOf m.classes a.srcKind ∧ y ∈ rowsOf m.classes a.tgtKind ∧ Matches a x y := by
  have hl := build_links ss m hb hk
  unfold LinkedVals
  rw [hl]
  simp only [List.mem_map, Prod.mk.injEq, ← matchesB_iff_Matches]
  constructor
  · rintro ⟨L, i, j, ⟨b, hb1, rfl, rfl⟩, hx, hy, ht, _⟩
    refine ⟨hb1, List.mem_of_getElem? hx, List.mem_of_getElem? hy, ?_⟩
    obtain ⟨s, t, hs, ht', hm⟩ := (mem_nestedJoin_tgt b _ _ i j).mp ht
    rw [hx] at hs; rw [hy] at ht'
    cases hs; cases ht'
    exact hm
  · rintro ⟨ha, hx, hy, hm⟩
    obtain ⟨i, hi⟩ := List.getElem?_of_mem hx
    obtain ⟨j, hj⟩ := List.getElem?_of_mem hy
    exact ⟨_, i, j, ⟨a, ha, rfl, rfl⟩, hi, hj,
      (mem_nestedJoin_tgt a _ _ i j).mpr ⟨x, y, hi, hj, hm⟩,
      (mem_nestedJoin_src a _ _ i j).mpr ⟨x, y, hi, hj, hm⟩⟩

/-- statement lists that are permutations of each other are rejected together, and when
    accepted build equal classes (same attributes; the same identifiers and the same rows up to order),
    the same associations as a multiset, and the same link relation on rows. -/
theorem build_perm (s1 s2 : List Stmt) (hp : s1.Perm s2) (hu : UniqNamesOk s1) (hi : InferAgree s1)
    (hk : ∀ a ∈ popAssocs s1, KeysOk a) :
    (build s1).isSome = (build s2).isSome ∧
    ∀ m1 m2, build s1 = some m1 → build s2 = some m2 →
      (∀ k, ClsEquiv (findCls m1.classes k) (findCls m2.classes k)) ∧
      (m1.assocs.map (·.1)).Perm (m2.assocs.map (·.1)) ∧
      (∀ a x y, LinkedVals m1 a x y ↔ LinkedVals m2 a x y) := by
  have hacc := accepted_perm hp
  refine ⟨by rw [Bool.eq_iff_iff, build_isSome, build_isSome, hacc], fun m1 m2 h1 h2 => ?_⟩
  have hk2 : ∀ a ∈ popAssocs s2, KeysOk a := fun a ha => hk a ((popAssocs_perm hp).mem_iff.mpr ha)
  have hl1 := build_linked_iff s1 m1 h1 hk
  have hl2 := build_linked_iff s2 m2 h2 hk2
  obtain ⟨hacc1, rfl⟩ := build_eq_some.mp h1
  obtain ⟨_, rfl⟩ := build_eq_some.mp h2
  refine ⟨fun k => ?_, ?_, fun a x y => ?_⟩
  · rw [findCls_buildCore, findCls_buildCore]
    exact clsSpec_perm hp hacc1 hu hi k
  · rw [buildCore_assocs s1 hk, buildCore_assocs s2 hk2, map_fst_assocs, map_fst_assocs]
    exact popAssocs_perm hp
  · have hr := fun k => rowsOf_perm hp hacc1 hu hi k
    rw [hl1, hl2, (popAssocs_perm hp).mem_iff, (hr a.srcKind).mem_iff, (hr a.tgtKind).mem_iff]

/-- the domain on which the model is claimed faithful to the code (`Pyx.Load.inDomain`, evaluated
    by the driver on every compared case) is closed under the permutations of `build_perm`. -/
theorem inDomain_perm (s1 s2 : List Stmt) (hp : s1.Perm s2) : inDomain s1 = inDomain s2 :=
  Pyx.Load.inDomain_perm hp

/-- the model's domain predicate — the one the driver evaluates on every compared case —
    implies the hypotheses of `build_perm` / `build_perm_ordered` / `join_exact`: identifier names unique per class,
    INSERTs of a kind without CREATE TABLE agree on the inferred class, no key list repeats an attribute name, and
    the statements are accepted. -/
theorem inDomain_guards (ss : List Stmt) (h : inDomain ss = true) :
    UniqNamesOk ss ∧ InferAgree ss ∧ (∀ a ∈ popAssocs ss, KeysOk a) ∧ (build ss).isSome = true := by
  unfold inDomain at h
  simp only [Bool.and_eq_true, decide_eq_true_eq, List.all_eq_true] at h
  obtain ⟨⟨⟨⟨⟨hacc, _⟩, hassoc⟩, _⟩, huniq⟩, hins⟩ := h
  refine ⟨fun k => uniqNames_nodup_of_keys ss k huniq, ?_, ?_, build_isSome.mpr hacc⟩
  · intro k hnone x hx y hy
    have hxs := hins _ (mem_insOf hx)
    simp only [insertInDomain, hnone, Bool.and_eq_true, List.all_eq_true] at hxs
    have := hxs.2 _ (mem_insOf hy)
    simp only [bne_self_eq_false, Bool.false_or, beq_iff_eq] at this
    exact this.symm
  · intro a ha
    have := hassoc a ha
    simp only [assocInDomain, Bool.and_eq_true, decide_eq_true_eq] at this
    exact ⟨this.1.1.1.1, this.1.1.1.2⟩

/-- ... so every K-compared case and each of its permutations satisfies `build_perm`'s conclusion outright -/
theorem build_perm_inDomain (s1 s2 : List Stmt) (hp : s1.Perm s2) (hd : inDomain s1 = true) :
    ∃ m1 m2, build s1 = some m1 ∧ build s2 = some m2 ∧
      (∀ k, ClsEquiv (findCls m1.classes k) (findCls m2.classes k)) ∧
      (m1.assocs.map (·.1)).Perm (m2.assocs.map (·.1)) ∧
      (∀ a x y, LinkedVals m1 a x y ↔ LinkedVals m2 a x y) := by
  obtain ⟨hu, hi, hk, hb⟩ := inDomain_guards s1 hd
  obtain ⟨hsome, hall⟩ := build_perm s1 s2 hp hu hi hk
  obtain ⟨m1, hm1⟩ := Option.isSome_iff_exists.mp hb
  obtain ⟨m2, hm2⟩ := Option.isSome_iff_exists.mp (by rw [← hsome]; exact hb)
  exact ⟨m1, m2, hm1, hm2, hall m1 m2 hm1 hm2⟩

/-- if moreover the permutation keeps the relative order of the INSERTs of every
    class, the instances of every class are in the same order and every association carries the same
    ordered partner lists (instances named by their position). -/
theorem build_perm_ordered (s1 s2 : List Stmt) (hp : s1.Perm s2)
    (hord : ∀ k, insOf s1 k = insOf s2 k) (hk : ∀ a ∈ popAssocs s1, KeysOk a)
    (m1 m2 : Model) (h1 : build s1 = some m1) (h2 : build s2 = some m2) :
    (∀ k, rowsOf m1.classes k = rowsOf m2.classes k) ∧
    (∀ a L1 L2, (a, L1) ∈ m1.assocs → (a, L2) ∈ m2.assocs → L1 = L2) := by
  have hk2 : ∀ a ∈ popAssocs s2, KeysOk a := fun a ha => hk a ((popAssocs_perm hp).mem_iff.mpr ha)
  obtain ⟨hacc1, rfl⟩ := build_eq_some.mp h1
  obtain ⟨_, rfl⟩ := build_eq_some.mp h2
  have hrows : ∀ k, rowsOf (buildCore s1).classes k = rowsOf (buildCore s2).classes k :=
    fun k => rowsOf_eq_of_order hp hacc1 k (hord k)
  refine ⟨hrows, fun a L1 L2 hm1 hm2 => ?_⟩
  rw [buildCore_assocs s1 hk] at hm1
  rw [buildCore_assocs s2 hk2] at hm2
  simp only [List.mem_map, Prod.mk.injEq] at hm1 hm2
  obtain ⟨b1, _, rfl, rfl⟩ := hm1
  obtain ⟨b2, _, hb2, rfl⟩ := hm2
  subst hb2
  rw [hrows, hrows]

/-- the statements a loader has accumulated over any sequence of `input` calls are the
    concatenation of the parts, whatever the partition; so two partitions of the same sequence build the
    same metamodel, and (with `build_perm`) any distribution of the statements over calls / files /
    directory trees / zip members read in any order builds an equivalent one. -/
theorem input_split (l : Loader) (parts : List (List Stmt)) :
    Loader.inputs l parts = l ++ parts.flatten := by
  unfold Loader.inputs
  induction parts generalizing l with
  | nil => simp
  | cons p ps ih => simp [List.foldl_cons, ih, Loader.input, List.append_assoc]

theorem input_split_build (parts1 parts2 : List (List Stmt)) (h : parts1.flatten = parts2.flatten) :
    build (Loader.inputs [] parts1) = build (Loader.inputs [] parts2) := by
  rw [input_split, input_split, h]

theorem input_split_perm (parts1 parts2 : List (List Stmt)) (h : parts1.flatten.Perm parts2.flatten) :
    (Loader.inputs [] parts1).Perm (Loader.inputs [] parts2) := by
  rw [input_split, input_split]
  simpa using h

/-- the rows created through `MetaModel.new` with their referential values (model `apiBuild` of
    `MetaClass.new`, its batch relate, `relate`, `_find_link` and the cardinality-checked `Link.connect`) raise nothing and yield
    exactly the links — same ordered partner lists, both directions — and the
    same stored rows as loading the schema followed by the INSERTs of the same rows, under the guards `ApiGuards`:
    referred rows first — ROW-wise: when a row of a referred class is created, no row created before it refers
    to it (any topological order of the rows; class by class is a special case, `referredFirst_of_classwise`);
    no cardinality-violating duplicates (the API relates with the cardinality check, the loader connects unchecked); key lists non-empty (`new` never relates over an empty key list), without
    repeats; no reflexive association; CHAINED KEYS allowed — an identifying attribute that is itself referential in
    its class is read through the chain of referential properties — provided on the loaded metamodel every read
    ends within `readBound ss` steps, the number of (class, attribute) pairs plus the number of classes
    (`readsTerminate`: a schema-only sufficient condition for "no cyclic chain of key attributes") and the
    identifying values of every referred row that some row refers to can be read back (`resolved`: the referred
    row's own references are not dangling — the guard the open finding `api-dangling-chained-key` violates, see
    `dangling_key_exact`; the cardinality guards are the ones `api-cardinality-rejected` violates, see
    `cardinality_exact`); without chained keys both hold (`reads_of_noChain`); and
    `_find_link(referred, referring, rel, link.phrase)` answering with the association itself (`ResolvesAt`) —
    the guard that the open finding `api-phrased-direction` violates for associations whose ends carry
    different phrases. -/
theorem api_equiv (ss : List Stmt) (order : List (String × List Val)) (g : ApiGuards ss order) :
    (apiBuild ss order).2 = order.map (fun _ => Outcome.ok) ∧
    (apiBuild ss order).1.assocs = (buildCore (ss ++ insertsOf order)).assocs ∧
    (∀ k, rowsOf (apiBuild ss order).1.classes k =
      (rowsOf (buildCore (ss ++ insertsOf order)).classes k).map (stripRow (referential (popAssocs ss) k))) := by
  obtain ⟨m', hrun, inv⟩ := apiRun_spec ss order g order [] (schemaModel ss) rfl (apiInv_init ss)
  have hb : apiBuild ss order = (m', order.map (fun _ => Outcome.ok)) := hrun
  rw [hb]
  refine ⟨rfl, inv.assocs.trans (loaded_assocs g).symm, fun k => ?_⟩
  rw [show rowsOf (buildCore (ss ++ insertsOf order)).classes k = _ from loaded_rows g k]
  exact inv.rows k

/-- load the schema and the INSERTs of the rows, then clone every loaded instance — in the order
    of the rows, named by (kind, position in the class's storage) — into an empty metamodel with the same schema
    (model `cloneBuild`: `getattr` of every attribute through the chain of referential properties that
    `Association.formalize` installs, then `new` with the values read).  Under the guards of `api_equiv` nothing
    is raised and the clone carries exactly the loader's links, same ordered partner lists in both directions.
    (A dangling or null referential value reads `None` on the loaded instance; by `readVal_spec` this
    never changes which pairs match: `readOf_read`.) -/
theorem clone_equiv (ss : List Stmt) (order : List (String × List Val)) (g : ApiGuards ss order) :
    (cloneBuild (ss ++ insertsOf order) (positions order)).2 = order.map (fun _ => Outcome.ok) ∧
    (cloneBuild (ss ++ insertsOf order) (positions order)).1.assocs = (buildCore (ss ++ insertsOf order)).assocs := by
  obtain ⟨m', hrun, inv⟩ := cloneRun_spec ss order g order [] (schemaModel ss) rfl (apiInv_init ss)
  have hb : cloneBuild (ss ++ insertsOf order) (positions order) = (m', order.map (fun _ => Outcome.ok)) := by
    unfold cloneBuild positions
    rw [schemaModel_append_inserts]
    exact hrun
  rw [hb]
  exact ⟨rfl, inv.assocs.trans (loaded_assocs g).symm⟩

/-- creating the rows class by class, referred classes first, is a special case of the row-wise guard -/
theorem referredFirst_of_classwise (ss : List Stmt) (order : List (String × List Val)) (a : AssocStmt)
    (h : ∀ pre o suf, order = pre ++ o :: suf → o.1 = a.srcKind → ∀ r ∈ suf, r.1 ≠ a.tgtKind) :
    ∀ pre o suf, order = pre ++ o :: suf → o.1 = a.tgtKind →
      ∀ s ∈ rawRows ss pre a.srcKind, matchesB a s (rawRow ss o) = false := by
  intro pre o suf hord hk s hs
  exfalso
  unfold rawRows at hs
  obtain ⟨r, hr, _⟩ := List.mem_map.mp hs
  obtain ⟨hrm, hrk⟩ := List.mem_filter.mp hr
  obtain ⟨p1, p2, hp⟩ := List.append_of_mem hrm
  have hord' : order = p1 ++ r :: (p2 ++ o :: suf) := by rw [hord, hp]; simp
  exact h p1 r (p2 ++ o :: suf) hord' (by simpa using hrk) o (by simp) hk

/-- a sufficient condition for the guard `resolves`: relationship numbers are not reused and both ends of
    every association carry the same phrase (e.g. none) -/
theorem resolves_of_plain (as : List AssocStmt) (hrel : (as.map (·.rel)).Nodup)
    (hph : ∀ a ∈ as, a.srcPhrase = a.tgtPhrase) :
    ∀ n a, as[n]? = some a → ResolvesAt as n a := by
  have hrel' : (as.map (·.rel)).Pairwise (· ≠ ·) := hrel
  intro n a hn
  unfold ResolvesAt findLink
  rw [findLinkFrom_first _ _ _ _ as n a hn rfl ?_ 0, if_pos ⟨rfl, rfl, (hph a (List.mem_of_getElem? hn)).symm⟩,
    Nat.zero_add]
  -- an earlier association with the same relationship number would repeat it
  intro m b hm hb hrel
  obtain ⟨hm', rfl⟩ := List.getElem?_eq_some_iff.mp hb
  obtain ⟨hn', rfl⟩ := List.getElem?_eq_some_iff.mp hn
  have := List.pairwise_iff_getElem.mp hrel' m n (by simpa using hm') (by simpa using hn') hm
  simp only [List.getElem_map] at this
  exact absurd hrel this

/-! ### the open finding `api-phrased-direction`, as a proved statement about the model

`MetaClass.new` relates the new instance by `relate(other_inst, inst, link.rel_id, link.phrase)` with the phrase of
the link that STARTS at the new instance's class, while `_find_link` compares the phrase with the link that starts
at the FIRST argument's class.  The statements below say exactly for which associations that resolves wrongly. -/

/-- on a schema inside the domain (in particular: no two links of a class filed under
    the same (class, relationship, phrase) key) the guard `resolves` of `api_equiv` holds for an association if and
    only if its two ends carry the SAME phrase — so the API route is proved equal to the loader exactly on the
    same-phrase associations, and ... -/
theorem phrased_direction_exact (ss : List Stmt) (hd : inDomain ss = true) (n : Nat) (a : AssocStmt)
    (hn : (popAssocs ss)[n]? = some a) :
    ResolvesAt (popAssocs ss) n a ↔ a.srcPhrase = a.tgtPhrase :=
  resolves_iff_same_phrase _ (linkKeysOk_of_inDomain ss hd) n a hn

theorem phrased_direction_schema (ss : List Stmt) (hd : inDomain ss = true) :
    (∀ n a, (popAssocs ss)[n]? = some a → ResolvesAt (popAssocs ss) n a) ↔
      ∀ a ∈ popAssocs ss, a.srcPhrase = a.tgtPhrase :=
  ⟨fun h a ha => let ⟨n, hn⟩ := List.getElem?_of_mem ha; (phrased_direction_exact ss hd n a hn).mp (h n a hn),
    fun h n a hn => (phrased_direction_exact ss hd n a hn).mpr (h a (List.mem_of_getElem? hn))⟩

/-- ... a REFLEXIVE association can never be resolved (its two links are filed under the same classes and number,
    so inside the domain its phrases differ); alone with its relationship number, every `relate` that `new` makes
    for it connects the pair the wrong way round — the referred instance `j` as the referring one -/
theorem phrased_direction_reflexive (m : Model) (hk : LinkKeysOk (m.assocs.map (·.1))) (n : Nat) (a : AssocStmt)
    (L : Links) (hn : m.assocs[n]? = some (a, L)) (hrefl : a.srcKind = a.tgtKind)
    (honly : ∀ k b, (m.assocs.map (·.1))[k]? = some b → b.rel = a.rel → k = n) (j i : Nat) :
    ¬ ResolvesAt (m.assocs.map (·.1)) n a ∧
    relate m a.tgtKind j a.srcKind i a.rel a.srcPhrase =
      ({ m with assocs := updateAt m.assocs n (fun p => (p.1, (relateAt a L i j).1)) },
       if (relateAt a L i j).2 then .ok else .relateError) := by
  have hn' : (m.assocs.map (·.1))[n]? = some a := by simp [hn]
  have hnot := reflexive_not_resolved _ hk n a hn' hrefl
  have h1 : ¬ (a.tgtKind = a.tgtKind ∧ a.srcKind = a.srcKind ∧ a.tgtPhrase = a.srcPhrase) := fun h =>
    hnot ((resolves_iff_same_phrase _ hk n a hn').mpr h.2.2.symm)
  refine ⟨hnot, ?_⟩
  -- alone with its number, the association is the first candidate; the swapped test is the one that holds
  unfold relate findLink
  rw [findLinkFrom_first a.tgtKind a.srcKind a.rel a.srcPhrase _ n a hn' rfl
    (fun k b hk' hb hrel => absurd (honly k b hb hrel) (Nat.ne_of_lt hk')) 0, if_neg h1, if_pos ⟨hrefl, hrefl.symm, rfl⟩]
  simp only [Nat.zero_add, hn, if_true]

/-- ... and a NON-reflexive association with different phrases, alone with its relationship number, makes every
    such `relate` raise UnknownLinkException (with another association of the same number between the same classes
    the link can instead land on that one: `phrased_witness_twin`) -/
theorem phrased_direction_unknown (m : Model) (n : Nat) (a : AssocStmt)
    (hn : (m.assocs.map (·.1))[n]? = some a) (hnr : a.srcKind ≠ a.tgtKind) (hph : a.srcPhrase ≠ a.tgtPhrase)
    (honly : ∀ k b, (m.assocs.map (·.1))[k]? = some b → b.rel = a.rel → k = n) (j i : Nat) :
    relate m a.tgtKind j a.srcKind i a.rel a.srcPhrase = (m, .unknownLink) := by
  unfold relate
  cases h : findLink (m.assocs.map (·.1)) a.tgtKind a.srcKind a.rel a.srcPhrase with
  | none => rfl
  | some r =>
    -- an answer names an association with this number, so this one, and either test contradicts a hypothesis
    obtain ⟨k, sw⟩ := r
    obtain ⟨b, _, hb, hrel, h1, h2⟩ := findLinkFrom_some _ _ _ _ _ 0 k sw h
    rw [Nat.sub_zero] at hb
    obtain rfl := honly k b hb hrel
    rw [hn] at hb
    cases hb
    cases sw with
    | false => exact absurd ((h1 rfl).2.2).symm hph
    | true => exact absurd (h2 rfl).1 hnr

/-! negation witnesses: three schemas inside the domain on which `new` and the loader differ -/

/-- reflexive: P(2) refers to P(1) as its parent -/
def phReflSchema : List Stmt :=
  [ .cls "P" [("Id", .integer), ("Parent", .integer)],
    .assoc ⟨"R1", "P", true, true, ["Parent"], "child", "P", false, true, ["Id"], "parent"⟩ ]
def phReflOrder : List (String × List Val) := [("P", [.int 1, .int 0]), ("P", [.int 2, .int 1])]

/-- the loader links row 1 (the child) to row 0 (its parent); `new` raises nothing
    and links row 0 to row 1 — the reverse direction -/
theorem phrased_witness_reflexive :
    inDomain (phReflSchema ++ insertsOf phReflOrder) = true ∧
    (apiBuild phReflSchema phReflOrder).2 = [.ok, .ok] ∧
    ((buildCore (phReflSchema ++ insertsOf phReflOrder)).assocs.map (fun p => (p.2.tgt 0, p.2.tgt 1, p.2.src 0, p.2.src 1)))
      = [([], [0], [1], [])] ∧
    ((apiBuild phReflSchema phReflOrder).1.assocs.map (fun p => (p.2.tgt 0, p.2.tgt 1, p.2.src 0, p.2.src 1)))
      = [([1], [], [], [0])] := by decide +kernel

def phUnkSchema : List Stmt :=
  [ .cls "A" [("Id", .integer), ("B_Id", .integer)], .cls "B" [("Id", .integer)],
    .assoc ⟨"R1", "A", true, true, ["B_Id"], "owns", "B", false, true, ["Id"], "is owned by"⟩ ]
def phUnkOrder : List (String × List Val) := [("B", [.int 1]), ("A", [.int 5, .int 1])]

/-- different phrases, non-reflexive: the loader links the pair, `new` raises
    UnknownLinkException -/
theorem phrased_witness_unknown :
    inDomain (phUnkSchema ++ insertsOf phUnkOrder) = true ∧
    (apiBuild phUnkSchema phUnkOrder).2 = [.ok, .unknownLink] ∧
    ((buildCore (phUnkSchema ++ insertsOf phUnkOrder)).assocs.map (fun p => (p.2.tgt 0, p.2.src 0))) = [([0], [0])] ∧
    ((apiBuild phUnkSchema phUnkOrder).1.assocs.map (fun p => (p.2.tgt 0, p.2.src 0))) = [([], [])] := by decide +kernel

/-- two associations with the same number between the same classes, phrases crossed -/
def phTwinSchema : List Stmt :=
  [ .cls "A" [("Id", .integer), ("B1", .integer), ("B2", .integer)], .cls "B" [("Id", .integer)],
    .assoc ⟨"R1", "A", true, true, ["B1"], "x", "B", false, true, ["Id"], "y"⟩,
    .assoc ⟨"R1", "A", true, true, ["B2"], "y", "B", false, true, ["Id"], "x"⟩ ]
def phTwinOrder : List (String × List Val) := [("B", [.int 1]), ("B", [.int 2]), ("A", [.int 5, .int 1, .int 2])]

/-- nothing is raised, but each link lands on the OTHER association -/
theorem phrased_witness_twin :
    inDomain (phTwinSchema ++ insertsOf phTwinOrder) = true ∧
    (apiBuild phTwinSchema phTwinOrder).2 = [.ok, .ok, .ok] ∧
    ((buildCore (phTwinSchema ++ insertsOf phTwinOrder)).assocs.map (fun p => p.2.tgt 0)) = [[0], [1]] ∧
    ((apiBuild phTwinSchema phTwinOrder).1.assocs.map (fun p => p.2.tgt 0)) = [[1], [0]] := by decide +kernel

/-- a read of an attribute through the chain of referential properties is the iteration of a
    deterministic step on (class, instance, attribute); a read that ends never visits a state twice, and on a
    metamodel with well-formed links every state after the first is one of the (class, row, attribute) triples of
    the metamodel — so a read that ends with SOME fuel ends with `fuelOf m`, the fuel the model runs with: the
    model's `recursionError` stands for a read that never ends (a cyclic chain), nothing else.  (CPython itself
    gives up at its recursion limit — about 300 hops with the default limit of 1000 frames — also on an acyclic
    chain that long; the model does not limit the depth, and the generated populations stay far below it.) -/
theorem fuel_sufficient (m : Model) (hwf : LinksWf m) (n : Nat) (k : String) (i : Nat) (x : String) (v : Val)
    (h : readAttr m n k i x = some v) : readAttr m (fuelOf m) k i x = some v :=
  fuelOf_sufficient m hwf n k i x v h

/-- every metamodel the loader builds has well-formed links (the source metamodel of `clone`) -/
theorem fuel_sufficient_built (ss : List Stmt) (hb : (build ss).isSome = true) (hk : ∀ a ∈ popAssocs ss, KeysOk a)
    (n : Nat) (k : String) (i : Nat) (x : String) (v : Val) (h : readAttr (buildCore ss) n k i x = some v) :
    readAttr (buildCore ss) (fuelOf (buildCore ss)) k i x = some v :=
  fuelOf_sufficient _ (linksWf_buildCore ss (build_isSome.mp hb) hk) n k i x v h

/-- an acyclic schema of two classes, a read of four steps — inside the guard's bound `readBound` (6) -/
def fuelSchema : List Stmt :=
  [ .cls "A" [("x", .integer), ("z", .integer)], .cls "B" [("y", .integer), ("w", .integer)],
    .assoc ⟨"R1", "A", true, true, ["x"], "", "B", false, true, ["y"], ""⟩,
    .assoc ⟨"R2", "B", true, true, ["y"], "", "A", false, true, ["z"], ""⟩,
    .assoc ⟨"R3", "A", true, true, ["z"], "", "B", false, true, ["w"], ""⟩ ]
def fuelOrder : List (String × List Val) :=
  [ ("B", [.int 0, .int 7]), ("A", [.int 0, .int 7]), ("B", [.int 7, .int 0]), ("A", [.int 7, .int 0]) ]
private theorem fuel_inDomain : inDomain (fuelSchema ++ insertsOf fuelOrder) = true := by decide +kernel
example : inDomain (fuelSchema ++ insertsOf fuelOrder) = true := fuel_inDomain
example : readBound fuelSchema = 6 ∧ (popClasses fuelSchema).length = 2 := by decide +kernel
/-- `fuel_sufficient_built` applied: the four-step read on that schema ends with the model's own fuel -/
example : readAttr (buildCore (fuelSchema ++ insertsOf fuelOrder)) (fuelOf (buildCore (fuelSchema ++ insertsOf fuelOrder)))
    "A" 1 "x" = some (.int 7) :=
  fuel_sufficient_built (fuelSchema ++ insertsOf fuelOrder) (inDomain_guards _ fuel_inDomain).2.2.2
    (inDomain_guards _ fuel_inDomain).2.2.1 4 "A" 1 "x" (.int 7) (by decide +kernel)
example : readAttr (loaded fuelSchema fuelOrder) 3 "A" 1 "x" = none ∧
    readAttr (loaded fuelSchema fuelOrder) 4 "A" 1 "x" = some (.int 7) := by decide +kernel

/-! ### the open findings `api-dangling-chained-key` and `api-cardinality-rejected`, as statements about the model -/

/-- on a metamodel the loader built, let `x` be an attribute of class `K` that is
    referential (and, for a chain of depth one, read through stored identifying attributes).  A row created with a
    non-null value for `x` reads that value back IF AND ONLY IF some association using `x` links the row; otherwise
    it reads `None` (`dangling_reads_none`).  So a referred row whose OWN reference is dangling (or null) cannot be
    found through the identifying attribute `x`: `new` relates no referring row to it (`dangling_not_related`) while
    the loader, which compares the values the rows were created with, links them. -/
theorem dangling_key_exact (ss : List Stmt) (hk : ∀ a ∈ popAssocs ss, KeysOk a) (K : String) (j : Nat) (r : Row)
    (hr : (rowsOf (buildCore ss).classes K)[j]? = some r) (x : String) (hx : x ∈ referential (popAssocs ss) K)
    (hdepth : ∀ b ∈ popAssocs ss, b.srcKind = K → ∀ tk, (x, tk) ∈ keyPairs b → tk ∉ referential (popAssocs ss) b.tgtKind)
    (hnn : isNull (r.get x) = false) (n : Nat) :
    readAttr (buildCore ss) (n + 2) K j x = some (r.get x) ↔
      ∃ b ∈ popAssocs ss, b.srcKind = K ∧ x ∈ (keyPairs b).map (·.1) ∧
        (nestedJoin b (rowsOf (buildCore ss).classes b.srcKind) (rowsOf (buildCore ss).classes b.tgtKind)).tgt j ≠ [] := by
  have hj : Joined (buildCore ss) (popAssocs ss) := buildCore_assocs ss hk
  refine ⟨fun h => Classical.byContradiction fun hno => ?_, fun h => linked_reads_value _ _ hj K j r hr x hx hdepth h n⟩
  rw [unlinked_reads_none _ _ hj K j x hx (fun b hb hk hxb => Classical.byContradiction fun hne =>
    hno ⟨b, hb, hk, hxb, hne⟩) (n + 1), Option.some.injEq] at h
  rw [← h] at hnn
  cases hnn

theorem dangling_reads_none (ss : List Stmt) (hk : ∀ a ∈ popAssocs ss, KeysOk a) (K : String) (j : Nat) (x : String)
    (hx : x ∈ referential (popAssocs ss) K)
    (hun : ∀ b ∈ popAssocs ss, b.srcKind = K → x ∈ (keyPairs b).map (·.1) →
      (nestedJoin b (rowsOf (buildCore ss).classes b.srcKind) (rowsOf (buildCore ss).classes b.tgtKind)).tgt j = [])
    (n : Nat) : readAttr (buildCore ss) (n + 1) K j x = some .none :=
  unlinked_reads_none (buildCore ss) (popAssocs ss) (buildCore_assocs ss hk) K j x hx hun n

/-- the query of `new` answers "no" for a row one of whose identifying attributes reads `None` -/
theorem dangling_not_related (m : Model) (fuel : Nat) (kind : String) (j : Nat) (kwargs : List (String × Val))
    (hreads : ∀ kv ∈ kwargs, (readAttr m fuel kind j kv.1).isSome = true)
    (kv : String × Val) (hkv : kv ∈ kwargs) (hnone : readAttr m fuel kind j kv.1 = some .none)
    (hv : kv.2 ≠ .none) : rowMatches m fuel kind j kwargs = some false := by
  rw [rowMatches_of_reads m fuel kind j kwargs (fun x => (readAttr m fuel kind j x).getD .none) fun q hq => by
    obtain ⟨w, hw⟩ := Option.isSome_iff_exists.mp (hreads q hq)
    rw [hw]; rfl]
  congr 1
  rw [Bool.eq_false_iff]
  intro hall
  have := List.all_eq_true.mp hall kv hkv
  rw [hnone, Option.getD_some, beq_iff_eq] at this
  exact hv this.symm

/-- `relate` refuses (RelateException) exactly when the pair would give a single-valued end a
    second partner — while the loader's `connect(check=False)` adds every matching pair -/
theorem cardinality_exact (a : AssocStmt) (L : Links) (t s : Nat) :
    ((relateAt a L t s).2 = false ↔
      (s ∉ L.src t ∧ L.src t ≠ [] ∧ a.srcMany = false) ∨ (t ∉ L.tgt s ∧ L.tgt s ≠ [] ∧ a.tgtMany = false)) ∧
    s ∈ (connect L.src t s) t ∧ t ∈ (connect L.tgt s t) s := by
  refine ⟨?_, ?_, ?_⟩
  · rw [← connectChecked_eq_none, ← connectChecked_eq_none]
    unfold relateAt
    cases connectChecked L.src a.srcMany t s <;> cases connectChecked L.tgt a.tgtMany s t <;> simp
  · by_cases h : s ∈ L.src t <;> simp [connect, osetAdd, h]
  · by_cases h : t ∈ L.tgt s <;> simp [connect, osetAdd, h]

/-- two A rows refer to the same B row across an association whose A end is single-valued -/
def cardSchema : List Stmt :=
  [ .cls "A" [("Id", .integer), ("B_Id", .integer)], .cls "B" [("Id", .integer)],
    .assoc ⟨"R1", "A", false, true, ["B_Id"], "", "B", false, true, ["Id"], ""⟩ ]
def cardOrder : List (String × List Val) := [("B", [.int 1]), ("A", [.int 1, .int 1]), ("A", [.int 2, .int 1])]

/-- the loader links both A rows to the B row; `new` raises RelateException for the second
    and leaves it unrelated -/
theorem cardinality_witness :
    inDomain (cardSchema ++ insertsOf cardOrder) = true ∧
    (apiBuild cardSchema cardOrder).2 = [.ok, .ok, .relateError] ∧
    ((buildCore (cardSchema ++ insertsOf cardOrder)).assocs.map (fun p => (p.2.src 0, p.2.tgt 0, p.2.tgt 1))) = [([0, 1], [0], [0])] ∧
    ((apiBuild cardSchema cardOrder).1.assocs.map (fun p => (p.2.src 0, p.2.tgt 0, p.2.tgt 1))) = [([0], [0], [])] := by
  decide +kernel

/-! ### the decisions of the batch loader, translated from the source (Gen/LoadDecisions.lean, by
    translator/gen_loaddecisions.py): a changed null rule, key order or side choice breaks one of these -/

/-- the model's `isNull` is the decision chain translated from `_is_null` (truthy -> not
    null; None -> null; then by the upper-cased declared type: UNIQUE_ID -> value == 0, STRING -> len(value) == 0,
    anything else not null) on every value that has the declared type of its attribute or is `None`. -/
theorem null_rule_generated (ty : Ty) (v : Val) (h : v.hasTy ty = true ∨ v = .none) :
    Pyx.Gen.LoadDecisions.isNull v.truthy v.isNone ty.upperChars v.eqZero v.lenZero = isNull v := by
  rcases h with h | rfl
  · cases ty <;> cases v <;> simp [Val.hasTy] at h <;>
      simp [Pyx.Gen.LoadDecisions.isNull, isNull, Val.truthy, Val.isNone, Val.eqZero, Val.lenZero, Ty.upperChars] <;>
      (rw [Bool.eq_iff_iff]; simp)
  · cases ty <;> simp [Pyx.Gen.LoadDecisions.isNull, isNull, Val.truthy, Val.isNone]

/-- the upper-cased names the translated rule compares with are the names the model's types are parsed from -/
theorem null_rule_type_names (ty : Ty) : Ty.ofUpper ty.upperChars = some ty := by
  cases ty <;> decide

/-- the model's two key computations are the translated
    `compute_lookup_key` (over `key_map.items()`: null test and value on the referential attribute, component named
    by the identifying attribute) and `compute_index_key` (over `key_map.values()`), both frozensets of pairs. -/
theorem lookup_key_generated (a : AssocStmt) (s : Row) :
    lookupKey a s = evalKey Pyx.Gen.LoadDecisions.lookupKey (keyMap a) s := rfl

theorem index_key_generated (a : AssocStmt) (t : Row) :
    indexKey (keyNames a) t = evalKey Pyx.Gen.LoadDecisions.indexKey (keyMap a) t := by
  simp only [indexKey, keyNames, evalKey, Pyx.Gen.LoadDecisions.indexKey, keyEntries, pickVar, List.any_map, List.map_map]
  rfl

/-- `populate_connections` indexes the instances of the referred (target) class by
    the source link's index key, shares the index per (class, set of the source link's identifying attribute names),
    and lets the instances of the referring (source) class probe it with the source link's lookup key — as
    `hashJoin` / `connectAll` do. -/
theorem batch_direction_generated :
    Pyx.Gen.LoadDecisions.indexedSide = .target ∧ Pyx.Gen.LoadDecisions.probingSide = .source ∧
    Pyx.Gen.LoadDecisions.cacheLink = .sourceLink ∧ Pyx.Gen.LoadDecisions.cacheNames = .values ∧
    Pyx.Gen.LoadDecisions.indexKeyLink = .sourceLink ∧ Pyx.Gen.LoadDecisions.lookupKeyLink = .sourceLink := by
  decide

/-- for a probing row `i` and a referred row `j` of its bucket the model makes exactly
    the `connect` calls of the source, in their order, with their argument order and `check` flag, each decided by
    the translated `Link.connect` (Gen/LinkDecisions.lean). -/
theorem batch_connects_generated (a : AssocStmt) (L : Links) (i j : Nat) :
    (⟨connect L.src j i, connect L.tgt i j⟩ : Links) =
      Pyx.Gen.LoadDecisions.connects.foldl (fun L c => applyConnect a c L i j) L := by
  simp only [Pyx.Gen.LoadDecisions.connects, List.foldl_cons, List.foldl_nil, applyConnect, connectBy_unchecked]

/-- ... in particular a second match on a link that is not `many` is connected as well (`check=False`) -/
theorem second_match_connected :
    (∀ c ∈ Pyx.Gen.LoadDecisions.connects, c.2.2 = false) ∧
    Pyx.Gen.LinkDecisions.connect false true false false = .mutate := by decide +kernel

/-- the batch relate of `MetaClass.new` has its OWN null test (an expression over
    `ref_value is None`, the upper-cased declared type, `ref_value == 0`, `ref_value == ''`); translated from the
    source it is the model's `isNull` on every value of the attribute's declared type. -/
theorem new_null_rule_generated (ty : Ty) (v : Val) (h : v.hasTy ty = true ∨ v = .none) :
    Pyx.Gen.LoadDecisions.newIsNull v.isNone ty.upperChars v.eqZero v.lenZero = isNull v := by
  rcases h with h | rfl
  · cases ty <;> cases v <;> simp [Val.hasTy] at h <;>
      simp [Pyx.Gen.LoadDecisions.newIsNull, isNull, Val.isNone, Val.eqZero, Val.lenZero, Ty.upperChars] <;>
      (rw [Bool.eq_iff_iff]; simp)
  · cases ty <;> simp [Pyx.Gen.LoadDecisions.newIsNull, isNull, Val.isNone]

/-- the model's `relateLink` (one link of the batch relate of `new`) takes the translated
    decisions: the link is attempted only if every name of `key_map.values()` was given; ONE null value drops the
    whole link (`kwargs = None; break` — not just that value); the query maps the other class's key attribute to
    the given value; an empty query relates nothing; and `relate` is called with the found instance first. -/
theorem new_relate_generated (refs : List (String × Val)) (km : List (String × String))
    (okind kind : String) (i : Nat) (rel phrase : String) (m : Model) :
    relateLink refs km okind kind i rel phrase m =
      relateLinkBy Pyx.Gen.LoadDecisions.newGivenNames Pyx.Gen.LoadDecisions.newOnNull
        Pyx.Gen.LoadDecisions.newQueryName Pyx.Gen.LoadDecisions.newValueFrom refs km okind kind i rel phrase m ∧
    Pyx.Gen.LoadDecisions.newRelateArgs = [.other, .inst, .relId, .phrase] := by
  refine ⟨?_, by decide⟩
  simp only [relateLink, relateLinkBy, Pyx.Gen.LoadDecisions.newGivenNames, Pyx.Gen.LoadDecisions.newOnNull,
    Pyx.Gen.LoadDecisions.newQueryName, Pyx.Gen.LoadDecisions.newValueFrom, keyEntries, pickVar, List.map_map,
    List.all_map]
  rfl

/-- (table check) `populate_associations` hands each field of the CREATE ROP statement to
    the parameter of `define_association` of the same name, `source_many` / `target_many` being `'M' in` and
    `source_conditional` / `target_conditional` being `'C' in` the statement's cardinality strings — the reading of a
    statement that `AssocStmt` (srcMany, srcCond, tgtMany, tgtCond) and the harness's encoder fix. -/
theorem association_args_generated :
    Pyx.Gen.LoadDecisions.defineAssociationParams.zip Pyx.Gen.LoadDecisions.defineAssociationArgs =
      [("rel_id", "stmt.rel_id"), ("source_kind", "stmt.source_kind"), ("source_keys", "stmt.source_keys"),
       ("source_many", "'M' in stmt.source_cardinality"), ("source_conditional", "'C' in stmt.source_cardinality"),
       ("source_phrase", "stmt.source_phrase"), ("target_kind", "stmt.target_kind"), ("target_keys", "stmt.target_keys"),
       ("target_many", "'M' in stmt.target_cardinality"), ("target_conditional", "'C' in stmt.target_cardinality"),
       ("target_phrase", "stmt.target_phrase")] := rfl

/-! ### the API route against the statement-shape tables of `_find_link`, `relate`, `WhereEqual` and `MetaClass.new`
    (Gen/RelateShape.lean, Gen/QueryShape.lean, Gen/NewShape.lean; importing them here makes C03 regenerate and
    re-check them) -/

/-- the model's `_find_link` is the generic interpretation of the translated loop body
    `findBody` over the link definitions `linkDefs` of `define_association` (which class a link starts at, which
    phrase it carries). -/
theorem find_link_generated (as : List AssocStmt) (k1 k2 rel phrase : String)
    (sd td : Pyx.Gen.RelateShape.LinkDef) (hd : Pyx.Gen.RelateShape.linkDefs = [sd, td]) :
    findLink as k1 k2 rel phrase = findLinkBy Pyx.Gen.RelateShape.findBody sd td k1 k2 rel phrase 0 as :=
  findLinkFrom_eq_generated k1 k2 rel phrase sd td hd as 0

/-- what the model does once `_find_link` has answered is the translated program of `relate`:
    `source_link.connect(inst1, inst2)` else raise; `target_link.connect(inst2, inst1)` else
    `source_link.disconnect(inst1, inst2)` and raise — with each link's `many` as `define_association` sets it. -/
theorem relate_generated (a : AssocStmt) (L : Links) (t s : Nat)
    (sd td : Pyx.Gen.RelateShape.LinkDef) (hd : Pyx.Gen.RelateShape.linkDefs = [sd, td]) :
    relateAt a L t s = runSteps' a sd td Pyx.Gen.RelateShape.relateProg.steps L t s :=
  relateAt_eq_generated a L t s sd td hd

/-- the test the query of `new` makes on one instance is the translated `WhereEqual`
    loop (`break` on the first attribute that differs, the instance is yielded when the loop completes). -/
theorem query_match_generated (m : Model) (fuel : Nat) (kind : String) (j : Nat) (kw : List (String × Val)) :
    rowMatches m fuel kind j kw = rowMatchesBy Pyx.Gen.QueryShape.whereShape m fuel kind j kw :=
  rowMatches_eq_generated m fuel kind j kw

/-- (table check) `define_association` adds exactly two links; `new` returns before the
    batch relate when no referential value was given, relates `(found instance, new instance)`, stores positional
    referential values aside instead of setting them, and a dict handed to `query` is wrapped in `WhereEqual` — as
    `apiNew` / `relateLink` / `relateQuery` have it. -/
theorem new_shape_generated :
    (∃ sd td, Pyx.Gen.RelateShape.linkDefs = [sd, td]) ∧
    Pyx.Gen.RelateShape.newPhases =
      [.construct, .appendStorage, .defaults, .positional, .keywords, .returnIfNoReferentials, .batchRelate,
       .warnUnassigned, .returnInst] ∧
    Pyx.Gen.RelateShape.newRelateArgs = (.other, .newInst) ∧
    (Pyx.Gen.NewShape.newLoops.map (fun l => (l.source, l.whenNotReferential, l.whenReferential))) =
      [(.attributes, .setattrDefault, .nothing), (.zipAttributesArgs, .setattr, .storeReferential),
       (.kwargs, .setattr, .storeReferential)] ∧
    Pyx.Gen.QueryShape.opDispatch.lookup .isDict = some .wrapWhereEqual := by
  refine ⟨⟨_, _, rfl⟩, by decide +kernel, by decide +kernel, by decide +kernel, by decide +kernel⟩

/-- (over the generated table) `ModelLoader.populate` runs the five phases in the order in
    which `Pyx.Load.buildCore` composes them — classes, identifiers, associations, instances, connections. -/
theorem phase_order :
    Pyx.Gen.Sharing.phaseOrder =
      ["populate_classes", "populate_unique_identifiers", "populate_associations", "populate_instances",
       "populate_connections"] := rfl

/-! ## non-vacuity: a concrete population with a matching, a null, a dangling and a duplicate key -/

def exA : AssocStmt := ⟨"R1", "A", true, true, ["B_Id", "B_Name"], "", "B", false, true, ["Id", "Name"], ""⟩

def exStmts : List Stmt :=
  [ .insert "A" none [.int 1, .id 7, .str "n"],
    .cls "A" [("Id", .integer), ("B_Id", .uniqueId), ("B_Name", .string)],
    .assoc exA,
    .insert "B" none [.id 7, .str "n"],
    .insert "A" none [.int 2, .id 0, .str "n"],
    .uniq "B" "I1" ["Id", "Name"],
    .insert "B" none [.id 7, .str "n"],
    .cls "B" [("Id", .uniqueId), ("Name", .string)],
    .insert "A" (some ["B_Name", "Id"]) [.str "x", .int 3],
    .insert "X" none [.int 5] ]

example : KeysOk exA := by decide +kernel
private theorem exStmts_inDomain : inDomain exStmts = true := by decide +kernel
example : inDomain exStmts = true := exStmts_inDomain
example : (build exStmts).isSome = true := by decide +kernel
example : ∀ a ∈ popAssocs exStmts, KeysOk a := by decide +kernel
/-- row 0 of A matches both (duplicate) rows of B; row 1 has a null id, row 2 an unset one -/
example : (nestedJoin exA (rowsOf (buildCore exStmts).classes "A") (rowsOf (buildCore exStmts).classes "B")).tgt 0 = [0, 1] := by decide +kernel
example : (nestedJoin exA (rowsOf (buildCore exStmts).classes "A") (rowsOf (buildCore exStmts).classes "B")).tgt 1 = [] := by decide +kernel
example : (nestedJoin exA (rowsOf (buildCore exStmts).classes "A") (rowsOf (buildCore exStmts).classes "B")).src 1 = [0] := by decide +kernel
example : UniqNamesOk exStmts := (inDomain_guards exStmts exStmts_inDomain).1
/-- the inferred-schema guard on the example: class X has no CREATE TABLE and one INSERT -/
example : InferAgree exStmts := (inDomain_guards exStmts exStmts_inDomain).2.1
/-- ... and a population whose INSERTs infer the class in two ways is outside the guard -/
example : ¬ InferAgree [.insert "X" none [.int 5], .insert "X" none [.str "a"]] := by
  intro h
  have := h "X" (by decide +kernel) (none, [.int 5]) (by decide +kernel) (none, [.str "a"]) (by decide +kernel)
  revert this; decide +kernel

/-- `cache_transparent` with a cache that is hit: two associations refer to B through the same SET of identifying
    attributes, named in different orders — the second one finds the index the first one built -/
def exA2 : AssocStmt := ⟨"R2", "A", true, true, ["B_Name", "B_Id"], "", "B", false, true, ["Name", "Id"], ""⟩
def exRows : String → List Row := fun k => rowsOf (buildCore exStmts).classes k
example : cacheFind [((exA.tgtKind, keyNames exA), mkIndex (keyNames exA) (exRows exA.tgtKind))] exA2.tgtKind (keyNames exA2)
    = some (mkIndex (keyNames exA) (exRows exA.tgtKind)) := by decide +kernel
example : CacheOk exRows [((exA.tgtKind, keyNames exA), mkIndex (keyNames exA) (exRows exA.tgtKind))] := by
  intro e he
  simp only [List.mem_singleton] at he
  subst he
  exact ⟨by decide +kernel, indexSpec_mkIndex _ _⟩
example : ((connectAll exRows [((exA.tgtKind, keyNames exA), mkIndex (keyNames exA) (exRows exA.tgtKind))] [exA2]).map
    (fun L => (L.tgt 0, L.tgt 1, L.src 0, L.src 1))) = [([0, 1], [], [0], [0])] := by decide +kernel

/-- `build_perm_ordered` on two different statement lists: the schema statements move, every class's INSERTs keep
    their order -/
def exStmts' : List Stmt :=
  [ .cls "B" [("Id", .uniqueId), ("Name", .string)],
    .insert "A" none [.int 1, .id 7, .str "n"],
    .insert "B" none [.id 7, .str "n"],
    .uniq "B" "I1" ["Id", "Name"],
    .insert "A" none [.int 2, .id 0, .str "n"],
    .insert "X" none [.int 5],
    .insert "B" none [.id 7, .str "n"],
    .assoc exA,
    .insert "A" (some ["B_Name", "Id"]) [.str "x", .int 3],
    .cls "A" [("Id", .integer), ("B_Id", .uniqueId), ("B_Name", .string)] ]
example : exStmts ≠ exStmts' := by decide +kernel
example : exStmts.Perm exStmts' := by decide +kernel
example : ∀ k ∈ ["A", "B", "X"], insOf exStmts k = insOf exStmts' k := by decide +kernel
example : (buildCore exStmts).assocs.map (fun p => (p.2.tgt 0, p.2.tgt 1, p.2.tgt 2, p.2.src 0, p.2.src 1)) =
    (buildCore exStmts').assocs.map (fun p => (p.2.tgt 0, p.2.tgt 1, p.2.tgt 2, p.2.src 0, p.2.src 1)) := by decide +kernel

/-- the API theorem is not vacuous: a schema with a two-attribute key, a duplicate-free population with a
    matching, a null and a dangling reference satisfies every guard -/
def exSchema : List Stmt :=
  [ .cls "A" [("Id", .integer), ("B_Id", .uniqueId), ("B_Name", .string)],
    .cls "B" [("Id", .uniqueId), ("Name", .string)], .assoc exA, .uniq "B" "I1" ["Id", "Name"] ]
def exOrder : List (String × List Val) :=
  [ ("B", [.id 7, .str "n"]), ("B", [.id 8, .str "n"]), ("A", [.int 1, .id 7, .str "n"]),
    ("A", [.int 2, .id 0, .str "n"]), ("A", [.int 3, .id 9, .str "x"]) ]
example : (apiBuild exSchema exOrder).2 = exOrder.map (fun _ => Outcome.ok) := by decide +kernel
example : ((apiBuild exSchema exOrder).1.assocs.map (fun p => (p.2.tgt 0, p.2.tgt 1, p.2.tgt 2, p.2.src 0))) =
    [([0], [], [], [0])] := by decide +kernel

private theorem exSchema_schemaOnly : ∀ s ∈ exSchema, ∀ k ns vs, s ≠ .insert k ns vs := schemaOnly_of_all (by decide +kernel)
private theorem exSchema_accepted : accepted exSchema = true := by decide +kernel
private theorem exSchema_keys : ∀ a ∈ popAssocs exSchema,
    KeysOk a ∧ a.srcKeys.length = a.tgtKeys.length ∧ a.srcKeys ≠ [] ∧ a.srcKind ≠ a.tgtKind := by decide +kernel
-- no identifying attribute is referential here, so every read ends after at most two steps
private theorem exSchema_noChain : ∀ a ∈ popAssocs exSchema, ∀ t ∈ a.tgtKeys, t ∉ referential (popAssocs exSchema) a.tgtKind := by
  decide +kernel
private theorem exSchema_srcDeclared : ∀ a ∈ popAssocs exSchema, ∀ k ∈ a.srcKeys, k ∈ (attrsOf exSchema a.srcKind).map (·.1) := by
  decide +kernel
private theorem exSchema_resolves : ∀ n a, (popAssocs exSchema)[n]? = some a → ResolvesAt (popAssocs exSchema) n a :=
  resolves_of_plain _ (by decide +kernel) (by decide +kernel)

/-- ... and satisfies every guard of `api_equiv` (rows created class by class: `referredFirst_of_classwise`) -/
example : ApiGuards exSchema exOrder := by
  have hdecl : ∀ o ∈ exOrder, (findCls (popClasses exSchema) o.1).isSome = true ∧
      o.2.length = (attrsOf exSchema o.1).length := by decide +kernel
  obtain ⟨hrt, hres⟩ := reads_of_noChain exSchema exOrder exSchema_schemaOnly exSchema_accepted exSchema_keys hdecl exSchema_noChain
  exact ⟨exSchema_schemaOnly, exSchema_accepted, exSchema_keys, hrt, hres, exSchema_srcDeclared, exSchema_resolves, hdecl,
    referredFirst_of_positions _ _ (by decide +kernel), by decide +kernel, by decide +kernel⟩

/-- rows of the two classes interleaved: a topological order of the rows that is not class-wise -/
def exOrder2 : List (String × List Val) :=
  [ ("B", [.id 7, .str "n"]), ("A", [.int 1, .id 7, .str "n"]), ("B", [.id 8, .str "n"]), ("A", [.int 2, .id 8, .str "n"]) ]

example : ApiGuards exSchema exOrder2 := by
  have hdecl : ∀ o ∈ exOrder2, (findCls (popClasses exSchema) o.1).isSome = true ∧
      o.2.length = (attrsOf exSchema o.1).length := by decide +kernel
  obtain ⟨hrt, hres⟩ := reads_of_noChain exSchema exOrder2 exSchema_schemaOnly exSchema_accepted exSchema_keys hdecl exSchema_noChain
  -- a row of the referred class is created first and third; the referring row that exists then does not match
  exact ⟨exSchema_schemaOnly, exSchema_accepted, exSchema_keys, hrt, hres, exSchema_srcDeclared, exSchema_resolves, hdecl,
    referredFirst_of_positions _ _ (by decide +kernel), by decide +kernel, by decide +kernel⟩

/-- chained keys: C refers to B by B's identifier, which B itself holds as a reference to A; the rows are created
    A, B, C and every read of B's identifier ends at A's stored value -/
def chSchema : List Stmt :=
  [ .cls "A" [("Id", .integer)], .cls "B" [("Id", .integer), ("N", .string)], .cls "C" [("B_Id", .integer)],
    .assoc ⟨"R1", "B", false, true, ["Id"], "", "A", false, true, ["Id"], ""⟩,
    .assoc ⟨"R2", "C", true, true, ["B_Id"], "", "B", false, true, ["Id"], ""⟩ ]
def chOrder : List (String × List Val) :=
  [ ("A", [.int 1]), ("B", [.int 1, .str "b"]), ("B", [.int 2, .str "dangling"]), ("C", [.int 1]), ("C", [.int 2]) ]
/-- B(2)'s identifier is its reference to an A row that does not exist; the loader links
    C(2) to B(2), `new` (rows created referred-first, nothing raised) does not -/
theorem dangling_witness :
    inDomain (chSchema ++ insertsOf chOrder) = true ∧
    (apiBuild chSchema chOrder).2 = [.ok, .ok, .ok, .ok, .ok] ∧
    ((buildCore (chSchema ++ insertsOf chOrder)).assocs.map (fun p => (p.1.rel, p.2.tgt 0, p.2.tgt 1))) =
      [("R1", [0], []), ("R2", [0], [1])] ∧
    ((apiBuild chSchema chOrder).1.assocs.map (fun p => (p.1.rel, p.2.tgt 0, p.2.tgt 1))) =
      [("R1", [0], []), ("R2", [0], [])] := by decide +kernel

/-- the API route links C(1) to B(1) through the chained read; B(2)'s identifier is dangling (reads `None`), so
    C(2) finds nothing — and the loader links C(2) to B(2): exactly what the guard `resolved` excludes -/
example : ((apiBuild chSchema chOrder).1.assocs.map (fun p => (p.1.rel, p.2.tgt 0, p.2.tgt 1))) =
    [("R1", [0], []), ("R2", [0], [])] := dangling_witness.2.2.2
example : ((buildCore (chSchema ++ insertsOf chOrder)).assocs.map (fun p => (p.1.rel, p.2.tgt 0, p.2.tgt 1))) =
    [("R1", [0], []), ("R2", [0], [1])] := dangling_witness.2.2.1
example : readAttr (loaded chSchema chOrder) 3 "B" 0 "Id" = some (.int 1) ∧
    readAttr (loaded chSchema chOrder) 3 "B" 1 "Id" = some .none := by decide +kernel

def chOrderOk : List (String × List Val) := [ ("A", [.int 1]), ("B", [.int 1, .str "b"]), ("C", [.int 1]) ]

theorem ch_reads (k : String) (i : Nat) (x : String) (hi : i < (rawRows chSchema chOrderOk k).length) :
    (readAttr (loaded chSchema chOrderOk) (readBound chSchema) k i x).isSome = true :=
  readsTerminate_of_referential chSchema chOrderOk (by decide +kernel) (by decide +kernel) (by decide +kernel) k i x hi

def chR1 : AssocStmt := ⟨"R1", "B", false, true, ["Id"], "", "A", false, true, ["Id"], ""⟩
def chR2 : AssocStmt := ⟨"R2", "C", true, true, ["B_Id"], "", "B", false, true, ["Id"], ""⟩

/-- the guards of `api_equiv` / `clone_equiv` are satisfiable with a chained key: C refers to B by B's identifier,
    which B holds as a reference to A -/
example : ApiGuards chSchema chOrderOk :=
  ⟨schemaOnly_of_all (by decide +kernel), by decide +kernel, by decide +kernel, ch_reads,
    resolved_of_positions _ _ (by decide +kernel), by decide +kernel,
    resolves_of_plain _ (by decide +kernel) (by decide +kernel), by decide +kernel,
    referredFirst_of_positions _ _ (by decide +kernel), by decide +kernel, by decide +kernel⟩

example : positions exOrder = [("B", 0), ("B", 1), ("A", 0), ("A", 1), ("A", 2)] := by decide +kernel
example : (cloneBuild (exSchema ++ insertsOf exOrder) (positions exOrder)).2 = exOrder.map (fun _ => Outcome.ok) := by decide +kernel
/-- the dangling reference of the third A row reads `None` on the loaded instance, the matching one its value -/
example : readArgs exSchema exOrder "A" 2 = [.int 3, .none, .none] ∧ readArgs exSchema exOrder "A" 0 = [.int 1, .id 7, .str "n"] := by
  decide +kernel

example : exStmts.Perm exStmts.reverse := (List.reverse_perm _).symm
example : Loader.inputs [] [exStmts.take 3, [], exStmts.drop 3] = exStmts := by decide +kernel

/-! ### the batch relate of `MetaClass.new` on the API route, tied for ALL inputs (beyond the table checks above) -/

/-- `relate` of the API model as a WHOLE, for every model state, pair, rel id and phrase: the arguments the source
    hands to `_find_link` (`relateProg.findArgs`), the loop body `findBody` over the link definitions, the pair
    oriented as `_find_link` returned it (swapped or not), the guarded link calls with the undo, the outcome.  (The
    `deleted` guards of the program are vacuous here: this model has no `delete`.)  `linkDefs = [sd, td]` only names
    the two generated link definitions -/
theorem relate_whole_as_in_source (m : Model) (k1 : String) (i1 : Nat) (k2 : String) (i2 : Nat) (rel phrase : String)
    (sd td : Pyx.Gen.RelateShape.LinkDef) (hd : Pyx.Gen.RelateShape.linkDefs = [sd, td]) :
    relate m k1 i1 k2 i2 rel phrase =
      iRelateApi Pyx.Gen.RelateShape.findBody sd td Pyx.Gen.RelateShape.relateProg m k1 i1 k2 i2 rel phrase :=
  relate_eq_generated m k1 i1 k2 i2 rel phrase sd td hd

/-- the query loop of the batch relate, for every candidate list and state: each instance of the other class is tested
    by the translated `WhereEqual` loop and each hit is related AT ONCE (before the next instance is tested) by the
    interpreted `relate`, with the two instances in the order `newRelateArgs` read from the source (found instance
    first, new instance second); the first outcome other than ok ends the loop -/
theorem batch_query_as_in_source (sd td : Pyx.Gen.RelateShape.LinkDef) (hd : Pyx.Gen.RelateShape.linkDefs = [sd, td])
    (fuel : Nat) (kwargs : List (String × Val)) (okind kind : String) (i : Nat) (rel phrase : String) (js : List Nat)
    (m : Model) :
    relateQuery fuel kwargs okind kind i rel phrase js m =
      iRelateQuery Pyx.Gen.QueryShape.whereShape Pyx.Gen.RelateShape.newRelateArgs
        (iRelateApi Pyx.Gen.RelateShape.findBody sd td Pyx.Gen.RelateShape.relateProg)
        fuel kwargs okind kind i rel phrase js m :=
  relateQuery_eq_generated sd td hd fuel kwargs okind kind i rel phrase js m

/-- the links the batch relate iterates (`self.links.values()`), for every association list and class: per association
    the `add_link` calls of `define_association` in their order, a link belonging to the class it STARTS at, with the
    key map of that direction, the class it leads to and the phrase handed to the call -/
theorem batch_links_as_in_source (all : List AssocStmt) (kind : String) :
    linksOfKind all kind = iLinksOfKind Pyx.Gen.RelateShape.linkDefs all kind :=
  linksOfKind_eq_generated all kind

/-- the tail of `new`, for every model, class and argument list: once the row is stored, the phases read from the
    source decide — return at once when no referential value was given, THEN the batch relate over the interpreted
    link list (an outcome other than ok ends the call, the row stays stored), then the instance is returned -/
theorem new_tail_as_in_source (m : Model) (kind : String) (args : List Val) :
    apiNew m kind args =
      match findCls m.classes kind with
      | none => (m, .unmodelled)
      | some c =>
        let all := m.assocs.map (·.1)
        let refNames := referential all kind
        let given : Row := (c.attrs.zip args).map (fun p => (p.1.1, p.2))
        let refs := given.filter (fun p => refNames.contains p.1)
        iNewTail refs.isEmpty (relateLinks refs kind c.rows.length (iLinksOfKind Pyx.Gen.RelateShape.linkDefs all kind))
          Pyx.Gen.RelateShape.newPhases { m with classes := addRow m.classes kind (stripRow refNames given) } :=
  apiNew_eq_generated m kind args

/-! non-vacuity: the hypothesis is discharged by the generated list itself; on the cardinality example the interpreted
    `relate` links the first A row to the B row and refuses the second (RelateException, nothing left behind); with
    the arguments of the batch relate exchanged the query loop would look for a link in the wrong direction -/
example : ∃ sd td, Pyx.Gen.RelateShape.linkDefs = [sd, td] := ⟨_, _, rfl⟩
example : ∀ sd td, Pyx.Gen.RelateShape.linkDefs = [sd, td] →
    let m := (apiBuild cardSchema (cardOrder.take 2)).1
    (m.assocs.map (fun p => (p.2.src 0, p.2.tgt 0))) = [([0], [0])] ∧
    (iRelateApi Pyx.Gen.RelateShape.findBody sd td Pyx.Gen.RelateShape.relateProg m "B" 0 "A" 1 "R1" "").2 = .relateError ∧
    ((iRelateApi Pyx.Gen.RelateShape.findBody sd td Pyx.Gen.RelateShape.relateProg m "B" 0 "A" 1 "R1" "").1.assocs.map
      (fun p => (p.2.src 0, p.2.tgt 1))) = [([0], [])] ∧
    (iRelateQuery Pyx.Gen.QueryShape.whereShape Pyx.Gen.RelateShape.newRelateArgs
      (iRelateApi Pyx.Gen.RelateShape.findBody sd td Pyx.Gen.RelateShape.relateProg) (fuelOf m) [("Id", .int 1)] "B" "A" 1 "R1" ""
      [0] m).2 = .relateError ∧
    (iRelateQuery Pyx.Gen.QueryShape.whereShape Pyx.Gen.RelateShape.newRelateArgs
      (iRelateApi Pyx.Gen.RelateShape.findBody sd td Pyx.Gen.RelateShape.relateProg) (fuelOf m) [("Id", .int 2)] "B" "A" 1 "R1" ""
      [0] m).2 = .ok ∧
    iLinksOfKind Pyx.Gen.RelateShape.linkDefs (m.assocs.map (·.1)) "A" = [([("Id", "B_Id")], "B", "R1", "")] := by
  intro sd td hd
  simp only [Pyx.Gen.RelateShape.linkDefs, List.cons.injEq, and_true] at hd
  obtain ⟨rfl, rfl⟩ := hd
  decide +kernel

end PyxProps.C03
